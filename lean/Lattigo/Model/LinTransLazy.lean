/-
  C12 — the lazy-accumulation SCHEDULE of the ciphertext layer of

    circuits/common/lintrans/lintrans_evaluator.go : MultiplyByDiagMatrix, MultiplyByDiagMatrixBSGS
    core/rlwe/params.go                            : QiOverflowMargin, PiOverflowMargin

  What is modelled: the counters `cnt0`, `cnt1`, `i`, the margins `QiOverF`, `PiOverF`, the tests
  `cnt % QiOverF == QiOverF-1` / `cnt % QiOverF != 0` / `len(keys) % QiOverF == 0` that decide where
  `ringQ.Reduce` / `ringP.Reduce` are called, where `ModDownQPtoQNTT` is called, and — for ONE uint64
  word of an accumulator — the values it takes (`accLoop`): lazy Montgomery products are added with
  wrap-around at 2^64 and reduced modulo `q` at the reduce points.
  What is NOT modelled: the polynomials themselves (gadget products, automorphisms, ModDown).
  Go `int` arithmetic: `%` is the truncated remainder (`Int.tmod`), `>> 1` the floor division by 2.
  Core Lean only.
-/
namespace Lattigo.Model.LinTrans.Lazy

/-! ## margins -/

/-- `Parameters.QiOverflowMargin(level)` / `PiOverflowMargin(level)` on the moduli `qs = q_0 … q_level`:
    `int(2^64 / max qs)`, `-1` without moduli.  (The Go code divides in uint64, `math.MaxUint64 / max`, which is
    the same for every odd modulus above 2: `C12Gen.overflowMargin_gen`; the tie line `margin` compares.) -/
def overflowMargin (qs : List Nat) : Int :=
  if qs.isEmpty then -1 else ((2 ^ 64 / qs.foldl max 0 : Nat) : Int)

/-- `QiOverF := params.QiOverflowMargin(levelQ) >> 1` (BSGS; the naive algorithm does not halve) -/
def halved (m : Int) : Int := m / 2

/-- `cnt % M == M - 1` -/
def reduceNow (M : Int) (cnt : Nat) : Bool := Int.tmod (cnt : Int) M == M - 1

/-- `cnt % M != 0` (after a loop of the BSGS algorithm) -/
def reduceAtEnd (M : Int) (cnt : Nat) : Bool := Int.tmod (cnt : Int) M != 0

/-- `len(keys) % M == 0` (after the loop of the naive algorithm) -/
def reduceAtEndNaive (M : Int) (len : Nat) : Bool := Int.tmod (len : Int) M == 0

/-! ## the schedule as a sequence of events -/

inductive Ev where
  /-- `tmp = pt[j+i] ⊙ ct[i]` (`MulCoeffsMontgomeryLazy`): first baby step of a giant step -/
  | mulAssign (j i : Int)
  /-- `tmp += pt[j+i] ⊙ ct[i]` (`MulCoeffsMontgomeryLazyThenAddLazy`) -/
  | mulAdd (j i : Int)
  | reduceInnerQ
  | reduceInnerP
  /-- `ModDownQPtoQNTT` of the inner sum (giant step `j ≠ 0`, before its key switch) -/
  | modDownInner (j : Int)
  /-- the giant step's contribution assigns (`cnt0 = 0`) / is added lazily to the output in QP -/
  | outerAssign (j : Int)
  | outerAdd (j : Int)
  | reduceOuterQ
  | reduceOuterP
  /-- the two final `ModDownQPtoQNTT` (of `c0`, `c1`) -/
  | modDownFinal
  deriving DecidableEq, Repr

def evIf (b : Bool) (e : Ev) : List Ev := if b then [e] else []

/-- INNER LOOP of `MultiplyByDiagMatrixBSGS` for the giant step `j`, from counter value `cnt` -/
def innerLoop (MQ MP : Int) (j : Int) : Nat → List Int → List Ev
  | _, [] => []
  | cnt, i :: is =>
    [if cnt = 0 then Ev.mulAssign j i else Ev.mulAdd j i]
      ++ evIf (reduceNow MQ cnt) .reduceInnerQ ++ evIf (reduceNow MP cnt) .reduceInnerP
      ++ innerLoop MQ MP j (cnt + 1) is

/-- one giant step: inner loop, the reductions after it, ModDown + rotation (`j ≠ 0`), accumulation
    into the output, the reductions of the output -/
def giantStep (MQ MP : Int) (cnt0 : Nat) (ji : Int × List Int) : List Ev :=
  innerLoop MQ MP ji.1 0 ji.2
    ++ evIf (reduceAtEnd MQ ji.2.length) .reduceInnerQ ++ evIf (reduceAtEnd MP ji.2.length) .reduceInnerP
    ++ evIf (ji.1 != 0) (.modDownInner ji.1)
    ++ [if cnt0 = 0 then Ev.outerAssign ji.1 else Ev.outerAdd ji.1]
    ++ evIf (reduceNow MQ cnt0) .reduceOuterQ ++ evIf (reduceNow MP cnt0) .reduceOuterP

def outerLoop (MQ MP : Int) : Nat → List (Int × List Int) → List Ev
  | _, [] => []
  | cnt0, ji :: rest => giantStep MQ MP cnt0 ji ++ outerLoop MQ MP (cnt0 + 1) rest

/-- `MultiplyByDiagMatrixBSGS`: the events for the index `index` (giant step ↦ baby steps, as
    `BSGSIndex` returns it, keys sorted), `MQ = QiOverflowMargin(levelQ) >> 1`,
    `MP = PiOverflowMargin(levelP) >> 1`.  The zero matrix returns before any of this. -/
def bsgsSchedule (MQ MP : Int) (index : List (Int × List Int)) : List Ev :=
  if index.isEmpty then []
  else outerLoop MQ MP 0 index
    ++ evIf (reduceAtEnd MQ index.length) .reduceOuterQ ++ evIf (reduceAtEnd MP index.length) .reduceOuterP
    ++ [.modDownFinal]

/-- `MultiplyByDiagMatrix` (naive): `nkeys` non-zero rotations, every product is accumulated with
    `MulCoeffsMontgomeryThenAdd` (NOT lazy: the accumulator stays below `q`); `MQ`, `MP` not halved.
    Events: `outerAssign/outerAdd k` per rotation and the reductions. -/
def naiveLoop (MQ MP : Int) : Nat → List Int → List Ev
  | _, [] => []
  | i, k :: ks =>
    [if i = 0 then Ev.outerAssign k else Ev.outerAdd k]
      ++ evIf (reduceNow MQ i) .reduceOuterQ ++ evIf (reduceNow MP i) .reduceOuterP
      ++ naiveLoop MQ MP (i + 1) ks

def naiveSchedule (MQ MP : Int) (keys : List Int) : List Ev :=
  if keys.isEmpty then []
  else naiveLoop MQ MP 0 keys
    ++ evIf (reduceAtEndNaive MQ keys.length) .reduceOuterQ ++ evIf (reduceAtEndNaive MP keys.length) .reduceOuterP
    ++ [.modDownFinal]

/-! ## one accumulator word -/

/-- one uint64 word of an accumulator (a coefficient of the limb with modulus `q`) through a lazily
    accumulating loop with margin `M`: `ps` are the summands (outputs of `MRedLazy`, resp. reduced
    words for the outer loop), the first one assigns.  Returns the sums AS INTEGERS before the
    wrap-around (`raws`: no wrap-around happened iff each is below 2^64) and the final word. -/
def accLoop (q : Nat) (M : Int) : Nat → Nat → List Nat → List Nat × Nat
  | _, acc, [] => ([], acc)
  | cnt, acc, p :: ps =>
    let raw := if cnt = 0 then p else acc + p
    let a := raw % 2 ^ 64
    let a := if reduceNow M cnt then a % q else a          -- ring.Reduce (BRedAdd): a mod q
    let r := accLoop q M (cnt + 1) a ps
    (raw :: r.1, r.2)

/-- the loop followed by `if cnt % M != 0 { Reduce }` -/
def accRun (q : Nat) (M : Int) (ps : List Nat) : List Nat × Nat :=
  let r := accLoop q M 0 0 ps
  (r.1, if reduceAtEnd M ps.length then r.2 % q else r.2)

end Lattigo.Model.LinTrans.Lazy
