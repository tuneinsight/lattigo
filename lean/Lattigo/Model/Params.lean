/-
  C19 — executable model of lattigo's parameter validation, moduli generation, derived quantities and codecs.
  Hand-written and tied to the code by the correspondence (driver ops in `Driver/C19.lean`); the derived
  quantities of core/rlwe/params.go also exist REGENERATED from the source (`Gen/Params.lean`, `Props/C19Gen.lean`).

  Follows (read-only) /repo, with the fixes /verif/fixes/C19-1 … C19-13 applied:
    core/rlwe/params.go      NewParametersFromLiteral, NewParameters, checkSizeParams, CheckModuli (every modulus
                             < 2^61, Q ∪ P pairwise distinct), checkModuliLogSize, GenModuli (root order range-checked,
                             sizes below it rejected), the level-dependent accessors (QiOverflowMargin = 2^64-1 / max,
                             BaseRNS/BaseTwoDecompositionVectorSize, MaxBit, LogQi, …), GaloisElement*
    ring/ring.go, subring.go NewRingFromType / NewRingWithCustomNTT / generateNTTConstants (degree, non-empty, distinct,
                             prime, ≡ 1 mod NthRoot)
    ring/primes.go           NTTFriendlyPrimesGenerator: upstream / downstream / alternating, exhaustion = error
    schemes/bgv/params.go    NewParameters (plaintext modulus checks; the auxiliary basis skips the primes of Q)
    schemes/ckks/params.go   LogDefaultScale check, slots / depth
    circuits/ckks/bootstrapping  the residual-chain root-order check of NewParametersFromLiteral (`btpResidualCheck`)
    JSON field lists         ring distributions, rlwe.ParametersLiteral, bootstrapping.Parameters / ParametersLiteral
                             (`Key`, `JV`, `encode…` / `decode…`; nested documents with their own codec are opaque)
    spec/security_table.json `tableMax`, and the dump of every exported parameter set (`exportedSets`, generated)

  The model is parametric in an `Oracle` (primality and the two floating point "overlap with the neighbouring
  bit-size" tests of the generator); the driver instantiates it with a deterministic Miller–Rabin test and a
  bit-exact port of Go's `math.Log2` on IEEE doubles (`goOracle`); `exactOracle` reads the two tests exactly and is
  what the kernel can evaluate. Loops that are unbounded `for {}` in Go take a `fuel`; running out of fuel is the
  outcome `hang` (with `StopComplete` and `fuel ≥ 2^65` it cannot occur: `Proofs/ParamsTerm.lean`, `ParamsModuli.lean`).
  Not modelled: secret / error distributions beyond "weight 0" / "deviation 0" warnings (acceptance of a distribution
  is probed: `accepted_dist_usable`), the text codec of `Scale`, float formatting.
  Core Lean only.
-/
import Lattigo.Word

namespace Lattigo.Params
open Lattigo

/-! ## constants of core/rlwe/params.go -/

/-- `rlwe.MaxLogN` -/
def MaxLogN : Int := 20
/-- `rlwe.MinLogN` -/
def MinLogN : Int := 4
/-- `rlwe.MaxModuliSize` -/
def MaxModuliSize : Nat := 60
/-- `ring.MinimumRingDegreeForLoopUnrolledOperations` -/
def MinRingDegree : Nat := 8
/-- `ring.GaloisGen` -/
def GaloisGen : Nat := 5

/-! ## outcomes -/

/-- Outcome of a constructor: a value, an error class, a Go panic, or non-termination. -/
inductive Res (α : Type) where
  | ok (a : α)
  | err (cls : String)
  | panic
  | hang
  deriving Repr, DecidableEq

def Res.isOk {α} : Res α → Bool
  | .ok _ => true
  | _ => false

def Res.isErr {α} : Res α → Bool
  | .err _ => true
  | _ => false

/-- primality / float-comparison oracles of the generator -/
structure Oracle where
  /-- `ring.IsPrime` (Baillie–PSW through math/big) -/
  isPrime : Nat → Bool
  /-- `math.Log2(float64(c)) - Size >= 0.5` -/
  stopUp : Nat → Nat → Bool
  /-- `Size - math.Log2(float64(c)) >= 0.5` -/
  stopDown : Nat → Nat → Bool

/-! ## ring/primes.go : NTTFriendlyPrimesGenerator -/

structure Gen where
  size : Nat
  nthRoot : Nat
  next : Nat
  prev : Nat
  checkNext : Bool
  checkPrev : Bool
  deriving Repr, DecidableEq

/-- `NewNTTFriendlyPrimesGenerator(BitSize, NthRoot)` -/
def newGen (bitSize nthRoot : Nat) : Gen :=
  let base := u64add (u64shl 1 bitSize) 1
  { size := bitSize, nthRoot := nthRoot, next := base, prev := u64sub base nthRoot,
    checkNext := !(decide (base > W - 1 - nthRoot)) && !(decide (nthRoot = 0)),
    checkPrev := !(decide (base < nthRoot)) && !(decide (nthRoot = 0)) }

/-- loop of `NextUpstreamPrime`; `c` is the local `NextPrime`. A disabled direction returns the
    exhaustion error (before the fix `for { if false { … } }` never exited). -/
def upLoop (o : Oracle) (g : Gen) : Nat → Nat → Gen × Res Nat
  | 0, _ => (g, .hang)
  | fuel + 1, c =>
    if !g.checkNext then (g, .err "exhausted")
    else if o.stopUp g.size c then ({ g with checkNext := false }, .err "exhausted")
    else if o.isPrime c then ({ g with next := u64add c g.nthRoot }, .ok c)
    else upLoop o g fuel (u64add c g.nthRoot)

def nextUp (o : Oracle) (fuel : Nat) (g : Gen) : Gen × Res Nat := upLoop o g fuel g.next

/-- loop of `NextDownstreamPrime`; `c` is the local `PrevPrime`. -/
def downLoop (o : Oracle) (g : Gen) : Nat → Nat → Gen × Res Nat
  | 0, _ => (g, .hang)
  | fuel + 1, c =>
    if !g.checkPrev then (g, .err "exhausted")
    else if o.stopDown g.size c || decide (c < g.nthRoot) then
      ({ g with checkPrev := false }, .err "exhausted")
    else if o.isPrime c then ({ g with prev := u64sub c g.nthRoot }, .ok c)
    else downLoop o g fuel (u64sub c g.nthRoot)

def nextDown (o : Oracle) (fuel : Nat) (g : Gen) : Gen × Res Nat := downLoop o g fuel g.prev

/-- loop of `NextAlternatingPrime`; locals `np pp cn cp`. -/
def altLoop (o : Oracle) (g : Gen) : Nat → Nat → Nat → Bool → Bool → Gen × Res Nat
  | 0, _, _, _, _ => (g, .hang)
  | fuel + 1, np, pp, cn, cp =>
    if !(cn || cp) then (g, .err "exhausted")
    else
      -- upstream half
      let upStop := cn && (o.stopUp g.size np || decide (np > W - 1 - g.nthRoot))
      if cn && !upStop && o.isPrime np then
        ({ g with next := u64add np g.nthRoot, prev := pp, checkNext := cn, checkPrev := cp }, .ok np)
      else
        let cn1 := cn && !upStop
        let np1 := if cn1 then u64add np g.nthRoot else np
        -- downstream half
        let downStop := cp && (o.stopDown g.size pp || decide (pp < g.nthRoot))
        if cp && !downStop && o.isPrime pp then
          ({ g with next := np1, prev := u64sub pp g.nthRoot, checkNext := cn1, checkPrev := cp }, .ok pp)
        else
          let cp1 := cp && !downStop
          let pp1 := if cp1 then u64sub pp g.nthRoot else pp
          altLoop o g fuel np1 pp1 cn1 cp1

def nextAlt (o : Oracle) (fuel : Nat) (g : Gen) : Gen × Res Nat :=
  altLoop o g fuel g.next g.prev g.checkNext g.checkPrev

/-- `Next…Primes(k)`: the first failure aborts. -/
def nextPrimes (step : Gen → Gen × Res Nat) : Nat → Gen → Gen × Res (List Nat)
  | 0, g => (g, .ok [])
  | k + 1, g =>
    match step g with
    | (g', .ok p) =>
      match nextPrimes step k g' with
      | (g'', .ok ps) => (g'', .ok (p :: ps))
      | (g'', .err c) => (g'', .err c)
      | (g'', .panic) => (g'', .panic)
      | (g'', .hang) => (g'', .hang)
    | (g', .err c) => (g', .err c)
    | (g', .panic) => (g', .panic)
    | (g', .hang) => (g', .hang)

/-- direction: 0 upstream, 1 downstream, 2 alternating -/
def genPrimes (o : Oracle) (fuel : Nat) (dir : Nat) (bitSize nthRoot k : Nat) : Res (List Nat) :=
  let step := if dir = 0 then nextUp o fuel else if dir = 1 then nextDown o fuel else nextAlt o fuel
  (nextPrimes step k (newGen bitSize nthRoot)).2

/-! ## core/rlwe/params.go : size checks -/

/-- `checkSizeParams` -/
def checkSizeParams (logN : Int) : Option String :=
  if logN > MaxLogN then some "logNmax"
  else if logN < MinLogN then some "logNmin"
  else none

/-- first index of a list satisfying `bad` -/
def firstIdx {α} (bad : α → Bool) : List α → Nat → Option Nat
  | [], _ => none
  | x :: xs, i => if bad x then some i else firstIdx bad xs (i + 1)

/-- `bits.Len64(x) > MaxModuliSize+1`: only moduli below `2^61` pass (`8x ≤ 2^64`) -/
def tooManyBits (x : Nat) : Bool := decide (len64 x > MaxModuliSize + 1)

def allDistinct : List Nat → Bool
  | [] => true
  | x :: xs => !xs.contains x && allDistinct xs

/-- `CheckModuli(q, p)`: sizes and primality of Q, then of P, then `AllDistinct(Q ∪ P)`. -/
def checkModuli (o : Oracle) (q p : List Nat) : Option String :=
  match firstIdx tooManyBits q 0 with
  | some i => some s!"qBits:{i}"
  | none =>
  match firstIdx (fun x => !o.isPrime x) q 0 with
  | some i => some s!"qPrime:{i}"
  | none =>
  match firstIdx tooManyBits p 0 with
  | some i => some s!"pBits:{i}"
  | none =>
  match firstIdx (fun x => !o.isPrime x) p 0 with
  | some i => some s!"pPrime:{i}"
  | none => if allDistinct (q ++ p) then none else some "qpNotDistinct"

/-- `checkModuliLogSize` -/
def checkModuliLogSize (logQ logP : List Int) : Option String :=
  match firstIdx (fun (s : Int) => decide (s ≤ 0) || decide (s > (MaxModuliSize : Int))) logQ 0 with
  | some i => some s!"logQsize:{i}"
  | none =>
  match firstIdx (fun (s : Int) => decide (s ≤ 0) || decide (s > (MaxModuliSize : Int) + 1)) logP 0 with
  | some i => some s!"logPsize:{i}"
  | none => none

/-- sizes below the root order are rejected (`2^size ± k·NthRoot + 1` is `1 mod NthRoot` only if
    `NthRoot ∣ 2^size`) -/
def checkSizesAboveRoot (logNthRoot : Int) (logQ logP : List Int) : Option String :=
  match firstIdx (fun (s : Int) => decide (s < logNthRoot)) logQ 0 with
  | some i => some s!"logQbelowRoot:{i}"
  | none =>
  match firstIdx (fun (s : Int) => decide (s < logNthRoot)) logP 0 with
  | some i => some s!"logPbelowRoot:{i}"
  | none => none

/-! ## GenModuli -/

/-- primes for one bit size: downstream only for 61, alternating otherwise (params.go:838) -/
def genForSize (o : Oracle) (fuel : Nat) (nthRoot : Nat) (bitSize count : Nat) : Res (List Nat) :=
  genPrimes o fuel (if bitSize = 61 then 1 else 2) bitSize nthRoot count

/-- generate for each distinct size (first-occurrence order; Go iterates a map, the order only
    matters for *which* failure is reported when several sizes fail differently). -/
def genAll (o : Oracle) (fuel : Nat) (nthRoot : Nat) (req : List Nat) :
    List Nat → Res (List (Nat × List Nat))
  | [] => .ok []
  | s :: rest =>
    match genForSize o fuel nthRoot s (req.count s) with
    | .ok ps =>
      match genAll o fuel nthRoot req rest with
      | .ok tbl => .ok ((s, ps) :: tbl)
      | .err c => .err c
      | .panic => .panic
      | .hang => .hang
    | .err c => .err c
    | .panic => .panic
    | .hang => .hang

def lookupSize (tbl : List (Nat × List Nat)) (s : Nat) : List Nat :=
  match tbl.find? (fun e => e.1 == s) with
  | some e => e.2
  | none => []

/-- the `i`-th request of size `s` receives the `(number of earlier requests of size s)`-th prime -/
def assign (tbl : List (Nat × List Nat)) : List Nat → List Nat → List Nat
  | _, [] => []
  | seen, s :: rest => (lookupSize tbl s).getD (seen.count s) 0 :: assign tbl (s :: seen) rest

/-- `GenModuli(LogNthRoot, logQ, logP)`: the root order must lie in `[MinLogN+1, MaxLogN+2]`, the
    sizes in `]0, 60]` (`]0, 61]` for P) and not below the root order. -/
def genModuli (o : Oracle) (fuel : Nat) (logNthRoot : Int) (logQ logP : List Int) :
    Res (List Nat × List Nat) :=
  if logNthRoot < MinLogN + 1 || logNthRoot > MaxLogN + 2 then .err "logNthRoot"
  else
  match checkModuliLogSize logQ logP with
  | some c => .err c
  | none =>
  match checkSizesAboveRoot logNthRoot logQ logP with
  | some c => .err c
  | none =>
    let rq := logQ.map Int.toNat
    let rp := logP.map Int.toNat
    let req := rq ++ rp
    let nthRoot := 2 ^ logNthRoot.toNat
    match genAll o fuel nthRoot req req.eraseDups with
    | .ok tbl =>
      let all := assign tbl [] req
      .ok (all.take rq.length, all.drop rq.length)
    | .err _ => .err "genExhausted"
    | .panic => .panic
    | .hang => .hang

/-! ## ring construction checks (ring/ring.go:278, ring/subring.go:107) -/

def isPow2 (n : Nat) : Bool := decide (n &&& (n - 1) = 0)

/-- per-modulus check of `SubRing.generateNTTConstants` -/
def subRingCheck (o : Oracle) (n nthRoot : Nat) (m : Nat) : Option String :=
  if n = 0 || m = 0 then some "missing"
  else if !o.isPrime m then some s!"notPrime:{m}"
  else if m &&& (nthRoot - 1) != 1 then some s!"notNTT:{m}"
  else none

def firstSome {α β} (f : α → Option β) : List α → Option β
  | [] => none
  | x :: xs => match f x with
    | some b => some b
    | none => firstSome f xs

/-- `NewRingWithCustomNTT(N, Moduli, ntt, NthRoot)`: `none` = ring built. -/
def newRing (o : Oracle) (n : Nat) (moduli : List Nat) (nthRoot : Nat) : Option String :=
  if n < MinRingDegree || (!isPow2 n && n != 0) then some "ringDegree"
  else if moduli.isEmpty then some "emptyChain"
  else if !allDistinct moduli then some "notDistinct"
  else firstSome (subRingCheck o n nthRoot) moduli

/-- `NewRingFromType`: ring type 0 = Standard (2N-th root), 1 = ConjugateInvariant (4N-th root). -/
def newRingFromType (o : Oracle) (n : Nat) (moduli : List Nat) (ringType : Nat) : Option String :=
  if ringType = 0 then newRing o n moduli (2 * n)
  else if ringType = 1 then newRing o n moduli (4 * n)
  else some "ringType"

/-! ## NewParameters / NewParametersFromLiteral -/

/-- the accepted parameter object (what the accessors read) -/
structure Accepted where
  logN : Nat
  q : List Nat
  p : List Nat
  ringType : Nat
  deriving Repr, DecidableEq

def Accepted.n (a : Accepted) : Nat := 2 ^ a.logN
/-- `Parameters.NthRoot()` = `RingQ().NthRoot()` -/
def Accepted.nthRoot (a : Accepted) : Nat := if a.ringType = 0 then 2 * a.n else 4 * a.n

/-- `NewParameters(logn, q, p, xs, xe, ringType, …)`.
    `xsWeight0`: the secret distribution has expected Hamming weight 0; `xeStd0`: error std ≤ 0.
    Both are *warnings* returned as a non-nil error together with valid parameters. -/
def newParameters (o : Oracle) (logN : Int) (q p : List Nat) (ringType : Nat)
    (xsWeight0 xeStd0 : Bool) : Res Accepted :=
  match checkSizeParams logN with
  | some c => .err c
  | none =>
  match checkModuli o q p with
  | some c => .err c
  | none =>
    let n := 2 ^ logN.toNat
    match newRingFromType o n q ringType with
    | some c => .err s!"ringQ:{c}"
    | none =>
    match (if p.isEmpty then none else newRingFromType o n p ringType) with
    | some c => .err s!"ringP:{c}"
    | none =>
      if xsWeight0 && xeStd0 then .err "warnXsXe"
      else if xsWeight0 then .err "warnXs"
      else if xeStd0 then .err "warnXe"
      else .ok { logN := logN.toNat, q := q, p := p, ringType := ringType }

/-- `rlwe.ParametersLiteral` (fields that influence acceptance). `none` = nil slice. -/
structure Literal where
  logN : Int
  logNthRoot : Int := 0
  q : Option (List Nat) := none
  p : Option (List Nat) := none
  logQ : Option (List Int) := none
  logP : Option (List Int) := none
  ringType : Nat := 0
  xsWeight0 : Bool := false
  xeStd0 : Bool := false
  deriving Repr

/-- Go's `nil`-if-empty convention of `append` on a nil slice -/
def nilIfEmpty (l : List Nat) : Option (List Nat) := if l.isEmpty then none else some l

/-- `NewParametersFromLiteral` -/
def newParametersFromLiteral (o : Oracle) (fuel : Nat) (lit : Literal) : Res Accepted :=
  if lit.q.isNone && lit.logQ.isNone then .err "noQ"
  else if lit.q.isSome && lit.logQ.isSome then .err "bothQ"
  else if lit.p.isSome && lit.logP.isSome then .err "bothP"
  else
    let gen : Res (Option (List Nat) × Option (List Nat)) :=
      if lit.logQ.isSome || lit.logP.isSome then
        match checkSizeParams lit.logN with
        | some c => .err c
        | none =>
        if lit.ringType = 0 || lit.ringType = 1 then
          let l := max (lit.logN + (if lit.ringType = 0 then 1 else 2)) lit.logNthRoot
          match genModuli o fuel l (lit.logQ.getD []) (lit.logP.getD []) with
          | .ok (q, p) => .ok (nilIfEmpty q, nilIfEmpty p)
          | .err c => .err s!"gen:{c}"
          | .panic => .panic
          | .hang => .hang
        else .ok (none, none)
      else .ok (none, none)
    match gen with
    | .err c => .err c
    | .panic => .panic
    | .hang => .hang
    | .ok (gq, gp) =>
      let q := (gq.orElse fun _ => lit.q).getD []
      let p := (gp.orElse fun _ => lit.p).getD []
      newParameters o lit.logN q p lit.ringType lit.xsWeight0 lit.xeStd0

/-- `ckks.NewParametersFromLiteral`: the rlwe checks, then `LogDefaultScale > 128` is rejected
    (the error text also says "or < 0", which is not checked: negative values are accepted). -/
def ckksNewFromLiteral (o : Oracle) (fuel : Nat) (lit : Literal) (logDefaultScale : Int) : Res Accepted :=
  match newParametersFromLiteral o fuel lit with
  | .ok a => if logDefaultScale > 128 then .err "logDefaultScale" else .ok a
  | r => r

/-! ## derived quantities -/

def Accepted.maxLevel (a : Accepted) : Int := (a.q.length : Int) - 1
def Accepted.maxLevelP (a : Accepted) : Int := (a.p.length : Int) - 1
/-- `LogNthRoot() = bits.Len64(NthRoot-1)` -/
def Accepted.logNthRoot (a : Accepted) : Nat := len64 (a.nthRoot - 1)
def Accepted.qProd (a : Accepted) : Nat := a.q.foldl (· * ·) 1
def Accepted.pProd (a : Accepted) : Nat := a.p.foldl (· * ·) 1

/-- modular exponentiation (definition side of `ring.ModExp`) -/
def powMod (x e m : Nat) : Nat := (x ^ e) % m

/-- fast square-and-multiply, used by the executable oracles -/
def powModFast (x e m : Nat) : Nat :=
  let rec go : Nat → Nat → Nat → Nat → Nat
    | 0, _, _, acc => acc
    | fuel + 1, b, e, acc =>
      if e = 0 then acc
      else go fuel (b * b % m) (e / 2) (if e % 2 = 1 then acc * b % m else acc)
  go (e.log2 + 2) (x % m) e (1 % m)

/-- `GaloisElement(k) = GaloisGen^(k mod NthRoot) mod NthRoot` (`uint64(k) & (NthRoot-1)`) -/
def Accepted.galoisElement (a : Accepted) (k : Int) : Nat :=
  powModFast GaloisGen (k % (a.nthRoot : Int)).toNat a.nthRoot

/-- `ModInvGaloisElement` -/
def Accepted.modInvGaloisElement (a : Accepted) (g : Nat) : Nat :=
  powModFast g (a.nthRoot - 1) a.nthRoot

/-- `GaloisElementOrderTwoOrthogonalSubgroup` (Standard ring only) -/
def Accepted.galoisConj (a : Accepted) : Nat := a.nthRoot - 1

def insertSorted (x : Int) : List Int → List Int
  | [] => [x]
  | y :: ys => if x < y then x :: y :: ys else if x = y then y :: ys else y :: insertSorted x ys

/-- rotation set of `GaloisElementsForInnerSum(batch, n)` (a Go map: a set), sorted -/
def innerSumRotations (batch n : Int) : List Int :=
  let rec go : Nat → Int → List Int → List Int
    | 0, _, acc => acc
    | fuel + 1, i, acc =>
      if i < n then
        let k1 := i * batch
        let k2 := (n - Int.ofNat (n.toNat &&& ((2 * i).toNat - 1))) * batch
        go fuel (2 * i) (insertSorted k2 (insertSorted k1 acc))
      else acc
  go 64 1 []

def sortNat (l : List Nat) : List Nat :=
  l.foldl (fun acc x =>
    let rec ins : List Nat → List Nat
      | [] => [x]
      | y :: ys => if x ≤ y then x :: y :: ys else y :: ins ys
    ins acc) []

/-- `GaloisElementsForInnerSum`, as a sorted list (the Go order is a map order) -/
def Accepted.galoisInnerSum (a : Accepted) (batch n : Int) : List Nat :=
  sortNat ((innerSumRotations batch n).map a.galoisElement)

/-- `GaloisElementsForTrace(logN')` for the Standard ring -/
def Accepted.galoisTrace (a : Accepted) (l : Nat) : List Nat :=
  let rots := (List.range (a.logN - 1 - l)).map fun j => a.galoisElement (2 ^ (l + j) : Nat)
  if l = 0 then rots ++ [a.galoisConj] else rots

/-! ### level-dependent accessors of core/rlwe/params.go -/

def maxList (l : List Nat) : Nat := l.foldl max 0

/-- `floor(2^64 / max(l))`: how many residues modulo the moduli of `l` can be added in a `uint64`
    before it can wrap. The code computes `math.MaxUint64 / max`, which is the same for a modulus
    that does not divide `2^64` (every odd modulus > 1). -/
def overflowMargin (l : List Nat) : Nat := (W - 1) / maxList l

/-- `QiOverflowMargin(level)`: margin of `Q[:level+1]` (the maximum, not the prime of the level) -/
def Accepted.qiOverflowMargin (a : Accepted) (level : Nat) : Int :=
  if a.q.isEmpty then -1 else (overflowMargin (a.q.take (level + 1)) : Int)

/-- `PiOverflowMargin(level)`; `-1` without P or at level `-1` -/
def Accepted.piOverflowMargin (a : Accepted) (level : Int) : Int :=
  if a.p.isEmpty || level < 0 then -1 else (overflowMargin (a.p.take (level.toNat + 1)) : Int)

/-- `BaseRNSDecompositionVectorSize(levelQ, levelP) = ceil((levelQ+1)/(levelP+1))`, `levelQ+1` without P -/
def baseRNSDecompositionVectorSize (levelQ : Nat) (levelP : Int) : Nat :=
  if levelP = -1 then levelQ + 1 else (levelQ + levelP.toNat + 1) / (levelP.toNat + 1)

/-- `BaseTwoDecompositionVectorSize(levelQ, levelP, w)`: digits of base `2^w` per prime of Q,
    `ceil(bitlen(q_i)/w)`; all 1 when `w = 0` or a P of two or more primes is in use. -/
def Accepted.baseTwoDecompositionVectorSize (a : Accepted) (levelP : Int) (w : Nat) : List Nat :=
  if w = 0 || levelP > 0 then a.q.map (fun _ => 1) else a.q.map (fun q => (len64 q + w - 1) / w)

/-- `MaxBit(levelQ, levelP)` -/
def Accepted.maxBit (a : Accepted) (levelQ : Nat) (levelP : Int) : Nat :=
  let mq := maxList ((a.q.take (levelQ + 1)).map len64)
  if a.p.isEmpty || levelP < 0 then mq else max mq (maxList ((a.p.take (levelP.toNat + 1)).map len64))

/-- `round(log2 q)` in exact arithmetic (`LogQi`, `LogPi`): the `S` with `2^(2S-1) < q² < 2^(2S+1)` -/
def roundLog2 (q : Nat) : Nat :=
  let b := len64 q
  if q * q > 2 ^ (2 * b - 1) then b else b - 1

/-- `LogQLvl(level)`: bit length of `Q[0]·…·Q[level]` (ckks) -/
def Accepted.logQLvl (a : Accepted) (level : Nat) : Nat := len64 ((a.q.take (level + 1)).foldl (· * ·) 1)

/-! ### CKKS -/
def Accepted.ckksMaxSlots (a : Accepted) : Nat := if a.ringType = 0 then a.n / 2 else a.n
def Accepted.ckksLogMaxSlots (a : Accepted) : Nat := if a.ringType = 0 then a.logN - 1 else a.logN
/-- `LevelsConsumedPerRescaling` -/
def levelsPerRescale (logDefaultScale : Int) : Int := if logDefaultScale ≤ 64 then 1 else 2
def Accepted.ckksMaxDepth (a : Accepted) (logDefaultScale : Int) : Int :=
  Int.tdiv a.maxLevel (levelsPerRescale logDefaultScale)

/-! ## schemes/bgv/params.go : NewParameters -/

/-- the loop `for order = 1<<bits.Len64(t); t&(order-1) != 1 && order != 0; order >>= 1 {}` -/
def orderLoop (t : Nat) : Nat → Nat → Nat
  | 0, order => order
  | fuel + 1, order =>
    if (t &&& u64sub order 1) != 1 && order != 0 then orderLoop t fuel (order / 2) else order

def cyclotomicOrder (t : Nat) : Nat := orderLoop t 66 (u64shl 1 (len64 t))

/-- the auxiliary basis: the next `need` downstream primes that are not in `avoid` -/
def qmulLoop (o : Oracle) (fuel : Nat) (avoid : List Nat) : Nat → Nat → Gen → Res (List Nat)
  | 0, _, _ => .hang
  | outer + 1, need, g =>
    if need = 0 then .ok []
    else
      match nextDown o fuel g with
      | (g', .ok p) =>
        if avoid.contains p then qmulLoop o fuel avoid outer need g'
        else
          match qmulLoop o fuel avoid outer (need - 1) g' with
          | .ok ps => .ok (p :: ps)
          | r => r
      | (_, .err c) => .err c
      | (_, .panic) => .panic
      | (_, .hang) => .hang

structure BgvAccepted where
  /-- degree of the plaintext ring `ringT` -/
  nT : Nat
  /-- moduli of the auxiliary basis `ringQMul` -/
  qMul : List Nat
  deriving Repr, DecidableEq

/-- `bgv.NewParameters(rlweParams, t)` for accepted `rlweParams` with `NTTFlag = true`. -/
def bgvNew (o : Oracle) (fuel : Nat) (a : Accepted) (t : Nat) : Res BgvAccepted :=
  if t = 0 then .err "t0"
  else if a.q.contains t then .err "tInQ"
  else if t > a.q.headD 0 then .err "tBig"
  else
    let nb := (len64 a.qProd + a.logN + 60) / 61       -- ceil((BitLen(Q)+LogN)/61.0)
    match qmulLoop o fuel a.q (nb + a.q.length + 1) nb (newGen 61 a.nthRoot) with
    | .err _ => .err "genExhausted"
    | .panic => .panic
    | .hang => .hang
    | .ok primes =>
      match newRing o a.n primes (2 * a.n) with
      | some c => .err s!"ringQMul:{c}"
      | none =>
        let order := cyclotomicOrder t
        if order < 16 then .err "order"
        else
          let nT := min a.n (order / 2)
          match newRing o nT [t] (2 * nT) with
          | some c => .err s!"ringT:{c}"
          | none => .ok { nT := nT, qMul := primes }

def BgvAccepted.maxSlots (b : BgvAccepted) : Nat := 2 * (b.nT / 2)
def BgvAccepted.logMaxSlots (b : BgvAccepted) : Nat := 1 + (Nat.log2 b.nT - 1)

/-! ## security table (mirror of /verif/spec/security_table.json) -/

/-- secret kind: `0` = dense ternary (P = 2/3, or fixed weight ≥ N/2), otherwise the Hamming weight -/
def secretKind (logN : Nat) (xsH : Nat) : Nat := if xsH = 0 || 2 * xsH ≥ 2 ^ logN then 0 else xsH

/-- largest tabulated `log2(QP)` for 128-bit security, `none` when the table has no row. -/
def tableMax (logN kind : Nat) : Option Nat :=
  if kind = 0 then
    match logN with
    | 10 => some 27
    | 11 => some 54
    | 12 => some 109
    | 13 => some 218
    | 14 => some 438
    | 15 => some 881
    | 16 => some 1793
    | _ => none
  else if kind = 192 then
    match logN with
    | 15 => some 768
    | 16 => some 1550
    | _ => none
  else if kind = 32 then
    match logN with
    | 16 => some 115
    | _ => none
  else none

def prodList (l : List Nat) : Nat := l.foldl (· * ·) 1

/-- Convention of `exported_within_table`: a set is within the table iff `log2(Q·P) < T + 1/2`,
    i.e. `(Q·P)² < 2^(2T+1)` (the tabulated integers are rounded estimator outputs and the library
    itself sizes moduli by `round(log2 ·)`). -/
def withinTable (logN xsH : Nat) (q p : List Nat) : Bool :=
  match tableMax logN (secretKind logN xsH) with
  | some t => decide ((prodList q * prodList p) ^ 2 < 2 ^ (2 * t + 1))
  | none => false

/-- The strict reading `Q·P < 2^T` (`bitlen(QP) ≤ T`), reported next to it. -/
def withinTableStrict (logN xsH : Nat) (q p : List Nat) : Bool :=
  match tableMax logN (secretKind logN xsH) with
  | some t => decide (prodList q * prodList p < 2 ^ t)
  | none => false

/-! ## exported example / default literals (dump of the real library, after GenModuli) -/

/-- one exported parameter set as dumped by the harness (`exported` lines): name, ring degree,
    Hamming weight of the secret protecting it (0 = the default P=2/3 ternary), moduli. -/
structure ExportedSet where
  name : String
  logN : Nat
  xsH : Nat
  /-- part of `exported_within_table` (false for the informational `…:ephemeral` rows) -/
  checked : Bool
  /-- recorded finding: this set is above the table -/
  above : Bool
  q : List Nat
  p : List Nat
  deriving Repr

def ExportedSet.same (s : ExportedSet) (name : String) (logN xsH : Nat) (q p : List Nat) : Bool :=
  s.name == name && s.logN == logN && s.xsH == xsH && s.q == q && s.p == p

def ExportedSet.within (s : ExportedSet) : Bool := withinTable s.logN s.xsH s.q s.p

/- Regenerate with `python3 c19_exported.py o/ops.txt Lattigo/Model/Params.lean` (script text in the
   header of harness/c19.go). The `exported` tie lines answer `known=1` only when the real code
   still produces exactly these sets, so a change of the library's literals breaks the tie. -/
-- BEGIN GENERATED exportedSets
def exportedSets : List ExportedSet := [
  { name := "rlwe.ExampleParametersLogN14LogQP438", logN := 14, xsH := 0, checked := true, above := false,
    q := [35184376545281, 34359214081, 34362359809, 34357116929, 34356068353],
    p := [1125899902124033, 1125899915231233] },
  { name := "bgv.ExampleParameters128BitLogN14LogQP438", logN := 14, xsH := 0, checked := true, above := false,
    q := [1099511922689, 536903681, 536641537, 537133057, 536608769, 536543233, 537296897, 536215553, 537591809, 537722881, 535920641, 537886721],
    p := [1099512938497, 549755486209] },
  { name := "ckks.ExampleParameters128BitLogN14LogQP438", logN := 14, xsH := 0, checked := true, above := false,
    q := [36028797019488257, 35184372744193, 35184373006337, 35184373989377, 35184368877569, 35184368025601, 35184376545281],
    p := [36028797020209153, 36028797017456641] },
  { name := "examples.BGVParamsN12QP109", logN := 12, xsH := 0, checked := true, above := false,
    q := [549755731969, 2147565569],
    p := [549755904001] },
  { name := "examples.BGVParamsN13QP218", logN := 13, xsH := 0, checked := true, above := false,
    q := [4398046150657, 8589852673, 8590163969, 8590245889, 8589475841],
    p := [17592186028033] },
  { name := "examples.BGVParamsN14QP438", logN := 14, xsH := 0, checked := true, above := false,
    q := [17592186175489, 17179967489, 17179672577, 17180262401, 17180295169, 17180393473, 17179410433, 17180557313, 17180950529, 17178525697],
    p := [17592186273793, 17592186372097] },
  { name := "examples.BGVParamsN15QP880", logN := 15, xsH := 0, checked := true, above := false,
    q := [140737488486401, 17179672577, 17180262401, 17179410433, 17180393473, 17181442049, 17183014913, 17176854529, 17183408129, 17183932417, 17175674881, 17174691841, 17185570817, 17186357249, 17173774337, 17186947073, 17172791297, 17187667969, 17172594689, 17188126721],
    p := [140737487306753, 140737486716929, 140737486520321, 140737485864961] },
  { name := "examples.BGVScaleInvariantParamsN12QP109", logN := 12, xsH := 0, checked := true, above := false,
    q := [549755731969, 549755904001],
    p := [2147565569] },
  { name := "examples.BGVScaleInvariantParamsN13QP218", logN := 13, xsH := 0, checked := true, above := false,
    q := [36028797018652673, 18014398508400641, 18014398510645249],
    p := [36028797019389953] },
  { name := "examples.BGVScaleInvariantParamsN14QP438", logN := 14, xsH := 0, checked := true, above := false,
    q := [36028797019389953, 36028797019488257, 36028797020209153, 18014398508400641, 18014398510661633, 18014398508138497],
    p := [72057594038321153, 36028797017456641] },
  { name := "examples.BGVScaleInvariantParamsN15QP880", logN := 15, xsH := 0, checked := true, above := false,
    q := [1152921504606584833, 1152921504608747521, 576460752301785089, 288230376154267649, 288230376155185153, 288230376155250689, 288230376147582977, 288230376147386369, 288230376147320833, 288230376156758017, 288230376157413377, 288230376158396417],
    p := [1152921504614055937, 1152921504598720513, 1152921504615628801] },
  { name := "examples.CKKSComplexParamsN12QP109", logN := 12, xsH := 0, checked := true, above := false,
    q := [274877816833, 4294991873],
    p := [549755731969] },
  { name := "examples.CKKSComplexParamsN13QP218", logN := 13, xsH := 0, checked := true, above := false,
    q := [8589852673, 1073692673, 1073643521, 1073872897, 1073971201, 1073479681],
    p := [34359754753] },
  { name := "examples.CKKSComplexParamsN14QP438", logN := 14, xsH := 0, checked := true, above := false,
    q := [35184372121601, 17179967489, 17179672577, 17180262401, 17180295169, 17180393473, 17179410433, 17180557313, 17180950529, 17178525697],
    p := [17592186175489, 8796092858369] },
  { name := "examples.CKKSComplexParamsN15QP881", logN := 15, xsH := 0, checked := true, above := false,
    q := [2251799813554177, 1099512938497, 1099510054913, 1099514314753, 1099507695617, 1099515691009, 1099516280833, 1099516542977, 1099516870657, 1099506515969, 1099518246913, 1099504549889, 1099503894529, 1099503370241, 1099520606209, 1099502714881, 1099502518273, 1099521458177],
    p := [1125899908022273, 1125899908612097, 1125899904679937] },
  { name := "examples.CKKSComplexParamsPN16QP1761", logN := 16, xsH := 0, checked := true, above := false,
    q := [72057594038321153, 35184372744193, 35184373006337, 35184368025601, 35184376545281, 35184377331713, 35184378511361, 35184379035649, 35184365273089, 35184380870657, 35184363569153, 35184382967809, 35184383229953, 35184383754241, 35184385196033, 35184358850561, 35184386899969, 35184388734977, 35184355704833, 35184353083393, 35184351772673, 35184394240001, 35184350330881, 35184398958593, 35184399351809, 35184346267649, 35184345088001, 35184343908353, 35184404070401, 35184339320833, 35184337354753, 35184410361857, 35184411279361, 35184412065793],
    p := [36028797019488257, 36028797023420417, 36028797014376449, 36028797024206849] },
  { name := "examples.CKKSRealParamsN12QP109", logN := 12, xsH := 0, checked := true, above := false,
    q := [274878136321, 4295049217],
    p := [549755731969] },
  { name := "examples.CKKSRealParamsN13QP218", logN := 13, xsH := 0, checked := true, above := false,
    q := [8590163969, 1073643521, 1073872897, 1073971201, 1073479681, 1074266113],
    p := [34359771137] },
  { name := "examples.CKKSRealParamsN14QP438", logN := 14, xsH := 0, checked := true, above := false,
    q := [70368744570881, 17179672577, 17180262401, 17179410433, 17180393473, 17181442049, 17183014913, 17176854529, 17183408129, 17183932417],
    p := [8796093349889, 8796090597377] },
  { name := "examples.CKKSRealParamsN15QP881", logN := 15, xsH := 0, checked := true, above := false,
    q := [2251799813554177, 1099512938497, 1099510054913, 1099507695617, 1099515691009, 1099516870657, 1099506515969, 1099504549889, 1099503894529, 1099503370241, 1099502714881, 1099521458177, 1099522375681, 1099500617729, 1099523555329, 1099499569153, 1099499175937, 1099525128193],
    p := [1125899908022273, 1125899903827969, 1125899911168001] },
  { name := "examples.CKKSRealParamsPN16QP1761", logN := 16, xsH := 0, checked := true, above := false,
    q := [72057594036879361, 35184376545281, 35184377331713, 35184365273089, 35184385196033, 35184350330881, 35184399351809, 35184345088001, 35184404070401, 35184339320833, 35184410361857, 35184414031873, 35184415080449, 35184415866881, 35184330145793, 35184329097217, 35184423731201, 35184320708609, 35184318087169, 35184316776449, 35184430022657, 35184430809089, 35184314941441, 35184436314113, 35184440246273, 35184307077121, 35184440770561, 35184306290689, 35184446537729, 35184301047809, 35184297639937, 35184452567041, 35184454402049, 35184454926337],
    p := [36028797019488257, 36028797023420417, 36028797024206849, 36028797005856769] },
  { name := "bootstrapping.N16QP1546H192H32:residual", logN := 16, xsH := 192, checked := true, above := false,
    q := [1152921504606584833, 1099512938497, 1099510054913, 1099507695617, 1099515691009, 1099516870657, 1099506515969, 1099504549889, 1099503894529, 1099503370241],
    p := [2305843009211596801, 2305843009210023937, 2305843009208713217, 2305843009202159617, 2305843009201242113] },
  { name := "bootstrapping.N16QP1546H192H32:bootstrapping", logN := 16, xsH := 192, checked := true, above := false,
    q := [1152921504606584833, 1099512938497, 1099510054913, 1099507695617, 1099515691009, 1099516870657, 1099506515969, 1099504549889, 1099503894529, 1099503370241, 549754109953, 549753978881, 549753716737, 1152921504614055937, 1152921504598720513, 1152921504615628801, 1152921504616808449, 1152921504597016577, 1152921504595968001, 1152921504618381313, 1152921504620347393, 72057594038321153, 72057594036879361, 72057594035306497, 72057594040680449],
    p := [2305843009211596801, 2305843009210023937, 2305843009208713217, 2305843009202159617, 2305843009201242113] },
  { name := "bootstrapping.N16QP1546H192H32:ephemeral", logN := 16, xsH := 32, checked := false, above := false,
    q := [1152921504606584833],
    p := [2305843009211596801] },
  { name := "bootstrapping.N16QP1547H192H32:residual", logN := 16, xsH := 192, checked := true, above := false,
    q := [1152921504606584833, 35184372744193, 35184373006337, 35184368025601, 35184376545281, 35184377331713],
    p := [2305843009211596801, 2305843009210023937, 2305843009208713217, 2305843009202159617] },
  { name := "bootstrapping.N16QP1547H192H32:bootstrapping", logN := 16, xsH := 192, checked := true, above := false,
    q := [1152921504606584833, 35184372744193, 35184373006337, 35184368025601, 35184376545281, 35184377331713, 4398044938241, 4398043496449, 4398042972161, 1152921504614055937, 1152921504598720513, 1152921504615628801, 1152921504616808449, 1152921504597016577, 1152921504595968001, 1152921504618381313, 1152921504620347393, 1152921504592822273, 1152921504592429057, 1152921504622575617, 288230376155250689, 288230376147386369, 288230376158396417, 288230376160755713],
    p := [2305843009211596801, 2305843009210023937, 2305843009208713217, 2305843009202159617] },
  { name := "bootstrapping.N16QP1547H192H32:ephemeral", logN := 16, xsH := 32, checked := false, above := false,
    q := [1152921504606584833],
    p := [2305843009211596801] },
  { name := "bootstrapping.N16QP1553H192H32:residual", logN := 16, xsH := 192, checked := true, above := false,
    q := [36028797019488257, 1152921504606584833, 1152921504614055937, 1152921504598720513, 1152921504615628801, 1152921504616808449, 1152921504597016577, 1152921504595968001],
    p := [2305843009211596801, 2305843009210023937, 2305843009208713217, 2305843009202159617, 2305843009201242113] },
  { name := "bootstrapping.N16QP1553H192H32:bootstrapping", logN := 16, xsH := 192, checked := true, above := false,
    q := [36028797019488257, 1152921504606584833, 1152921504614055937, 1152921504598720513, 1152921504615628801, 1152921504616808449, 1152921504597016577, 1152921504595968001, 1152921504618381313, 1152921504620347393, 36028797023420417, 36028797014376449, 36028797024206849, 36028797013327873, 36028797025124353, 36028797010444289, 36028797032202241, 36028797005856769, 9007199255658497, 9007199256051713, 9007199257362433, 9007199252119553],
    p := [2305843009211596801, 2305843009210023937, 2305843009208713217, 2305843009202159617] },
  { name := "bootstrapping.N16QP1553H192H32:ephemeral", logN := 16, xsH := 32, checked := false, above := false,
    q := [36028797019488257],
    p := [2305843009211596801] },
  { name := "bootstrapping.N15QP768H192H32:residual", logN := 15, xsH := 192, checked := true, above := false,
    q := [8589475841, 1125899908022273, 33292289],
    p := [2251799813554177, 2251799814799361] },
  { name := "bootstrapping.N15QP768H192H32:bootstrapping-with-LogN15", logN := 15, xsH := 192, checked := true, above := true,
    q := [8589475841, 1125899908022273, 33292289, 1152921504606584833, 1125899908612097, 1125899904679937, 1125899909398529, 1125899903827969, 1125899910316033, 1125899903500289, 1125899903107073, 1125899911168001, 562949952700417, 562949954142209],
    p := [2305843009211662337, 2305843009211596801, 2305843009211400193] },
  { name := "bootstrapping.N15QP768H192H32:ephemeral", logN := 15, xsH := 32, checked := false, above := false,
    q := [8589475841],
    p := [2305843009211662337] },
  { name := "bootstrapping.N16QP1767H32768H32:residual", logN := 16, xsH := 32768, checked := true, above := false,
    q := [1152921504606584833, 1099512938497, 1099510054913, 1099507695617, 1099515691009, 1099516870657, 1099506515969, 1099504549889, 1099503894529, 1099503370241, 1099502714881, 1099521458177, 1099522375681, 1099500617729],
    p := [2305843009211596801, 2305843009210023937, 2305843009208713217, 2305843009202159617, 2305843009201242113, 2305843009200586753] },
  { name := "bootstrapping.N16QP1767H32768H32:bootstrapping", logN := 16, xsH := 32768, checked := true, above := false,
    q := [1152921504606584833, 1099512938497, 1099510054913, 1099507695617, 1099515691009, 1099516870657, 1099506515969, 1099504549889, 1099503894529, 1099503370241, 1099502714881, 1099521458177, 1099522375681, 1099500617729, 549754109953, 549753978881, 549753716737, 1152921504614055937, 1152921504598720513, 1152921504615628801, 1152921504616808449, 1152921504597016577, 1152921504595968001, 1152921504618381313, 1152921504620347393, 72057594038321153, 72057594036879361, 72057594035306497, 72057594040680449],
    p := [2305843009211596801, 2305843009210023937, 2305843009208713217, 2305843009202159617, 2305843009201242113] },
  { name := "bootstrapping.N16QP1767H32768H32:ephemeral", logN := 16, xsH := 32, checked := false, above := false,
    q := [1152921504606584833],
    p := [2305843009211596801] },
  { name := "bootstrapping.N16QP1788H32768H32:residual", logN := 16, xsH := 32768, checked := true, above := false,
    q := [1152921504606584833, 35184372744193, 35184373006337, 35184368025601, 35184376545281, 35184377331713, 35184378511361, 35184379035649, 35184365273089, 35184380870657],
    p := [2305843009211596801, 2305843009210023937, 2305843009208713217, 2305843009202159617, 2305843009201242113] },
  { name := "bootstrapping.N16QP1788H32768H32:bootstrapping", logN := 16, xsH := 32768, checked := true, above := false,
    q := [1152921504606584833, 35184372744193, 35184373006337, 35184368025601, 35184376545281, 35184377331713, 35184378511361, 35184379035649, 35184365273089, 35184380870657, 4398044938241, 4398043496449, 4398042972161, 1152921504614055937, 1152921504598720513, 1152921504615628801, 1152921504616808449, 1152921504597016577, 1152921504595968001, 1152921504618381313, 1152921504620347393, 1152921504592822273, 1152921504592429057, 1152921504622575617, 288230376155250689, 288230376147386369, 288230376158396417, 288230376160755713],
    p := [2305843009211596801, 2305843009210023937, 2305843009208713217, 2305843009202159617, 2305843009201242113] },
  { name := "bootstrapping.N16QP1788H32768H32:ephemeral", logN := 16, xsH := 32, checked := false, above := false,
    q := [1152921504606584833],
    p := [2305843009211596801] },
  { name := "bootstrapping.N16QP1793H32768H32:residual", logN := 16, xsH := 32768, checked := true, above := false,
    q := [36028797019488257, 1152921504606584833, 1152921504614055937, 1152921504598720513, 1152921504615628801, 1152921504616808449, 1152921504597016577, 1152921504595968001, 1152921504618381313, 1152921504620347393, 1152921504592822273, 1152921504592429057, 1152921504622575617, 1073872897],
    p := [2305843009211596801, 2305843009210023937, 2305843009208713217, 2305843009202159617, 2305843009201242113] },
  { name := "bootstrapping.N16QP1793H32768H32:bootstrapping", logN := 16, xsH := 32768, checked := true, above := true,
    q := [36028797019488257, 1152921504606584833, 1152921504614055937, 1152921504598720513, 1152921504615628801, 1152921504616808449, 1152921504597016577, 1152921504595968001, 1152921504618381313, 1152921504620347393, 1152921504592822273, 1152921504592429057, 1152921504622575617, 1073872897, 1152921504589938689, 1152921504625328129, 36028797023420417, 36028797014376449, 36028797024206849, 36028797013327873, 36028797025124353, 36028797010444289, 36028797032202241, 36028797005856769, 9007199255658497, 9007199256051713, 9007199257362433, 9007199252119553],
    p := [2305843009211596801, 2305843009210023937, 2305843009208713217, 2305843009202159617, 2305843009201242113] },
  { name := "bootstrapping.N16QP1793H32768H32:ephemeral", logN := 16, xsH := 32, checked := false, above := false,
    q := [36028797019488257],
    p := [2305843009211596801] },
  { name := "bootstrapping.N15QP880H16384H32:residual", logN := 15, xsH := 16384, checked := true, above := false,
    q := [1099512938497, 2147352577, 2146959361, 2148728833, 2148794369],
    p := [72057594038321153, 72057594037338113] },
  { name := "bootstrapping.N15QP880H16384H32:bootstrapping-with-LogN15", logN := 15, xsH := 16384, checked := true, above := true,
    q := [1099512938497, 2147352577, 2146959361, 2148728833, 2148794369, 1152921504606584833, 36028797019488257, 36028797020209153, 36028797017456641, 36028797020602369, 36028797020864513, 36028797023420417, 36028797014704129, 36028797014573057, 4503599627763713, 4503599628353537],
    p := [2305843009211662337, 2305843009211596801, 2305843009211400193, 2305843009210023937] },
  { name := "bootstrapping.N15QP880H16384H32:ephemeral", logN := 15, xsH := 32, checked := false, above := false,
    q := [1099512938497],
    p := [2305843009211662337] }
]
-- END GENERATED exportedSets

/-! ## the JSON field lists of the parameter codecs

  `MarshalBinary` of every parameter struct is its JSON encoding (rlwe prefixes a length), so the codec
  is determined by the list of JSON fields, their `omitempty` tags, and what the decoder does with an
  absent field.  The model below has one object = ordered list of `(Key, JV)`; sub-documents whose own
  text codec is outside C19 (the `Scale` text, a whole `ckks.Parameters`, the `MatrixLiteral`s, the mod1
  literal) are opaque `blob`s, a `float64` is an opaque code with `0` for `+0.0` (Go's float ⇄ JSON text
  round trip is exact), the ring-type and distribution-type strings are their enum values. -/

inductive Key where
  | LogN | LogNthRoot | Q | P | LogQ | LogP | Xe | Xs | RingType | DefaultScale | NTTFlag
  | Type | H | Sigma | Bound
  | ResidualParameters | BootstrappingParameters | SlotsToCoeffsParameters | Mod1ParametersLiteral
  | CoeffsToSlotsParameters | IterationsParameters | EphemeralSecretWeight | CircuitOrder
  | BootstrappingPrecision | ReservedPrimeBitSize
  | LogSlots | CoeffsToSlotsFactorizationDepthAndLogScales | SlotsToCoeffsFactorizationDepthAndLogScales
  | EvalModLogScale | Mod1Type | LogMessageRatio | K | Mod1Degree | DoubleAngle | Mod1InvDegree
  deriving DecidableEq, Repr

def Key.name : Key → String
  | .LogN => "LogN" | .LogNthRoot => "LogNthRoot" | .Q => "Q" | .P => "P" | .LogQ => "LogQ" | .LogP => "LogP"
  | .Xe => "Xe" | .Xs => "Xs" | .RingType => "RingType" | .DefaultScale => "DefaultScale" | .NTTFlag => "NTTFlag"
  | .Type => "Type" | .H => "H" | .Sigma => "Sigma" | .Bound => "Bound"
  | .ResidualParameters => "ResidualParameters" | .BootstrappingParameters => "BootstrappingParameters"
  | .SlotsToCoeffsParameters => "SlotsToCoeffsParameters" | .Mod1ParametersLiteral => "Mod1ParametersLiteral"
  | .CoeffsToSlotsParameters => "CoeffsToSlotsParameters" | .IterationsParameters => "IterationsParameters"
  | .EphemeralSecretWeight => "EphemeralSecretWeight" | .CircuitOrder => "CircuitOrder"
  | .BootstrappingPrecision => "BootstrappingPrecision" | .ReservedPrimeBitSize => "ReservedPrimeBitSize"
  | .LogSlots => "LogSlots"
  | .CoeffsToSlotsFactorizationDepthAndLogScales => "CoeffsToSlotsFactorizationDepthAndLogScales"
  | .SlotsToCoeffsFactorizationDepthAndLogScales => "SlotsToCoeffsFactorizationDepthAndLogScales"
  | .EvalModLogScale => "EvalModLogScale" | .Mod1Type => "Mod1Type" | .LogMessageRatio => "LogMessageRatio"
  | .K => "K" | .Mod1Degree => "Mod1Degree" | .DoubleAngle => "DoubleAngle" | .Mod1InvDegree => "Mod1InvDegree"

/-- a JSON value, as far as the parameter codecs distinguish values -/
inductive JV where
  | null
  | num (n : Int)
  | bool (b : Bool)
  | ring (t : Nat)          -- "Standard" / "ConjugateInvariant" / "Invalid"
  | dtype (t : Nat)         -- "Ternary" = 0 / "DiscreteGaussian" = 1 / "Uniform" = 2
  | flt (code : Nat)        -- a float64; code 0 is +0.0
  | unums (l : List Nat)    -- []uint64
  | nums (l : List Int)     -- []int
  | numss (l : List (List Int))
  | flts (l : List Nat)     -- []float64
  | blob (code : Nat)       -- a sub-document with its own codec
  | obj (fields : List (Key × JV))

abbrev JObj := List (Key × JV)

def JObj.get (o : JObj) (k : Key) : Option JV := o.lookup k

/-- a field tagged `omitempty` is dropped when `empty` -/
def omitIf (empty : Bool) (k : Key) (v : JV) : JObj := if empty then [] else [(k, v)]

/-! ### ring.DistributionParameters -/

/-- `ring.Ternary{P, H}`, `ring.DiscreteGaussian{Sigma, Bound}`, `ring.Uniform{}` -/
inductive Dist where
  | ternary (p : Nat) (h : Int)
  | gaussian (sigma bound : Nat)
  | uniform
  deriving DecidableEq, Repr

/-- the distributions' `MarshalJSON`: Ternary writes `Type` plus its non-zero fields (`omitempty`), Gaussian
    `Type`, `Sigma`, `Bound` always (fix C19-12: they were `omitempty` but are required by the decoder) -/
def encodeDist : Dist → JV
  | .ternary p h => .obj ([(Key.Type, .dtype 0)] ++ omitIf (p == 0) .P (.flt p) ++ omitIf (h == 0) .H (.num h))
  | .gaussian s b => .obj [(Key.Type, .dtype 1), (Key.Sigma, .flt s), (Key.Bound, .flt b)]
  | .uniform => .obj [(Key.Type, .dtype 2)]

/-- `ring.ParametersFromMap`: a Ternary needs exactly one of `P`, `H` non-zero, a Gaussian needs both
    `Sigma` and `Bound` to be PRESENT -/
def decodeDist : JV → Except String Dist
  | .obj fs =>
    match JObj.get fs .Type with
    | some (.dtype 2) => .ok .uniform
    | some (.dtype 0) =>
      match (match JObj.get fs .P with | some (.flt p) => some p | none => some 0 | _ => none),
            (match JObj.get fs .H with | some (.num h) => some h | none => some 0 | _ => none) with
      | some p, some h => if (p != 0) == (h != 0) then .error "ternary: exactly one of P, H" else .ok (.ternary p h)
      | _, _ => .error "ternary: field type"
    | some (.dtype 1) =>
      match JObj.get fs .Sigma, JObj.get fs .Bound with
      | some (.flt s), some (.flt b) => .ok (.gaussian s b)
      | _, _ => .error "gaussian: Sigma and Bound are required"
    | _ => .error "distribution type"
  | _ => .error "distribution: not an object"

/-- the distributions that survive their own codec: every Gaussian, Uniform, and a Ternary with exactly one of
    `P`, `H` set — which is also what `NewParameters` accepts (fix C19-13) apart from the `P = H = 0` warning -/
def Dist.codecOK : Dist → Bool
  | .ternary p h => (p != 0) != (h != 0)
  | .gaussian _ _ => true
  | .uniform => true

def decodeOptDist : Option JV → Except String (Option Dist)
  | none => .ok none
  | some .null => .ok none
  | some v => (decodeDist v).map some

/-! ### rlwe.ParametersLiteral -/

/-- `rlwe.ParametersLiteral`; `none` is a nil slice / nil interface -/
structure RlweLit where
  logN : Int
  logNthRoot : Int
  q : Option (List Nat)
  p : Option (List Nat)
  logQ : Option (List Int)
  logP : Option (List Int)
  xe : Option Dist
  xs : Option Dist
  ringType : Nat
  defaultScale : Nat        -- opaque: the Scale text
  nttFlag : Bool
  deriving DecidableEq, Repr

def emptyOpt {α} : Option (List α) → Bool
  | none => true
  | some l => l.isEmpty

/-- `json.Marshal(rlwe.ParametersLiteral)`: the struct tags of core/rlwe/params.go:54 (all but `LogN` and
    `DefaultScale` are `omitempty`; on a struct-typed field the tag has no effect) -/
def encodeRlweLit (l : RlweLit) : JObj :=
  [(Key.LogN, .num l.logN)] ++
  omitIf (l.logNthRoot == 0) .LogNthRoot (.num l.logNthRoot) ++
  omitIf (emptyOpt l.q) .Q (.unums (l.q.getD [])) ++
  omitIf (emptyOpt l.p) .P (.unums (l.p.getD [])) ++
  omitIf (emptyOpt l.logQ) .LogQ (.nums (l.logQ.getD [])) ++
  omitIf (emptyOpt l.logP) .LogP (.nums (l.logP.getD [])) ++
  omitIf l.xe.isNone .Xe ((l.xe.map encodeDist).getD .null) ++
  omitIf l.xs.isNone .Xs ((l.xs.map encodeDist).getD .null) ++
  omitIf (l.ringType == 0) .RingType (.ring l.ringType) ++
  [(Key.DefaultScale, .blob l.defaultScale)] ++
  omitIf (!l.nttFlag) .NTTFlag (.bool l.nttFlag)

def getNum (o : JObj) (k : Key) : Except String Int :=
  match o.get k with
  | none => .ok 0
  | some .null => .ok 0
  | some (.num n) => .ok n
  | _ => .error s!"{k.name}: number expected"

def getUNums (o : JObj) (k : Key) : Except String (Option (List Nat)) :=
  match o.get k with
  | none => .ok none
  | some .null => .ok none
  | some (.unums l) => .ok (some l)
  | _ => .error s!"{k.name}: array expected"

def getNums (o : JObj) (k : Key) : Except String (Option (List Int)) :=
  match o.get k with
  | none => .ok none
  | some .null => .ok none
  | some (.nums l) => .ok (some l)
  | _ => .error s!"{k.name}: array expected"

/-- `(*rlwe.ParametersLiteral).UnmarshalJSON` (with fix C19-8: `LogNthRoot` is read) -/
def decodeRlweLit (o : JObj) : Except String RlweLit := do
  let logN ← getNum o .LogN
  let root ← getNum o .LogNthRoot
  let q ← getUNums o .Q
  let p ← getUNums o .P
  let logQ ← getNums o .LogQ
  let logP ← getNums o .LogP
  let xs ← decodeOptDist (o.get .Xs)
  let xe ← decodeOptDist (o.get .Xe)
  let rt ← (match o.get .RingType with
    | none => .ok 0
    | some (.ring t) => if t ≤ 1 then .ok t else .error "invalid ring type"
    | _ => .error "RingType: string expected" : Except String Nat)
  let sc ← (match o.get .DefaultScale with
    | none => .ok 0
    | some (.blob c) => .ok c
    | _ => .error "DefaultScale" : Except String Nat)
  let ntt ← (match o.get .NTTFlag with
    | none => .ok false
    | some (.bool b) => .ok b
    | _ => .error "NTTFlag" : Except String Bool)
  return { logN := logN, logNthRoot := root, q := q, p := p, logQ := logQ, logP := logP, xe := xe, xs := xs,
           ringType := rt, defaultScale := sc, nttFlag := ntt }

/-- `omitempty` cannot tell an empty slice from a nil one -/
def normSlice {α} : Option (List α) → Option (List α)
  | some [] => none
  | x => x

def RlweLit.normalize (l : RlweLit) : RlweLit :=
  { l with q := normSlice l.q, p := normSlice l.p, logQ := normSlice l.logQ, logP := normSlice l.logP }

/-! ### bootstrapping.Parameters and bootstrapping.ParametersLiteral -/

structure Iter where
  precision : Option (List Nat)
  reserved : Int
  deriving DecidableEq, Repr

def encodeIter : Option Iter → JV
  | none => .null
  | some it => .obj [(Key.BootstrappingPrecision, match it.precision with | none => .null | some l => .flts l),
                     (Key.ReservedPrimeBitSize, .num it.reserved)]

def decodeIter : Option JV → Except String (Option Iter)
  | none => .ok none
  | some .null => .ok none
  | some (.obj fs) => do
    let pr ← (match JObj.get fs .BootstrappingPrecision with
      | none => .ok none
      | some .null => .ok none
      | some (.flts l) => .ok (some l)
      | _ => .error "BootstrappingPrecision" : Except String (Option (List Nat)))
    let r ← getNum fs .ReservedPrimeBitSize
    return some { precision := pr, reserved := r }
  | _ => .error "IterationsParameters"

/-- `bootstrapping.Parameters` (the five nested parameter objects are opaque) -/
structure BtpParams where
  residual : Nat
  bootstrapping : Nat
  s2c : Nat
  mod1 : Nat
  c2s : Nat
  iterations : Option Iter
  ephemeralSecretWeight : Int
  circuitOrder : Int
  deriving DecidableEq, Repr

/-- `bootstrapping.Parameters.MarshalJSON`: eight fields, none of them `omitempty` -/
def encodeBtp (p : BtpParams) : JObj :=
  [(Key.ResidualParameters, .blob p.residual), (Key.BootstrappingParameters, .blob p.bootstrapping),
   (Key.SlotsToCoeffsParameters, .blob p.s2c), (Key.Mod1ParametersLiteral, .blob p.mod1),
   (Key.CoeffsToSlotsParameters, .blob p.c2s), (Key.IterationsParameters, encodeIter p.iterations),
   (Key.EphemeralSecretWeight, .num p.ephemeralSecretWeight), (Key.CircuitOrder, .num p.circuitOrder)]

def getBlob (o : JObj) (k : Key) : Except String Nat :=
  match o.get k with
  | none => .ok 0
  | some (.blob c) => .ok c
  | _ => .error s!"{k.name}: object expected"

/-- `(*bootstrapping.Parameters).UnmarshalJSON`: an absent field is the zero value (no defaulting) -/
def decodeBtp (o : JObj) : Except String BtpParams := do
  let r ← getBlob o .ResidualParameters
  let b ← getBlob o .BootstrappingParameters
  let s ← getBlob o .SlotsToCoeffsParameters
  let m ← getBlob o .Mod1ParametersLiteral
  let c ← getBlob o .CoeffsToSlotsParameters
  let it ← decodeIter (o.get .IterationsParameters)
  let e ← getNum o .EphemeralSecretWeight
  let co ← getNum o .CircuitOrder
  return { residual := r, bootstrapping := b, s2c := s, mod1 := m, c2s := c, iterations := it,
           ephemeralSecretWeight := e, circuitOrder := co }

/-- `bootstrapping.ParametersLiteral`: pointer fields are `Option`s (`none` = nil = "use the default") -/
structure BtpLit where
  logN : Option Int
  logP : Option (List Int)
  xs : Option Dist
  xe : Option Dist
  logSlots : Option Int
  c2s : Option (List (List Int))
  s2c : Option (List (List Int))
  evalModLogScale : Option Int
  ephemeralSecretWeight : Option Int
  iterations : Option Iter
  mod1Type : Int
  logMessageRatio : Option Int
  k : Option Int
  mod1Degree : Option Int
  doubleAngle : Option Int
  mod1InvDegree : Option Int
  deriving DecidableEq, Repr

def encPtr : Option Int → JV
  | none => .null
  | some n => .num n

def decPtr (o : JObj) (k : Key) : Except String (Option Int) :=
  match o.get k with
  | none => .ok none
  | some .null => .ok none
  | some (.num n) => .ok (some n)
  | _ => .error s!"{k.name}: number expected"

/-- `json.Marshal(bootstrapping.ParametersLiteral)`: sixteen fields, no `omitempty`: nil ⇒ `null`, `&0` ⇒ `0` -/
def encodeBtpLit (l : BtpLit) : JObj :=
  [(Key.LogN, encPtr l.logN),
   (Key.LogP, match l.logP with | none => .null | some v => .nums v),
   (Key.Xs, (l.xs.map encodeDist).getD .null),
   (Key.Xe, (l.xe.map encodeDist).getD .null),
   (Key.LogSlots, encPtr l.logSlots),
   (Key.CoeffsToSlotsFactorizationDepthAndLogScales, match l.c2s with | none => .null | some v => .numss v),
   (Key.SlotsToCoeffsFactorizationDepthAndLogScales, match l.s2c with | none => .null | some v => .numss v),
   (Key.EvalModLogScale, encPtr l.evalModLogScale),
   (Key.EphemeralSecretWeight, encPtr l.ephemeralSecretWeight),
   (Key.IterationsParameters, encodeIter l.iterations),
   (Key.Mod1Type, .num l.mod1Type),
   (Key.LogMessageRatio, encPtr l.logMessageRatio),
   (Key.K, encPtr l.k),
   (Key.Mod1Degree, encPtr l.mod1Degree),
   (Key.DoubleAngle, encPtr l.doubleAngle),
   (Key.Mod1InvDegree, encPtr l.mod1InvDegree)]

def getNumss (o : JObj) (k : Key) : Except String (Option (List (List Int))) :=
  match o.get k with
  | none => .ok none
  | some .null => .ok none
  | some (.numss l) => .ok (some l)
  | _ => .error s!"{k.name}: array of arrays expected"

/-- `(*bootstrapping.ParametersLiteral).UnmarshalJSON` (fix C19-9: `Xs`/`Xe` through `ParametersFromMap`) -/
def decodeBtpLit (o : JObj) : Except String BtpLit := do
  let logN ← decPtr o .LogN
  let logP ← getNums o .LogP
  let xs ← decodeOptDist (o.get .Xs)
  let xe ← decodeOptDist (o.get .Xe)
  let logSlots ← decPtr o .LogSlots
  let c2s ← getNumss o .CoeffsToSlotsFactorizationDepthAndLogScales
  let s2c ← getNumss o .SlotsToCoeffsFactorizationDepthAndLogScales
  let ev ← decPtr o .EvalModLogScale
  let eph ← decPtr o .EphemeralSecretWeight
  let it ← decodeIter (o.get .IterationsParameters)
  let mt ← getNum o .Mod1Type
  let lmr ← decPtr o .LogMessageRatio
  let k ← decPtr o .K
  let md ← decPtr o .Mod1Degree
  let da ← decPtr o .DoubleAngle
  let mi ← decPtr o .Mod1InvDegree
  return { logN := logN, logP := logP, xs := xs, xe := xe, logSlots := logSlots, c2s := c2s, s2c := s2c,
           evalModLogScale := ev, ephemeralSecretWeight := eph, iterations := it, mod1Type := mt,
           logMessageRatio := lmr, k := k, mod1Degree := md, doubleAngle := da, mod1InvDegree := mi }

/-- names of the top-level keys, in emission order, and of those whose value is `null` -/
def keyNames (o : JObj) : List String := o.map (·.1.name)
def nullKeys (o : JObj) : List String := (o.filter fun kv => match kv.2 with | .null => true | _ => false).map (·.1.name)
def subKeys (v : Option JV) : List String :=
  match v with
  | some (.obj fs) => keyNames fs
  | _ => []

/-! ### rlwe.Scale: the text of `DefaultScale` inside the parameter encodings

  `Scale.MarshalJSON` writes `Value` and `Mod` as `big.Float.Text('e', 39)` (40 significant digits) of 128-bit floats;
  `UnmarshalJSON` parses `Value` into a 128-bit `big.Float` and `Mod` into a `big.Float` of the default precision 64, then
  takes its integer part. For INTEGER scales and moduli below `10^40` the text holds every digit, so the codec is:
  exact decimal text, then rounding to the decoder's mantissa width. (Non-integer scales: probes only.) -/

/-- round `n` to `p` significant bits, ties to even: what parsing an exact decimal integer into a `p`-bit float gives -/
def roundMant (p n : Nat) : Nat :=
  let b := len64' n
  if b ≤ p then n
  else
    let sh := b - p
    let q := n / 2 ^ sh
    let r := n % 2 ^ sh
    let half := 2 ^ (sh - 1)
    let q' := if r > half || (r == half && q % 2 == 1) then q + 1 else q
    q' * 2 ^ sh
where
  /-- bit length of an arbitrary natural number -/
  len64' (n : Nat) : Nat := if n = 0 then 0 else Nat.log2 n + 1

/-- `Text('e', 39)` of a natural number below `10^40`: `d.ddd…d` with 39 digits after the point, `e+XX` -/
def sciText (n : Nat) : String :=
  let zeros (k : Nat) : String := String.ofList (List.replicate k '0')
  if n = 0 then "0." ++ zeros 39 ++ "e+00"
  else
    let ds := (Nat.toDigits 10 n)
    let e := ds.length - 1
    let frac := (ds.drop 1).take 39
    String.ofList (ds.take 1) ++ "." ++ String.ofList frac ++ zeros (39 - frac.length) ++
      "e+" ++ (if e < 10 then "0" else "") ++ toString e

/-- an integer `rlwe.Scale`: `Value` and `Mod` (`none` = nil) -/
structure ScaleInt where
  value : Nat
  mod : Option Nat
  deriving DecidableEq, Repr

/-- the two numbers `Scale.MarshalJSON` writes (exactly, for numbers below `10^40`); a nil `Mod` is written as 0 -/
def encodeScaleInt (s : ScaleInt) : Nat × Nat := (s.value, s.mod.getD 0)

/-- `Scale.UnmarshalJSON` with mantissa widths `pv` for `Value` (128 in the code) and `pm` for `Mod` (64 in the code:
    `new(big.Float).SetString`); a zero `Mod` is nil -/
def decodeScaleInt (pv pm : Nat) (t : Nat × Nat) : ScaleInt :=
  { value := roundMant pv t.1, mod := if roundMant pm t.2 = 0 then none else some (roundMant pm t.2) }

/-! ### the literal of an accepted object (`Parameters.ParametersLiteral()`), for the re-validation theorem -/

def Accepted.literal (a : Accepted) : Literal :=
  { logN := a.logN, q := some a.q, p := some a.p, ringType := a.ringType }

/-! ### bootstrapping: the residual chain must be NTT-friendly for the bootstrapping ring -/

/-- the root order `bootstrapping.NewParametersFromLiteral` uses: the larger of the residual ring's and `2·2^LogN` of the
    bootstrapping literal (`LogN` defaults to 16) -/
def btpNthRoot (resLogN ringType btpLogN : Nat) : Nat :=
  max ((if ringType = 0 then 2 else 4) * 2 ^ resLogN) (2 * 2 ^ btpLogN)

/-- `for i, q := range residual.Q() { if q&(NthRoot-1) != 1 { error } }`: index of the first offending prime -/
def btpResidualCheck (resLogN ringType btpLogN : Nat) (q : List Nat) : Option Nat :=
  firstIdx (fun x => x &&& (btpNthRoot resLogN ringType btpLogN - 1) != 1) q 0

/-! ## executable oracles -/

def smallPrimes : List Nat := [2, 3, 5, 7, 11, 13, 17, 19, 23, 29, 31, 37]

/-- one Miller–Rabin round, `n - 1 = d·2^s`, witness `a` -/
def mrRound (n d s a : Nat) : Bool :=
  let x := powModFast a d n
  if x = 1 || x = n - 1 then true
  else
    let rec sq : Nat → Nat → Bool
      | 0, _ => false
      | k + 1, x =>
        let x := x * x % n
        if x = n - 1 then true else sq k x
    sq (s - 1) x

def oddPart : Nat → Nat → Nat → Nat × Nat
  | 0, d, s => (d, s)
  | fuel + 1, d, s => if d % 2 = 0 && d != 0 then oddPart fuel (d / 2) (s + 1) else (d, s)

/-- deterministic Miller–Rabin with the first 12 prime bases (exact below 3.3·10^24) -/
def isPrimeMR (n : Nat) : Bool :=
  if n < 2 then false
  else if smallPrimes.contains n then true
  else if smallPrimes.any (fun p => n % p = 0) then false
  else
    let (d, s) := oddPart (n.log2 + 1) (n - 1) 0
    smallPrimes.all (fun a => mrRound n d s a)

/-! ### Go's `math.Log2` on IEEE-754 doubles (math/log.go, math/log10.go; amd64, no FMA) -/

def fbits (b : UInt64) : Float := Float.ofBits b

/-- `math.log` for a finite `x > 0` -/
def goLog (x : Float) : Float :=
  let ln2Hi := fbits 0x3fe62e42fee00000
  let ln2Lo := fbits 0x3dea39ef35793c76
  let l1 := fbits 0x3FE5555555555593
  let l2 := fbits 0x3FD999999997FA04
  let l3 := fbits 0x3FD2492494229359
  let l4 := fbits 0x3FCC71C51D8E78AF
  let l5 := fbits 0x3FC7466496CB03DE
  let l6 := fbits 0x3FC39A09D078C69F
  let l7 := fbits 0x3FC2F112DF3E5244
  let sqrt2half := fbits 0x3FE6A09E667F3BCD
  let (f1, ki) := x.frExp
  let (f1, ki) := if f1 < sqrt2half then (f1 * 2, ki - 1) else (f1, ki)
  let f := f1 - 1
  let k := Float.ofInt ki
  let s := f / (2 + f)
  let s2 := s * s
  let s4 := s2 * s2
  let t1 := s2 * (l1 + s4 * (l3 + s4 * (l5 + s4 * l7)))
  let t2 := s4 * (l2 + s4 * (l4 + s4 * l6))
  let r := t1 + t2
  let hfsq := 0.5 * f * f
  k * ln2Hi - ((hfsq - (s * (hfsq + r) + k * ln2Lo)) - f)

/-- `math.Log2` for a finite `x > 0` -/
def goLog2 (x : Float) : Float :=
  let (frac, e) := x.frExp
  if frac == 0.5 then Float.ofInt (e - 1)
  else goLog frac * fbits 0x3FF71547652B82FE + Float.ofInt e

/-- `float64(c)` for a `uint64` -/
def u64ToFloat (c : Nat) : Float := (UInt64.ofNat c).toFloat

/-- `math.Log2(float64(c))`; Go returns `-Inf` for 0 -/
def log2OfU64 (c : Nat) : Float := if c = 0 then fbits 0xFFF0000000000000 else goLog2 (u64ToFloat c)

def stopUpFloat (size c : Nat) : Bool := log2OfU64 c - Float.ofNat size >= 0.5
def stopDownFloat (size c : Nat) : Bool := Float.ofNat size - log2OfU64 c >= 0.5

/-- the oracle the driver runs -/
def goOracle : Oracle := { isPrime := isPrimeMR, stopUp := stopUpFloat, stopDown := stopDownFloat }

/-- the exact-arithmetic reading of the two float tests: `c ≥ 2^(S+1/2)` and `c ≤ 2^(S-1/2)` -/
def stopUpExact (size c : Nat) : Bool := decide (c * c ≥ 2 ^ (2 * size + 1))
def stopDownExact (size c : Nat) : Bool := decide (2 * (c * c) ≤ 2 ^ (2 * size))

/-- the idealised oracle: exact comparisons instead of the float ones (decidable in the kernel) -/
def exactOracle : Oracle := { isPrime := isPrimeMR, stopUp := stopUpExact, stopDown := stopDownExact }

/-- default fuel of the driver -/
def driverFuel : Nat := 4000000

end Lattigo.Params
