/-
  C03 — scheme-level model of `core/rlwe/encryptor.go`, `decryptor.go` and of
  `KeyGenerator.GenSecretKey / GenPublicKey` (`keygenerator.go`).

  The model is GENERIC over a carrier `α` that only has `+ * - neg` (core type classes).  The
  theorems (Proofs/RLWE*.lean, Props/C03.lean) are proved for every commutative ring; the driver
  runs the very same definitions on the executable carrier `RQ` (canonical RNS polynomials of
  `Model/RPoly.lean`, standard or conjugate-invariant ring).

  What a model value is.  A value stands for the polynomial *as stored by the Go code*, pulled back
  to the coefficient domain (the NTT is a ring isomorphism and is transparent here: that is C01's
  business) but with the Montgomery factor KEPT: the Go code's behaviour depends on which operands
  carry the factor `R = 2^64`, and the property quantifies over the `IsMontgomery` flag.  So
  `MulCoeffsMontgomery(x, y)` is `mulMont x y = ofM (x*y)`, the stored secret key is `toM s`, etc.

  The sampled polynomials (`a`, `u`, `e`, …) are INPUTS.  What is modelled about sampling is the call
  sequence: which sampler is read for which value, in which order and at which level.  `Read` followed by
  `Add` and `ReadAndAdd` both leave `c + e` (for every sampler: ring/sampler_*.go, property C17), so the
  two are not distinguished.

  This file follows the code AFTER the fixes C03-1 … C03-12 (/verif/fixes, all applied in /repo): `c1` is stored
  for every target of degree ≥ 1, `EncryptZero` clears `Value[2:]`, the error follows the `IsMontgomery` flag on
  every path, `extSmall` reduces modulo each `p_i` (C03-9), `acceptsBounds` is the distribution check of
  `NewParameters` (C03-10).

  Contents: generic functions (`mulMont`, `montIf`, `clearTail`, `encryptZeroSk/PkNoP/Pk`, `ezSk/ezPkNoP/ezPk`,
  `addPtToCt`, `encrypt`, `hornerMont`, `decrypt`, `genSecretKey`, `genPublicKey`); the executable carrier `RQ`
  (standard and conjugate-invariant product, `mont`, `extSmall`, `modDown`, `acceptsBounds`, `encryptAt`, `decryptAt`);
  `ZPoly` (integer negacyclic ring for the norm statements).  Driver ops: `gensk`, `genpk`, `enc`, `dec`, `accept`.
  Theorems: Proofs/RLWE.lean, RLWENorm.lean, RLWECI.lean, Props/C03.lean (+ colleagues' Props/C03Ring, C03Stack).
-/
import Lattigo.Model.RPoly

namespace Lattigo.RLWE

/-- Montgomery conversions of a carrier: `toM x = x·R`, `ofM x = x·R⁻¹` (`MForm` / `IMForm`). -/
structure Mont (α : Type) where
  toM : α → α
  ofM : α → α

/-- `rlwe.MetaData`: the plaintext part (scale, dimensions, batched, bit-reversed) is opaque and
    copied; the two ciphertext flags are interpreted by the code. -/
structure MetaData (μ : Type) where
  pt : μ
  isNTT : Bool
  isMont : Bool
  deriving BEq, Repr, DecidableEq

structure Pt (α μ : Type) where
  value : α
  md : MetaData μ
  deriving DecidableEq

structure Ct (α μ : Type) where
  value : List α
  md : MetaData μ
  deriving DecidableEq

section generic
variable {α : Type} [Add α] [Mul α] [Neg α] [Sub α]

/-- `ring.MulCoeffsMontgomery(x, y)` = x·y·R⁻¹ -/
def mulMont (M : Mont α) (x y : α) : α := M.ofM (x * y)

/-- `if IsMontgomery { MForm(x) }` -/
def montIf (M : Mont α) (isMont : Bool) (x : α) : α := if isMont then M.toM x else x

/-- `EncryptZero` first clears the terms of degree ≥ 2 of a `*Ciphertext` target (`Value[i].Zero()`) -/
def clearTail : List α → List α
  | c0 :: c1 :: rest => c0 :: c1 :: rest.map (fun o => o - o)
  | l => l

/-! ### secret-key encryption of zero into a `*Ciphertext` (`encryptZeroSk` + `encryptZeroSkFromC1`)

  The error is always obtained with `Read` into a buffer, switched to the Montgomery domain iff the
  target is flagged `IsMontgomery`, and added (in the NTT domain or not: transparent here). -/

/-- `old` is the content of `ct.Value` before the call (length = degree+1), `a` the polynomial drawn
    from the uniform sampler, `e` the polynomial drawn from the error sampler, `sM` the stored secret
    (`toM s`).  `none` = the Go code panics.  A target of degree ≥ 1 receives `a` in `Value[1]`; for a
    degree-0 (compressed) target `c1` stays in a scratch buffer. -/
def encryptZeroSk (M : Mont α) (isMont : Bool) (old : List α) (a e sM : α) : Option (List α) :=
  let c0 := -(mulMont M a sM) + montIf M isMont e
  match old with
  | [] => none
  | [_] => some [c0]
  | _ :: _ :: rest => some (c0 :: a :: rest)

/-! ### public-key encryption of zero -/

/-- `encryptZeroPkNoP` (no auxiliary modulus): `(u·pk0 + e0, u·pk1 + e1)`, then `MForm` iff
    `IsMontgomery`; `pk0M, pk1M` are the stored (Montgomery) key polynomials; draws in the order
    `u`, `e0`, `e1`. -/
def encryptZeroPkNoP (M : Mont α) (isMont : Bool) (old : List α) (u e0 e1 pk0M pk1M : α) :
    Option (List α) :=
  match old with
  | _ :: _ :: rest =>
    some (montIf M isMont (mulMont M u pk0M + e0) :: montIf M isMont (mulMont M u pk1M + e1) :: rest)
  | _ => none

/-- `encryptZeroPk` for a `*Ciphertext` (auxiliary modulus present).  `β` is the carrier of `R_{Q·p₀}`
    (the code fixes `levelP = 0`: only the FIRST prime of `P` is used), `ext` is
    `ExtendBasisSmallNormAndCenter`, `down` is `ModDownQPtoQ` (rounded division by `p₀`).
    The flags are applied at the end: `MForm` iff `IsMontgomery`. -/
def encryptZeroPk {β : Type} [Add β] [Mul β] (MQ : Mont α) (MQP : Mont β) (ext : α → β) (down : β → α)
    (isMont : Bool) (old : List α) (u e0 e1 : α) (pk0M pk1M : β) : Option (List α) :=
  match old with
  | _ :: _ :: rest =>
    let uQP := ext u
    let c0 := mulMont MQP uQP pk0M + ext e0
    let c1 := mulMont MQP uQP pk1M + ext e1
    some (montIf MQ isMont (down c0) :: montIf MQ isMont (down c1) :: rest)
  | _ => none

/-! ### `EncryptZero` on a `*Ciphertext`, per key kind, as a function of the target's metadata and content -/

def ezSk {μ : Type} (M : Mont α) (a e sM : α) : MetaData μ → List α → Option (List α) :=
  fun md old => encryptZeroSk M md.isMont (clearTail old) a e sM

def ezPkNoP {μ : Type} (M : Mont α) (u e0 e1 pk0M pk1M : α) : MetaData μ → List α → Option (List α) :=
  fun md old => encryptZeroPkNoP M md.isMont (clearTail old) u e0 e1 pk0M pk1M

def ezPk {μ β : Type} [Add β] [Mul β] (MQ : Mont α) (MQP : Mont β) (ext : α → β) (down : β → α)
    (u e0 e1 : α) (pk0M pk1M : β) : MetaData μ → List α → Option (List α) :=
  fun md old => encryptZeroPk MQ MQP ext down md.isMont (clearTail old) u e0 e1 pk0M pk1M

/-! ### `addPtToCt`, `Encrypt` -/

/-- `addPtToCt` on stored values, as written.  `ntt`/`intt` are the transforms of the ring.  The mixed
    branches transform the plaintext in the direction named by the PLAINTEXT's own flag (an NTT
    plaintext is transformed again by `NTT`); `Encrypt` never reaches them (`encrypt_flags_agree`). -/
def addPtToCt (ntt intt : α → α) (ptIsNTT ctIsNTT : Bool) (ptVal : α) (ct : List α) : List α :=
  let buff :=
    if ptIsNTT then (if ctIsNTT then ptVal else ntt ptVal)
    else (if ctIsNTT then intt ptVal else ptVal)
  match ct with
  | [] => []
  | c0 :: rest => (c0 + buff) :: rest

/-- `Encryptor.Encrypt(pt, ct)`; `ez md old` is `EncryptZero` on a target with metadata `md`.
    `pt = none` is `Encrypt(nil, ct)` = `EncryptZero(ct)`.  (The level bookkeeping
    `level = min(pt.Level, ct.Level); ct.Resize` is done by `RQ.encryptAt` below.) -/
def encrypt {μ : Type} (ez : MetaData μ → List α → Option (List α)) (ntt intt : α → α)
    (pt : Option (Pt α μ)) (ct : Ct α μ) : Option (Ct α μ) :=
  match pt with
  | none => (ez ct.md ct.value).map fun v => { value := v, md := ct.md }
  | some pt =>
    -- *ct.MetaData = *pt.MetaData
    let md := pt.md
    (ez md ct.value).map fun v =>
      { value := addPtToCt ntt intt pt.md.isNTT md.isNTT pt.value v, md := md }

/-! ### `Decryptor.Decrypt` -/

/-- Horner from the top: `acc = c_d; acc = acc·s + c_{i-1}` (`MulCoeffsMontgomery` with the stored key).
    The periodic `Reduce` of the Go loop is the identity on canonical values. -/
def hornerMont (M : Mont α) (sM : α) : List α → Option α
  | [] => none
  | top :: rest => some (rest.foldl (fun acc c => mulMont M acc sM + c) top)

/-- `Decrypt(ct, pt)`: value and `*pt.MetaData = *ct.MetaData`; `none` = panic (empty `Value`). -/
def decrypt {μ : Type} (M : Mont α) (ct : Ct α μ) (sM : α) : Option (Pt α μ) :=
  (hornerMont M sM ct.value.reverse).map fun v => { value := v, md := ct.md }

/-! ### key generation -/

/-- `genSecretKeyFromSampler`: draw at level Q, extend to P, NTT (transparent), `MForm`. -/
def genSecretKey {β : Type} (MQP : Mont β) (ext : α → β) (sDraw : α) : β := MQP.toM (ext sDraw)

end generic

section qp
variable {β : Type} [Add β] [Mul β] [Neg β] [Sub β]

/-- `encryptZeroSk` case `Element[ringqp.Poly]` + `encryptZeroSkFromC1QP`, degree-1 target (the public
    key): `c1 = a` (uniform draw over QP), `c0 = MForm(ext e) − a·sM·R⁻¹`.  The result is in Montgomery
    form whatever `ct.IsMontgomery` says.  Draw order: `a` first, then `e`. -/
def encryptZeroSkQP {α : Type} (MQP : Mont β) (ext : α → β) (a : β) (e : α) (sM : β) : β × β :=
  (MQP.toM (ext e) - mulMont MQP a sM, a)

/-- `GenPublicKey(sk, pk)` -/
def genPublicKey {α : Type} (MQP : Mont β) (ext : α → β) (a : β) (e : α) (sM : β) : β × β :=
  encryptZeroSkQP MQP ext a e sM

end qp

/-! ## Executable carrier -/

/-- An element of `R_Q`, standard (`Z_Q[X]/(X^N+1)`, `ci = false`) or conjugate-invariant
    (`Z_Q[X+X⁻¹]/(X^{2N}+1)`, `ci = true`, N stored coefficients `c_0 + Σ c_i (X^i + X^{-i})`). -/
structure RQ where
  ci : Bool
  p : RPoly
  deriving BEq, Repr, Inhabited, DecidableEq

namespace RQ

/-- unfold N conjugate-invariant coefficients to the 2N coefficients in `Z_q[X]/(X^{2N}+1)`:
    `c_i` at `i`, `−c_i` at `2N−i` (since `X^{-i} = −X^{2N−i}`) -/
def ciRowEmbed (q : Nat) (x : List Nat) : List Nat :=
  match x with
  | [] => []
  | _ :: tl => x ++ (0 :: (tl.reverse.map fun c => (q - c % q) % q))

def ciRowMul (q : Nat) (x y : List Nat) : List Nat :=
  (RPoly.rowMul q (ciRowEmbed q x) (ciRowEmbed q y)).take x.length

def ciMul (a b : RPoly) : RPoly := RPoly.zipRows ciRowMul a b

instance : Add RQ := ⟨fun a b => ⟨a.ci, a.p + b.p⟩⟩
instance : Sub RQ := ⟨fun a b => ⟨a.ci, a.p - b.p⟩⟩
instance : Neg RQ := ⟨fun a => ⟨a.ci, -a.p⟩⟩
instance : Mul RQ := ⟨fun a b => ⟨a.ci, if a.ci then ciMul a.p b.p else a.p * b.p⟩⟩

/-- 2^64 -/
def Rword : Nat := 18446744073709551616

/-- `MForm` / `IMForm` on canonical rows -/
def mont : Mont RQ where
  toM := fun a => ⟨a.ci, RPoly.mapRows (fun q x => x.map fun c => (c * (Rword % q)) % q) a.p⟩
  ofM := fun a => ⟨a.ci, RPoly.mapRows (fun q x =>
    let ri := RPoly.modInv (Rword % q) q
    x.map fun c => (c * ri) % q) a.p⟩

/-- keep the first `l+1` rows -/
def atLevel (a : RQ) (l : Nat) : RQ := ⟨a.ci, a.p.atLevel l⟩

/-- concatenate the rows of a `Q` part and a `P` part -/
def joinQP (a b : RQ) : RQ := ⟨a.ci, { qs := a.p.qs ++ b.p.qs, c := a.p.c ++ b.p.c }⟩

/-- `ringqp.Ring.ExtendBasisSmallNormAndCenter`: the value of each coefficient is read off row 0 (`> q₀/2`
    means negative) and its magnitude is reduced into every `P` row (`p − (|c| mod p)` when negative, 0
    staying 0).  Precondition for the result to be the same integer polynomial: norm `< q₀/2`
    (`NewParameters` rejects distributions that do not fit when P is present, fix C03-10). -/
def extSmall (ps : List Nat) (x : RQ) : RQ :=
  let q0 := x.p.qs.headD 1
  let row0 := x.p.c.headD []
  let prow := fun (p : Nat) => row0.map fun (c : Nat) =>
    if c > q0 / 2 then (p - (q0 - c) % p) % p else c % p
  ⟨x.ci, { qs := x.p.qs ++ ps, c := x.p.c ++ ps.map prow }⟩

/-- The acceptance rule of `rlwe.NewParameters` for the distributions (fix C03-10): when an auxiliary modulus
    `P` is present, the bounds of the error and of the secret distribution must fit the FIRST prime of `Q`,
    `2·AbsBound < Q[0]`, because `extSmall` reads the value off limb 0.  `be2 = ⌊2·Xe.AbsBound⌋`,
    `bs2 = ⌊2·Xs.AbsBound⌋` (the Go test `2*bound >= float64(q[0])` is `⌊2·bound⌋ ≥ q[0]`). -/
def acceptsBounds (q0 : Nat) (hasP : Bool) (be2 bs2 : Nat) : Bool :=
  !hasP || (decide (be2 < q0) && decide (bs2 < q0))

/-- `BasisExtender.ModDownQPtoQ`: `x` has `nQ` rows over Q followed by rows over P; the result is
    `(x_Q − δ)·P⁻¹ mod q_i` with `δ ≡ x (mod P)` centred: `δ = ((x_P + ⌊P/2⌋) mod P) − ⌊P/2⌋`. -/
def modDown (nQ : Nat) (x : RQ) : RQ :=
  let qs := x.p.qs.take nQ
  let ps := x.p.qs.drop nQ
  let P := RPoly.prod ps
  let half := P / 2
  let prows := x.p.c.drop nQ
  let delta : List Int := (RPoly.transpose prows).map fun col =>
    let shifted := (ps.zip col).map fun (p, c) => (c + half) % p
    ((RPoly.crt ps shifted : Nat) : Int) - (half : Int)
  let rows := (qs.zip (x.p.c.take nQ)).map fun (q, row) =>
    let pinv := RPoly.modInv (P % q) q
    (row.zip delta).map fun (c, d) => ((((c : Int) - d) % (q : Int)).toNat * pinv) % q
  ⟨x.ci, { qs := qs, c := rows }⟩

/-- which encryption key the encryptor holds, as stored (NTT pulled back, Montgomery kept), full level -/
inductive Key where
  | none
  | sk (sQ : RQ)
  | pk (pk0Q pk0P pk1Q pk1P : RQ)

/-- the polynomials drawn during one `EncryptZero`, in call order.
    sk: `a` (uniform sampler), `e0` (xe).  pk: `u` (xs), `e0`, `e1` (xe). -/
structure Draws where
  a : RQ
  u : RQ
  e0 : RQ
  e1 : RQ

/-- `Encryptor.EncryptZero` on a `*Ciphertext` whose polynomials have `l+1` rows.
    `hasP` is `params.PCount() ≠ 0`, `p0` the first prime of P. `none` = panic (the key-less case is
    answered with an error by `encryptAt`). -/
def encryptZeroAt (key : Key) (hasP : Bool) (p0 : Nat) (l : Nat) (d : Draws) {μ : Type}
    (md : MetaData μ) (old : List RQ) : Option (List RQ) :=
  match key with
  | .none => none
  | .sk sQ => ezSk mont d.a d.e0 (sQ.atLevel l) md old
  | .pk pk0Q pk0P pk1Q pk1P =>
    if hasP then
      ezPk mont mont (extSmall [p0]) (modDown (l + 1)) d.u d.e0 d.e1
        (joinQP (pk0Q.atLevel l) (pk0P.atLevel 0)) (joinQP (pk1Q.atLevel l) (pk1P.atLevel 0)) md old
    else
      ezPkNoP mont d.u d.e0 d.e1 (pk0Q.atLevel l) (pk1Q.atLevel l) md old

/-- result of an API call -/
inductive Res (τ : Type) where
  | ok (v : τ)
  | err
  | panic

/-- `Encryptor.Encrypt(pt, ct)` with the level bookkeeping: `level = min(pt.Level(), ct.Level())`,
    `ct.Resize(ct.Degree(), level)`; the ring operations act on the first `level+1` rows of `pt`.
    `lc`, `lp` are the levels of `ct` and `pt`; the draws are made at `level`. -/
def encryptAt {μ : Type} (key : Key) (hasP : Bool) (p0 : Nat) (lc : Nat) (lp : Option Nat) (d : Draws)
    (pt : Option (Pt RQ μ)) (ct : Ct RQ μ) : Res (Nat × Ct RQ μ) :=
  match key with
  | .none => .err
  | _ =>
    if ct.value.isEmpty then .panic else
    let level := match lp with
      | some lp => min lp lc
      | none => lc
    let ct' : Ct RQ μ := { value := ct.value.map (·.atLevel level), md := ct.md }
    let pt' := pt.map fun pt => ({ value := pt.value.atLevel level, md := pt.md } : Pt RQ μ)
    match encrypt (encryptZeroAt key hasP p0 level d) id id pt' ct' with
    | some r => .ok (level, r)
    | none => .panic

/-- `Decryptor.Decrypt(ct, pt)`: `level = min(ct.Level(), pt.Level())`, output at `level`. -/
def decryptAt {μ : Type} (sQ : RQ) (lc lp : Nat) (ct : Ct RQ μ) : Res (Nat × Pt RQ μ) :=
  let level := min lc lp
  let ct' : Ct RQ μ := { value := ct.value.map (·.atLevel level), md := ct.md }
  match decrypt mont ct' (sQ.atLevel level) with
  | some r => .ok (level, r)
  | none => .panic

end RQ
end Lattigo.RLWE

/-! ## The integer ring `Z[X]/(X^N+1)` on coefficient lists (for the norm statements)

  Exact (no modulus) negacyclic product with the same index formula as `RPoly.rowMul`:
  `(a·b)_k = Σ_{i≤k} a_i b_{k-i} − Σ_{i>k} a_i b_{N+k-i}`. -/
namespace Lattigo.ZPoly

def coeff (a : List Int) (i : Nat) : Int := a.getD i 0

def mulTerm (b : List Int) (n k : Nat) (xi : Int × Nat) : Int :=
  if xi.2 ≤ k then xi.1 * coeff b (k - xi.2) else -(xi.1 * coeff b (n + k - xi.2))

def mulCoeff (a b : List Int) (k : Nat) : Int := ((a.zipIdx).map (mulTerm b a.length k)).sum

def mul (a b : List Int) : List Int := (List.range a.length).map (mulCoeff a b)

def add (a b : List Int) : List Int := List.zipWith (· + ·) a b

def sub (a b : List Int) : List Int := List.zipWith (· - ·) a b

def smul (k : Int) (a : List Int) : List Int := a.map (k * ·)

def norm1 (a : List Int) : Nat := (a.map Int.natAbs).sum

def normInf (a : List Int) : Nat := a.foldr (fun x m => max x.natAbs m) 0

end Lattigo.ZPoly
