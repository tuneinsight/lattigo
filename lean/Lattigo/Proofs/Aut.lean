/-
  C01: the NTT-domain automorphism through the index table of `ring.AutomorphismNTTIndex`.  The coefficient-domain
  automorphism `RPoly.rowAut` (the model of `ring.Automorphism`) — closed form, evaluation `(σ_g a)(r) = a(r^g)` —
  is in `Proofs/RowEval.lean`; its composition law in `Proofs/RPolyRing.lean` (`rowAut_comp`).
-/
import Lattigo.Proofs.AutIndex
import Lattigo.Proofs.RowEval
import Mathlib.Data.Fintype.EquivFin

namespace Lattigo.NTT
open Lattigo Lattigo.Gen Lattigo.RPolyRing

open Finset in
/-- `index[t] = autIdx (K+1) gal t` is the closed form of `ring.AutomorphismNTTIndex(N, 2N, gal)`
(`AutomorphismNTTIndex_eq`).  Reason: `NTT(a)[t] = a(ψ^{2·brv(t)+1})`, `(σ_gal a)(x) = a(x^gal)`, and
`gal·(2·brv(t)+1) ≡ 2·brv(index[t])+1 (mod 2N)`. -/
theorem nttStd_rowAut {T : Tables} {K : ℕ} (hT : Valid T K) [Fact T.q.Prime] (ψ : ZMod T.q) (hK : 1 ≤ K)
    (hψ : ψ ^ 2 ^ K = -1) (hF : ∀ j, j < 2 ^ K → rho T.q T.rootsF j = ψ ^ bitRev j K)
    (gal : ℕ) (hgal : gal % 2 = 1) (a : List ℕ) (hlen : a.length = 2 ^ K) (ha : ∀ x ∈ a, x < T.q) :
    nttStd T (RPoly.rowAut gal T.q a)
      = (List.range (2 ^ K)).map (fun t => (nttStd T a).getD (autIdx (K + 1) gal t) 0) := by
  have hq0 : 0 < T.q := hT.q_pos
  have hS := RowWF.aut hq0 Nat.one_le_two_pow gal (odd_coprime_two_pow hgal K) ⟨hlen, ha⟩
  have eA := nttStd_eval_pow hT ψ hK hψ hF a (hlen.trans hT.n_eq.symm) ha
  have eS := nttStd_eval_pow hT ψ hK hψ hF _ (hS.len.trans hT.n_eq.symm) hS.lt
  have hAlt : ∀ y ∈ nttStd T a, y < T.q := (nttStd_cast hT a ha).2
  have hψ2 : ψ ^ 2 ^ (K + 1) = 1 := by rw [pow_succ, pow_mul, hψ]; norm_num
  apply map_cast_inj (q := T.q) _ _ (nttStd_cast hT _ hS.lt).2
  · intro y hy
    obtain ⟨t, _, rfl⟩ := List.mem_map.1 hy
    by_cases hj : autIdx (K + 1) gal t < (nttStd T a).length
    · rw [List.getD_eq_getElem?_getD, List.getElem?_eq_getElem hj]
      exact hAlt _ (List.getElem_mem hj)
    · rw [List.getD_eq_getElem?_getD, List.getElem?_eq_none (by omega)]; exact hq0
  · rw [eS, List.map_map]
    apply List.map_congr_left
    intro t ht
    have hidx : autIdx (K + 1) gal t < 2 ^ K := by
      have := autIdx_lt (K + 1) gal t
      simpa using this
    -- right-hand side: entry `index[t]` of NTT(a), read in Z_q
    have hR : (((nttStd T a).getD (autIdx (K + 1) gal t) 0 : ℕ) : ZMod T.q)
        = ∑ i ∈ range (2 ^ K), ((a.getD i 0 : ℕ) : ZMod T.q)
            * (ψ ^ (2 * bitRev (autIdx (K + 1) gal t) K + 1)) ^ i := by
      rw [← getD_map_cast, eA, List.getD_eq_getElem?_getD,
        List.getElem?_eq_getElem (by simpa using hidx)]
      simp
    simp only [Function.comp]
    rw [hR]
    -- left-hand side: evaluation of σ_gal a at ω_t = ψ^(2·brv t + 1), a root of X^n + 1
    have hω : (ψ ^ (2 * bitRev t K + 1)) ^ 2 ^ K = -1 := by
      rw [← pow_mul, Nat.mul_comm, pow_mul, hψ]
      exact Odd.neg_one_pow ⟨bitRev t K, rfl⟩
    have hσ := evalRow_rowAut hq0 (ZMod.natCast_self T.q) Nat.one_le_two_pow hω gal (odd_coprime_two_pow hgal K)
      a hlen
    unfold evalRow at hσ
    rw [hσ]
    -- ω_t^gal = ψ^(2·brv(index t) + 1)
    have hexp := autIdx_exponent (K + 1) gal t (by omega) hgal
    simp only [Nat.add_sub_cancel] at hexp
    have : (ψ ^ (2 * bitRev t K + 1)) ^ gal = ψ ^ (2 * bitRev (autIdx (K + 1) gal t) K + 1) := by
      rw [hexp, ← pow_mul, Nat.mul_comm (2 * bitRev t K + 1) gal]
      conv_lhs => rw [← Nat.div_add_mod (gal * (2 * bitRev t K + 1)) (2 ^ (K + 1)), pow_add, pow_mul,
        hψ2, one_pow, one_mul]
    rw [this]

end Lattigo.NTT
