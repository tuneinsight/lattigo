/-
  C01: closed form of the REGENERATED `Gen.AutomorphismNTTIndex` (ring/automorphism.go) and of the
  primitive `bitRev64` (utils.BitReverse64) it uses.
-/
import Lattigo.Gen.Automorphism
import Lattigo.Proofs.NTTTables
import Lattigo.Proofs.BitLen
import Mathlib.Data.Nat.Bitwise

namespace Lattigo.NTT
open Lattigo Lattigo.Gen

theorem reverse64_eq (x : ℕ) : reverse64 x = bitRev x 64 := rfl

theorem bitRev_shift (x k : ℕ) : ∀ d : ℕ, bitRev x (k + d) / 2 ^ d = bitRev x k
  | 0 => by simp
  | d + 1 => by
    rw [← Nat.add_assoc, bitRev_succ_last, Nat.pow_succ, Nat.mul_comm (2 ^ d) 2,
      ← Nat.div_div_eq_div_mul]
    have : (bitRev x (k + d) * 2 + x / 2 ^ (k + d) % 2) / 2 = bitRev x (k + d) := by omega
    rw [this, bitRev_shift x k d]

theorem bitRev64_eq (x k : ℕ) (hk : k ≤ 64) : bitRev64 x k = bitRev x k := by
  unfold bitRev64 u64shr u64sub
  have h1 : (64 + W - k % W) % W = 64 - k := by unfold W; omega
  rw [h1, reverse64_eq]
  have := bitRev_shift x k (64 - k)
  rwa [show k + (64 - k) = 64 by omega] at this

/-- the mask `NthRoot − 1` (also for `NthRoot = 2^64`, where `2^64` itself is not a word) -/
theorem u64sub_two_pow_one (e : ℕ) (he : e ≤ 64) : u64sub (2 ^ e) 1 = 2 ^ e - 1 :=
  u64sub_one _ (Nat.two_pow_pos e) (W_eq ▸ Nat.pow_le_pow_right (by decide) he)

theorem odd_mul_mod_two_pow (gal b m : ℕ) (hm1 : 1 ≤ m) (hodd : gal % 2 = 1) :
    gal * (2 * b + 1) % 2 ^ m % 2 = 1 := by
  rw [Nat.mod_mod_of_dvd _ (dvd_pow_self 2 (by omega)), Nat.mul_mod, hodd]
  simp [Nat.add_mod]

/-- entry `i` of the index table in plain arithmetic (`L = m − 1 = logNthRoot`, `NthRoot = 2^m`) -/
def autIdx (m gal i : ℕ) : ℕ :=
  bitRev ((gal * (2 * bitRev i (m - 1) + 1) % 2 ^ m - 1) / 2) (m - 1)

theorem autIdx_entry (m gal i : ℕ) (hm1 : 1 ≤ m) (hm : m ≤ 64) (hodd : gal % 2 = 1) :
    bitRev64 (u64shr (u64sub (u64and (u64mul gal (u64add (u64mul 2 (bitRev64 i (m - 1))) 1))
        (u64sub (2 ^ m) 1)) 1) 1) (m - 1) = autIdx m gal i := by
  unfold autIdx
  rw [bitRev64_eq _ (m - 1) (by omega), bitRev64_eq i (m - 1) (by omega)]
  apply congrArg (fun t => bitRev t (m - 1))
  have hW : W = 2 ^ 64 := W_eq
  have hr := bitRev_lt (m - 1) i
  have h63 : 2 ^ (m - 1) ≤ 2 ^ 63 := Nat.pow_le_pow_right (by norm_num) (by omega)
  have hle : 2 ^ m ≤ 2 ^ 64 := Nat.pow_le_pow_right (by norm_num) hm
  have hpos : 0 < 2 ^ m := by positivity
  -- `2·brv(i) + 1 < 2^64`: the word operations are the plain ones
  have ht1 : u64add (u64mul 2 (bitRev i (m - 1))) 1 = 2 * bitRev i (m - 1) + 1 := by
    unfold u64add u64mul
    rw [Nat.mod_eq_of_lt (by rw [hW]; omega), Nat.mod_eq_of_lt (by rw [hW]; omega)]
  rw [ht1, u64sub_two_pow_one m hm]
  -- the mask `& (NthRoot − 1)` is `% 2^m`, also of the product that wrapped modulo `2^64` (`2^m ∣ 2^64`)
  have hmask : u64and (u64mul gal (2 * bitRev i (m - 1) + 1)) (2 ^ m - 1)
      = gal * (2 * bitRev i (m - 1) + 1) % 2 ^ m := by
    unfold u64and u64mul
    rw [Nat.and_two_pow_sub_one_eq_mod, hW, Nat.mod_mod_of_dvd _ (Nat.pow_dvd_pow 2 hm)]
  rw [hmask]
  -- the masked value `a` is odd, so `a − 1` does not borrow and `(a − 1) >> 1 = (a − 1)/2`
  have hoddv := odd_mul_mod_two_pow gal (bitRev i (m - 1)) m hm1 hodd
  have hlt : gal * (2 * bitRev i (m - 1) + 1) % 2 ^ m < 2 ^ m := Nat.mod_lt _ hpos
  generalize gal * (2 * bitRev i (m - 1) + 1) % 2 ^ m = a at *
  unfold u64shr u64sub
  rw [hW, show (1 : ℕ) % 2 ^ 64 = 1 by norm_num, show a + 2 ^ 64 - 1 = (a - 1) + 2 ^ 64 by omega,
    Nat.add_mod_right, Nat.mod_eq_of_lt (by omega)]

theorem AutomorphismNTTIndex_eq (K m gal : ℕ) (hK : K < 64) (hm1 : 1 ≤ m) (hm : m ≤ 64)
    (hodd : gal % 2 = 1) :
    AutomorphismNTTIndex (2 ^ K) (2 ^ m) gal = some ((List.range (2 ^ K)).map (autIdx m gal)) := by
  have hW : W = 2 ^ 64 := W_eq
  have hand : ∀ e : ℕ, e ≤ 64 → u64and (2 ^ e) (u64sub (2 ^ e) 1) = 0 := by
    intro e he
    rw [u64sub_two_pow_one e he]; unfold u64and
    rw [Nat.and_two_pow_sub_one_eq_mod]; simp
  have hlog : u64sub (len64 (u64sub (2 ^ m) 1)) 1 = m - 1 := by
    rw [u64sub_two_pow_one m hm, len64_two_pow_sub_one m]
    unfold u64sub; unfold W; omega
  unfold AutomorphismNTTIndex
  rw [hand K (by omega), hand m hm, hlog]
  simp only []
  refine congrArg some (List.map_congr_left ?_)
  intro i _
  exact autIdx_entry m gal i hm1 hm hodd

theorem autIdx_lt (m gal i : ℕ) : autIdx m gal i < 2 ^ (m - 1) := bitRev_lt _ _

/-- the index table transports the odd exponent `2·brv(i)+1` of the `i`-th evaluation point to that exponent times
    `GalEl` -/
theorem autIdx_exponent (m gal i : ℕ) (hm1 : 1 ≤ m) (hodd : gal % 2 = 1) :
    2 * bitRev (autIdx m gal i) (m - 1) + 1 = gal * (2 * bitRev i (m - 1) + 1) % 2 ^ m := by
  unfold autIdx
  have hoddv := odd_mul_mod_two_pow gal (bitRev i (m - 1)) m hm1 hodd
  have hlt : gal * (2 * bitRev i (m - 1) + 1) % 2 ^ m < 2 ^ m := Nat.mod_lt _ (by positivity)
  have h2m : 2 ^ m = 2 ^ (m - 1) * 2 := by rw [← pow_succ]; congr 1; omega
  generalize gal * (2 * bitRev i (m - 1) + 1) % 2 ^ m = a at *
  rw [bitRev_invol (m - 1) ((a - 1) / 2) (by omega)]
  omega

end Lattigo.NTT
