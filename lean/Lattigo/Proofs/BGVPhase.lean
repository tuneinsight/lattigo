/-
  The link between a register of the BGV/BFV evaluator model and the limbs of a ciphertext, `phase(ct) = T⁻¹·Δ·m + e`,
  as identities over any commutative ring (`Props/C05` states them under the names of the property, `Props/C05Ring`
  instantiates them at the RNS ring `WFPoly qs n`).  The scale-invariant tensoring is `phase_mul_si` of `Proofs/BGVTensor`.
-/
import Mathlib.Tactic.Ring
import Mathlib.Tactic.LinearCombination

namespace Lattigo.BGV

variable {α : Type} [CommRing α]

theorem phase_add_gen (Tinv Δ m1 m2 e1 e2 : α) :
    (Tinv * Δ * m1 + e1) + (Tinv * Δ * m2 + e2) = Tinv * Δ * (m1 + m2) + (e1 + e2) := by ring

theorem phase_mul_gen (T Tinv Δ1 Δ2 m1 m2 : α) (hT : T * Tinv = 1) :
    T * (Tinv * Δ1 * m1) * (Tinv * Δ2 * m2) = Tinv * (Δ1 * Δ2) * (m1 * m2) := by
  linear_combination (Tinv * Δ1 * Δ2 * m1 * m2) * hT

theorem phase_mul_noise_gen (T Tinv Δ1 Δ2 m1 m2 e1 e2 : α) (hT : T * Tinv = 1) :
    T * (Tinv * Δ1 * m1 + e1) * (Tinv * Δ2 * m2 + e2)
      = Tinv * (Δ1 * Δ2) * (m1 * m2) + (Δ1 * m1 * e2 + Δ2 * m2 * e1 + T * e1 * e2) := by
  linear_combination (Tinv * Δ1 * Δ2 * m1 * m2 + Δ1 * m1 * e2 + Δ2 * m2 * e1) * hT

theorem phase_match_gen (Tinv Δ0 Δ1 r0 r1 m m' : α) (h : r0 * Δ0 = r1 * Δ1) :
    r0 * (Tinv * Δ0 * m) + r1 * (Tinv * Δ1 * m') = Tinv * (r0 * Δ0) * (m + m') := by
  linear_combination (Tinv * m') * (-h)

end Lattigo.BGV
