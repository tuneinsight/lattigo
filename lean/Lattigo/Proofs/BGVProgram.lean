/-
  Every single-result call of `BGV.step` agrees, on the decoded messages, with a Z_t interpreter (`sem`); straight-line
  programs follow by induction on `run`, the invariant being that every recorded scale is invertible (`AllGood`).
-/
import Lattigo.Proofs.BGVStep

namespace Lattigo.BGV

/-- the Z_t interpreter of one operation on messages (`mo` = message of the accumulator) -/
def sem (t : Nat) (op : Op) (ma mb mo : List (ZMod t)) : List (ZMod t) :=
  match op with
  | .add => zadd ma mb
  | .sub => zsub ma mb
  | .mul | .mulRelin | .mulSI | .mulRelinSI => zmul ma mb
  | .mta | .mrta => zadd mo (zmul ma mb)
  | .rescale | .relin | .drop | .matchSL => ma

/-- what `step_sound` assumes of a call: the recorded scales of op0, of an element operand and of an existing receiver
    are invertible modulo `t` (`program_sound` maintains this as `AllGood`).  No field depends on `op`. -/
structure StepHyp (c : Cfg) (op : Op) (o : Out) (a : Reg) (b : Arg) : Prop where
  ha  : (a.scale : ZMod c.t) ≠ 0
  hb  : ∀ rb, b.reg? a = some rb → (rb.scale : ZMod c.t) ≠ 0
  hR  : ∀ R, o = .into R → (R.scale : ZMod c.t) ≠ 0

/-- In `outReg c o a 0 0` the degree and level arguments are dummies: `msg` reads only scale and slots. -/
theorem step_sound (c : Cfg) [Fact c.t.Prime] (ht : c.t < 2 ^ 64) (hQ : ∀ q ∈ c.qs, (q : ZMod c.t) ≠ 0)
    (op : Op) (o : Out) (a : Reg) (b : Arg) (r : Reg) (H : StepHyp c op o a b)
    (h : step c op o a b = .ok [r]) :
    msg c.t r = sem c.t op (msg c.t a) (argMsg c.t c.n a b) (msg c.t (outReg c o a 0 0))
    ∧ (r.scale : ZMod c.t) ≠ 0 := by
  cases op
  case add => exact addSub_sound c ht false o a b r H.ha H.hb h
  case sub => exact addSub_sound c ht true o a b r H.ha H.hb h
  case mul => exact mulOp_sound c ht hQ .mul o a b r H.ha H.hb h
  case mulRelin => exact mulOp_sound c ht hQ .mulRelin o a b r H.ha H.hb h
  case mulSI => exact mulOp_sound c ht hQ .mulSI o a b r H.ha H.hb h
  case mulRelinSI => exact mulOp_sound c ht hQ .mulRelinSI o a b r H.ha H.hb h
  case mta => exact accOp_sound c ht false o a b r H.ha H.hb H.hR h
  case mrta => exact accOp_sound c ht true o a b r H.ha H.hb H.hR h
  case rescale =>
    have := rescaleOp_sound c ht hQ o a r H.ha h
    exact ⟨this.1, this.2.1⟩
  case relin =>
    have := relinOp_sound c o a r h
    exact ⟨this.1, by rw [this.2.1]; exact H.ha⟩
  case drop =>
    cases b
    case k k =>
      have := dropOp_sound c.t a k r h
      exact ⟨this.1, by rw [this.2.1]; exact H.ha⟩
    all_goals cases h
  case matchSL =>
    cases b
    case reg rb => exact absurd h (by simp [step, matchOp])
    all_goals cases h

/-- message of an instruction's second operand, read from the message file -/
def argMsgZ (t n : Nat) (mf : List (List (ZMod t))) (ma : List (ZMod t)) (i : Instr) : List (ZMod t) :=
  match i.b with
  | .idx j => if j = i.a then ma else mf.getD j []
  | .imm b =>
    if b.isScalar then List.replicate ma.length ((b.scalar t : Nat) : ZMod t)
    else cz t ((b.vec? t n).getD [])

def dstOf (i : Instr) : Nat :=
  match i.out with
  | .new d => d
  | .inp => i.a
  | .into j => j

/-- the Z_t interpreter of one instruction -/
def execZ (t n : Nat) (mf : List (List (ZMod t))) (i : Instr) : List (List (ZMod t)) :=
  let ma := mf.getD i.a []
  mf.set (dstOf i) (sem t i.op ma (argMsgZ t n mf ma i) (mf.getD (dstOf i) []))

def runZ (t n : Nat) : List Instr → List (List (ZMod t)) → List (List (ZMod t))
  | [], mf => mf
  | i :: is, mf => runZ t n is (execZ t n mf i)

def AllGood (t : Nat) (rf : List Reg) : Prop := ∀ r ∈ rf, (r.scale : ZMod t) ≠ 0

theorem msg_length (t : Nat) (r : Reg) : (msg t r).length = r.slots.length := by simp [msg, cz]

theorem getD_map_msg (t : Nat) (rf : List Reg) (k : Nat) (a : Reg) (h : rf[k]? = some a) :
    (rf.map (msg t)).getD k [] = msg t a := by
  simp [List.getD_eq_getElem?_getD, List.getElem?_map, h]

theorem sem_mo (t : Nat) (op : Op) (ma mb mo mo' : List (ZMod t)) (h1 : op ≠ .mta) (h2 : op ≠ .mrta) :
    sem t op ma mb mo = sem t op ma mb mo' := by
  cases op <;> simp [sem] at h1 h2 ⊢

theorem arg_spec (c : Cfg) (rf : List Reg) (i : Instr) (a : Reg) (b : Arg) (hg : AllGood c.t rf)
    (ha : rf[i.a]? = some a) (hb : i.arg rf = some b) :
    (∀ rb, b.reg? a = some rb → (rb.scale : ZMod c.t) ≠ 0)
    ∧ argMsg c.t c.n a b = argMsgZ c.t c.n (rf.map (msg c.t)) (msg c.t a) i := by
  unfold Instr.arg at hb
  unfold argMsgZ
  cases hib : i.b with
  | idx j =>
    simp only [hib] at hb ⊢
    by_cases hj : j = i.a
    · rw [if_pos hj] at hb
      cases hb
      refine ⟨?_, ?_⟩
      · intro rb h; simp only [Arg.reg?] at h; cases h; exact hg a (List.mem_of_getElem? ha)
      · simp [argMsg, Arg.reg?, hj]
    · rw [if_neg hj] at hb
      cases hrj : rf[j]? with
      | none => simp [hrj] at hb
      | some rj =>
        simp only [hrj, Option.map_some] at hb
        cases hb
        refine ⟨?_, ?_⟩
        · intro rb h; simp only [Arg.reg?] at h; cases h; exact hg rj (List.mem_of_getElem? hrj)
        · simp [argMsg, Arg.reg?, hj, hrj]
  | imm b0 =>
    simp only [hib] at hb ⊢
    -- `Instr.arg` refuses an immediate `.reg` / `.self`; the other immediates are no elements
    cases b0
    case reg => cases hb
    case self => cases hb
    all_goals
      cases hb
      exact ⟨fun _ h => (by cases h), by simp [argMsg, Arg.reg?, msg_length]⟩

theorem outSpec_spec (rf : List Reg) (i : Instr) (o : Out) (dst : Nat) (ho : i.outSpec rf = some (o, dst)) :
    dst = dstOf i ∧ ∀ R, o = .into R → rf[dst]? = some R := by
  unfold Instr.outSpec at ho
  unfold dstOf
  cases hio : i.out with
  | new d => rw [hio] at ho; cases ho; exact ⟨rfl, nofun⟩
  | inp => rw [hio] at ho; cases ho; exact ⟨rfl, nofun⟩
  | into j =>
    simp only [hio] at ho
    cases hrj : rf[j]? with
    | none => rw [hrj] at ho; cases ho
    | some rj =>
      rw [hrj] at ho
      cases ho
      exact ⟨rfl, fun R h => by cases h; exact hrj⟩

theorem acc_into (c : Cfg) (op : Op) (o : Out) (a : Reg) (b : Arg) (r : Reg) (hop : op = .mta ∨ op = .mrta)
    (h : step c op o a b = .ok [r]) : ∃ R, o = .into R := by
  -- `accOp` matches on the receiver first: anything but `into R` is refused
  cases o with
  | into R => exact ⟨R, rfl⟩
  | new => rcases hop with rfl | rfl <;> cases h
  | inp => rcases hop with rfl | rfl <;> cases h

theorem exec_inv {c : Cfg} {rf rf' : List Reg} {i : Instr} (h : exec c rf i = .ok rf') :
    ∃ a b o dst r, rf[i.a]? = some a ∧ i.arg rf = some b ∧ i.outSpec rf = some (o, dst)
      ∧ guardOK c i.op o a b = true ∧ step c i.op o a b = .ok [r] ∧ rf' = rf.set dst r := by
  unfold exec at h
  cases ha : rf[i.a]? with
  | none => rw [ha] at h; cases h
  | some a =>
    cases hb : i.arg rf with
    | none => rw [ha, hb] at h; cases h
    | some b =>
      cases ho : i.outSpec rf with
      | none => rw [ha, hb, ho] at h; cases h
      | some od =>
        obtain ⟨o, dst⟩ := od
        simp only [ha, hb, ho] at h
        by_cases hgd : guardOK c i.op o a b = true
        · rw [if_pos hgd] at h
          cases hs : step c i.op o a b with
          | error e => rw [hs] at h; cases h
          | ok rs =>
            rcases rs with _ | ⟨r, _ | ⟨r2, rs⟩⟩
            · rw [hs] at h; cases h
            · simp only [hs] at h
              cases h
              exact ⟨a, b, o, dst, r, rfl, rfl, rfl, hgd, hs, rfl⟩
            · simp [hs] at h
        · rw [if_neg hgd] at h; cases h

theorem exec_sound (c : Cfg) [Fact c.t.Prime] (ht : c.t < 2 ^ 64) (hQ : ∀ q ∈ c.qs, (q : ZMod c.t) ≠ 0)
    (rf rf' : List Reg) (i : Instr) (hg : AllGood c.t rf)
    (h : exec c rf i = .ok rf') :
    rf'.map (msg c.t) = execZ c.t c.n (rf.map (msg c.t)) i ∧ AllGood c.t rf' := by
  obtain ⟨a, b, o, dst, r, ha, hb, ho, -, hs, rfl⟩ := exec_inv h
  obtain ⟨hbs, hbm⟩ := arg_spec c rf i a b hg ha hb
  have hdst := outSpec_spec rf i o dst ho
  have H : StepHyp c i.op o a b :=
    { ha := hg a (List.mem_of_getElem? ha)
      hb := hbs
      hR := fun R hR => hg R (List.mem_of_getElem? (hdst.2 R hR)) }
  obtain ⟨hm, hne⟩ := step_sound c ht hQ i.op o a b r H hs
  refine ⟨?_, ?_⟩
  · unfold execZ
    rw [List.map_set, hdst.1, getD_map_msg c.t rf i.a a ha, hm, hbm]
    congr 1
    by_cases hacc : i.op = .mta ∨ i.op = .mrta
    · -- accumulator: the output register is `into R`
      obtain ⟨R, hR⟩ := acc_into c i.op o a b r hacc hs
      subst hR
      rw [← hdst.1, getD_map_msg c.t rf dst R (hdst.2 R rfl)]
      rfl
    · exact sem_mo _ _ _ _ _ _ (fun h => hacc (Or.inl h)) (fun h => hacc (Or.inr h))
  · intro r' hr'
    rcases List.mem_or_eq_of_mem_set hr' with h1 | h1
    · exact hg r' h1
    · rw [h1]; exact hne

theorem program_sound (c : Cfg) [Fact c.t.Prime] (ht : c.t < 2 ^ 64) (hQ : ∀ q ∈ c.qs, (q : ZMod c.t) ≠ 0) :
    ∀ (prog : List Instr) (rf rf' : List Reg), AllGood c.t rf → run c prog rf = .ok rf' →
      rf'.map (msg c.t) = runZ c.t c.n prog (rf.map (msg c.t)) ∧ AllGood c.t rf' := by
  intro prog
  induction prog with
  | nil =>
    intro rf rf' hg h
    simp only [run] at h
    cases h
    exact ⟨rfl, hg⟩
  | cons i is ih =>
    intro rf rf' hg h
    simp only [run] at h
    cases he : exec c rf i with
    | error e => simp [he] at h
    | ok rf1 =>
      simp only [he] at h
      obtain ⟨hm, hg1⟩ := exec_sound c ht hQ rf rf1 i hg he
      obtain ⟨hm2, hg2⟩ := ih rf1 rf' hg1 h
      exact ⟨by rw [hm2, hm]; rfl, hg2⟩

end Lattigo.BGV
