/-
  Scale algebra of schemes/bgv/evaluator.go: `powMod`/`inv` are the modular power / Fermat inverse,
  and the pair returned by the `matchScalesBinary` loop (as coded) satisfies r0·s0 ≡ r1·s1 (mod t)
  with both r0, r1 invertible.
-/
import Lattigo.Model.BGV
import Lattigo.Proofs.NTTTables
import Mathlib.Data.ZMod.Basic
import Mathlib.FieldTheory.Finite.Basic
import Mathlib.Tactic.Ring
import Mathlib.Tactic.LinearCombination

namespace Lattigo.BGV

/-- the two transcriptions of `ring.ModExp` (`NTT.modExp`, used by the encoder model of C07, and `BGV.powMod`,
    used by the evaluator model) are the same function -/
theorem modExp_eq_powMod (x e m : Nat) : NTT.modExp x e m = powMod x e m := by
  have h : ∀ (f x e r : Nat), NTT.modExp.go m f x e r = powModAux f x e m r := by
    intro f
    induction f with
    | zero => intro x e r; rfl
    | succ f ih =>
      intro x e r
      unfold NTT.modExp.go powModAux
      by_cases h0 : e = 0
      · simp [h0]
      · simp only [h0, if_false]; exact ih _ _ _
  exact h 64 (x % m) e (1 % m)

theorem powMod_eq (x e m : Nat) (hm : 1 < m) (he : e < 2 ^ 64) : powMod x e m = x ^ e % m := by
  rw [← modExp_eq_powMod, NTT.modExp_spec x e m (by omega) he]

theorem powMod_lt (x e m : Nat) (hm : 1 < m) (he : e < 2 ^ 64) : powMod x e m < m := by
  rw [powMod_eq x e m hm he]; exact Nat.mod_lt _ (by omega)

variable {t : Nat}

theorem inv_cast [Fact t.Prime] (ht : t < 2 ^ 64) (s : Nat) (hs : (s : ZMod t) ≠ 0) :
    ((inv t s : Nat) : ZMod t) = (s : ZMod t)⁻¹ := by
  unfold inv
  rw [powMod_eq s (t - 2) t (Fact.out : t.Prime).one_lt (by omega), ZMod.natCast_mod, Nat.cast_pow,
    pow_sub_two_eq_inv hs]

theorem inv_ne [Fact t.Prime] (ht : t < 2 ^ 64) (s : Nat) (hs : (s : ZMod t) ≠ 0) :
    ((inv t s : Nat) : ZMod t) ≠ 0 := by
  rw [inv_cast ht s hs]
  exact inv_ne_zero hs

theorem inv_lt [Fact t.Prime] (ht : t < 2 ^ 64) (s : Nat) : inv t s < t := by
  have hp : t.Prime := Fact.out
  exact powMod_lt s (t - 2) t hp.one_lt (by omega)

theorem cred_cast (x : Nat) : ((cred x t : Nat) : ZMod t) = (x : ZMod t) := by
  unfold cred
  split
  · rename_i h
    rw [Nat.cast_sub h]; simp
  · rfl

/-- invariant of the extended-Euclid loop: both (a,b) and (A,B) solve `x·s0 = y·s1`, and so does (r0,r1) -/
structure MInv (t : Nat) (s0 s1 : ZMod t) (s : MState) : Prop where
  hab : (s.a : ZMod t) * s0 = (s.b : ZMod t) * s1
  hAB : (s.A : ZMod t) * s0 = (s.B : ZMod t) * s1
  hr  : (s.r0 : ZMod t) * s0 = (s.r1 : ZMod t) * s1
  hr0 : (s.r0 : ZMod t) ≠ 0

theorem matchStep_inv [Fact t.Prime] (s0 s1 : ZMod t) (s : MState) (h : MInv t s0 s1 s) :
    MInv t s0 s1 (matchStep t s) := by
  have hp : t.Prime := Fact.out
  have hA' : ((s.a % s.A : Nat) : ZMod t) = (s.a : ZMod t) - ((s.a / s.A : Nat) : ZMod t) * (s.A : ZMod t) := by
    have := Nat.div_add_mod s.a s.A
    have hc : ((s.A * (s.a / s.A) + s.a % s.A : Nat) : ZMod t) = (s.a : ZMod t) := by rw [this]
    push_cast at hc
    linear_combination hc
  have hB' : ((cred (t + s.b - s.B * (s.a / s.A) % t) t : Nat) : ZMod t)
      = (s.b : ZMod t) - (s.B : ZMod t) * ((s.a / s.A : Nat) : ZMod t) := by
    rw [cred_cast]
    have hle : s.B * (s.a / s.A) % t ≤ t + s.b :=
      le_trans (le_of_lt (Nat.mod_lt _ hp.pos)) (Nat.le_add_right _ _)
    rw [Nat.cast_sub hle]
    push_cast
    simp
  have hnew : ((s.a % s.A : Nat) : ZMod t) * s0
      = ((cred (t + s.b - s.B * (s.a / s.A) % t) t : Nat) : ZMod t) * s1 := by
    rw [hA', hB']
    linear_combination h.hab - ((s.a / s.A : Nat) : ZMod t) * h.hAB
  unfold matchStep
  refine ⟨h.hAB, hnew, ?_, ?_⟩
  · dsimp only
    split
    · exact hnew
    · exact h.hr
  · dsimp only
    split
    · rename_i hu
      exact ((ZMod.isUnit_iff_coprime _ t).mpr hu.2.1).ne_zero
    · exact h.hr0

theorem matchLoop_inv [Fact t.Prime] (s0 s1 : ZMod t) :
    ∀ (f : Nat) (s : MState), MInv t s0 s1 s → MInv t s0 s1 (matchLoop t f s) := by
  intro f
  induction f with
  | zero => intro s h; exact h
  | succ f ih =>
    intro s h
    unfold matchLoop
    split
    · exact h
    · exact ih _ (matchStep_inv s0 s1 s h)

theorem matchInit_inv [Fact t.Prime] (ht : t < 2 ^ 64) (s0 s1 : Nat)
    (h0 : (s0 : ZMod t) ≠ 0) (h1 : (s1 : ZMod t) ≠ 0) :
    MInv t (s0 : ZMod t) (s1 : ZMod t) (matchInit t s0 s1) := by
  have hA : ((inv t s0 * s1 % t : Nat) : ZMod t) = (s0 : ZMod t)⁻¹ * s1 := by
    rw [ZMod.natCast_mod, Nat.cast_mul, inv_cast ht s0 h0]
  have hAs : ((inv t s0 * s1 % t : Nat) : ZMod t) * (s0 : ZMod t) = ((1 : Nat) : ZMod t) * s1 := by
    rw [hA]; push_cast; field_simp
  unfold matchInit
  refine ⟨?_, hAs, hAs, ?_⟩
  · simp
  · dsimp only
    rw [hA]
    exact mul_ne_zero (inv_ne_zero h0) h1

/-- `MInv` holds after any number of rounds: the fuel 130 of `matchScales` plays no role here. -/
theorem matchScales_spec [Fact t.Prime] (ht : t < 2 ^ 64) (s0 s1 : Nat)
    (h0 : (s0 : ZMod t) ≠ 0) (h1 : (s1 : ZMod t) ≠ 0) :
    ((matchScales t s0 s1).1 : ZMod t) * s0 = ((matchScales t s0 s1).2 : ZMod t) * s1
    ∧ ((matchScales t s0 s1).1 : ZMod t) ≠ 0 ∧ ((matchScales t s0 s1).2 : ZMod t) ≠ 0 := by
  have h := matchLoop_inv (s0 : ZMod t) (s1 : ZMod t) 130 _ (matchInit_inv ht s0 s1 h0 h1)
  refine ⟨h.hr, h.hr0, ?_⟩
  intro hz
  have := h.hr
  unfold matchScales at hz
  dsimp only at hz
  rw [hz, zero_mul] at this
  exact (mul_ne_zero h.hr0 h0) this

theorem matchScales_spec_nat [Fact t.Prime] (ht : t < 2 ^ 64) (s0 s1 : Nat)
    (h0 : s0 % t ≠ 0) (h1 : s1 % t ≠ 0) :
    (matchScales t s0 s1).1 * s0 % t = (matchScales t s0 s1).2 * s1 % t := by
  have h0' : (s0 : ZMod t) ≠ 0 := by
    rw [Ne, ZMod.natCast_eq_zero_iff]; intro h; exact h0 (Nat.mod_eq_zero_of_dvd h)
  have h1' : (s1 : ZMod t) ≠ 0 := by
    rw [Ne, ZMod.natCast_eq_zero_iff]; intro h; exact h1 (Nat.mod_eq_zero_of_dvd h)
  have := (matchScales_spec ht s0 s1 h0' h1').1
  have h2 : (((matchScales t s0 s1).1 * s0 : Nat) : ZMod t) = (((matchScales t s0 s1).2 * s1 : Nat) : ZMod t) := by
    push_cast; exact this
  exact (ZMod.natCast_eq_natCast_iff' _ _ _).mp h2

end Lattigo.BGV
