/-
  Message-level soundness of the building blocks of `BGV.step`:
  with `msg r = slots r · (scale r)⁻¹ ∈ Z_t^n` (what `Decode` returns after decryption),
  every block computes the Z_t operation on messages.  The blocks are stated for `Enc` (raw slots = message · scale),
  which is closed under the slot operations; `Enc.sound` converts to `msg`.
-/
import Lattigo.Proofs.BGVScale
import Mathlib.Tactic.FieldSimp

namespace Lattigo.BGV

variable {t : Nat}

/-- slot vector as elements of `Z_t` -/
def cz (t : Nat) (l : List Nat) : List (ZMod t) := l.map fun (x : Nat) => (x : ZMod t)

/-- the decoded message of a register, in `Z_t` -/
def msg (t : Nat) (r : Reg) : List (ZMod t) := (cz t r.slots).map fun x => x * (r.scale : ZMod t)⁻¹

abbrev zadd (a b : List (ZMod t)) : List (ZMod t) := List.zipWith (fun x y => x + y) a b
abbrev zsub (a b : List (ZMod t)) : List (ZMod t) := List.zipWith (fun x y => x - y) a b
abbrev zmul (a b : List (ZMod t)) : List (ZMod t) := List.zipWith (fun x y => x * y) a b

theorem cz_vadd (a b : List Nat) : cz t (vadd t a b) = zadd (cz t a) (cz t b) := by
  simp only [cz, vadd, zadd, List.map_zipWith, List.zipWith_map_left, List.zipWith_map_right]
  congr 1; funext x y; simp [ZMod.natCast_mod]

theorem cz_vsub [NeZero t] (a b : List Nat) : cz t (vsub t a b) = zsub (cz t a) (cz t b) := by
  simp only [cz, vsub, zsub, List.map_zipWith, List.zipWith_map_left, List.zipWith_map_right]
  congr 1; funext x y
  have hle : y % t ≤ t := le_of_lt (Nat.mod_lt _ (Nat.pos_of_ne_zero (NeZero.ne t)))
  rw [ZMod.natCast_mod, Nat.cast_add, Nat.cast_sub hle, ZMod.natCast_mod]
  simp [sub_eq_add_neg]

theorem cz_vmul (a b : List Nat) : cz t (vmul t a b) = zmul (cz t a) (cz t b) := by
  simp only [cz, vmul, zmul, List.map_zipWith, List.zipWith_map_left, List.zipWith_map_right]
  congr 1; funext x y; simp [ZMod.natCast_mod]

theorem cz_vscale (c : Nat) (a : List Nat) : cz t (vscale t c a) = (cz t a).map fun x => x * (c : ZMod t) :=
  map_mulmod_cast t c a

theorem cz_replicate (n z : Nat) : cz t (List.replicate n z) = List.replicate n (z : ZMod t) := by
  simp [cz]

theorem cz_length (a : List Nat) : (cz t a).length = a.length := by simp [cz]

theorem zipWith_replicate_right {α β γ : Type} (f : α → β → γ) (l : List α) (z : β) (n : Nat)
    (hn : n = l.length) :
    List.zipWith f l (List.replicate n z) = l.map fun x => f x z := by
  subst hn
  induction l with
  | nil => rfl
  | cons x l ih => simp [List.replicate_succ, ih]

theorem ofInt_cast [NeZero t] (z : Int) : ((ofInt t z : Nat) : ZMod t) = (z : ZMod t) :=
  cast_emod_toNat (ZMod.natCast_self t) (NeZero.pos t) z

theorem mulmod_cast (x y : Nat) : ((x * y % t : Nat) : ZMod t) = (x : ZMod t) * (y : ZMod t) := by
  rw [ZMod.natCast_mod, Nat.cast_mul]

/-- `vadd` / `vsub`: a slot-wise operation on residues which, read in `Z_t`, is an operation `f` that commutes with
    scaling.  What `Add` and `Sub` do to the messages is proved once, for such an operation. -/
structure SlotOp (t : Nat) (vop : List Nat → List Nat → List Nat) (f : ZMod t → ZMod t → ZMod t) : Prop where
  cast : ∀ a b, cz t (vop a b) = List.zipWith f (cz t a) (cz t b)
  lin : ∀ x y c, f x y * c = f (x * c) (y * c)

theorem slotAdd : SlotOp t (vadd t) (fun x y => x + y) := ⟨cz_vadd, fun x y c => add_mul x y c⟩

theorem slotSub [NeZero t] : SlotOp t (vsub t) (fun x y => x - y) := ⟨cz_vsub, fun x y c => sub_mul x y c⟩

/-- `v` holds the message `m` at scale `σ`: slot-wise `v = m·σ` in `Z_t` — what the header of Model/BGV says of a
    register.  No inverse occurs, so every slot operation is a ring identity; `Enc.sound` reads the message off. -/
def Enc (t : Nat) (σ : ZMod t) (v : List Nat) (m : List (ZMod t)) : Prop := cz t v = m.map (· * σ)

theorem enc_msg [Fact t.Prime] (r : Reg) (hs : (r.scale : ZMod t) ≠ 0) : Enc t r.scale r.slots (msg t r) := by
  simp only [Enc, msg, List.map_map]
  conv_lhs => rw [← List.map_id (cz t r.slots)]
  exact List.map_congr_left fun x _ => by simp [inv_mul_cancel_right₀ hs]

/-- the conclusion of every soundness lemma of `BGVStep`, for a result register given by its fields -/
theorem Enc.sound [Fact t.Prime] {l d s : Nat} {v : List Nat} {σ : ZMod t} {m : List (ZMod t)} (h : Enc t σ v m)
    (hσ : (s : ZMod t) = σ) (hs : σ ≠ 0) :
    msg t ⟨l, d, s, v⟩ = m ∧ ((⟨l, d, s, v⟩ : Reg).scale : ZMod t) ≠ 0 := by
  subst hσ
  refine ⟨?_, hs⟩
  rw [msg, show cz t v = m.map (· * (s : ZMod t)) from h, List.map_map]
  conv_rhs => rw [← List.map_id m]
  exact List.map_congr_left fun x _ => by simp [mul_inv_cancel_right₀ hs]

section
variable {σ τ : ZMod t} {A B : List Nat} {ma mb : List (ZMod t)}

theorem Enc.length (h : Enc t σ A ma) : ma.length = A.length := by
  have := congrArg List.length h; simpa [cz] using this.symm

theorem Enc.op {vop f} (S : SlotOp t vop f) (ha : Enc t σ A ma) (hb : Enc t σ B mb) :
    Enc t σ (vop A B) (List.zipWith f ma mb) := by
  rw [Enc, S.cast, ha, hb, List.map_zipWith, List.zipWith_map_left, List.zipWith_map_right]
  congr 1; funext x y; exact (S.lin x y σ).symm

theorem Enc.addSub [NeZero t] (isSub : Bool) (ha : Enc t σ A ma) (hb : Enc t σ B mb) :
    Enc t σ (if isSub then vsub t A B else vadd t A B) (if isSub then zsub ma mb else zadd ma mb) := by
  cases isSub
  · exact Enc.op (vop := vadd t) slotAdd ha hb
  · exact Enc.op (vop := vsub t) slotSub ha hb

/-- used for scale matching, for `Rescale` and for the factor of `tensorSI` -/
theorem Enc.scaled (k : Nat) (ha : Enc t σ A ma) : Enc t (σ * k) (vscale t k A) ma := by
  rw [Enc, cz_vscale, ha, List.map_map]
  exact List.map_congr_left fun x _ => mul_assoc _ _ _

theorem Enc.mul (ha : Enc t σ A ma) (hb : Enc t τ B mb) : Enc t (σ * τ) (vmul t A B) (zmul ma mb) := by
  rw [Enc, cz_vmul, ha, hb]
  simp only [zmul, List.map_zipWith, List.zipWith_map_left, List.zipWith_map_right]
  congr 1; funext x y; ring

/-- scalar operand of a product; `τ ≠ σ` in `MulThenAdd`, where the scalar first takes the ratio of the two scales -/
theorem Enc.smul (z : ZMod t) (k : Nat) (ha : Enc t σ A ma) (h : (k : ZMod t) * σ = z * τ) :
    Enc t τ (vscale t k A) (zmul ma (List.replicate A.length z)) := by
  rw [Enc, cz_vscale, ha, ← ha.length]
  simp only [zmul]
  rw [zipWith_replicate_right _ _ _ _ rfl, List.map_map, List.map_map]
  exact List.map_congr_left fun x _ => by simp only [Function.comp]; linear_combination x * h

end

/-- a scalar operand of `Add`/`Sub`, encoded at scale `s` -/
theorem Enc.replicate (n z s : Nat) : Enc t s (List.replicate n (z * s % t)) (List.replicate n (z : ZMod t)) := by
  simp [Enc, cz_replicate]

/-- a vector operand (`Encode` at scale `s`, `ptOf`) -/
theorem Enc.const (s : Nat) (V : List Nat) : Enc t s (vscale t s V) (cz t V) := by
  rw [Enc, cz_vscale]

theorem msg_ptOf [Fact t.Prime] (l ps : Nat) (V : List Nat) (hps : (ps : ZMod t) ≠ 0) :
    msg t (ptOf l ps t V) = cz t V :=
  ((Enc.const ps V).sound (l := l) (d := 0) rfl hps).1

end Lattigo.BGV
