/-
  Soundness of `BGV.step` (message level): each public evaluator call computes the
  corresponding slot-wise Z_t operation on the decoded messages.
-/
import Lattigo.Proofs.BGVSound
import Lattigo.Proofs.ExceptOk

namespace Lattigo.BGV

/-- message of the second operand -/
def argMsg (t n : Nat) (a : Reg) (b : Arg) : List (ZMod t) :=
  match b.reg? a with
  | some rb => msg t rb
  | Option.none =>
    if b.isScalar then List.replicate a.slots.length ((b.scalar t : Nat) : ZMod t)
    else cz t ((b.vec? t n).getD [])

/-- the way every binary method reads its second operand: an element (`F`), a scalar (`G`), or a vector that
    `Encode` accepts (`H`); `Add`, `Sub`, the products and `MulThenAdd` are instances (by unfolding) -/
def onArg {α : Type} (t n : Nat) (a : Reg) (b : Arg) (F : Reg → α) (G : α) (H : List Nat → α) (E : α) : α :=
  match b.reg? a with
  | some rb => F rb
  | Option.none =>
    if b.isScalar then G
    else if b.isVec then (match b.vec? t n with | Option.none => E | some v => H v)
    else E

theorem onArg_ok {t n : Nat} {a : Reg} {b : Arg} {F : Reg → Res} {G : Res} {H : List Nat → Res} {r : List Reg}
    {P : List (ZMod t) → Prop} (h : onArg t n a b F G H (.error .err) = .ok r)
    (hF : ∀ rb, b.reg? a = some rb → F rb = .ok r → P (msg t rb))
    (hG : G = .ok r → P (List.replicate a.slots.length ((b.scalar t : Nat) : ZMod t)))
    (hH : ∀ v, H v = .ok r → P (cz t v)) : P (argMsg t n a b) := by
  unfold onArg at h
  unfold argMsg
  cases hreg : b.reg? a with
  | some rb => rw [hreg] at h; exact hF rb hreg h
  | none =>
    rw [hreg] at h
    dsimp only at h ⊢
    by_cases h1 : b.isScalar = true
    · rw [if_pos h1] at h ⊢; exact hG h
    rw [if_neg h1] at h ⊢
    by_cases h2 : b.isVec = true
    · rw [if_pos h2] at h
      cases hv : b.vec? t n with
      | none => rw [hv] at h; cases h
      | some v => rw [hv] at h; exact hH v h
    · rw [if_neg h2] at h; cases h

theorem addSub_sound (c : Cfg) [Fact c.t.Prime] (ht : c.t < 2 ^ 64) (isSub : Bool) (o : Out)
    (a : Reg) (b : Arg) (r : Reg)
    (ha : (a.scale : ZMod c.t) ≠ 0)
    (hb : ∀ rb, b.reg? a = some rb → (rb.scale : ZMod c.t) ≠ 0)
    (h : addSub c isSub o a b = .ok [r]) :
    msg c.t r = (if isSub then zsub (msg c.t a) (argMsg c.t c.n a b) else zadd (msg c.t a) (argMsg c.t c.n a b))
    ∧ (r.scale : ZMod c.t) ≠ 0 := by
  have : NeZero c.t := ⟨(Fact.out : c.t.Prime).ne_zero⟩
  have ea := enc_msg a ha
  change onArg c.t c.n a b _ _ _ _ = _ at h
  refine onArg_ok (P := fun m => msg c.t r = (if isSub then zsub (msg c.t a) m else zadd (msg c.t a) m)
    ∧ (r.scale : ZMod c.t) ≠ 0) h (fun rb hreg h => ?_) (fun h => ?_) (fun v h => ?_)
  · have hrb := hb rb hreg
    have hms := matchScales_spec ht a.scale rb.scale ha hrb
    dsimp only at h
    obtain ⟨-, h⟩ := ok_of_ite_err h
    by_cases h2 : a.scale = rb.scale
    · rw [if_pos h2] at h
      cases h
      exact (Enc.addSub isSub ea (h2 ▸ enc_msg rb hrb)).sound rfl ha
    · rw [if_neg h2] at h
      cases h
      -- `r0·ct0 ± r1·ct1` at scale `s0·r0 = s1·r1`
      exact (Enc.addSub isSub (ea.scaled _)
        (by rw [mul_comm, hms.1, mul_comm]; exact (enc_msg rb hrb).scaled _)).sound
        (mulmod_cast _ _) (mul_ne_zero ha hms.2.1)
  · cases h
    exact (Enc.addSub isSub ea (Enc.replicate _ _ _)).sound rfl ha
  · cases h
    exact (Enc.addSub isSub ea (Enc.const _ _)).sound rfl ha

/-! ### `Q_ℓ`, `t − Q_ℓ` and `q_ℓ` are units modulo the prime `t` when no prime of the chain is `≡ 0 (mod t)` -/

theorem foldl_qmod_cast (t : Nat) : ∀ (l : List Nat) (acc : Nat),
    ((l.foldl (fun acc q => acc * (q % t) % t) acc : Nat) : ZMod t) = (acc : ZMod t) * ((l.prod : Nat) : ZMod t)
  | [], acc => by simp
  | q :: l, acc => by
    simp only [List.foldl_cons, List.prod_cons]
    rw [foldl_qmod_cast t l, mulmod_cast, ZMod.natCast_mod]
    push_cast
    ring

theorem qModT_cast (c : Cfg) (l : Nat) :
    ((qModT c l : Nat) : ZMod c.t) = (((c.qs.take (l + 1)).prod : Nat) : ZMod c.t) := by
  unfold qModT
  rw [foldl_qmod_cast, ZMod.natCast_mod]
  simp

theorem qModT_spec (c : Cfg) [Fact c.t.Prime] (hQ : ∀ q ∈ c.qs, (q : ZMod c.t) ≠ 0) (l : Nat) :
    qModT c l < c.t ∧ ((qModT c l : Nat) : ZMod c.t) ≠ 0 := by
  have hp : 0 < c.t := (Fact.out : c.t.Prime).pos
  refine ⟨?_, ?_⟩
  · -- the fold ends with a reduction modulo `t`
    unfold qModT
    rcases List.eq_nil_or_concat (c.qs.take (l + 1)) with h | ⟨l', q, h⟩
    · rw [h]; exact Nat.mod_lt _ hp
    · rw [h, List.concat_eq_append, List.foldl_append]; exact Nat.mod_lt _ hp
  · rw [qModT_cast, Nat.cast_list_prod]
    refine List.prod_ne_zero fun h0 => ?_
    obtain ⟨q, hq, hq0⟩ := List.mem_map.1 h0
    exact hQ q (List.mem_of_mem_take hq) hq0

theorem tq_ne (c : Cfg) [Fact c.t.Prime] (hQ : ∀ q ∈ c.qs, (q : ZMod c.t) ≠ 0) (l : Nat) :
    ((c.t - qModT c l : Nat) : ZMod c.t) ≠ 0 := by
  obtain ⟨hlt, hne⟩ := qModT_spec c hQ l
  rw [Nat.cast_sub (le_of_lt hlt)]; simpa using hne

theorem qmod_ne (c : Cfg) [Fact c.t.Prime] (hQ : ∀ q ∈ c.qs, (q : ZMod c.t) ≠ 0) (l : Nat) :
    ((c.qs.getD l 1 % c.t : Nat) : ZMod c.t) ≠ 0 := by
  rw [ZMod.natCast_mod]
  exact ListLemmas.getD_forall (p := fun q : ℕ => (q : ZMod c.t) ≠ 0) (by rw [Nat.cast_one]; exact one_ne_zero) hQ l

theorem tensorStd_sound (c : Cfg) [Fact c.t.Prime] (relin : Bool) (a b : Reg) (lvl : Nat) (r : Reg)
    (ha : (a.scale : ZMod c.t) ≠ 0) (hb : (b.scale : ZMod c.t) ≠ 0)
    (h : tensorStd c relin a b lvl = .ok [r]) :
    msg c.t r = zmul (msg c.t a) (msg c.t b) ∧ (r.scale : ZMod c.t) ≠ 0 := by
  have e := (enc_msg a ha).mul (enc_msg b hb)
  unfold tensorStd at h
  obtain ⟨-, h⟩ := ok_of_ite_err h
  by_cases h1 : a.degree = 1 ∧ b.degree = 1
  · rw [if_pos h1] at h
    obtain ⟨-, h⟩ := ok_of_ite_err h
    cases h
    exact e.sound (mulmod_cast _ _) (mul_ne_zero ha hb)
  · rw [if_neg h1] at h
    cases h
    exact e.sound (mulmod_cast _ _) (mul_ne_zero ha hb)

theorem tensorSI_sound (c : Cfg) [Fact c.t.Prime] (ht : c.t < 2 ^ 64) (hQ : ∀ q ∈ c.qs, (q : ZMod c.t) ≠ 0)
    (relin : Bool) (a b : Reg) (lvl : Nat) (r : Reg)
    (ha : (a.scale : ZMod c.t) ≠ 0) (hb : (b.scale : ZMod c.t) ≠ 0)
    (h : tensorSI c relin a b lvl = .ok [r]) :
    msg c.t r = zmul (msg c.t a) (msg c.t b) ∧ (r.scale : ZMod c.t) ≠ 0 := by
  have hk := inv_ne ht _ (tq_ne c hQ lvl)
  unfold tensorSI at h
  obtain ⟨-, h⟩ := ok_of_ite_err h
  obtain ⟨-, h⟩ := ok_of_ite_err h
  obtain ⟨-, h⟩ := ok_of_ite_err h
  cases h
  -- the factor `k = (−Q_ℓ)⁻¹` enters the slots and the scale alike
  exact (((enc_msg a ha).mul (enc_msg b hb)).scaled _).sound (by rw [mulmod_cast, mulmod_cast])
    (mul_ne_zero (mul_ne_zero ha hb) hk)

theorem outReg_scale (c : Cfg) (o : Out) (a : Reg) (d l d' l' : Nat) :
    (outReg c o a d l).scale = (outReg c o a d' l').scale := by
  cases o <;> rfl

theorem mulScalar_sound (c : Cfg) [Fact c.t.Prime] (o : Out) (a : Reg) (z : Nat) (r : Reg)
    (ha : (a.scale : ZMod c.t) ≠ 0) (h : mulScalar c o a z = .ok [r]) :
    msg c.t r = zmul (msg c.t a) (List.replicate a.slots.length (z : ZMod c.t)) ∧ (r.scale : ZMod c.t) ≠ 0 := by
  unfold mulScalar at h
  cases h
  exact ((enc_msg a ha).smul (z : ZMod c.t) z rfl).sound rfl ha

theorem one_mod_ne (t : Nat) [Fact t.Prime] : ((1 % t : Nat) : ZMod t) ≠ 0 := by
  have hp : t.Prime := Fact.out
  rw [Nat.mod_eq_of_lt hp.one_lt]; simp

theorem ptOf_scale_ne {t : Nat} [Fact t.Prime] (l : Nat) (v : List Nat) :
    ((ptOf l (1 % t) t v).scale : ZMod t) ≠ 0 := by
  simp only [ptOf]; exact one_mod_ne t

theorem mulStd_sound (c : Cfg) [Fact c.t.Prime] (relin : Bool) (o : Out) (a : Reg) (b : Arg) (d : Nat) (r : Reg)
    (ha : (a.scale : ZMod c.t) ≠ 0) (hb : ∀ rb, b.reg? a = some rb → (rb.scale : ZMod c.t) ≠ 0)
    (h : mulStd c relin o a b d = .ok [r]) :
    msg c.t r = zmul (msg c.t a) (argMsg c.t c.n a b) ∧ (r.scale : ZMod c.t) ≠ 0 := by
  change onArg c.t c.n a b _ _ _ _ = _ at h
  refine onArg_ok (P := fun m => msg c.t r = zmul (msg c.t a) m ∧ (r.scale : ZMod c.t) ≠ 0) h
    (fun rb hreg h => ?_) (fun h => ?_) (fun v h => ?_)
  · obtain ⟨-, h⟩ := ok_of_ite_err h
    exact tensorStd_sound c relin a rb _ r ha (hb rb hreg) h
  · exact mulScalar_sound c o a _ r ha h
  · obtain ⟨-, h⟩ := ok_of_ite_err h
    rw [← msg_ptOf (min a.level (outReg c o a d a.level).level) (1 % c.t) v (one_mod_ne c.t)]
    exact tensorStd_sound c false a _ _ r ha (ptOf_scale_ne _ _) h

theorem mulInv_sound (c : Cfg) [Fact c.t.Prime] (ht : c.t < 2 ^ 64) (hQ : ∀ q ∈ c.qs, (q : ZMod c.t) ≠ 0)
    (relin : Bool) (o : Out) (a : Reg) (b : Arg) (d : Nat) (r : Reg)
    (ha : (a.scale : ZMod c.t) ≠ 0) (hb : ∀ rb, b.reg? a = some rb → (rb.scale : ZMod c.t) ≠ 0)
    (h : mulInv c relin o a b d = .ok [r]) :
    msg c.t r = zmul (msg c.t a) (argMsg c.t c.n a b) ∧ (r.scale : ZMod c.t) ≠ 0 := by
  change onArg c.t c.n a b _ _ _ _ = _ at h
  refine onArg_ok (P := fun m => msg c.t r = zmul (msg c.t a) m ∧ (r.scale : ZMod c.t) ≠ 0) h
    (fun rb hreg h => ?_) (fun h => ?_) (fun v h => ?_)
  · obtain ⟨-, h⟩ := ok_of_ite_err h
    by_cases hd : rb.degree = 0
    · rw [if_pos hd] at h
      exact tensorStd_sound c relin a rb _ r ha (hb rb hreg) h
    · rw [if_neg hd] at h
      exact tensorSI_sound c ht hQ relin a rb _ r ha (hb rb hreg) h
  · exact mulScalar_sound c o a _ r ha h
  · rw [← msg_ptOf (min a.level (outReg c o a d a.level).level) (1 % c.t) v (one_mod_ne c.t)]
    exact tensorStd_sound c relin a _ _ r ha (ptOf_scale_ne _ _) h

theorem mulOp_sound (c : Cfg) [Fact c.t.Prime] (ht : c.t < 2 ^ 64) (hQ : ∀ q ∈ c.qs, (q : ZMod c.t) ≠ 0)
    (op : Op) (o : Out) (a : Reg) (b : Arg) (r : Reg)
    (ha : (a.scale : ZMod c.t) ≠ 0) (hb : ∀ rb, b.reg? a = some rb → (rb.scale : ZMod c.t) ≠ 0)
    (h : mulOp c op o a b = .ok [r]) :
    msg c.t r = zmul (msg c.t a) (argMsg c.t c.n a b) ∧ (r.scale : ZMod c.t) ≠ 0 := by
  unfold mulOp at h
  cases op
  case mul =>
    dsimp only at h
    split_ifs at h
    · exact mulInv_sound c ht hQ _ o a b _ r ha hb h
    · exact mulStd_sound c _ o a b _ r ha hb h
  case mulRelin =>
    dsimp only at h
    by_cases hsi : c.si = true
    · rw [if_pos hsi] at h
      exact mulInv_sound c ht hQ _ o a b _ r ha hb h
    · rw [if_neg hsi] at h
      split_ifs at h
      · exact mulStd_sound c _ o a b _ r ha hb h
      · exact mulStd_sound c _ o a b _ r ha hb h
  case mulSI => exact mulInv_sound c ht hQ _ o a b _ r ha hb h
  case mulRelinSI => exact mulInv_sound c ht hQ _ o a b _ r ha hb h
  all_goals cases h

theorem accReg_sound (c : Cfg) [Fact c.t.Prime] (ht : c.t < 2 ^ 64) (relin : Bool) (a b R : Reg) (lvl : Nat)
    (r : Reg) (ha : (a.scale : ZMod c.t) ≠ 0) (hb : (b.scale : ZMod c.t) ≠ 0) (hR : (R.scale : ZMod c.t) ≠ 0)
    (h : accReg c relin a b R lvl = .ok [r]) :
    msg c.t r = zadd (msg c.t R) (zmul (msg c.t a) (msg c.t b)) ∧ (r.scale : ZMod c.t) ≠ 0 := by
  have htg : ((a.scale * b.scale % c.t : Nat) : ZMod c.t) ≠ 0 := by
    rw [mulmod_cast]; exact mul_ne_zero ha hb
  have hms := matchScales_spec ht (a.scale * b.scale % c.t) R.scale htg hR
  have eab := (enc_msg a ha).mul (enc_msg b hb)
  rw [← mulmod_cast] at eab
  unfold accReg at h
  obtain ⟨-, h⟩ := ok_of_ite_err h
  obtain ⟨-, h⟩ := ok_of_ite_err h
  by_cases heq : R.scale = a.scale * b.scale % c.t
  · rw [if_pos heq] at h
    cases h
    exact (Enc.op slotAdd (enc_msg R hR) (heq ▸ eab)).sound rfl hR
  · rw [if_neg heq] at h
    cases h
    exact (Enc.op slotAdd ((enc_msg R hR).scaled _)
      (by rw [mul_comm, ← hms.1, mul_comm]; exact eab.scaled _)).sound
      (mulmod_cast _ _) (mul_ne_zero hR hms.2.2)

theorem accScalar_cast {t : Nat} [Fact t.Prime] (ht : t < 2 ^ 64) (sa so z : Nat)
    (hsa : (sa : ZMod t) ≠ 0) :
    ((accScalar t sa so z : Nat) : ZMod t) = (z : ZMod t) * (sa : ZMod t)⁻¹ * so := by
  unfold accScalar
  split
  · rename_i h; rw [← h]; field_simp
  · rw [mulmod_cast, mulmod_cast, inv_cast ht _ hsa]; ring

theorem accPtScale_ne {t : Nat} [Fact t.Prime] (ht : t < 2 ^ 64) (sa so : Nat)
    (hsa : (sa : ZMod t) ≠ 0) (hso : (so : ZMod t) ≠ 0) : ((accPtScale t sa so : Nat) : ZMod t) ≠ 0 := by
  unfold accPtScale
  split
  · exact one_mod_ne t
  · rw [mulmod_cast, inv_cast ht _ hsa]; exact mul_ne_zero (inv_ne_zero hsa) hso

theorem accOp_sound (c : Cfg) [Fact c.t.Prime] (ht : c.t < 2 ^ 64) (relin : Bool) (o : Out) (a : Reg) (b : Arg)
    (r : Reg) (ha : (a.scale : ZMod c.t) ≠ 0)
    (hb : ∀ rb, b.reg? a = some rb → (rb.scale : ZMod c.t) ≠ 0)
    (hR : ∀ R, o = .into R → (R.scale : ZMod c.t) ≠ 0)
    (h : accOp c relin o a b = .ok [r]) :
    msg c.t r = zadd (msg c.t (outReg c o a 0 0)) (zmul (msg c.t a) (argMsg c.t c.n a b))
      ∧ (r.scale : ZMod c.t) ≠ 0 := by
  unfold accOp at h
  cases o with
  | new => cases h
  | inp => cases h
  | into R =>
    have hR' := hR R rfl
    change onArg c.t c.n a b _ _ _ _ = _ at h
    refine onArg_ok (P := fun m => msg c.t r = zadd (msg c.t R) (zmul (msg c.t a) m) ∧ (r.scale : ZMod c.t) ≠ 0) h
      (fun rb hreg h => ?_) (fun h => ?_) (fun v h => ?_)
    · obtain ⟨-, h⟩ := ok_of_ite_err h
      exact accReg_sound c ht _ a rb R _ r ha (hb rb hreg) hR' h
    · cases h
      exact (Enc.op slotAdd (enc_msg R hR') ((enc_msg a ha).smul _ _
        (by rw [accScalar_cast ht _ _ _ ha, mul_right_comm, inv_mul_cancel_right₀ ha]))).sound rfl hR'
    · have hps := accPtScale_ne ht a.scale R.scale ha hR'
      obtain ⟨-, h⟩ := ok_of_ite_err h
      rw [← msg_ptOf (min a.level R.level) _ v hps]
      exact accReg_sound c ht false a _ R _ r ha (by simpa [ptOf] using hps) hR' h

theorem rescaleOp_sound (c : Cfg) [Fact c.t.Prime] (ht : c.t < 2 ^ 64) (hQ : ∀ q ∈ c.qs, (q : ZMod c.t) ≠ 0)
    (o : Out) (a : Reg) (r : Reg) (ha : (a.scale : ZMod c.t) ≠ 0)
    (h : rescaleOp c o a = .ok [r]) :
    msg c.t r = msg c.t a ∧ (r.scale : ZMod c.t) ≠ 0
    ∧ (c.si = false → (r.scale : ZMod c.t) = (a.scale : ZMod c.t) * ((c.qs.getD a.level 1 : Nat) : ZMod c.t)⁻¹
        ∧ r.level + 1 = a.level ∧ r.degree = a.degree)
    ∧ (c.si = true → r = a) := by
  have hq := qmod_ne c hQ a.level
  have hqi := inv_ne ht _ hq
  unfold rescaleOp at h
  cases hsi : c.si
  case true =>
    rw [hsi, if_pos rfl] at h
    simp only [ok1] at h; cases h
    exact ⟨rfl, ha, fun h => absurd h (by decide), fun _ => rfl⟩
  rw [hsi] at h
  rw [if_neg Bool.false_ne_true] at h
  obtain ⟨h1, h⟩ := ok_of_ite_err h
  obtain ⟨-, h⟩ := ok_of_ite_err h
  cases h
  obtain ⟨hm, hu⟩ := ((enc_msg a ha).scaled _).sound (l := a.level - 1) (d := a.degree) (mulmod_cast _ _)
    (mul_ne_zero ha hqi)
  refine ⟨hm, hu, fun _ => ⟨?_, ?_, rfl⟩, fun h => absurd h (by decide)⟩
  · rw [mulmod_cast, inv_cast ht _ hq, ZMod.natCast_mod]
  · show a.level - 1 + 1 = a.level
    omega

theorem relinOp_sound (c : Cfg) (o : Out) (a : Reg) (r : Reg) (h : relinOp c o a = .ok [r]) :
    msg c.t r = msg c.t a ∧ r.scale = a.scale ∧ r.degree = 1 ∧ a.degree = 2 ∧ c.rlk = true := by
  unfold relinOp at h
  obtain ⟨h1, h⟩ := ok_of_ite_err h
  obtain ⟨h2, h⟩ := ok_of_ite_err h
  obtain ⟨-, h⟩ := ok_of_ite_err h
  cases h
  exact ⟨rfl, rfl, rfl, not_not.mp h1, not_not.mp h2⟩

theorem dropOp_sound (t : Nat) (a : Reg) (k : Nat) (r : Reg) (h : dropOp a k = .ok [r]) :
    msg t r = msg t a ∧ r.scale = a.scale ∧ r.level = a.level - k ∧ r.degree = a.degree ∧ k ≤ a.level := by
  unfold dropOp at h
  obtain ⟨h1, h⟩ := ok_of_ite_err h
  cases h
  exact ⟨rfl, rfl, rfl, rfl, by omega⟩

theorem matchOp_sound (c : Cfg) [Fact c.t.Prime] (ht : c.t < 2 ^ 64) (a b : Reg) (r1 r2 : Reg)
    (ha : (a.scale : ZMod c.t) ≠ 0) (hb : (b.scale : ZMod c.t) ≠ 0)
    (h : matchOp c a b = .ok [r1, r2]) :
    msg c.t r1 = msg c.t a ∧ msg c.t r2 = msg c.t b
    ∧ (r1.scale : ZMod c.t) = (r2.scale : ZMod c.t) ∧ (r1.scale : ZMod c.t) ≠ 0 ∧ (r2.scale : ZMod c.t) ≠ 0
    ∧ r1.level = min a.level b.level ∧ r2.level = min a.level b.level := by
  have hms := matchScales_spec ht a.scale b.scale ha hb
  unfold matchOp at h
  simp only at h
  cases h
  obtain ⟨m1, u1⟩ := ((enc_msg a ha).scaled _).sound (mulmod_cast _ _) (mul_ne_zero ha hms.2.1)
  obtain ⟨m2, u2⟩ := ((enc_msg b hb).scaled _).sound (mulmod_cast _ _) (mul_ne_zero hb hms.2.2)
  exact ⟨m1, m2, by rw [mulmod_cast, mulmod_cast, mul_comm, hms.1, mul_comm], u1, u2, rfl, rfl⟩

end Lattigo.BGV
