/-
  Scale-invariant (BFV-style) tensoring, `tensorScaleInvariant` of schemes/bgv/evaluator.go: `round(t/Q · ct0 ⊗ ct1)`.

  * `kSI_spec`: the factor the model (and `MulScaleInvariant`, evaluator.go:1045) puts on the scale,
    `k = (t − Q_ℓ mod t)⁻¹ mod t`, satisfies `t ∣ 1 + k·Q_ℓ`; hence `T⁻¹ mod Q_ℓ = (1 + k·Q_ℓ)/t` as an integer.
  * `phase_mul_si`: over ANY commutative ring (in particular `Z[X]/(X^N+1)`), with `T·T⁻¹ = 1 + k·Q`:
    the quotient by `Q` is a `T⁻¹`-encoding of `k·x₀x₁` — the factor `k` the model multiplies slots and scale by —
    with noise `k(x₀e₁ + x₁e₀)`, and the remainder is what rounding turns into at most `‖rem‖/Q + 1/2` per coefficient
    (`round_div_error`, `floor_div_error`).
-/
import Lattigo.Proofs.BGVStep
import Mathlib.Tactic.Ring
import Mathlib.Tactic.LinearCombination
import Mathlib.Tactic.Linarith

namespace Lattigo.BGV

theorem kSI_spec (c : Cfg) [Fact c.t.Prime] (ht : c.t < 2 ^ 64) (hQ : ∀ q ∈ c.qs, (q : ZMod c.t) ≠ 0) (l : Nat) :
    c.t ∣ 1 + inv c.t (c.t - qModT c l) * (c.qs.take (l + 1)).prod := by
  obtain ⟨hlt, hne⟩ := qModT_spec c hQ l
  have hcast := tq_ne c hQ l
  have hk := inv_cast ht _ hcast
  rw [← ZMod.natCast_eq_zero_iff, Nat.cast_add, Nat.cast_one, Nat.cast_mul, hk, ← qModT_cast,
    Nat.cast_sub (le_of_lt hlt)]
  have hne' : ((c.t : ZMod c.t) - (qModT c l : ZMod c.t)) ≠ 0 := by
    rw [← Nat.cast_sub (le_of_lt hlt)]; exact hcast
  simp only [ZMod.natCast_self, zero_sub] at hne' ⊢
  field_simp
  ring

theorem phase_mul_si {α : Type} [CommRing α] (T Tinv k Q x0 x1 e0 e1 : α) (h : T * Tinv = 1 + k * Q) :
    T * (Tinv * x0 + e0) * (Tinv * x1 + e1)
      = Q * (Tinv * (k * (x0 * x1)) + k * (x0 * e1 + x1 * e0))
        + (Tinv * (x0 * x1) + (x0 * e1 + x1 * e0) + T * e0 * e1) := by
  linear_combination (Tinv * x0 * x1 + x0 * e1 + x1 * e0) * h

theorem floor_div_error (A B R Q : ℤ) (hQ : 0 < Q) (h : A = Q * B + R) : A / Q = B + R / Q := by
  rw [h, add_comm, Int.add_mul_ediv_left _ _ (ne_of_gt hQ), add_comm]

/-- `|round(A/Q) − B| ≤ M/Q + 1/2` for the rounding division `⌊(2A + Q)/(2Q)⌋`, multiplied out by `2Q` -/
theorem round_div_error (A B R Q M : ℤ) (hQ : 0 < Q) (h : A = Q * B + R) (hlo : -M ≤ R) (hhi : R ≤ M) :
    -(2 * M + Q) ≤ 2 * Q * ((2 * A + Q) / (2 * Q) - B) ∧ 2 * Q * ((2 * A + Q) / (2 * Q) - B) ≤ 2 * M + Q := by
  have h2Q : 0 < 2 * Q := by linarith
  have hdm := Int.mul_ediv_add_emod (2 * A + Q) (2 * Q)
  have hnn := Int.emod_nonneg (2 * A + Q) (ne_of_gt h2Q)
  have hlt := Int.emod_lt_of_pos (2 * A + Q) h2Q
  have key : 2 * Q * ((2 * A + Q) / (2 * Q) - B) = 2 * R + Q - (2 * A + Q) % (2 * Q) := by
    rw [h] at hdm ⊢
    linarith
  rw [key]
  constructor <;> linarith

end Lattigo.BGV
