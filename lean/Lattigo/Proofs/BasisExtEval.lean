import Lattigo.Proofs.BasisExtNTT

/-!
  # `rlwe.Evaluator.ModDown`: the four (input domain, output domain) combinations compute ONE quotient (C02)

  `BasisExt.evalModDown` is the twin of `Evaluator.ModDown(levelQ, levelP, ctQP, ct)` (core/rlwe/evaluator_gadget_product.go)
  on one polynomial, for distinct buffers.  With a special modulus, whatever the flags `(ctQP.IsNTT, ct.IsNTT)`, the output
  rows read in the coefficient domain ARE the rows of `modDownQPtoQ` on the coefficient-domain rows of `X`, limb for limb
  and for every value of the IEEE index; `modDownQPtoQ_limbs` / `modDownQPtoQ_err_le_one` then say these are the rounded
  quotient `⌊(x + ⌊P/2⌋)/P⌋` up to an error of at most one.  `N ≥ 16`: the NTT → coefficient branch uses `INTTLazy`, which
  is `INTT` only there; the NTT → NTT branch is `modDownQPtoQNTT_eq`.  Without special modulus (`levelP = none`, Go's `-1`)
  the call is a copy / change of domain, in the direction of repair C02-5 of /repo.
-/

namespace Lattigo.BasisExt
open Lattigo Lattigo.Gen Lattigo.Scaling Lattigo.NTT

/-- the rows of the integer vector `X` in the NTT domain (bit-exact reduced forward transforms) -/
def nttDomRows (T : Tabs) (Q : List ℕ) (level : ℕ) (X : List ℕ) : Rows :=
  (List.range (level + 1)).map fun i => nttStd (tab T i) (X.map (· % Q.getD i 0))

/-- the rows of `X` in the domain given by the flag -/
def domRows (ntt : Bool) (T : Tabs) (Q : List ℕ) (level : ℕ) (X : List ℕ) : Rows :=
  if ntt then nttDomRows T Q level X else coeffRows Q level X

/-- read a row of the output in the coefficient domain -/
def readCoeff (ntt : Bool) (T : Tables) (r : List ℕ) : List ℕ := if ntt then inttStd T r else r

theorem nttDomRows_row (T : Tabs) (Q : List ℕ) (level : ℕ) (X : List ℕ) (i : ℕ) (hi : i ≤ level) :
    row (nttDomRows T Q level X) i = nttStd (tab T i) (X.map (· % Q.getD i 0)) :=
  row_map_range _ _ i (Nat.lt_succ_of_le hi)

theorem evalModDown_domains (TQ TP : Tabs) (Q P : List ℕ) (levelQ levelP K : ℕ) (hK : 4 ≤ K)
    (hlQ : levelQ < Q.length) (hlP : levelP < P.length)
    (hTQ : ∀ i, i ≤ levelQ → Valid (tab TQ i) K ∧ (tab TQ i).q = Q.getD i 0)
    (hTP : ∀ j, j ≤ levelP → Valid (tab TP j) K ∧ (tab TP j).q = P.getD j 0)
    (hCP : Chain (P.take (levelP + 1))) (k : ℕ) (hk : (P.take (levelP + 1)).sum ≤ k * W)
    (hTgt : Target Q (k + 4)) (X : List ℕ) (hX : X.length = 2 ^ K) (qpNTT ctNTT : Bool)
    (i : ℕ) (hi : i ≤ levelQ) :
    readCoeff ctNTT (tab TQ i)
        (row (evalModDown xfStd TQ TP Q P levelQ (some levelP) qpNTT ctNTT
          (domRows qpNTT TQ Q levelQ X) (domRows qpNTT TP P levelP X)).1 i)
      = row (modDownQPtoQ Q P levelQ levelP (coeffRows Q levelQ X) (coeffRows P levelP X)) i := by
  obtain ⟨hv, hq⟩ := hTQ i hi
  have hL : LaneOK (P.take (levelP + 1)) Q i k 2 :=
    .of_target (Nat.succ_pos _) hlP hCP hk (hTgt.mono (Nat.add_le_add_left (by decide) k)) hlQ hi
  have hrow := modDownQPtoQ_row hlP hL (coeffRows_row Q levelQ X) (coeffRows_row P levelP X) hi
  have hback : inttStd (tab TQ i)
      (nttStd (tab TQ i) (row (modDownQPtoQ Q P levelQ levelP (coeffRows Q levelQ X) (coeffRows P levelP X)) i))
      = row (modDownQPtoQ Q P levelQ levelP (coeffRows Q levelQ X) (coeffRows P levelP X)) i :=
    inttStd_nttStd hv _ (by rw [hrow, List.length_map, hX, hv.n_eq])
      (by rw [hrow, hq]; exact List.forall_mem_map.2 fun x _ => divFloorRes_lt _ _ _ _ hL.prime.pos)
  cases qpNTT <;> cases ctNTT
  · -- coefficient → coefficient
    rfl
  · -- coefficient → NTT
    show inttStd (tab TQ i) (row (nttRowsX xfStd TQ levelQ _) i) = _
    unfold nttRowsX
    rw [row_map_range _ _ i (Nat.lt_succ_of_le hi)]
    exact hback
  · -- NTT → coefficient: `INTTLazy` in place, then `ModDownQPtoQ`
    show row (modDownQPtoQ Q P levelQ levelP
        ((List.range (levelQ + 1)).map fun i => inttStdLazy (tab TQ i) (row (nttDomRows TQ Q levelQ X) i))
        ((List.range (levelP + 1)).map fun j => inttStdLazy (tab TP j) (row (nttDomRows TP P levelP X) j))) i = _
    rw [inttLazy_rows TQ Q levelQ K hK hTQ X hX _ (nttDomRows_row TQ Q levelQ X),
      inttLazy_rows TP P levelP K hK hTP X hX _ (nttDomRows_row TP P levelP X)]
  · -- NTT → NTT: `ModDownQPtoQNTT`
    show inttStd (tab TQ i) (row (modDownQPtoQNTT TQ TP Q P levelQ levelP (nttDomRows TQ Q levelQ X)
        (nttDomRows TP P levelP X)) i) = _
    rw [modDownQPtoQNTT_eq TQ TP Q P levelQ levelP K hK hlQ hlP hTQ hTP hCP k hk hTgt _ _ X hX
      (fun i hi => nttDomRows_row TQ Q levelQ X i hi) (fun j hj => nttDomRows_row TP P levelP X j hj) i hi]
    exact hback

theorem evalModDown_noP (TQ TP : Tabs) (Q P : List ℕ) (levelQ K : ℕ)
    (hTQ : ∀ i, i ≤ levelQ → Valid (tab TQ i) K ∧ (tab TQ i).q = Q.getD i 0)
    (X : List ℕ) (hX : X.length = 2 ^ K) (qpNTT ctNTT : Bool) (pP : Rows) (i : ℕ) (hi : i ≤ levelQ) :
    readCoeff ctNTT (tab TQ i)
        (row (evalModDown xfStd TQ TP Q P levelQ none qpNTT ctNTT (domRows qpNTT TQ Q levelQ X) pP).1 i)
      = X.map (· % Q.getD i 0) := by
  obtain ⟨hv, hq⟩ := hTQ i hi
  have hback : inttStd (tab TQ i) (nttStd (tab TQ i) (X.map (· % Q.getD i 0))) = X.map (· % Q.getD i 0) := by
    exact intt_ntt_mod hv _ hq X hX id
  have hi1 : i < levelQ + 1 := Nat.lt_succ_of_le hi
  cases qpNTT <;> cases ctNTT
  · show row ((coeffRows Q levelQ X).take (levelQ + 1)) i = _
    rw [row_take _ _ _ hi1, coeffRows_row Q levelQ X i hi]
  · show inttStd (tab TQ i) (row (nttRowsX xfStd TQ levelQ (coeffRows Q levelQ X)) i) = _
    unfold nttRowsX
    rw [row_map_range _ _ i hi1, coeffRows_row Q levelQ X i hi]
    exact hback
  · show row (inttRowsX xfStd TQ levelQ (nttDomRows TQ Q levelQ X)) i = _
    unfold inttRowsX
    rw [row_map_range _ _ i hi1, nttDomRows_row TQ Q levelQ X i hi]
    exact hback
  · show inttStd (tab TQ i) (row ((nttDomRows TQ Q levelQ X).take (levelQ + 1)) i) = _
    rw [row_take _ _ _ hi1, nttDomRows_row TQ Q levelQ X i hi]
    exact hback

end Lattigo.BasisExt

#print axioms Lattigo.BasisExt.evalModDown_domains
#print axioms Lattigo.BasisExt.evalModDown_noP
