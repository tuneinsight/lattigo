/-
  The HPS correction index (https://eprint.iacr.org/2018/117) over ℚ: `Σ y_i/q_i = v + x/Q` with `v = hpsV` and
  `0 ≤ x/Q < 1`, so `v = ⌊Σ y_i/q_i⌋`; an approximation `t` of the sum within `1` floors to `v − 1`, `v` or `v + 1`, and
  within `1/4` to `v` when `Q/4 ≤ x < 3Q/4`.

  The IEEE-754 error of the Go float computation (`vi += float64(y)/float64(q)`) is NOT modelled:
  `t` stands for the float sum as a rational and the bound on `|t − Σ y_i/q_i|` is a hypothesis.
-/
import Mathlib.Algebra.Order.Floor.Semifield
import Mathlib.Data.Rat.Floor
import Mathlib.Tactic.FieldSimp
import Mathlib.Tactic.Positivity
import Lattigo.Proofs.BasisExtInt

namespace Lattigo.BasisExt
open Lattigo Lattigo.Scaling

/-- `Σ y_i/q_i` over ℚ -/
abbrev exactSum (qs ys : List Nat) : ℚ := (List.zipWith (fun (qi yi : Nat) => (yi : ℚ) / (qi : ℚ)) qs ys).sum

theorem sumQ_rat (Q : Nat) : ∀ (l ys : List Nat), (∀ q ∈ l, 0 < q ∧ q ∣ Q) →
    ((sumQ Q l ys : Nat) : ℚ) = (Q : ℚ) * exactSum l ys
  | [], _, _ => by simp [exactSum]
  | _ :: _, [], _ => by simp [exactSum]
  | q :: l, y :: ys, h => by
    obtain ⟨hq, hd⟩ := h q (List.mem_cons_self ..)
    rw [sumQ_cons, exactSum, List.zipWith_cons_cons, List.sum_cons, Nat.cast_add, Nat.cast_mul,
      Nat.cast_div hd (Nat.cast_ne_zero.2 hq.ne'), sumQ_rat Q l ys (fun a ha => h a (List.mem_cons_of_mem _ ha)), exactSum]
    ring

theorem hps_v_rat (qs ys : List Nat) (hpos : ∀ q ∈ qs, 0 < q) :
    ((hpsSum qs ys : Nat) : ℚ) / (prodN qs : ℚ)
      = (List.zipWith (fun (qi yi : Nat) => (yi : ℚ) / (qi : ℚ)) qs ys).sum := by
  have hQ : ((prodN qs : Nat) : ℚ) ≠ 0 := by
    exact_mod_cast (Nat.pos_iff_ne_zero.mp (prodN_pos qs hpos))
  rw [hpsSum_eq_sumQ, sumQ_rat (prodN qs) qs ys (fun q hq => ⟨hpos q hq, dvd_prodN_of_mem qs q hq⟩)]
  unfold exactSum
  field_simp

example : ((hpsSum [3, 5, 7] [2, 2, 3] : Nat) : ℚ) / (prodN [3, 5, 7] : ℚ) = 157 / 105 := by
  have : hpsSum [3, 5, 7] [2, 2, 3] = 157 ∧ prodN [3, 5, 7] = 105 := by decide
  rw [this.1, this.2]; norm_num
example : (List.zipWith (fun (qi yi : Nat) => (yi : ℚ) / (qi : ℚ)) [3, 5, 7] [2, 2, 3]).sum = 157 / 105 := by
  norm_num

theorem floor_exact_of_quarter (v : ℕ) (f t : ℚ) (hf1 : 1 / 4 ≤ f) (hf2 : f < 3 / 4)
    (ht : |t - (v + f)| < 1 / 4) : ⌊t⌋₊ = v := by
  rcases abs_lt.mp ht with ⟨h1, h2⟩
  have hvt : (v : ℚ) ≤ t := by linarith only [h1, hf1]
  rw [Nat.floor_eq_iff ((Nat.cast_nonneg v).trans hvt)]
  exact ⟨hvt, by linarith only [h2, hf2]⟩

example : |(13 / 10 : ℚ) - ((1 : ℕ) + 1 / 2)| < 1 / 4 := by norm_num [abs_lt]

theorem floor_off_by_one (v : ℕ) (f t : ℚ) (hf0 : 0 ≤ f) (hf1 : f < 1)
    (ht : |t - (v + f)| < 1) : ⌊t⌋₊ = v ∨ ⌊t⌋₊ = v + 1 ∨ ⌊t⌋₊ + 1 = v := by
  rcases abs_lt.mp ht with ⟨h1, h2⟩
  have hup : ⌊t⌋₊ < v + 2 := (Nat.floor_lt' (Nat.succ_ne_zero _)).2 (by push_cast; linarith only [h2, hf1])
  have hlo : v ≤ ⌊t⌋₊ + 1 := by
    cases v with
    | zero => exact Nat.zero_le _
    | succ w => exact Nat.succ_le_succ (Nat.le_floor (by push_cast at h1; linarith only [h1, hf0]))
  omega

example : |(21 / 10 : ℚ) - ((1 : ℕ) + 1 / 2)| < 1 := by norm_num [abs_lt]

theorem exactSum_eq (qs ys : List Nat) (x : Nat)
    (hc : qs.Pairwise Nat.Coprime) (hpos : ∀ q ∈ qs, 0 < q) (hx : x < prodN qs)
    (hy : HY qs x ys) :
    (List.zipWith (fun (qi yi : Nat) => (yi : ℚ) / (qi : ℚ)) qs ys).sum
      = (hpsV qs ys : ℚ) + (x : ℚ) / (prodN qs : ℚ) := by
  have hQ : ((prodN qs : Nat) : ℚ) ≠ 0 := by
    exact_mod_cast (Nat.pos_iff_ne_zero.mp (prodN_pos qs hpos))
  rw [← hps_v_rat qs ys hpos, hps_sum_eq qs ys x hc hpos hx hy]
  push_cast
  field_simp
  ring

/-- `Q/4 ≤ x < 3Q/4` is what `|x_c| < Q/4` gives for the shifted input `x = x_c + ⌊Q/2⌋` the code feeds in -/
theorem modUp_centered_exact (qs ys : List Nat) (x : Nat) (t : ℚ)
    (hc : qs.Pairwise Nat.Coprime) (hpos : ∀ q ∈ qs, 0 < q) (hx : x < prodN qs)
    (hy : List.Forall₂ (fun qi yi => yi < qi ∧ (yi * qStar qs qi) % qi = x % qi) qs ys)
    (hlo : prodN qs ≤ 4 * x) (hhi : 4 * x < 3 * prodN qs)
    (ht : |t - (List.zipWith (fun (qi yi : Nat) => (yi : ℚ) / (qi : ℚ)) qs ys).sum| < 1 / 4) :
    ⌊t⌋₊ = hpsV qs ys := by
  have hQ : (0 : ℚ) < (prodN qs : ℚ) := by exact_mod_cast prodN_pos qs hpos
  rw [exactSum_eq qs ys x hc hpos hx hy] at ht
  have hlo' : ((prodN qs : Nat) : ℚ) ≤ 4 * (x : ℚ) := by exact_mod_cast hlo
  have hhi' : 4 * (x : ℚ) < 3 * ((prodN qs : Nat) : ℚ) := by exact_mod_cast hhi
  apply floor_exact_of_quarter _ ((x : ℚ) / (prodN qs : ℚ)) t _ _ ht
  · rw [le_div_iff₀ hQ]; linarith only [hlo']
  · rw [div_lt_iff₀ hQ]; linarith only [hhi']

theorem modUp_never_off_by_more_than_one (qs ys : List Nat) (x : Nat) (t : ℚ)
    (hc : qs.Pairwise Nat.Coprime) (hpos : ∀ q ∈ qs, 0 < q) (hx : x < prodN qs)
    (hy : HY qs x ys)
    (ht : |t - (List.zipWith (fun (qi yi : Nat) => (yi : ℚ) / (qi : ℚ)) qs ys).sum| < 1) :
    ⌊t⌋₊ = hpsV qs ys ∨ ⌊t⌋₊ = hpsV qs ys + 1 ∨ ⌊t⌋₊ + 1 = hpsV qs ys := by
  have hQ : (0 : ℚ) < (prodN qs : ℚ) := by exact_mod_cast prodN_pos qs hpos
  rw [exactSum_eq qs ys x hc hpos hx hy] at ht
  have hx' : (x : ℚ) < ((prodN qs : Nat) : ℚ) := by exact_mod_cast hx
  apply floor_off_by_one _ ((x : ℚ) / (prodN qs : ℚ)) t _ _ ht
  · positivity
  · rw [div_lt_one hQ]; exact hx'

-- x = 52, Q = 105: Σ = 157/105 ≈ 1.495, t = 3/2
example : prodN [3, 5, 7] ≤ 4 * 52 ∧ 4 * 52 < 3 * prodN [3, 5, 7] := by decide
example : |(3 / 2 : ℚ) - (List.zipWith (fun (qi yi : Nat) => (yi : ℚ) / (qi : ℚ)) [3, 5, 7] [2, 2, 3]).sum| < 1 / 4 := by
  norm_num [abs_lt]

end Lattigo.BasisExt

#print axioms Lattigo.BasisExt.hps_v_rat
#print axioms Lattigo.BasisExt.floor_exact_of_quarter
#print axioms Lattigo.BasisExt.floor_off_by_one
#print axioms Lattigo.BasisExt.modUp_centered_exact
#print axioms Lattigo.BasisExt.modUp_never_off_by_more_than_one
