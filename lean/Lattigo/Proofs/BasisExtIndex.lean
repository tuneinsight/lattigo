import Lattigo.Proofs.BasisExtLimb

/-!
  # The IEEE correction index of the HPS base conversion: ONE named hypothesis, in rational form (C02)

  `fidx Q ys` (Proofs/BasisExtLimb.lean) is the index `v = uint64(Σ float64(y_i)/float64(q_i))` exactly as the code and
  the twin compute it; Lean's `Float` is opaque to the kernel, so nothing about it can be PROVED.  The limb theorems
  of BasisExtLimb.lean are therefore conditional on two facts about it (`fidx ≤ #moduli`, `fidx = hpsV`).  Here both
  are derived from a single hypothesis of the standard numerical-analysis form

      `FidxApprox Q qs ys ε` :  `fidx Q ys = ⌊t⌋` for some rational `t ≥ 0` with `|t − Σ y_i/q_i| < ε`

  (`t` = the float sum read as a rational; for `n ≤ 32` terms in binary64 the true `ε` is `≈ n·2⁻⁵²`).  `ε ≤ 1` gives an
  index off by at most one and `≤ #moduli` (the table lookup `vtimesqmodp[v]` is in range); `ε ≤ 1/4` and `Q/4 ≤ x < 3Q/4`
  give the exact index; `⌊t⌋` is the exact index IFF the error `t − Σ` lies in `[−x/Q, 1 − x/Q)`, `x` the (shifted) input.
  Hence the property's "±1" and "exact below a quarter" sentences for a lane of `ModUpQtoP/PtoQ` (`extLane_err_le_one`,
  `extLane_exact`) and for the limb-level twin of `ModDownQPtoQ`, with NO exactness hypothesis on the index.
-/
namespace Lattigo.BasisExt
open Lattigo Lattigo.Scaling

/-- **the named IEEE hypothesis**: the index the code computes is the floor of a rational within `ε` of the exact sum -/
def FidxApprox (Q qs ys : List Nat) (ε : ℚ) : Prop :=
  ∃ t : ℚ, 0 ≤ t ∧ fidx Q ys = ⌊t⌋₊ ∧ |t - exactSum qs ys| < ε

theorem FidxApprox.mono {Q qs ys : List Nat} {ε ε' : ℚ} (h : FidxApprox Q qs ys ε) (hle : ε ≤ ε') :
    FidxApprox Q qs ys ε' := by
  obtain ⟨t, h0, h1, h2⟩ := h
  exact ⟨t, h0, h1, lt_of_lt_of_le h2 hle⟩

theorem floor_exact_iff (v : ℕ) (f t : ℚ) (ht0 : 0 ≤ t) :
    ⌊t⌋₊ = v ↔ -f ≤ t - ((v : ℚ) + f) ∧ t - ((v : ℚ) + f) < 1 - f := by
  rw [Nat.floor_eq_iff ht0]
  constructor
  · rintro ⟨h1, h2⟩; constructor <;> linarith
  · rintro ⟨h1, h2⟩; constructor <;> linarith

theorem fidx_exact_iff (qs ys : List Nat) (x : Nat) (t : ℚ) (ht0 : 0 ≤ t)
    (hc : qs.Pairwise Nat.Coprime) (hpos : ∀ q ∈ qs, 0 < q) (hx : x < prodN qs) (hy : HY qs x ys) :
    ⌊t⌋₊ = hpsV qs ys ↔
      -((x : ℚ) / (prodN qs : ℚ)) ≤ t - exactSum qs ys
      ∧ t - exactSum qs ys < 1 - (x : ℚ) / (prodN qs : ℚ) := by
  rw [show exactSum qs ys = (hpsV qs ys : ℚ) + (x : ℚ) / (prodN qs : ℚ) from exactSum_eq qs ys x hc hpos hx hy]
  exact floor_exact_iff _ _ t ht0

theorem fidxApprox_cases (Q qs ys : List Nat) (x : Nat)
    (hc : qs.Pairwise Nat.Coprime) (hpos : ∀ q ∈ qs, 0 < q) (hx : x < prodN qs) (hy : HY qs x ys)
    (h : FidxApprox Q qs ys 1) :
    fidx Q ys = hpsV qs ys ∨ fidx Q ys = hpsV qs ys + 1 ∨ fidx Q ys + 1 = hpsV qs ys := by
  obtain ⟨t, _, h1, h2⟩ := h
  rw [h1]
  exact modUp_never_off_by_more_than_one qs ys x t hc hpos hx hy h2

/-- the table lookup `vtimesqmodp[v]` is in range -/
theorem fidxApprox_le (Q qs ys : List Nat) (x : Nat) (hne : qs ≠ [])
    (hc : qs.Pairwise Nat.Coprime) (hpos : ∀ q ∈ qs, 0 < q) (hx : x < prodN qs) (hy : HY qs x ys)
    (h : FidxApprox Q qs ys 1) : fidx Q ys ≤ qs.length := by
  have hv := (hps_sum qs ys x hne hc hpos hx hy).2
  rcases fidxApprox_cases Q qs ys x hc hpos hx hy h with h | h | h <;> omega

theorem fidxApprox_exact (Q qs ys : List Nat) (x : Nat)
    (hc : qs.Pairwise Nat.Coprime) (hpos : ∀ q ∈ qs, 0 < q) (hx : x < prodN qs) (hy : HY qs x ys)
    (hlo : prodN qs ≤ 4 * x) (hhi : 4 * x < 3 * prodN qs) (h : FidxApprox Q qs ys (1 / 4)) :
    fidx Q ys = hpsV qs ys := by
  obtain ⟨t, _, h1, h2⟩ := h
  rw [h1]
  exact modUp_centered_exact qs ys x t hc hpos hx hy hlo hhi h2

-- qs = [3,5,7], x = 52: Σ = 157/105, t = 3/2, v = 1
example : ∃ t : ℚ, 0 ≤ t ∧ (1 : ℕ) = ⌊t⌋₊ ∧ |t - exactSum [3, 5, 7] [2, 2, 3]| < 1 / 4 :=
  ⟨3 / 2, by norm_num, by norm_num [Nat.floor_eq_iff], by norm_num [exactSum, abs_lt]⟩

/-- what `FidxApprox … 1` gives for the code's own `y_i`: the index is in the range of the table and off by `δ ∈ {−1, 0, 1}` -/
theorem fidxApprox_chain (Q qs : List Nat) (hC : Chain qs) (hne : qs ≠ []) (x' : Nat) (hx' : x' < prodN qs)
    (h : FidxApprox Q qs (hpsY qs (residues qs x')) 1) :
    fidx Q (hpsY qs (residues qs x')) ≤ qs.length
    ∧ ∃ δ : ℤ, (δ = -1 ∨ δ = 0 ∨ δ = 1)
        ∧ ((hpsV qs (hpsY qs (residues qs x')) : ℤ) - (fidx Q (hpsY qs (residues qs x')) : ℤ)) = δ := by
  have hy := hpsY_admissible _ hC x'
  have hc := coprime_of_chain _ hC
  have hpos : ∀ q ∈ qs, 0 < q := fun q hq => (hC.prime q hq).pos
  refine ⟨fidxApprox_le Q _ _ x' hne hc hpos hx' hy h, ?_⟩
  rcases fidxApprox_cases Q _ _ x' hc hpos hx' hy h with e | e | e
  · exact ⟨0, Or.inr (Or.inl rfl), by rw [e]; ring⟩
  · exact ⟨-1, Or.inl rfl, by rw [e]; push_cast; ring⟩
  · exact ⟨1, Or.inr (Or.inr rfl), by rw [← e]; push_cast; ring⟩

theorem extLane_err_le_one {qs T : List Nat} {j k r : Nat} (h : LaneOK qs T j k (r + 1)) (Qf : List Nat) (x : Nat)
    (hA : FidxApprox Qf qs (laneY qs x) 1) :
    ∃ δ : ℤ, (δ = -1 ∨ δ = 0 ∨ δ = 1) ∧
      ((extLane Qf qs T j x : ℕ) : ℤ) % (T.getD j 0 : ℤ)
        = (centeredRep (prodN qs) x + δ * (prodN qs : ℤ)) % (T.getD j 0 : ℤ) := by
  obtain ⟨hle, δ, hδ, (he : (hpsV qs (laneY qs x) : ℤ) - (fidx Qf (laneY qs x) : ℤ) = δ)⟩ :=
    fidxApprox_chain Qf qs h.chain h.ne _ (Nat.mod_lt (x + prodN qs / 2) (Scaling.prodN_pos _ h.pos)) hA
  exact ⟨δ, hδ, by rw [(extLane_spec h Qf x).2 hle, he]⟩

theorem extLane_exact {qs T : List Nat} {j k r : Nat} (h : LaneOK qs T j k (r + 1)) (Qf : List Nat) (x : Nat)
    (hA : FidxApprox Qf qs (laneY qs x) (1 / 4))
    (hlo : prodN qs ≤ 4 * ((x + prodN qs / 2) % prodN qs)) (hhi : 4 * ((x + prodN qs / 2) % prodN qs) < 3 * prodN qs) :
    ((extLane Qf qs T j x : ℕ) : ℤ) % (T.getD j 0 : ℤ) = centeredRep (prodN qs) x % (T.getD j 0 : ℤ) := by
  have hx' := Nat.mod_lt (x + prodN qs / 2) (Scaling.prodN_pos _ h.pos)
  have hle := (fidxApprox_chain Qf qs h.chain h.ne _ hx' (hA.mono (by norm_num))).1
  have hex : fidx Qf (laneY qs x) = hpsV qs (laneY qs x) :=
    fidxApprox_exact Qf _ _ _ (coprime_of_chain _ h.chain) h.pos hx' (hpsY_admissible _ h.chain _) hlo hhi hA
  rw [(extLane_spec h Qf x).2 hle, hex, sub_self, zero_mul, add_zero]

theorem modDownQPtoQ_err_le_one (Q P : List Nat) (levelQ levelP : Nat) (hlQ : levelQ < Q.length)
    (hlP : levelP < P.length) (hCP : Chain (P.take (levelP + 1))) (k : Nat)
    (hk : (P.take (levelP + 1)).sum ≤ k * W) (hTQ : Target Q (k + 2))
    (hdisj : ∀ i, i ≤ levelQ → Q.getD i 0 ∉ P.take (levelP + 1)) (p1Q p1P : Rows) (X : List Nat)
    (hQ : ∀ i, i ≤ levelQ → row p1Q i = X.map (· % Q.getD i 0))
    (hP : ∀ j, j ≤ levelP → row p1P j = X.map (· % P.getD j 0)) (i : Nat) (hi : i ≤ levelQ) :
    List.Forall₂ (fun x out =>
        FidxApprox P (P.take (levelP + 1)) (hpsY (P.take (levelP + 1)) (residues (P.take (levelP + 1))
            ((x + prodN (P.take (levelP + 1)) / 2) % prodN (P.take (levelP + 1))))) 1 →
          out < Q.getD i 0 ∧ ∃ e : ℤ, |e| ≤ 1 ∧
            ((out : ℕ) : ℤ) % (Q.getD i 0 : ℤ)
              = ((((x + prodN (P.take (levelP + 1)) / 2) / prodN (P.take (levelP + 1)) : ℕ) : ℤ) + e)
                  % (Q.getD i 0 : ℤ))
      X (row (modDownQPtoQ Q P levelQ levelP p1Q p1P) i) := by
  have hL : LaneOK (P.take (levelP + 1)) Q i k 2 := .of_target (Nat.succ_pos _) hlP hCP hk hTQ hlQ hi
  rw [modDownQPtoQ_row hlP hL hQ hP hi]
  refine forall₂_map_self _ _ X fun x _ hA => ?_
  obtain ⟨δ, hδ, he⟩ := extLane_err_le_one hL P x hA
  exact ⟨divFloorRes_lt _ _ _ _ hL.prime.pos, modDown_err_le_one _ _ _ x _ δ hL.prime.pos
    (pinvN_of_not_mem hL.prime hL.two_mul_le hCP (hdisj i hi)) he hδ⟩

/-- `Pb ≤ 4·x' < 3·Pb` for the shifted remainder `x' = (x + ⌊Pb/2⌋) mod Pb` says that the centred remainder `[x]_Pb` is below
`Pb/4` in absolute value -/
theorem modDownQPtoQ_exact_of_quarter (Q P : List Nat) (levelQ levelP : Nat) (hlQ : levelQ < Q.length)
    (hlP : levelP < P.length) (hCP : Chain (P.take (levelP + 1))) (k : Nat)
    (hk : (P.take (levelP + 1)).sum ≤ k * W) (hTQ : Target Q (k + 2))
    (hdisj : ∀ i, i ≤ levelQ → Q.getD i 0 ∉ P.take (levelP + 1)) (p1Q p1P : Rows) (X : List Nat)
    (hQ : ∀ i, i ≤ levelQ → row p1Q i = X.map (· % Q.getD i 0))
    (hP : ∀ j, j ≤ levelP → row p1P j = X.map (· % P.getD j 0)) (i : Nat) (hi : i ≤ levelQ) :
    List.Forall₂ (fun x out =>
        FidxApprox P (P.take (levelP + 1)) (hpsY (P.take (levelP + 1)) (residues (P.take (levelP + 1))
            ((x + prodN (P.take (levelP + 1)) / 2) % prodN (P.take (levelP + 1))))) (1 / 4) →
        prodN (P.take (levelP + 1)) ≤ 4 * ((x + prodN (P.take (levelP + 1)) / 2) % prodN (P.take (levelP + 1))) →
        4 * ((x + prodN (P.take (levelP + 1)) / 2) % prodN (P.take (levelP + 1))) < 3 * prodN (P.take (levelP + 1)) →
          out = ((x + prodN (P.take (levelP + 1)) / 2) / prodN (P.take (levelP + 1))) % Q.getD i 0)
      X (row (modDownQPtoQ Q P levelQ levelP p1Q p1P) i) := by
  have hL : LaneOK (P.take (levelP + 1)) Q i k 2 := .of_target (Nat.succ_pos _) hlP hCP hk hTQ hlQ hi
  rw [modDownQPtoQ_row hlP hL hQ hP hi]
  exact forall₂_map_self _ _ X fun x _ hA hlo hhi => modDown_round _ _ _ x _ hL.prime.pos
    (pinvN_of_not_mem hL.prime hL.two_mul_le hCP (hdisj i hi)) (extLane_exact hL P x hA hlo hhi)

end Lattigo.BasisExt

#print axioms Lattigo.BasisExt.fidx_exact_iff
#print axioms Lattigo.BasisExt.fidxApprox_cases
#print axioms Lattigo.BasisExt.fidxApprox_le
#print axioms Lattigo.BasisExt.fidxApprox_exact
#print axioms Lattigo.BasisExt.modDownQPtoQ_err_le_one
#print axioms Lattigo.BasisExt.modDownQPtoQ_exact_of_quarter
