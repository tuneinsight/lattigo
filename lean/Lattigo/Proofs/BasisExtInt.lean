/-
  Integer-level theorems about the HPS fast RNS base conversion
  (https://eprint.iacr.org/2018/117, ring/basis_extension.go), ModDown and the small-norm extension.

  The rational statements about the correction index are in `BasisExtFloor.lean`.
-/
import Mathlib.Data.Nat.GCD.BigOperators
import Mathlib.Data.Nat.ModEq
import Mathlib.Data.Int.ModEq
import Mathlib.Tactic.Ring
import Mathlib.Tactic.Linarith
import Lattigo.Model.BasisExt
import Lattigo.Proofs.Kernels
import Lattigo.Proofs.ScalingInt

namespace Lattigo.BasisExt
open Lattigo Lattigo.Scaling

/-- `hpsSum` with the big modulus `Q` a free parameter (so that induction on the list is possible) -/
def sumQ (Q : Nat) (l ys : List Nat) : Nat :=
  (List.zipWith (fun qi yi => yi * (Q / qi)) l ys).foldr (· + ·) 0

theorem hpsSum_eq_sumQ (qs ys : List Nat) : hpsSum qs ys = sumQ (prodN qs) qs ys := rfl

@[simp] theorem sumQ_nil_left (Q : Nat) (ys : List Nat) : sumQ Q [] ys = 0 := by
  simp [sumQ]

@[simp] theorem sumQ_nil_right (Q : Nat) (l : List Nat) : sumQ Q l [] = 0 := by
  simp [sumQ]

@[simp] theorem sumQ_cons (Q q y : Nat) (l ys : List Nat) :
    sumQ Q (q :: l) (y :: ys) = y * (Q / q) + sumQ Q l ys := by
  simp [sumQ]

/-- the `y_i` are admissible for `x`: `y_i < q_i`, `y_i·(Q/q_i) ≡ x (mod q_i)` -/
abbrev HY (qs : List Nat) (x : Nat) (ys : List Nat) : Prop :=
  List.Forall₂ (fun qi yi => yi < qi ∧ (yi * qStar qs qi) % qi = x % qi) qs ys

theorem sumQ_bound (Q : Nat) (hQ : 0 < Q) : ∀ (l ys : List Nat),
    (∀ q ∈ l, q ∣ Q) → List.Forall₂ (fun qi yi => yi < qi) l ys →
    sumQ Q l ys + l.length ≤ l.length * Q
  | [], _, _, _ => by simp
  | _ :: _, [], _, h => by cases h
  | q :: l, y :: ys, hd, h => by
    rcases List.forall₂_cons.mp h with ⟨hy, hrest⟩
    have ih := sumQ_bound Q hQ l ys (fun a ha => hd a (List.mem_cons_of_mem _ ha)) hrest
    have hq := hd q (List.mem_cons_self ..)
    have h1 : y * (Q / q) + 1 ≤ Q :=
      calc y * (Q / q) + 1 ≤ y * (Q / q) + Q / q :=
            Nat.add_le_add_left (Nat.div_pos (Nat.le_of_dvd hQ hq) (Nat.pos_of_dvd_of_pos hq hQ)) _
        _ = (y + 1) * (Q / q) := (Nat.succ_mul _ _).symm
        _ ≤ q * (Q / q) := Nat.mul_le_mul_right _ hy
        _ = Q := Nat.mul_div_cancel' hq
    rw [sumQ_cons, List.length_cons, Nat.succ_mul]
    omega

theorem sumQ_cast (Q : Nat) : ∀ (l ys : List Nat), ((sumQ Q l ys : Nat) : ℤ) = sumZ Q l (ys.map Nat.cast)
  | [], _ => by rw [sumQ_nil_left, sumZ_nil, Nat.cast_zero]
  | _ :: _, [] => by rw [sumQ_nil_right, List.map_nil, sumZ_nil_right, Nat.cast_zero]
  | q :: l, y :: ys => by rw [sumQ_cons, List.map_cons, sumZ_cons, Nat.cast_add, Nat.cast_mul, sumQ_cast Q l ys]

theorem sumQ_modEq (l ys : List Nat) (m x : Nat) (hc : l.Pairwise Nat.Coprime) (hpos : ∀ q ∈ l, 0 < q)
    (h : List.Forall₂ (fun qi yi => (yi * (m * prodN l / qi)) % qi = x % qi) l ys) :
    sumQ (m * prodN l) l ys ≡ x [MOD prodN l] := by
  rw [← Int.natCast_modEq_iff, sumQ_cast]
  refine sumZ_modEq l _ m x hc hpos ?_
  rw [List.forall₂_map_right_iff]
  exact h.imp fun q y hy => by exact_mod_cast Int.natCast_modEq_iff.2 hy

theorem hps_sum_eq (qs ys : List Nat) (x : Nat)
    (hc : qs.Pairwise Nat.Coprime) (hpos : ∀ q ∈ qs, 0 < q) (hx : x < prodN qs)
    (hy : HY qs x ys) :
    hpsSum qs ys = x + hpsV qs ys * prodN qs := by
  have hme : sumQ (1 * prodN qs) qs ys ≡ x [MOD prodN qs] :=
    sumQ_modEq qs ys 1 x hc hpos (hy.imp fun qi yi h => by simpa [qStar] using h.2)
  rw [Nat.one_mul, ← hpsSum_eq_sumQ, Nat.ModEq, Nat.mod_eq_of_lt hx] at hme
  rw [hpsV, ← hme]
  exact (Nat.mod_add_div' _ _).symm

theorem hpsV_lt (qs ys : List Nat) (hne : qs ≠ []) (hpos : ∀ q ∈ qs, 0 < q)
    (hy : List.Forall₂ (fun qi yi => yi < qi) qs ys) : hpsV qs ys < qs.length := by
  have hQ := prodN_pos qs hpos
  have hb := sumQ_bound (prodN qs) hQ qs ys (dvd_prodN_of_mem qs) hy
  have hlen : 0 < qs.length := List.length_pos_iff.mpr hne
  unfold hpsV
  rw [hpsSum_eq_sumQ]
  apply Nat.div_lt_of_lt_mul
  rw [Nat.mul_comm]
  omega

/-- the HPS identity; `qs ≠ []` is needed for `v < #qs` only (for `qs = []`, `v = 0 = #qs`) -/
theorem hps_sum (qs ys : List Nat) (x : Nat) (hne : qs ≠ [])
    (hc : qs.Pairwise Nat.Coprime) (hpos : ∀ q ∈ qs, 0 < q) (hx : x < prodN qs)
    (hy : List.Forall₂ (fun qi yi => yi < qi ∧ (yi * qStar qs qi) % qi = x % qi) qs ys) :
    hpsSum qs ys = x + hpsV qs ys * prodN qs ∧ hpsV qs ys < qs.length :=
  ⟨hps_sum_eq qs ys x hc hpos hx hy,
   hpsV_lt qs ys hne hpos (List.Forall₂.imp (fun _ _ h => h.1) hy)⟩

-- Q = 105, x = 52: y = (52·(35⁻¹) mod 3, 52·(21⁻¹) mod 5, 52·(15⁻¹) mod 7) = (2, 2, 3)
example : hpsSum [3, 5, 7] [2, 2, 3] = 52 + 1 * 105 ∧ hpsV [3, 5, 7] [2, 2, 3] = 1 := by decide
example : ([3, 5, 7] : List Nat) ≠ [] ∧ (52 : Nat) < prodN [3, 5, 7] ∧
    List.Forall₂ (fun qi yi => yi < qi ∧ (yi * qStar [3, 5, 7] qi) % qi = 52 % qi) [3, 5, 7] [2, 2, 3] := by
  refine ⟨by simp, by decide, ?_⟩
  repeat (first | exact List.Forall₂.nil | refine List.Forall₂.cons (by decide) ?_)
example : ([3, 5, 7] : List Nat).Pairwise Nat.Coprime := by decide

theorem hpsY_ok (qs : List Nat) (x : Nat)
    (hinv : ∀ qi ∈ qs, (qStar qs qi % qi * invMod (qStar qs qi % qi) qi) % qi = 1)
    (hpos : ∀ q ∈ qs, 0 < q) :
    HY qs x (hpsY qs (residues qs x)) := by
  unfold HY hpsY residues
  rw [List.zipWith_map_right, List.zipWith_self, List.forall₂_map_right_iff, List.forall₂_same]
  intro q hq
  refine ⟨Nat.mod_lt _ (hpos q hq), ?_⟩
  have h1 := hinv q hq
  generalize invMod (qStar qs q % q) q = c at h1 ⊢
  generalize qStar qs q = s at h1 ⊢
  -- `(x mod q · c)·s ≡ x·(s·c) ≡ x`, since `s·c ≡ 1`
  rw [Nat.mod_mul_mod, Nat.mul_assoc, Nat.mul_mod, Nat.mul_comm c s, ← Nat.mod_mul_mod s c q, h1, Nat.mul_one,
    Nat.mod_mod, Nat.mod_mod]

example : ∀ qi ∈ ([3, 5, 7] : List Nat),
    (qStar [3, 5, 7] qi % qi * invMod (qStar [3, 5, 7] qi % qi) qi) % qi = 1 := by decide
example : hpsY [3, 5, 7] (residues [3, 5, 7] 52) = [2, 2, 3] := by decide

/-- for EVERY index `v`: a limb `out ≡ hpsOut … v (mod p)` is `≡ x + (hpsV − v)·Q (mod p)`, the value extended, off by as
many multiples of `Q` as the index is off (stated with `v·Q` on the left to stay in ℕ) -/
theorem hpsOut_any (qs ys : List Nat) (x p v out : Nat)
    (hc : qs.Pairwise Nat.Coprime) (hpos : ∀ q ∈ qs, 0 < q) (hx : x < prodN qs)
    (hy : HY qs x ys)
    (hp : 0 < p) (ho : out % p = hpsOut qs ys v p) :
    (out + v * prodN qs) % p = (x + hpsV qs ys * prodN qs) % p := by
  -- `Q + (p − Q mod p) = p·(⌊Q/p⌋ + 1)`
  have h1 : v * prodN qs + v * (p - prodN qs % p) = p * (v * (prodN qs / p + 1)) := by
    have := Nat.div_add_mod (prodN qs) p
    have := Nat.mod_lt (prodN qs) hp
    rw [← Nat.mul_add, Nat.mul_left_comm]; congr 1
    rw [Nat.mul_add, Nat.mul_one]; omega
  rw [Nat.add_mod, ho, hpsOut, Nat.mod_add_mod, Nat.add_mod_mod, Nat.add_right_comm, Nat.add_assoc, h1,
    Nat.add_mul_mod_self_left, hps_sum_eq qs ys x hc hpos hx hy]

theorem index_cases {out x Q p v V : Nat} (h : (out + v * Q) % p = (x + V * Q) % p) :
    (v = V → out % p = x % p) ∧ (v = V + 1 → (out + Q) % p = x % p) ∧ (v + 1 = V → out % p = (x + Q) % p) := by
  refine ⟨?_, ?_, ?_⟩
  · rintro rfl
    exact Nat.ModEq.add_right_cancel' _ h
  · rintro rfl
    rw [Nat.succ_mul, ← Nat.add_assoc, Nat.add_right_comm] at h
    exact Nat.ModEq.add_right_cancel' _ h
  · rintro rfl
    rw [Nat.succ_mul, ← Nat.add_assoc, Nat.add_right_comm x] at h
    exact Nat.ModEq.add_right_cancel' _ h

theorem modUp_exact (qs ys : List Nat) (x p : Nat)
    (hc : qs.Pairwise Nat.Coprime) (hpos : ∀ q ∈ qs, 0 < q) (hx : x < prodN qs)
    (hy : List.Forall₂ (fun qi yi => yi < qi ∧ (yi * qStar qs qi) % qi = x % qi) qs ys)
    (hp : 0 < p) :
    hpsOut qs ys (hpsV qs ys) p = x % p := by
  rw [← (index_cases (hpsOut_any qs ys x p _ _ hc hpos hx hy hp (Nat.mod_mod _ _))).1 rfl]
  exact (Nat.mod_mod _ _).symm

example : hpsOut [3, 5, 7] [2, 2, 3] 1 11 = 52 % 11 := by decide
example : (hpsOut [3, 5, 7] [2, 2, 3] 2 11 + 105) % 11 = 52 % 11 := by decide
example : hpsOut [3, 5, 7] [2, 2, 3] 0 11 = (52 + 105) % 11 := by decide

/-- the closing loop of `ModDown*` is the residue formula of the divisions by the last modulus (ring/scaling.go):
`Scaling.divFloorRes_lt`, `_cast`, `_congr`, `_spec` apply to `modDownRes` goals as they stand (definitional unfolding) -/
theorem modDownRes_eq : modDownRes = divFloorRes := rfl

theorem modDownRes_cast (qi c xi ei : Nat) (hqi : 0 < qi) :
    ((modDownRes qi c xi ei : Nat) : Int) = (((xi : Int) + qi - ((ei % qi : Nat) : Int)) * c) % qi := by
  unfold modDownRes
  have h : ei % qi ≤ xi + qi := Nat.le_trans (Nat.le_of_lt (Nat.mod_lt _ hqi)) (Nat.le_add_left _ _)
  push_cast [Nat.cast_sub h]
  rfl

theorem P_ne_zero_of_inv {P c qi : Nat} (hc : (P * c) % qi = 1) : (P : Int) ≠ 0 := by
  intro h
  obtain rfl : P = 0 := by exact_mod_cast h
  simp at hc

/-- `r ≡ x (mod P)` is the representative of `[x]_P` the extension is meant to produce, `δ` the error of the extension in
multiples of `P` -/
theorem modDownRes_spec (qi P c x : Nat) (r δ : Int) (ei : Nat) (hqi : 0 < qi)
    (hc : (P * c) % qi = 1) (hr : (P : Int) ∣ (x : Int) - r)
    (he : (ei : Int) % qi = (r + δ * P) % qi) :
    ((modDownRes qi c (x % qi) ei : Nat) : Int) % qi = (((x : Int) - r) / P - δ) % qi := by
  obtain ⟨k, hk⟩ := hr
  rw [modDownRes_cast qi c (x % qi) ei hqi, Int.emod_emod_of_dvd _ (dvd_refl _), hk,
    Int.mul_ediv_cancel_left k (P_ne_zero_of_inv hc)]
  have hc' : ((P : Int) * c) ≡ 1 [ZMOD qi] := intCast_mul_modEq_one hc
  have hx : ((x % qi : Nat) : Int) ≡ x [ZMOD qi] := by push_cast; exact Int.mod_modEq _ _
  have hei : ((ei % qi : Nat) : Int) ≡ r + δ * P [ZMOD qi] := by push_cast; exact (Int.mod_modEq _ _).trans he
  calc (((x % qi : Nat) : Int) + qi - ((ei % qi : Nat) : Int)) * c
      ≡ ((x : Int) + 0 - (r + δ * P)) * c [ZMOD qi] :=
        ((hx.add (Int.modEq_zero_iff_dvd.2 (dvd_refl _))).sub hei).mul_right _
    _ = (P * c) * (k - δ) := by rw [sub_eq_iff_eq_add'.1 hk]; ring
    _ ≡ 1 * (k - δ) [ZMOD qi] := hc'.mul_right _
    _ = k - δ := one_mul _

theorem nat_of_int_emod {a b qi : Nat} (ha : a < qi) (h : (a : Int) % qi = (b : Int) % qi) :
    a = b % qi := by
  rw [← Nat.mod_eq_of_lt ha]
  exact_mod_cast h

/-- exact extension of `[x]_P ∈ [0, P)`: the FLOORED quotient -/
theorem modDown_floor (qi P c x ei : Nat) (hqi : 0 < qi)
    (hc : (P * c) % qi = 1) (he : ei % qi = (x % P) % qi) :
    modDownRes qi c (x % qi) ei = (x / P) % qi :=
  (divFloorRes_congr qi c _ ei (x % P) he).trans (divFloorRes_spec qi P c x hqi hc)

example : (15 * 1) % 7 = 1 ∧ (100 % 15) % 7 = (100 % 15) % 7 ∧
    modDownRes 7 1 (100 % 7) (100 % 15) = (100 / 15) % 7 := by decide

/-- the centred representative of `[x]_P`, `((x + ⌊P/2⌋) mod P) − ⌊P/2⌋ ∈ [−⌊P/2⌋, P − ⌊P/2⌋)` -/
def centeredRep (P x : Nat) : Int := (((x + P / 2) % P : Nat) : Int) - ((P / 2 : Nat) : Int)

/-- extension of the CENTRED representative of `[x]_P` with an error of `δ` multiples of `P`: the ROUNDED quotient minus `δ`.
HPS without the exactness condition has `δ ∈ {−1, 0, 1}` (`modUp_never_off_by_more_than_one`); the proof does not use it. -/
theorem modDown_err (qi P c x ei : Nat) (δ : Int) (hqi : 0 < qi)
    (hc : (P * c) % qi = 1) (he : (ei : Int) % qi = (centeredRep P x + δ * P) % qi) :
    ((modDownRes qi c (x % qi) ei : Nat) : Int) % qi = ((((x + P / 2) / P : Nat) : Int) - δ) % qi := by
  have hdiff : (x : Int) - centeredRep P x = P * (((x + P / 2) / P : Nat) : Int) := by
    unfold centeredRep
    rw [sub_sub_eq_add_sub, sub_eq_iff_eq_add]
    exact_mod_cast (Nat.div_add_mod (x + P / 2) P).symm
  rw [modDownRes_spec qi P c x (centeredRep P x) δ ei hqi hc ⟨_, hdiff⟩ he, hdiff,
    Int.mul_ediv_cancel_left _ (P_ne_zero_of_inv hc)]

theorem modDown_err_le_one (qi P c x ei : Nat) (δ : Int) (hqi : 0 < qi)
    (hc : (P * c) % qi = 1) (he : (ei : Int) % qi = (centeredRep P x + δ * P) % qi)
    (hδ : δ = -1 ∨ δ = 0 ∨ δ = 1) :
    ∃ e : Int, |e| ≤ 1 ∧
      ((modDownRes qi c (x % qi) ei : Nat) : Int) % qi = ((((x + P / 2) / P : Nat) : Int) + e) % qi := by
  refine ⟨-δ, ?_, ?_⟩
  · rcases hδ with h | h | h <;> subst h <;> norm_num
  · rw [modDown_err qi P c x ei δ hqi hc he, sub_eq_add_neg]

/-- exact extension of the CENTRED representative of `[x]_P` (what `ModUpPtoQ` produces under the exactness condition):
the ROUNDED quotient -/
theorem modDown_round (qi P c x ei : Nat) (hqi : 0 < qi)
    (hc : (P * c) % qi = 1) (he : (ei : Int) % qi = centeredRep P x % qi) :
    modDownRes qi c (x % qi) ei = ((x + P / 2) / P) % qi := by
  apply nat_of_int_emod (a := modDownRes qi c (x % qi) ei) (divFloorRes_lt _ _ _ _ hqi)
  have he' : (ei : Int) % qi = (centeredRep P x + 0 * P) % qi := by simpa using he
  rw [modDown_err qi P c x ei 0 hqi hc he', sub_zero]

-- q_i = 7, P = 15, c = 1, x = 100: round(100/15) = 7 ≡ 0; centred [100]_15 = 10 − 15 = −5 ≡ 2 (mod 7)
example : centeredRep 15 100 = -5 := by decide
example : (15 * 1) % 7 = 1 ∧ ((2 : Nat) : Int) % (7 : Nat) = centeredRep 15 100 % (7 : Nat) ∧
    modDownRes 7 1 (100 % 7) 2 = ((100 + 15 / 2) / 15) % 7 := by decide
-- δ = 1: e_i ≡ −5 + 15 = 10 ≡ 3, the result is 7 − 1 = 6
example : ((3 : Nat) : Int) % (7 : Nat) = (centeredRep 15 100 + 1 * (15 : Nat)) % (7 : Nat) ∧
    ((modDownRes 7 1 (100 % 7) 3 : Nat) : Int) % (7 : Nat) = ((((100 + 15 / 2) / 15 : Nat) : Int) - 1) % (7 : Nat) := by
  decide

theorem u64xor_one_one : u64xor 1 1 = 0 := by simp [u64xor]
theorem u64xor_zero_one : u64xor 0 1 = 1 := by simp [u64xor]

theorem extendSmallLimb_nonneg (q0 p c : Nat) (hc : c ≤ q0 / 2) (hcW : c < W) :
    extendSmallLimb q0 p c = c % p := by
  have hneg : ¬ (q0 / 2 < c) := Nat.not_lt.mpr hc
  simp only [extendSmallLimb, u64shr, Nat.pow_one, hneg, decide_false, Bool.false_eq_true, if_false,
    u64xor_one_one]
  rw [u64mul_zero_right, u64mul_one_right, u64or_zero_right]
  exact Nat.mod_eq_of_lt (Nat.lt_of_le_of_lt (Nat.mod_le c p) hcW)

theorem extendSmallLimb_neg (q0 p c : Nat) (hc : q0 / 2 < c) (hcq : c < q0) (hq : q0 < W) (hp0 : 0 < p)
    (hp : p < W) :
    extendSmallLimb q0 p c = if (q0 - c) % p = 0 then 0 else p - (q0 - c) % p := by
  have hsub : u64sub q0 c = q0 - c := u64sub_eq q0 c (Nat.le_of_lt hcq) hq
  have hcc : (q0 - c) % p < p := Nat.mod_lt _ hp0
  have hsub2 : u64sub p ((q0 - c) % p) = p - (q0 - c) % p := u64sub_eq p _ (Nat.le_of_lt hcc) hp
  have hbit := nonzero_bit ((q0 - c) % p) (Nat.lt_trans hcc hp)
  simp only [extendSmallLimb, hsub]
  rw [show u64shr q0 1 = q0 / 2 from by unfold u64shr; rw [Nat.pow_one]] at *
  simp only [hc, decide_true, if_true, hsub2, hbit, u64xor_zero_one]
  rw [u64mul_zero_right, u64mul_one_right, u64or_zero_left]
  by_cases h0 : (q0 - c) % p = 0
  · rw [if_pos h0, if_pos h0, u64mul_zero_right]; rfl
  · rw [if_neg h0, if_neg h0, u64mul_one_right, Nat.mod_mod]
    exact Nat.mod_eq_of_lt (Nat.lt_of_le_of_lt (Nat.sub_le _ _) hp)

/-- `ringqp.Ring.ExtendBasisSmallNormAndCenter` after repair C03-9 (`|coeff| mod p`, `−0 = 0`): for EVERY residue `c < q0`,
no size condition between the value and `p` -/
theorem extendSmall_spec (q0 p c : Nat) (hcq : c < q0) (hq : q0 < W) (hp0 : 0 < p) (hp : p < W) :
    ((extendSmallLimb q0 p c : Nat) : Int) % p = centerInt q0 c % p := by
  unfold centerInt
  by_cases hc : q0 / 2 < c
  · rw [extendSmallLimb_neg q0 p c hc hcq hq hp0 hp, if_pos hc]
    -- with `m = (q0 − c) mod p` the limb is `≡ −m ≡ −(q0 − c)`
    have hm : (((q0 - c) % p : Nat) : Int) ≡ (q0 : Int) - c [ZMOD p] := by
      rw [Int.natCast_mod, Nat.cast_sub (Nat.le_of_lt hcq)]; exact Int.mod_modEq _ _
    have hr : ((if (q0 - c) % p = 0 then 0 else p - (q0 - c) % p : Nat) : Int)
        ≡ -(((q0 - c) % p : Nat) : Int) [ZMOD p] := by
      split
      · rename_i h0; rw [h0]; rfl
      · rw [Nat.cast_sub (Nat.le_of_lt (Nat.mod_lt _ hp0)), sub_eq_add_neg]; exact Int.add_modEq_left
    exact (hr.trans hm.neg).trans (by rw [neg_sub])
  · rw [extendSmallLimb_nonneg q0 p c (Nat.not_lt.mp hc) (Nat.lt_trans hcq hq), if_neg hc]
    push_cast
    exact Int.emod_emod_of_dvd _ (dvd_refl _)

example : extendSmallLimb 97 17 3 = 3 ∧ centerInt 97 3 = 3 := by decide
example : extendSmallLimb 97 17 90 = 10 ∧ centerInt 97 90 = -7 ∧ ((10 : Int) % 17 = (-7) % 17) := by decide
example : extendSmallLimb 97 17 (97 - 34) = 0 := by decide   -- −34 ≡ −0 = 0 (mod 17)

theorem extendSmallLimbWrap_nonneg (q0 p c : Nat) (hc : c ≤ q0 / 2) (hcW : c < W) :
    extendSmallLimbWrap q0 p c = c := by
  have hneg : ¬ (q0 / 2 < c) := Nat.not_lt.mpr hc
  simp only [extendSmallLimbWrap, u64shr, Nat.pow_one, hneg, decide_false, Bool.false_eq_true, if_false,
    u64xor_one_one]
  rw [u64mul_zero_right, u64mul_one_right, u64or_zero_right]
  exact Nat.mod_eq_of_lt hcW

theorem extendSmallLimbWrap_neg (q0 p c : Nat) (hc : q0 / 2 < c) (hcq : c < q0) (hq : q0 < W) (hp : p < W)
    (hfit : q0 - c ≤ p) : extendSmallLimbWrap q0 p c = p - (q0 - c) := by
  have hsub : u64sub q0 c = q0 - c := u64sub_eq q0 c (Nat.le_of_lt hcq) hq
  have hsub2 : u64sub p (q0 - c) = p - (q0 - c) := u64sub_eq p _ hfit hp
  simp only [extendSmallLimbWrap, u64shr, Nat.pow_one, hc, decide_true, if_true, u64xor_zero_one, hsub, hsub2]
  rw [u64mul_zero_right, u64mul_one_right, u64or_zero_left]
  exact Nat.mod_eq_of_lt (Nat.lt_of_le_of_lt (Nat.sub_le _ _) hp)

/-- `rlwe.ExtendBasisSmallNormAndCenterNTTMontgomery` (core/rlwe/utils.go, the limb code without repair C03-9): right only
when `q0 − c ≤ p` for the negative residues (`|centred value| ≤ p`) -/
theorem extendSmallWrap_spec (q0 p c : Nat) (hcq : c < q0) (hq : q0 < W) (hp : p < W)
    (hfit : q0 / 2 < c → q0 - c ≤ p) :
    ((extendSmallLimbWrap q0 p c : Nat) : Int) % p = centerInt q0 c % p := by
  unfold centerInt
  by_cases hc : q0 / 2 < c
  · rw [extendSmallLimbWrap_neg q0 p c hc hcq hq hp (hfit hc), if_pos hc]
    have h1 : q0 - c ≤ p := hfit hc
    have h2 : c ≤ q0 := Nat.le_of_lt hcq
    push_cast [Nat.cast_sub h1, Nat.cast_sub h2]
    have : (p : Int) - ((q0 : Int) - c) = (c - q0) + p := by ring
    rw [this, Int.add_emod_right]
  · rw [extendSmallLimbWrap_nonneg q0 p c (Nat.not_lt.mp hc) (Nat.lt_trans hcq hq), if_neg hc]

example : extendSmallLimbWrap 97 17 3 = 3 ∧ centerInt 97 3 = 3 := by decide
example : extendSmallLimbWrap 97 17 90 = 10 ∧ centerInt 97 90 = -7 ∧ ((10 : Int) % 17 = (-7) % 17) := by decide

-- a ternary secret coefficient `−1` (`c = q0 − 1`)
example : (centerInt 97 96).natAbs ≤ 17 := by decide

end Lattigo.BasisExt

#print axioms Lattigo.BasisExt.hps_sum
#print axioms Lattigo.BasisExt.hps_sum_eq
#print axioms Lattigo.BasisExt.hpsV_lt
#print axioms Lattigo.BasisExt.hpsY_ok
#print axioms Lattigo.BasisExt.modUp_exact
#print axioms Lattigo.BasisExt.modDownRes_spec
#print axioms Lattigo.BasisExt.modDown_floor
#print axioms Lattigo.BasisExt.modDown_round
#print axioms Lattigo.BasisExt.modDown_err
#print axioms Lattigo.BasisExt.modDown_err_le_one
#print axioms Lattigo.BasisExt.extendSmallLimb_nonneg
#print axioms Lattigo.BasisExt.extendSmallLimb_neg
#print axioms Lattigo.BasisExt.extendSmall_spec
#print axioms Lattigo.BasisExt.extendSmallWrap_spec
