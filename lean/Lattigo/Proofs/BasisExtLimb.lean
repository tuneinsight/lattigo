/-
  Limb level ⊑ integer level for the HPS fast base conversion of ring/basis_extension.go:
  `reconstructRNS`, `ModUpExact`, `ModUpQtoP/PtoQ`, `ModDownQPtoQ/QPtoP` (`multSum` and `GenModUpConstants` are in
  `Proofs/BasisExtMultSum.lean`, the integer level in `Proofs/BasisExtInt.lean`).

  `ModUpQtoP/PtoQ` and `ModDown*` act coefficient by coefficient: row `j` of the result is `X.map` of ONE function of
  the integer coefficient, the lane (`extLane`, `downLane`), and every limb theorem is a fact about that function
  (`extLane_spec`).

  The IEEE-754 computation of the correction index `v` is NOT modelled in proofs: every theorem holds for the
  index `fidx` the code computes, whatever it is, as long as it is a valid index of `vtimesqmodp`
  (`v ≤ #source moduli`, a named hypothesis); exactness needs the named hypothesis `v = hpsV`.
-/
import Lattigo.Proofs.BasisExtMultSum

namespace Lattigo.BasisExt
open Lattigo Lattigo.Gen Lattigo.Scaling

/-- the correction index as the code computes it (IEEE-754 binary64: `vi += float64(y_i)/float64(q_i)` left to
right, then `uint64(vi)`), a function of the `y_i` and the moduli.  NOT analysed in proofs. -/
def fidx (Q ys : List Nat) : Nat :=
  ((List.zip ys Q).foldl (fun (acc : Float) (yq : Nat × Nat) => acc + toF yq.1 / toF yq.2) 0.0).toUInt64.toNat

theorem hpsY_length (qs xs : List Nat) (h : xs.length = qs.length) : (hpsY qs xs).length = qs.length := by
  unfold hpsY; rw [List.length_zipWith, h, Nat.min_self]

theorem hpsY_getD (qs xs : List Nat) (h : xs.length = qs.length) (i : Nat) (hi : i < qs.length) :
    (hpsY qs xs).getD i 0
      = (xs.getD i 0 * invMod (qStar qs (qs.getD i 0) % qs.getD i 0) (qs.getD i 0)) % qs.getD i 0 := by
  have hl := hpsY_length qs xs h
  rw [List.getD_eq_getElem _ _ (by omega),
    List.getD_eq_getElem _ _ (by omega : i < xs.length),
    List.getD_eq_getElem _ _ hi]
  simp only [hpsY, List.getElem_zipWith]

theorem hpsY_eq_range_map (qs xs : List Nat) (h : xs.length = qs.length) :
    hpsY qs xs = (List.range qs.length).map fun i =>
      (xs.getD i 0 * invMod (qStar qs (qs.getD i 0) % qs.getD i 0) (qs.getD i 0)) % qs.getD i 0 := by
  apply List.ext_getElem
  · rw [hpsY_length qs xs h, List.length_map, List.length_range]
  · intro i h1 h2
    rw [List.length_map, List.length_range] at h2
    rw [List.getElem_map, List.getElem_range, ← List.getD_eq_getElem _ _ h1, hpsY_getD qs xs h i h2]

theorem hpsY_lt (qs xs : List Nat) (h : xs.length = qs.length) (hpos : ∀ q ∈ qs, 0 < q) (i : Nat)
    (hi : i < qs.length) : (hpsY qs xs).getD i 0 < qs.getD i 0 := by
  rw [hpsY_getD qs xs h i hi]
  exact Nat.mod_lt _ (hpos _ (getD_mem qs i hi))

/-- one lane of `reconstructRNS`; the source chain is `Q[:n]`, `n` the number of limbs of the lane -/
theorem reconstruct_eq (Q P : List Nat) (col : List Nat) (hn : col.length ≤ Q.length)
    (hC : Chain (Q.take col.length)) (hcol : ∀ x ∈ col, x < W) :
    reconstruct Q (Q.map GenMRedConstant) (genModUpConstants (Q.take col.length) P) col
      = (hpsY (Q.take col.length) col, fidx Q (hpsY (Q.take col.length) col)) := by
  have hqlen : (Q.take col.length).length = col.length := by rw [List.length_take, Nat.min_eq_left hn]
  have hys : (List.range col.length).map (fun i =>
        MRed (col.getD i 0) (genModUpConstants (Q.take col.length) P).qoverqiinvqi[i]! (Q.getD i 0)
          ((Q.map GenMRedConstant).getD i 0)) = hpsY (Q.take col.length) col := by
    rw [hpsY_eq_range_map _ _ hqlen.symm, hqlen]
    apply List.map_congr_left
    intro i hi
    have h1 := List.mem_range.mp hi
    rw [ListLemmas.getD_map_of_lt GenMRedConstant Q i 0 (Nat.lt_of_lt_of_le h1 hn), ← ListLemmas.getD_take Q col.length i h1,
      reconstruct_y (Q.take col.length) P hC i (Nat.lt_of_lt_of_eq h1 hqlen.symm) _ (getD_lt_W col hcol i)]
  unfold reconstruct
  simp only []
  rw [hys]
  rfl

theorem transpose_col (rows : Rows) (col : List Nat) (h : col ∈ transpose rows) :
    col.length = rows.length ∧ ((∀ r ∈ rows, ∀ x ∈ r, x < W) → ∀ x ∈ col, x < W) := by
  unfold transpose at h
  cases rows with
  | nil => simp at h
  | cons r rs =>
    simp only [List.mem_map, List.mem_range] at h
    obtain ⟨j, _, rfl⟩ := h
    refine ⟨by simp, fun hW x hx => ?_⟩
    obtain ⟨rw', hrw, rfl⟩ := List.mem_map.1 hx
    exact getD_lt_W rw' (hW rw' hrw) j

theorem modUpExact_rows (Q P : List Nat) (levelP : Nat) (p1 : Rows) (hn : p1.length ≤ Q.length)
    (hC : Chain (Q.take p1.length)) (hW : ∀ r ∈ p1, ∀ x ∈ r, x < W) :
    modUpExact Q P (genModUpConstants (Q.take p1.length) P) levelP p1
      = (List.range (levelP + 1)).map fun j => (transpose p1).map fun col =>
          multSum (hpsY (Q.take p1.length) col) (fidx Q (hpsY (Q.take p1.length) col)) (P.getD j 0)
            (GenMRedConstant (P.getD j 0)) (genModUpConstants (Q.take p1.length) P).vtimesqmodp[j]!
            (genModUpConstants (Q.take p1.length) P).qoverqimodp[j]! := by
  unfold modUpExact
  simp only []
  apply List.map_congr_left
  intro j _
  rw [List.map_map]
  apply List.map_congr_left
  intro col hcol
  obtain ⟨hl, hx⟩ := transpose_col p1 col hcol
  have := reconstruct_eq Q P col (by omega) (by rw [hl]; exact hC) (hx hW)
  rw [hl] at this
  simp only [Function.comp, this]

/-- hypotheses on a target chain: odd primes `p` with `(k+2)·p ≤ 2^64`.  With `k·2^64` a bound on the sum of the source
moduli, a limb of `multSum` is below `k·p` (high word of the accumulator) `+ p` (lazy Montgomery reduction) `+ p`
(`vtimesqmodp` entry), and `(k+2)·p ≤ 2^64` keeps that from wrapping: `ModUpExact` needs `Target P k`.  Each later step
that adds multiples of `p` to an unreduced limb raises the index: `SubScalar` in `ModUpQtoP/PtoQ` adds `p` (`k+1`), the
closing `SubThenMulScalarMontgomeryTwoModulus` of `ModDown*` adds `2p` (`k+2`), `NTTLazy` on the unreduced buffer in
`ModDownQPtoQNTT` needs `4p` of room (`k+4`). -/
structure Target (P : List Nat) (k : Nat) : Prop where
  prime : ∀ p ∈ P, Nat.Prime p
  odd   : ∀ p ∈ P, p % 2 = 1
  small : ∀ p ∈ P, (k + 2) * p ≤ W

theorem Target.mono {P : List Nat} {k k' : Nat} (h : Target P k') (hk : k ≤ k') : Target P k :=
  ⟨h.prime, h.odd, fun p hp => by
    have := h.small p hp
    have : (k + 2) * p ≤ (k' + 2) * p := Nat.mul_le_mul_right _ (by omega)
    omega⟩

theorem LaneOK.of_target {Q T : List Nat} {n lT j k r : Nat} (h0 : 0 < n) (hn : n ≤ Q.length) (hC : Chain (Q.take n))
    (hk : (Q.take n).sum ≤ k * W) (hT : Target T (k + r)) (hlT : lT < T.length) (hj : j ≤ lT) :
    LaneOK (Q.take n) T j k r :=
  have hjT := Nat.lt_of_le_of_lt hj hlT
  have hm := getD_mem T j hjT
  ⟨hC, fun h => by
      have := congrArg List.length h
      rw [List.length_take, Nat.min_eq_left hn, List.length_nil] at this
      omega,
    hjT, hk, hT.prime _ hm, hT.odd _ hm, by have := hT.small _ hm; rwa [Nat.add_right_comm] at this⟩

/-- `p1` holds the `n ≥ 1` source rows: uint64 entries, reduced or not.  The hypothesis `fidx … ≤ n` (a valid table index)
is true of every float sum of `n` terms `≤ 1`; that is NOT proved here. -/
theorem modUpExact_limbs (Q P : List Nat) (levelP : Nat) (hlP : levelP < P.length) (p1 : Rows)
    (hpos : 0 < p1.length) (hn : p1.length ≤ Q.length) (hC : Chain (Q.take p1.length)) (k : Nat)
    (hk : (Q.take p1.length).sum ≤ k * W) (hT : Target P k) (hW : ∀ r ∈ p1, ∀ x ∈ r, x < W)
    (j : Nat) (hj : j ≤ levelP) :
    List.Forall₂ (fun col out =>
        fidx Q (hpsY (Q.take p1.length) col) ≤ p1.length →
          out % P.getD j 0
              = hpsOut (Q.take p1.length) (hpsY (Q.take p1.length) col)
                  (fidx Q (hpsY (Q.take p1.length) col)) (P.getD j 0)
            ∧ out < (k + 2) * P.getD j 0)
      (transpose p1) (row (modUpExact Q P (genModUpConstants (Q.take p1.length) P) levelP p1) j) := by
  have hL : LaneOK (Q.take p1.length) P j k 0 := .of_target hpos hn hC hk hT hlP hj
  rw [modUpExact_rows Q P levelP p1 hn hC hW, row_map_range _ _ j (Nat.lt_succ_of_le hj),
    List.forall₂_map_right_iff, List.forall₂_same]
  intro col hcol hv
  have hqlen : (Q.take p1.length).length = p1.length := by rw [List.length_take, Nat.min_eq_left hn]
  have hcl : col.length = (Q.take p1.length).length := (transpose_col p1 col hcol).1.trans hqlen.symm
  obtain ⟨h1, h2⟩ := multSum_ok hL _ (hpsY_length _ _ hcl) (hpsY_lt _ _ hcl hL.pos)
    (fidx Q (hpsY (Q.take p1.length) col))
  exact ⟨h2 (by rw [hqlen]; exact hv), h1⟩

/-- `k = 1`, i.e. limbs `< 3p` (the documented range of `ModUpExact`), for at most 8 source moduli -/
theorem sum_le_W (qs : List Nat) (hsm : ∀ q ∈ qs, q < 2 ^ 61) (h8 : qs.length ≤ 8) : qs.sum ≤ 1 * W := by
  calc qs.sum ≤ qs.length • 2 ^ 61 := List.sum_le_card_nsmul _ _ fun q hq => Nat.le_of_lt (hsm q hq)
    _ ≤ 8 * 2 ^ 61 := Nat.mul_le_mul_right _ h8
    _ = 1 * W := by decide

theorem hpsY_admissible (qs : List Nat) (hC : Chain qs) (x : Nat) :
    HY qs x (hpsY qs (residues qs x)) :=
  hpsY_ok qs x (hinv_of_primes qs hC.prime64 hC.nodup) (fun q hq => (hC.prime q hq).pos)

theorem coprime_of_chain (qs : List Nat) (hC : Chain qs) : qs.Pairwise Nat.Coprime :=
  pairwise_coprime_of_primes qs hC.prime hC.nodup

theorem hpsOut_chain (qs : List Nat) (hC : Chain qs) (x p v out : Nat) (hx : x < prodN qs) (hp : 0 < p)
    (ho : out % p = hpsOut qs (hpsY qs (residues qs x)) v p) :
    (out + v * prodN qs) % p = (x + hpsV qs (hpsY qs (residues qs x)) * prodN qs) % p :=
  hpsOut_any qs _ x p v out (coprime_of_chain qs hC) (fun q hq => (hC.prime q hq).pos) hx (hpsY_admissible qs hC x) hp ho

theorem hpsOut_exact (qs : List Nat) (hC : Chain qs) (x p : Nat) (hx : x < prodN qs) (hp : 0 < p) :
    hpsOut qs (hpsY qs (residues qs x)) (hpsV qs (hpsY qs (residues qs x))) p = x % p :=
  modUp_exact qs _ x p (coprime_of_chain qs hC) (fun q hq => (hC.prime q hq).pos) hx (hpsY_admissible qs hC x) hp

/-! ## a lane of a centred extension (shared with `Decomposer.DecomposeAndSplit`) -/

/-- `SubScalar` on an UNREDUCED limb `x < B` (`p ≤ B`): congruent to `x − s`, still `< B` -/
theorem subscalar_lazy (x s p B : Nat) (hs : s < p) (hW : x + p < W) (hx : x < B) (hB : p ≤ B) :
    ((subscalarvec_lane x s 0 p : ℕ) : ℤ) % (p : ℤ) = ((x : ℤ) - (s : ℤ)) % (p : ℤ)
    ∧ subscalarvec_lane x s 0 p < B := by
  unfold subscalarvec_lane CRed
  have hsx : s ≤ x + p := Nat.le_trans (Nat.le_of_lt hs) (Nat.le_add_left p x)
  rw [Lattigo.u64add_eq x p hW, Lattigo.u64sub_eq _ s hsx hW]
  by_cases h : p ≤ x + p - s
  · have hsx' : s ≤ x := by omega
    rw [if_pos (decide_eq_true h), Lattigo.u64sub_eq _ p h (Nat.lt_of_le_of_lt (Nat.sub_le _ _) hW),
      Nat.sub_right_comm, Nat.add_sub_cancel, Nat.cast_sub hsx']
    exact ⟨rfl, Nat.lt_of_le_of_lt (Nat.sub_le _ _) hx⟩
  · rw [if_neg (by simpa using h), Nat.cast_sub hsx, Nat.cast_add, add_sub_right_comm, Int.add_emod_right]
    exact ⟨rfl, by omega⟩

theorem hpsY_congr (qs xs zs : List Nat) (hx : xs.length = qs.length) (hz : zs.length = qs.length)
    (h : ∀ i, i < qs.length → xs.getD i 0 % qs.getD i 0 = zs.getD i 0 % qs.getD i 0) :
    hpsY qs xs = hpsY qs zs := by
  rw [hpsY_eq_range_map _ _ hx, hpsY_eq_range_map _ _ hz]
  apply List.map_congr_left
  intro i hi
  rw [Nat.mul_mod, h i (List.mem_range.mp hi), ← Nat.mul_mod]

theorem residues_length (qs : List Nat) (z : Nat) : (residues qs z).length = qs.length := by
  unfold residues; rw [List.length_map]

/-- the `y_i` the code computes for the integer coefficient `x`: HPS is fed the shifted remainder
`(x + ⌊Qb/2⌋) mod Qb` -/
def laneY (qs : List Nat) (x : Nat) : List Nat := hpsY qs (residues qs ((x + prodN qs / 2) % prodN qs))

/-- one limb of a centred extension from the chain `qs` to `T[j]`, for the integer coefficient `x`: `multSum` of the
lane's `y_i` with the IEEE index (`Qf` the list the code zips the `y_i` with), then `SubScalarBigint(⌊Qb/2⌋)` -/
def extLane (Qf qs T : List Nat) (j x : Nat) : Nat :=
  subscalarvec_lane
    (multSum (laneY qs x) (fidx Qf (laneY qs x)) (T.getD j 0) (GenMRedConstant (T.getD j 0))
      (genModUpConstants qs T).vtimesqmodp[j]! (genModUpConstants qs T).qoverqimodp[j]!)
    (prodN qs / 2 % T.getD j 0) 0 (T.getD j 0)

/-- the range holds for EVERY value of the IEEE index, the congruence for an index in the range of the table -/
theorem extLane_spec {qs T : List Nat} {j k r : Nat} (h : LaneOK qs T j k (r + 1)) (Qf : List Nat) (x : Nat) :
    extLane Qf qs T j x < (k + 2) * T.getD j 0
    ∧ (fidx Qf (laneY qs x) ≤ qs.length →
        ((extLane Qf qs T j x : ℕ) : ℤ) % (T.getD j 0 : ℤ)
          = (centeredRep (prodN qs) x
              + ((hpsV qs (laneY qs x) : ℤ) - (fidx Qf (laneY qs x) : ℤ)) * (prodN qs : ℤ)) % (T.getD j 0 : ℤ)) := by
  have hrl := residues_length qs ((x + prodN qs / 2) % prodN qs)
  have hx' := Nat.mod_lt (x + prodN qs / 2) (Scaling.prodN_pos _ h.pos)
  have hpp := h.prime
  have hsm := (h.mono (Nat.le_add_left 1 r)).small
  rw [Nat.succ_mul] at hsm
  obtain ⟨hlt, hc⟩ := multSum_ok h (laneY qs x) (hpsY_length _ _ hrl) (hpsY_lt _ _ hrl h.pos) (fidx Qf (laneY qs x))
  unfold extLane centeredRep
  unfold laneY at *
  generalize T.getD j 0 = p at hsm hlt hc hpp ⊢
  generalize (x + prodN qs / 2) % prodN qs = x' at *
  generalize fidx Qf (hpsY qs (residues qs x')) = v at *
  obtain ⟨s1, s2⟩ := subscalar_lazy _ (prodN qs / 2 % p) p ((k + 2) * p) (Nat.mod_lt _ hpp.pos)
    (Nat.lt_of_lt_of_le (Nat.add_lt_add_right hlt p) hsm) hlt (Nat.le_mul_of_pos_left _ (Nat.succ_pos _))
  refine ⟨s2, fun hv => ?_⟩
  have hout := hpsOut_chain qs h.chain x' p v _ hx' hpp.pos (hc hv)
  generalize hpsV qs (hpsY qs (residues qs x')) = V at *
  generalize multSum (hpsY qs (residues qs x')) v p (GenMRedConstant p) (genModUpConstants qs T).vtimesqmodp[j]!
    (genModUpConstants qs T).qoverqimodp[j]! = out at *
  -- `out + v·Qb ≡ x' + V·Qb`, read over the integers
  have hout' : (out : ℤ) % p = ((x' : ℤ) + ((V : ℤ) - v) * (prodN qs : ℤ)) % p :=
    Int.ModEq.add_right_cancel' ((v : ℤ) * (prodN qs : ℤ)) (by
      rw [show (x' : ℤ) + ((V : ℤ) - v) * (prodN qs : ℤ) + v * prodN qs = x' + V * prodN qs by ring]
      exact_mod_cast hout)
  have hh : ((prodN qs / 2 % p : ℕ) : ℤ) % (p : ℤ) = ((prodN qs / 2 : ℕ) : ℤ) % (p : ℤ) := by
    rw [Int.natCast_mod, Int.emod_emod_of_dvd _ (dvd_refl _)]
  rw [s1, Int.ModEq.sub hout' hh]
  congr 1
  ring

theorem extLane_lt {qs T : List Nat} {j k r : Nat} (h : LaneOK qs T j k (r + 1)) (Qf : List Nat) (x : Nat) :
    extLane Qf qs T j x < (k + 2) * T.getD j 0 := (extLane_spec h Qf x).1

theorem centeredRep_emod (P x : Nat) : centeredRep P x % (P : ℤ) = (x : ℤ) % (P : ℤ) := by
  unfold centeredRep
  rw [Int.natCast_mod, Int.emod_sub_emod, Nat.cast_add, add_sub_cancel_right]

/-- i.e. `|d| ≤ P/2` for odd `P` -/
theorem centeredRep_bounds (P x : Nat) (hP : 0 < P) :
    -((P / 2 : ℕ) : ℤ) ≤ centeredRep P x ∧ centeredRep P x < (P : ℤ) - ((P / 2 : ℕ) : ℤ) := by
  unfold centeredRep
  have := Nat.mod_lt (x + P / 2) hP
  constructor <;> omega

theorem forall₂_map_self {α β : Type} (R : α → β → Prop) (f : α → β) (X : List α) (h : ∀ x ∈ X, R x (f x)) :
    List.Forall₂ R X (X.map f) := by
  rw [List.forall₂_map_right_iff, List.forall₂_same]
  exact h

theorem transpose_eq (rows : Rows) (N : Nat) (hne : rows ≠ []) (hN : (rows.headD []).length = N) :
    transpose rows = (List.range N).map fun j => rows.map fun rw => rw.getD j 0 := by
  cases rows with
  | nil => exact absurd rfl hne
  | cons r rs =>
    simp only [List.headD_cons] at hN
    subst hN
    rfl

theorem transpose_map_rows (n : Nat) (hn : 0 < n) (X : List Nat) (g : Nat → Nat → Nat) :
    transpose ((List.range n).map fun i => X.map (g i))
      = X.map fun x => (List.range n).map fun i => g i x := by
  rw [transpose_eq _ X.length (by
      intro h
      have := congrArg List.length h
      simp at this; omega)
    (by
      obtain ⟨m, rfl⟩ : ∃ m, n = m + 1 := ⟨n - 1, by omega⟩
      rw [List.range_succ_eq_map]; simp)]
  apply List.ext_getElem
  · simp
  · intro t h1 h2
    rw [List.length_map, List.length_range] at h1
    rw [List.getElem_map, List.getElem_range, List.getElem_map, List.map_map]
    apply List.map_congr_left
    intro i _
    simp only [Function.comp]
    rw [List.getD_eq_getElem _ _ (by simpa using h1),
      List.getElem_map]

theorem range_map_residues (Q : List Nat) (n z : Nat) (hn : n ≤ Q.length) :
    (List.range n).map (fun i => z % Q.getD i 0) = residues (Q.take n) z := by
  unfold residues
  apply List.ext_getElem
  · simp; omega
  · intro i h1 h2
    rw [List.length_map, List.length_range] at h1
    rw [List.getElem_map, List.getElem_range, List.getElem_map, List.getElem_take,
      List.getD_eq_getElem _ _ (by omega)]

theorem addScalarBig_rows (Q : List Nat) (level s : Nat) (pol : Rows) (X : List Nat)
    (hq : ∀ i, i ≤ level → 0 < Q.getD i 0 ∧ 2 * Q.getD i 0 ≤ W)
    (hrows : ∀ i, i ≤ level → row pol i = X.map (· % Q.getD i 0)) :
    addScalarBig Q level s pol = (List.range (level + 1)).map fun i => X.map fun x => (x + s) % Q.getD i 0 := by
  unfold addScalarBig
  apply List.map_congr_left
  intro i hi
  have hi' : i ≤ level := by have := List.mem_range.mp hi; omega
  obtain ⟨h0, h2⟩ := hq i hi'
  simp only []
  rw [hrows i hi', List.map_map]
  apply List.map_congr_left
  intro x _
  simp only [Function.comp]
  have h1 : x % Q.getD i 0 < Q.getD i 0 := Nat.mod_lt _ h0
  have h3 : s % Q.getD i 0 < Q.getD i 0 := Nat.mod_lt _ h0
  rw [addscalarvec_lane_spec _ _ _ _ h0 (by omega) (by omega), ← Nat.add_mod]

theorem modUp_row (Q P : List Nat) (levelQ levelP : Nat) (hlQ : levelQ < Q.length)
    (hC : Chain (Q.take (levelQ + 1))) (polQ : Rows) (X : List Nat)
    (hrows : ∀ i, i ≤ levelQ → row polQ i = X.map (· % Q.getD i 0)) (j : Nat) (hj : j ≤ levelP) :
    row (modUp Q P levelQ levelP polQ) j = X.map (extLane Q (Q.take (levelQ + 1)) P j) := by
  have hn : levelQ + 1 ≤ Q.length := hlQ
  have hqmem : ∀ i, i ≤ levelQ → Q.getD i 0 ∈ Q.take (levelQ + 1) := by
    intro i hi
    rw [← ListLemmas.getD_take Q (levelQ + 1) i (Nat.lt_succ_of_le hi)]
    exact getD_mem _ i (by rw [List.length_take, Nat.min_eq_left hn]; exact Nat.lt_succ_of_le hi)
  have hsmall : ∀ i, i ≤ levelQ → 0 < Q.getD i 0 ∧ 2 * Q.getD i 0 ≤ W := fun i hi =>
    ⟨(hC.prime _ (hqmem i hi)).pos, hC.two_mul_le (hqmem i hi)⟩
  have hbuf := addScalarBig_rows Q levelQ (halfModulus Q levelQ) polQ X hsmall hrows
  unfold modUp
  simp only []
  generalize hb : addScalarBig Q levelQ (halfModulus Q levelQ) polQ = buffQ at *
  have hblen : buffQ.length = levelQ + 1 := by rw [hbuf, List.length_map, List.length_range]
  have hbW : ∀ r ∈ buffQ, ∀ x ∈ r, x < W := by
    intro r hr x hx
    rw [hbuf, List.mem_map] at hr
    obtain ⟨i, hi, rfl⟩ := hr
    obtain ⟨y, _, rfl⟩ := List.mem_map.1 hx
    obtain ⟨h1, h2⟩ := hsmall i (Nat.le_of_lt_succ (List.mem_range.mp hi))
    exact Nat.lt_trans (Nat.mod_lt _ h1) (lt_W_of_small h1 h2)
  have hrw := modUpExact_rows Q P levelP buffQ (hblen ▸ hn) (by rw [hblen]; exact hC) hbW
  rw [hblen] at hrw
  have htr : transpose buffQ = X.map fun x => residues (Q.take (levelQ + 1))
      ((x + prodN (Q.take (levelQ + 1)) / 2) % prodN (Q.take (levelQ + 1))) := by
    rw [hbuf, transpose_map_rows (levelQ + 1) (Nat.succ_pos _) X
      (fun i x => (x + halfModulus Q levelQ) % Q.getD i 0)]
    apply List.map_congr_left
    intro x _
    rw [range_map_residues Q (levelQ + 1) _ hn, residues_mod_prodN]
    rfl
  unfold subScalarBig
  rw [row_map_range _ _ j (Nat.lt_succ_of_le hj), hrw, row_map_range _ _ j (Nat.lt_succ_of_le hj), htr,
    List.map_map, List.map_map]
  rfl

/-- `modUp Q P` extends from `Q[:levelQ+1]` to `P[:levelP+1]` (`ModUpPtoQ` is `modUp P Q`).  The limb is the centred
representative of `[x]_Qb` plus `δ = hpsV − v` multiples of `Qb`, `v` the IEEE index of the shifted value
`(x + ⌊Qb/2⌋) mod Qb` the code extends; `δ = 0` when the index is exact (`modUp_centered_exact`). -/
theorem modUp_limbs (Q P : List Nat) (levelQ levelP : Nat) (hlQ : levelQ < Q.length) (hlP : levelP < P.length)
    (hC : Chain (Q.take (levelQ + 1))) (k : Nat) (hk : (Q.take (levelQ + 1)).sum ≤ k * W)
    (hT : Target P (k + 1)) (polQ : Rows) (X : List Nat)
    (hrows : ∀ i, i ≤ levelQ → row polQ i = X.map (· % Q.getD i 0)) (j : Nat) (hj : j ≤ levelP) :
    List.Forall₂ (fun x out =>
        fidx Q (hpsY (Q.take (levelQ + 1)) (residues (Q.take (levelQ + 1))
            ((x + prodN (Q.take (levelQ + 1)) / 2) % prodN (Q.take (levelQ + 1))))) ≤ levelQ + 1 →
          ((out : ℕ) : ℤ) % (P.getD j 0 : ℤ)
              = (centeredRep (prodN (Q.take (levelQ + 1))) x
                  + ((hpsV (Q.take (levelQ + 1)) (hpsY (Q.take (levelQ + 1)) (residues (Q.take (levelQ + 1))
                        ((x + prodN (Q.take (levelQ + 1)) / 2) % prodN (Q.take (levelQ + 1))))) : ℤ)
                    - (fidx Q (hpsY (Q.take (levelQ + 1)) (residues (Q.take (levelQ + 1))
                        ((x + prodN (Q.take (levelQ + 1)) / 2) % prodN (Q.take (levelQ + 1))))) : ℤ))
                    * (prodN (Q.take (levelQ + 1)) : ℤ)) % (P.getD j 0 : ℤ)
            ∧ out < (k + 2) * P.getD j 0)
      X (row (modUp Q P levelQ levelP polQ) j) := by
  have hL : LaneOK (Q.take (levelQ + 1)) P j k 1 := .of_target (Nat.succ_pos _) hlQ hC hk hT hlP hj
  rw [modUp_row Q P levelQ levelP hlQ hC polQ X hrows j hj]
  refine forall₂_map_self _ _ X fun x _ hv => ?_
  obtain ⟨h1, h2⟩ := extLane_spec hL Q x
  exact ⟨h2 (by rw [List.length_take_of_le hlQ]; exact hv), h1⟩

/-- `[(p_0⋯p_ℓ)⁻¹]_{q}` as the product of the Fermat inverses the code multiplies together -/
def pinvN (q : Nat) (Ps : List Nat) : Nat := ((Ps.map fun p => invMod p q).prod) % q

theorem pinvN_spec (q : Nat) (hq : q.Prime) (hq64 : q < 2 ^ 64) :
    ∀ (Ps : List Nat), (∀ p ∈ Ps, ¬ q ∣ p) → (prodN Ps * pinvN q Ps) % q = 1
  | [], _ => by simp [prodN, pinvN, Nat.mod_eq_of_lt hq.one_lt]
  | p :: Ps, h => by
    have ih := pinvN_spec q hq hq64 Ps (fun a ha => h a (List.mem_cons_of_mem _ ha))
    have h1 := invMod_spec p q hq hq64 (h p (List.mem_cons_self ..))
    unfold pinvN at ih ⊢
    rw [List.map_cons, List.prod_cons, prodN, Nat.mul_mod_mod]
    rw [Nat.mul_mod_mod] at ih
    have : p * prodN Ps * (invMod p q * (Ps.map fun p => invMod p q).prod)
        = (p * invMod p q) * (prodN Ps * (Ps.map fun p => invMod p q).prod) := by ring
    rw [this, Nat.mul_mod, h1, ih]
    exact Nat.mod_eq_of_lt hq.one_lt

theorem modDownConst_spec (qi : Nat) (hp : qi.Prime) (hodd : qi % 2 = 1) (h2 : 2 * qi ≤ W) (P : List Nat)
    (levelP : Nat) (hne : P ≠ []) :
    modDownConst qi P levelP = (pinvN qi (P.take (levelP + 1)) * W) % qi := by
  have : Fact qi.Prime := ⟨hp⟩
  have hm := montConst_gen hodd h2
  obtain ⟨p0, rest, hpr⟩ : ∃ p0 rest, P.take (levelP + 1) = p0 :: rest := by
    cases P with
    | nil => exact absurd rfl hne
    | cons a l => exact ⟨a, l.take levelP, by simp⟩
  have hinv : ∀ p, invMod p qi < W := fun p =>
    Nat.lt_trans (invMod_lt p qi hp.pos) (lt_W_of_small hp.pos h2)
  obtain ⟨hlt, hc⟩ := NTT.MForm_cast (q := qi) (invMod p0 qi) h2 (hinv p0)
  obtain ⟨c, l⟩ := montFold_cast (GenMRedConstant qi) h2 hm (fun p => invMod p qi) rest _ (fun p _ => hinv p) hlt
  -- the code has the operands of `MRed` in the other order
  have hcomm : (fun acc pj => MRed (MForm (invMod pj qi) qi (brc qi)) acc qi (GenMRedConstant qi))
      = fun acc pj => MRed acc (MForm (invMod pj qi) qi (brc qi)) qi (GenMRedConstant qi) :=
    funext fun _ => funext fun _ => MRed_comm _ _ _
  unfold modDownConst
  simp only []
  rw [hpr]
  simp only []
  rw [hcomm, ← Nat.mod_eq_of_lt l]
  apply mod_of_cast
  rw [c, hc, Nat.cast_mul, pinvN, ZMod.natCast_mod, Nat.cast_list_prod, List.map_cons, List.map_cons,
    List.prod_cons, List.map_map]
  exact mul_right_comm _ _ _

/-- one limb of the closing loop of `ModDown*`; the buffer limb `b` need not be reduced -/
theorem modDownLane_spec (qi c mdc b x : Nat) (hp : qi.Prime) (hodd : qi % 2 = 1) (h2 : 2 * qi ≤ W)
    (hmdc : mdc = (c * W) % qi) (hx : x < qi) (hb : b + 2 * qi < W) :
    subthenmulscalarmontgomeryTwoModulusvec_lane b x (u64sub qi mdc) 0 qi (GenMRedConstant qi)
      = modDownRes qi c x b := by
  have hml : mdc < qi := by rw [hmdc]; exact Nat.mod_lt _ hp.pos
  rw [Lattigo.u64sub_eq qi mdc (Nat.le_of_lt hml) (by omega)]
  refine stmLane_spec qi c _ b x hodd (Nat.sub_le _ _) ?_ hx hb
  -- `q − cW mod q + cW` is a multiple of `q`
  rw [hmdc, ← Nat.sub_add_comm (Nat.le_of_lt (Nat.mod_lt _ hp.pos)), Nat.add_sub_assoc (Nat.mod_le _ _),
    Nat.add_mod_left, ← Nat.sub_mod_eq_zero_of_mod_eq (Nat.mod_mod _ _).symm]

theorem pinvN_of_not_mem {q : Nat} {ps : List Nat} (hq : q.Prime) (hq2 : 2 * q ≤ W) (hC : Chain ps) (hnot : q ∉ ps) :
    (prodN ps * pinvN q ps) % q = 1 :=
  pinvN_spec q hq (lt_W_of_small hq.pos hq2) ps fun p hp hdvd =>
    hnot ((Nat.prime_dvd_prime_iff_eq hq (hC.prime p hp)).mp hdvd ▸ hp)

/-- one limb of `ModDown*` for the integer coefficient `x`: `(x − ext([x]_Pb))·Pb⁻¹ mod q_i` with the centred extension
`extLane` of the remainder -/
def downLane (Pf ps Q : List Nat) (i x : Nat) : Nat :=
  modDownRes (Q.getD i 0) (pinvN (Q.getD i 0) ps) (x % Q.getD i 0) (extLane Pf ps Q i x)

theorem modDownQPtoQ_row {Q P : List Nat} {levelQ levelP k i : Nat} (hlP : levelP < P.length)
    (hL : LaneOK (P.take (levelP + 1)) Q i k 2) {p1Q p1P : Rows} {X : List Nat}
    (hQ : ∀ i, i ≤ levelQ → row p1Q i = X.map (· % Q.getD i 0))
    (hP : ∀ j, j ≤ levelP → row p1P j = X.map (· % P.getD j 0)) (hi : i ≤ levelQ) :
    row (modDownQPtoQ Q P levelQ levelP p1Q p1P) i = X.map (downLane P (P.take (levelP + 1)) Q i) := by
  have hcspec := modDownConst_spec (Q.getD i 0) hL.prime hL.odd hL.two_mul_le P levelP
    (by intro h; rw [h] at hlP; exact Nat.not_lt_zero _ hlP)
  have hsm := hL.small
  rw [Nat.add_mul (k + 2) 2] at hsm
  unfold modDownQPtoQ modDownRows modUpPtoQ
  rw [row_map_range _ _ i (Nat.lt_succ_of_le hi), hQ i hi, modUp_row P Q levelP levelQ hlP hL.chain p1P X hP i hi,
    ListLemmas.zipWith_map_map]
  apply List.map_congr_left
  intro x _
  exact modDownLane_spec (Q.getD i 0) _ _ _ _ hL.prime hL.odd hL.two_mul_le hcspec (Nat.mod_lt _ hL.prime.pos)
    (Nat.lt_of_lt_of_le (Nat.add_lt_add_right (extLane_lt hL P x) _) hsm)

/-- `Pb = p_0⋯p_levelP`.  The limb is the rounded quotient `⌊(x + ⌊Pb/2⌋)/Pb⌋` minus `δ = hpsV − v`, `v` the IEEE index of
the `P → Q` conversion of the lane: `δ = 0` for an exact index, `|δ| ≤ 1` for a float error below `1`
(`modUp_never_off_by_more_than_one`).
`hdisj`: no `q_i` is one of the `p_j`. -/
theorem modDownQPtoQ_limbs (Q P : List Nat) (levelQ levelP : Nat) (hlQ : levelQ < Q.length)
    (hlP : levelP < P.length) (hCP : Chain (P.take (levelP + 1))) (k : Nat)
    (hk : (P.take (levelP + 1)).sum ≤ k * W) (hTQ : Target Q (k + 2))
    (hdisj : ∀ i, i ≤ levelQ → Q.getD i 0 ∉ P.take (levelP + 1)) (p1Q p1P : Rows) (X : List Nat)
    (hQ : ∀ i, i ≤ levelQ → row p1Q i = X.map (· % Q.getD i 0))
    (hP : ∀ j, j ≤ levelP → row p1P j = X.map (· % P.getD j 0)) (i : Nat) (hi : i ≤ levelQ) :
    List.Forall₂ (fun x out =>
        fidx P (hpsY (P.take (levelP + 1)) (residues (P.take (levelP + 1))
            ((x + prodN (P.take (levelP + 1)) / 2) % prodN (P.take (levelP + 1))))) ≤ levelP + 1 →
          ((out : ℕ) : ℤ) % (Q.getD i 0 : ℤ)
              = ((((x + prodN (P.take (levelP + 1)) / 2) / prodN (P.take (levelP + 1)) : ℕ) : ℤ)
                  - ((hpsV (P.take (levelP + 1)) (hpsY (P.take (levelP + 1)) (residues (P.take (levelP + 1))
                        ((x + prodN (P.take (levelP + 1)) / 2) % prodN (P.take (levelP + 1))))) : ℤ)
                    - (fidx P (hpsY (P.take (levelP + 1)) (residues (P.take (levelP + 1))
                        ((x + prodN (P.take (levelP + 1)) / 2) % prodN (P.take (levelP + 1))))) : ℤ)))
                % (Q.getD i 0 : ℤ)
            ∧ out < Q.getD i 0)
      X (row (modDownQPtoQ Q P levelQ levelP p1Q p1P) i) := by
  have hL : LaneOK (P.take (levelP + 1)) Q i k 2 := .of_target (Nat.succ_pos _) hlP hCP hk hTQ hlQ hi
  rw [modDownQPtoQ_row hlP hL hQ hP hi]
  refine forall₂_map_self _ _ X fun x _ hv => ?_
  exact ⟨modDown_err _ _ _ x _ _ hL.prime.pos (pinvN_of_not_mem hL.prime hL.two_mul_le hCP (hdisj i hi))
    ((extLane_spec hL P x).2 (by rw [List.length_take_of_le hlP]; exact hv)),
    divFloorRes_lt _ _ _ _ hL.prime.pos⟩

/-- division by `Qb = q_0⋯q_levelQ`, result in basis `P` -/
theorem modDownQPtoP_limbs (Q P : List Nat) (levelQ levelP : Nat) (hlQ : levelQ < Q.length)
    (hlP : levelP < P.length) (hCQ : Chain (Q.take (levelQ + 1))) (k : Nat)
    (hk : (Q.take (levelQ + 1)).sum ≤ k * W) (hTP : Target P (k + 2))
    (hdisj : ∀ j, j ≤ levelP → P.getD j 0 ∉ Q.take (levelQ + 1)) (p1Q p1P : Rows) (X : List Nat)
    (hQ : ∀ i, i ≤ levelQ → row p1Q i = X.map (· % Q.getD i 0))
    (hP : ∀ j, j ≤ levelP → row p1P j = X.map (· % P.getD j 0)) (j : Nat) (hj : j ≤ levelP) :
    List.Forall₂ (fun x out =>
        fidx Q (hpsY (Q.take (levelQ + 1)) (residues (Q.take (levelQ + 1))
            ((x + prodN (Q.take (levelQ + 1)) / 2) % prodN (Q.take (levelQ + 1))))) ≤ levelQ + 1 →
          ((out : ℕ) : ℤ) % (P.getD j 0 : ℤ)
              = ((((x + prodN (Q.take (levelQ + 1)) / 2) / prodN (Q.take (levelQ + 1)) : ℕ) : ℤ)
                  - ((hpsV (Q.take (levelQ + 1)) (hpsY (Q.take (levelQ + 1)) (residues (Q.take (levelQ + 1))
                        ((x + prodN (Q.take (levelQ + 1)) / 2) % prodN (Q.take (levelQ + 1))))) : ℤ)
                    - (fidx Q (hpsY (Q.take (levelQ + 1)) (residues (Q.take (levelQ + 1))
                        ((x + prodN (Q.take (levelQ + 1)) / 2) % prodN (Q.take (levelQ + 1))))) : ℤ)))
                % (P.getD j 0 : ℤ)
            ∧ out < P.getD j 0)
      X (row (modDownQPtoP Q P levelQ levelP p1Q p1P) j) :=
  modDownQPtoQ_limbs P Q levelP levelQ hlP hlQ hCQ k hk hTP hdisj p1P p1Q X hP hQ j hj

/-- the three cases of `index_cases` for every lane of `ModUpExact`; `hcols`: lane `t` of `p1` holds the residues of
`x_t < Qb = Π qs` -/
theorem modUpExact_exact (Q P : List Nat) (levelP : Nat) (hlP : levelP < P.length) (p1 : Rows)
    (hpos : 0 < p1.length) (hn : p1.length ≤ Q.length) (hC : Chain (Q.take p1.length)) (k : Nat)
    (hk : (Q.take p1.length).sum ≤ k * W) (hT : Target P k) (hW : ∀ r ∈ p1, ∀ x ∈ r, x < W)
    (xs : List Nat) (hxs : ∀ x ∈ xs, x < prodN (Q.take p1.length))
    (hcols : transpose p1 = xs.map (residues (Q.take p1.length))) (j : Nat) (hj : j ≤ levelP) :
    List.Forall₂ (fun x out =>
        (fidx Q (hpsY (Q.take p1.length) (residues (Q.take p1.length) x))
            = hpsV (Q.take p1.length) (hpsY (Q.take p1.length) (residues (Q.take p1.length) x)) →
          out % P.getD j 0 = x % P.getD j 0 ∧ out < (k + 2) * P.getD j 0)
        ∧ (fidx Q (hpsY (Q.take p1.length) (residues (Q.take p1.length) x))
            = hpsV (Q.take p1.length) (hpsY (Q.take p1.length) (residues (Q.take p1.length) x)) + 1 →
          (out + prodN (Q.take p1.length)) % P.getD j 0 = x % P.getD j 0 ∧ out < (k + 2) * P.getD j 0)
        ∧ (fidx Q (hpsY (Q.take p1.length) (residues (Q.take p1.length) x)) + 1
            = hpsV (Q.take p1.length) (hpsY (Q.take p1.length) (residues (Q.take p1.length) x)) →
          out % P.getD j 0 = (x + prodN (Q.take p1.length)) % P.getD j 0 ∧ out < (k + 2) * P.getD j 0))
      xs (row (modUpExact Q P (genModUpConstants (Q.take p1.length) P) levelP p1) j) := by
  have hL : LaneOK (Q.take p1.length) P j k 0 := .of_target hpos hn hC hk hT hlP hj
  rw [modUpExact_rows Q P levelP p1 hn hC hW, row_map_range _ _ j (Nat.lt_succ_of_le hj), hcols, List.map_map]
  refine forall₂_map_self _ _ xs fun x hxm => ?_
  generalize Q.take p1.length = qs at *
  have hx := hxs x hxm
  have hvlt := (hps_sum qs _ x hL.ne (coprime_of_chain qs hC) hL.pos hx (hpsY_admissible qs hC x)).2
  have hrl := residues_length qs x
  obtain ⟨hlt, h⟩ := multSum_ok hL _ (hpsY_length _ _ hrl) (hpsY_lt _ _ hrl hL.pos) (fidx Q (hpsY qs (residues qs x)))
  have hc := fun hv => index_cases (hpsOut_chain qs hC x _ _ _ hx hL.prime.pos (h hv))
  have hle : fidx Q (hpsY qs (residues qs x)) ≤ hpsV qs (hpsY qs (residues qs x)) + 1 →
      fidx Q (hpsY qs (residues qs x)) ≤ qs.length := fun hv => Nat.le_trans hv hvlt
  exact ⟨fun hv => ⟨(hc (hle (by omega))).1 hv, hlt⟩,
    fun hv => ⟨(hc (hle (Nat.le_of_eq hv))).2.1 hv, hlt⟩,
    fun hv => ⟨(hc (hle (by omega))).2.2 hv, hlt⟩⟩

end Lattigo.BasisExt

#print axioms Lattigo.BasisExt.reconstruct_eq
#print axioms Lattigo.BasisExt.modUpExact_rows
#print axioms Lattigo.BasisExt.modUpExact_limbs
#print axioms Lattigo.BasisExt.hpsOut_exact
#print axioms Lattigo.BasisExt.hpsOut_chain
#print axioms Lattigo.BasisExt.modUp_limbs
#print axioms Lattigo.BasisExt.modDownConst_spec
#print axioms Lattigo.BasisExt.modDownLane_spec
#print axioms Lattigo.BasisExt.modDownQPtoQ_limbs
#print axioms Lattigo.BasisExt.modDownQPtoP_limbs
#print axioms Lattigo.BasisExt.extLane_spec
#print axioms Lattigo.BasisExt.modUpExact_exact
#print axioms Lattigo.BasisExt.modUp_row
#print axioms Lattigo.BasisExt.modDownQPtoQ_row
