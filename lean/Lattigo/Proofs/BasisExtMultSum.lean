/-
  `multSum` and `GenModUpConstants` of ring/basis_extension.go, limb level ⊑ integer level.  `multSum` accumulates
  `Σ y_i·c_i` in 128 bits and closes with ONE lazy Montgomery reduction; the tables hold `Q/q_i` and `v·(−Q)` in Montgomery
  form, so that read in `Z_p` a lane is `Σ y_i·(Q/q_i) + vtimesqmodp[v]`: the integer-level `hpsOut` for a valid index, and
  `< (k+2)·p` for every index (`LaneOK` collects what a lane needs).
-/
import Lattigo.Proofs.BasisExtPrimes
import Lattigo.Proofs.ScalingRefine
import Lattigo.Proofs.NTTTables
import Lattigo.Proofs.Kernels
import Lattigo.Proofs.SqMul
import Lattigo.Proofs.ListLemmas
import Mathlib.Algebra.BigOperators.Group.Finset.Basic

namespace Lattigo.BasisExt
open Lattigo Lattigo.Gen Lattigo.Scaling

/-- `Σ_k ys[k]·cs[i+k]` over the integers -/
def dot (cs : Array Nat) : Nat → List Nat → Nat
  | _, [] => 0
  | i, y :: ys => y * cs[i]! + dot cs (i + 1) ys

/-- the loop body of `multSum` on the state `(rhi, rlo, i)` -/
def accStep (cs : Array Nat) (st : Nat × Nat × Nat) (y : Nat) : Nat × Nat × Nat :=
  (u64add st.1 (u64add (mul64 y cs[st.2.2]!).1 (add64 st.2.1 (mul64 y cs[st.2.2]!).2 0).2),
   (add64 st.2.1 (mul64 y cs[st.2.2]!).2 0).1, st.2.2 + 1)

theorem mul64_split (x y : Nat) (h : x * y < W * W) : (mul64 x y).1 * W + (mul64 x y).2 = x * y := by
  simp only [mul64]
  rw [Nat.mod_eq_of_lt (Nat.div_lt_of_lt_mul h), Nat.mul_comm]
  exact Nat.div_add_mod _ _

theorem lt_of_fit (s l T : Nat) (h : s * W + l = T) (hT : T < W * W) : s < W :=
  Nat.lt_of_mul_lt_mul_right (Nat.lt_of_le_of_lt (Nat.le_add_right _ l) (h ▸ hT))

theorem accStep_spec (cs : Array Nat) (st : Nat × Nat × Nat) (y : Nat)
    (hfit : st.1 * W + st.2.1 + y * cs[st.2.2]! < W * W) :
    (accStep cs st y).1 * W + (accStep cs st y).2.1 = st.1 * W + st.2.1 + y * cs[st.2.2]!
    ∧ (accStep cs st y).2.1 < W := by
  simp only [accStep, mul64, add64, Nat.add_zero]
  generalize y * cs[st.2.2]! = P at *
  -- `P = m1·2^64 + m2`, `lo + m2 = a2·2^64 + a1`: the total is `(hi + m1 + a2)·2^64 + a1`
  have hm := Nat.div_add_mod P W
  have ha := Nat.div_add_mod (st.2.1 + P % W) W
  rw [Nat.mod_eq_of_lt (Nat.div_lt_of_lt_mul (Nat.lt_of_le_of_lt (Nat.le_add_left _ _) hfit))]
  have ha1 : (st.2.1 + P % W) % W < W := Nat.mod_lt _ (by decide)
  generalize P / W = m1 at *
  generalize P % W = m2 at *
  generalize (st.2.1 + m2) / W = a2 at *
  generalize (st.2.1 + m2) % W = a1 at *
  have hT : (st.1 + (m1 + a2)) * W + a1 = st.1 * W + st.2.1 + P := by
    rw [Nat.add_mul, Nat.add_mul, Nat.mul_comm m1, Nat.mul_comm a2]; omega
  have hs := lt_of_fit _ _ _ hT hfit
  rw [u64add, u64add, Nat.mod_eq_of_lt (Nat.lt_of_le_of_lt (Nat.le_add_left _ _) hs), Nat.mod_eq_of_lt hs]
  exact ⟨hT, ha1⟩

theorem acc_fold (cs : Array Nat) (rest : List Nat) : ∀ st : Nat × Nat × Nat, st.2.1 < W →
    st.1 * W + st.2.1 + dot cs st.2.2 rest < W * W →
    (rest.foldl (accStep cs) st).1 * W + (rest.foldl (accStep cs) st).2.1
        = st.1 * W + st.2.1 + dot cs st.2.2 rest
      ∧ (rest.foldl (accStep cs) st).2.1 < W := by
  induction rest with
  | nil => exact fun st hlo _ => ⟨by rw [dot, Nat.add_zero, List.foldl_nil], hlo⟩
  | cons y rest ih =>
    intro st _ hfit
    rw [dot, ← Nat.add_assoc] at hfit ⊢
    obtain ⟨e, l1⟩ := accStep_spec cs st y (Nat.lt_of_le_of_lt (Nat.le_add_right _ _) hfit)
    rw [← e] at hfit ⊢
    exact ih (accStep cs st y) l1 hfit

theorem multSum_cons (y0 : Nat) (rest : List Nat) (v q qinv : Nat) (vt cs : Array Nat) :
    multSum (y0 :: rest) v q qinv vt cs =
      u64add (u64add (u64sub (rest.foldl (accStep cs) ((mul64 y0 cs[0]!).1, (mul64 y0 cs[0]!).2, 1)).1
        (mul64 (u64mul (rest.foldl (accStep cs) ((mul64 y0 cs[0]!).1, (mul64 y0 cs[0]!).2, 1)).2.1 qinv) q).1) q)
        vt[v]! := rfl

/-- the closing lazy Montgomery reduction of a 128-bit value `R = hi·2^64 + lo`:
`hi − ⌊((lo·qinv mod 2^64)·q)/2^64⌋ + q + t`, exact when `hi + q + t < 2^64`. -/
theorem mont128 (hi lo q qinv t : Nat) (hlo : lo < W) (hm : MontConst q qinv) (hW : hi + q + t < W) :
    u64add (u64add (u64sub hi (mul64 (u64mul lo qinv) q).1) q) t * W + ((lo * qinv) % W) * q
        = hi * W + lo + q * W + t * W
    ∧ hi + t < u64add (u64add (u64sub hi (mul64 (u64mul lo qinv) q).1) q) t
    ∧ u64add (u64add (u64sub hi (mul64 (u64mul lo qinv) q).1) q) t ≤ hi + q + t := by
  -- the Montgomery step on `P = hi·2^64 + lo` with `M = (lo·qinv mod 2^64)·q`: `M ≡ lo (mod 2^64)`, `H = ⌊M/2^64⌋ < q`
  have hH := mont_high (lo * qinv) q qinv hm
  have hP : (hi * W + lo) / W = hi := by
    rw [Nat.mul_comm, Nat.mul_add_div W_pos, Nat.div_eq_of_lt hlo, Nat.add_zero]
  obtain ⟨h1, h2, h3⟩ := mont_step_eq (P := hi * W + lo)
    ((mont_low q qinv lo hm hlo).trans (by rw [Nat.mul_add_mod_self_right, Nat.mod_eq_of_lt hlo])) hH
  rw [hP] at h1 h2 h3
  simp only [mul64, u64mul]
  rw [Nat.mod_eq_of_lt (Nat.lt_trans hH (by omega)), u64sub_add_eq hi _ q (by omega) (by omega) (by omega),
    u64add_eq _ t (by omega), Nat.add_mul, Nat.add_right_comm, h1]
  exact ⟨rfl, by omega, by omega⟩

/-- `R = dot cs 0 ys = Σ y_i·c_i` has to fit in 128 bits (`hfit`) and the upper bound of the limb in 64 (`hW`); then nothing
wraps -/
theorem multSum_spec (ys : List Nat) (hne : ys ≠ []) (v q qinv : Nat) (vt cs : Array Nat)
    (hm : MontConst q qinv)
    (hfit : dot cs 0 ys < W * W) (hW : dot cs 0 ys / W + q + vt[v]! < W) :
    (multSum ys v q qinv vt cs * W) % q = (dot cs 0 ys + vt[v]! * W) % q
    ∧ dot cs 0 ys / W + vt[v]! < multSum ys v q qinv vt cs
    ∧ multSum ys v q qinv vt cs ≤ dot cs 0 ys / W + q + vt[v]! := by
  obtain ⟨y0, rest, rfl⟩ := List.exists_cons_of_ne_nil hne
  rw [multSum_cons]
  have h0 := mul64_split y0 cs[0]! (Nat.lt_of_le_of_lt (Nat.le_add_right _ _) hfit)
  obtain ⟨e, l1⟩ := acc_fold cs rest ((mul64 y0 cs[0]!).1, (mul64 y0 cs[0]!).2, 1)
    (Nat.mod_lt _ (by decide)) (by rw [h0]; exact hfit)
  rw [h0] at e
  generalize (rest.foldl (accStep cs) ((mul64 y0 cs[0]!).1, (mul64 y0 cs[0]!).2, 1)).1 = hi at *
  generalize (rest.foldl (accStep cs) ((mul64 y0 cs[0]!).1, (mul64 y0 cs[0]!).2, 1)).2.1 = lo at *
  change hi * W + lo = dot cs 0 (y0 :: rest) at e
  generalize dot cs 0 (y0 :: rest) = R at *
  have hhi : R / W = hi := by
    rw [← e, Nat.mul_comm, Nat.mul_add_div (by decide), Nat.div_eq_of_lt l1, Nat.add_zero]
  rw [hhi] at hW ⊢
  obtain ⟨m1, m2, m3⟩ := mont128 hi lo q qinv vt[v]! l1 hm hW
  refine ⟨?_, m2, m3⟩
  apply mod_eq_of_add_mul_eq (k1 := (lo * qinv) % W) (k2 := W)
  rw [m1, ← e, Nat.mul_comm W q]
  exact Nat.add_right_comm _ _ _

section Mont
open Lattigo.NTT
variable {q : ℕ} [Fact q.Prime]

omit [Fact q.Prime] in
theorem lt_W_of_small (h0 : 0 < q) (h2 : 2 * q ≤ W) : q < W := by omega

omit [Fact q.Prime] in
theorem montConst_gen (hodd : q % 2 = 1) (h2 : 2 * q ≤ W) : MontConst q (GenMRedConstant q) :=
  (GenMRedConstant_spec q hodd (lt_W_of_small (by omega) h2)).1

omit [Fact q.Prime] in
theorem MRed_comm (x y qinv : ℕ) : MRed x y q qinv = MRed y x q qinv := by
  unfold MRed mul64
  rw [Nat.mul_comm x y]

theorem MRed_cast_lt (qinv : ℕ) (h2 : 2 * q ≤ W) (hm : MontConst q qinv) (x y : ℕ) (hx : x < W) (hy : y < q) :
    ((MRed x y q qinv : ℕ) : ZMod q) = (x : ZMod q) * (y : ZMod q) * (W : ZMod q)⁻¹ ∧ MRed x y q qinv < q :=
  ⟨MRed_cast x y qinv h2 hm (mul_lt_qW hx hy), (MRed_spec x y q qinv h2 hm (mul_lt_qW hx hy)).2⟩

theorem MRed_MForm_cast (qinv : ℕ) (h2 : 2 * q ≤ W) (hm : MontConst q qinv) (x a : ℕ) (hx : x < W) (ha : a < W) :
    ((MRed x (MForm a q (brc q)) q qinv : ℕ) : ZMod q) = (x : ZMod q) * (a : ZMod q)
      ∧ MRed x (MForm a q (brc q)) q qinv < q := by
  obtain ⟨hlt, hc⟩ := MForm_cast (q := q) a h2 ha
  obtain ⟨c, l⟩ := MRed_cast_lt qinv h2 hm x _ hx hlt
  exact ⟨by rw [c, hc, mul_assoc, mul_assoc, W_mul_inv hm, mul_one], l⟩

theorem montFold_cast (qinv : ℕ) (h2 : 2 * q ≤ W) (hm : MontConst q qinv) (f : ℕ → ℕ) :
    ∀ (L : List ℕ) (init : ℕ), (∀ j ∈ L, f j < W) → init < q →
      ((L.foldl (fun acc j => MRed acc (MForm (f j) q (brc q)) q qinv) init : ℕ) : ZMod q)
          = (init : ZMod q) * (L.map (fun j => ((f j : ℕ) : ZMod q))).prod
        ∧ L.foldl (fun acc j => MRed acc (MForm (f j) q (brc q)) q qinv) init < q
  | [], init, _, hi => ⟨by simp, hi⟩
  | j :: L, init, hf, hi => by
    obtain ⟨c, l⟩ := MRed_MForm_cast qinv h2 hm init (f j) (by omega) (hf j (List.mem_cons_self ..))
    obtain ⟨c', l'⟩ := montFold_cast qinv h2 hm f L _ (fun j hj => hf j (List.mem_cons_of_mem _ hj)) l
    simp only [List.foldl_cons, List.map_cons, List.prod_cons]
    exact ⟨by rw [c', c, mul_assoc], l'⟩

theorem modexpGo_cast (qinv : ℕ) (h2 : 2 * q ≤ W) (hm : MontConst q qinv) :
    ∀ (fuel x e r : ℕ), e < 2 ^ fuel → x < q → r < q →
      ((modexpMontgomery.go q qinv fuel x e r : ℕ) : ZMod q)
          = (r : ZMod q) * ((x : ZMod q) * (W : ZMod q)⁻¹) ^ e
        ∧ modexpMontgomery.go q qinv fuel x e r < q
  | 0, x, e, r, he, hx, hr => by
    obtain rfl : e = 0 := by simpa using he
    exact ⟨by rw [pow_zero, mul_one]; rfl, hr⟩
  | fuel + 1, x, e, r, he, hx, hr => by
    rw [modexpMontgomery.go]
    by_cases h0 : e = 0
    · subst h0; rw [if_pos rfl, pow_zero, mul_one]; exact ⟨rfl, hr⟩
    · rw [if_neg h0]
      have hqW := lt_W_of_small (Nat.zero_lt_of_lt hx) h2
      obtain ⟨cx, lx⟩ := MRed_cast_lt qinv h2 hm x x (Nat.lt_trans hx hqW) hx
      obtain ⟨cr, lr⟩ := MRed_cast_lt qinv h2 hm r x (Nat.lt_trans hr hqW) hx
      obtain ⟨c, l⟩ := modexpGo_cast qinv h2 hm fuel (MRed x x q qinv) (e / 2)
        (if e % 2 = 1 then MRed r x q qinv else r)
        (Nat.div_lt_of_lt_mul (by rw [Nat.mul_comm, ← Nat.pow_succ]; exact he)) lx (by split <;> assumption)
      refine ⟨?_, l⟩
      rw [c, cx, ← SqMul.sq_mul_step (r : ZMod q) ((x : ZMod q) * (W : ZMod q)⁻¹) e,
        apply_ite (Nat.cast : ℕ → ZMod q), cr, mul_assoc (r : ZMod q)]
      congr 2
      ring

theorem modexpMontgomery_cast (qinv : ℕ) (h2 : 2 * q ≤ W) (hm : MontConst q qinv) (x e : ℕ)
    (he : e < 2 ^ 64) (hx : x < q) :
    ((modexpMontgomery x e q qinv (brc q) : ℕ) : ZMod q)
        = ((x : ZMod q) * (W : ZMod q)⁻¹) ^ e * (W : ZMod q)
      ∧ modexpMontgomery x e q qinv (brc q) < q := by
  unfold modexpMontgomery
  obtain ⟨hlt, hc⟩ := MForm_cast (q := q) 1 h2 (by decide)
  obtain ⟨c, l⟩ := modexpGo_cast qinv h2 hm 64 x e _ he hx hlt
  refine ⟨?_, l⟩
  rw [c, hc, Nat.cast_one, one_mul, mul_comm]

end Mont

theorem prod_range_getD : ∀ (Q : List Nat), ∏ k ∈ Finset.range Q.length, Q.getD k 0 = prodN Q
  | [] => by simp [prodN]
  | a :: Q => by
    rw [List.length_cons, Finset.prod_range_succ']
    simp only [List.getD_cons_succ, List.getD_cons_zero]
    rw [prod_range_getD Q, prodN, Nat.mul_comm]

/-- the product the two inner loops of `GenModUpConstants` accumulate -/
theorem prod_others (Q : List Nat) (i : Nat) (hi : i < Q.length) (hpos : 0 < Q.getD i 0) :
    ((others Q.length i).map fun j => Q.getD j 0).prod = qStar Q (Q.getD i 0) := by
  have h : Q.getD i 0 * ((others Q.length i).map fun j => Q.getD j 0).prod = prodN Q := by
    unfold others
    rw [← List.prod_toFinset _ ((List.nodup_range).filter _), List.toFinset_filter, List.toFinset_range]
    have : (Finset.filter (fun x => decide (x ≠ i) = true) (Finset.range Q.length))
        = (Finset.range Q.length).erase i := by
      ext x; simp [Finset.mem_erase, and_comm]
    rw [this, Finset.mul_prod_erase _ (fun j => Q.getD j 0) (Finset.mem_range.mpr hi), prod_range_getD]
  rw [qStar, ← h, Nat.mul_div_cancel_left _ hpos]

theorem getElem!_map_range {α : Type} [Inhabited α] (n : Nat) (f : Nat → α) (i : Nat) (h : i < n) :
    (((List.range n).map f).toArray)[i]! = f i := by
  simp [h]

theorem getElem!_map_toArray {α : Type} [Inhabited α] (P : List Nat) (g : Nat → α) (j : Nat)
    (h : j < P.length) : ((P.map g).toArray)[j]! = g (P.getD j 0) := by
  simp [h, List.getD_eq_getElem?_getD]

theorem getD_mem (Q : List Nat) (i : Nat) (hi : i < Q.length) : Q.getD i 0 ∈ Q :=
  ListLemmas.getD_mem hi

theorem getD_lt_W (Q : List Nat) (hall : ∀ q ∈ Q, q < W) (j : Nat) : Q.getD j 0 < W :=
  ListLemmas.getD_forall (p := (· < W)) (by decide) hall j

theorem qoverqiinvqi_cast (Q P : List Nat) (i : Nat) (hi : i < Q.length) {q : ℕ} [Fact q.Prime]
    (hq : Q.getD i 0 = q) (hodd : q % 2 = 1) (hsm : 2 * q ≤ W) (hall : ∀ q ∈ Q, q < W) :
    (((genModUpConstants Q P).qoverqiinvqi[i]! : ℕ) : ZMod q)
        = ((qStar Q q : ℕ) : ZMod q) ^ (q - 2) * (W : ZMod q)
      ∧ (genModUpConstants Q P).qoverqiinvqi[i]! < q := by
  unfold genModUpConstants
  simp only []
  rw [getElem!_map_range _ _ i hi]
  simp only [ListLemmas.toArray_get!, hq]
  have hm := montConst_gen hodd hsm
  obtain ⟨h1lt, h1c⟩ := NTT.MForm_cast (q := q) 1 hsm (by decide)
  obtain ⟨c, l⟩ := montFold_cast (GenMRedConstant q) hsm hm (fun j => Q.getD j 0) (others Q.length i) _
    (fun j _ => getD_lt_W Q hall j) h1lt
  obtain ⟨c2, l2⟩ := modexpMontgomery_cast (GenMRedConstant q) hsm hm _ (q - 2)
    (Nat.lt_of_le_of_lt (Nat.sub_le _ _) (lt_W_of_small (Fact.out : q.Prime).pos hsm)) l
  refine ⟨?_, l2⟩
  have hs := prod_others Q i hi (hq ▸ (Fact.out : q.Prime).pos)
  rw [hq] at hs
  rw [c2, c, h1c, Nat.cast_one, one_mul, mul_comm (W : ZMod q), mul_assoc,
    W_mul_inv hm, mul_one, ← hs, Nat.cast_list_prod, List.map_map]
  rfl

/-- one `y_i` of `reconstructRNS`, with the Fermat inverse `invMod` of the integer-level `hpsY`; `x_i` is ANY uint64,
reduced or not (`reconstructRNSCentered` feeds an unreduced sum) -/
theorem reconstruct_y (Q P : List Nat) (hC : Chain Q) (i : Nat) (hi : i < Q.length) (x : Nat) (hx : x < W) :
    MRed x (genModUpConstants Q P).qoverqiinvqi[i]! (Q.getD i 0) (GenMRedConstant (Q.getD i 0))
      = (x * invMod (qStar Q (Q.getD i 0) % Q.getD i 0) (Q.getD i 0)) % Q.getD i 0 := by
  have hmem := getD_mem Q i hi
  have hp := hC.prime _ hmem
  have hodd := hC.odd _ hmem
  have hsm := hC.small _ hmem
  generalize hq : Q.getD i 0 = q at *
  have : Fact q.Prime := ⟨hp⟩
  have h2 : 2 * q ≤ W := hC.two_mul_le hmem
  have hm := montConst_gen hodd h2
  obtain ⟨c, l⟩ := qoverqiinvqi_cast Q P i hi hq hodd h2 (fun q hq => hC.lt_W hq)
  obtain ⟨hmc, hml⟩ := MRed_cast_lt (GenMRedConstant q) h2 hm x _ hx l
  rw [← Nat.mod_eq_of_lt hml]
  apply mod_of_cast
  rw [hmc, c, Nat.cast_mul, invMod_eq _ q hp.pos (hC.lt_W hmem), ZMod.natCast_mod, Nat.cast_pow, ZMod.natCast_mod,
    mul_assoc, mul_assoc, W_mul_inv hm, mul_one]

theorem qoverqimodp_cast (Q P : List Nat) (i j : Nat) (hi : i < Q.length) (hj : j < P.length) {p : ℕ}
    [Fact p.Prime] (hpj : P.getD j 0 = p) (hodd : p % 2 = 1) (hsm : 2 * p ≤ W) (hall : ∀ q ∈ Q, q < W)
    (hpos : 0 < Q.getD i 0) :
    ((((genModUpConstants Q P).qoverqimodp[j]!)[i]! : ℕ) : ZMod p)
        = ((qStar Q (Q.getD i 0) : ℕ) : ZMod p) * (W : ZMod p)
      ∧ ((genModUpConstants Q P).qoverqimodp[j]!)[i]! < p := by
  unfold genModUpConstants
  simp only []
  rw [getElem!_map_toArray _ _ j hj, getElem!_map_range _ _ i hi]
  simp only [ListLemmas.toArray_get!, hpj]
  obtain ⟨c, l⟩ := montFold_cast (GenMRedConstant p) hsm (montConst_gen hodd hsm) (fun j => Q.getD j 0)
    (others Q.length i) 1 (fun j _ => getD_lt_W Q hall j) (Fact.out : p.Prime).one_lt
  obtain ⟨hlt, hc⟩ := NTT.MForm_cast (q := p) _ hsm (Nat.lt_of_lt_of_le l (by omega))
  refine ⟨?_, hlt⟩
  rw [hc, c, Nat.cast_one, one_mul, ← prod_others Q i hi hpos, Nat.cast_list_prod, List.map_map]
  rfl

/-- the running table `vtimesqmodp[j]`: each step appends `CRed(last + v)`, so entry `t` is `t·v mod p` -/
theorem vtFold (p vv : Nat) (hp : 0 < p) (hvv : vv ≤ p) (h2 : 2 * p ≤ W) :
    ∀ (L : List Nat) (arr : Array Nat) (last k : Nat), arr.size = k + 1 → last = (k * vv) % p →
      (∀ t, t ≤ k → arr[t]! = (t * vv) % p) →
      let r := (L.foldl (fun (st : Array Nat × Nat) _ =>
        ((st.1.push (CRed (u64add st.2 vv) p)), CRed (u64add st.2 vv) p)) (arr, last)).1
      r.size = k + L.length + 1 ∧ ∀ t, t ≤ k + L.length → r[t]! = (t * vv) % p
  | [], arr, last, k, hsz, _, h => ⟨hsz, h⟩
  | _ :: L, arr, last, k, hsz, hlast, h => by
    have hl : last < p := by rw [hlast]; exact Nat.mod_lt _ hp
    have hlt : last + vv < 2 * p := by rw [Nat.two_mul]; exact Nat.add_lt_add_of_lt_of_le hl hvv
    have hnx : CRed (u64add last vv) p = ((k + 1) * vv) % p := by
      rw [Lattigo.u64add_eq last vv (Nat.lt_of_lt_of_le hlt h2), CRed_spec _ p hp hlt (Nat.lt_of_lt_of_le hlt h2),
        hlast, Nat.add_mul, Nat.one_mul, Nat.mod_add_mod]
    rw [List.foldl_cons, List.length_cons, ← Nat.add_assoc, Nat.add_right_comm k]
    apply vtFold p vv hp hvv h2 L _ _ (k + 1) (by rw [Array.size_push, hsz]) hnx
    intro t ht
    rw [getElem!_def, Array.getElem?_push, hsz]
    by_cases e : t = k + 1
    · subst e; rw [if_pos rfl]; exact hnx
    · rw [if_neg e, ← getElem!_def]; exact h t (Nat.le_of_lt_succ (Nat.lt_of_le_of_ne ht e))

/-- the `MRed` chain computing `Q mod p_j` in `GenModUpConstants` -/
theorem qmodp_eq (Q : List Nat) (p : Nat) (hp : p.Prime) (hodd : p % 2 = 1) (hsm : 2 * p ≤ W)
    (hall : ∀ q ∈ Q, q < W) :
    Q.foldl (fun acc qi => MRed acc (MForm qi p (brc p)) p (GenMRedConstant p)) 1 = prodN Q % p := by
  have : Fact p.Prime := ⟨hp⟩
  obtain ⟨c, l⟩ := montFold_cast (GenMRedConstant p) hsm (montConst_gen hodd hsm) (fun q => q) Q 1 hall hp.one_lt
  rw [← Nat.mod_eq_of_lt l]
  apply mod_of_cast
  rw [c, Nat.cast_one, one_mul, Scaling.prodN_eq_prod, Nat.cast_list_prod]

/-- an out-of-range read (Go: index panic) gives the default `0` -/
theorem muc_vtimesqmodp (Q P : List Nat) (j v : Nat) (hj : j < P.length) {p : Nat} (hpj : P.getD j 0 = p)
    (hp : p.Prime) (hodd : p % 2 = 1) (hsm : 2 * p ≤ W) (hall : ∀ q ∈ Q, q < W) :
    ((genModUpConstants Q P).vtimesqmodp[j]!)[v]! = if v ≤ Q.length then (v * (p - prodN Q % p)) % p else 0 := by
  unfold genModUpConstants
  simp only []
  have hr : prodN Q % p < p := Nat.mod_lt _ hp.pos
  rw [getElem!_map_toArray _ _ j hj, hpj, qmodp_eq Q p hp hodd hsm hall,
    Lattigo.u64sub_eq p _ (Nat.le_of_lt hr) (lt_W_of_small hp.pos hsm)]
  obtain ⟨hsz, hent⟩ := vtFold p (p - prodN Q % p) hp.pos (Nat.sub_le _ _) hsm (List.range Q.length) #[0] 0 0
    rfl (by simp) (by intro t ht; obtain rfl : t = 0 := by omega
                      simp)
  rw [List.length_range, Nat.zero_add] at hsz hent
  split
  · exact hent v ‹_›
  · exact getElem!_neg _ _ (by omega)

theorem drop_eq_getD_cons (Q : List Nat) (i : Nat) (hi : i < Q.length) :
    Q.drop i = Q.getD i 0 :: Q.drop (i + 1) := by
  rw [List.drop_eq_getElem_cons hi]
  simp [List.getD_eq_getElem?_getD, hi]

/-- in `Z_p` the accumulator is `2^64·Σ y_i·(Q/q_i)`; the size bound is the hypothesis `hb` of `acc_size` -/
theorem dot_spec {p : ℕ} (cs : Array Nat) (Q : List Nat) (Qbig : Nat)
    (hcs : ∀ k, k < Q.length →
      ((cs[k]! : ℕ) : ZMod p) = ((Qbig / Q.getD k 0 : ℕ) : ZMod p) * (W : ZMod p) ∧ cs[k]! ≤ p) :
    ∀ (ys : List Nat) (i : Nat), i + ys.length = Q.length →
      (∀ k, k < ys.length → ys.getD k 0 < Q.getD (i + k) 0) →
      ((dot cs i ys : ℕ) : ZMod p) = (W : ZMod p) * ((sumQ Qbig (Q.drop i) ys : ℕ) : ZMod p)
        ∧ dot cs i ys + p * ys.length ≤ p * (Q.drop i).sum
  | [], i, _, _ => by simp [dot]
  | y :: ys, i, h, hy => by
    rw [List.length_cons] at h
    have hi : i < Q.length := Nat.lt_of_lt_of_eq (Nat.lt_add_of_pos_right (Nat.succ_pos _)) h
    obtain ⟨ihc, ihb⟩ := dot_spec cs Q Qbig hcs ys (i + 1) (by rw [Nat.add_right_comm]; exact h) (fun k hk => by
      have := hy (k + 1) (Nat.succ_lt_succ hk)
      rwa [List.getD_cons_succ, ← Nat.add_assoc, Nat.add_right_comm] at this)
    have h0 := hy 0 (Nat.succ_pos _)
    rw [List.getD_cons_zero, Nat.add_zero] at h0
    rw [drop_eq_getD_cons Q i hi, sumQ_cons, List.sum_cons, List.length_cons, dot]
    constructor
    · rw [Nat.cast_add, Nat.cast_mul, (hcs i hi).1, ihc, Nat.cast_add, Nat.cast_mul]
      ring
    · -- `y·c_i + p ≤ (y + 1)·p ≤ q_i·p`
      have h1 : y * cs[i]! + p ≤ p * Q.getD i 0 := by
        rw [Nat.mul_comm p]
        exact Nat.le_trans (by rw [Nat.succ_mul]; exact Nat.add_le_add_right (Nat.mul_le_mul_left _ (hcs i hi).2) p)
          (Nat.mul_le_mul_right p h0)
      rw [Nat.mul_add, Nat.mul_add, Nat.mul_one]
      omega

/-- size of the 128-bit accumulator `R` and of the limb: with `R + p·n ≤ p·S` (`n ≥ 1` terms `y_i·c_i`, `y_i < q_i`,
`c_i ≤ p`, `S = Σ q_i ≤ k·2^64`) and `(k+2)·p ≤ 2^64`, `R` fits in 128 bits and `⌊R/2^64⌋ + p + t < (k+2)·p` -/
theorem acc_size (R p k S n t : Nat) (hn : 0 < n) (hb : R + p * n ≤ p * S) (hk : S ≤ k * W)
    (hkp : (k + 2) * p ≤ W) (ht : t < p) :
    R < W * W ∧ R / W + p + t < (k + 2) * p := by
  have h1 : R + p ≤ (p * k) * W :=
    calc R + p ≤ R + p * n := Nat.add_le_add_left (Nat.le_mul_of_pos_right p hn) R
      _ ≤ p * S := hb
      _ ≤ p * (k * W) := Nat.mul_le_mul_left p hk
      _ = (p * k) * W := (Nat.mul_assoc p k W).symm
  have hlt : R < (p * k) * W := Nat.lt_of_lt_of_le (Nat.lt_add_of_pos_right (Nat.zero_lt_of_lt ht)) h1
  have h2 : (k + 2) * p = p * k + p + p := by rw [Nat.add_mul, Nat.mul_comm k p, Nat.two_mul, Nat.add_assoc]
  rw [h2] at hkp ⊢
  have hpk : p * k ≤ W := Nat.le_trans (Nat.le_add_right _ _) (Nat.le_trans (Nat.le_add_right _ _) hkp)
  have hdiv : R / W < p * k := Nat.div_lt_of_lt_mul (by rw [Nat.mul_comm]; exact hlt)
  exact ⟨Nat.lt_of_lt_of_le hlt (Nat.mul_le_mul_right W hpk), Nat.add_lt_add (Nat.add_lt_add_right hdiv p) ht⟩

/-- what one lane of an extension from the chain `qs` to `T[j]` needs: `qs` admissible and non-empty with
`Σ q_i ≤ k·2^64`, `T[j]` an odd prime with `(k + 2 + r)·T[j] ≤ 2^64`.  The room `r` is what the steps after `multSum`
add to the unreduced limb: `0` for `multSum` alone, `1` with the `SubScalar` of `ModUpQtoP/PtoQ`, `2` with the closing
loop of `ModDown*`, `4` with `NTTLazy` in between (`ModDownQPtoQNTT`). -/
structure LaneOK (qs T : List Nat) (j k r : Nat) : Prop where
  chain : Chain qs
  ne    : qs ≠ []
  lt    : j < T.length
  sum   : qs.sum ≤ k * W
  prime : (T.getD j 0).Prime
  odd   : T.getD j 0 % 2 = 1
  small : (k + 2 + r) * T.getD j 0 ≤ W

theorem LaneOK.mono {qs T : List Nat} {j k r r' : Nat} (h : LaneOK qs T j k r) (hr : r' ≤ r) : LaneOK qs T j k r' :=
  ⟨h.chain, h.ne, h.lt, h.sum, h.prime, h.odd,
    Nat.le_trans (Nat.mul_le_mul_right _ (Nat.add_le_add_left hr _)) h.small⟩

theorem LaneOK.two_mul_le {qs T : List Nat} {j k r : Nat} (h : LaneOK qs T j k r) : 2 * T.getD j 0 ≤ W :=
  Nat.le_trans (Nat.mul_le_mul_right _ (Nat.le_trans (Nat.le_add_left 2 k) (Nat.le_add_right _ r))) h.small

theorem LaneOK.pos {qs T : List Nat} {j k r : Nat} (h : LaneOK qs T j k r) : ∀ q ∈ qs, 0 < q :=
  fun q hq => (h.chain.prime q hq).pos

/-- for EVERY table index `v`, valid or not; `k` bounds `Σ q_i / 2^64` (`k = 1` for at most 8 source moduli below `2^61`) -/
theorem multSum_lane {Q P : List Nat} {j k r : Nat} (h : LaneOK Q P j k r) (ys : List Nat) (hlen : ys.length = Q.length)
    (hys : ∀ i, i < Q.length → ys.getD i 0 < Q.getD i 0) (v : Nat) :
    ((multSum ys v (P.getD j 0) (GenMRedConstant (P.getD j 0)) (genModUpConstants Q P).vtimesqmodp[j]!
        (genModUpConstants Q P).qoverqimodp[j]! : ℕ) : ZMod (P.getD j 0))
      = ((hpsSum Q ys : ℕ) : ZMod (P.getD j 0))
        + ((((genModUpConstants Q P).vtimesqmodp[j]!)[v]! : ℕ) : ZMod (P.getD j 0))
    ∧ multSum ys v (P.getD j 0) (GenMRedConstant (P.getD j 0)) (genModUpConstants Q P).vtimesqmodp[j]!
        (genModUpConstants Q P).qoverqimodp[j]! < (k + 2) * P.getD j 0 := by
  obtain ⟨hC, hne, hj, hk, hp, hodd, hkp⟩ := h.mono (Nat.zero_le r)
  generalize hpj : P.getD j 0 = p at *
  have hall : ∀ q ∈ Q, q < W := fun q hq => hC.lt_W hq
  have : Fact p.Prime := ⟨hp⟩
  have h2p : 2 * p ≤ W := Nat.le_trans (Nat.mul_le_mul_right _ (Nat.le_add_left 2 k)) hkp
  have hvt : ((genModUpConstants Q P).vtimesqmodp[j]!)[v]! < p := by
    rw [muc_vtimesqmodp Q P j v hj hpj hp hodd h2p hall]
    split
    · exact Nat.mod_lt _ hp.pos
    · exact hp.pos
  have hcs := fun i hi =>
    (qoverqimodp_cast Q P i j hi hj hpj hodd h2p hall (hC.prime _ (getD_mem Q i hi)).pos).imp_right Nat.le_of_lt
  generalize (genModUpConstants Q P).qoverqimodp[j]! = cs at *
  generalize (genModUpConstants Q P).vtimesqmodp[j]! = vt at *
  have hm := montConst_gen hodd h2p
  have hn : 0 < ys.length := by rw [hlen]; exact List.length_pos_iff.mpr hne
  obtain ⟨hdc, hb⟩ := dot_spec cs Q (prodN Q) hcs ys 0 (by rw [Nat.zero_add, hlen])
    (by intro i hi; rw [Nat.zero_add]; exact hys i (hlen ▸ hi))
  rw [List.drop_zero] at hdc hb
  obtain ⟨hfit, hub⟩ := acc_size _ p k _ _ vt[v]! hn hb hk hkp hvt
  obtain ⟨c, _, ub⟩ := multSum_spec ys (List.length_pos_iff.mp hn) v p (GenMRedConstant p) vt cs hm hfit
    (Nat.lt_of_lt_of_le hub hkp)
  refine ⟨?_, Nat.lt_of_le_of_lt ub hub⟩
  -- cancel the factor `2^64` in `Z_p`
  have hc := (ZMod.natCast_eq_natCast_iff' _ _ p).2 c
  rw [Nat.cast_mul, Nat.cast_add, Nat.cast_mul, hdc] at hc
  exact (W_unit hm).mul_right_cancel (by rw [hc, hpsSum_eq_sumQ]; ring)

/-- the range for every table index, the congruence to `hpsOut` for a valid one (`v ≤ #Q`) -/
theorem multSum_ok {Q P : List Nat} {j k r : Nat} (h : LaneOK Q P j k r) (ys : List Nat) (hlen : ys.length = Q.length)
    (hys : ∀ i, i < Q.length → ys.getD i 0 < Q.getD i 0) (v : Nat) :
    multSum ys v (P.getD j 0) (GenMRedConstant (P.getD j 0)) (genModUpConstants Q P).vtimesqmodp[j]!
        (genModUpConstants Q P).qoverqimodp[j]! < (k + 2) * P.getD j 0
    ∧ (v ≤ Q.length →
        multSum ys v (P.getD j 0) (GenMRedConstant (P.getD j 0)) (genModUpConstants Q P).vtimesqmodp[j]!
          (genModUpConstants Q P).qoverqimodp[j]! % P.getD j 0 = hpsOut Q ys v (P.getD j 0)) := by
  obtain ⟨hr, hlt⟩ := multSum_lane h ys hlen hys v
  refine ⟨hlt, fun hv => ?_⟩
  rw [hpsOut]
  apply mod_of_cast
  rw [hr, muc_vtimesqmodp Q P j v h.lt rfl h.prime h.odd h.two_mul_le (fun q hq => h.chain.lt_W hq), if_pos hv,
    ZMod.natCast_mod, Nat.cast_add]

end Lattigo.BasisExt

#print axioms Lattigo.BasisExt.multSum_spec
#print axioms Lattigo.BasisExt.reconstruct_y
#print axioms Lattigo.BasisExt.muc_vtimesqmodp
#print axioms Lattigo.BasisExt.multSum_ok
