/-
  `BasisExtender.ModDownQPtoQNTT` (ring/basis_extension.go) commutes with the NTT: on inputs that are the
  bit-exact forward NTTs of the rows of an integer coefficient vector, the twin `modDownQPtoQNTT` returns, limb
  for limb, the forward NTT of what the coefficient-domain twin `modDownQPtoQ` returns (ring degree `N ≥ 16`,
  where `INTTLazy` returns reduced values).  Hence `modDownQPtoQ_limbs` applies to `INTT` of every row.

  The buffer limbs are `< (k+2)·q_i` whatever the IEEE index (`extLane_lt`), so `NTTLazy` does not wrap on them
  (`nttCoreLazy_abs`), and the closing loop commutes with the network by linearity (`Scaling.resNTT_row`).
-/
import Lattigo.Proofs.BasisExtLimb
import Lattigo.Proofs.ScalingNTT

namespace Lattigo.BasisExt
open Lattigo Lattigo.Gen Lattigo.Scaling Lattigo.NTT

/-- the coefficient-domain rows of the integer vector `X` in a basis -/
def coeffRows (Q : List ℕ) (level : ℕ) (X : List ℕ) : Rows :=
  (List.range (level + 1)).map fun i => X.map (· % Q.getD i 0)

theorem coeffRows_row (Q : List ℕ) (level : ℕ) (X : List ℕ) (i : ℕ) (hi : i ≤ level) :
    row (coeffRows Q level X) i = X.map (· % Q.getD i 0) :=
  row_map_range _ _ i (Nat.lt_succ_of_le hi)

/-- `N ≥ 16`: only there does `INTTLazy` return reduced values -/
theorem inttLazy_rows (T : Tabs) (Q : List ℕ) (level K : ℕ) (hK : 4 ≤ K)
    (hT : ∀ i, i ≤ level → Valid (tab T i) K ∧ (tab T i).q = Q.getD i 0) (X : List ℕ) (hX : X.length = 2 ^ K)
    (p : Rows) (hp : ∀ i, i ≤ level → row p i = nttStd (tab T i) (X.map (· % Q.getD i 0))) :
    (List.range (level + 1)).map (fun i => inttStdLazy (tab T i) (row p i)) = coeffRows Q level X := by
  unfold coeffRows
  apply List.map_congr_left
  intro i hi
  have hi' : i ≤ level := Nat.le_of_lt_succ (List.mem_range.mp hi)
  obtain ⟨hv, hq⟩ := hT i hi'
  rw [hp i hi', inttStdLazy_eq_inttStd _ (not_lt_unrollMin hv hK)]
  exact intt_ntt_mod hv _ hq X hX id

/-- `ModDownQPtoQNTT` = NTT ∘ `ModDownQPtoQ` ∘ INTT, so `modDownQPtoQ_limbs` describes `INTT` of every output row; no
hypothesis on the IEEE index -/
theorem modDownQPtoQNTT_eq (TQ TP : Tabs) (Q P : List ℕ) (levelQ levelP K : ℕ) (hK : 4 ≤ K)
    (hlQ : levelQ < Q.length) (hlP : levelP < P.length)
    (hTQ : ∀ i, i ≤ levelQ → Valid (tab TQ i) K ∧ (tab TQ i).q = Q.getD i 0)
    (hTP : ∀ j, j ≤ levelP → Valid (tab TP j) K ∧ (tab TP j).q = P.getD j 0)
    (hCP : Chain (P.take (levelP + 1))) (k : ℕ) (hk : (P.take (levelP + 1)).sum ≤ k * W)
    (hTgt : Target Q (k + 4)) (p1Q p1P : Rows) (X : List ℕ) (hX : X.length = 2 ^ K)
    (hQ : ∀ i, i ≤ levelQ → row p1Q i = nttStd (tab TQ i) (X.map (· % Q.getD i 0)))
    (hP : ∀ j, j ≤ levelP → row p1P j = nttStd (tab TP j) (X.map (· % P.getD j 0)))
    (i : ℕ) (hi : i ≤ levelQ) :
    row (modDownQPtoQNTT TQ TP Q P levelQ levelP p1Q p1P) i
      = nttStd (tab TQ i)
          (row (modDownQPtoQ Q P levelQ levelP (coeffRows Q levelQ X) (coeffRows P levelP X)) i) := by
  obtain ⟨hv, hq⟩ := hTQ i hi
  have hF : Fact (tab TQ i).q.Prime := ⟨hv.prime⟩
  have hL : LaneOK (P.take (levelP + 1)) Q i k 4 := .of_target (Nat.succ_pos _) hlP hCP hk hTgt hlQ hi
  have h8 : 8 * Q.getD i 0 ≤ W := hq ▸ hv.h8
  have hi1 : i < levelQ + 1 := Nat.lt_succ_of_le hi
  have hsm := hL.small
  rw [Nat.add_mul] at hsm
  -- the buffer row, lane by lane: `< (k+2)·q_i` whatever the IEEE index
  have hBlt : ∀ b ∈ X.map (extLane P (P.take (levelP + 1)) Q i), b < (k + 2) * Q.getD i 0 := fun b hb => by
    obtain ⟨x, _, rfl⟩ := List.mem_map.1 hb
    exact extLane_lt hL P x
  obtain ⟨hbc, hbr⟩ := nttCoreLazy_abs hv ((k + 2) * Q.getD i 0) (by rw [hq]; exact hsm) _ hBlt
  -- `NTTLazy` of the unreduced buffer stays below `2^64 − 2q`
  have hmax : max ((k + 2) * Q.getD i 0) (4 * Q.getD i 0) + 4 * Q.getD i 0 ≤ W := by
    rw [← max_add_add_right, ← Nat.add_mul 4 4]
    exact max_le hsm h8
  have hb1 : ∀ y ∈ nttCoreLazy (tab TQ i) (X.map (extLane P (P.take (levelP + 1)) Q i)),
      y + 2 * (tab TQ i).q < W := by
    intro y hy
    have h1 := hbr y hy
    rw [hq] at h1 ⊢
    exact Nat.lt_of_lt_of_le (Nat.add_lt_add_right h1 _) (by rw [Nat.add_assoc, ← Nat.add_mul]; exact hmax)
  have hcspec := modDownConst_spec (Q.getD i 0) hL.prime hL.odd hL.two_mul_le P levelP
    (by intro h; rw [h] at hlP; exact Nat.not_lt_zero _ hlP)
  have hrow : row (modDownQPtoQNTT TQ TP Q P levelQ levelP p1Q p1P) i
      = List.zipWith (fun b x => subthenmulscalarmontgomeryTwoModulusvec_lane b x
            (u64sub (Q.getD i 0) (modDownConst (Q.getD i 0) P levelP)) 0 (Q.getD i 0) (GenMRedConstant (Q.getD i 0)))
          (nttStdLazy (tab TQ i) (X.map (extLane P (P.take (levelP + 1)) Q i)))
          (nttStd (tab TQ i) (X.map (· % Q.getD i 0))) := by
    unfold modDownQPtoQNTT
    simp only []
    rw [inttLazy_rows TP P levelP K hK hTP X hX p1P hP]
    unfold modDownRows modUpPtoQ
    rw [row_map_range _ _ i hi1, row_map_range _ _ i hi1, hQ i hi,
      modUp_row P Q levelP levelQ hlP hCP _ X (coeffRows_row P levelP X) i hi]
  rw [hrow, modDownQPtoQ_row hlP (hL.mono (by decide)) (coeffRows_row Q levelQ X) (coeffRows_row P levelP X) hi,
    List.zipWith_comm]
  -- the closing loop is the residue formula limb for limb: linearity of the network
  have := resNTT_row (tab TQ i) K hv (pinvN (Q.getD i 0) (P.take (levelP + 1)))
    (fun x b => subthenmulscalarmontgomeryTwoModulusvec_lane b x
      (u64sub (Q.getD i 0) (modDownConst (Q.getD i 0) P levelP)) 0 (Q.getD i 0) (GenMRedConstant (Q.getD i 0)))
    (fun x b hx hb => by
      rw [hq] at hx hb ⊢
      exact modDownLane_spec (Q.getD i 0) _ _ b x hL.prime hL.odd hL.two_mul_le hcspec hx hb)
    (X.map (· % Q.getD i 0)) (X.map (extLane P (P.take (levelP + 1)) Q i))
    (nttStdLazy (tab TQ i) (X.map (extLane P (P.take (levelP + 1)) Q i)))
    (by rw [List.length_map, hX]) (List.forall_mem_map.2 fun x _ => by rw [hq]; exact Nat.mod_lt _ hL.prime.pos)
    (by rw [List.length_map, hX]) hbc hb1
  rw [hq, ListLemmas.zipWith_map_map] at this
  exact this

end Lattigo.BasisExt

#print axioms Lattigo.BasisExt.modDownQPtoQNTT_eq
