/-
  The hypotheses of the HPS theorems (Proofs/BasisExtInt.lean) discharged for what the code actually has:
  a chain of distinct primes below 2^64 and the Fermat inverse `ModExp(a, q−2, q)`.
-/
import Lattigo.Proofs.ScalingArith
import Lattigo.Proofs.BasisExtFloor
import Mathlib.Algebra.BigOperators.Group.List.Basic
import Mathlib.Data.Nat.Prime.Basic

namespace Lattigo.BasisExt
open Lattigo Lattigo.Scaling

theorem qStar_not_dvd (qs : List Nat) (hp : ∀ q ∈ qs, Nat.Prime q) (hnd : qs.Nodup) (qi : Nat) (hqi : qi ∈ qs) :
    ¬ qi ∣ qStar qs qi := by
  unfold qStar
  rw [Scaling.prodN_eq_prod, ← List.prod_erase hqi, Nat.mul_div_cancel_left _ (hp qi hqi).pos]
  intro h
  obtain ⟨a, ha, hdvd⟩ := ((Nat.Prime.prime (hp qi hqi)).dvd_prod_iff).mp h
  have hpa : Nat.Prime a := hp a (List.mem_of_mem_erase ha)
  have : qi = a := (Nat.prime_dvd_prime_iff_eq (hp qi hqi) hpa).mp hdvd
  subst this
  exact (List.Nodup.not_mem_erase hnd) ha

/-- the inverse hypothesis of `hpsY_ok` holds on a chain of distinct primes `< 2^64` -/
theorem hinv_of_primes (qs : List Nat) (hp : ∀ q ∈ qs, Nat.Prime q ∧ q < 2 ^ 64) (hnd : qs.Nodup) :
    ∀ qi ∈ qs, (qStar qs qi % qi * invMod (qStar qs qi % qi) qi) % qi = 1 := by
  intro qi hqi
  apply invMod_spec _ _ (hp qi hqi).1 (hp qi hqi).2
  intro h
  exact qStar_not_dvd qs (fun q hq => (hp q hq).1) hnd qi hqi ((Nat.dvd_mod_iff (dvd_refl qi)).mp h)

example : hpsOut [3, 5, 7] (hpsY [3, 5, 7] (residues [3, 5, 7] 52)) (hpsV [3, 5, 7] (hpsY [3, 5, 7] (residues [3, 5, 7] 52))) 11
    = 52 % 11 := by decide

end Lattigo.BasisExt

#print axioms Lattigo.BasisExt.qStar_not_dvd
#print axioms Lattigo.BasisExt.hinv_of_primes
