/-
  `bits.Len64`: `len64 x` is the number of binary digits of `x`, i.e. `len64 x ≤ k ↔ x < 2 ^ k`.

  The models of seven packages each carry their own copy of the function, with the body of `len64`
  (`if x = 0 then 0 else Nat.log2 x + 1`): `len64` itself, `CKKS.bitLen`, `KS.bitLen`, `RGSW.bitLen`,
  `Model.PolyEval.bitLen`, `Sampler.SF.bitLen`, `Bootstrap.bitsLen`.  Each of them unfolds to the same term, so every
  lemma below proves the same statement about each copy.  State it with the copy
  (`have h : n < 2 ^ bitLen n := lt_two_pow_len64 n`): the lemma's own type speaks of `len64`, which `rw`, `omega` and
  unification of a later argument do not identify with the copy.
-/
import Lattigo.Word

namespace Lattigo

theorem len64_le_iff (x k : Nat) : len64 x ≤ k ↔ x < 2 ^ k := by
  unfold len64
  split
  · next h => subst h; simp [Nat.two_pow_pos]
  · next h => rw [Nat.succ_le_iff, Nat.log2_lt h]

theorem lt_len64_iff (x k : Nat) : k < len64 x ↔ 2 ^ k ≤ x := by
  rw [← Nat.not_le, len64_le_iff, Nat.not_lt]

theorem lt_two_pow_len64 (x : Nat) : x < 2 ^ len64 x := (len64_le_iff x _).mp (Nat.le_refl _)

theorem two_pow_len64_pred_le {x : Nat} (hx : x ≠ 0) : 2 ^ (len64 x - 1) ≤ x :=
  (lt_len64_iff x _).mp (Nat.sub_one_lt (Nat.ne_of_gt ((lt_len64_iff x 0).mpr (Nat.pos_of_ne_zero hx))))

theorem len64_mono {x y : Nat} (h : x ≤ y) : len64 x ≤ len64 y :=
  (len64_le_iff x _).mpr (Nat.lt_of_le_of_lt h (lt_two_pow_len64 y))

theorem len64_eq_of_bounds {x b : Nat} (h1 : 2 ^ (b - 1) ≤ x) (h2 : x < 2 ^ b) : len64 x = b := by
  have := (lt_len64_iff x _).mpr h1
  have := (len64_le_iff x _).mpr h2
  omega

theorem len64_two_pow_sub_one : ∀ k : Nat, len64 (2 ^ k - 1) = k
  | 0 => rfl
  | k + 1 => by
    have := Nat.two_pow_pos k
    exact len64_eq_of_bounds (by rw [Nat.add_sub_cancel, Nat.pow_succ]; omega) (by rw [Nat.pow_succ]; omega)

theorem len64_mul_two_pow {x : Nat} (hx : x ≠ 0) (j : Nat) : len64 (x * 2 ^ j) = len64 x + j := by
  have hp : 0 < len64 x := (lt_len64_iff x 0).mpr (Nat.pos_of_ne_zero hx)
  apply len64_eq_of_bounds
  · rw [show len64 x + j - 1 = (len64 x - 1) + j by omega, Nat.pow_add]
    exact Nat.mul_le_mul_right _ (two_pow_len64_pred_le hx)
  · rw [Nat.pow_add]
    exact Nat.mul_lt_mul_of_pos_right (lt_two_pow_len64 x) (Nat.two_pow_pos j)

end Lattigo
