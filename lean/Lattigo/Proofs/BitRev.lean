/-
  Bit reversal, characterised: the model has three transcriptions of `utils.BitReverse64`
  (`NTT.bitRev`, `Model.Galois.bitRev`, `EncoderC.bitRev`).  Each satisfies the two equations of
  `IsBitRev`; bounds, injectivity and their agreement follow from the equations alone.

  Core Lean only.
-/

namespace Lattigo

/-- `f b i` reverses the low `b` bits of `i`: the lowest bit of `i` becomes bit `b - 1`, the rest is
    reversed below it. -/
structure IsBitRev (f : Nat → Nat → Nat) : Prop where
  zero : ∀ i, f 0 i = 0
  succ : ∀ b i, f (b + 1) i = (i % 2) * 2 ^ b + f b (i / 2)

namespace IsBitRev
variable {f : Nat → Nat → Nat} (hf : IsBitRev f)
include hf

theorem lt : ∀ b i, f b i < 2 ^ b
  | 0, i => by rw [hf.zero]; exact Nat.one_pos
  | b + 1, i => by
    have := lt b (i / 2)
    have := Nat.mul_le_mul_right (2 ^ b) (show i % 2 ≤ 1 by omega)
    rw [hf.succ, Nat.pow_succ]
    omega

theorem inj : ∀ b i j, i < 2 ^ b → j < 2 ^ b → f b i = f b j → i = j
  | 0, i, j, hi, hj, _ => by rw [Nat.pow_zero] at hi hj; omega
  | b + 1, i, j, hi, hj, h => by
    rw [hf.succ, hf.succ] at h
    rw [Nat.pow_succ] at hi hj
    -- the top digit (in base `2^b`) is the parity, the rest is the reversal of the half
    have hd : i % 2 = j % 2 := by
      have := congrArg (· / 2 ^ b) h
      simpa only [Nat.mul_comm _ (2 ^ b), Nat.mul_add_div (Nat.two_pow_pos b), Nat.div_eq_of_lt (hf.lt b _),
        Nat.add_zero] using this
    rw [hd] at h
    have := inj b (i / 2) (j / 2) (by omega) (by omega) (Nat.add_left_cancel h)
    omega

theorem unique {g : Nat → Nat → Nat} (hg : IsBitRev g) : ∀ b i, f b i = g b i
  | 0, i => by rw [hf.zero, hg.zero]
  | b + 1, i => by rw [hf.succ, hg.succ, unique hg b]

end IsBitRev

end Lattigo
