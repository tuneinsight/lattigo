/-
  C20 — the accumulator loop of the blind rotation (`Lattigo/Model/BlindRot.lean`): exponent
  semantics of the schedule AS CODED, by induction over the loops.  `effState` (the state once the pending automorphism
  is applied) moves by one Horner step per level (`classStep_eff`, `evalLevel_eff`, `loopLevels_eff`); `coreSchedule_exp`
  closes the two loops (`5^(N/2) = 1`), `coreSchedule_inner` regroups the Horner sums by class (`sum_by_class`, `fk`) into
  `b + Σ_j eff(a_j)·s_j`.  Also here: what `dlog` returns (`mem_dlogTable`, `dlog_cases`, `dlog_bound`, `dlog_minus_one`).
-/
import Lattigo.Model.BlindRot
import Lattigo.Proofs.GaloisOrder
import Mathlib.Data.ZMod.Basic
import Mathlib.Tactic.Ring
import Mathlib.Tactic.Linarith

namespace Lattigo.RGSW.BlindRot

section zmod
variable {m : Nat}

/-- `runExp` modulo `m` -/
def runZ (s : Nat → ZMod m) : List Step → ZMod m × ZMod m → ZMod m × ZMod m
  | [], x => x
  | Step.aut g :: rest, x => runZ s rest ((g : ZMod m) * x.1, (g : ZMod m) * x.2)
  | Step.mul j :: rest, x => runZ s rest (x.1, x.2 + s j)

theorem runZ_append (s : Nat → ZMod m) : ∀ (a b : List Step) (x : ZMod m × ZMod m),
    runZ s (a ++ b) x = runZ s b (runZ s a x)
  | [], _, _ => rfl
  | Step.aut g :: rest, b, x => by simp only [List.cons_append, runZ]; exact runZ_append s rest b _
  | Step.mul j :: rest, b, x => by simp only [List.cons_append, runZ]; exact runZ_append s rest b _

theorem runExp_cast (sI : Nat → Int) : ∀ (st : List Step) (x : Int × Int),
    (((runExp sI st x).1 : ZMod m), ((runExp sI st x).2 : ZMod m)) =
      runZ (fun j => ((sI j : Int) : ZMod m)) st ((x.1 : ZMod m), (x.2 : ZMod m))
  | [], x => rfl
  | Step.aut g :: rest, (t, u) => by
      simp only [runExp, stepExp, runZ]
      rw [runExp_cast sI rest]
      simp only [Int.cast_mul, Int.cast_natCast]
  | Step.mul j :: rest, (t, u) => by
      simp only [runExp, stepExp, runZ]
      rw [runExp_cast sI rest]
      simp only [Int.cast_add]

theorem runZ_muls (s : Nat → ZMod m) : ∀ (l : List Nat) (x : ZMod m × ZMod m),
    runZ s (l.map Step.mul) x = (x.1, x.2 + (l.map s).sum)
  | [], x => by simp [runZ]
  | j :: l, x => by
      simp only [List.map_cons, runZ, List.sum_cons]
      rw [runZ_muls s l]
      simp only [Prod.mk.injEq, true_and]; ring

end zmod

section loops
variable (N : Nat) (a : List Nat) (s : Nat → ZMod (2 * N))

/-- the generator `5` in `ZMod (2N)` -/
def gz : ZMod (2 * N) := (galoisGen : ZMod (2 * N))

/-- the sum of the secret coefficients of class `k` -/
def classSum (k : Int) : ZMod (2 * N) := ((setOf N a k).map s).sum

/-- the state the accumulator WILL have once the pending automorphism `5^v` is applied -/
def effState (x : ZMod (2 * N) × ZMod (2 * N)) (v : Nat) : ZMod (2 * N) × ZMod (2 * N) :=
  (gz N ^ v * x.1, gz N ^ v * x.2)

theorem effState_zero (x : ZMod (2 * N) × ZMod (2 * N)) : effState N x 0 = x := by
  simp only [effState, pow_zero, one_mul]

theorem effState_succ (x : ZMod (2 * N) × ZMod (2 * N)) (v : Nat) :
    effState N x (v + 1) = (gz N * (effState N x v).1, gz N * (effState N x v).2) := by
  simp only [effState, pow_succ', mul_assoc]

theorem effState_smul (c : ZMod (2 * N)) (x : ZMod (2 * N) × ZMod (2 * N)) (v : Nat) :
    effState N (c * x.1, c * x.2) v = (c * (effState N x v).1, c * (effState N x v).2) := by
  simp only [effState, mul_left_comm]

theorem galEl_cast (v : Nat) : ((galEl N v : Nat) : ZMod (2 * N)) = gz N ^ v := by
  simp only [galEl, powG, gz]
  rw [ZMod.natCast_mod]
  simp only [Nat.cast_pow]

theorem effState_flush (x : ZMod (2 * N) × ZMod (2 * N)) (v : Nat) :
    runZ s [Step.aut (galEl N v)] x = effState N x v := by
  simp only [runZ, galEl_cast, effState]

/-- what `evaluateFromDiscreteLogSets` does for the class itself, before it counts the level: nothing if the class is
    empty, else the pending automorphism `5^v` (if any) and the external products of the class.  `midLevel` is this for
    the class `2N`. -/
def classStep (k : Int) (v : Nat) : List Step × Nat :=
  if (setOf N a k).isEmpty then ([], v)
  else ((if v ≠ 0 then [Step.aut (galEl N v)] else []) ++ (setOf N a k).map Step.mul, 0)

theorem evalLevel_eq (k : Int) (v : Nat) :
    evalLevel N a k v =
      if (classStep N a k v).2 + 1 = windowSize ∨ k = 1 then
        ((classStep N a k v).1 ++ [Step.aut (galEl N ((classStep N a k v).2 + 1))], 0)
      else ((classStep N a k v).1, (classStep N a k v).2 + 1) := rfl

theorem loopLevels_succ (sgn : Int) (i v : Nat) :
    loopLevels N a sgn (i + 1) v =
      ((evalLevel N a (sgn * ((i : Int) + 1)) v).1
          ++ (loopLevels N a sgn i (evalLevel N a (sgn * ((i : Int) + 1)) v).2).1,
        (loopLevels N a sgn i (evalLevel N a (sgn * ((i : Int) + 1)) v).2).2) := rfl

theorem coreSchedule_eq :
    coreSchedule N a =
      (loopLevels N a (-1) (N / 2 - 1) 0).1
        ++ (classStep N a ((2 * N : Nat) : Int) (loopLevels N a (-1) (N / 2 - 1) 0).2).1
        ++ [Step.aut (2 * N - galoisGen)]
        ++ (loopLevels N a 1 (N / 2 - 1)
            (classStep N a ((2 * N : Nat) : Int) (loopLevels N a (-1) (N / 2 - 1) 0).2).2).1
        ++ (evalLevel N a 0 0).1 := rfl

theorem classStep_zero (k : Int) : (classStep N a k 0).2 = 0 := by
  unfold classStep
  split
  · rfl
  · rfl

theorem classStep_eff (k : Int) (v : Nat) (x : ZMod (2 * N) × ZMod (2 * N)) :
    effState N (runZ s (classStep N a k v).1 x) (classStep N a k v).2 =
      ((effState N x v).1, (effState N x v).2 + classSum N a s k) := by
  unfold classStep classSum
  by_cases hset : (setOf N a k).isEmpty = true
  · rw [if_pos hset, List.isEmpty_iff.mp hset]
    simp only [runZ, List.map_nil, List.sum_nil, add_zero]
  · rw [if_neg hset, runZ_append, runZ_muls, effState_zero]
    by_cases hv : v = 0
    · subst hv
      simp only [ne_eq, not_true_eq_false, if_false, runZ, effState_zero]
    · rw [if_pos hv, effState_flush]

/-- whatever the window state, the effective state moves by one Horner step `(T, U) ↦ (5·T, 5·(U + S_k))` -/
theorem evalLevel_eff (k : Int) (v : Nat) (x : ZMod (2 * N) × ZMod (2 * N)) :
    effState N (runZ s (evalLevel N a k v).1 x) (evalLevel N a k v).2 =
      (gz N * (effState N x v).1, gz N * ((effState N x v).2 + classSum N a s k)) := by
  have h := classStep_eff N a s k v x
  rw [evalLevel_eq]
  generalize classStep N a k v = p at h ⊢
  by_cases hc : p.2 + 1 = windowSize ∨ k = 1
  · rw [if_pos hc, runZ_append, effState_flush, effState_zero, effState_succ, h]
  · rw [if_neg hc, effState_succ, h]

/-- Horner sum of the classes `sgn·1 … sgn·i` -/
def hornerSum (sgn : Int) : Nat → ZMod (2 * N)
  | 0 => 0
  | i + 1 => gz N ^ (i + 1) * classSum N a s (sgn * ((i : Int) + 1)) + hornerSum sgn i

theorem loopLevels_eff (sgn : Int) : ∀ (i v : Nat) (x : ZMod (2 * N) × ZMod (2 * N)),
    effState N (runZ s (loopLevels N a sgn i v).1 x) (loopLevels N a sgn i v).2 =
      (gz N ^ i * (effState N x v).1, gz N ^ i * (effState N x v).2 + hornerSum N a s sgn i)
  | 0, v, x => by simp only [loopLevels, runZ, hornerSum, pow_zero, one_mul, add_zero]
  | i + 1, v, x => by
      rw [loopLevels_succ, runZ_append, loopLevels_eff sgn i, evalLevel_eff]
      simp only [hornerSum, Prod.mk.injEq]
      constructor
      · ring
      · ring

theorem mem_dlogTable (kv : Nat × Int) :
    kv ∈ dlogTable N ↔
      (∃ i, i < N / 2 ∧ (kv = (powG N i, (i : Int)) ∨ kv = (2 * N - powG N i, -(i : Int))))
        ∨ kv = (2 * N - 1, ((2 * N : Nat) : Int)) := by
  simp only [dlogTable, List.mem_append, List.mem_flatMap, List.mem_range, List.mem_cons, List.mem_nil_iff,
    or_false]

/-- the map look-up: the class of an entry with that key, or Go's zero value if there is none -/
theorem dlog_cases (x : Nat) :
    (∃ kv ∈ dlogTable N, kv.1 = x ∧ dlog N x = kv.2) ∨ ((∀ kv ∈ dlogTable N, kv.1 ≠ x) ∧ dlog N x = 0) := by
  unfold dlog
  cases hf : (dlogTable N).reverse.find? (fun kv => kv.1 == x) with
  | none =>
    exact Or.inr ⟨fun kv hmem hk => by simpa [hk] using List.find?_eq_none.mp hf kv (List.mem_reverse.mpr hmem), rfl⟩
  | some kv =>
    exact Or.inl ⟨kv, List.mem_reverse.mp (List.mem_of_find?_eq_some hf), by simpa using List.find?_some hf, rfl⟩

theorem dlog_bound (x : Nat) (hN : 0 < N / 2) :
    (dlog N x).natAbs < N / 2 ∨ dlog N x = ((2 * N : Nat) : Int) := by
  rcases dlog_cases N x with ⟨kv, hmem, _, hd⟩ | ⟨_, hd⟩
  · rw [hd]
    rcases (mem_dlogTable N kv).mp hmem with ⟨i, hi, rfl | rfl⟩ | rfl
    · exact Or.inl (by simpa only [Int.natAbs_natCast] using hi)
    · exact Or.inl (by simpa only [Int.natAbs_neg, Int.natAbs_natCast] using hi)
    · exact Or.inr rfl
  · left
    rw [hd]
    exact hN

/-- `−5^0 = 2N − 1` is filed under the key `2N` (the last assignment wins) -/
theorem dlog_minus_one : dlog N (2 * N - 1) = ((2 * N : Nat) : Int) := by
  unfold dlog dlogTable
  rw [List.reverse_append]
  simp

/-- the positive loop ends with `k = 1`, which forces the pending automorphism: `v = 0` afterwards -/
theorem loopLevels_pos_v (i v : Nat) (hi : 0 < i) : (loopLevels N a 1 i v).2 = 0 := by
  induction i generalizing v with
  | zero => exact absurd hi (Nat.lt_irrefl 0)
  | succ i ih =>
    rw [loopLevels_succ]
    rcases Nat.eq_zero_or_pos i with rfl | hpos
    · show (evalLevel N a (1 * (((0 : Nat) : Int) + 1)) v).2 = 0
      rw [evalLevel_eq, if_pos (Or.inr (by norm_num))]
    · exact ih _ hpos

theorem loopLevels_pos (i v : Nat) (hi : 0 < i) (x : ZMod (2 * N) × ZMod (2 * N)) :
    runZ s (loopLevels N a 1 i v).1 x =
      (gz N ^ i * (effState N x v).1, gz N ^ i * (effState N x v).2 + hornerSum N a s 1 i) := by
  rw [← loopLevels_eff, loopLevels_pos_v N a i v hi, effState_zero]

/-- the last call, `k = 0` with nothing pending: the class sum is added and the level it counts is never applied -/
theorem evalLevel_last (x : ZMod (2 * N) × ZMod (2 * N)) :
    runZ s (evalLevel N a 0 0).1 x = (x.1, x.2 + classSum N a s 0) := by
  have h := classStep_eff N a s 0 0 x
  rw [classStep_zero, effState_zero, effState_zero] at h
  rw [evalLevel_eq, classStep_zero, if_neg (by decide), h]

end loops

theorem two_pow_succ_half (k : Nat) : 2 ^ (k + 1) / 2 = 2 ^ k := by
  rw [pow_succ]
  exact Nat.mul_div_cancel _ Nat.zero_lt_two

theorem four_le_two_pow (k : Nat) (hk : 1 ≤ k) : 4 ≤ 2 ^ (k + 1) :=
  (Nat.pow_le_pow_right Nat.zero_lt_two (Nat.succ_le_succ hk) : 2 ^ 2 ≤ 2 ^ (k + 1))

theorem gz_pow_half (k : Nat) : gz (2 ^ (k + 1)) ^ (2 ^ (k + 1) / 2) = 1 := by
  rw [two_pow_succ_half]
  obtain ⟨t, _, ht⟩ := Proofs.Galois.five_pow_two_pow k
  have h : ((5 ^ 2 ^ k : Nat) : ZMod (2 * 2 ^ (k + 1))) = 1 := by
    rw [ht, pow_succ' 2 (k + 1), Nat.cast_add, Nat.cast_mul, ZMod.natCast_self, zero_mul,
      add_zero, Nat.cast_one]
  rw [← h, Nat.cast_pow]
  rfl

/-- the closing algebra of `coreSchedule_exp`: `P = 5^(N/2−1)` is the inverse of `g = 5` -/
theorem horner_close {R : Type} [CommRing R] (P g b Hn Hp S : R) (h : P * g = 1) :
    P * (-g * (P * (-g * b) + Hn + S)) + Hp = b + Hp - Hn - S := by
  calc P * (-g * (P * (-g * b) + Hn + S)) + Hp
      = (P * g) * (P * g) * b - (P * g) * (Hn + S) + Hp := by ring
    _ = b + Hp - Hn - S := by rw [h]; ring

/-- `hord` holds for every power of two (`gz_pow_half`).  `(−5, −5·b)` are the exponents of the initial accumulator
    `φ_{−5}(F·X^b)`; the result is `u = b + Σ_{ℓ=1}^{N/2−1} 5^ℓ·(S_ℓ − S_{−ℓ}) − S_{2N} + S_0`, `S_c` the sum of the secret
    coefficients whose (non-zero) mask coefficient is in class `c` (`2N` the class of `−1`). -/
theorem coreSchedule_exp (N : Nat) (hN : 4 ≤ N) (hord : gz N ^ (N / 2) = 1) (a : List Nat)
    (s : Nat → ZMod (2 * N)) (b : ZMod (2 * N)) :
    runZ s (coreSchedule N a)
        (((2 * N - galoisGen : Nat) : ZMod (2 * N)), ((2 * N - galoisGen : Nat) : ZMod (2 * N)) * b) =
      (1, b + hornerSum N a s 1 (N / 2 - 1) - hornerSum N a s (-1) (N / 2 - 1)
            - classSum N a s ((2 * N : Nat) : Int) + classSum N a s 0) := by
  have hc : ((2 * N - galoisGen : Nat) : ZMod (2 * N)) = - gz N := by
    rw [Nat.cast_sub (by simp only [galoisGen]; omega), ZMod.natCast_self, zero_sub]
    rfl
  have h2 : 2 ≤ N / 2 := (Nat.le_div_iff_mul_le Nat.two_pos).mpr hN
  have hpw : gz N ^ (N / 2 - 1) * gz N = 1 := by
    rw [← pow_succ, Nat.sub_add_cancel (le_trans one_le_two h2), hord]
  rw [coreSchedule_eq]
  simp only [runZ_append, runZ, hc]
  -- from the end: the class `0`, the positive loop, `Automorphism(acc, 2N−5)`, the class of `−1`, the negative loop
  rw [evalLevel_last, loopLevels_pos N a s _ _ (Nat.sub_pos_of_lt h2), effState_smul, classStep_eff, loopLevels_eff,
    effState_zero]
  simp only [Prod.mk.injEq]
  constructor
  · calc gz N ^ (N / 2 - 1) * (-gz N * (gz N ^ (N / 2 - 1) * -gz N))
        = (gz N ^ (N / 2 - 1) * gz N) * (gz N ^ (N / 2 - 1) * gz N) := by ring
      _ = 1 := by rw [hpw, one_mul]
  · rw [horner_close _ _ _ _ _ _ hpw]

section fiber
variable {R : Type} [CommRing R]

theorem sum_by_class (F : Int → R) (κ : Nat → Int) (s : Nat → R) (K : Finset Int) :
    ∀ l : List Nat, (∀ j ∈ l, κ j ∈ K) →
      (l.map fun j => F (κ j) * s j).sum = ∑ k ∈ K, F k * ((l.filter fun j => κ j == k).map s).sum
  | [], _ => by
      simp only [List.map_nil, List.sum_nil, List.filter_nil, mul_zero, Finset.sum_const_zero]
  | j :: l, h => by
      have hsplit (k : Int) : F k * (((j :: l).filter fun j => κ j == k).map s).sum =
          (if κ j = k then F k * s j else 0) + F k * ((l.filter fun j => κ j == k).map s).sum := by
        by_cases e : κ j = k
        · rw [List.filter_cons_of_pos (by simpa using e), if_pos e, List.map_cons, List.sum_cons, mul_add]
        · rw [List.filter_cons_of_neg (by simpa using e), if_neg e, zero_add]
      simp only [hsplit]
      rw [Finset.sum_add_distrib, Finset.sum_ite_eq, if_pos (h j List.mem_cons_self), List.map_cons, List.sum_cons,
        sum_by_class F κ s K l (fun j' hj' => h j' (List.mem_cons_of_mem _ hj'))]

/-- the keys `0, ±1, …, ±i` -/
def keysUpTo : Nat → Finset Int
  | 0 => {0}
  | i + 1 => insert ((i : Int) + 1) (insert (-((i : Int) + 1)) (keysUpTo i))

theorem mem_keysUpTo (k : Int) : ∀ i : Nat, k ∈ keysUpTo i ↔ k.natAbs ≤ i
  | 0 => by
      rw [keysUpTo, Finset.mem_singleton]
      omega
  | i + 1 => by
      rw [keysUpTo, Finset.mem_insert, Finset.mem_insert, mem_keysUpTo k i]
      omega

theorem sum_keysUpTo_succ (G : Int → R) (i : Nat) :
    ∑ k ∈ keysUpTo (i + 1), G k = ∑ k ∈ keysUpTo i, G k + G ((i : Int) + 1) + G (-((i : Int) + 1)) := by
  rw [keysUpTo, Finset.sum_insert (by rw [Finset.mem_insert, mem_keysUpTo]; omega),
    Finset.sum_insert (by rw [mem_keysUpTo]; omega)]
  ring

theorem sum_map_filter (p : Nat → Bool) (f g : Nat → R) :
    ∀ l : List Nat, (∀ j ∈ l, p j = false → f j = 0) → (∀ j ∈ l, p j = true → f j = g j) →
      (l.map f).sum = ((l.filter p).map g).sum
  | [], _, _ => rfl
  | j :: l, h0, h1 => by
      have hl := sum_map_filter p f g l (fun j' hj' => h0 j' (List.mem_cons_of_mem _ hj'))
        (fun j' hj' => h1 j' (List.mem_cons_of_mem _ hj'))
      by_cases hp : p j = true
      · rw [List.filter_cons_of_pos hp, List.map_cons, List.sum_cons, List.map_cons, List.sum_cons, hl,
          h1 j List.mem_cons_self hp]
      · rw [List.filter_cons_of_neg hp, List.map_cons, List.sum_cons, hl,
          h0 j List.mem_cons_self (Bool.eq_false_iff.mpr hp), zero_add]

end fiber

section final
variable (N : Nat)

/-- `−1` for the class `2N`, `±5^{|k|}` for the class `k` -/
def fk (k : Int) : ZMod (2 * N) :=
  if k = ((2 * N : Nat) : Int) then -1 else if k < 0 then -(gz N ^ k.natAbs) else gz N ^ k.natAbs

theorem fk_natCast (i : Nat) (hi : i < 2 * N) : fk N (i : Int) = gz N ^ i := by
  unfold fk
  rw [if_neg (by omega), if_neg (by omega), Int.natAbs_natCast]

theorem fk_neg_natCast (i : Nat) (hi : 0 < i) : fk N (-(i : Int)) = -(gz N ^ i) := by
  unfold fk
  rw [if_neg (by omega), if_pos (by omega), Int.natAbs_neg, Int.natAbs_natCast]

theorem fk_two_N : fk N ((2 * N : Nat) : Int) = -1 := if_pos rfl

/-- the value a mask coefficient is treated as, in `ZMod (2N)` -/
def effZ (x : Nat) : ZMod (2 * N) := ((eff N x : Int) : ZMod (2 * N))

theorem effZ_zero : effZ N 0 = 0 := by simp [effZ, eff]

theorem effZ_eq_fk (x : Nat) (hx : x ≠ 0) : effZ N x = fk N (dlog N x) := by
  unfold effZ eff fk
  rw [if_neg hx]
  simp only [apply_ite (Int.cast : Int → ZMod (2 * N)), Int.cast_neg, Int.cast_one, Int.cast_natCast, ← galEl_cast,
    galEl]

theorem hornerSums_eq_sum (a : List Nat) (s : Nat → ZMod (2 * N)) : ∀ i : Nat, i < 2 * N →
    hornerSum N a s 1 i - hornerSum N a s (-1) i + classSum N a s 0 =
      ∑ k ∈ keysUpTo i, fk N k * classSum N a s k
  | 0, h0 => by
      have hf := fk_natCast N 0 h0
      rw [pow_zero, Nat.cast_zero] at hf
      rw [keysUpTo, Finset.sum_singleton, hf, one_mul, hornerSum, hornerSum, sub_self, zero_add]
  | i + 1, hi => by
      have hp := fk_natCast N (i + 1) hi
      have hn := fk_neg_natCast N (i + 1) (Nat.succ_pos i)
      rw [Nat.cast_succ] at hp hn
      rw [sum_keysUpTo_succ, ← hornerSums_eq_sum a s i (by omega), hp, hn]
      simp only [hornerSum, one_mul, neg_one_mul]
      ring

/-- The algorithm AS CODED, any mask (entries arbitrary naturals); `Props.C20.blindrot_exponent` is the case `N = 2^(k+1)`
    (`gz_pow_half`).  `eff(a_j)` is the value the coefficient is TREATED as: `0` for a zero coefficient, `−1` for the class `2N`,
    `±5^{dlog(a_j)}` otherwise. -/
theorem coreSchedule_inner (hN : 4 ≤ N) (hord : gz N ^ (N / 2) = 1) (a : List Nat) (s : Nat → ZMod (2 * N))
    (b : ZMod (2 * N)) :
    runZ s (coreSchedule N a)
        (((2 * N - galoisGen : Nat) : ZMod (2 * N)), ((2 * N - galoisGen : Nat) : ZMod (2 * N)) * b) =
      (1, b + ((List.range a.length).map fun j => effZ N (a.getD j 0) * s j).sum) := by
  rw [coreSchedule_exp N hN hord a s b]
  have hpos : 0 < N / 2 := by omega
  -- drop the zero coefficients; the others are treated as their class says
  rw [sum_map_filter (fun j => a.getD j 0 != 0) (fun j => effZ N (a.getD j 0) * s j)
    (fun j => fk N (dlog N (a.getD j 0)) * s j) (List.range a.length)
    (fun j _ hj => by rw [bne_eq_false_iff_eq.mp hj, effZ_zero, zero_mul])
    (fun j _ hj => by rw [effZ_eq_fk N _ (bne_iff_ne.mp hj)])]
  -- regroup by class: `0`, `±1 … ±(N/2 − 1)`, and `2N`
  rw [sum_by_class (fk N) (fun j => dlog N (a.getD j 0)) s (insert ((2 * N : Nat) : Int) (keysUpTo (N / 2 - 1)))
      ((List.range a.length).filter fun j => a.getD j 0 != 0)
      (fun j _ => Finset.mem_insert.mpr ((dlog_bound N (a.getD j 0) hpos).symm.imp id
        fun h => (mem_keysUpTo _ _).mpr (Nat.le_sub_one_of_lt h))),
    Finset.sum_insert (by rw [mem_keysUpTo]; omega), fk_two_N]
  show (1, _) = (1, b + (-1 * classSum N a s ((2 * N : Nat) : Int)
    + ∑ k' ∈ keysUpTo (N / 2 - 1), fk N k' * classSum N a s k'))
  rw [← hornerSums_eq_sum N a s (N / 2 - 1) (by omega)]
  simp only [Prod.mk.injEq, true_and]
  ring

end final

end Lattigo.RGSW.BlindRot
