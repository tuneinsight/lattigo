/-
  C20 — blind rotation end to end, in `Z_Q[X]/(X^N+1)` on `RPoly` values: the loop invariant
  (`C20Ring.blindrot_invariant_rpoly`) run on the schedule of `BlindRotateCore` for the masks the model's `Evaluate`
  derives from an LWE sample (`blindrot_exponent_model`): the accumulator ends at `F·X^{b + ⟨a, s⟩} + noise`.
-/
import Lattigo.Props.C20Ring
import Lattigo.Proofs.BlindRotTable
import Lattigo.Proofs.BlindRotMask

namespace Lattigo.RGSW.BlindRot
open Lattigo Lattigo.RGSW Lattigo.RPolyRing Lattigo.Transport Lattigo.Props.C20Ring
open Polynomial

theorem galOK_of_odd (k g : ℕ) (h : g % 2 = 1) : GalOK (2 ^ (k + 1)) g :=
  ⟨Nat.odd_iff.mpr h, odd_coprime_two_pow h (k + 1)⟩

theorem galEl_odd (N v : ℕ) : galEl N v % 2 = 1 := by
  unfold galEl powG
  rw [Nat.mod_mod_of_dvd _ (Dvd.intro _ rfl), Nat.pow_mod]
  simp [galoisGen]

theorem galOK_init (k : ℕ) (hk : 1 ≤ k) : GalOK (2 ^ (k + 1)) (2 * 2 ^ (k + 1) - galoisGen) := by
  have hN4 := four_le_two_pow k hk
  exact galOK_of_odd k _ (by simp only [galoisGen]; omega)

theorem coreSchedule_galOK (k : ℕ) (hk : 1 ≤ k) (a : List ℕ) :
    ∀ g, Step.aut g ∈ coreSchedule (2 ^ (k + 1)) a → GalOK (2 ^ (k + 1)) g := by
  intro g hg
  rcases coreSchedule_ok (2 ^ (k + 1)) a _ hg with ⟨v, _, _, rfl⟩ | rfl
  · exact galOK_of_odd k _ (galEl_odd _ v)
  · exact galOK_init k hk

section e2e
variable {qs : List ℕ} {n : ℕ} [hgd : Good qs n] [NeZero (2 * n)]

theorem phiW_one (h1 : GalOK n (1 : ZMod (2 * n)).val) (x : WFPoly qs n) : phiW (1 : ZMod (2 * n)) x = x := by
  rw [phiW_ok _ h1]
  exact WFPoly.aut_id h1.1 h1.2 (by
    rw [ZMod.val_one_eq_one_mod, Nat.mod_mod, Nat.mod_eq_of_lt (by have := NeZero.ne (2 * n); omega)]) x

theorem phiR_one {F : RPoly} (hF : WFq qs n F) (h1 : GalOK n (1 : ZMod (2 * n)).val) :
    phiR n (1 : ZMod (2 * n)) F = F := by
  obtain ⟨F, rfl⟩ := exists_lift F hF
  rw [← val_phiW, phiW_one h1]

theorem mulMonomial_eq (x : WFPoly qs n) (b : ℕ) :
    x.mulMonomial (b : ℤ) = x * monoW ((b : ℕ) : ZMod (2 * n)) := by
  apply WFPoly.toProd_injective
  funext i
  rw [WFPoly.toProd_mulMonomial, WFPoly.toProd_mul, Pi.mul_apply, toProd_monoW, zpow_natCast,
    Units.val_pow_eq_pow_val, ZMod.val_natCast, ← RPolyRing.root_pow_mod, mul_comm]
  rfl

/-- the initial accumulator of `evalSlot` -/
theorem acc0_eq {F : RPoly} (hF : WFq qs n F) (b g : ℕ) (hg : GalOK n g) (hlt : g < 2 * n) :
    WFq qs n (RPoly.aut (RPoly.mulMonomial F (b : ℤ)) g) ∧
    RPoly.aut (RPoly.mulMonomial F (b : ℤ)) g
      = phiR n ((g : ℕ) : ZMod (2 * n)) F * monoR qs n (((g : ℕ) : ZMod (2 * n)) * ((b : ℕ) : ZMod (2 * n))) := by
  obtain ⟨F, rfl⟩ := exists_lift F hF
  have hv : (((g : ℕ) : ZMod (2 * n))).val = g := ZMod.val_natCast_of_lt hlt
  have hg' : GalOK n (((g : ℕ) : ZMod (2 * n))).val := by rw [hv]; exact hg
  have h1 : RPoly.aut (RPoly.mulMonomial (val F) (b : ℤ)) g
      = val (phiW ((g : ℕ) : ZMod (2 * n)) (F.mulMonomial (b : ℤ))) := by
    rw [val_phiW]
    unfold phiR
    rw [if_pos hg', hv]
    rfl
  rw [h1]
  refine ⟨val_wf _, ?_⟩
  rw [mulMonomial_eq, phiW_ok _ hg', map_mul, ← phiW_ok _ hg', ← phiW_ok _ hg', phiW_mono _ hg',
    val_hom.mul, val_phiW, val_monoW]

end e2e

/-- read a value as an element of `R_Q` (zero if it is not well formed; phases of well-formed ciphertexts are) -/
def wfz (qs : List ℕ) (n : ℕ) (x : RPoly) : RPoly := if WFq qs n x then x else RPoly.zero qs n

theorem wfz_wf {qs : List ℕ} {n : ℕ} [Good qs n] (x : RPoly) : WFq qs n (wfz qs n x) := by
  unfold wfz; split
  · assumption
  · exact WFq.zero

theorem wfz_phase_zero {qs : List ℕ} {n : ℕ} [Good qs n] {A s : RPoly} (hA : WFq qs n A) (hs : WFq qs n s) :
    wfz qs n (phase (A, RPoly.zero qs n) s) = A + RPoly.zero qs n := by
  obtain ⟨A, rfl⟩ := exists_lift A hA
  obtain ⟨s, rfl⟩ := exists_lift s hs
  show wfz qs n (val (A + 0 * s)) = val (A + 0)
  rw [zero_mul, wfz, if_pos (val_wf _)]

theorem runExp_core_cast (N : ℕ) (a : List ℕ) (sI : Nat → ℤ) (b : ℕ) :
    (((runExp sI (coreSchedule N a) (initExp N b)).1 : ZMod (2 * N)),
      ((runExp sI (coreSchedule N a) (initExp N b)).2 : ZMod (2 * N))) =
      runZ (fun j => ((sI j : ℤ) : ZMod (2 * N))) (coreSchedule N a)
        (((2 * N - galoisGen : ℕ) : ZMod (2 * N)), ((2 * N - galoisGen : ℕ) : ZMod (2 * N)) * (b : ZMod (2 * N))) := by
  rw [runExp_cast]
  simp only [initExp, Int.cast_mul, Int.cast_natCast]

theorem coreSchedule_goodMask (k : ℕ) (hk : 1 ≤ k) (a : List ℕ)
    (ha : ∀ j, j < a.length → a.getD j 0 < 2 * 2 ^ (k + 1) ∧ (a.getD j 0 % 2 = 1 ∨ a.getD j 0 = 0))
    (s : Nat → ZMod (2 * 2 ^ (k + 1))) (b : ZMod (2 * 2 ^ (k + 1))) :
    runZ s (coreSchedule (2 ^ (k + 1)) a)
        (((2 * 2 ^ (k + 1) - galoisGen : ℕ) : ZMod (2 * 2 ^ (k + 1))),
          ((2 * 2 ^ (k + 1) - galoisGen : ℕ) : ZMod (2 * 2 ^ (k + 1))) * b) =
      (1, b + ((List.range a.length).map fun j => ((a.getD j 0 : ℕ) : ZMod (2 * 2 ^ (k + 1))) * s j).sum) := by
  rw [coreSchedule_inner _ (four_le_two_pow k hk) (gz_pow_half k) a s b]
  congr 3
  apply List.map_congr_left
  intro j hj
  have hj' := ha j (List.mem_range.mp hj)
  rw [effZ_good k _ hj'.1 hj'.2]

/-- `blindrot_end_to_end` for ANY mask with entries `< 2N` that are odd or zero (the masks `Evaluate` derives are such:
    `goodMask_slotMasks`), any secret `s` and any `b` modulo `2N`. -/
theorem blindrot_end_to_end_mask (k : ℕ) (hk : 1 ≤ k) {qs : List ℕ} [hgd : Good qs (2 ^ (k + 1))] {γ : Type}
    (ph : γ → RPoly) (hph : ∀ x, WFq qs (2 ^ (k + 1)) (ph x)) (autOp mulOp : Nat → γ → γ)
    (s : Nat → ZMod (2 * 2 ^ (k + 1))) (F : RPoly) (hF : WFq qs (2 ^ (k + 1)) F) (a : List ℕ)
    (ha : GoodMask (2 * 2 ^ (k + 1)) a) (b : ZMod (2 * 2 ^ (k + 1))) (x : γ) (n0 : RPoly)
    (hn0 : WFq qs (2 ^ (k + 1)) n0) :
    let N := 2 ^ (k + 1)
    let t0 : ZMod (2 * N) := ((2 * N - galoisGen : ℕ) : ZMod (2 * N))
    ph x = phiR N t0 F * monoR qs N (t0 * b) + n0 →
      ph (runSteps autOp mulOp (coreSchedule N a) x) =
        F * monoR qs N (b + ((List.range a.length).map fun j => ((a.getD j 0 : ℕ) : ZMod (2 * N)) * s j).sum)
          + noiseRunG (monoR qs N) (phiR N) ph autOp mulOp s (coreSchedule N a) x n0 := by
  intro N t0 h
  have hN4 : 4 ≤ N := four_le_two_pow k hk
  have : NeZero (2 * N) := ⟨by omega⟩
  have ht0 : GalOK N t0.val := by
    show GalOK N (((2 * N - galoisGen : ℕ) : ZMod (2 * N))).val
    rw [ZMod.val_natCast, galOK_mod]
    exact galOK_init k hk
  have h1 : GalOK N (1 : ZMod (2 * N)).val := by
    rw [ZMod.val_one_eq_one_mod, galOK_mod]
    exact galOK_of_odd k 1 rfl
  rw [blindrot_invariant_rpoly (qs := qs) (n := N) ph hph autOp mulOp s F hF (coreSchedule N a)
      (coreSchedule_galOK k hk a) x t0 (t0 * b) ht0 n0 hn0 h,
    coreSchedule_goodMask k hk a (goodMask_getD _ a ha) s b, phiR_one hF h1]

/-- `ph` reads the (well-formed) phase of an accumulator, `autOp g` / `mulOp j` are `Automorphism(acc, g)` / the external product by
the key of index `j`; their errors are whatever they are: `noiseRunG` accumulates `ph(op x) − ideal`.  The hypothesis on `ph x` is
the phase of `evalSlot`'s initial accumulator `(φ_{2N−5}(F·X^b), 0)`. -/
theorem blindrot_end_to_end (k : ℕ) (hk : 1 ≤ k) {qs : List ℕ} [hgd : Good qs (2 ^ (k + 1))] {γ : Type}
    (ph : γ → RPoly) (hph : ∀ x, WFq qs (2 ^ (k + 1)) (ph x)) (autOp mulOp : Nat → γ → γ) (sI : Nat → ℤ)
    (F : RPoly) (hF : WFq qs (2 ^ (k + 1)) F) (Q : ℕ) (c1 idxs : List ℕ) (b : ℕ) (x : γ)
    (n0 : RPoly) (hn0 : WFq qs (2 ^ (k + 1)) n0) :
    let N := 2 ^ (k + 1)
    let s : Nat → ZMod (2 * N) := fun j => ((sI j : ℤ) : ZMod (2 * N))
    let t0 : ZMod (2 * N) := ((2 * N - galoisGen : ℕ) : ZMod (2 * N))
    ph x = phiR N t0 F * monoR qs N (t0 * (b : ZMod (2 * N))) + n0 →
    ∀ ia ∈ slotMasks N (prepMask Q N c1) idxs,
      ph (runSteps autOp mulOp (coreSchedule N ia.2) x) =
        F * monoR qs N ((b : ZMod (2 * N)) +
              ((List.range ia.2.length).map fun j => ((ia.2.getD j 0 : ℕ) : ZMod (2 * N)) * s j).sum)
          + noiseRunG (monoR qs N) (phiR N) ph autOp mulOp s (coreSchedule N ia.2) x n0 := by
  intro N s t0 h ia hia
  have hNpos : 0 < N := Nat.two_pow_pos _
  exact blindrot_end_to_end_mask k hk ph hph autOp mulOp s F hF ia.2
    (goodMask_slotMasks N hNpos _ (goodMask_prepMask Q N hNpos c1) idxs ia hia) b x n0 hn0 h

/-- `blindrot_end_to_end_mask` for the model's own `evalSlot` (`coreR` with `automorphismR p gks` and `extProdR p · brk_j`), for
EVERY key material: what the keys do wrong is in the noise term.  `sQ` is any secret under which one reads the phase. -/
theorem evalSlot_phase (k : ℕ) (hk : 1 ≤ k) {qs : List ℕ} [hgd : Good qs (2 ^ (k + 1))] (p : Par)
    (hpQ : p.qsQ = qs) (hpn : p.n = 2 ^ (k + 1)) (gks : List (Nat × List (RPoly × RPoly))) (brk : List (Ct RPoly))
    (sQ : RPoly) (hsQ : WFq qs (2 ^ (k + 1)) sQ) (s : Nat → ZMod (2 * 2 ^ (k + 1))) (F : RPoly)
    (hF : WFq qs (2 ^ (k + 1)) F) (a : List ℕ) (ha : GoodMask (2 * 2 ^ (k + 1)) a) (b : ℕ) :
    let N := 2 ^ (k + 1)
    let ph : RPoly × RPoly → RPoly := fun ct => wfz qs N (phase ct sQ)
    let acc0 : RPoly × RPoly := (RPoly.aut (RPoly.mulMonomial F (b : ℤ)) (2 * N - galoisGen), RPoly.zero qs N)
    ph (evalSlot p gks brk F a b) =
      F * monoR qs N ((b : ZMod (2 * N)) +
            ((List.range a.length).map fun j => ((a.getD j 0 : ℕ) : ZMod (2 * N)) * s j).sum)
        + noiseRunG (monoR qs N) (phiR N) ph (automorphismR p gks) (fun j ct => extProdR p ct (brk.getD j default)) s
            (coreSchedule N a) acc0 (RPoly.zero qs N) := by
  intro N ph acc0
  have hN4 : 4 ≤ N := four_le_two_pow k hk
  have : NeZero (2 * N) := ⟨by omega⟩
  have hg : GalOK N (2 * N - galoisGen) := galOK_init k hk
  obtain ⟨hAw, hA⟩ := acc0_eq (qs := qs) (n := N) hF b (2 * N - galoisGen) hg (by simp only [galoisGen]; omega)
  have hph0 : ph acc0 = phiR N ((2 * N - galoisGen : ℕ) : ZMod (2 * N)) F
        * monoR qs N (((2 * N - galoisGen : ℕ) : ZMod (2 * N)) * (b : ZMod (2 * N))) + RPoly.zero qs N := by
    rw [← hA]
    exact wfz_phase_zero hAw hsQ
  have hmain := blindrot_end_to_end_mask k hk (qs := qs) ph (fun x => wfz_wf _) (automorphismR p gks)
    (fun j ct => extProdR p ct (brk.getD j default)) s F hF a ha b acc0 (RPoly.zero qs N) WFq.zero hph0
  have hev : evalSlot p gks brk F a b
      = runSteps (automorphismR p gks) (fun j ct => extProdR p ct (brk.getD j default)) (coreSchedule N a) acc0 := by
    unfold evalSlot coreR
    simp only [hpn, hpQ]
    rfl
  rw [hev]
  exact hmain

end Lattigo.RGSW.BlindRot
