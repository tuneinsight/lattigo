/-
  C20 — the masks `Evaluate` derives from an LWE sample (`modSwitch … makeOdd`, `negRev`,
  `mulBySmallMonomial`, `slotMasks` of Model/BlindRot.lean) have entries `< 2N` that are odd or zero: exactly
  the hypothesis of `blindrot_exponent_mask`.  The model's modulus switch is exact integer rounding (no word
  size enters: the code uses `big.Int`), so there is no overflow hypothesis.
-/
import Lattigo.Model.BlindRot
import Mathlib.Tactic.Ring
import Mathlib.Tactic.Linarith

namespace Lattigo.RGSW.BlindRot

/-- entries `< M`, odd or zero -/
def GoodMask (M : Nat) (a : List Nat) : Prop := ∀ x ∈ a, x < M ∧ (x % 2 = 1 ∨ x = 0)

theorem modSwitch_good (Q M x : Nat) (hM : 0 < M) (hev : M % 2 = 0) :
    modSwitch Q M true x < M ∧ (modSwitch Q M true x % 2 = 1 ∨ modSwitch Q M true x = 0) := by
  unfold modSwitch
  have ht : divRound (x * M) Q % M < M := Nat.mod_lt _ hM
  generalize divRound (x * M) Q % M = t at ht ⊢
  simp only [Bool.true_and]
  by_cases h : (t % 2 == 0 && t != 0) = true
  · rw [if_pos h]
    simp only [Bool.and_eq_true, beq_iff_eq, bne_iff_ne, ne_eq] at h
    omega
  · rw [if_neg h]
    simp only [Bool.and_eq_true, beq_iff_eq, bne_iff_ne, ne_eq] at h
    omega

theorem goodMask_map_neg (M : Nat) (hM : 0 < M) (hev : M % 2 = 0) (a : List Nat) (h : GoodMask M a) :
    GoodMask M (a.map fun x => (M - x % M) % M) := by
  intro y hy
  obtain ⟨x, hx, rfl⟩ := List.mem_map.mp hy
  refine ⟨Nat.mod_lt _ hM, ?_⟩
  obtain ⟨hlt, h⟩ := h x hx
  rw [Nat.mod_eq_of_lt hlt]
  rcases h with h | rfl
  · left
    rw [Nat.mod_eq_of_lt (Nat.sub_lt hM (by omega))]
    omega
  · right
    rw [Nat.sub_zero, Nat.mod_self]

theorem goodMask_negRev (M : Nat) (hM : 0 < M) (hev : M % 2 = 0) (a : List Nat) (h : GoodMask M a) :
    GoodMask M (negRev M a) := by
  cases a with
  | nil => intro x hx; simp [negRev] at hx
  | cons a0 rest =>
    have hr : GoodMask M rest.reverse := fun x hx => h x (List.mem_cons_of_mem _ (List.mem_reverse.mp hx))
    exact List.forall_mem_cons.mpr ⟨h _ List.mem_cons_self, goodMask_map_neg M hM hev _ hr⟩

theorem goodMask_mulBySmallMonomial (M : Nat) (hM : 0 < M) (hev : M % 2 = 0) (a : List Nat) (n : Nat)
    (h : GoodMask M a) : GoodMask M (mulBySmallMonomial M a n) := by
  unfold mulBySmallMonomial
  split
  · exact h
  · exact List.forall_mem_append.mpr
      ⟨goodMask_map_neg M hM hev _ fun x hx => h x (List.mem_of_mem_drop hx), fun y hy => h y (List.mem_of_mem_take hy)⟩

theorem goodMask_prepMask (Q N : Nat) (hN : 0 < N) (c1 : List Nat) : GoodMask (2 * N) (prepMask Q N c1) := by
  unfold prepMask
  apply goodMask_negRev (2 * N) (by omega) (by omega)
  intro y hy
  obtain ⟨x, _, rfl⟩ := List.mem_map.mp hy
  exact modSwitch_good Q (2 * N) x (by omega) (by omega)

theorem goodMask_slotMasks (N : Nat) (hN : 0 < N) (a0 : List Nat) (h0 : GoodMask (2 * N) a0) (idxs : List Nat) :
    ∀ ia ∈ slotMasks N a0 idxs, GoodMask (2 * N) ia.2 := by
  unfold slotMasks
  have key : ∀ (l : List Nat) (st : Nat × List Nat × List (Nat × List Nat)),
      GoodMask (2 * N) st.2.1 → (∀ ia ∈ st.2.2, GoodMask (2 * N) ia.2) →
      ∀ ia ∈ (l.foldl (fun (st : Nat × List Nat × List (Nat × List Nat)) idx =>
          let a := mulBySmallMonomial (2 * N) st.2.1 (idx - st.1)
          (idx, a, st.2.2 ++ [(idx, a)])) st).2.2, GoodMask (2 * N) ia.2 := by
    intro l
    induction l with
    | nil => intro st _ h2; simpa using h2
    | cons idx l ih =>
      intro st h1 h2
      have hm := goodMask_mulBySmallMonomial (2 * N) (by omega) (by omega) _ (idx - st.1) h1
      exact ih _ hm (List.forall_mem_append.mpr ⟨h2, List.forall_mem_singleton.mpr hm⟩)
  exact key idxs (0, a0, []) h0 (by simp)

/-- the form `blindrot_exponent_mask` asks for -/
theorem goodMask_getD (M : Nat) (a : List Nat) (h : GoodMask M a) :
    ∀ j, j < a.length → a.getD j 0 < M ∧ (a.getD j 0 % 2 = 1 ∨ a.getD j 0 = 0) := by
  intro j hj
  rw [← List.getElem_eq_getD (h := hj)]
  exact h _ (List.getElem_mem hj)

end Lattigo.RGSW.BlindRot
