/-
  C20 — blind rotation: the loop invariant at the level of phases (any commutative ring with
  monomials and automorphisms), the keys a schedule requests, and the look-up in the test polynomial.
-/
import Lattigo.Proofs.BlindRot
import Lattigo.Proofs.ListLemmas

namespace Lattigo.RGSW.BlindRot

section phase
variable {m : Nat} {R γ : Type} [CommRing R]
variable (mono : ZMod m → R) (φ : ZMod m → R → R)
variable (ph : γ → R) (autOp : Nat → γ → γ) (mulOp : Nat → γ → γ) (s : Nat → ZMod m)

/-- what `Automorphism(acc, g)` adds to the phase beyond `φ_g` (the key-switching error) -/
def errAut (g : Nat) (x : γ) : R := ph (autOp g x) - φ (g : ZMod m) (ph x)
/-- what the external product by the key of index `j` adds beyond the multiplication by `X^{s_j}`
    (the term `Σ d·e` + rounding of `extprod_phase_div`) -/
def errMul (j : Nat) (x : γ) : R := ph (mulOp j x) - ph x * mono (s j)

/-- the accumulated noise: automorphisms permute it, external products rotate it, each adds its own -/
def noiseRun : List Step → γ → R → R
  | [], _, n => n
  | Step.aut g :: rest, x, n =>
      noiseRun rest (autOp g x) (φ (g : ZMod m) n + errAut φ ph autOp g x)
  | Step.mul j :: rest, x, n =>
      noiseRun rest (mulOp j x) (n * mono (s j) + errMul mono ph mulOp s j x)

/-- `Props.C20.blindrot_invariant`.
    The hypotheses on the automorphisms are required only on a multiplicatively closed set `U` of indices that
    contains the Galois elements of the schedule and the initial index `t` (in `Z_q[X]/(X^N+1)`, `m = 2N`: the odd
    residues).  Quantifying them over ALL `g : ZMod m` would make the statement vacuous for the ring the code
    works in: for `g = 2`, `φ_2(X^N) = φ_2(−1) = −1` but `φ_2(X^N) = X^{2N} = 1`
    (`Props/C20Ring.blindrot_hyps_unsatisfiable`). -/
theorem blindrot_phase (U : ZMod m → Prop) (hU : ∀ g t, U g → U t → U (g * t))
    (hmono : ∀ u v, mono (u + v) = mono u * mono v)
    (hφadd : ∀ g, U g → ∀ x y, φ g (x + y) = φ g x + φ g y)
    (hφmul : ∀ g, U g → ∀ x y, φ g (x * y) = φ g x * φ g y)
    (hφφ : ∀ g t, U g → U t → ∀ x, φ g (φ t x) = φ (g * t) x)
    (hφmono : ∀ g, U g → ∀ u, φ g (mono u) = mono (g * u))
    (F : R) : ∀ (st : List Step) (_ : ∀ g, Step.aut g ∈ st → U (g : ZMod m)) (x : γ) (t u : ZMod m) (_ : U t)
      (n : R), ph x = φ t F * mono u + n →
      ph (runSteps autOp mulOp st x) =
        φ (runZ s st (t, u)).1 F * mono (runZ s st (t, u)).2 + noiseRun mono φ ph autOp mulOp s st x n
  | [], _, x, t, u, _, n, h => h
  | Step.aut g :: rest, hst, x, t, u, ht, n, h => by
      have hg : U (g : ZMod m) := hst g List.mem_cons_self
      simp only [runSteps, runZ, noiseRun]
      apply blindrot_phase U hU hmono hφadd hφmul hφφ hφmono F rest
        (fun g' hg' => hst g' (List.mem_cons_of_mem _ hg')) _ _ _ (hU _ _ hg ht)
      have : ph (autOp g x) = φ (g : ZMod m) (ph x) + errAut φ ph autOp g x := (add_sub_cancel _ _).symm
      rw [this, h, hφadd _ hg, hφmul _ hg, hφφ _ _ hg ht, hφmono _ hg, add_assoc]
  | Step.mul j :: rest, hst, x, t, u, ht, n, h => by
      simp only [runSteps, runZ, noiseRun]
      apply blindrot_phase U hU hmono hφadd hφmul hφφ hφmono F rest
        (fun g' hg' => hst g' (List.mem_cons_of_mem _ hg')) _ _ _ ht
      have : ph (mulOp j x) = ph x * mono (s j) + errMul mono ph mulOp s j x := (add_sub_cancel _ _).symm
      rw [this, h, hmono, add_mul, mul_assoc, add_assoc]

end phase

/-- an operation is served by the generated key set: an automorphism by `5^v`, `1 ≤ v ≤ 10`, or by
    `2N − 5`; an external product by a key of index `< n` -/
def stepOk (N n : Nat) : Step → Prop
  | Step.aut g => (∃ v, 1 ≤ v ∧ v ≤ windowSize ∧ g = galEl N v) ∨ g = 2 * N - galoisGen
  | Step.mul j => j < n

theorem classStep_ok (N : Nat) (a : List Nat) (k : Int) (v : Nat) (hv : v < windowSize) :
    (∀ st ∈ (classStep N a k v).1, stepOk N a.length st) ∧ (classStep N a k v).2 < windowSize := by
  unfold classStep
  by_cases hset : (setOf N a k).isEmpty = true
  · rw [if_pos hset]
    exact ⟨fun _ h => absurd h List.not_mem_nil, hv⟩
  · rw [if_neg hset, List.forall_mem_append, List.forall_mem_map]
    refine ⟨⟨?_, fun j hj => ?_⟩, (by decide : 0 < windowSize)⟩
    · by_cases hv0 : v = 0
      · rw [if_neg (not_not.mpr hv0)]
        exact fun _ h => absurd h List.not_mem_nil
      · rw [if_pos hv0, List.forall_mem_singleton]
        exact Or.inl ⟨v, Nat.pos_of_ne_zero hv0, Nat.le_of_lt hv, rfl⟩
    · simp only [setOf, List.mem_filter, List.mem_range] at hj
      exact hj.1.1

theorem evalLevel_ok (N : Nat) (a : List Nat) (k : Int) (v : Nat) (hv : v < windowSize) :
    (∀ st ∈ (evalLevel N a k v).1, stepOk N a.length st) ∧ (evalLevel N a k v).2 < windowSize := by
  have h := classStep_ok N a k v hv
  rw [evalLevel_eq]
  generalize classStep N a k v = p at h ⊢
  by_cases hc : p.2 + 1 = windowSize ∨ k = 1
  · rw [if_pos hc, List.forall_mem_append, List.forall_mem_singleton]
    exact ⟨⟨h.1, Or.inl ⟨p.2 + 1, Nat.succ_pos _, h.2, rfl⟩⟩, (by decide : 0 < windowSize)⟩
  · rw [if_neg hc]
    exact ⟨h.1, Nat.lt_of_le_of_ne h.2 (fun e => hc (Or.inl e))⟩

theorem loopLevels_ok (N : Nat) (a : List Nat) (sgn : Int) : ∀ (i v : Nat), v < windowSize →
    (∀ st ∈ (loopLevels N a sgn i v).1, stepOk N a.length st) ∧ (loopLevels N a sgn i v).2 < windowSize
  | 0, v, hv => ⟨fun _ h => absurd h List.not_mem_nil, hv⟩
  | i + 1, v, hv => by
      have h1 := evalLevel_ok N a (sgn * ((i : Int) + 1)) v hv
      have h2 := loopLevels_ok N a sgn i _ h1.2
      rw [loopLevels_succ, List.forall_mem_append]
      exact ⟨⟨h1.1, h2.1⟩, h2.2⟩

/-- clause "keys exact", inclusion: every operation of `BlindRotateCore` is served by a key
    `GenEvaluationKeyNew` generates (Galois elements `5^1 … 5^10`, `2N − 5`; one RGSW key per LWE
    secret coefficient). -/
theorem coreSchedule_ok (N : Nat) (a : List Nat) : ∀ st ∈ coreSchedule N a, stepOk N a.length st := by
  have hw : 0 < windowSize := by decide
  have hneg := loopLevels_ok N a (-1) (N / 2 - 1) 0 hw
  have hmid := classStep_ok N a ((2 * N : Nat) : Int) _ hneg.2
  have hpos := loopLevels_ok N a 1 (N / 2 - 1) _ hmid.2
  have hlast := evalLevel_ok N a 0 0 hw
  rw [coreSchedule_eq]
  simp only [List.forall_mem_append, List.forall_mem_singleton]
  exact ⟨⟨⟨⟨hneg.1, hmid.1⟩, Or.inr rfl⟩, hpos.1⟩, hlast.1⟩

theorem testPolyInts_getD (h : Nat) (y : Int → Int) (i : Nat) (hi : i < 2 * h) :
    (testPolyInts (2 * h) y).getD i 0 = if i ≤ h then y (-(i : Int)) else -(y (((2 * h : Nat) : Int) - i)) := by
  rw [testPolyInts, ListLemmas.getD_map_range _ _ i hi, Nat.mul_div_cancel_left h Nat.two_pos]

/-- `N = 2h`, `r = e mod 2N ∈ [0, 4h)`; the middle case is the wrapped half (`X^r = −X^{r−N}`).  In centred terms: `y e'` for
    `e' ∈ [−N/2, N/2)`, `−y(e' ∓ N)` outside. -/
theorem lookup_all (h : Nat) (hh : 0 < h) (y : Int → Int) (e : Int) :
    let r := (e % ((2 * (2 * h) : Nat) : Int)).toNat
    lookup (2 * h) (testPolyInts (2 * h) y) e =
      if r < h then y r else if r < 3 * h then -(y ((r : Int) - (2 * h : Nat))) else y ((r : Int) - (4 * h : Nat)) := by
  intro r
  have hN : 0 < 2 * h := Nat.mul_pos Nat.two_pos hh
  have h2N : 0 < 2 * (2 * h) := Nat.mul_pos Nat.two_pos hN
  have hr4 : r < 2 * (2 * h) :=
    (Int.toNat_lt' h2N).mpr (Int.emod_lt_of_pos _ (Int.natCast_pos.mpr h2N))
  show (if r = 0 then (testPolyInts (2 * h) y).getD 0 0
        else if r ≤ 2 * h then -((testPolyInts (2 * h) y).getD (2 * h - r) 0)
        else (testPolyInts (2 * h) y).getD (2 * (2 * h) - r) 0) = _
  clear_value r
  by_cases h0 : r = 0
  · subst h0
    rw [if_pos rfl, testPolyInts_getD _ _ 0 hN, if_pos (Nat.zero_le _), if_pos hh, Nat.cast_zero, neg_zero]
  · rw [if_neg h0]
    by_cases h1 : r ≤ 2 * h
    · rw [if_pos h1, testPolyInts_getD _ _ (2 * h - r) (Nat.sub_lt hN (Nat.pos_of_ne_zero h0)), Nat.cast_sub h1]
      by_cases h2 : r < h
      · rw [if_neg (by omega), if_pos h2, neg_neg, sub_sub_cancel]
      · rw [if_pos (by omega), if_neg h2, if_pos (by omega), neg_sub]
    · have h1' : 2 * h < r := Nat.lt_of_not_le h1
      rw [if_neg h1, testPolyInts_getD _ _ (2 * (2 * h) - r) (by omega), Nat.cast_sub hr4.le, if_neg (by omega : ¬ r < h)]
      by_cases h3 : r < 3 * h
      · rw [if_neg (by omega), if_pos h3]
        congr 2
        push_cast
        ring
      · rw [if_pos (by omega), if_neg h3]
        congr 1
        push_cast
        ring

end Lattigo.RGSW.BlindRot
