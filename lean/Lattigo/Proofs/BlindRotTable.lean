/-
  C20 — the discrete-log table of the blind rotation covers every odd residue: `±5^i`, `i < N/2`, are all
  the odd residues modulo `2N` (`N` a power of two), hence every odd mask coefficient is treated as
  itself (`effZ N x = x`), zero as zero.
-/
import Lattigo.Proofs.BlindRot
import Mathlib.Data.Nat.ModEq

namespace Lattigo.RGSW.BlindRot

theorem modEq_double (a b M : Nat) (h : a ≡ b [MOD M]) :
    a ≡ b [MOD 2 * M] ∨ a + M ≡ b [MOD 2 * M] := by
  obtain ⟨c, hc⟩ := (Nat.modEq_iff_dvd.mp h)
  rcases Int.even_or_odd' c with ⟨d, rfl | rfl⟩
  · left
    exact Nat.modEq_iff_dvd.mpr ⟨d, by rw [hc]; push_cast; ring⟩
  · right
    exact Nat.modEq_iff_dvd.mpr ⟨d, by push_cast; rw [← sub_sub, hc]; ring⟩

theorem cover_one_mod_four : ∀ (k x : Nat), x % 4 = 1 → ∃ i, i < 2 ^ k ∧ 5 ^ i ≡ x [MOD 2 ^ (k + 2)]
  | 0, x, hx => ⟨0, Nat.one_pos, hx.symm⟩
  | k + 1, x, hx => by
      obtain ⟨i, hi, hmod⟩ := cover_one_mod_four k x hx
      rw [pow_succ' 2 (k + 2), pow_succ 2 k, Nat.mul_two]
      rcases modEq_double _ _ _ hmod with h | h
      · exact ⟨i, Nat.lt_add_right _ hi, h⟩
      · -- 5^(i + 2^k) = 5^i·(1 + M·t), t odd, so ≡ 5^i + M
        obtain ⟨t, hodd, ht⟩ := Proofs.Galois.five_pow_two_pow k
        rw [Nat.odd_iff] at hodd
        refine ⟨i + 2 ^ k, Nat.add_lt_add_right hi _, Nat.ModEq.trans ?_ h⟩
        have hoddprod : (5 ^ i * t) % 2 = 1 := by
          rw [Nat.mul_mod, Nat.pow_mod, hodd, show 5 % 2 = 1 from rfl, Nat.one_pow]
        obtain ⟨r, hr⟩ : ∃ r, 5 ^ i * t = 2 * r + 1 := ⟨5 ^ i * t / 2, by omega⟩
        have hexp : 5 ^ (i + 2 ^ k) = (5 ^ i + 2 ^ (k + 2)) + 2 * 2 ^ (k + 2) * r := by
          rw [pow_add, ht, mul_add, mul_one, mul_left_comm, hr]
          ring
        rw [hexp]
        exact Nat.add_mul_mod_self_left _ _ _

section table
variable (k : Nat)

theorem table_covers (x : Nat) (hx : x < 2 * 2 ^ (k + 1)) (hodd : x % 2 = 1) :
    ∃ kv ∈ dlogTable (2 ^ (k + 1)), kv.1 = x := by
  have h2N : 2 * 2 ^ (k + 1) = 2 ^ (k + 2) := (pow_succ' 2 (k + 1)).symm
  have h4 : 2 ^ (k + 2) = 4 * 2 ^ k := by rw [pow_add]; exact mul_comm _ _
  rw [h2N] at hx
  by_cases h1 : x % 4 = 1
  · obtain ⟨i, hi, hmod⟩ := cover_one_mod_four k x h1
    refine ⟨(powG (2 ^ (k + 1)) i, (i : Int)),
      (mem_dlogTable _ _).mpr (Or.inl ⟨i, by rw [two_pow_succ_half]; exact hi, Or.inl rfl⟩), ?_⟩
    show 5 ^ i % (2 * 2 ^ (k + 1)) = x
    rw [h2N, hmod, Nat.mod_eq_of_lt hx]
  · have hx0 : 0 < x := Nat.pos_of_ne_zero (by rintro rfl; exact absurd hodd (by decide))
    obtain ⟨i, hi, hmod⟩ := cover_one_mod_four k (2 ^ (k + 2) - x)
      (by have : 2 ^ (k + 2) % 4 = 0 := by rw [h4, Nat.mul_mod_right]
          omega)
    refine ⟨(2 * 2 ^ (k + 1) - powG (2 ^ (k + 1)) i, -(i : Int)),
      (mem_dlogTable _ _).mpr (Or.inl ⟨i, by rw [two_pow_succ_half]; exact hi, Or.inr rfl⟩), ?_⟩
    show 2 * 2 ^ (k + 1) - 5 ^ i % (2 * 2 ^ (k + 1)) = x
    rw [h2N, hmod, Nat.mod_eq_of_lt (Nat.sub_lt (Nat.two_pow_pos _) hx0), Nat.sub_sub_self hx.le]

end table

/-- `hne`: the one exception is the entry `(2N − 1, −0)` of the loop, which `getGaloisElementInverseMap` overwrites -/
theorem fk_entry (N : Nat) (hN : 0 < N) (kv : Nat × Int) (h : kv ∈ dlogTable N) (hne : kv.1 ≠ 2 * N - 1) :
    fk N kv.2 = (kv.1 : ZMod (2 * N)) := by
  rcases (mem_dlogTable N kv).mp h with ⟨i, hi, rfl | rfl⟩ | rfl
  · rw [fk_natCast N i (by omega)]
    exact (galEl_cast N i).symm
  · have hi0 : 0 < i := by
      apply Nat.pos_of_ne_zero
      rintro rfl
      exact hne (by show 2 * N - 5 ^ 0 % (2 * N) = 2 * N - 1; rw [pow_zero, Nat.mod_eq_of_lt (by omega)])
    have hle : powG N i ≤ 2 * N := Nat.le_of_lt (Nat.mod_lt _ (by omega))
    show fk N (-(i : Int)) = ((2 * N - powG N i : Nat) : ZMod (2 * N))
    rw [fk_neg_natCast N i hi0, Nat.cast_sub hle, ZMod.natCast_self, zero_sub]
    exact congrArg Neg.neg (galEl_cast N i).symm
  · exact absurd rfl hne

theorem effZ_good (k : Nat) (x : Nat) (hx : x < 2 * 2 ^ (k + 1)) (h : x % 2 = 1 ∨ x = 0) :
    effZ (2 ^ (k + 1)) x = (x : ZMod (2 * 2 ^ (k + 1))) := by
  rcases h with hodd | h
  · have hx0 : x ≠ 0 := by omega
    have hN : 0 < 2 ^ (k + 1) := Nat.two_pow_pos _
    rw [effZ_eq_fk _ _ hx0]
    by_cases hm1 : x = 2 * 2 ^ (k + 1) - 1
    · -- the class 2N: treated as -1 = 2N - 1
      rw [hm1, dlog_minus_one, fk_two_N, Nat.cast_sub (by omega), ZMod.natCast_self, Nat.cast_one, zero_sub]
    · rcases dlog_cases _ x with ⟨kv, hmem, hkey, hd⟩ | ⟨hno, _⟩
      · rw [hd, fk_entry _ hN kv hmem (hkey ▸ hm1), hkey]
      · obtain ⟨kv, hmem, hkey⟩ := table_covers k x hx hodd
        exact absurd hkey (hno kv hmem)
  · rw [h, effZ_zero, Nat.cast_zero]

end Lattigo.RGSW.BlindRot
