/-
  C20 — `InitTestPolynomial`'s `scaleUp` (`scaleUpBits` of Model/BlindRot.lean, the float64 pipeline in exact
  arithmetic): the three operations (product, addition of `1/2`, truncation) when the product of the two significands
  and the sum with `1/2` are representable, i.e. nothing is rounded.  `Props.C20.testpoly_exact`, `testpoly_exact_big`
  assemble them.
-/
import Lattigo.Model.BlindRot
import Mathlib.Tactic.Ring
import Mathlib.Tactic.Linarith

namespace Lattigo.RGSW.BlindRot

theorem rnd53_small (x : Nat × Int) (h : x.1 < 2 ^ 53) : rnd53 x = x := by
  unfold rnd53; rw [if_pos h]

theorem fmul_small (x y : Nat × Int) (h : x.1 * y.1 < 2 ^ 53) : fmul x y = (x.1 * y.1, x.2 + y.2) :=
  rnd53_small _ h

theorem addHalfExact_natCast (m j : Nat) : addHalfExact (m, (j : Int)) = (m * 2 ^ (j + 1) + 1, -1) := by
  unfold addHalfExact
  rw [if_pos (Int.natCast_nonneg j), Int.toNat_natCast_add_one]

theorem truncF_natCast (m j : Nat) : truncF (m, (j : Int)) = m * 2 ^ j := by
  unfold truncF
  rw [if_pos (Int.natCast_nonneg j), Int.toNat_natCast]

theorem truncF_int_add_half (m j : Nat) : truncF (m * 2 ^ (j + 1) + 1, -1) = m * 2 ^ j := by
  show (m * 2 ^ (j + 1) + 1) / 2 ^ 1 = m * 2 ^ j
  rw [pow_succ, pow_one, ← Nat.mul_assoc]
  omega

theorem truncF_addHalfExact (m : Nat) (e : Int) : truncF (addHalfExact (m, e)) = roundHalfUp m e := by
  by_cases he : e ≥ 0
  · obtain ⟨j, rfl⟩ := Int.eq_ofNat_of_zero_le he
    rw [addHalfExact_natCast, truncF_int_add_half]
    unfold roundHalfUp
    rw [if_pos he, Int.toNat_natCast]
  · unfold truncF addHalfExact roundHalfUp
    simp only [he, if_false]
    rw [show (-1 - e).toNat = (-e).toNat - 1 by omega]

/-- `q·2^sh + 1` with rounding shift `sh ≥ 1` rounds down to `q`: the remainder `1` is below half an ulp, or (`sh = 1`) a tie
    whose even neighbour is `q` -/
theorem rnd53_down (q sh : Nat) (e : Int) (hbig : ¬ q * 2 ^ sh + 1 < 2 ^ 53)
    (hsh : Nat.log2 (q * 2 ^ sh + 1) + 1 - 53 = sh) (hsh1 : 1 ≤ sh) (hq : sh = 1 → q % 2 = 0) :
    rnd53 (q * 2 ^ sh + 1, e) = (q, e + sh) := by
  have h1lt : 1 < 2 ^ sh := Nat.one_lt_two_pow (Nat.ne_of_gt hsh1)
  have hquot : (q * 2 ^ sh + 1) / 2 ^ sh = q := by
    rw [Nat.mul_comm, Nat.mul_add_div (Nat.two_pow_pos sh), Nat.div_eq_of_lt h1lt, Nat.add_zero]
  have hrem : (q * 2 ^ sh + 1) % 2 ^ sh = 1 := by
    rw [Nat.mul_comm, Nat.mul_add_mod, Nat.mod_eq_of_lt h1lt]
  have hcond : ¬ (1 > 2 ^ (sh - 1) ∨ (1 = 2 ^ (sh - 1) ∧ q % 2 = 1)) := by
    rintro (h | ⟨h, hodd⟩)
    · exact absurd Nat.one_le_two_pow (Nat.not_le_of_gt h)
    · rcases Nat.pow_eq_one.mp h.symm with h2 | h0
      · exact absurd h2 (by decide)
      · rw [hq (by omega)] at hodd
        exact absurd hodd (by decide)
  unfold rnd53
  simp only [hbig, if_false, hsh, hquot, hrem, hcond]

theorem succ_mul_lt (m P : Nat) (hm : m < 2 ^ 53) (hP : 1 < P) : m * P + 1 < 2 ^ 53 * P := by
  have h := Nat.mul_le_mul_right P (Nat.succ_le_of_lt hm)
  rw [Nat.succ_mul] at h
  omega

/-- `x = m·2^k` a large even integer: `x + 1/2` rounds back to `x` — the regime of scales `≥ 2^54` -/
theorem faddHalf_big (m k : Nat) (hm : m < 2 ^ 53) (hk : 1 ≤ k) :
    truncF (faddHalf (m, (k : Int))) = m * 2 ^ k := by
  unfold faddHalf
  rw [addHalfExact_natCast]
  by_cases hs : m * 2 ^ (k + 1) + 1 < 2 ^ 53
  · rw [rnd53_small _ hs, truncF_int_add_half]
  · have hy0 : m * 2 ^ (k + 1) + 1 ≠ 0 := Nat.succ_ne_zero _
    have hlog1 : 53 ≤ Nat.log2 (m * 2 ^ (k + 1) + 1) := (Nat.le_log2 hy0).mpr (Nat.le_of_not_lt hs)
    have hlog2 : Nat.log2 (m * 2 ^ (k + 1) + 1) < 53 + (k + 1) := by
      rw [Nat.log2_lt hy0, pow_add 2 53]
      exact succ_mul_lt m _ hm (Nat.one_lt_two_pow (Nat.succ_ne_zero k))
    obtain ⟨sh, hsh⟩ : ∃ sh, Nat.log2 (m * 2 ^ (k + 1) + 1) + 1 - 53 = sh := ⟨_, rfl⟩
    have hsh1 : 1 ≤ sh := by omega
    -- the shift is at most `k + 1`: the bits shifted out are the trailing `1` and zeros of `m·2^(k+1)`
    obtain ⟨d, hd⟩ : ∃ d, k + 1 = d + sh := ⟨k + 1 - sh, by omega⟩
    have hsplit : m * 2 ^ (k + 1) = m * 2 ^ d * 2 ^ sh := by rw [hd, pow_add, Nat.mul_assoc]
    have heven : sh = 1 → m * 2 ^ d % 2 = 0 := by
      intro h1
      rw [show d = (k - 1) + 1 by omega, pow_succ, ← Nat.mul_assoc]
      exact Nat.mul_mod_left _ _
    rw [hsplit] at hs hsh ⊢
    rw [rnd53_down _ sh _ hs hsh hsh1 heven, show (-1 + (sh : Int)) = ((sh - 1 : Nat) : Int) by omega, truncF_natCast,
      Nat.mul_assoc, ← pow_add, show d + (sh - 1) = k by omega]

end Lattigo.RGSW.BlindRot
