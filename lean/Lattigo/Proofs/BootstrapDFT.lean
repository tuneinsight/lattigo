/-
  C18 — the factorised homomorphic DFT with exact entries:
  a matrix in diagonal form times the next layer is the composition of the operators; every merge
  schedule gives the same operator (the composition of all butterfly layers); each decoding layer
  undoes the encoding layer of the same size up to the factor 2; hence
  S2C ∘ C2S = σ_s^depth_s · σ_c^depth_c · 2^logSlots · id (`σ` the scalar multiplied into every matrix of a transform).
-/
import Lattigo.Proofs.BootstrapIndex
import Mathlib.Tactic.Ring
import Mathlib.Tactic.Linarith
import Mathlib.Algebra.Ring.Basic
import Mathlib.Tactic.LinearCombination

namespace Lattigo.Model.Bootstrap

/-- interpretation of an entry in a ring with a root `ζ` -/
def RootEnt.eval {R : Type} [CommRing R] (ζ : R) : RootEnt → R
  | .zero => 0
  | .pos k => ζ ^ k
  | .neg k => -ζ ^ k

def Layer.eval {R : Type} [CommRing R] (ζ : R) (l : Layer RootEnt) : Layer R :=
  { rot := l.rot, a := fun x => (l.a x).eval ζ, b := fun x => (l.b x).eval ζ, c := fun x => (l.c x).eval ζ }

end Lattigo.Model.Bootstrap

namespace Lattigo.Proofs.Bootstrap
open Lattigo.Model.Bootstrap

variable {R : Type} [CommRing R]

/-- the operator of one layer: `y_i = a_i x_i + b_i x_{i+rot} + c_i x_{i-rot}` (indices mod `n`) -/
def applyLayer (n : Nat) (l : Layer R) (x : Nat → R) : Nat → R :=
  fun i => l.a i * x i + l.b i * x ((i + l.rot % n) % n) + l.c i * x ((i + (n - l.rot % n)) % n)

/-- `cnt` layers applied one after the other, starting with level `lvl` and going down -/
def applyLayersDown (n : Nat) (layer : Nat → Layer R) : (cnt lvl : Nat) → (Nat → R) → (Nat → R)
  | 0, _, x => x
  | c + 1, lvl, x => applyLayersDown n layer c (lvl - 1) (applyLayer n (layer lvl) x)

/-- the matrices applied in sequence (`EvaluateSequential`) -/
def applyMats (n : Nat) (Ms : List (DiagMat R)) (x : Nat → R) : Nat → R :=
  Ms.foldl (fun y M => applyDiag n M y) x

theorem applyDiag_addToDiag (n : Nat) (x : Nat → R) (j : Nat) :
    ∀ (M : DiagMat R) (i : Nat) (v : Nat → R),
      applyDiag n (addToDiag M i v) x j = applyDiag n M x j + v j * x ((j + i) % n)
  | [], i, v => by simp [addToDiag, applyDiag]
  | (k, w) :: rest, i, v => by
    unfold addToDiag
    split
    · rename_i h
      subst h
      simp only [applyDiag, List.foldr_cons]
      ring
    · have ih := applyDiag_addToDiag n x j rest i v
      simp only [applyDiag, List.foldr_cons] at ih ⊢
      rw [ih]; ring

theorem applyDiag_nil (n : Nat) (x : Nat → R) (j : Nat) : applyDiag n ([] : DiagMat R) x j = 0 := rfl

theorem applyDiag_cons (n : Nat) (iv : Nat × (Nat → R)) (M : DiagMat R) (x : Nat → R) (j : Nat) :
    applyDiag n (iv :: M) x j = iv.2 j * x ((j + iv.1) % n) + applyDiag n M x j := rfl

theorem applyDiag_layerDiag (n : Nat) (l : Layer R) (hr : l.rot < n) (x : Nat → R) (j : Nat) (hj : j < n) :
    applyDiag n (layerDiag n l) x j = applyLayer n l x j := by
  unfold layerDiag applyLayer
  rw [applyDiag_addToDiag, applyDiag_addToDiag, applyDiag_addToDiag, applyDiag_nil,
    Nat.mod_eq_of_lt hr, Nat.add_zero, Nat.mod_eq_of_lt hj]
  ring

/-- a diagonal shifted by `r`, read at `j`, is the diagonal read at `j` shifted by `r` -/
theorem add_mod_shift (j i r n : Nat) : (j + (i + r) % n) % n = ((j + r) % n + i) % n := by
  rw [Nat.add_mod_mod, Nat.mod_add_mod]
  congr 1
  omega

/-- the accumulating loop of `multiplyFFTMatrixWithNextFFTLevel` -/
theorem applyDiag_foldl_mulNext (n : Nat) (l : Layer R) (x : Nat → R) (j : Nat) :
    ∀ (M acc : DiagMat R),
      applyDiag n (M.foldl (fun acc iv =>
        addToDiag
          (addToDiag
            (addToDiag acc iv.1 (fun x => l.a x * iv.2 x))
            ((iv.1 + l.rot % n) % n) (fun x => l.b x * iv.2 ((x + l.rot % n) % n)))
          ((iv.1 + (n - l.rot % n)) % n) (fun x => l.c x * iv.2 ((x + (n - l.rot % n)) % n))) acc) x j
      = applyDiag n acc x j + (l.a j * applyDiag n M x j + l.b j * applyDiag n M x ((j + l.rot % n) % n)
          + l.c j * applyDiag n M x ((j + (n - l.rot % n)) % n))
  | [], acc => by simp [applyDiag_nil]
  | iv :: M, acc => by
    rw [List.foldl_cons, applyDiag_foldl_mulNext n l x j M, applyDiag_addToDiag, applyDiag_addToDiag,
      applyDiag_addToDiag, applyDiag_cons, applyDiag_cons, applyDiag_cons,
      add_mod_shift j iv.1 (l.rot % n), add_mod_shift j iv.1 (n - l.rot % n)]
    ring

theorem applyDiag_mulNextLayer (n : Nat) (M : DiagMat R) (l : Layer R) (x : Nat → R) (j : Nat) :
    applyDiag n (mulNextLayer n M l) x j = applyLayer n l (applyDiag n M x) j := by
  unfold mulNextLayer applyLayer
  simp only
  rw [applyDiag_foldl_mulNext, applyDiag_nil]
  ring

theorem applyMats_cons (n : Nat) (M : DiagMat R) (Ms : List (DiagMat R)) (x : Nat → R) :
    applyMats n (M :: Ms) x = applyMats n Ms (applyDiag n M x) := rfl

/-- an operator on slot vectors that reads its argument below `n` only and commutes with scalars: all that
    is used of a matrix in diagonal form or a layer when operators are composed -/
structure SlotOp (n : Nat) (T : (Nat → R) → Nat → R) : Prop where
  congr : ∀ x y, (∀ i < n, x i = y i) → ∀ j < n, T x j = T y j
  smul : ∀ (s : R) x, ∀ j < n, T (fun i => s * x i) j = s * T x j

theorem SlotOp.comp {n : Nat} {T U : (Nat → R) → Nat → R} (hT : SlotOp n T) (hU : SlotOp n U) :
    SlotOp n fun x => U (T x) where
  congr x y h := hU.congr _ _ (hT.congr x y h)
  smul s x j hj := by rw [hU.congr _ _ (hT.smul s x) j hj, hU.smul s _ j hj]

theorem slotOp_applyDiag (n : Nat) (hn : 0 < n) (M : DiagMat R) : SlotOp n (applyDiag n M) where
  congr x y h j _ := by
    induction M with
    | nil => rfl
    | cons iv M ih => rw [applyDiag_cons, applyDiag_cons, ih, h _ (Nat.mod_lt _ hn)]
  smul s x j _ := by
    induction M with
    | nil => simp [applyDiag_nil]
    | cons iv M ih => rw [applyDiag_cons, applyDiag_cons, ih]; ring

theorem slotOp_applyLayer (n : Nat) (hn : 0 < n) (l : Layer R) : SlotOp n (applyLayer n l) where
  congr x y h j hj := by
    unfold applyLayer
    rw [h j hj, h _ (Nat.mod_lt _ hn), h _ (Nat.mod_lt _ hn)]
  smul s x j _ := by unfold applyLayer; ring

theorem slotOp_applyLayersDown (n : Nat) (hn : 0 < n) (layer : Nat → Layer R) :
    ∀ c lvl, SlotOp n (applyLayersDown n layer c lvl)
  | 0, _ => ⟨fun _ _ h => h, fun _ _ _ _ => rfl⟩
  | c + 1, lvl => (slotOp_applyLayer n hn (layer lvl)).comp (slotOp_applyLayersDown n hn layer c (lvl - 1))

theorem slotOp_applyMats (n : Nat) (hn : 0 < n) : ∀ Ms : List (DiagMat R), SlotOp n (applyMats n Ms)
  | [] => ⟨fun _ _ h => h, fun _ _ _ _ => rfl⟩
  | M :: Ms => (slotOp_applyDiag n hn M).comp (slotOp_applyMats n hn Ms)

theorem applyLayersDown_add (n : Nat) (layer : Nat → Layer R) :
    ∀ (a b lvl : Nat) (x : Nat → R),
      applyLayersDown n layer (a + b) lvl x = applyLayersDown n layer b (lvl - a) (applyLayersDown n layer a lvl x)
  | 0, b, lvl, x => by simp [applyLayersDown]
  | a + 1, b, lvl, x => by
    rw [show a + 1 + b = (a + b) + 1 by omega]
    simp only [applyLayersDown]
    rw [applyLayersDown_add n layer a b (lvl - 1), show lvl - 1 - a = lvl - (a + 1) by omega]

theorem applyLayersDown_succ_last (n : Nat) (layer : Nat → Layer R) (c lvl : Nat) (x : Nat → R) :
    applyLayersDown n layer (c + 1) lvl x = applyLayer n (layer (lvl - c)) (applyLayersDown n layer c lvl x) := by
  rw [applyLayersDown_add n layer c 1 lvl x]
  rfl

theorem applyDiag_mergeLayers (n : Nat) (layer : Nat → Layer R) (x : Nat → R) :
    ∀ (c nl : Nat) (M : DiagMat R) (j : Nat),
      applyDiag n (mergeLayers n layer c nl M) x j = applyLayersDown n layer c nl (applyDiag n M x) j
  | 0, _, _, _ => rfl
  | c + 1, nl, M, j => by
    unfold mergeLayers applyLayersDown
    rw [applyDiag_mergeLayers n layer x c (nl - 1) _ j]
    congr 1
    funext i
    exact applyDiag_mulNextLayer n M (layer nl) x i

/-- the matrices of `GenMatrices` (unscaled) are the `Σ ms` layers starting at `level`, whatever the grouping `ms` -/
theorem applyMats_factorMats (n : Nat) (hn : 0 < n) (layer : Nat → Layer R) (L : Nat)
    (hrot : ∀ lvl, 1 ≤ lvl → lvl ≤ L → (layer lvl).rot < n) :
    ∀ (ms : List Nat) (level : Nat) (x : Nat → R), ms.sum ≤ level → (∀ m ∈ ms, 1 ≤ m) → level ≤ L →
      ∀ j < n, applyMats n (factorMats n layer level ms) x j = applyLayersDown n layer ms.sum level x j
  | [], _, _, _, _, _ => by intro j _; simp [applyMats, factorMats, applyLayersDown]
  | m :: ms, level, x, hsum, hpos, hle => by
    intro j hj
    have hm : 1 ≤ m := hpos m (List.mem_cons_self ..)
    rw [List.sum_cons] at hsum ⊢
    obtain ⟨m', rfl⟩ : ∃ m', m = m' + 1 := ⟨m - 1, by omega⟩
    rw [factorMats, applyMats_cons, applyMats_factorMats n hn layer L hrot ms _ _ (by omega)
      (fun y hy => hpos y (List.mem_cons_of_mem _ hy)) (by omega) j hj, applyLayersDown_add n layer (m' + 1)]
    apply (slotOp_applyLayersDown n hn layer _ _).congr _ _ _ j hj
    intro i hi
    rw [applyDiag_mergeLayers, Nat.add_sub_cancel, applyLayersDown]
    exact (slotOp_applyLayersDown n hn layer _ _).congr _ _
      (fun i' hi' => applyDiag_layerDiag n (layer level) (hrot level (by omega) hle) x i' hi') i hi

theorem applyDiag_scale (n : Nat) (M : DiagMat R) (σ : R) (x : Nat → R) (j : Nat) :
    applyDiag n (M.map fun iv => (iv.1, fun x => iv.2 x * σ)) x j = σ * applyDiag n M x j := by
  induction M with
  | nil => simp [applyDiag_nil]
  | cons iv M ih => rw [List.map_cons, applyDiag_cons, applyDiag_cons, ih]; ring

/-- the scalar of every matrix is pulled through the remaining (linear) operators -/
theorem applyMats_scale (n : Nat) (hn : 0 < n) (σ : R) :
    ∀ (Ms : List (DiagMat R)) (x : Nat → R), ∀ j < n,
      applyMats n (Ms.map fun M => M.map fun iv => (iv.1, fun x => iv.2 x * σ)) x j
        = σ ^ Ms.length * applyMats n Ms x j
  | [], _, _, _ => by simp [applyMats]
  | M :: Ms, x, j, hj => by
    rw [List.map_cons, applyMats_cons,
      (slotOp_applyMats n hn _).congr _ _ (fun i _ => applyDiag_scale n M σ x i) j hj,
      applyMats_scale n hn σ Ms _ j hj, (slotOp_applyMats n hn Ms).smul σ _ j hj, applyMats_cons,
      List.length_cons, pow_succ]
    ring

theorem RootEnt.eval_pos (ζ : R) (k : Nat) : RootEnt.eval ζ (.pos k) = ζ ^ k := rfl
theorem RootEnt.eval_neg (ζ : R) (k : Nat) : RootEnt.eval ζ (.neg k) = -ζ ^ k := rfl
theorem RootEnt.eval_zero (ζ : R) : RootEnt.eval ζ .zero = 0 := rfl

/-- the two shifts of `applyLayer` when no wrap-around occurs -/
theorem shift_up {n r i : Nat} (h : i + r < n) : (i + r % n) % n = i + r := by
  rw [Nat.mod_eq_of_lt (by omega : r < n), Nat.mod_eq_of_lt h]

theorem shift_down {n r i : Nat} (hr : r ≤ i) (hi : i < n) : (i + (n - r % n)) % n = i - r := by
  rw [Nat.mod_eq_of_lt (by omega : r < n), show i + (n - r) = i - r + n by omega, Nat.add_mod_right,
    Nat.mod_eq_of_lt (by omega)]

/-- a slot and its partner in a butterfly of size `m = 2·tt` lie in the same block of `m` slots:
    from the lower half the partner is `tt` above -/
theorem butterfly_lo {m tt q j : Nat} (hm : m = 2 * tt) (hj : j < m * q) (hlo : j % m < tt) :
    j + tt < m * q ∧ (j + tt) % m = j % m + tt := by
  have hdm := Nat.div_add_mod j m
  have hle : m * (j / m + 1) ≤ m * q := Nat.mul_le_mul_left m (Nat.div_lt_of_lt_mul hj)
  rw [show j + tt = m * (j / m) + (j % m + tt) by omega, Nat.mul_add_mod,
    Nat.mod_eq_of_lt (show j % m + tt < m by omega)]
  exact ⟨by rw [Nat.mul_succ] at hle; omega, rfl⟩

/-- … from the upper half it is `tt` below -/
theorem butterfly_hi {m tt j : Nat} (hm : m = 2 * tt) (htt : 0 < tt) (hhi : ¬ j % m < tt) :
    tt ≤ j ∧ (j - tt) % m = j % m - tt := by
  have hdm := Nat.div_add_mod j m
  have hmod : j % m < m := Nat.mod_lt _ (by omega)
  have hle : j % m ≤ j := Nat.mod_le _ _
  rw [show j - tt = m * (j / m) + (j % m - tt) by omega, Nat.mul_add_mod,
    Nat.mod_eq_of_lt (show j % m - tt < m by omega)]
  exact ⟨by omega, rfl⟩

theorem pow5mod_lt (t : Nat) {m4 : Nat} (h : 0 < m4) : pow5mod t m4 < m4 := by
  -- every value of the loop is reduced modulo `m4`
  have : ∀ (f i x r : Nat), r < m4 → modExpLoop m4 f i x r < m4 := by
    intro f
    induction f with
    | zero => intro i x r hr; exact hr
    | succ f ih =>
      intro i x r hr
      unfold modExpLoop
      split
      · exact hr
      · apply ih
        split
        · exact Nat.mod_lt _ h
        · exact hr
  exact this _ _ _ _ (Nat.mod_lt _ h)

/-- `F_m ∘ I_m = 2·id`: the decoding butterfly layer of size `m` undoes the encoding layer of the same size up to
    the factor 2 (`n = m·q` slots, `m = 2·tt`) -/
theorem fft_ifft_layer (ζ : R) {n m tt q : Nat} (hm : m = 2 * tt) (hn : n = m * q) (htt : 0 < tt)
    (hζ : ζ ^ (4 * n) = 1) (x : Nat → R) (j : Nat) (hj : j < n) :
    applyLayer n ((fftLayer n m).eval ζ) (applyLayer n ((ifftLayer n m).eval ζ) x) j = 2 * x j := by
  subst hn
  have hm0 : 0 < m := by omega
  have htt' : m / 2 = tt := by omega
  have hgap : m * q / m = q := Nat.mul_div_cancel_left q hm0
  -- the exponents of a slot's entries in the two layers add up to `4n`
  have hk : ζ ^ (pow5mod (j % m % tt) (4 * m) * q) * ζ ^ ((4 * m - pow5mod (j % m % tt) (4 * m)) * q) = 1 := by
    have := pow5mod_lt (j % m % tt) (show 0 < 4 * m by omega)
    rw [← pow_add, ← Nat.add_mul, Nat.add_sub_cancel' this.le, Nat.mul_assoc, hζ]
  unfold applyLayer Layer.eval fftLayer ifftLayer
  simp only [htt', hgap]
  by_cases hlo : j % m < tt
  · obtain ⟨hjt, e2⟩ := butterfly_lo hm hj hlo
    have hhi' : ¬ (j + tt) % m < tt := by omega
    have ek : (j + tt) % m % tt = j % m % tt := by rw [e2, Nat.add_mod_right]
    simp only [shift_up hjt, shift_down (Nat.le_add_left tt j) hjt, Nat.add_sub_cancel, hlo, hhi', if_true,
      if_false, ek, RootEnt.eval_pos, RootEnt.eval_neg, RootEnt.eval_zero, pow_zero]
    linear_combination (x j - x (j + tt)) * hk
  · obtain ⟨htj, e2⟩ := butterfly_hi hm htt hlo
    have hlo' : (j - tt) % m < tt := by
      have : j % m < m := Nat.mod_lt _ hm0
      omega
    have ek : (j - tt) % m % tt = j % m % tt := by
      rw [e2]
      conv_rhs => rw [show j % m = j % m - tt + tt by omega, Nat.add_mod_right]
    simp only [shift_down htj hj, shift_up (show j - tt + tt < m * q by omega), Nat.sub_add_cancel htj, hlo,
      hlo', if_true, if_false, ek, RootEnt.eval_pos, RootEnt.eval_neg, RootEnt.eval_zero, pow_zero]
    linear_combination (x j - x (j - tt)) * hk

/-! ### telescoping: S2C ∘ C2S -/

/-- the layers of CoeffsToSlots / SlotsToCoeffs with interpreted entries -/
def encLayers (ζ : R) (L : Nat) : Nat → Layer R := fun lvl => (dftLayer true L lvl).eval ζ
def decLayers (ζ : R) (L : Nat) : Nat → Layer R := fun lvl => (dftLayer false L lvl).eval ζ

theorem encLayers_rot (ζ : R) (L lvl : Nat) (h1 : 1 ≤ lvl) (h2 : lvl ≤ L) : (encLayers ζ L lvl).rot < 2 ^ L := by
  simp only [encLayers, dftLayer, if_true, Layer.eval, ifftLayer]
  obtain ⟨t, rfl⟩ : ∃ t, lvl = t + 1 := ⟨lvl - 1, by omega⟩
  rw [Nat.pow_succ, Nat.mul_div_cancel _ (by omega)]
  exact Nat.pow_lt_pow_right (by omega) (by omega)

theorem decLayers_rot (ζ : R) (L lvl : Nat) (h1 : 1 ≤ lvl) (h2 : lvl ≤ L) : (decLayers ζ L lvl).rot < 2 ^ L := by
  simp only [decLayers, dftLayer, Bool.false_eq_true, if_false, Layer.eval, fftLayer]
  rw [Nat.pow_succ, Nat.mul_div_cancel _ (by omega)]
  exact Nat.pow_lt_pow_right (by omega) (by omega)

/-- the last `k` decoding layers undo the last `k` encoding layers up to `2^k` -/
theorem dft_layers_inverse (ζ : R) (L : Nat) (hζ : ζ ^ (4 * 2 ^ L) = 1) :
    ∀ k, k ≤ L → ∀ (x : Nat → R), ∀ j < 2 ^ L,
      applyLayersDown (2 ^ L) (decLayers ζ L) k L (applyLayersDown (2 ^ L) (encLayers ζ L) k k x) j = 2 ^ k * x j
  | 0, _, x, j, _ => by simp [applyLayersDown]
  | k + 1, hk, x, j, hj => by
    have hn : 0 < 2 ^ L := Nat.two_pow_pos L
    rw [applyLayersDown_succ_last]
    have hinner : ∀ i < 2 ^ L,
        applyLayersDown (2 ^ L) (decLayers ζ L) k L (applyLayersDown (2 ^ L) (encLayers ζ L) (k + 1) (k + 1) x) i
          = (fun i => 2 ^ k * applyLayer (2 ^ L) (encLayers ζ L (k + 1)) x i) i := by
      intro i hi
      simp only [applyLayersDown, Nat.add_sub_cancel]
      exact dft_layers_inverse ζ L hζ k (by omega) _ i hi
    rw [(slotOp_applyLayer _ hn _).congr _ _ hinner j hj, (slotOp_applyLayer _ hn _).smul _ _ j hj]
    have e1 : decLayers ζ L (L - k) = (fftLayer (2 ^ L) (2 ^ (k + 1))).eval ζ := by
      simp only [decLayers, dftLayer, Bool.false_eq_true, if_false]
      rw [show L - (L - k) + 1 = k + 1 by omega]
    have e2 : encLayers ζ L (k + 1) = (ifftLayer (2 ^ L) (2 ^ (k + 1))).eval ζ := by
      simp only [encLayers, dftLayer, if_true]
    rw [e1, e2, fft_ifft_layer ζ (m := 2 ^ (k + 1)) (tt := 2 ^ k) (q := 2 ^ (L - (k + 1)))
      (by rw [Nat.pow_succ]; ring) (by rw [← Nat.pow_add]; congr 1; omega) (Nat.two_pow_pos k) hζ x j hj, pow_succ]
    ring

theorem mergeDepths_length : ∀ (k level : Nat), (mergeDepths k level).length = k
  | 0, _ => rfl
  | k + 1, level => by simp [mergeDepths, mergeDepths_length k]

theorem mergeSched_sum_eq (d : MatLit) (h : 1 ≤ d.maxDepth) : (mergeSched d).sum = d.logSlots := by
  unfold mergeSched
  split
  · exact mergeDepths_sum_eq _ _ h
  · rw [List.sum_reverse]; exact mergeDepths_sum_eq _ _ h

theorem mergeSched_length (d : MatLit) : (mergeSched d).length = d.maxDepth := by
  unfold mergeSched
  split
  · exact mergeDepths_length _ _
  · rw [List.length_reverse]; exact mergeDepths_length _ _

theorem factorMats_length {α : Type} [Add α] [Mul α] (n : Nat) (layer : Nat → Layer α) :
    ∀ (ms : List Nat) (level : Nat), (factorMats n layer level ms).length = ms.length
  | [], _ => rfl
  | m :: ms, level => by simp [factorMats, factorMats_length n layer ms]

/-- `C18.dft_split_independent` -/
theorem genMatrices_apply (d : MatLit) (layer : Nat → Layer R)
    (hrot : ∀ lvl, 1 ≤ lvl → lvl ≤ d.logSlots → (layer lvl).rot < 2 ^ d.logSlots)
    (hv : d.valid) (h1 : 1 ≤ d.maxDepth) (σ : R) (x : Nat → R) (j : Nat) (hj : j < 2 ^ d.logSlots) :
    applyMats (2 ^ d.logSlots) (genMatricesVals d layer σ) x j
      = σ ^ d.maxDepth * applyLayersDown (2 ^ d.logSlots) layer d.logSlots d.logSlots x j := by
  have hn := Nat.two_pow_pos d.logSlots
  unfold genMatricesVals
  rw [applyMats_scale _ hn σ _ x j hj, factorMats_length, mergeSched_length,
    applyMats_factorMats _ hn layer d.logSlots hrot (mergeSched d) d.logSlots x (mergeSched_sum d)
      (mergeSched_pos d hv) le_rfl j hj, mergeSched_sum_eq d h1]

/-- `C18.dft_inverse`. With `σ_c^depth_c = scaling_c / slots` (what `GenMatrices` multiplies in for the Encode type)
    the product is `scaling_s · scaling_c · id`. -/
theorem dft_inverse (ζ : R) (dC dS : MatLit)
    (hL : dS.logSlots = dC.logSlots) (hvC : dC.valid) (hvS : dS.valid) (h1C : 1 ≤ dC.maxDepth) (h1S : 1 ≤ dS.maxDepth)
    (hζ : ζ ^ (4 * 2 ^ dC.logSlots) = 1) (σc σs : R) (x : Nat → R) (j : Nat) (hj : j < 2 ^ dC.logSlots) :
    applyMats (2 ^ dC.logSlots) (genMatricesVals dS (decLayers ζ dC.logSlots) σs)
      (applyMats (2 ^ dC.logSlots) (genMatricesVals dC (encLayers ζ dC.logSlots) σc) x) j
      = σs ^ dS.maxDepth * σc ^ dC.maxDepth * 2 ^ dC.logSlots * x j := by
  have hn := Nat.two_pow_pos dC.logSlots
  have hS' := genMatrices_apply dS (decLayers ζ dC.logSlots)
    (by rw [hL]; exact fun lvl a b => decLayers_rot ζ _ lvl a b) hvS h1S σs
  rw [hL] at hS'
  rw [hS' _ j hj]
  have hC' : ∀ i < 2 ^ dC.logSlots,
      applyMats (2 ^ dC.logSlots) (genMatricesVals dC (encLayers ζ dC.logSlots) σc) x i
        = (fun i => σc ^ dC.maxDepth *
            applyLayersDown (2 ^ dC.logSlots) (encLayers ζ dC.logSlots) dC.logSlots dC.logSlots x i) i :=
    fun i hi => genMatrices_apply dC (encLayers ζ dC.logSlots)
      (fun lvl a b => encLayers_rot ζ _ lvl a b) hvC h1C σc x i hi
  rw [(slotOp_applyLayersDown _ hn _ _ _).congr _ _ hC' j hj, (slotOp_applyLayersDown _ hn _ _ _).smul _ _ j hj,
    dft_layers_inverse ζ dC.logSlots hζ dC.logSlots le_rfl x j hj]
  ring

end Lattigo.Proofs.Bootstrap
