/-
  C18 — lemmas on the DFT index bookkeeping of `Lattigo.Model.Bootstrap`: what `dedupL` and `sortL` do (the model keeps
  Go's `map[int]bool` index sets as lists; that the index sets of the matrices have no duplicates is `factorIndex_nodup`,
  which no other proof needs), the merge schedule, bounds and shape of the diagonal index sets of one matrix, and that
  helper and evaluator walk over the same index sets.
-/
import Lattigo.Model.Bootstrap
import Mathlib.Tactic.Linarith
import Mathlib.Data.List.Basic
import Batteries.Data.List.Perm

namespace Lattigo.Proofs.Bootstrap
open Lattigo.Model.Bootstrap

theorem mem_dedupL {a : Nat} : ∀ {l : List Nat}, a ∈ dedupL l ↔ a ∈ l
  | [] => Iff.rfl
  | b :: l => by
    unfold dedupL
    split
    · rename_i hc
      rw [mem_dedupL, List.mem_cons]
      exact ⟨Or.inr, fun h => h.elim (fun e => e ▸ List.contains_iff_mem.1 hc) id⟩
    · rw [List.mem_cons, mem_dedupL, List.mem_cons]

theorem nodup_dedupL : ∀ (l : List Nat), (dedupL l).Nodup
  | [] => List.nodup_nil
  | b :: l => by
    unfold dedupL
    split
    · exact nodup_dedupL l
    · rename_i hc
      exact List.nodup_cons.2 ⟨fun h => hc (List.contains_iff_mem.2 (mem_dedupL.1 h)), nodup_dedupL l⟩

theorem small_list {l : List Nat} (hl : l.length < 3) {a b : Nat}
    (ha : a ∈ l) (hb : b ∈ l) (hab : a ≠ b) : ∀ x ∈ l, x = a ∨ x = b := by
  intro x hx
  by_contra hne
  rw [not_or] at hne
  -- otherwise `x, a, b` are three different entries
  have hnd : [x, a, b].Nodup := by simp [hne.1, hne.2, hab]
  have hsub : [x, a, b] ⊆ l := by
    intro y hy
    simp only [List.mem_cons, List.not_mem_nil, or_false] at hy
    rcases hy with rfl | rfl | rfl <;> assumption
  have := (List.subperm_of_subset hnd hsub).length_le
  simp only [List.length_cons, List.length_nil] at this
  omega

theorem mem_insSorted {a x : Nat} : ∀ {l : List Nat}, x ∈ insSorted a l ↔ x = a ∨ x ∈ l
  | [] => by simp [insSorted]
  | b :: l => by
    unfold insSorted
    split
    · exact List.mem_cons
    · rw [List.mem_cons, mem_insSorted (l := l), List.mem_cons]
      exact or_left_comm

theorem mem_sortL {x : Nat} : ∀ {l : List Nat}, x ∈ sortL l ↔ x ∈ l
  | [] => by simp [sortL]
  | b :: l => by
    have ih := mem_sortL (x := x) (l := l)
    unfold sortL at ih ⊢
    simp only [List.foldr_cons, mem_insSorted, ih, List.mem_cons]

theorem ceilDiv_le (a k : Nat) : ceilDiv a (k + 1) ≤ a := by
  unfold ceilDiv
  simp only [Nat.add_sub_cancel]
  rw [Nat.div_le_iff_le_mul_add_pred (by omega)]
  have : a ≤ (k + 1) * a := Nat.le_mul_of_pos_left a (by omega)
  omega

theorem ceilDiv_pos {a k : Nat} (h : 1 ≤ a) : 1 ≤ ceilDiv a (k + 1) := by
  unfold ceilDiv
  simp only [Nat.add_sub_cancel]
  rw [Nat.le_div_iff_mul_le (by omega)]
  omega

/-- the remaining depth still fits after one merge step -/
theorem ceilDiv_room {a k : Nat} (h : k + 1 ≤ a) : ceilDiv a (k + 1) + k ≤ a := by
  unfold ceilDiv
  simp only [Nat.add_sub_cancel]
  obtain ⟨t, rfl⟩ : ∃ t, a = t + (k + 1) := ⟨a - (k + 1), by omega⟩
  have : (t + (k + 1) + k) / (k + 1) < t + 2 := by
    have := Nat.le_mul_of_pos_right t (show 0 < k + 1 by omega)
    rw [Nat.div_lt_iff_lt_mul (by omega), Nat.add_mul]
    omega
  omega

theorem mergeDepths_sum_eq : ∀ (k level : Nat), 1 ≤ k → (mergeDepths k level).sum = level
  | 0, _, h => by omega
  | 1, level, _ => by simp [mergeDepths, ceilDiv]
  | k + 2, level, _ => by
    have h1 := ceilDiv_le level (k + 1)
    have h2 := mergeDepths_sum_eq (k + 1) (level - ceilDiv level (k + 1 + 1)) (by omega)
    simp only [mergeDepths, List.sum_cons] at h2 ⊢
    omega

theorem mergeDepths_sum (k level : Nat) : (mergeDepths k level).sum ≤ level := by
  cases k with
  | zero => simp [mergeDepths]
  | succ k => exact (mergeDepths_sum_eq (k + 1) level (by omega)).le

theorem mergeDepths_pos : ∀ (k level : Nat), k ≤ level → ∀ m ∈ mergeDepths k level, 1 ≤ m
  | 0, _, _ => by simp [mergeDepths]
  | k + 1, level, h => by
    intro m hm
    simp only [mergeDepths, List.mem_cons] at hm
    rcases hm with rfl | hm
    · exact ceilDiv_pos (by omega)
    · have := ceilDiv_room h
      exact mergeDepths_pos k _ (by omega) m hm

theorem mergeSched_sum (d : MatLit) : (mergeSched d).sum ≤ d.logSlots := by
  unfold mergeSched
  split
  · exact mergeDepths_sum _ _
  · rw [List.sum_reverse]; exact mergeDepths_sum _ _

theorem mergeSched_pos (d : MatLit) (h : d.maxDepth ≤ d.logSlots) : ∀ m ∈ mergeSched d, 1 ≤ m := by
  intro m hm
  unfold mergeSched at hm
  split at hm
  · exact mergeDepths_pos _ _ h m hm
  · exact mergeDepths_pos _ _ h m (List.mem_reverse.mp hm)

theorem layerRot_pow (d : MatLit) (level : Nat) : ∃ e, layerRot d level = 2 ^ e := by
  unfold layerRot; split <;> exact ⟨_, rfl⟩

theorem layerRot_lt (d : MatLit) {level : Nat} (h1 : 1 ≤ level) (h2 : level ≤ d.logSlots) :
    layerRot d level < 2 ^ d.logSlots := by
  unfold layerRot
  split <;> exact Nat.pow_lt_pow_right (by omega) (by omega)

theorem mem_nextLevel {d : MatLit} {vec : List Nat} {n nl x : Nat} :
    x ∈ nextLevelfftIndexMap d vec n nl ↔
      ∃ i ∈ vec, x = i ∨ x = (i + layerRot d nl % n) % n ∨ x = (i + (n - layerRot d nl % n)) % n := by
  unfold nextLevelfftIndexMap
  simp only [mem_dedupL, List.mem_flatMap, List.mem_cons, List.not_mem_nil, or_false]

theorem nextLevel_extensive {d : MatLit} {vec : List Nat} {n nl x : Nat} (h : x ∈ vec) :
    x ∈ nextLevelfftIndexMap d vec n nl := mem_nextLevel.mpr ⟨x, h, Or.inl rfl⟩

theorem nextLevel_lt {d : MatLit} {vec : List Nat} {n nl : Nat} (hn : 0 < n) (hv : ∀ x ∈ vec, x < n) :
    ∀ x ∈ nextLevelfftIndexMap d vec n nl, x < n := by
  intro x hx
  obtain ⟨i, hi, rfl | rfl | rfl⟩ := mem_nextLevel.mp hx
  · exact hv _ hi
  · exact Nat.mod_lt _ hn
  · exact Nat.mod_lt _ hn

theorem nextLevel_nodup (d : MatLit) (vec : List Nat) (n nl : Nat) :
    (nextLevelfftIndexMap d vec n nl).Nodup := nodup_dedupL _

theorem mergeNext_extensive {d : MatLit} {n : Nat} : ∀ (c nl : Nat) {vec : List Nat} {x : Nat},
    x ∈ vec → x ∈ mergeNext d n c nl vec
  | 0, _, _, _, h => h
  | c + 1, nl, _, _, h => mergeNext_extensive c (nl - 1) (nextLevel_extensive h)

theorem mergeNext_lt {d : MatLit} {n : Nat} (hn : 0 < n) : ∀ (c nl : Nat) {vec : List Nat},
    (∀ x ∈ vec, x < n) → ∀ x ∈ mergeNext d n c nl vec, x < n
  | 0, _, _, h => h
  | c + 1, nl, _, h => mergeNext_lt hn c (nl - 1) (nextLevel_lt hn h)

theorem mergeNext_nodup {d : MatLit} {n : Nat} : ∀ (c nl : Nat) {vec : List Nat},
    vec.Nodup → (mergeNext d n c nl vec).Nodup
  | 0, _, _, h => h
  | c + 1, nl, _, _ => mergeNext_nodup c (nl - 1) (nextLevel_nodup _ _ _ _)

theorem factorIndex_lt (d : MatLit) (special : Bool) {level : Nat} (m : Nat)
    (h1 : 1 ≤ level) (h2 : level ≤ d.logSlots) :
    ∀ x ∈ factorIndex d special level m, x < (if special then 2 * 2 ^ d.logSlots else 2 ^ d.logSlots) := by
  have hp := Nat.two_pow_pos d.logSlots
  unfold factorIndex
  cases special
  · simp only [Bool.false_eq_true, if_false]
    apply mergeNext_lt hp
    intro x hx
    unfold genWfftIndexMap at hx
    simp only [mem_dedupL, List.mem_cons, List.not_mem_nil, or_false] at hx
    have := layerRot_lt d h1 h2
    obtain ⟨e, he⟩ := layerRot_pow d level
    have := Nat.two_pow_pos e
    rcases hx with rfl | rfl | rfl <;> omega
  · simp only [if_true]
    apply mergeNext_lt (by omega)
    apply nextLevel_lt (by omega)
    intro x hx
    unfold genWfftRepackIndexMap at hx
    simp only [List.mem_cons, List.not_mem_nil, or_false] at hx
    rcases hx with rfl | rfl <;> omega

theorem factorIndex_nodup (d : MatLit) (special : Bool) (level m : Nat) :
    (factorIndex d special level m).Nodup := by
  unfold factorIndex
  cases special
  · simp only [Bool.false_eq_true, if_false]
    exact mergeNext_nodup _ _ (nodup_dedupL _)
  · simp only [if_true]
    exact mergeNext_nodup _ _ (nextLevel_nodup _ _ _ _)

theorem factorIndex_has (d : MatLit) (special : Bool) (level m : Nat) :
    0 ∈ factorIndex d special level m ∧ ∃ e, 2 ^ e ∈ factorIndex d special level m := by
  unfold factorIndex
  cases special
  · simp only [Bool.false_eq_true, if_false]
    obtain ⟨e, he⟩ := layerRot_pow d level
    refine ⟨mergeNext_extensive _ _ ?_, e, mergeNext_extensive _ _ ?_⟩
    · unfold genWfftIndexMap; simp [mem_dedupL]
    · unfold genWfftIndexMap; simp [mem_dedupL, he]
  · simp only [if_true]
    refine ⟨mergeNext_extensive _ _ (nextLevel_extensive ?_), d.logSlots,
      mergeNext_extensive _ _ (nextLevel_extensive ?_)⟩
    · simp [genWfftRepackIndexMap]
    · simp [genWfftRepackIndexMap]

theorem factorIndex_narrow (d : MatLit) (special : Bool) (level m : Nat)
    (hl : (factorIndex d special level m).length < 3) :
    ∃ e, ∀ x ∈ factorIndex d special level m, x = 0 ∨ x = 2 ^ e := by
  obtain ⟨h0, e, he⟩ := factorIndex_has d special level m
  exact ⟨e, small_list hl h0 he (Nat.two_pow_pos e).ne⟩

theorem genMatricesIndex_eq (d : MatLit) (logN : Nat) : genMatricesIndex d logN = computeIndexMap d logN := by
  unfold genMatricesIndex computeIndexMap MatLit.logdSlots
  congr 1
  by_cases h : d.logSlots < logN - 1 <;> cases hr : d.repack <;> simp [h]

theorem dslots_eq (d : MatLit) (logN : Nat) : 2 ^ d.logdSlots logN = d.dslots logN := by
  unfold MatLit.logdSlots MatLit.dslots MatLit.sparseRepack
  split
  · rw [Nat.pow_succ]; omega
  · rfl

end Lattigo.Proofs.Bootstrap
