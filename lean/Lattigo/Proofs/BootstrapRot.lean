/-
  C18 — helper rotations (`dft.MatrixLiteral.GaloisElements`) versus the rotations the BSGS
  evaluation of the DFT matrices requests (`lintrans` evaluator), for every matrix literal; at the end
  the helper's functions with a bit mask in place of `dedupL`'s comparisons, for evaluating a concrete literal.
-/
import Lattigo.Proofs.BootstrapIndex

namespace Lattigo.Proofs.Bootstrap
open Lattigo.Model.Bootstrap

theorem bsgsGiant_eq {cols n1 d : Nat} (h : d < cols) : bsgsGiant cols n1 d = d / n1 * n1 := by
  unfold bsgsGiant
  rw [Nat.mod_eq_of_lt h, Nat.mod_eq_of_lt (lt_of_le_of_lt (Nat.div_mul_le_self d n1) h)]

theorem bsgsBaby_eq {cols n1 d : Nat} (h : d < cols) : bsgsBaby cols n1 d = d % n1 := by
  unfold bsgsBaby
  rw [Nat.mod_eq_of_lt h]

theorem mem_nz {x : Nat} {l : List Nat} : x ∈ nz l ↔ x ∈ l ∧ x ≠ 0 := by
  unfold nz; simp

/-- rotations of the BSGS evaluation of the diagonals `D` with inner loop size `n1`:
    the non-zero giant steps `(d / n1) * n1` and the non-zero baby steps `d % n1`. -/
def splitRots (D : List Nat) (n1 : Nat) : List Nat := nz (D.flatMap fun j => [j / n1 * n1, j % n1])

theorem mem_splitRots {D : List Nat} {n1 x : Nat} :
    x ∈ splitRots D n1 ↔ x ≠ 0 ∧ ∃ d ∈ D, x = d / n1 * n1 ∨ x = d % n1 := by
  unfold splitRots
  rw [mem_nz]
  simp only [List.mem_flatMap, List.mem_cons, List.not_mem_nil, or_false]
  exact and_comm

/-- the keys of `Vec` are the diagonals themselves -/
theorem mem_ltVecKeys {D : List Nat} {cols n1 : Nat} (hb : ∀ d ∈ D, d < cols) {y : Nat} :
    y ∈ ltVecKeys D cols n1 ↔ y ∈ D := by
  unfold ltVecKeys
  simp only [mem_dedupL, List.mem_map]
  constructor
  · rintro ⟨d, hd, rfl⟩
    rw [bsgsGiant_eq (hb d hd), bsgsBaby_eq (hb d hd), Nat.div_add_mod']
    exact hd
  · intro hy
    exact ⟨y, hy, by rw [bsgsGiant_eq (hb y hy), bsgsBaby_eq (hb y hy), Nat.div_add_mod']⟩

theorem mem_ltRequested {D : List Nat} {cols bsgs : Nat} (hb : ∀ d ∈ D, d < cols) {x : Nat} :
    x ∈ ltRequested D cols bsgs ↔ x ∈ splitRots D (findBestBSGSRatio D cols bsgs) := by
  unfold ltRequested
  simp only [List.mem_append, mem_nz, bsgsBabies, bsgsGiants, mem_dedupL, List.mem_map, mem_splitRots]
  constructor
  · rintro (⟨⟨y, hy, rfl⟩, hx⟩ | ⟨⟨y, hy, rfl⟩, hx⟩)
    · have hyD := (mem_ltVecKeys hb).mp hy
      rw [bsgsBaby_eq (hb y hyD)] at hx ⊢
      exact ⟨hx, y, hyD, Or.inr rfl⟩
    · have hyD := (mem_ltVecKeys hb).mp hy
      rw [bsgsGiant_eq (hb y hyD)] at hx ⊢
      exact ⟨hx, y, hyD, Or.inl rfl⟩
  · rintro ⟨hx, d, hd, rfl | rfl⟩
    · right
      refine ⟨⟨d, (mem_ltVecKeys hb).mpr hd, bsgsGiant_eq (hb d hd)⟩, hx⟩
    · left
      refine ⟨⟨d, (mem_ltVecKeys hb).mpr hd, bsgsBaby_eq (hb d hd)⟩, hx⟩

theorem mem_addMatrixRot_wide {D : List Nat} {n1 slots : Nat} {rf : Bool} (hw : 3 ≤ D.length)
    (hb : ∀ d ∈ D, d < (if rf then 2 * slots else slots)) {x : Nat} :
    x ∈ addMatrixRot D n1 slots rf ↔ x ∈ splitRots D n1 := by
  unfold addMatrixRot
  rw [if_neg (by omega), mem_nz, mem_splitRots]
  simp only [List.mem_flatMap, List.mem_cons, List.not_mem_nil, or_false]
  constructor
  · rintro ⟨⟨d, hd, h⟩, hx⟩
    refine ⟨hx, d, hd, ?_⟩
    rwa [Nat.mod_eq_of_lt (lt_of_le_of_lt (Nat.div_mul_le_self d n1) (hb d hd))] at h
  · rintro ⟨hx, d, hd, h⟩
    refine ⟨⟨d, hd, ?_⟩, hx⟩
    rwa [Nat.mod_eq_of_lt (lt_of_le_of_lt (Nat.div_mul_le_self d n1) (hb d hd))]

theorem mem_addMatrixRot_narrow {D : List Nat} {n1 slots : Nat} {rf : Bool} (hn : D.length < 3) {x : Nat} :
    x ∈ addMatrixRot D n1 slots rf ↔ x ∈ D ∧ x ≠ 0 := by
  unfold addMatrixRot
  rw [if_pos hn, mem_nz]

/-! ### `FindBestBSGSRatio` returns a power of two, or 0

`0` is `N1 / 2` at `N1 = 1`. That this branch is never taken is proved for the copy of the loop in `Model/LinTrans`
(`findBestBSGSRatio_pos`), not for this one: the case is carried along (`pow_split`, `split_narrow`). -/

theorem findBestLoop_pow (D : List Nat) (maxN ratio : Nat) : ∀ (fuel j : Nat),
    findBestLoop D maxN ratio fuel (2 ^ j) = 0 ∨ ∃ k, findBestLoop D maxN ratio fuel (2 ^ j) = 2 ^ k
  | 0, _ => Or.inr ⟨0, by simp [findBestLoop]⟩
  | fuel + 1, j => by
    unfold findBestLoop
    by_cases h1 : 2 ^ j < maxN
    · simp only [h1, if_true]
      split
      · exact Or.inr ⟨j, rfl⟩
      · split
        · cases j with
          | zero => left; simp
          | succ j' => right; exact ⟨j', by rw [Nat.pow_succ]; omega⟩
        · have := findBestLoop_pow D maxN ratio fuel (j + 1)
          rwa [Nat.pow_succ, Nat.mul_comm] at this
    · simp only [h1, if_false]
      exact Or.inr ⟨0, rfl⟩

theorem findBest_pow (D : List Nat) (maxN l : Nat) :
    findBestBSGSRatio D maxN l = 0 ∨ ∃ k, findBestBSGSRatio D maxN l = 2 ^ k := by
  unfold findBestBSGSRatio
  simpa using findBestLoop_pow D maxN (2 ^ l) maxN 0

theorem pow_split {e n1 : Nat} (hn : n1 = 0 ∨ ∃ k, n1 = 2 ^ k) :
    (2 ^ e / n1 * n1 = 2 ^ e ∧ 2 ^ e % n1 = 0) ∨ (2 ^ e / n1 * n1 = 0 ∧ 2 ^ e % n1 = 2 ^ e) := by
  rcases hn with rfl | ⟨k, rfl⟩
  · right; simp
  · by_cases h : k ≤ e
    · left
      have hd : 2 ^ k ∣ 2 ^ e := Nat.pow_dvd_pow 2 h
      exact ⟨Nat.div_mul_cancel hd, Nat.mod_eq_zero_of_dvd hd⟩
    · right
      have hlt : 2 ^ e < 2 ^ k := Nat.pow_lt_pow_right (by omega) (by omega)
      rw [Nat.div_eq_of_lt hlt, Nat.mod_eq_of_lt hlt]; simp

/-- a matrix whose diagonals are `0` and one power of two: the BSGS evaluation rotates by exactly
    that power of two -/
theorem split_narrow {D : List Nat} {e n1 : Nat} (hD : ∀ x ∈ D, x = 0 ∨ x = 2 ^ e)
    (hn : n1 = 0 ∨ ∃ k, n1 = 2 ^ k) {x : Nat} : x ∈ splitRots D n1 ↔ x ∈ D ∧ x ≠ 0 := by
  rw [mem_splitRots]
  constructor
  · rintro ⟨hx0, d, hd, h⟩
    refine ⟨?_, hx0⟩
    rcases hD d hd with rfl | rfl
    · rcases h with rfl | rfl <;> simp at hx0
    · rcases pow_split (e := e) hn with ⟨h1, h2⟩ | ⟨h1, h2⟩ <;> rcases h with rfl | rfl
      · rwa [h1]
      · exact absurd h2 hx0
      · exact absurd h1 hx0
      · rwa [h2]
  · rintro ⟨hx, hx0⟩
    obtain rfl := (hD x hx).resolve_left hx0
    refine ⟨hx0, 2 ^ e, hx, ?_⟩
    rcases pow_split (e := e) hn with ⟨h1, _⟩ | ⟨_, h2⟩
    · exact Or.inl h1.symm
    · exact Or.inr h2.symm

theorem factor_rots {D : List Nat} {cols slots bsgs : Nat} {rf : Bool}
    (hb : ∀ d ∈ D, d < (if rf then 2 * slots else slots))
    (hmc : (if rf then 2 * slots else slots) ≤ cols)
    (hnarrow : D.length < 3 → ∃ e, ∀ x ∈ D, x = 0 ∨ x = 2 ^ e) (x : Nat) :
    x ∈ ltRequested D cols bsgs ↔ x ∈ addMatrixRot D (findBestBSGSRatio D cols bsgs) slots rf := by
  have hbc : ∀ d ∈ D, d < cols := fun d hd => lt_of_lt_of_le (hb d hd) hmc
  rw [mem_ltRequested hbc]
  by_cases hw : 3 ≤ D.length
  · rw [mem_addMatrixRot_wide hw hb]
  · have hn : D.length < 3 := by omega
    obtain ⟨e, he⟩ := hnarrow hn
    rw [mem_addMatrixRot_narrow hn, split_narrow he (findBest_pow D cols bsgs)]

/-- HELPER = EVALUATOR along the loop over the matrices of a literal -/
theorem loop_rots (d : MatLit) (logN : Nat) :
    ∀ (ms : List Nat) (first : Bool) (level : Nat), ms.sum ≤ level → (∀ m ∈ ms, 1 ≤ m) → level ≤ d.logSlots →
      ∀ x, x ∈ (indexLoop d (decide (d.logSlots < logN - 1) && !d.encode && d.repack) first level ms).flatMap
            (fun D => ltRequested D (d.dslots logN) d.logBSGS)
        ↔ x ∈ helperGo d logN
            (indexLoop d (decide (d.logSlots < logN - 1) && !d.encode && d.repack) first level ms) first
  | [], _, _, _, _, _ => fun _ => Iff.rfl
  | m :: ms, first, level, hsum, hpos, hle => by
    intro x
    have hm : 1 ≤ m := hpos m List.mem_cons_self
    rw [List.sum_cons] at hsum
    -- the helper's `repack` flag is the `special` flag of the index computation
    have hflag : (!d.encode && decide (d.logSlots < logN - 1) && first && d.repack)
        = (first && (decide (d.logSlots < logN - 1) && !d.encode && d.repack)) := by
      ac_rfl
    -- a special (doubled) first matrix occurs in sparse packing only, where `dslots` is doubled too
    have hmc : (if (first && (decide (d.logSlots < logN - 1) && !d.encode && d.repack)) = true
        then 2 * 2 ^ d.logSlots else 2 ^ d.logSlots) ≤ d.dslots logN := by
      unfold MatLit.dslots MatLit.sparseRepack
      split
      · rename_i hs
        simp only [Bool.and_eq_true] at hs
        rw [hs.2.1.1, hs.2.2, Bool.and_self, if_pos rfl]
      · split
        · omega
        · exact le_rfl
    rw [indexLoop, List.flatMap_cons, List.mem_append, helperGo, List.mem_append, hflag,
      factor_rots (factorIndex_lt d _ m (by omega) hle) hmc (factorIndex_narrow d _ level m) x,
      loop_rots d logN ms false (level - m) (by omega) (fun y hy => hpos y (List.mem_cons_of_mem _ hy))
        (by omega) x]

/-- HELPER = EVALUATOR ∪ {the sparse repacking rotation of CoeffsToSlots} for one DFT -/
theorem mem_helperRotations (d : MatLit) (logN : Nat) (hv : d.valid) (x : Nat) :
    x ∈ helperRotations d logN ↔
      x ∈ dftRequested d logN ∨ (x = 2 ^ d.logSlots ∧ d.sparseRepack logN = true ∧ d.encode = true) := by
  unfold helperRotations dftRequested
  rw [mem_dedupL, List.mem_append, genMatricesIndex_eq, dslots_eq, computeIndexMap,
    ← loop_rots d logN (mergeSched d) true d.logSlots (mergeSched_sum d) (mergeSched_pos d hv) le_rfl x, or_comm]
  refine or_congr_right ?_
  by_cases hc : (d.sparseRepack logN && d.encode) = true
  · rw [if_pos hc, List.mem_singleton]
    rw [Bool.and_eq_true] at hc
    exact ⟨fun h => ⟨h, hc⟩, fun h => h.1⟩
  · rw [if_neg hc]
    rw [Bool.and_eq_true] at hc
    exact ⟨fun h => (nomatch h), fun h => absurd h.2 hc⟩

/-! ### the helper's rotations with a bit mask for the elements already seen

`dedupL` compares every element with all later ones; the helper calls it twice per step of
`FindBestBSGSRatio`. For evaluating the rotations of a concrete literal the same functions are given
here with the elements seen so far kept in a bit mask. -/

/-- `dedupL` (second component), going through the list from the right with the mask of what was seen -/
def dedupMask : List Nat → Nat × List Nat
  | [] => (0, [])
  | a :: l =>
    if (dedupMask l).1.testBit a then dedupMask l else ((dedupMask l).1 ||| 2 ^ a, a :: (dedupMask l).2)

theorem dedupMask_spec : ∀ l : List Nat,
    (∀ i, (dedupMask l).1.testBit i = l.contains i) ∧ (dedupMask l).2 = dedupL l
  | [] => ⟨fun i => by simp [dedupMask], rfl⟩
  | a :: l => by
    obtain ⟨h1, h2⟩ := dedupMask_spec l
    unfold dedupMask dedupL
    rw [h1 a]
    by_cases hc : l.contains a = true
    · rw [if_pos hc, if_pos hc]
      refine ⟨fun i => ?_, h2⟩
      rw [h1 i, List.contains_cons]
      by_cases hi : i = a
      · rw [hi, hc, Bool.or_true]
      · rw [beq_false_of_ne hi, Bool.false_or]
    · rw [if_neg hc, if_neg hc]
      refine ⟨fun i => ?_, by rw [h2]⟩
      rw [Nat.testBit_or, Nat.testBit_two_pow, h1 i, List.contains_cons, Bool.or_comm]
      congr 1
      exact decide_eq_decide.2 eq_comm

theorem dedupL_eq_mask (l : List Nat) : dedupL l = (dedupMask l).2 := (dedupMask_spec l).2.symm

def findBestLoopMask (diags : List Nat) (maxN maxRatio : Nat) : Nat → Nat → Nat
  | 0, _ => 1
  | fuel + 1, n1 =>
    if n1 < maxN then
      let nbN1 := (dedupMask (diags.map (bsgsGiant maxN n1))).2.length - 1
      let nbN2 := (dedupMask (diags.map (bsgsBaby maxN n1))).2.length - 1
      if nbN1 ≠ 0 ∧ nbN2 = maxRatio * nbN1 then n1
      else if (nbN1 = 0 ∧ 0 < nbN2) ∨ (nbN1 ≠ 0 ∧ maxRatio * nbN1 < nbN2) then n1 / 2
      else findBestLoopMask diags maxN maxRatio fuel (2 * n1)
    else 1

theorem findBestLoop_eq_mask (diags : List Nat) (maxN maxRatio : Nat) : ∀ fuel n1,
    findBestLoop diags maxN maxRatio fuel n1 = findBestLoopMask diags maxN maxRatio fuel n1
  | 0, _ => rfl
  | fuel + 1, n1 => by
    simp only [findBestLoop, findBestLoopMask, bsgsGiants, bsgsBabies, dedupL_eq_mask,
      findBestLoop_eq_mask diags maxN maxRatio fuel]

def helperGoMask (d : MatLit) (logN : Nat) : List (List Nat) → Bool → List Nat
  | [], _ => []
  | pVec :: rest, first =>
    addMatrixRot pVec (findBestLoopMask pVec (d.dslots logN) (2 ^ d.logBSGS) (d.dslots logN) 1) (2 ^ d.logSlots)
      (!d.encode && decide (d.logSlots < logN - 1) && first && d.repack) ++ helperGoMask d logN rest false

theorem helperGo_eq_mask (d : MatLit) (logN : Nat) : ∀ fs first,
    helperGo d logN fs first = helperGoMask d logN fs first
  | [], _ => rfl
  | pVec :: rest, first => by
    rw [helperGo, helperGoMask, findBestBSGSRatio, findBestLoop_eq_mask, helperGo_eq_mask d logN rest]

end Lattigo.Proofs.Bootstrap
