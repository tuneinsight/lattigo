/-
  C18 — `Evaluator.ScaleDown` on exact integers: the rescaling loop always reaches level 0,
  the integer multiplier is the rounded message-ratio quotient.
-/
import Lattigo.Model.Bootstrap
import Lattigo.Proofs.ListLemmas
import Mathlib.Tactic.Linarith
import Mathlib.Tactic.Ring
import Mathlib.Data.List.Basic

namespace Lattigo.Proofs.Bootstrap
open Lattigo.Model.Bootstrap

/-- `q_1 · … · q_l` (primes above `Q[0]`; absent entries count as 1, like the model's `getD`) -/
def prodTo (qs : List Nat) : Nat → Nat
  | 0 => 1
  | l + 1 => prodTo qs l * qs.getD (l + 1) 1

theorem prodTo_zero (qs : List Nat) : prodTo qs 0 = 1 := rfl

theorem prodTo_succ (qs : List Nat) (l : Nat) : prodTo qs (l + 1) = prodTo qs l * qs.getD (l + 1) 1 := rfl

theorem prodTo_pos (qs : List Nat) (hq : ∀ i, 1 ≤ qs.getD i 1) : ∀ l, 1 ≤ prodTo qs l
  | 0 => le_rfl
  | l + 1 => by
    have := prodTo_pos qs hq l
    have := hq (l + 1)
    rw [prodTo_succ]
    exact Nat.mul_le_mul ‹1 ≤ prodTo qs l› ‹1 ≤ qs.getD (l + 1) 1›

theorem foldl_mul_init (l : List Nat) (a : Nat) : l.foldl (· * ·) a = a * l.foldl (· * ·) 1 := by
  conv_lhs => rw [← Nat.mul_one a]
  exact List.foldl_assoc

theorem modulusAt_succ (qs : List Nat) (l : Nat) :
    modulusAt qs (l + 1) = modulusAt qs l * qs.getD (l + 1) 1 := by
  unfold modulusAt
  rw [List.take_add_one, List.foldl_append]
  cases h : qs[l + 1]? with
  | none => simp [List.getD, h]
  | some x => simp [List.getD, h]

theorem modulusAt_eq (qs : List Nat) : ∀ l, modulusAt qs l = qs.getD 0 1 * prodTo qs l
  | 0 => by
    unfold modulusAt prodTo
    cases qs with
    | nil => simp
    | cons x xs => simp
  | l + 1 => by
    rw [modulusAt_succ, modulusAt_eq qs l, prodTo_succ, Nat.mul_assoc]

/-- the loop of `RescaleTo` goes all the way down when the whole product still leaves half the target -/
theorem rescaleLoop_zero (qs : List Nat) (sn tnum tden : Nat) (hq : ∀ i, 1 ≤ qs.getD i 1) :
    ∀ (lv den : Nat), den * prodTo qs lv * tnum ≤ 2 * sn * tden →
      rescaleLoop qs sn tnum tden lv den = (0, den * prodTo qs lv)
  | 0, den, _ => by simp [rescaleLoop, prodTo_zero]
  | lv + 1, den, h => by
    unfold rescaleLoop
    simp only
    have hp := prodTo_pos qs hq lv
    have hstep : den * qs.getD (lv + 1) 1 * tnum ≤ 2 * sn * tden := by
      refine le_trans ?_ h
      rw [prodTo_succ]
      apply Nat.mul_le_mul_right
      calc den * qs.getD (lv + 1) 1 = den * (1 * qs.getD (lv + 1) 1) := by rw [Nat.one_mul]
        _ ≤ den * (prodTo qs lv * qs.getD (lv + 1) 1) :=
          Nat.mul_le_mul_left _ (Nat.mul_le_mul_right _ hp)
    rw [if_pos hstep]
    have h' : den * qs.getD (lv + 1) 1 * prodTo qs lv * tnum ≤ 2 * sn * tden := by
      refine le_of_eq_of_le ?_ h
      rw [prodTo_succ]; ring
    rw [rescaleLoop_zero qs sn tnum tden hq lv _ h', prodTo_succ]
    congr 1; ring

theorem f64round_pos (q : Nat) (h : 0 < q) : 0 < f64round q := by
  unfold f64round
  simp only
  split
  · exact h
  · rename_i hl
    have h2 : 2 ^ Nat.log2 q ≤ q := Nat.log2_self_le (by omega)
    have hsh : 2 ^ (Nat.log2 q - 52) ≤ 2 ^ Nat.log2 q := Nat.pow_le_pow_right (by omega) (by omega)
    have hpos : 0 < 2 ^ (Nat.log2 q - 52) := Nat.pos_of_ne_zero (by positivity)
    have ht : 1 ≤ q / 2 ^ (Nat.log2 q - 52) := by
      rw [Nat.le_div_iff_mul_le hpos]; omega
    apply Nat.mul_pos _ hpos
    omega

/-- rounding `x/a` half up: `|2(a·n − x)| ≤ a` and, when `2x ≥ a`, `x ≤ 2·a·n` -/
theorem roundHalfUp_spec (x a : Nat) (ha : 0 < a) :
    2 * (a * roundHalfUp x a) ≤ 2 * x + a ∧ 2 * x < 2 * (a * roundHalfUp x a) + a ∧
    (a ≤ 2 * x → 1 ≤ roundHalfUp x a ∧ x ≤ 2 * (a * roundHalfUp x a)) := by
  unfold roundHalfUp
  set n := (2 * x + a) / (2 * a) with hn
  have h1 : 2 * a * n ≤ 2 * x + a := Nat.mul_div_le _ _
  have h2 : 2 * x + a < 2 * a * (n + 1) := Nat.lt_mul_div_succ _ (by omega)
  have e1 : 2 * a * n = 2 * (a * n) := by ring
  have e2 : 2 * a * (n + 1) = 2 * (a * n) + 2 * a := by ring
  rw [e1] at h1; rw [e2] at h2
  refine ⟨h1, by omega, ?_⟩
  intro hx
  have hn1 : 1 ≤ n := by
    rw [hn, Nat.le_div_iff_mul_le (by omega)]; omega
  have : a * 1 ≤ a * n := Nat.mul_le_mul_left _ hn1
  constructor
  · exact hn1
  · omega

theorem roundHalfUp_cancel (q x a : Nat) (hq : 0 < q) : roundHalfUp (q * x) (a * q) = roundHalfUp x a := by
  unfold roundHalfUp
  rw [show 2 * (q * x) + a * q = q * (2 * x + a) by ring, show 2 * (a * q) = q * (2 * a) by ring,
    Nat.mul_div_mul_left _ _ hq]

theorem dropLevels_le (qs : List Nat) (S r : Nat) : ∀ l, dropLevels qs S r l ≤ l
  | 0 => le_rfl
  | l + 1 => by
    unfold dropLevels
    split
    · exact le_trans (dropLevels_le qs S r l) (Nat.le_succ l)
    · exact le_rfl

/-- where the dropping loop stops the message ratio does not fit one prime lower -/
theorem dropLevels_spec (qs : List Nat) (S r : Nat) : ∀ l,
    dropLevels qs S r l ≠ 0 → modulusAt qs (dropLevels qs S r l - 1) < S * 2 ^ r
  | 0 => by simp [dropLevels]
  | l + 1 => by
    unfold dropLevels
    split
    · exact dropLevels_spec qs S r l
    · rename_i h
      intro _
      simpa using Nat.lt_of_not_le h

theorem scaleUpFrac_eq (qs : List Nat) (S r l : Nat) :
    scaleUpFrac qs S r l =
      (if l = 0 then qs.getD 0 1 else qs.getD 0 1 * (prodTo qs l * 2 ^ roundLog2 (qs.getD 0 1)),
       if l = 0 then S * 2 ^ r else S * 2 ^ r * f64round (qs.getD 0 1)) := by
  unfold scaleUpFrac
  by_cases h : l = 0
  · subst h
    simp only [if_true, modulusAt_eq, prodTo_zero, Nat.mul_one]
  · simp only [h, if_false, List.headD_eq_getD, modulusAt_eq, Nat.mul_assoc]

theorem scaleUpFrac_pos (qs : List Nat) (S r l : Nat) (hq : 0 < qs.getD 0 1) (hS : 0 < S) :
    0 < (scaleUpFrac qs S r l).2 := by
  have hA : 0 < S * 2 ^ r := Nat.mul_pos hS (Nat.two_pow_pos r)
  rw [scaleUpFrac_eq]
  dsimp only
  split
  · exact hA
  · exact Nat.mul_pos hA (f64round_pos _ hq)

/-- `ScaleDown` in closed form: unless it returns its error the loop of `RescaleTo` runs down to level 0; the reading
    in lattigo's terms is at `C18.scaleDown_reaches_level_zero` -/
theorem scaleDown_eq (qs : List Nat) (S r l : Nat) (hq : ∀ i, 1 ≤ qs.getD i 1) (hS : 0 < S) :
    scaleDown qs S r l =
      if 2 * (scaleUpFrac qs S r (dropLevels qs S r l)).1 < (scaleUpFrac qs S r (dropLevels qs S r l)).2 then none
      else some (0, roundHalfUp (scaleUpFrac qs S r (dropLevels qs S r l)).1 (scaleUpFrac qs S r (dropLevels qs S r l)).2,
        prodTo qs (dropLevels qs S r l)) := by
  unfold scaleDown
  simp only
  generalize dropLevels qs S r l = l'
  split
  · rfl
  · rename_i hok
    split
    · rename_i h0
      rw [h0, prodTo_zero]
    · rename_i h0
      obtain ⟨_, n2⟩ := (roundHalfUp_spec (scaleUpFrac qs S r l').1 _ (scaleUpFrac_pos qs S r l' (hq 0) hS)).2.2
        (by omega)
      generalize roundHalfUp (scaleUpFrac qs S r l').1 (scaleUpFrac qs S r l').2 = n at n2 ⊢
      rw [scaleUpFrac_eq] at n2
      simp only [h0, if_false] at n2
      -- `n2` says that dividing `S·n` by ALL of `q_1⋯q_l'` still leaves half the target scale: the
      -- hypothesis under which the loop of `RescaleTo` runs down to level 0
      rw [List.headD_eq_getD, rescaleLoop_zero qs (S * n) (qs.getD 0 1 * 2 ^ roundLog2 (qs.getD 0 1))
        (2 ^ r * f64round (qs.getD 0 1)) hq l' 1 (le_of_eq_of_le (by ring) (n2.trans_eq (by ring))), Nat.one_mul]

end Lattigo.Proofs.Bootstrap
