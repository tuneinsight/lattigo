import Lattigo.Gen.Butterfly
import Lattigo.Proofs.ModRed
/-!
  Butterflies of `ring/ntt.go` (regenerated as `Gen.butterfly`, `Gen.invbutterfly`).

  Bounds on `q` that the statements below need:
  * reducing `butterfly` (inputs `U < 8q`):            `6q ≤ 2^64` (no wrap of `U' + V'`, `U' + 2q`),
    plus `U < 2^64`; the caller's range `U < 8q` is only representable for all `U` when `8q ≤ 2^64`.
  * non-reducing step `U < B ↦ < B + 2q`:               `B + 2q ≤ 2^64`; with `B = 6q` this is the
    `8q ≤ 2^64` (`q < 2^61`) requirement of the lazy NTT.
  * `invbutterfly` (inputs `U, V < 2q`):                `6q ≤ 2^64` (no wrap of `U + 4q`).
  * in every case the multiplicand `V < 2^64`, `Psi < q` (so `V·Psi < q·2^64`) and `2q ≤ 2^64`
    for `MRedLazy`.

  Each generated butterfly is unfolded once, in an equation with its wrap-free form on naturals
  (`butterfly_eq`, `invbutterfly_eq`).  The specifications by ranges and congruences modulo `q` cited by
  Props/C01Words (`butterfly_spec`, `invbutterfly_spec`) and the form the NTT's network induction needs
  (Proofs/NTTRange: `bfly_eq_bflyN_abs`, `ibfly_eq_ibflyN`, equality with the ideal steps `bflyN`/`ibflyN`)
  are both read off these equations.
-/
namespace Lattigo
open Lattigo.Gen

/-- The non-reducing Cooley–Tukey step `X = U + V'`, `Y = U + 2q - V'` that the unrolled NTT loops have inline
(`V' = MRedLazy V Psi`, so `0 < V' < 2q`). -/
theorem bfly_noreduce_range (U V' q B : Nat) (hU : U < B) (hV : V' < 2 * q) (hB : B + 2 * q ≤ W) :
    u64add U V' = U + V'
    ∧ u64sub (u64add U (2 * q)) V' = U + 2 * q - V'
    ∧ U + V' + 2 ≤ B + 2 * q
    ∧ U + 2 * q - V' < B + 2 * q
    ∧ (0 < V' → U + 2 * q - V' + 2 ≤ B + 2 * q) := by
  rw [u64add_eq U V' (by omega), u64add_eq U (2 * q) (by omega),
    u64sub_eq _ V' (by omega) (by omega)]
  exact ⟨rfl, rfl, by omega⟩

theorem bfly_noreduce_6q (U V' q : Nat) (hU : U < 6 * q) (hV : V' < 2 * q) (h8 : 8 * q ≤ W) :
    u64add U V' = U + V' ∧ u64sub (u64add U (2 * q)) V' = U + 2 * q - V'
    ∧ U + V' < 8 * q ∧ U + 2 * q - V' < 8 * q := by
  obtain ⟨a, b, c, d, _⟩ := bfly_noreduce_range U V' q (6 * q) hU hV (by omega)
  exact ⟨a, b, by omega⟩

theorem bfly_noreduce_q (U V' q : Nat) (hU : U < q) (hV : V' < 2 * q) (h3 : 3 * q ≤ W) :
    u64add U V' = U + V' ∧ u64sub (u64add U (2 * q)) V' = U + 2 * q - V'
    ∧ U + V' < 3 * q ∧ U + 2 * q - V' < 3 * q := by
  obtain ⟨a, b, c, d, _⟩ := bfly_noreduce_range U V' q q hU hV (by omega)
  exact ⟨a, b, by omega⟩

theorem bfly_noreduce_3q (U V' q : Nat) (hU : U < 3 * q) (hV : V' < 2 * q) (h5 : 5 * q ≤ W) :
    u64add U V' = U + V' ∧ u64sub (u64add U (2 * q)) V' = U + 2 * q - V'
    ∧ U + V' < 5 * q ∧ U + 2 * q - V' < 5 * q := by
  obtain ⟨a, b, c, d, _⟩ := bfly_noreduce_range U V' q (3 * q) hU hV (by omega)
  exact ⟨a, b, by omega⟩

theorem bfly_noreduce_congr {w : Nat} (U V V' Psi q m : Nat) (hV' : V' ≤ U + 2 * q)
    (hmont : V' * w + m * q = V * Psi + q * w) :
    ((U + V') * w) % q = (U * w + V * Psi) % q
    ∧ ((U + 2 * q - V') * w + V * Psi) % q = (U * w) % q := by
  have hw := Nat.mul_le_mul_right w hV'
  rw [Nat.add_mul, Nat.mul_assoc] at hw
  constructor
  · apply mod_eq_of_add_mul_eq (k1 := m) (k2 := w)
    rw [Nat.add_mul, Nat.mul_comm w q]
    omega
  · apply mod_eq_of_add_mul_eq (k1 := 0) (k2 := m + w)
    rw [Nat.sub_mul, Nat.add_mul, Nat.add_mul, Nat.mul_assoc, Nat.mul_comm w q]
    omega

theorem butterfly_eq (U V Psi q qinv : Nat) (hUW : U < W)
    (hU : (if 4 * q ≤ U then U - 4 * q else U) + 2 * q < W) (hV : MRedLazy V Psi q qinv ≤ 2 * q) :
    butterfly U V Psi (2 * q) (4 * q) q qinv
      = ((if 4 * q ≤ U then U - 4 * q else U) + MRedLazy V Psi q qinv,
         (if 4 * q ≤ U then U - 4 * q else U) + 2 * q - MRedLazy V Psi q qinv) := by
  have e : (if u64ge U (4 * q) then u64sub U (4 * q) else U) = if 4 * q ≤ U then U - 4 * q else U := by
    by_cases h : 4 * q ≤ U
    · rw [if_pos (decide_eq_true h), if_pos h, u64sub_eq U _ h hUW]
    · rw [if_neg (by simpa using h), if_neg h]
  unfold butterfly
  simp only []
  rw [e]
  generalize (if 4 * q ≤ U then U - 4 * q else U) = U' at *
  rw [u64add_eq U' _ (by omega), u64add_eq U' (2 * q) hU, u64sub_eq _ _ (by omega) hU]

/-- `6q ≤ 2^64` so that `U + 4q` is a word -/
theorem invbutterfly_eq (U V Psi q qinv : Nat) (h6 : 6 * q ≤ W) (hU : U < 2 * q) (hV : V < 2 * q) :
    invbutterfly U V Psi (2 * q) (4 * q) q qinv
      = (if 2 * q ≤ U + V then U + V - 2 * q else U + V, MRedLazy (U + 4 * q - V) Psi q qinv) := by
  unfold invbutterfly
  simp only []
  rw [u64add_eq U (4 * q) (by omega), u64sub_eq _ V (by omega) (by omega), u64add_eq U V (by omega)]
  by_cases h : 2 * q ≤ U + V
  · rw [if_pos (decide_eq_true h), if_pos h, u64sub_eq _ _ h (by omega)]
  · rw [if_neg (by simpa using h), if_neg h]

/-- `butterfly` of `ring/ntt.go` (reducing) with `twoQ = 2q`, `fourQ = 4q`.  It needs `6q ≤ 2^64` only (implied by the
NTT's `8q ≤ 2^64`). -/
theorem butterfly_spec (U V Psi q qinv : Nat) (h6 : 6 * q ≤ W) (hm : MontConst q qinv)
    (hPsi : Psi < q) (hV : V < W) (hUW : U < W) (hU : U < 8 * q) :
    (butterfly U V Psi (2 * q) (4 * q) q qinv).1 + 2 ≤ 6 * q
    ∧ (butterfly U V Psi (2 * q) (4 * q) q qinv).2 + 2 ≤ 6 * q
    ∧ ((butterfly U V Psi (2 * q) (4 * q) q qinv).1 * W) % q = (U * W + V * Psi) % q
    ∧ ((butterfly U V Psi (2 * q) (4 * q) q qinv).2 * W + V * Psi) % q = (U * W) % q := by
  obtain ⟨hmont, hlt, hpos⟩ := MRedLazy_eq V Psi q qinv (by omega) hm (mul_lt_qW hV hPsi)
  have hq := hm.pos
  -- `U'` is `U` or `U - 4q`: below `4q`, and the same residue
  have hU' : (if 4 * q ≤ U then U - 4 * q else U) < 4 * q := by split <;> omega
  have hUq : ((if 4 * q ≤ U then U - 4 * q else U) * W) % q = (U * W) % q := by
    split
    · next h =>
      apply mod_eq_of_add_mul_eq (k1 := 4 * W) (k2 := 0)
      rw [Nat.sub_mul, Nat.mul_right_comm 4 W q, Nat.sub_add_cancel (Nat.mul_le_mul_right W h),
        Nat.zero_mul, Nat.add_zero]
    · rfl
  rw [butterfly_eq U V Psi q qinv hUW (by omega) (Nat.le_of_lt hlt)]
  generalize (if 4 * q ≤ U then U - 4 * q else U) = U' at *
  obtain ⟨c1, c2⟩ := bfly_noreduce_congr U' V _ Psi q _ (by omega) hmont
  exact ⟨by omega, by omega, by rw [c1, Nat.add_mod, hUq, ← Nat.add_mod], by rw [c2, hUq]⟩

/-- `invbutterfly` of `ring/ntt.go` (Gentleman–Sande) with `twoQ = 2q`, `fourQ = 4q`.  `6q ≤ 2^64` (no wrap of
`U + 4q`) is the "not possible to use MRedLazy if Q > 61 bits" of the Go comment. -/
theorem invbutterfly_spec (U V Psi q qinv : Nat) (h6 : 6 * q ≤ W) (hm : MontConst q qinv)
    (hPsi : Psi < q) (hU : U < 2 * q) (hV : V < 2 * q) :
    (invbutterfly U V Psi (2 * q) (4 * q) q qinv).1 < 2 * q
    ∧ (invbutterfly U V Psi (2 * q) (4 * q) q qinv).1 % q = (U + V) % q
    ∧ (invbutterfly U V Psi (2 * q) (4 * q) q qinv).2 < 2 * q
    ∧ 0 < (invbutterfly U V Psi (2 * q) (4 * q) q qinv).2
    ∧ ((invbutterfly U V Psi (2 * q) (4 * q) q qinv).2 * W) % q = ((U + 4 * q - V) * Psi) % q := by
  have hq := hm.pos
  obtain ⟨hc, hlt, hpos⟩ := MRedLazy_spec (U + 4 * q - V) Psi q qinv (by omega) hm
    (mul_lt_qW (by omega) hPsi)
  rw [invbutterfly_eq U V Psi q qinv h6 hU hV]
  refine ⟨?_, ?_, hlt, hpos, hc⟩
  · show (if 2 * q ≤ U + V then U + V - 2 * q else U + V) < 2 * q
    split <;> omega
  · show (if 2 * q ≤ U + V then U + V - 2 * q else U + V) % q = (U + V) % q
    split
    · next h => exact mod_eq_of_add_mul_eq (k1 := 2) (k2 := 0) (by omega)
    · rfl
