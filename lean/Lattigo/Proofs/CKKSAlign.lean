/-
  Two facts about `evaluateInPlace` on operands of different scales, in terms of values: the multiplier
  `(sdiv b a).toNat` is the floor of the (128-bit rounded) ratio, and `Scale.Cmp` compares the values.  They are what
  the hypotheses of `Props.C06.add_alignment_error` stand for; no theorem composes them with it.
-/
import Lattigo.Proofs.CKKSDyadic
import Lattigo.Proofs.CKKSMeta
import Mathlib.Tactic.FieldSimp

namespace Lattigo.CKKS

theorem align_multiplier_floor (a b : Dy) :
    ((sdiv b a).toNat : ℚ) ≤ (sdiv b a).val ∧ (sdiv b a).val < (sdiv b a).toNat + 1 :=
  Dy.toNat_floor _

theorem Dy.val_shift (d : Dy) {e0 : ℤ} (h : e0 ≤ d.e) :
    d.val = ((d.m * pow2 (d.e - e0) : ℕ) : ℚ) * (2 : ℚ) ^ e0 := by
  unfold Dy.val
  rw [Nat.cast_mul, pow2_cast _ (by omega), mul_assoc, ← zpow_add₀ two_ne_zero, sub_add_cancel]

theorem Dy.cmp_lt_iff (a b : Dy) : a.cmp b = .lt ↔ a.val < b.val := by
  unfold Dy.cmp
  simp only
  rw [a.val_shift (min_le_left a.e b.e), b.val_shift (min_le_right a.e b.e),
    mul_lt_mul_iff_of_pos_right (zpow_pos two_pos _), Nat.cast_lt, compare_lt_iff_lt]

end Lattigo.CKKS
