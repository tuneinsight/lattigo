/-
  Toy parameters (`toyP`, `toyP2`: small moduli, so that the numbers are readable), the abbreviations `dy`, `sd`, and
  decidable equality of results (`DecidableEq (Except ε α)`) for the concrete evaluations (by the kernel, on the
  executable model) of `Props/C06.lean`; five of those evaluations, the calls on which the bookkeeping of
  `ckks.Evaluator` is exact, stand here.  The calls on which it is not (known findings) are the `*_counterexample`
  theorems of `Props/C06.lean`; the harness exhibits the same behaviour on the real code (probes `program_precision`).
-/
import Lattigo.Model.CKKS

namespace Lattigo.CKKS

deriving instance DecidableEq for Except

/-- toy parameters: `q = (1009, 1013, 1019)`, one prime per rescale, 53-bit constants. -/
def toyP : Params := ⟨[1009, 1013, 1019], 1, 53, false, 64, 4, [5, 25], true⟩
/-- two primes per rescale -/
def toyP2 : Params := { toyP with lcpr := 2 }

def dy (m : Nat) (e : Int) : Dy := Dy.norm m e
def sd (z : Int) (e : Int) : SD := ⟨decide (z < 0), Dy.norm z.natAbs e⟩

/-- integer ratio: exact alignment (`16·3 = 48`). -/
theorem add_int_ratio_witness :
    addElt toyP false ⟨2, 1, dy 48 0, 4⟩ ⟨2, 1, dy 16 0, 4⟩ ⟨2, 1, dy 16 0, 4⟩
      = .ok ⟨⟨2, 1, dy 48 0, 4⟩, [1, 3, 0, 1, 3, 0]⟩ := by decide +kernel

/-- ratio in `(2/q, 2)`: one prime consumed, content multiplied by `round(1.25·1019)/1019 ≈ 1.25`. -/
theorem setScale_ok_witness :
    setScale toyP ⟨2, 1, dy 16 0, 4⟩ (dy 20 0) = .ok ⟨⟨1, 1, dy 20 0, 4⟩, [1, 1]⟩ := by decide +kernel

/-- integer ratio (`64/16 = 4`): exact. -/
theorem mulThenAdd_int_ratio_witness :
    mulThenAddElt toyP true .fresh ⟨2, 1, dy 16 0, 4⟩ ⟨2, 1, dy 4 0, 4⟩ ⟨2, 1, dy 16 0, 4⟩
      = .ok ⟨⟨2, 1, dy 64 0, 4⟩, [4, 4]⟩ := by decide +kernel

/-- a Gaussian-integer constant is not scaled; a non-integer one is scaled by the current prime. -/
theorem mulScalar_witness :
    mulScalar toyP ⟨2, 1, dy 16 0, 4⟩ ⟨2, 1, dy 16 0, 4⟩ (sd 3 0) (sd (-2) 0) = .ok ⟨⟨2, 1, dy 16 0, 4⟩, [3, -2, 3, -2]⟩
    ∧ mulScalar toyP ⟨2, 1, dy 16 0, 4⟩ ⟨2, 1, dy 16 0, 4⟩ (sd 1 (-1)) (sd (-1) (-2))
        = .ok ⟨⟨2, 1, dy (16 * 1019) 0, 4⟩, [510, -255, 510, -255]⟩ := by decide +kernel

/-- rescale: one prime (`16·1019 / 1019 = 16` exactly) resp. two primes. -/
theorem rescale_witness :
    rescale toyP ⟨2, 1, dy (16 * 1019) 0, 4⟩ = .ok ⟨⟨1, 1, dy 16 0, 4⟩, []⟩
    ∧ rescale toyP2 ⟨2, 1, dy (16 * 1019 * 1013) 0, 4⟩ = .ok ⟨⟨0, 1, dy 16 0, 4⟩, []⟩
    ∧ rescale toyP2 ⟨1, 1, dy 16 0, 4⟩ = .error .err := by decide +kernel

end Lattigo.CKKS
