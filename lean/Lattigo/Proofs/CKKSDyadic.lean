/-
  Value semantics of the dyadic scale arithmetic of `Lattigo.CKKS`:
  `Dy.val`, canonical form preserves the value, truncation is the floor, and `roundRat`
  (= `big.Float` `Mul`/`Quo` at `prec` bits, round-to-nearest-even) is a *correct rounding*:
  relative error at most `2^-prec`.
-/
import Lattigo.Model.CKKS
import Lattigo.Proofs.BitLen
import Mathlib.Data.Nat.Log
import Mathlib.Algebra.Order.Field.Power
import Mathlib.Tactic.Ring
import Mathlib.Tactic.Linarith
import Mathlib.Tactic.Positivity

namespace Lattigo.CKKS

/-- the rational value of a dyadic -/
def Dy.val (d : Dy) : ℚ := (d.m : ℚ) * (2 : ℚ) ^ d.e

theorem Dy.val_nonneg (d : Dy) : 0 ≤ d.val := by unfold Dy.val; positivity

theorem Dy.val_pos_iff (d : Dy) : 0 < d.val ↔ 0 < d.m := by
  unfold Dy.val
  rw [mul_pos_iff_of_pos_right (zpow_pos two_pos _), Nat.cast_pos]

theorem stripZeros_val : ∀ (f m : ℕ) (e : ℤ),
    ((stripZeros f m e).1 : ℚ) * (2 : ℚ) ^ (stripZeros f m e).2 = (m : ℚ) * (2 : ℚ) ^ e
  | 0, m, e => rfl
  | f + 1, m, e => by
    unfold stripZeros
    split
    · rename_i h
      rw [stripZeros_val f (m / 2) (e + 1), zpow_add_one₀ (by norm_num : (2 : ℚ) ≠ 0)]
      have h2 : (m : ℚ) = 2 * ((m / 2 : ℕ) : ℚ) := by
        have : m = 2 * (m / 2) := by omega
        exact_mod_cast this
      conv_rhs => rw [h2]
      ring
    · rfl

theorem Dy.norm_val (m : ℕ) (e : ℤ) : (Dy.norm m e).val = (m : ℚ) * (2 : ℚ) ^ e := by
  unfold Dy.norm Dy.val
  split
  · rename_i h; simp [h]
  · exact stripZeros_val _ m e

theorem pow2_cast (k : ℤ) (hk : 0 ≤ k) : ((pow2 k : ℕ) : ℚ) = (2 : ℚ) ^ k := by
  unfold pow2
  push_cast
  rw [← zpow_natCast, Int.toNat_of_nonneg hk]

theorem pow2_nonpos (k : ℤ) (hk : k ≤ 0) : pow2 k = 1 := by
  unfold pow2
  have : k.toNat = 0 := by omega
  simp [this]

theorem pow2_pos (k : ℤ) : 0 < pow2 k := by unfold pow2; positivity

theorem pow2_div_pow2_neg (k : ℤ) : ((pow2 k : ℕ) : ℚ) / (pow2 (-k) : ℕ) = (2 : ℚ) ^ k := by
  rcases le_total 0 k with hk | hk
  · rw [pow2_nonpos (-k) (by omega), pow2_cast k hk, Nat.cast_one, div_one]
  · rw [pow2_nonpos k hk, pow2_cast (-k) (by omega), zpow_neg, Nat.cast_one, one_div, inv_inv]

/-- `bitLen` is `len64` (`Proofs/BitLen.lean`); here its bounds among the rationals. -/
theorem bitLen_bounds_rat (n : ℕ) (hn : n ≠ 0) :
    (2 : ℚ) ^ ((bitLen n : ℤ) - 1) ≤ n ∧ (n : ℚ) < (2 : ℚ) ^ (bitLen n : ℤ) := by
  have h1 : 2 ^ (bitLen n - 1) ≤ n := two_pow_len64_pred_le hn
  have h2 : n < 2 ^ bitLen n := lt_two_pow_len64 n
  have hp : 0 < bitLen n := (lt_len64_iff n 0).mpr (Nat.pos_of_ne_zero hn)
  rw [show (bitLen n : ℤ) - 1 = ((bitLen n - 1 : ℕ) : ℤ) by omega, zpow_natCast, zpow_natCast]
  exact ⟨by exact_mod_cast h1, by exact_mod_cast h2⟩

theorem natDiv_floor (n d : ℕ) (hd : 0 < d) :
    ((n / d : ℕ) : ℚ) ≤ (n : ℚ) / d ∧ (n : ℚ) / d < (n / d : ℕ) + 1 := by
  have hdq : (0 : ℚ) < d := by exact_mod_cast hd
  constructor
  · rw [le_div_iff₀ hdq]; exact_mod_cast Nat.div_mul_le_self n d
  · rw [div_lt_iff₀ hdq, mul_comm]; exact_mod_cast Nat.lt_mul_div_succ n hd

theorem natDiv_exact (n d : ℕ) (hd : 0 < d) (h : n % d = 0) : (n : ℚ) / d = (n / d : ℕ) := by
  have hdq : (d : ℚ) ≠ 0 := by exact_mod_cast hd.ne'
  rw [div_eq_iff hdq]
  exact_mod_cast (Nat.div_mul_cancel (Nat.dvd_of_mod_eq_zero h)).symm

theorem Dy.toNat_floor (a : Dy) : (a.toNat : ℚ) ≤ a.val ∧ a.val < a.toNat + 1 := by
  unfold Dy.toNat Dy.val
  split
  · rename_i h
    rw [Nat.cast_mul, pow2_cast _ h]
    exact ⟨le_rfl, lt_add_one _⟩
  · rename_i h
    rw [show (a.m : ℚ) * 2 ^ a.e = a.m / (pow2 (-a.e) : ℕ) by
      rw [pow2_cast _ (by omega), zpow_neg, div_inv_eq_mul]]
    exact natDiv_floor _ _ (pow2_pos _)

/-- The rounding decision of `roundRat` picks a multiple of `D = 2·half` within `half` of `x`, where
    `q = hi·D + lo` is the floor of `x`: going up is within `half` as soon as `half ≤ lo`, going down as soon as
    `lo < half`, or `lo = half` and `x = q`. -/
theorem round_core (q r hi lo half D : ℕ) (x : ℚ) (hq : (q : ℚ) ≤ x) (hq1 : x < q + 1)
    (hr : r = 0 → x = q) (hD : D = 2 * half) (hdecomp : q = hi * D + lo) (hlo : lo < D) :
    |(((if (decide (half < lo) || (lo == half && (r != 0 || hi % 2 == 1))) = true then hi + 1 else hi : ℕ) : ℚ))
        * (D : ℚ) - x| ≤ (half : ℚ) := by
  have hDq : (D : ℚ) = 2 * half := by exact_mod_cast hD
  have hqq : (q : ℚ) = hi * D + lo := by exact_mod_cast hdecomp
  have hloq : (lo : ℚ) + 1 ≤ D := by exact_mod_cast hlo
  rw [abs_le]
  split
  · rename_i up
    have : half ≤ lo := by
      simp only [Bool.or_eq_true, Bool.and_eq_true, decide_eq_true_eq, beq_iff_eq] at up
      omega
    have : (half : ℚ) ≤ lo := by exact_mod_cast this
    push_cast
    constructor <;> linarith
  · rename_i down
    have : lo < half ∨ lo = half ∧ r = 0 := by
      simp only [Bool.or_eq_true, Bool.and_eq_true, decide_eq_true_eq, beq_iff_eq, bne_iff_ne] at down
      omega
    rcases this with h | ⟨h, hr0⟩
    · have : (lo : ℚ) + 1 ≤ half := by exact_mod_cast h
      constructor <;> linarith
    · rw [hr hr0, hqq, h, sub_add_cancel_left]
      exact ⟨le_rfl, neg_le_self (Nat.cast_nonneg _)⟩

/-- Rounding `x ≥ 2^prec` with floor `q` to `prec` significant bits: the `drop + 1 = bitLen q - prec` low bits of
    `q` go, and the error `2^drop` is at most `x·2^-prec` because `2^(drop+prec) ≤ q`. -/
theorem round_rel (prec q r : ℕ) (x : ℚ) (hq : (q : ℚ) ≤ x) (hq1 : x < q + 1) (hr : r = 0 → x = q)
    (hx : (2 : ℚ) ^ prec ≤ x) :
    |(((if (decide (2 ^ (bitLen q - prec - 1) < q % 2 ^ (bitLen q - prec)) ||
          (q % 2 ^ (bitLen q - prec) == 2 ^ (bitLen q - prec - 1) &&
            (r != 0 || q / 2 ^ (bitLen q - prec) % 2 == 1))) = true
        then q / 2 ^ (bitLen q - prec) + 1 else q / 2 ^ (bitLen q - prec) : ℕ) : ℚ))
        * ((2 ^ (bitLen q - prec) : ℕ) : ℚ) - x| ≤ x * (2 : ℚ) ^ (-(prec : ℤ)) := by
  have hqlow : 2 ^ prec ≤ q := by
    have : ((2 ^ prec : ℕ) : ℚ) < ((q + 1 : ℕ) : ℚ) := by push_cast; linarith
    exact Nat.lt_succ_iff.mp (by exact_mod_cast this)
  have hbl : prec < bitLen q := (lt_len64_iff q prec).mpr hqlow
  obtain ⟨drop, hdrop⟩ : ∃ drop, bitLen q = prec + (drop + 1) := ⟨bitLen q - prec - 1, by omega⟩
  have hbq : 2 ^ (drop + prec) ≤ q := (lt_len64_iff q _).mp (show drop + prec < bitLen q by omega)
  rw [show bitLen q - prec = drop + 1 by omega, Nat.add_sub_cancel]
  refine (round_core q r _ _ (2 ^ drop) (2 ^ (drop + 1)) x hq hq1 hr (by rw [pow_succ, mul_comm])
    (by rw [Nat.mul_comm]; exact (Nat.div_add_mod q _).symm) (Nat.mod_lt _ (by positivity))).trans ?_
  rw [zpow_neg, zpow_natCast, le_mul_inv_iff₀ (by positivity)]
  calc ((2 ^ drop : ℕ) : ℚ) * 2 ^ prec = ((2 ^ (drop + prec) : ℕ) : ℚ) := by push_cast; rw [pow_add]
    _ ≤ q := by exact_mod_cast hbq
    _ ≤ x := hq

theorem roundRat_spec (prec num den : ℕ) (e : ℤ) (hn : 0 < num) (hd : 0 < den) :
    |(roundRat prec num den e).val - (num : ℚ) / den * (2 : ℚ) ^ e|
      ≤ (num : ℚ) / den * (2 : ℚ) ^ e * (2 : ℚ) ^ (-(prec : ℤ)) := by
  have h2 : (2 : ℚ) ≠ 0 := two_ne_zero
  unfold roundRat
  rw [if_neg hn.ne']
  simp only []
  set k : ℤ := (prec : ℤ) + 1 + (bitLen den : ℤ) - (bitLen num : ℤ) with hk
  have hd' : 0 < den * pow2 (-k) := Nat.mul_pos hd (pow2_pos _)
  -- `x = num/den·2^k`, the value with the binary point moved, has floor `q` and is at least `2^prec`
  have hx : ((num * pow2 k : ℕ) : ℚ) / ((den * pow2 (-k) : ℕ) : ℚ) = (num : ℚ) / den * (2 : ℚ) ^ k := by
    rw [← pow2_div_pow2_neg k]; push_cast; rw [mul_div_mul_comm]
  obtain ⟨hqx, hqx1⟩ := natDiv_floor (num * pow2 k) _ hd'
  have hrx := natDiv_exact (num * pow2 k) _ hd'
  rw [hx] at hqx hqx1 hrx
  have hxlow : (2 : ℚ) ^ prec ≤ (num : ℚ) / den * (2 : ℚ) ^ k := by
    have : (2 : ℚ) ^ prec = 2 ^ ((bitLen num : ℤ) - 1) / 2 ^ (bitLen den : ℤ) * 2 ^ k := by
      rw [← zpow_sub₀ h2, ← zpow_add₀ h2, ← zpow_natCast]; congr 1; omega
    rw [this]
    exact mul_le_mul_of_nonneg_right (div_le_div₀ (Nat.cast_nonneg _) (bitLen_bounds_rat num hn.ne').1
      (by exact_mod_cast hd) (bitLen_bounds_rat den hd.ne').2.le) (zpow_pos two_pos _).le
  have hround := round_rel prec _ _ _ hqx hqx1 hrx hxlow
  generalize num * pow2 k / (den * pow2 (-k)) = q at hround ⊢
  generalize num * pow2 k % (den * pow2 (-k)) = r at hround ⊢
  -- move the binary point back: both sides are multiples of `2^(e-k)`
  rw [Dy.norm_val, show (num : ℚ) / den * 2 ^ e = (num : ℚ) / den * 2 ^ k * 2 ^ (e - k) by
    rw [mul_assoc, ← zpow_add₀ h2]; congr 2; ring, zpow_add₀ h2, zpow_natCast, ← mul_assoc,
    mul_right_comm _ ((2 : ℚ) ^ (e - k)), ← sub_mul, abs_mul,
    abs_of_pos (zpow_pos two_pos (e - k) : (0 : ℚ) < 2 ^ (e - k)), mul_right_comm _ ((2 : ℚ) ^ (e - k))]
  push_cast at hround ⊢
  exact mul_le_mul_of_nonneg_right hround (zpow_pos two_pos _).le

theorem Dy.val_mul_val (a b : Dy) : a.val * b.val = ((a.m * b.m : ℕ) : ℚ) * (2 : ℚ) ^ (a.e + b.e) := by
  unfold Dy.val; rw [Nat.cast_mul, zpow_add₀ two_ne_zero, mul_mul_mul_comm]

theorem Dy.val_div_val (a b : Dy) : a.val / b.val = (a.m : ℚ) / b.m * (2 : ℚ) ^ (a.e - b.e) := by
  unfold Dy.val; rw [zpow_sub₀ two_ne_zero, mul_div_mul_comm]

theorem Dy.mul_spec (P : ℕ) (a b : Dy) (ha : 0 < a.m) (hb : 0 < b.m) :
    |(Dy.mul P a b).val - a.val * b.val| ≤ a.val * b.val * (2 : ℚ) ^ (-(P : ℤ)) := by
  have h := roundRat_spec P (a.m * b.m) 1 (a.e + b.e) (Nat.mul_pos ha hb) one_pos
  rwa [Nat.cast_one, div_one, ← Dy.val_mul_val] at h

theorem Dy.div_spec (P : ℕ) (a b : Dy) (ha : 0 < a.m) (hb : 0 < b.m) :
    |(Dy.div P a b).val - a.val / b.val| ≤ a.val / b.val * (2 : ℚ) ^ (-(P : ℤ)) := by
  rw [Dy.val_div_val]
  exact roundRat_spec P a.m b.m (a.e - b.e) ha hb

end Lattigo.CKKS
