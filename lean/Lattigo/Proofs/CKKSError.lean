/-
  Value-level error bounds of the CKKS evaluator operations, composed from the phase identities of
  `Proofs/CKKSPhase.lean` (valid over every commutative ring, in particular `WFPoly qs n`, `Props/C06Ring.lean`).

  Setting (exact arithmetic).  `α` is the ring the ciphertext components live in *before* reduction modulo `Q`
  (or any ring in which no wrap-around occurs), `σ : α →+* K` is ONE coordinate of the canonical embedding
  (evaluation at a root `ζ^(5^j)`; `K = ℂ`, or `ℝ` in the conjugate-invariant ring) — a ring homomorphism into a
  normed field.  The value a ciphertext `c` decodes to in that slot at scale `Δ` is

      decode σ s Δ c = σ (phase s c) / Δ .

  Each `decode_*` lemma is the exact identity the operation satisfies; `error_sum`, `error_scaled`, `error_prod` are
  the three ways errors combine.  From these the `error_bound_*` theorems of `Props/C06.lean` turn the hypotheses
  `‖decode a − va‖ ≤ ea` on the operands into a bound on the result: f(noise, scale) explicitly.
  The key-switch error, the rounding remainder of `Rescale` and the rounding of a constant appear as explicit
  terms (`‖σ eks‖ / ‖Δ‖`, `‖σ (r0 + r1·s)‖ / ‖Δ‖`, `‖σ c / S − cv‖`); `embedding_bound` bounds the embedding of a
  polynomial with coefficients `≤ B` by `N·B` (with `B = q/2` from `rescale_remainder`: at most `1/2` per
  coefficient after division by `q`).
-/
import Lattigo.Proofs.CKKSPhase
import Mathlib.Analysis.Normed.Field.Basic
import Mathlib.Algebra.BigOperators.Group.Finset.Basic

namespace Lattigo.CKKS
open Finset

section
variable {α : Type*} [CommRing α] {K : Type*} [NormedField K] (σ : α →+* K)

/-- slot value of `c` under the secret `s` at scale `Δ`. -/
def decode (s : α) (Δ : K) (c : Ct α) : K := σ (phase s c) / Δ

theorem scale_mul_decode (s k : α) (Δa Δ : K) (a : Ct α) (ha : Δa ≠ 0) :
    (σ k * Δa / Δ) * decode σ s Δa a = σ k * σ (phase s a) / Δ := by
  unfold decode
  rw [div_mul_div_comm, mul_right_comm, mul_div_mul_right _ _ ha]

theorem decode_lin (s k0 k1 : α) (Δa Δb Δ : K) (a b : Ct α) (ha : Δa ≠ 0) (hb : Δb ≠ 0) :
    decode σ s Δ (Ct.lin k0 k1 a b)
      = (σ k0 * Δa / Δ) * decode σ s Δa a + (σ k1 * Δb / Δ) * decode σ s Δb b := by
  rw [scale_mul_decode σ s k0 Δa Δ a ha, scale_mul_decode σ s k1 Δb Δ b hb]
  unfold decode
  rw [phase_lin, map_add, map_mul, map_mul, add_div]

theorem decode_add (s : α) (Δ : K) (a b : Ct α) :
    decode σ s Δ (Ct.lin 1 1 a b) = decode σ s Δ a + decode σ s Δ b := by
  unfold decode; rw [phase_add, map_add, add_div]

theorem decode_sub (s : α) (Δ : K) (a b : Ct α) :
    decode σ s Δ (Ct.lin 1 (-1) a b) = decode σ s Δ a - decode σ s Δ b := by
  unfold decode; rw [phase_sub, map_sub, sub_div]

theorem decode_mul (s : α) (Δa Δb : K) (a b : Ct α) (ha : a.c2 = 0) (hb : b.c2 = 0) :
    decode σ s (Δa * Δb) (Ct.tensor a b) = decode σ s Δa a * decode σ s Δb b := by
  unfold decode
  rw [phase_tensor s a b ha hb, map_mul, mul_div_mul_comm]

theorem decode_mulRelin (s k0 k1 : α) (Δa Δb : K) (a b : Ct α) (ha : a.c2 = 0) (hb : b.c2 = 0) :
    decode σ s (Δa * Δb) (Ct.relin k0 k1 (Ct.tensor a b))
      = decode σ s Δa a * decode σ s Δb b + σ (k0 + k1 * s - a.c1 * b.c1 * s ^ 2) / (Δa * Δb) := by
  unfold decode
  rw [phase_mulRelin s k0 k1 a b ha hb, map_add, map_mul, add_div, mul_div_mul_comm]

/-- `Mul` by a constant `c` (the RNS constant, `≈ cv·S`) with the scale multiplied by `S`. -/
theorem decode_smul (s c : α) (Δ S : K) (a : Ct α) :
    decode σ s (Δ * S) (Ct.smul c a) = (σ c / S) * decode σ s Δ a := by
  unfold decode
  rw [phase_smul, map_mul, mul_comm Δ S, mul_div_mul_comm]

theorem decode_addConst (s c : α) (Δ : K) (a : Ct α) :
    decode σ s Δ (Ct.addConst c a) = decode σ s Δ a + σ c / Δ := by
  unfold decode; rw [phase_addConst, map_add, add_div]

theorem decode_rescale (s q c0 c1 c0' c1' r0 r1 : α) (Δ : K)
    (h0 : q * c0' = c0 - r0) (h1 : q * c1' = c1 - r1) :
    decode σ s (Δ / σ q) ⟨c0', c1', 0⟩ = decode σ s Δ ⟨c0, c1, 0⟩ - σ (r0 + r1 * s) / Δ := by
  unfold decode
  have h := congrArg σ (phase_rescale s q c0 c1 c0' c1' r0 r1 h0 h1)
  rw [map_mul, map_sub] at h
  rw [div_div_eq_mul_div, mul_comm, h, sub_div]

/-- used with `Δ'` the recorded (128-bit rounded) scale -/
theorem decode_scale (s : α) (Δ Δ' : K) (c : Ct α) (h : Δ ≠ 0) :
    decode σ s Δ' c = (Δ / Δ') * decode σ s Δ c := by
  have := scale_mul_decode σ s 1 Δ Δ' c h
  rwa [map_one, one_mul, one_mul, eq_comm] at this

theorem decode_mulThenAdd (s kOut : α) (Δo Δa Δb : K) (o a b : Ct α) (ha : a.c2 = 0) (hb : b.c2 = 0)
    (ho : Δo ≠ 0) :
    decode σ s (Δa * Δb) (Ct.lin kOut 1 o (Ct.tensor a b))
      = (σ kOut * Δo / (Δa * Δb)) * decode σ s Δo o + decode σ s Δa a * decode σ s Δb b := by
  rw [scale_mul_decode σ s kOut Δo _ o ho]
  unfold decode
  rw [phase_mulThenAdd s kOut o a b ha hb, map_add, map_mul, map_mul, add_div, mul_div_mul_comm (σ (phase s a))]

variable {σ}

theorem error_sum {x y vx vy : K} {ex ey : ℝ} (hx : ‖x - vx‖ ≤ ex) (hy : ‖y - vy‖ ≤ ey) :
    ‖x + y - (vx + vy)‖ ≤ ex + ey := by
  rw [add_sub_add_comm]
  exact (norm_add_le _ _).trans (add_le_add hx hy)

/-- a factor `λ ≈ 1` applied to an approximate value. -/
theorem error_scaled {x v lam : K} {e : ℝ} (h : ‖x - v‖ ≤ e) :
    ‖lam * x - v‖ ≤ ‖lam‖ * e + ‖v‖ * ‖lam - 1‖ := by
  calc ‖lam * x - v‖ = ‖lam * (x - v) + v * (lam - 1)‖ := by congr 1; ring
    _ ≤ ‖lam * (x - v)‖ + ‖v * (lam - 1)‖ := norm_add_le _ _
    _ = ‖lam‖ * ‖x - v‖ + ‖v‖ * ‖lam - 1‖ := by rw [norm_mul, norm_mul]
    _ ≤ _ := by gcongr

theorem error_prod {x y vx vy : K} {ex ey : ℝ} (hx : ‖x - vx‖ ≤ ex) (hy : ‖y - vy‖ ≤ ey) :
    ‖x * y - vx * vy‖ ≤ ‖vx‖ * ey + ‖vy‖ * ex + ex * ey := by
  have hex : 0 ≤ ex := (norm_nonneg _).trans hx
  calc ‖x * y - vx * vy‖ = ‖vx * (y - vy) + vy * (x - vx) + (x - vx) * (y - vy)‖ := by congr 1; ring
    _ ≤ ‖vx * (y - vy)‖ + ‖vy * (x - vx)‖ + ‖(x - vx) * (y - vy)‖ :=
        (norm_add_le _ _).trans (add_le_add (norm_add_le _ _) le_rfl)
    _ = ‖vx‖ * ‖y - vy‖ + ‖vy‖ * ‖x - vx‖ + ‖x - vx‖ * ‖y - vy‖ := by rw [norm_mul, norm_mul, norm_mul]
    _ ≤ _ := by gcongr

/-- With `B = 1/2` (after division by `q`, `rescale_remainder`) the rounding of `Rescale` moves every slot by at most
    `N/2` units of the phase. -/
theorem embedding_bound (N : ℕ) (r : ℕ → K) (ζ : K) (B : ℝ) (hζ : ‖ζ‖ = 1) (hr : ∀ i < N, ‖r i‖ ≤ B) :
    ‖∑ i ∈ range N, r i * ζ ^ i‖ ≤ N * B := by
  calc ‖∑ i ∈ range N, r i * ζ ^ i‖ ≤ ∑ i ∈ range N, ‖r i * ζ ^ i‖ := norm_sum_le _ _
    _ = ∑ i ∈ range N, ‖r i‖ := by
        apply sum_congr rfl; intro i _; rw [norm_mul, norm_pow, hζ, one_pow, mul_one]
    _ ≤ ∑ _i ∈ range N, B := sum_le_sum (fun i hi => hr i (mem_range.mp hi))
    _ = N * B := by rw [sum_const, card_range, nsmul_eq_mul]

end
end Lattigo.CKKS
