/-
  Error of the fixed-point conversion **as the code performs it** (`Lattigo.CKKS.fixedPoint`, the
  function the driver executes for `bigComplexToRNSScalar`, `ComplexArbitraryToFixedPointCRT`,
  `BigFloatToFixedPointCRT` and — with `P = 53` — `SingleFloat64ToFixedPointCRT`):
  rounding error `1/2` of the conversion plus the floating-point error of the working precision `P`.
-/
import Lattigo.Proofs.CKKSDyadic

namespace Lattigo.CKKS

theorem addHalf_val (t : Dy) : (addHalf t).val = t.val + 1 / 2 := by
  unfold addHalf
  have h2 : (2 : ℚ) ≠ 0 := by norm_num
  split
  · rename_i h
    rw [Dy.norm_val]; push_cast
    rw [pow2_cast _ (by omega : 0 ≤ t.e + 1), zpow_add_one₀ h2]
    unfold Dy.val
    rw [show (-1 : ℤ) = -(1 : ℤ) from rfl, zpow_neg, zpow_one]
    ring
  · rename_i h
    rw [Dy.norm_val]; push_cast
    rw [pow2_cast _ (by omega : 0 ≤ -t.e - 1)]
    unfold Dy.val
    have : (2 : ℚ) ^ (-t.e - 1) * (2 : ℚ) ^ t.e = 1 / 2 := by
      rw [← zpow_add₀ h2, show -t.e - 1 + t.e = -(1 : ℤ) by ring, zpow_neg, zpow_one]; norm_num
    rw [add_mul, this]

theorem roundRat_one_spec (P : ℕ) (d : Dy) (hd : 0 < d.m) :
    |(roundRat P d.m 1 d.e).val - d.val| ≤ d.val * (2 : ℚ) ^ (-(P : ℤ)) := by
  have h := roundRat_spec P d.m 1 d.e hd one_pos
  rwa [Nat.cast_one, div_one] at h

/-- `v` rounded to `t`, then `t + 1/2` rounded to `u`, both with relative error `ε ≤ 1/2`, then `u` truncated to `n`. -/
theorem round_addHalf_round (v t u n ε : ℚ) (hε0 : 0 ≤ ε) (hε1 : ε ≤ 1 / 2) (hv : 0 ≤ v)
    (ht : |t - v| ≤ v * ε) (hu : |u - (t + 1 / 2)| ≤ (t + 1 / 2) * ε) (hn : n ≤ u) (hn1 : u < n + 1) :
    |n - v| ≤ 1 / 2 + 3 * ε * (v + 1) := by
  rw [abs_le] at ht hu ⊢
  have h1 : ε * t ≤ ε * (v + v * ε) := mul_le_mul_of_nonneg_left (sub_le_iff_le_add'.mp ht.2) hε0
  have h2 : v * ε * ε ≤ v * ε * (1 / 2) := mul_le_mul_of_nonneg_left hε1 (mul_nonneg hv hε0)
  have h3 : 0 ≤ v * ε := mul_nonneg hv hε0
  -- `u − (v + 1/2)` is `(t − v)` plus at most `ε(t + 1/2)` in absolute value, and `t ≤ v + vε`: together at most
  -- `ε(2v + vε + 1/2) ≤ ε(5v/2 + 1/2)`, which the constant `3` covers; truncation moves `u` by less than `1`
  constructor <;> linarith

/-- Dividing by `Δ`: the decoded value differs from `x` by at most `1/(2Δ)` (conversion) `+ 3·2^-P·(|x| + 1/Δ)`
    (floating point). -/
theorem fixedPoint_error (P : ℕ) (x : SD) (scale : Dy) (hP : 1 ≤ P) (hx : 0 < x.mag.m) (hs : 0 < scale.m) :
    ∃ n : ℕ, fixedPoint P x scale = (if x.neg then -(n : ℤ) else (n : ℤ)) ∧
      |(n : ℚ) - x.mag.val * scale.val| ≤ 1 / 2 + 3 * (2 : ℚ) ^ (-(P : ℤ)) * (x.mag.val * scale.val + 1) := by
  unfold fixedPoint
  rw [if_neg (by omega)]
  simp only
  set t := Dy.mul P x.mag scale with ht
  set u := roundRat P (addHalf t).m 1 (addHalf t).e with hu
  refine ⟨u.toNat, by split <;> rfl, ?_⟩
  have hε1 : (2 : ℚ) ^ (-(P : ℤ)) ≤ 1 / 2 := by
    rw [zpow_neg, zpow_natCast, one_div]
    exact inv_anti₀ two_pos (le_self_pow₀ one_le_two (by omega))
  have hv : 0 < x.mag.val * scale.val := mul_pos ((Dy.val_pos_iff _).mpr hx) ((Dy.val_pos_iff _).mpr hs)
  have hhpos : 0 < (addHalf t).m := (Dy.val_pos_iff _).mp (by rw [addHalf_val]; linarith [Dy.val_nonneg t])
  have huspec := roundRat_one_spec P (addHalf t) hhpos
  rw [addHalf_val] at huspec
  -- the integer written is the floor of `u`
  obtain ⟨hfl1, hfl2⟩ := Dy.toNat_floor u
  exact round_addHalf_round _ _ _ _ _ (zpow_pos two_pos _).le hε1 hv.le (Dy.mul_spec P x.mag scale hx hs) huspec
    hfl1 hfl2

/-! ## exactness: when the working precision holds the product, `fixedPoint` IS round-half-away(x·Δ) -/

theorem roundRat_exact (prec num : ℕ) (e : ℤ) (hn : 0 < num) (hb : bitLen num ≤ prec) :
    (roundRat prec num 1 e).val = (num : ℚ) * (2 : ℚ) ^ e := by
  have hn0 : num ≠ 0 := hn.ne'
  have hbp : 0 < bitLen num := (lt_len64_iff num 0).mpr hn
  have h1 : bitLen 1 = 1 := by decide
  -- the shift is `j + 2` with `j = prec - bitLen num`, so the quotient `num·2^(j+2)` has `prec + 2` bits:
  -- two bits are dropped, and they are zero
  obtain ⟨j, hj⟩ : ∃ j : ℕ, (prec : ℤ) + 1 + (bitLen 1 : ℕ) - (bitLen num : ℤ) = ((j + 2 : ℕ) : ℤ) :=
    ⟨prec - bitLen num, by omega⟩
  have hbl : bitLen (num * 2 ^ j * 2 ^ 2) = prec + 2 := by
    have hm : bitLen (num * 2 ^ (j + 2)) = bitLen num + (j + 2) := len64_mul_two_pow hn0 (j + 2)
    rw [Nat.mul_assoc, ← pow_add, hm]; omega
  unfold roundRat
  rw [if_neg hn0]
  simp only []
  -- the quotient is `num·2^j·2^2` with remainder `0`
  rw [hj, pow2_nonpos (-_) (by omega), show pow2 ((j + 2 : ℕ) : ℤ) = 2 ^ j * 2 ^ 2 from pow_add 2 j 2, Nat.mul_one,
    Nat.div_one, Nat.mod_one, ← Nat.mul_assoc]
  -- `drop = 2`, `lo = 0`: nothing is rounded up
  rw [hbl, Nat.add_sub_cancel_left, Nat.mul_mod_left, Nat.mul_div_cancel _ (by norm_num), if_neg (by simp)]
  rw [Dy.norm_val, Nat.cast_mul, Nat.cast_pow, Nat.cast_ofNat, mul_assoc, ← zpow_natCast, ← zpow_add₀ two_ne_zero]
  congr 2
  push_cast
  ring

/-- `h1`, `h2`: the working precision holds `|x|·Δ` and `|x|·Δ + 1/2` — always the case on the `big.Float` paths for
    `|x·Δ| < 2^(P-1)` with few-bit inputs, and on the float64 path below `2^52`.  Then the integer written is the
    round-half-away-from-zero of `x·Δ`. -/
theorem fixedPoint_exact (P : ℕ) (x : SD) (scale : Dy) (hx : 0 < x.mag.m) (hs : 0 < scale.m)
    (h1 : bitLen (x.mag.m * scale.m) ≤ P) (h2 : bitLen (addHalf (Dy.mul P x.mag scale)).m ≤ P) :
    ∃ n : ℕ, fixedPoint P x scale = (if x.neg then -(n : ℤ) else (n : ℤ)) ∧
      (n : ℚ) ≤ x.mag.val * scale.val + 1 / 2 ∧ x.mag.val * scale.val + 1 / 2 < n + 1 := by
  unfold fixedPoint
  rw [if_neg (by omega)]
  simp only
  set t := Dy.mul P x.mag scale with ht
  set u := roundRat P (addHalf t).m 1 (addHalf t).e with hu
  refine ⟨u.toNat, by split <;> rfl, ?_⟩
  have htv : t.val = x.mag.val * scale.val := by
    rw [Dy.val_mul_val]; exact roundRat_exact P _ _ (Nat.mul_pos hx hs) h1
  have hhv : (addHalf t).val = t.val + 1 / 2 := addHalf_val t
  have hhpos : 0 < (addHalf t).m := (Dy.val_pos_iff _).mp (by rw [hhv]; linarith [Dy.val_nonneg t])
  have huv : u.val = (addHalf t).val := roundRat_exact P _ _ hhpos h2
  have hfl := Dy.toNat_floor u
  rwa [huv, hhv, htv] at hfl

end Lattigo.CKKS
