/-
  What several statements of `Props/C06.lean` about the `ckks.Evaluator` operations of `Lattigo.CKKS` share:
  the metadata of `Add`, `Rescale`, the automorphisms, and the full result of `Mul` and `MulThenAdd` (decision logic
  over the model).  A successful call is taken apart statement by statement, in program order, with `ok_of_ite_err`
  (a guard) and `ok_of_bind` (a sequenced step) of `Proofs/ExceptOk`.
-/
import Lattigo.Model.CKKS
import Lattigo.Proofs.ExceptOk
import Mathlib.Tactic.Ring
import Mathlib.Tactic.Linarith

namespace Lattigo.CKKS

/-- The degree decision shared by `Mul` and `MulThenAdd`: tensoring two degree-1 operands gives degree `d₁` with
    relinearisation (which needs the key) and `d₂` without, any other admissible pair gives `d₃`; the result is the
    same function `f` of that degree in every branch. -/
theorem ok_of_degree_cases {c : Prop} [Decidable c] {relin hasRlk : Bool} {f : Nat → Res} {d₁ d₂ d₃ : Nat} {r : Res}
    (h : (if c then (if relin then (if hasRlk then .ok (f d₁) else .error .err) else .ok (f d₂)) else .ok (f d₃) : R)
      = .ok r) :
    r = f (if c then (if relin then d₁ else d₂) else d₃) := by
  by_cases hc : c
  · rw [if_pos hc] at h ⊢
    cases relin
    · exact (Except.ok.inj h).symm
    · rw [if_pos rfl] at h ⊢
      cases hasRlk
      · cases h
      · exact (Except.ok.inj h).symm
  · rw [if_neg hc] at h ⊢
    exact (Except.ok.inj h).symm

theorem addElt_meta {P : Params} {sub : Bool} {a b o : Meta} {r : Res}
    (h : addElt P sub a b o = .ok r) :
    r.md.level = min (min a.level b.level) o.level ∧
    r.md.degree = max a.degree b.degree ∧
    r.md.scale = a.scale.max b.scale ∧
    r.md.logSlots = max a.logSlots b.logSlots := by
  unfold addElt at h
  obtain ⟨-, h⟩ := ok_of_ite_err h
  cases h; exact ⟨rfl, rfl, rfl, rfl⟩

/-- the alignment multipliers `(k0, k1)`: the operand with the smaller scale is multiplied by the integer
    part of the (128-bit rounded) quotient of the scales, the other one by `1`. -/
def alignMult (P : Params) (a b : Meta) : Int × Int :=
  match a.scale.cmp b.scale with
  | .gt => (1, bigIntConst P (sdiv a.scale b.scale).toNat)
  | .lt => (bigIntConst P (sdiv b.scale a.scale).toNat, 1)
  | .eq => (1, 1)

theorem alignMult_lt {P : Params} {a b : Meta} (h : a.scale.cmp b.scale = .lt) :
    alignMult P a b = (bigIntConst P (sdiv b.scale a.scale).toNat, 1) := by rw [alignMult, h]

theorem alignMult_gt {P : Params} {a b : Meta} (h : a.scale.cmp b.scale = .gt) :
    alignMult P a b = (1, bigIntConst P (sdiv a.scale b.scale).toNat) := by rw [alignMult, h]

theorem alignMult_eq {P : Params} {a b : Meta} (h : a.scale.cmp b.scale = .eq) : alignMult P a b = (1, 1) := by
  rw [alignMult, h]

theorem addElt_err_iff {P : Params} {sub : Bool} {a b o : Meta} :
    (∃ e, addElt P sub a b o = .error e) ↔ a.degree + b.degree = 0 := by
  unfold addElt
  constructor
  · rintro ⟨e, h⟩
    split at h
    · assumption
    · cases h
  · intro h; exact ⟨.err, by simp [h]⟩

theorem addScalar_meta {P : Params} {sub : Bool} {a o : Meta} {re im : SD} {r : Res}
    (h : addScalar P sub a o re im = .ok r) :
    r.md.level = min a.level o.level ∧ r.md.degree = a.degree ∧ r.md.scale = a.scale ∧
    r.md.logSlots = a.logSlots := by
  unfold addScalar at h
  cases h; exact ⟨rfl, rfl, rfl, rfl⟩

theorem mulElt_ok {P : Params} {relin : Bool} {a b o : Meta} {r : Res} (h : mulElt P relin a b o = .ok r) :
    r = ⟨⟨min (min a.level b.level) o.level,
          if a.degree = 1 ∧ b.degree = 1 then (if relin then 1 else 2) else max a.degree b.degree,
          smul a.scale b.scale, max a.logSlots b.logSlots⟩, []⟩ ∧
    0 < a.degree + b.degree ∧ a.degree + b.degree ≤ 2 := by
  unfold mulElt at h
  obtain ⟨h0, h⟩ := ok_of_ite_err h
  obtain ⟨h2, h⟩ := ok_of_ite_err h
  exact ⟨ok_of_degree_cases (f := fun d => ⟨⟨_, d, _, _⟩, []⟩) h, by omega, by omega⟩

theorem scalarScale_int {P : Params} {level : Nat} {re im : SD}
    (h : (re.round P.prec).isInt = true ∧ (im.round P.prec).isInt = true) :
    scalarScale P level re im = .ok Dy.one := by
  unfold scalarScale; simp [h.1, h.2]

theorem rescale_meta {P : Params} {a : Meta} {r : Res} (h : rescale P a = .ok r) :
    P.lcpr ≤ a.level ∧
    r.md.level = a.level - P.lcpr ∧ r.md.degree = a.degree ∧ r.md.logSlots = a.logSlots ∧
    r.md.scale = (List.range P.lcpr).foldl (fun s i => sdiv s (Dy.ofNat (P.q (a.level - i)))) a.scale := by
  unfold rescale at h
  obtain ⟨hl, h⟩ := ok_of_ite_err h
  cases h; exact ⟨by omega, rfl, rfl, rfl, rfl⟩

theorem rescale_err_iff {P : Params} {a : Meta} :
    (∃ e, rescale P a = .error e) ↔ a.level < P.lcpr := by
  unfold rescale
  constructor
  · rintro ⟨e, h⟩
    split at h
    · omega
    · cases h
  · intro h
    have : a.level + 1 ≤ P.lcpr := by omega
    exact ⟨.err, by simp [this]⟩

theorem rescaleToLoop_le (P : Params) (mh : Dy) : ∀ (n nb : Nat) (cur : Dy),
    (rescaleToLoop P mh n nb cur).1 ≤ nb + n ∧ nb ≤ (rescaleToLoop P mh n nb cur).1
  | 0, nb, cur => by simp [rescaleToLoop]
  | n + 1, nb, cur => by
    unfold rescaleToLoop
    simp only
    split
    · simp
    · have := rescaleToLoop_le P mh n (nb + 1) (sdiv cur (Dy.ofNat (P.q (n + 1))))
      omega

/-- The loop runs while `newLevel > 0`: `q_0` is never consumed, so only the three guards can refuse. -/
theorem rescaleTo_total {P : Params} {a : Meta} {m : Dy} (hm : m.m ≠ 0) (hs : a.scale.m ≠ 0) (hl : a.level ≠ 0) :
    ∃ r, rescaleTo P a m = .ok r := by
  unfold rescaleTo
  simp [hm, hs, hl]

theorem automorphism_meta {P : Params} {g : Nat} {a o : Meta} {r : Res}
    (h : automorphism P g a o = .ok r) :
    a.degree = 1 ∧ o.degree = 1 ∧ r.md.scale = a.scale ∧ r.md.degree = 1 ∧ r.md.logSlots = a.logSlots ∧
    r.md.level = (if g = 1 then a.level else min a.level o.level) ∧
    (g ≠ 1 → P.galEls.contains g = true) := by
  unfold automorphism at h
  obtain ⟨hd, h⟩ := ok_of_ite_err h
  have hd' : a.degree = 1 ∧ o.degree = 1 := by omega
  split at h
  · rename_i hg
    cases h; simp [hg, hd'.1, hd'.2]
  · rename_i hg
    obtain ⟨hk, h⟩ := ok_of_ite_err h
    cases h
    simp [hg, hd'.1, hd'.2]
    simpa using hk

theorem mtaEltScale_scale {P : Params} {level : Nat} {a b o : Meta} {v : Int × Dy}
    (h : mtaEltScale P level a b o = .ok v) : v.2 = o.scale ∨ v.2 = smul a.scale b.scale := by
  unfold mtaEltScale at h
  dsimp only [pure, Except.pure] at h
  split at h -- is the receiver's scale below the product's?
  · split at h -- is the ratio at least 2?
    · obtain ⟨s, -, h⟩ := ok_of_bind h
      cases h; exact Or.inr rfl
    · cases h; exact Or.inl rfl
  · cases h; exact Or.inl rfl

theorem mulThenAddElt_ok {P : Params} {relin : Bool} {al : Alias} {a b o : Meta} {r : Res}
    (h : mulThenAddElt P relin al a b o = .ok r) :
    ∃ v, mtaEltScale P (min (min a.level b.level) o.level) a b o = .ok v ∧
      r = ⟨⟨min (min a.level b.level) o.level,
            if a.degree = 1 ∧ b.degree = 1 then (if relin then max 1 o.degree else 2) else max a.degree o.degree,
            v.2, max a.logSlots b.logSlots⟩,
          gammaList v.1 o.degree
            (if a.degree = 1 ∧ b.degree = 1 then (if relin then max 1 o.degree else 2) else max a.degree o.degree)
            (P.bigQ (min (min a.level b.level) o.level))⟩ ∧
      al = .fresh ∧ 0 < a.degree + b.degree ∧ a.degree + b.degree ≤ 2 := by
  unfold mulThenAddElt at h
  dsimp only at h
  obtain ⟨h0, h⟩ := ok_of_ite_err h
  obtain ⟨h2, h⟩ := ok_of_ite_err h
  obtain ⟨hal, h⟩ := ok_of_ite_err h
  obtain ⟨v, hv, h⟩ := ok_of_bind h
  exact ⟨v, hv, ok_of_degree_cases (f := fun d => ⟨⟨_, d, _, _⟩, gammaList v.1 o.degree d _⟩) h,
    by simpa using hal, by omega, by omega⟩

end Lattigo.CKKS
