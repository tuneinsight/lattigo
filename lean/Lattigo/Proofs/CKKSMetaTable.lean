/-
  The receiver of the `…New` forms, and the refusal of `MulThenAdd` when `op0.Scale > opOut.Scale` (the rest of the
  metadata table of `Lattigo.CKKS.step` — vector operands, `…New` forms, scale matching — is derived in `Props/C06.lean`).
-/
import Lattigo.Proofs.CKKSMeta
import Lattigo.Proofs.CKKSDyadic

namespace Lattigo.CKKS

/-- the receiver `NewCiphertext(params, op0.Degree(), op0.Level())` of the `…New` methods. -/
def newRecv (a : Meta) (defaultScale : Dy) (logMaxSlots : Nat) : Meta := ⟨a.level, a.degree, defaultScale, logMaxSlots⟩

theorem newRecv_level (a : Meta) (ds : Dy) (lm : Nat) : (newRecv a ds lm).level = a.level := rfl

theorem newRecv_degree (a : Meta) (ds : Dy) (lm : Nat) : (newRecv a ds lm).degree = a.degree := rfl

theorem mtaScale_gt {P : Params} {level : Nat} {isInt : Bool} {a o : Meta} (h : a.scale.cmp o.scale = .gt) :
    mtaScale P level isInt a o = .error .err := by unfold mtaScale; simp [h]

end Lattigo.CKKS
