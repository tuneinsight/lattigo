/-
  Phase-level semantics of the CKKS evaluator operations over an arbitrary commutative ring
  (think `α = Z_Q[X]/(X^N+1)`), and the integer identity behind `Rescale`.

  A ciphertext of degree ≤ 2 is a triple `(c0, c1, c2)`; its phase under the secret `s` is
  `c0 + c1·s + c2·s²`.  The evaluator computes exactly the component formulas below
  (`evaluateInPlace`, `mulRelin`, `mulRelinThenAdd`, `evaluateWithScalar`); the *effects* `k0, k1, kOut`
  and the RNS constants are the integers `Lattigo.CKKS.step` returns and the harness reads back.
-/
import Lattigo.Model.CKKS
import Mathlib.Tactic.Ring
import Mathlib.Tactic.Linarith
import Mathlib.Algebra.Ring.Basic

namespace Lattigo.CKKS

section Phase
variable {α : Type*} [CommRing α]

/-- degree ≤ 2 ciphertext -/
structure Ct (α : Type*) where
  c0 : α
  c1 : α
  c2 : α

/-- `⟨ct, (1, s, s²)⟩` -/
def phase (s : α) (c : Ct α) : α := c.c0 + c.c1 * s + c.c2 * s ^ 2

/-- `evaluateInPlace`: `opOut = k0·op0 ± k1·op1` component-wise (`k0, k1` the alignment multipliers). -/
def Ct.lin (k0 k1 : α) (a b : Ct α) : Ct α := ⟨k0 * a.c0 + k1 * b.c0, k0 * a.c1 + k1 * b.c1, k0 * a.c2 + k1 * b.c2⟩

/-- `mulRelin` without relinearisation on two degree-1 ciphertexts (the tensor product). -/
def Ct.tensor (a b : Ct α) : Ct α := ⟨a.c0 * b.c0, a.c0 * b.c1 + a.c1 * b.c0, a.c1 * b.c1⟩

/-- multiplication by a constant (`evaluateWithScalar`, `MulDoubleRNSScalar`; for a complex constant
    `c = re + im·X^{N/2}` as a ring element). -/
def Ct.smul (c : α) (a : Ct α) : Ct α := ⟨c * a.c0, c * a.c1, c * a.c2⟩

/-- addition of a constant to `c0` (`AddDoubleRNSScalar`). -/
def Ct.addConst (c : α) (a : Ct α) : Ct α := ⟨a.c0 + c, a.c1, a.c2⟩

/-- relinearisation: `(k0, k1)` is the output of the gadget product of `c2` with the
    relinearisation key. -/
def Ct.relin (k0 k1 : α) (a : Ct α) : Ct α := ⟨a.c0 + k0, a.c1 + k1, 0⟩

theorem phase_lin (s k0 k1 : α) (a b : Ct α) :
    phase s (Ct.lin k0 k1 a b) = k0 * phase s a + k1 * phase s b := by
  simp only [phase, Ct.lin]; ring

theorem phase_add (s : α) (a b : Ct α) : phase s (Ct.lin 1 1 a b) = phase s a + phase s b := by
  rw [phase_lin]; ring

theorem phase_sub (s : α) (a b : Ct α) : phase s (Ct.lin 1 (-1) a b) = phase s a - phase s b := by
  rw [phase_lin]; ring

theorem phase_tensor (s : α) (a b : Ct α) (ha : a.c2 = 0) (hb : b.c2 = 0) :
    phase s (Ct.tensor a b) = phase s a * phase s b := by
  simp only [phase, Ct.tensor, ha, hb]; ring

/-- relinearisation adds the key-switch error `k0 + k1·s − c2·s²` as an explicit summand. -/
theorem phase_relin (s k0 k1 : α) (a : Ct α) :
    phase s (Ct.relin k0 k1 a) = phase s a + (k0 + k1 * s - a.c2 * s ^ 2) := by
  simp only [phase, Ct.relin]; ring

theorem phase_mulRelin (s k0 k1 : α) (a b : Ct α) (ha : a.c2 = 0) (hb : b.c2 = 0) :
    phase s (Ct.relin k0 k1 (Ct.tensor a b)) =
      phase s a * phase s b + (k0 + k1 * s - a.c1 * b.c1 * s ^ 2) := by
  rw [phase_relin, phase_tensor s a b ha hb]; rfl

theorem phase_smul (s c : α) (a : Ct α) : phase s (Ct.smul c a) = c * phase s a := by
  simp only [phase, Ct.smul]; ring

theorem phase_addConst (s c : α) (a : Ct α) : phase s (Ct.addConst c a) = phase s a + c := by
  simp only [phase, Ct.addConst]; ring

/-- `MulThenAdd` (element operand): `opOut ← kOut·opOut + op0 ⊗ op1`. -/
theorem phase_mulThenAdd (s kOut : α) (o a b : Ct α) (ha : a.c2 = 0) (hb : b.c2 = 0) :
    phase s (Ct.lin kOut 1 o (Ct.tensor a b)) = kOut * phase s o + phase s a * phase s b := by
  rw [phase_lin, phase_tensor s a b ha hb]; ring

/-- `MulThenAdd` (scalar operand): `opOut ← kOut·opOut + c·op0`. -/
theorem phase_mulThenAddScalar (s kOut c : α) (o a : Ct α) :
    phase s (Ct.lin kOut c o a) = kOut * phase s o + c * phase s a := phase_lin s kOut c o a

/-- `Rescale` at the ring level.  `h0`, `h1`: the component-wise rounded division, `r0, r1` the remainder polynomials
    with coefficients in `[-q/2, q/2]` (`divRound_spec`).  The rounding error of the phase is `(r0 + r1·s)/q`: a `c0`
    part bounded by `1/2` per coefficient plus the `s`-dependent part (`≤ h_s/2` per coefficient for a ternary secret
    of Hamming weight `h_s`). -/
theorem phase_rescale (s q c0 c1 c0' c1' r0 r1 : α)
    (h0 : q * c0' = c0 - r0) (h1 : q * c1' = c1 - r1) :
    q * phase s ⟨c0', c1', 0⟩ = phase s ⟨c0, c1, 0⟩ - (r0 + r1 * s) := by
  simp only [phase]
  have : q * (c0' + c1' * s + 0 * s ^ 2) = q * c0' + (q * c1') * s := by ring
  rw [this, h0, h1]; ring

end Phase

theorem divRound_spec (x : Int) (q : Nat) (hq : 0 < q) :
    ∃ r : Int, x = (q : Int) * divRound x q + r ∧ -((q / 2 : Nat) : Int) ≤ r ∧ r < (q : Int) - ((q / 2 : Nat) : Int) := by
  unfold divRound
  have h1 := Int.emod_nonneg (x + ((q / 2 : Nat) : Int)) (by omega : (q : Int) ≠ 0)
  have h2 := Int.emod_lt_of_pos (x + ((q / 2 : Nat) : Int)) (by omega : (0 : Int) < q)
  have h3 := Int.mul_ediv_add_emod (x + ((q / 2 : Nat) : Int)) (q : Int)
  exact ⟨x - (q : Int) * ((x + ((q / 2 : Nat) : Int)) / (q : Int)), by omega, by omega, by omega⟩

theorem divRound_mul (k : Int) (q : Nat) (hq : 0 < q) : divRound ((q : Int) * k) q = k := by
  unfold divRound
  have hq' : (0 : Int) < q := by exact_mod_cast hq
  have h := Int.add_mul_ediv_left ((q / 2 : Nat) : Int) k (ne_of_gt hq')
  rw [show (q : Int) * k + ((q / 2 : Nat) : Int) = ((q / 2 : Nat) : Int) + (q : Int) * k by ring, h]
  have : ((q / 2 : Nat) : Int) / (q : Int) = 0 := by
    apply Int.ediv_eq_zero_of_lt (by positivity)
    exact_mod_cast Nat.div_lt_self hq (by norm_num)
  omega

end Lattigo.CKKS
