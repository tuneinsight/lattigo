/-
  C08 — lemmas about the codec combinators of `Model/Codec.lean`.
  Everything is proved by structural induction on `Fmt`, hence for every lattigo type. What relates
  two runs of the decoder (another transport, more bytes behind the object, the same run as its own
  witness) comes from one such induction, `decG_sim`, which follows each arm of the decoder step by
  step (`Sim.step`).
-/
import Lattigo.Model.Codec

namespace Lattigo.Codec

theorem leBytes_length (w n : Nat) : (leBytes w n).length = w := by
  induction w generalizing n with
  | zero => rfl
  | succ w ih => simp [leBytes, ih]

theorem leVal_leBytes (w n : Nat) (h : n < 256 ^ w) : leVal (leBytes w n) = n := by
  induction w generalizing n with
  | zero => simp at h; subst h; rfl
  | succ w ih =>
    have h' : n / 256 < 256 ^ w := by
      rw [Nat.div_lt_iff_lt_mul (by decide)]
      rw [Nat.pow_succ] at h; exact h
    simp only [leBytes, leVal, ih _ h']
    omega

theorem isBytes_nil : IsBytes [] := fun _ h => nomatch h

theorem isBytes_cons {x : Nat} {l : List Nat} (hx : x < 256) (hl : IsBytes l) : IsBytes (x :: l) :=
  List.forall_mem_cons.mpr ⟨hx, hl⟩

theorem isBytes_append {a b : List Nat} (ha : IsBytes a) (hb : IsBytes b) : IsBytes (a ++ b) :=
  List.forall_mem_append.mpr ⟨ha, hb⟩

theorem leBytes_isBytes (w n : Nat) : IsBytes (leBytes w n) := by
  induction w generalizing n with
  | zero => exact isBytes_nil
  | succ w ih => exact isBytes_cons (Nat.mod_lt _ (by decide)) (ih _)

theorem unhex_hexDigit (d : Nat) (h : d < 16) : unhex (hexDigit d) = some d := by
  revert d; decide

theorem hexPair_hexDigit (n : Nat) (h : n < 256) :
    hexPair (hexDigit (n / 16 % 16)) (hexDigit (n % 16)) = some n := by
  simp only [hexPair, unhex_hexDigit _ (Nat.mod_lt _ (by decide : 0 < 16))]
  congr 1; omega

theorem toByte_lt (z : Int) : toByte z < 256 := by
  unfold toByte; omega

theorem fromByte_toByte (z : Int) (h1 : -128 ≤ z) (h2 : z ≤ 127) : fromByte (toByte z) = z := by
  unfold fromByte toByte; split <;> omega

theorem toByte_fromByte (n : Nat) (h : n < 256) : toByte (fromByte n) = n := by
  unfold fromByte toByte; split <;> omega

theorem fromByte_range (n : Nat) (h : n < 256) : -128 ≤ fromByte n ∧ fromByte n ≤ 127 := by
  unfold fromByte; split <;> omega

theorem readFlat_append (n : Nat) (xs rest : List Nat) (h : xs.length = n) :
    readFlat n (xs ++ rest) = some (xs, rest) := by
  subst h; simp [readFlat]

theorem readFlat_leBytes (w n : Nat) (rest : List Nat) :
    readFlat w (leBytes w n ++ rest) = some (leBytes w n, rest) :=
  readFlat_append w _ rest (leBytes_length w n)

theorem readFlat_one (b : Nat) (rest : List Nat) : readFlat 1 (b :: rest) = some ([b], rest) := by
  simp [readFlat]

theorem readFlat_short (n : Nat) (bs : List Nat) (h : bs.length < n) : readFlat n bs = none := by
  simp [readFlat]; omega

theorem decN_flatten (d : List Nat → Option (Val × List Nat)) (e : Val → List Nat)
    (vs : List Val)
    (h : ∀ x ∈ vs, ∀ rest, d (e x ++ rest) = some (x, rest)) (rest : List Nat) :
    decN d vs.length ((vs.map e).flatten ++ rest) = some (vs, rest) := by
  induction vs with
  | nil => simp [decN]
  | cons x xs ih =>
    have hx := h x (List.mem_cons_self ..) ((xs.map e).flatten ++ rest)
    have ih' := ih (fun y hy => h y (List.mem_cons_of_mem _ hy))
    simp only [List.map_cons, List.flatten_cons, List.length_cons, List.append_assoc, decN, hx,
      ih']

theorem length_flatten_map (e : Val → List Nat) (s : Val → Nat) (vs : List Val)
    (h : ∀ x ∈ vs, (e x).length = s x) :
    ((vs.map e).flatten).length = sumL (vs.map s) := by
  induction vs with
  | nil => rfl
  | cons x xs ih =>
    simp only [List.map_cons, List.flatten_cons, List.length_append, sumL,
      h x (List.mem_cons_self ..), ih (fun y hy => h y (List.mem_cons_of_mem _ hy))]

theorem WT_shape (f : Fmt) : ∀ v, WT f v → Shape f v := by
  induction f with
  | unit => intro v _; trivial
  | uint _ | hex2 _ => intro v ⟨n, hv, _⟩; exact ⟨n, hv⟩
  | raw n => intro v h; exact h
  | shex2 => intro v ⟨z, hv, _⟩; exact ⟨z, hv⟩
  | framed pre f post ih => intro v h; exact ih v h
  | pair a b iha ihb => intro v ⟨x, y, hv, hx, hy⟩; exact ⟨x, y, hv, iha x hx, ihb y hy⟩
  | vec mg w f ih => intro v ⟨vs, hv, _, _, hall⟩; exact ⟨vs, hv, fun x hx => ih x (hall x hx)⟩
  | opt kp ru f ih => intro v h; exact h.imp id fun ⟨x, hv, hx⟩ => ⟨x, hv, ih x hx⟩
  | tailIf kp a p b iha ihb =>
    intro v ⟨x, y, hv, hx, hy⟩
    exact ⟨x, y, hv, iha x hx, hy.symm.imp And.right fun ⟨_, s, hs, hws⟩ => ⟨s, hs, ihb s hws⟩⟩

theorem size_exact_shape (f : Fmt) : ∀ v, Shape f v → (enc f v).length = size f v := by
  induction f with
  | unit => intro v h; rfl
  | uint w => intro v ⟨n, hv⟩; subst hv; exact leBytes_length w n
  | raw n => intro v ⟨bs, hv, hl⟩; subst hv; exact hl
  | hex2 st => intro v ⟨n, hv⟩; subst hv; rfl
  | shex2 => intro v ⟨z, hv⟩; subst hv; rfl
  | framed pre f post ih =>
    intro v h
    simp only [enc, size, List.length_append, ih v h]
  | pair a b iha ihb =>
    intro v ⟨x, y, hv, hx, hy⟩; subst hv
    simp only [enc, size, List.length_append, iha x hx, ihb y hy]
  | vec mg w f ih =>
    intro v ⟨vs, hv, hall⟩; subst hv
    simp only [enc, size, List.length_append, leBytes_length]
    rw [length_flatten_map (enc f) (size f) vs (fun x hx => ih x (hall x hx))]
  | opt kp ru f ih =>
    intro v h
    rcases h with hv | ⟨x, hv, hx⟩
    · subst hv; simp [enc, size]
    · subst hv; simp only [enc, size, List.length_cons, ih x hx]; omega
  | tailIf kp a p b iha ihb =>
    intro v ⟨x, y, hv, hx, hy⟩; subst hv
    rcases hy with hs | ⟨s, hs, hws⟩
    · subst hs; by_cases hp : p x = true <;> simp [enc, size, hp, iha x hx]
    · subst hs; by_cases hp : p x = true <;> simp [enc, size, hp, iha x hx, ihb s hws]

theorem size_exact (f : Fmt) (v : Val) (h : WT f v) : (enc f v).length = size f v :=
  size_exact_shape f v (WT_shape f v h)

theorem roundtrip (f : Fmt) :
    ∀ v rest, WT f v → dec f (enc f v ++ rest) = some (v, rest) := by
  unfold dec
  induction f with
  | unit => intro v rest h; cases h; rfl
  | uint w =>
    intro v rest ⟨n, hv, hn⟩; subst hv
    simp only [enc, decG, readFlat_leBytes, leVal_leBytes w n hn]
  | raw n =>
    intro v rest ⟨bs, hv, hl⟩; subst hv
    simp only [enc, decG, readFlat_append n _ rest hl]
  | hex2 st =>
    intro v rest ⟨n, hv, hn⟩; subst hv
    have hn256 : n < 256 := by cases st <;> simp [hexBound] at hn <;> omega
    have hv : hexVal st n = n := by
      cases st <;> simp only [hexVal, hexBound] at hn ⊢ <;> split <;> omega
    simp only [enc, decG, readFlat_append 2 [_, _] rest rfl, hexPair_hexDigit n hn256, hv]
  | shex2 =>
    intro v rest ⟨z, hv, hz1, hz2⟩; subst hv
    simp only [enc, decG, readFlat_append 2 [_, _] rest rfl, hexPair_hexDigit _ (toByte_lt z),
      fromByte_toByte z hz1 hz2]
  | framed pre f post ih =>
    intro v rest h
    simp only [enc, decG, List.append_assoc, readFlat_append _ pre _ rfl,
      readFlat_append _ post _ rfl, if_true, ih v _ h]
  | pair a b iha ihb =>
    intro v rest ⟨x, y, hv, hx, hy⟩; subst hv
    simp only [enc, decG, List.append_assoc, iha x _ hx, ihb y _ hy]
  | vec mg w f ih =>
    intro v rest ⟨vs, hv, hlen, hblk, hall⟩; subst hv
    have hnb : ¬ (mg = VecKind.block ∧ blockMax < vs.length) := by
      intro ⟨h1, h2⟩; have := hblk h1; omega
    simp only [enc, decG, List.append_assoc, readFlat_leBytes, leVal_leBytes w _ hlen, hnb, if_false]
    rw [decN_flatten (decG readFlat f) (enc f) vs (fun x hx r => ih x r (hall x hx))]
  | opt kp ru f ih =>
    intro v rest h
    rcases h with hv | ⟨x, hv, hx⟩ <;> subst hv
    · simp [enc, decG, readFlat_one]
    · simp only [enc, decG, List.cons_append, readFlat_one, if_true, ih x _ hx]
  | tailIf kp a p b iha ihb =>
    intro v rest ⟨x, y, hv, hx, hy⟩; subst hv
    rcases hy with ⟨hp, s, hs, hws⟩ | ⟨hp, hs⟩
    · subst hs
      simp only [enc, decG, hp, if_true, List.append_assoc, iha x _ hx, ihb s _ hws]
    · subst hs
      simp only [enc, decG, hp, List.append_assoc, iha x _ hx]; simp

theorem roundtrip_nil (f : Fmt) (v : Val) (h : WT f v) : dec f (enc f v) = some (v, []) := by
  have := roundtrip f v [] h
  simpa using this

section Sim
variable {σ τ α β : Type} (R : σ → τ → Prop)

/-- Every successful run of `m₁` is matched by a run of `m₂` with the same result, from sources
    related by `R` to sources related by `R`. -/
def Sim (m₁ : σ → Option (α × σ)) (m₂ : τ → Option (α × τ)) : Prop :=
  ∀ s t a s', R s t → m₁ s = some (a, s') → ∃ t', m₂ t = some (a, t') ∧ R s' t'

variable {R}

theorem Sim.pure (a : α) : Sim R (fun s => some (a, s)) (fun t => some (a, t)) :=
  fun _ t _ _ hR h => by cases h; exact ⟨t, rfl, hR⟩

theorem Sim.fail : Sim R (fun _ : σ => (none : Option (α × σ))) (fun _ : τ => none) :=
  fun _ _ _ _ _ h => nomatch h

theorem Sim.step {m₁ : σ → Option (α × σ)} {m₂ : τ → Option (α × τ)}
    {k₁ : α → σ → Option (β × σ)} {k₂ : α → τ → Option (β × τ)}
    (hm : Sim R m₁ m₂) (hk : ∀ a, Sim R (k₁ a) (k₂ a)) :
    Sim R (fun s => match m₁ s with | none => none | some (a, s') => k₁ a s')
      (fun t => match m₂ t with | none => none | some (a, t') => k₂ a t') := by
  intro s t b s' hR h
  dsimp only at h ⊢
  cases h1 : m₁ s with
  | none => rw [h1] at h; cases h
  | some p =>
    obtain ⟨t1, e1, R1⟩ := hm s t p.1 p.2 hR h1
    rw [h1] at h; rw [e1]
    exact hk p.1 p.2 t1 b s' R1 h

theorem Sim.ite {a₁ b₁ : σ → Option (α × σ)} {a₂ b₂ : τ → Option (α × τ)} (c : Prop) [Decidable c]
    (ha : Sim R a₁ a₂) (hb : Sim R b₁ b₂) :
    Sim R (fun s => if c then a₁ s else b₁ s) (fun t => if c then a₂ t else b₂ t) := by
  by_cases hc : c
  · simpa only [if_pos hc] using ha
  · simpa only [if_neg hc] using hb

end Sim

/-- An arm of `decG` or `decN` is a `match` on the result of a step, written with the auxiliary
    matcher of that definition; it is the `match` of `Sim.step` once matchers may be unfolded like
    any other definition. The term given says which steps the arm takes, in order. -/
local macro "exact_arm " t:term : tactic => `(tactic| set_option smartUnfolding false in exact $t)

theorem decN_sim {σ τ : Type} {d₁ : σ → Option (Val × σ)} {d₂ : τ → Option (Val × τ)}
    (R : σ → τ → Prop) (hd : Sim R d₁ d₂) (n : Nat) : Sim R (decN d₁ n) (decN d₂ n) := by
  induction n with
  | zero => exact Sim.pure []
  | succ n ih => exact_arm hd.step fun v => ih.step fun vs => Sim.pure (v :: vs)

/-- Instances: independence of the transport (`decG_hom`), of what follows the object (`dec_append`,
    hence `trunc_err`), and the forward movement of the decoder (`dec_suffix`). -/
theorem decG_sim {σ τ : Type} {rd₁ : Nat → σ → Option (List Nat × σ)}
    {rd₂ : Nat → τ → Option (List Nat × τ)} (R : σ → τ → Prop)
    (hrd : ∀ n, Sim R (rd₁ n) (rd₂ n)) (f : Fmt) : Sim R (decG rd₁ f) (decG rd₂ f) := by
  induction f with
  | unit => exact Sim.pure Val.unit
  | uint w => exact_arm (hrd w).step fun bs => Sim.pure (Val.num (leVal bs))
  | raw n => exact_arm (hrd n).step fun bs => Sim.pure (Val.bytes bs)
  | hex2 | shex2 =>
    -- the arm also fails on a read of the wrong length: not a `step`, followed by hand
    intro s t v s' hR h
    simp only [decG] at h ⊢
    split at h <;> try cases h
    obtain ⟨t1, e1, R1⟩ := hrd 2 _ _ _ _ hR ‹_›
    split at h <;> cases h
    exact ⟨t1, by simp [*], R1⟩
  | framed pre f post ih =>
    exact_arm (hrd pre.length).step fun bs => Sim.ite (bs = pre)
      (ih.step fun v => (hrd post.length).step fun cs => Sim.ite (cs = post) (Sim.pure v) Sim.fail)
      Sim.fail
  | pair a b iha ihb => exact_arm iha.step fun x => ihb.step fun y => Sim.pure (Val.pair x y)
  | vec k w f ih =>
    exact_arm (hrd w).step fun bs => Sim.ite (k = .block ∧ blockMax < leVal bs) Sim.fail
      ((decN_sim R ih (leVal bs)).step fun vs => Sim.pure (Val.list vs))
  | opt _ _ f ih =>
    -- as for `hex2`; after the presence byte the arm is a composition of steps again
    intro s t v s' hR h
    simp only [decG] at h ⊢
    split at h <;> try cases h
    obtain ⟨t1, e1, R1⟩ := hrd 1 _ _ _ _ hR ‹_›
    simp only [e1]
    exact_arm Sim.ite _ (ih.step fun x => Sim.pure (Val.some x))
      (Sim.ite _ (Sim.pure Val.none) Sim.fail) _ t1 v s' R1 h
  | tailIf _ a p b iha ihb =>
    exact_arm iha.step fun x => Sim.ite (p x = true)
      (ihb.step fun y => Sim.pure (Val.pair x (Val.some y))) (Sim.pure (Val.pair x Val.none))

theorem readFlat_append_right {n : Nat} {s xs s' : List Nat} (h : readFlat n s = some (xs, s'))
    (x : List Nat) : readFlat n (s ++ x) = some (xs, s' ++ x) := by
  unfold readFlat at h ⊢
  split at h <;> cases h
  rename_i hn
  rw [if_pos (by rw [List.length_append]; omega), List.take_append_of_le_length hn,
    List.drop_append_of_le_length hn]

theorem dec_append {f : Fmt} {bs : List Nat} {v : Val} {r : List Nat} (h : dec f bs = some (v, r))
    (x : List Nat) : dec f (bs ++ x) = some (v, r ++ x) := by
  obtain ⟨_, e, rfl⟩ := decG_sim (fun s t => t = s ++ x)
    (fun n s t xs s' hR e => ⟨_, by rw [hR]; exact readFlat_append_right e x, rfl⟩) f bs _ v r rfl h
  exact e

theorem trunc_err (f : Fmt) :
    ∀ v k, WT f v → k < (enc f v).length → dec f ((enc f v).take k) = none := by
  intro v k h hk
  cases hd : dec f ((enc f v).take k) with
  | none => rfl
  | some p =>
    -- a prefix that decoded would still decode with the rest put back, leaving that rest unread
    have e := dec_append hd ((enc f v).drop k)
    rw [List.take_append_drop, roundtrip_nil f v h, Option.some.injEq, Prod.mk.injEq,
      List.nil_eq_append_iff, List.drop_eq_nil_iff] at e
    omega

theorem decG_hom {σ τ : Type} (rd₁ : Nat → σ → Option (List Nat × σ))
    (rd₂ : Nat → τ → Option (List Nat × τ)) (h : σ → τ)
    (hrd : ∀ n s, (rd₁ n s).map (fun p => (p.1, h p.2)) = rd₂ n (h s)) (f : Fmt) :
    ∀ s, (decG rd₁ f s).map (fun p => (p.1, h p.2)) = decG rd₂ f (h s) := by
  intro s
  cases h1 : decG rd₁ f s with
  | some p =>
    obtain ⟨t', e, rfl⟩ := decG_sim (rd₁ := rd₁) (rd₂ := rd₂) (fun s t => t = h s)
      (fun n s t xs s' hR e => ⟨h s', by rw [hR, ← hrd, e]; rfl, rfl⟩) f s _ p.1 p.2 rfl h1
    exact e.symm
  | none =>
    -- a success over the second source would be matched by one over the first
    cases h2 : decG rd₂ f (h s) with
    | none => rfl
    | some q =>
      obtain ⟨s', e, _⟩ := decG_sim (rd₁ := rd₂) (rd₂ := rd₁) (fun t s => t = h s)
        (fun n t s xs t' hR e => by
          rw [hR, ← hrd] at e
          obtain ⟨r, h3, he⟩ := Option.map_eq_some_iff.mp e
          cases he; exact ⟨r.2, h3, rfl⟩) f _ s q.1 q.2 rfl h2
      rw [h1] at e; cases e

theorem readFlat_succ_cons (n b : Nat) (l : List Nat) :
    readFlat (n + 1) (b :: l) = (readFlat n l).map fun p => (b :: p.1, p.2) := by
  unfold readFlat
  simp only [List.length_cons, Nat.add_le_add_iff_right, List.take_succ_cons, List.drop_succ_cons]
  split <;> rfl

theorem readChunks_flatten (n : Nat) (cs : List (List Nat)) :
    (readChunks n cs).map (fun p => (p.1, p.2.flatten)) = readFlat n cs.flatten := by
  induction cs generalizing n with
  | nil => cases n <;> simp [readChunks, readFlat]
  | cons c cs ih =>
    induction c generalizing n with
    | nil =>
      cases n with
      | zero => simp [readChunks, readFlat]
      | succ n => simp only [readChunks, List.flatten_cons, List.nil_append]; exact ih (n + 1)
    | cons b c ihc =>
      cases n with
      | zero => simp [readChunks, readFlat]
      | succ n =>
        rw [readChunks, List.flatten_cons, List.cons_append, readFlat_succ_cons, ← List.flatten_cons,
          ← ihc n]
        cases readChunks n (c :: cs) <;> rfl

theorem decC_eq_dec (f : Fmt) (cs : List (List Nat)) :
    (decC f cs).map (fun p => (p.1, p.2.flatten)) = dec f cs.flatten :=
  decG_hom readChunks readFlat List.flatten readChunks_flatten f cs

/-- literals of a format are bytes -/
def FmtBytes : Fmt → Prop
  | .framed pre f post => IsBytes pre ∧ FmtBytes f ∧ IsBytes post
  | .pair a b => FmtBytes a ∧ FmtBytes b
  | .vec _ _ f => FmtBytes f
  | .opt _ _ f => FmtBytes f
  | .tailIf _ a _ b => FmtBytes a ∧ FmtBytes b
  | _ => True

/-- opaque blocks of a value are bytes -/
def ValBytes : Fmt → Val → Prop
  | .raw _, .bytes bs => IsBytes bs
  | .framed _ f _, v => ValBytes f v
  | .pair a b, .pair x y => ValBytes a x ∧ ValBytes b y
  | .vec _ _ f, .list vs => ∀ x ∈ vs, ValBytes f x
  | .opt _ _ f, .some x => ValBytes f x
  | .tailIf _ a _ b, .pair x (.some s) => ValBytes a x ∧ ValBytes b s
  | .tailIf _ a _ _, .pair x _ => ValBytes a x
  | _, _ => True

theorem hexDigit_lt (d : Nat) (h : d < 16) : hexDigit d < 256 := by
  unfold hexDigit; split <;> omega

theorem isBytes_hex (n : Nat) : IsBytes [hexDigit (n / 16 % 16), hexDigit (n % 16)] :=
  isBytes_cons (hexDigit_lt _ (Nat.mod_lt _ (by decide)))
    (isBytes_cons (hexDigit_lt _ (Nat.mod_lt _ (by decide))) isBytes_nil)

/-- An ill-shaped value encodes to `[]`, so the shape of `v` is not assumed. -/
theorem enc_isBytes (f : Fmt) : ∀ v, FmtBytes f → ValBytes f v → IsBytes (enc f v) := by
  induction f with
  | unit => intro v _ _; exact isBytes_nil
  | uint w => intro v _ _; cases v <;> first | exact leBytes_isBytes _ _ | exact isBytes_nil
  | raw n => intro v _ hv; cases v <;> first | exact hv | exact isBytes_nil
  | hex2 _ | shex2 => intro v _ _; cases v <;> first | exact isBytes_hex _ | exact isBytes_nil
  | framed pre f post ih =>
    intro v ⟨h1, h2, h3⟩ hv
    exact isBytes_append (isBytes_append h1 (ih v h2 hv)) h3
  | pair a b iha ihb =>
    intro v ⟨h1, h2⟩ hv
    cases v with
    | pair x y => exact isBytes_append (iha x h1 hv.1) (ihb y h2 hv.2)
    | _ => exact isBytes_nil
  | vec mg w f ih =>
    intro v h1 hv
    cases v with
    | list vs =>
      refine isBytes_append (leBytes_isBytes _ _) fun b hb => ?_
      obtain ⟨l, hl, hbl⟩ := List.mem_flatten.mp hb
      obtain ⟨x, hx, rfl⟩ := List.mem_map.mp hl
      exact ih x h1 (hv x hx) b hbl
    | _ => exact isBytes_nil
  | opt kp ru f ih =>
    intro v h1 hv
    cases v with
    | none => exact isBytes_cons (by decide) isBytes_nil
    | some x => exact isBytes_cons (by decide) (ih x h1 hv)
    | _ => exact isBytes_nil
  | tailIf kp a p b iha ihb =>
    intro v ⟨h1, h2⟩ hv
    cases v with
    | pair x y =>
      simp only [enc]
      cases y with
      | some s =>
        refine isBytes_append (iha x h1 hv.1) ?_
        split
        · exact ihb s h2 hv.2
        · exact isBytes_nil
      | _ =>
        refine isBytes_append (iha x h1 hv) ?_
        split <;> exact isBytes_nil
    | _ => exact isBytes_nil

theorem wtb_sound (f : Fmt) : ∀ v, wtb f v = true → WT f v := by
  induction f with
  | unit => intro v h; cases v <;> first | rfl | cases h
  | uint _ | hex2 _ => intro v h; cases v <;> first | cases h | exact ⟨_, rfl, of_decide_eq_true h⟩
  | raw n => intro v h; cases v <;> first | cases h | exact ⟨_, rfl, by simpa [wtb] using h⟩
  | shex2 =>
    intro v h; cases v <;> first | cases h | exact ⟨_, rfl, by simpa [wtb] using h⟩
  | framed pre f post ih => intro v h; exact ih v h
  | pair a b iha ihb =>
    intro v h
    cases v <;> first | cases h | skip
    rw [wtb, Bool.and_eq_true] at h
    exact ⟨_, _, rfl, iha _ h.1, ihb _ h.2⟩
  | vec mg w f ih =>
    intro v h
    cases v <;> first | cases h | skip
    simp only [wtb, Bool.and_eq_true, decide_eq_true_eq, List.all_eq_true] at h
    exact ⟨_, rfl, h.1.1, h.1.2, fun x hx => ih x (h.2 x hx)⟩
  | opt kp ru f ih =>
    intro v h
    cases v <;> first | cases h | skip
    · exact Or.inl rfl
    · exact Or.inr ⟨_, rfl, ih _ h⟩
  | tailIf kp a p b iha ihb =>
    intro v h
    cases v <;> first | cases h | skip
    simp only [wtb, Bool.and_eq_true] at h
    refine ⟨_, _, rfl, iha _ h.1, ?_⟩
    have h2 := h.2
    rename_i x y
    cases y <;> simp at h2
    · exact Or.inr ⟨h2, rfl⟩
    · exact Or.inl ⟨h2.1, _, rfl, ihb _ h2.2⟩

end Lattigo.Codec
