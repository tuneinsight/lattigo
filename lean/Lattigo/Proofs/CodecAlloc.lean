/-
  C08 — allocation requests of the Go decoders (`allocs` of `Model/Codec.lean`), for the code
  with the fixes C08-C/K/P applied and the unread bytes known (`UnmarshalBinary`).
    * `allocs_bounded`: on EVERY input, every request is at most `max bs.length blockMax`;
    * `allocs_honest` : on the encoding of a well-typed value the requests are exactly the
      element counts present in the value (the check never rejects an honest input).
-/
import Lattigo.Proofs.Codec

namespace Lattigo.Codec

theorem readFlat_suffix {n : Nat} {bs xs r : List Nat} (h : readFlat n bs = some (xs, r)) :
    r.length ≤ bs.length := by
  unfold readFlat at h
  split at h <;> cases h
  simp

theorem dec_suffix (f : Fmt) : ∀ bs v r, dec f bs = some (v, r) → r.length ≤ bs.length := by
  intro bs v r h
  -- an invariant of one run is what the run simulated by itself keeps
  obtain ⟨_, _, _, hr⟩ := decG_sim (fun s t => s = t ∧ s.length ≤ bs.length)
    (fun n s t xs s' hR e => ⟨s', hR.1 ▸ e, rfl, Nat.le_trans (readFlat_suffix e) hR.2⟩)
    f bs bs v r ⟨rfl, Nat.le_refl _⟩ h
  exact hr

theorem allocsN_bounded (d : List Nat → Option (Val × List Nat)) (al : List Nat → List Nat)
    (hd : ∀ s v r, d s = some (v, r) → r.length ≤ s.length)
    (hal : ∀ s, ∀ a ∈ al s, a ≤ max s.length blockMax) :
    ∀ n s, ∀ a ∈ allocsN d al n s, a ≤ max s.length blockMax := by
  intro n
  induction n with
  | zero => intro s a ha; cases ha
  | succ n ih =>
    intro s a ha
    simp only [allocsN, List.mem_append] at ha
    rcases ha with ha | ha
    · exact hal s a ha
    · split at ha <;> try cases ha
      rename_i h1
      have := hd _ _ _ h1; have := ih _ a ha; omega

theorem mem_ite_cons_le {c : Prop} [Decidable c] {a n B : Nat} {L : List Nat} (hn : c → n ≤ B)
    (hL : ∀ a ∈ L, a ≤ B) (ha : a ∈ if c then n :: L else []) : a ≤ B := by
  by_cases hc : c
  · rw [if_pos hc] at ha
    rcases List.mem_cons.mp ha with rfl | ha
    · exact hn hc
    · exact hL a ha
  · rw [if_neg hc] at ha; cases ha

theorem allocs_bounded (f : Fmt) : ∀ bs, ∀ a ∈ allocs f bs, a ≤ max bs.length blockMax := by
  induction f with
  | unit | uint _ | raw _ | hex2 _ | shex2 => intro bs a ha; cases ha
  | framed pre f post ih =>
    intro bs a ha
    simp only [allocs] at ha
    split at ha <;> try cases ha
    rename_i h1
    split at ha <;> try cases ha
    have := ih _ a ha; have := readFlat_suffix h1; omega
  | pair x y ihx ihy =>
    intro bs a ha
    simp only [allocs, List.mem_append] at ha
    rcases ha with ha | ha
    · exact ihx bs a ha
    · split at ha <;> try cases ha
      rename_i h1
      have := ihy _ a ha; have := dec_suffix x _ _ _ h1; omega
  | vec k w f ih =>
    intro bs a ha
    simp only [allocs] at ha
    split at ha <;> try cases ha
    rename_i xs s1 h1
    have h1 := readFlat_suffix h1
    have hN : ∀ a ∈ allocsN (dec f) (allocs f) (leVal xs) s1, a ≤ max bs.length blockMax :=
      fun a ha => by
        have := allocsN_bounded (dec f) (allocs f) (dec_suffix f) ih (leVal xs) s1 a ha; omega
    cases k with
    | slice | block => exact mem_ite_cons_le (fun h => by omega) hN ha
    | _ => exact hN a ha
  | opt kp ru f ih =>
    intro bs a ha
    simp only [allocs] at ha
    split at ha <;> try cases ha
    rename_i h1
    split at ha <;> try cases ha
    have := ih _ a ha; have := readFlat_suffix h1; omega
  | tailIf kp x p y ihx ihy => intro bs a ha; exact ihx bs a ha

theorem minSize_le (f : Fmt) : ∀ v, WT f v → minSize f ≤ (enc f v).length := by
  induction f with
  | unit => intro v _; exact Nat.zero_le _
  | uint w => intro v ⟨n, hv, _⟩; subst hv; exact Nat.le_of_eq (leBytes_length w n).symm
  | raw n => intro v ⟨bs, hv, hl⟩; subst hv; exact Nat.le_of_eq hl.symm
  | hex2 m => intro v ⟨n, hv, _⟩; subst hv; exact Nat.le_refl 2
  | shex2 => intro v ⟨z, hv, _⟩; subst hv; exact Nat.le_refl 2
  | framed pre f post ih =>
    intro v h
    have := ih v h
    simp only [minSize, enc, List.length_append]; omega
  | pair a b iha ihb =>
    intro v ⟨x, y, hv, hx, hy⟩; subst hv
    have := iha x hx; have := ihb y hy
    simp only [minSize, enc, List.length_append]; omega
  | vec k w f ih =>
    intro v ⟨vs, hv, _, _, _⟩; subst hv
    simp only [minSize, enc, List.length_append, leBytes_length]; omega
  | opt kp ru f ih =>
    intro v h
    rcases h with hv | ⟨x, hv, _⟩ <;> subst hv <;> simp [minSize, enc]
  | tailIf kp a p b iha ihb =>
    intro v ⟨x, y, hv, hx, _⟩; subst hv
    have := iha x hx
    simp only [minSize, enc, List.length_append]; omega

theorem length_le_flatten (e : Val → List Nat) (vs : List Val)
    (h : ∀ x ∈ vs, 1 ≤ (e x).length) : vs.length ≤ ((vs.map e).flatten).length := by
  induction vs with
  | nil => simp
  | cons x xs ih =>
    have h1 := h x (List.mem_cons_self ..)
    have h2 := ih (fun y hy => h y (List.mem_cons_of_mem _ hy))
    simp only [List.map_cons, List.flatten_cons, List.length_cons, List.length_append]; omega

theorem allocsN_flatten (f : Fmt) (vs : List Val)
    (hrt : ∀ x ∈ vs, ∀ r, dec f (enc f x ++ r) = some (x, r))
    (hal : ∀ x ∈ vs, ∀ r, allocs f (enc f x ++ r) = lens f x) (rest : List Nat) :
    allocsN (dec f) (allocs f) vs.length ((vs.map (enc f)).flatten ++ rest)
      = (vs.map (lens f)).flatten := by
  induction vs with
  | nil => simp [allocsN]
  | cons x xs ih =>
    have h1 := hal x (List.mem_cons_self ..) ((xs.map (enc f)).flatten ++ rest)
    have h2 := hrt x (List.mem_cons_self ..) ((xs.map (enc f)).flatten ++ rest)
    have ih' := ih (fun y hy => hrt y (List.mem_cons_of_mem _ hy))
      (fun y hy => hal y (List.mem_cons_of_mem _ hy))
    simp only [List.map_cons, List.flatten_cons, List.length_cons, List.append_assoc, allocsN,
      h1, h2, ih']

theorem allocs_honest (f : Fmt) :
    PosElems f → ∀ v rest, WT f v → allocs f (enc f v ++ rest) = lens f v := by
  induction f with
  | unit | uint _ | raw _ | hex2 _ | shex2 => intro _ v rest _; rfl
  | framed pre f post ih =>
    intro hp v rest h
    simp only [enc, allocs, lens, List.append_assoc, readFlat_append _ pre _ rfl, if_true,
      ih hp v _ h]
  | pair a b iha ihb =>
    intro hp v rest ⟨x, y, hv, hx, hy⟩; subst hv
    simp only [enc, allocs, lens, List.append_assoc, iha hp.1 x _ hx, roundtrip a x _ hx,
      ihb hp.2 y _ hy]
  | vec k w f ih =>
    intro ⟨hpf, hpos⟩ v rest ⟨vs, hv, hlen, hblk, hall⟩; subst hv
    have hN := allocsN_flatten f vs (fun x hx r => roundtrip f x r (hall x hx))
      (fun x hx r => ih hpf x r (hall x hx)) rest
    simp only [enc, allocs, lens, List.append_assoc, readFlat_leBytes, leVal_leBytes w _ hlen, hN]
    cases k with
    | slice =>
      have h1 : vs.length ≤ ((vs.map (enc f)).flatten ++ rest).length := by
        have := length_le_flatten (enc f) vs (fun x hx => by
          have := minSize_le f x (hall x hx); have := hpos rfl; omega)
        simp only [List.length_append]; omega
      simp only [h1, if_true]
    | block => simp only [hblk rfl, if_true]
    | map => rfl
    | mapKeep => rfl
  | opt kp ru f ih =>
    intro hp v rest h
    rcases h with hv | ⟨x, hv, hx⟩ <;> subst hv
    · simp [enc, allocs, lens, readFlat_one]
    · simp only [enc, allocs, lens, List.cons_append, readFlat_one, if_true, ih hp x _ hx]
  | tailIf kp a p b iha ihb =>
    intro hp v rest ⟨x, y, hv, hx, hy⟩; subst hv
    simp only [enc, allocs, lens, List.append_assoc, iha hp.1 x _ hx]

instance PosElems.decidable : (f : Fmt) → Decidable (PosElems f)
  | .unit | .uint _ | .raw _ | .hex2 _ | .shex2 => instDecidableTrue
  | .framed _ f _ | .opt _ _ f => PosElems.decidable f
  | .pair a b | .tailIf _ a _ b => @instDecidableAnd _ _ (PosElems.decidable a) (PosElems.decidable b)
  | .vec k _ f => @instDecidableAnd _ _ (PosElems.decidable f)
      (inferInstanceAs (Decidable (k = .slice → 1 ≤ minSize f)))

theorem fmtOf_posElems (name : String) (f : Fmt) (h : fmtOf name = some f) : PosElems f := by
  unfold fmtOf at h
  split at h <;> first | (cases h; decide) | cases h

theorem posElems_polyQP : PosElems polyQP := by decide
theorem posElems_vectorQP : PosElems vectorQP := by decide
theorem posElems_ciphertext : PosElems ciphertext := by decide
theorem posElems_evalKey : PosElems evalKey := by decide
theorem posElems_paramsBlock : PosElems paramsBlock := by decide

end Lattigo.Codec
