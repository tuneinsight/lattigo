/-
  C08 — the receiver of the Go decoders (`decInto` of `Model/Codec.lean`).
    * `decInto_fresh` : with a fresh receiver `decInto` is `dec`;
    * `decInto_clean` : for a format without sticky flags / kept optionals / merging maps
      (`mapKeep`) / kept conditional suffixes (`tailIf` with `keep`) the receiver is irrelevant —
      so those four flavours are the ONLY places where state of the receiver can leak into the
      decoded value. Plain maps and conditional suffixes are `Clean`: `mapOf`, `evalKey`.
-/
import Lattigo.Proofs.Codec

namespace Lattigo.Codec

/-- After the recursive calls have been rewritten, `decInto f r` and `decG readFlat f` are the same
    case tree, written with the auxiliary matchers of two different definitions; `rfl` sees that
    once those matchers may be unfolded like any other definition. -/
local macro "rfl_case_tree" : tactic => `(tactic| set_option smartUnfolding false in rfl)

theorem decNI_const (d : Val → List Nat → Option (Val × List Nat))
    (d' : List Nat → Option (Val × List Nat)) (rs : List Val)
    (h : ∀ r, r = .unit ∨ r ∈ rs → ∀ s, d r s = d' s) :
    ∀ n s, decNI d rs n s = decN d' n s := by
  intro n
  induction n generalizing rs with
  | zero => intro s; rfl
  | succ n ih =>
    intro s
    simp only [decNI, decN, h (rs.headD .unit) (by cases rs <;> simp) s,
      ih rs.tail fun r hr => h r (hr.imp id List.mem_of_mem_tail)]
    rfl_case_tree

theorem decInto_fresh (f : Fmt) : ∀ bs, decInto f .unit bs = dec f bs := by
  unfold dec
  induction f with
  | unit | uint _ | raw _ | shex2 => intro bs; rfl_case_tree
  | hex2 m => intro bs; cases m <;> rfl_case_tree
  | framed pre f post ih => intro bs; simp only [decInto, decG, ih]; rfl_case_tree
  | pair a b iha ihb => intro bs; simp only [decInto, decG, fstR, sndR, iha, ihb]; rfl_case_tree
  | vec k w f ih =>
    intro bs
    -- stated for the terms as they stand in `decInto` (`asList .unit` is `[]`): `simp` would rewrite
    -- the condition of the `if` but not its `Decidable` instance, and `ite_self` does not apply to that
    have e (c : Prop) [Decidable c] : (if c then asList Val.unit else []) = [] := ite_self _
    have hN : ∀ n s, decNI (decInto f) [] n s = decN (decG readFlat f) n s :=
      decNI_const _ _ [] fun r hr => by rw [hr.resolve_right List.not_mem_nil]; exact ih
    simp only [decInto, decG, e, hN]
    cases k <;> rfl_case_tree
  | opt kp ru f ih =>
    intro bs; simp only [decInto, decG, optInner, ite_self, ih]; cases kp <;> rfl_case_tree
  | tailIf kp a p b iha ihb =>
    intro bs; simp only [decInto, decG, fstR, iha, ihb]; cases kp <;> rfl_case_tree

theorem decInto_clean (f : Fmt) : Clean f → ∀ r bs, decInto f r bs = dec f bs := by
  unfold dec
  induction f with
  | unit | uint _ | raw _ | shex2 => intro _ r bs; rfl_case_tree
  | hex2 m =>
    intro hc r bs
    cases m with
    | sticky => exact absurd rfl hc
    | _ => rfl_case_tree
  | framed pre f post ih => intro hc r bs; simp only [decInto, decG, ih hc]; rfl_case_tree
  | pair a b iha ihb => intro hc r bs; simp only [decInto, decG, iha hc.1, ihb hc.2]; rfl_case_tree
  | vec k w f ih =>
    intro hc r bs
    have hN : ∀ rs n s, decNI (decInto f) rs n s = decN (decG readFlat f) n s :=
      fun rs => decNI_const _ _ rs fun r _ => ih hc.2 r
    simp only [decInto, decG, hN]
    cases k with
    | mapKeep => exact absurd rfl hc.1
    | _ => rfl_case_tree
  | opt kp ru f ih =>
    intro hc r bs
    simp only [decInto, decG, ih hc.2, hc.1]; rfl_case_tree
  | tailIf kp a p b iha ihb =>
    intro hc r bs
    simp only [decInto, decG, iha hc.2.1, ihb hc.2.2, hc.1]; rfl_case_tree

instance Clean.decidable : (f : Fmt) → Decidable (Clean f)
  | .unit | .uint _ | .raw _ | .shex2 => instDecidableTrue
  | .hex2 m => inferInstanceAs (Decidable (m ≠ .sticky))
  | .framed _ f _ => Clean.decidable f
  | .pair a b => @instDecidableAnd _ _ (Clean.decidable a) (Clean.decidable b)
  | .vec k _ f => @instDecidableAnd _ _ (inferInstanceAs (Decidable (k ≠ .mapKeep))) (Clean.decidable f)
  | .opt keep _ f => @instDecidableAnd _ _ (inferInstanceAs (Decidable (keep = false))) (Clean.decidable f)
  | .tailIf keep a _ b => @instDecidableAnd _ _ (inferInstanceAs (Decidable (keep = false)))
      (@instDecidableAnd _ _ (Clean.decidable a) (Clean.decidable b))

theorem fmtOf_clean (name : String) (f : Fmt) (h : fmtOf name = some f) : Clean f := by
  unfold fmtOf at h
  split at h <;> first | (cases h; decide) | cases h

end Lattigo.Codec
