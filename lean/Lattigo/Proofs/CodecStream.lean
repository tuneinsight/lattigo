/-
  C08 — transports that return short counts, and the field table.
    * `readFullLoop_flatten` / `decS_eq_dec`: a decoder whose fixed-width reads are `io.ReadFull`
      loops computes, on ANY sequence of short counts, what the flat decoder computes on the
      concatenation;
    * `fields_complete`: the field table has one Go field per leaf of every format.
-/
import Lattigo.Proofs.Codec

namespace Lattigo.Codec

/-- `readFullLoop` is the `io.ReadFull` loop over `readOnce`. -/
theorem readFullLoop_step (n : Nat) (c : List Nat) (cs : List (List Nat)) :
    readFullLoop (n + 1) (c :: cs) =
      (if (readOnce (n + 1) (c :: cs)).1.length = n + 1 then
        some ((readOnce (n + 1) (c :: cs)).1, (readOnce (n + 1) (c :: cs)).2)
      else
        (readFullLoop (n + 1 - (readOnce (n + 1) (c :: cs)).1.length) (readOnce (n + 1) (c :: cs)).2).map
          (fun p => ((readOnce (n + 1) (c :: cs)).1 ++ p.1, p.2))) := by
  simp only [readFullLoop, readOnce]
  by_cases h : c.length ≤ n + 1
  · simp only [h, if_true]
    by_cases h2 : c.length = n + 1
    · simp [h2, readFullLoop]
    · simp only [h2, if_false]
      cases readFullLoop (n + 1 - c.length) cs <;> simp
  · simp only [h, if_false]
    have : (c.take (n + 1)).length = n + 1 := by simp; omega
    simp [this]

theorem readFlat_append_le (n : Nat) (c F : List Nat) (h : c.length ≤ n) :
    readFlat n (c ++ F) = (readFlat (n - c.length) F).map (fun p => (c ++ p.1, p.2)) := by
  unfold readFlat
  rw [List.length_append, List.take_append, List.drop_append, List.take_of_length_le h,
    List.drop_of_length_le h]
  by_cases h2 : n - c.length ≤ F.length
  · rw [if_pos h2, if_pos (by omega)]; rfl
  · rw [if_neg h2, if_neg (by omega)]; rfl

theorem readFullLoop_flatten (n : Nat) (cs : List (List Nat)) :
    (readFullLoop n cs).map (fun p => (p.1, p.2.flatten)) = readFlat n cs.flatten := by
  induction cs generalizing n with
  | nil => cases n <;> simp [readFullLoop, readFlat]
  | cons c cs ih =>
    cases n with
    | zero => simp [readFullLoop, readFlat]
    | succ n =>
      simp only [readFullLoop, List.flatten_cons]
      by_cases h : c.length ≤ n + 1
      · rw [if_pos h, readFlat_append_le _ c _ h, ← ih]
        cases readFullLoop (n + 1 - c.length) cs <;> rfl
      · have hc : readFlat (n + 1) c = some (c.take (n + 1), c.drop (n + 1)) := by
          rw [readFlat, if_pos (by omega)]
        rw [if_neg h, readFlat_append_right hc]; rfl

theorem decS_eq_dec (f : Fmt) (cs : List (List Nat)) :
    (decS f cs).map (fun p => (p.1, p.2.flatten)) = dec f cs.flatten :=
  decG_hom readFullLoop readFlat List.flatten readFullLoop_flatten f cs

def fieldsOK (g : String) : Bool :=
  match goFields g with
  | some (ty, ser, _) =>
    match fmtOf ty with
    | some f => ser.length == leafCount f
    | none => false
  | none => false

theorem fields_complete : ∀ g ∈ goTypes, fieldsOK g = true := by decide +kernel

end Lattigo.Codec
