/-
  C10 — the two halves of `Lattigo/Model/Copy.lean`.  Copy constructors on records: field `k` of the copy is `copyField`
  of field `k` of the original at the fresh address `next + k` (`copyFrom_get`), from which what each class of the table
  means for addresses and content is read off.  Agents on a shared store: under the ownership discipline
  (`Disciplined`) a step of another agent is invisible to an agent (`step_invisible`) and the agent's own steps depend
  only on what it sees (`run_proj_congr`), hence `Props.C10.noninterference` for every interleaving.
-/
import Lattigo.Model.Copy

namespace Lattigo.Copy

theorem copyFrom_length (r : Row) (next fresh : Nat) : ∀ (i : Nat) (o : Obj),
    (copyFrom r next fresh i o).length = o.length
  | _, [] => rfl
  | i, _ :: fs => by simp [copyFrom, copyFrom_length r next fresh (i + 1) fs]

theorem copyFrom_get (r : Row) (next fresh : Nat) : ∀ (i : Nat) (o : Obj) (k : Nat) (f : Field),
    o[k]? = some f →
    (copyFrom r next fresh i o)[k]? = some (copyField (classOf r f.name) (next + (i + k)) fresh f)
  | _, [], k, f, h => by simp at h
  | i, g :: fs, 0, f, h => by
    simp at h; subst h; simp [copyFrom]
  | i, g :: fs, k + 1, f, h => by
    simp at h
    have := copyFrom_get r next fresh (i + 1) fs k f h
    simp [copyFrom, this]
    congr 2; omega

theorem copy_owned_addr (r : Row) (next fresh : Nat) (o : Obj) (k : Nat) (f : Field)
    (hf : o[k]? = some f) (hc : classOf r f.name = .owned) :
    (applyCtor r next fresh o)[k]? = some { f with addr := next + k } := by
  have := copyFrom_get r next fresh 0 o k f hf
  simp [applyCtor, this, hc, copyField]

def addrs (o : Obj) : List Nat := (o.map (·.addr)).filter (· ≠ 0)

theorem copy_addr_cases (r : Row) (next fresh : Nat) (o : Obj) (k : Nat) (f : Field)
    (hf : o[k]? = some f) :
    ∃ g, (applyCtor r next fresh o)[k]? = some g ∧
      (g.addr = f.addr ∨ g.addr = 0 ∨ g.addr = next + k) := by
  have h := copyFrom_get r next fresh 0 o k f hf
  refine ⟨_, by simpa [applyCtor] using h, ?_⟩
  cases classOf r f.name <;> simp [copyField]

theorem applyCtor_get (r : Row) (next fresh : Nat) (o : Obj) (k : Nat) (g : Field)
    (hg : (applyCtor r next fresh o)[k]? = some g) :
    ∃ f, o[k]? = some f ∧ g = copyField (classOf r f.name) (next + k) fresh f := by
  have hk : k < o.length := by
    have := copyFrom_length r next fresh 0 o
    have hlt : k < (applyCtor r next fresh o).length := by
      rcases Nat.lt_or_ge k (applyCtor r next fresh o).length with h | h
      · exact h
      · simp [List.getElem?_eq_none h] at hg
    simpa [applyCtor, this] using hlt
  have hf : o[k]? = some o[k] := by simp [hk]
  have h := copyFrom_get r next fresh 0 o k o[k] hf
  have : (applyCtor r next fresh o)[k]? = some (copyField (classOf r o[k].name) (next + k) fresh o[k]) := by
    simpa [applyCtor] using h
  rw [this] at hg
  exact ⟨o[k], hf, (Option.some.inj hg).symm⟩

variable {α : Type}

/-- the ownership discipline of a schedule: every step of agent `i` writes only locations owned by
    `i`, reads only locations owned by `i` or shared, and its written values depend only on what it
    reads -/
structure Disciplined (owned : Nat → Loc → Prop) (shared : Loc → Prop) (sch : Sched α) : Prop where
  writes : ∀ i s, (i, s) ∈ sch → ∀ l ∈ s.writes, owned i l
  reads : ∀ i s, (i, s) ∈ sch → ∀ l ∈ s.reads, owned i l ∨ shared l
  local_ : ∀ i s, (i, s) ∈ sch → ∀ σ σ' : State α, (∀ l ∈ s.reads, σ l = σ' l) →
    ∀ l ∈ s.writes, s.f σ l = s.f σ' l

theorem Disciplined.tail {owned : Nat → Loc → Prop} {shared : Loc → Prop} {t : Nat × Step α}
    {rest : Sched α} (h : Disciplined owned shared (t :: rest)) : Disciplined owned shared rest :=
  ⟨fun i s hm => h.writes i s (List.mem_cons_of_mem _ hm),
   fun i s hm => h.reads i s (List.mem_cons_of_mem _ hm),
   fun i s hm => h.local_ i s (List.mem_cons_of_mem _ hm)⟩

def View (owned : Nat → Loc → Prop) (shared : Loc → Prop) (i : Nat) (l : Loc) : Prop :=
  owned i l ∨ shared l

theorem step_invisible {owned : Nat → Loc → Prop} {shared : Loc → Prop}
    (hdisj : ∀ i j l, i ≠ j → owned i l → ¬ owned j l)
    (hsh : ∀ i l, owned i l → ¬ shared l)
    {i j : Nat} (hij : i ≠ j) (s : Step α) (hw : ∀ l ∈ s.writes, owned j l) (σ : State α)
    (l : Loc) (hv : View owned shared i l) : s.apply σ l = σ l := by
  unfold Step.apply
  split
  · rename_i hmem
    have hj := hw l hmem
    rcases hv with hi | hs
    · exact absurd hj (hdisj i j l hij hi)
    · exact absurd hs (hsh j l hj)
  · rfl

theorem run_proj_congr {owned : Nat → Loc → Prop} {shared : Loc → Prop}
    (hsh : ∀ i l, owned i l → ¬ shared l) (i : Nat) :
    ∀ (sch : Sched α), Disciplined owned shared sch → (∀ t ∈ sch, t.1 = i) →
    ∀ σ σ' : State α, (∀ l, View owned shared i l → σ l = σ' l) →
    ∀ l, View owned shared i l → runSched sch σ l = runSched sch σ' l
  | [], _, _, _, _, h, l, hv => h l hv
  | (j, s) :: rest, hd, hall, σ, σ', h, l, hv => by
    have hj : j = i := hall (j, s) (List.mem_cons_self ..)
    subst hj
    simp only [runSched]
    apply run_proj_congr hsh j rest hd.tail (fun t ht => hall t (List.mem_cons_of_mem _ ht))
    · intro l' hv'
      unfold Step.apply
      have hreads : ∀ r ∈ s.reads, σ r = σ' r := fun r hr =>
        h r (hd.reads j s (List.mem_cons_self ..) r hr)
      split
      · rename_i hmem
        exact hd.local_ j s (List.mem_cons_self ..) σ σ' hreads l' hmem
      · exact h l' hv'
    · exact hv

theorem proj_all (i : Nat) (sch : Sched α) : ∀ t ∈ proj i sch, t.1 = i := by
  intro t ht
  simp [proj] at ht
  exact ht.2

theorem Disciplined.proj {owned : Nat → Loc → Prop} {shared : Loc → Prop} {sch : Sched α}
    (h : Disciplined owned shared sch) (i : Nat) : Disciplined owned shared (proj i sch) :=
  ⟨fun j s hm => h.writes j s (by simp [Copy.proj] at hm; exact hm.1),
   fun j s hm => h.reads j s (by simp [Copy.proj] at hm; exact hm.1),
   fun j s hm => h.local_ j s (by simp [Copy.proj] at hm; exact hm.1)⟩

end Lattigo.Copy
