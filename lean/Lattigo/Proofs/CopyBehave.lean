/-
  C10 — `copy_behaves_same` as a general theorem of the model.

  An operation of a copyable object is a TEMPLATE program (`Store.Prog`) over symbolic objects: the fields of the
  receiver (template object k = field k) and the objects the caller hands in.  An INSTANCE of the object maps every
  template object to the memory it refers to (`addr` of the field).  A copy constructor following its table row maps
  the fields of the classes of `FieldClass.keeps` (`config`, `sharedRO`, `absent`, `sharedCache`, `sharedScratch`) to the SAME
  memory and the fields classified `owned` (scratch)
  to fresh memory.  If the operation never reads a scratch field before writing it (`Reads`), the original and the copy
  — run on ONE shared store, whatever the scratch of either holds — produce the same content in every non-scratch
  object the operation writes.
-/
import Lattigo.Proofs.StorePTS
import Lattigo.Proofs.Copy

namespace Lattigo.Store

variable {α : Type}

def liftObj (ρ : Nat → Nat) (x : Loc) : Loc := ⟨ρ x.obj, x.fld⟩

theorem liftObj_inj (ρ : Nat → Nat) (h : ∀ a b, ρ a = ρ b → a = b) (x y : Loc) (e : liftObj ρ x = liftObj ρ y) : x = y := by
  rcases x with ⟨xo, xf⟩; rcases y with ⟨yo, yf⟩
  simp only [liftObj, Loc.mk.injEq] at e
  rw [h _ _ e.1, e.2]

theorem copy_behaves_same (I : Interp α) (T : Prog) (S : Nat → Prop) (ρ1 ρ2 : Nat → Nat)
    (h1 : ∀ a b, ρ1 a = ρ1 b → a = b) (h2 : ∀ a b, ρ2 a = ρ2 b → a = b)
    (hsame : ∀ a, ¬ S a → ρ1 a = ρ2 a)
    (hreads : Reads (fun x => ¬ S x.obj) T) (σ : Store α) (x : Loc) (hx : ¬ S x.obj ∨ Written T x) :
    run I (T.map (Step.ren (liftObj ρ1))) σ (liftObj ρ1 x) = run I (T.map (Step.ren (liftObj ρ2))) σ (liftObj ρ2 x) := by
  -- each instance runs like the template on the store seen through it (`run_ren`); the two views agree off the scratch
  rw [run_ren I _ (liftObj_inj ρ1 h1), run_ren I _ (liftObj_inj ρ2 h2)]
  exact run_agree I T _ _ _ hreads (fun y hy => by simp only [Store.pull, liftObj, hsame _ hy]) x hx

end Lattigo.Store

namespace Lattigo.Copy

/-- the classes under which a field of the copy IS the field of the original -/
def FieldClass.keeps : FieldClass → Bool
  | .config | .sharedRO | .absent | .sharedCache | .sharedScratch => true
  | _ => false

theorem copy_keeps_eq (r : Row) (next fresh : Nat) (o : Obj) (k : Nat) (f : Field)
    (hf : o[k]? = some f) (hc : (classOf r f.name).keeps = true) :
    (applyCtor r next fresh o)[k]? = some f := by
  have := copyFrom_get r next fresh 0 o k f hf
  rw [applyCtor, this]
  cases h : classOf r f.name <;> simp [h, FieldClass.keeps] at hc <;> simp [copyField]

/-- the memory a template object refers to in an instance `o`: template object `k < o.length` is field `k`, the others
    are the caller's objects -/
def instMap (o : Obj) (ext : Nat → Nat) (k : Nat) : Nat :=
  match o[k]? with
  | some f => f.addr
  | none => ext (k - o.length)

theorem instMap_applyCtor (r : Row) (next fresh : Nat) (o : Obj) (ext : Nat → Nat)
    (hcls : ∀ f ∈ o, (classOf r f.name).keeps = true ∨ classOf r f.name = .owned) (a : Nat)
    (ha : ¬ ∃ f, o[a]? = some f ∧ classOf r f.name = .owned) :
    instMap o ext a = instMap (applyCtor r next fresh o) ext a := by
  unfold instMap
  have hlen : (applyCtor r next fresh o).length = o.length := by simp [applyCtor, copyFrom_length]
  cases hoa : o[a]? with
  | none =>
    have : (applyCtor r next fresh o)[a]? = none := by
      rw [List.getElem?_eq_none_iff] at hoa ⊢
      omega
    simp [this, hlen]
  | some f =>
    have hmem : f ∈ o := List.mem_of_getElem? hoa
    have hk : (classOf r f.name).keeps = true := by
      rcases hcls f hmem with h | h
      · exact h
      · exact absurd ⟨f, hoa, h⟩ ha
    simp [copy_keeps_eq r next fresh o a f hoa hk]

open Lattigo.Store (st L) in
section
/-- Decryptor as an object: field 0 `buff` (scratch), 1 `params`, 2 `ringQ`, 3 `sk` -/
def exDec : Obj := [⟨"buff", 100, 0⟩, ⟨"params", 102, 0⟩, ⟨"ringQ", 104, 0⟩, ⟨"sk", 106, 0⟩]
def exRow : Row := [("buff", .owned), ("params", .sharedRO), ("ringQ", .sharedRO), ("sk", .sharedRO)]
def exExt (k : Nat) : Nat := 2 * k + 1001   -- the caller's objects live at odd addresses, fields at even ones
/-- Decrypt of a coefficient-domain ciphertext (template objects: 0 = buff, 3 = sk, 4 = ct, 5 = pt) -/
def exT : Store.Prog :=
  [ st (L 5 0) .ntt [L 4 1], st (L 5 0) .mulM [L 5 0, L 3 0], st (L 0 0) .ntt [L 4 0], st (L 5 0) .add [L 5 0, L 0 0],
    st (L 5 0) .reduce [L 5 0], st (L 5 0) .intt [L 5 0] ]

theorem instMap_of_lt (o : Obj) (ext : Nat → Nat) (k : Nat) (h : k < o.length) : instMap o ext k = o[k].addr := by
  simp [instMap, h]

theorem instMap_of_ge (o : Obj) (ext : Nat → Nat) (k : Nat) (h : o.length ≤ k) :
    instMap o ext k = ext (k - o.length) := by
  simp [instMap, List.getElem?_eq_none h]

theorem instMap_inj (o : Obj) (ext : Nat → Nat) (hnd : (o.map (·.addr)).Nodup)
    (hext : ∀ a b, ext a = ext b → a = b) (hdisj : ∀ f ∈ o, ∀ k, f.addr ≠ ext k) (a b : Nat)
    (e : instMap o ext a = instMap o ext b) : a = b := by
  rcases Nat.lt_or_ge a o.length with ha | ha <;> rcases Nat.lt_or_ge b o.length with hb | hb
  · rw [instMap_of_lt o ext a ha, instMap_of_lt o ext b hb] at e
    have : (o.map (·.addr))[a]'(by simpa using ha) = (o.map (·.addr))[b]'(by simpa using hb) := by
      simpa only [List.getElem_map] using e
    exact (List.getElem_inj hnd).1 this
  · rw [instMap_of_lt o ext a ha, instMap_of_ge o ext b hb] at e
    exact absurd e (hdisj _ (List.getElem_mem ha) _)
  · rw [instMap_of_ge o ext a ha, instMap_of_lt o ext b hb] at e
    exact absurd e.symm (hdisj _ (List.getElem_mem hb) _)
  · rw [instMap_of_ge o ext a ha, instMap_of_ge o ext b hb] at e
    have := hext _ _ e
    omega

/-- non-vacuity: `rlwe.Decryptor.ShallowCopy` (row of the table) and Decrypt of a coefficient-domain ciphertext, which
    uses the scratch polynomial `buff`: the plaintext the caller receives (template object 5, memory 1003) is the same -/
theorem exDec_behaves_same (α : Type) (I : Store.Interp α) (σ : Store.Store α) (f : Nat) :
    Store.run I (exT.map (Store.Step.ren (Store.liftObj (instMap exDec exExt)))) σ ⟨1003, f⟩ =
    Store.run I (exT.map (Store.Step.ren (Store.liftObj (instMap (applyCtor exRow 300 0 exDec) exExt)))) σ ⟨1003, f⟩ := by
  -- fields live at even addresses, the caller's objects at odd ones
  have hdisj : ∀ o : Obj, (∀ f ∈ o, f.addr % 2 = 0) → ∀ f ∈ o, ∀ k, f.addr ≠ exExt k := by
    intro o ho f hf k e
    have := ho f hf
    simp only [exExt] at e
    omega
  have hext : ∀ a b, exExt a = exExt b → a = b := by intro a b e; simp only [exExt] at e; omega
  have h := Store.copy_behaves_same I exT (fun k => ∃ f, exDec[k]? = some f ∧ classOf exRow f.name = .owned) _ _
    (instMap_inj _ _ (by decide) hext (hdisj _ (by decide)))
    (instMap_inj _ _ (by decide) hext (hdisj _ (by decide)))
    (instMap_applyCtor exRow 300 0 exDec exExt (by decide))
    (by simp (config := {decide := true}) [exT, Store.Reads, exDec, exRow, classOf, L, st]) σ ⟨5, f⟩
    (Or.inl (by simp (config := {decide := true}) [exDec, exRow, classOf]))
  exact h
end

end Lattigo.Copy
