/-
  Integer level of the gadget decomposition (Model/Decomp.lean): digit recombination.

    * power-of-two digits (`MaskVec`): `pow2Digit w j x = ⌊x / 2^{jw}⌋ mod 2^w`, and `n` digits recombine
      to `x mod 2^{wn}` (`pow2Recombine_eq`);
    * RNS digits: `Σ_i d_i·(Q/Q_i)·[(Q/Q_i)⁻¹]_{Q_i} ≡ x (mod Q)` whenever `d_i ≡ x (mod Q_i)`
      (`rnsRecombine_modEq`).
-/
import Lattigo.Model.Decomp
import Lattigo.Proofs.ScalingArith

namespace Lattigo.Decomp
open Lattigo Lattigo.Gen Lattigo.Scaling

theorem pow2Digit_eq (w j x : Nat) : pow2Digit w j x = (x / 2 ^ (j * w)) % 2 ^ w := by
  unfold pow2Digit MaskVec_lane u64and u64shr
  exact Nat.and_two_pow_sub_one_eq_mod _ _

theorem pow2Recombine_eq (w n x : Nat) : pow2Recombine w n x = x % 2 ^ (w * n) := by
  induction n with
  | zero => simp [pow2Recombine, Nat.mod_one]
  | succ n ih =>
    rw [pow2Recombine, ih, pow2Digit_eq, Nat.mul_succ, Nat.pow_add, Nat.mod_mul,
      Nat.mul_comm n w, Nat.mul_comm (2 ^ (w * n))]

-- w = 10, n = 4, q = 2^30 + 5 ≤ 2^40, x = 2^30 + 4
example : 2 ^ 30 + 5 ≤ 2 ^ (10 * 4) ∧ 2 ^ 30 + 4 < 2 ^ 30 + 5
    ∧ pow2Recombine 10 4 (2 ^ 30 + 4) = 2 ^ 30 + 4 := by decide

example : pow2Recombine 10 3 (2 ^ 30 + 5) = 5 := by decide

theorem prodN_pos : ∀ (Qs : List Nat), (∀ Q ∈ Qs, 0 < Q) → 0 < prodN Qs :=
  Scaling.prodN_pos

theorem forall₂_zipWith_right {α β γ : Type} {R : α → β → Prop} {S : α → γ → Prop} (f : α → β → γ) :
    ∀ {L : List α} {ds : List β}, List.Forall₂ R L ds → (∀ a ∈ L, ∀ b, R a b → S a (f a b)) →
      List.Forall₂ S L (List.zipWith f L ds)
  | _, _, .nil, _ => .nil
  | _, _, .cons h t, hS =>
    .cons (hS _ List.mem_cons_self _ h) (forall₂_zipWith_right f t fun a ha => hS a (List.mem_cons_of_mem _ ha))

theorem recombine_eq_sumZ (P : Nat) (inv : Nat → Nat) : ∀ (L : List Nat) (ds : List ℤ),
    (List.zipWith (fun (Qi : Nat) (d : ℤ) => d * ((P / Qi : Nat) : ℤ) * ((inv Qi : Nat) : ℤ)) L ds).foldr (· + ·) 0
      = sumZ P L (List.zipWith (fun Q d => d * ((inv Q : Nat) : ℤ)) L ds)
  | [], _ => rfl
  | _ :: _, [] => by rw [List.zipWith_nil_right, List.zipWith_nil_right, sumZ_nil_right]; rfl
  | Q :: L, d :: ds => by
    rw [List.zipWith_cons_cons, List.zipWith_cons_cons, List.foldr_cons, sumZ_cons, recombine_eq_sumZ P inv L ds,
      mul_right_comm]

/-- the `Q_i` are pairwise coprime, not necessarily prime (a digit modulus is a product of `nbPi` primes) -/
theorem rnsRecombine_modEq (Qs : List Nat) (inv : Nat → Nat) (x : Int) (ds : List Int)
    (hc : Qs.Pairwise Nat.Coprime)
    (hinv : ∀ Q ∈ Qs, ((Scaling.prodN Qs / Q) * inv Q) % Q = 1)
    (hd : List.Forall₂ (fun (Q : Nat) (d : Int) => d % (Q : Int) = x % (Q : Int)) Qs ds) :
    rnsRecombine Qs inv ds % (Scaling.prodN Qs : Int) = x % (Scaling.prodN Qs : Int) := by
  have hpos : ∀ Q ∈ Qs, 0 < Q := fun Q hQ => Nat.pos_of_ne_zero fun h0 => by
    have := hinv Q hQ
    rw [h0, Nat.mod_zero, Nat.div_zero, Nat.zero_mul] at this
    exact absurd this (by decide)
  -- every summand `d_i·inv(Q_i)·(Q/Q_i)` is `≡ x·1 (mod Q_i)`
  have hs := forall₂_zipWith_right (S := fun (q : Nat) (c : ℤ) => c * ((1 * prodN Qs / q : Nat) : ℤ) ≡ x [ZMOD q])
    (fun Q d => d * ((inv Q : Nat) : ℤ)) hd fun Q hQ d (h1 : d ≡ x [ZMOD Q]) => by
      rw [Nat.one_mul, mul_assoc, mul_comm ((inv Q : Nat) : ℤ)]
      have := h1.mul (intCast_mul_modEq_one (hinv Q hQ))
      rwa [mul_one] at this
  have := sumZ_modEq Qs _ 1 x hc hpos hs
  rw [Nat.one_mul] at this
  unfold rnsRecombine
  rw [recombine_eq_sumZ]
  exact this

-- Q = 3·5·7 = 105, inverses of 35, 21, 15 are 2, 1, 1; x = 52 with centred digits
example :
    let Qs := [3, 5, 7]
    let inv : Nat → Nat := fun Q => if Q = 3 then 2 else 1
    let ds : List Int := [1, 2, -4]
    Qs.Pairwise Nat.Coprime ∧ (∀ Q ∈ Qs, 0 < Q)
    ∧ (∀ Q ∈ Qs, ((Scaling.prodN Qs / Q) * inv Q) % Q = 1)
    ∧ List.Forall₂ (fun (Q : Nat) (d : Int) => d % (Q : Int) = (52 : Int) % (Q : Int)) Qs ds
    ∧ rnsRecombine Qs inv ds % (Scaling.prodN Qs : Int) = 52 := by
  refine ⟨by decide, by decide, by decide, ?_, by decide⟩
  exact .cons (by decide) (.cons (by decide) (.cons (by decide) .nil))

#print axioms pow2Digit_eq
#print axioms pow2Recombine_eq
#print axioms rnsRecombine_modEq

end Lattigo.Decomp
