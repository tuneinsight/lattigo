/-
  Limb level ⊑ integer level for `Decomposer.DecomposeAndSplit` (ring/basis_extension.go).

  * single-prime digit (`decompLvl < 0`, copy/re-centre branch): every Q- and P-limb of digit `d` is congruent to the
    centred value of `[x]_{q_d}` (centring convention of the code: `coeff ≥ q_d >> 1` is negative);
  * multi-prime digit (HPS branch, `reconstructRNSCentered` + `multSum` + `SubScalarBigint`): every Q-limb outside the
    digit's own moduli and every P-limb is congruent to `centeredRep Q_d x + δ·Q_d` (`δ = hpsV − v`, `0` for the exact
    index) and `< (k+2)·m`.
  In both cases the digit value `d` satisfies `d ≡ x (mod Q_d)` (`digitA_emod`, `centeredRep_emod`), so `rnsRecombine_modEq`
  applies; for the HPS digits, whatever the index errors, this is `digits_recombine`.
-/
import Lattigo.Proofs.BasisExtLimb
import Lattigo.Proofs.DecompInt
import Lattigo.Proofs.ListLemmas

namespace Lattigo.Decomp
open Lattigo Lattigo.Gen Lattigo.Scaling Lattigo.BasisExt

/-- for a valid digit index (`d·nbPi ≤ levelQ`, `nbPi ≥ 1`) `decompLvl + 2` is the number of moduli of the digit -/
theorem decompLvl_eq (levelQ nbPi d : Nat) (hnb : 0 < nbPi) (hd : d * nbPi ≤ levelQ) :
    decompLvl levelQ nbPi d = ((min (d * nbPi + nbPi) (levelQ + 1) - d * nbPi : ℕ) : ℤ) - 2 := by
  unfold decompLvl
  rw [show (nbPi : ℤ) * ((d : ℤ) + 1) = ((d * nbPi + nbPi : ℕ) : ℤ) by
    rw [Nat.cast_add, Nat.cast_mul, mul_add, mul_one, mul_comm], ← Int.natCast_mod]
  split
  · omega
  · -- `levelQ = d·nbPi + r` with `r < nbPi`
    have hmod : levelQ % nbPi = levelQ - d * nbPi := by
      conv_lhs => rw [show levelQ = (levelQ - d * nbPi) + d * nbPi by omega]
      rw [Nat.add_mul_mod_self_right, Nat.mod_eq_of_lt (by omega)]
    rw [hmod]; omega

/-- the signed value the copy branch assigns to a residue `c` modulo `q_d`: `c ≥ q_d >> 1` is NEGATIVE
(`c − q_d`), so the range is `[−⌈q_d/2⌉, ⌊q_d/2⌋)`: for odd `q_d` the value `(q_d−1)/2` is represented by
`−(q_d+1)/2`, i.e. `|digit| ≤ (q_d+1)/2` (half a unit more than `q_d/2`). -/
def digitA (qd c : Nat) : ℤ := if qd / 2 ≤ c then (c : ℤ) - (qd : ℤ) else (c : ℤ)

theorem digitA_emod (qd c : Nat) : digitA qd c % (qd : ℤ) = (c : ℤ) % (qd : ℤ) := by
  unfold digitA
  split
  · have : (c : ℤ) - (qd : ℤ) = (c : ℤ) + (qd : ℤ) * (-1) := by ring
    rw [this, Int.add_mul_emod_self_left]
  · rfl

theorem digitA_bounds (qd c : Nat) (hc : c < qd) :
    -((qd : ℤ) - ((qd / 2 : ℕ) : ℤ)) ≤ digitA qd c ∧ digitA qd c < ((qd / 2 : ℕ) : ℤ) := by
  unfold digitA
  split <;> constructor <;> omega

/-- the branch-free selection `t·pos + s·neg` of the Go code, `(pos, neg) = (1, 0)` resp. `(0, 1)` -/
theorem u64_pick_left (t s : Nat) (ht : t < W) : u64add (u64mul t 1) (u64mul s 0) = t := by
  rw [u64mul_one_right, u64mul_zero_right, Nat.mod_eq_of_lt ht, Lattigo.u64add_eq _ _ (by rwa [Nat.add_zero]),
    Nat.add_zero]

theorem u64_pick_right (t s : Nat) (hs : s < W) : u64add (u64mul t 0) (u64mul s 1) = s := by
  rw [u64mul_one_right, u64mul_zero_right, Nat.mod_eq_of_lt hs, Lattigo.u64add_eq _ _ (by rwa [Nat.zero_add]),
    Nat.zero_add]

/-- `≤ m`, not `< m`: the limb equals `m`, unreduced, for a negative digit divisible by `m` -/
theorem splitLimb_spec (qd m c : Nat) (hc : c < qd) (hqd : qd < W) (hm1 : 1 < m) (hmW : m < W) :
    ((splitLimb qd m c : ℕ) : ℤ) % (m : ℤ) = digitA qd c % (m : ℤ) ∧ splitLimb qd m c ≤ m := by
  have hm0 : 0 < m := Nat.lt_trans Nat.zero_lt_one hm1
  unfold splitLimb digitA
  have hsh : u64shr qd 1 = qd / 2 := by unfold u64shr; rw [Nat.pow_one]
  rw [hsh]
  by_cases h : qd / 2 ≤ c
  · have ht : (qd - c) % m < m := Nat.mod_lt _ hm0
    simp only [h, decide_true, if_true]
    rw [Lattigo.u64sub_eq qd c (Nat.le_of_lt hc) hqd,
      BRedAdd_spec _ m hm1 (Nat.lt_of_le_of_lt (Nat.sub_le _ _) hqd),
      Lattigo.u64sub_eq m _ (Nat.le_of_lt ht) hmW, u64_pick_right _ _ (Nat.lt_of_le_of_lt (Nat.sub_le _ _) hmW)]
    refine ⟨?_, Nat.sub_le _ _⟩
    -- `m − (q_d − c) mod m ≡ c − q_d (mod m)`
    rw [Nat.cast_sub (Nat.le_of_lt ht), Int.natCast_mod, Nat.cast_sub (Nat.le_of_lt hc)]
    rw [Int.sub_emod, Int.emod_self, Int.emod_emod_of_dvd _ (dvd_refl _), Int.zero_sub, (Int.mod_modEq _ _).neg.eq]
    congr 1; ring
  · have ht : c % m < m := Nat.mod_lt _ hm0
    simp only [h, decide_false, Bool.false_eq_true, if_false]
    rw [BRedAdd_spec _ m hm1 (Nat.lt_trans hc hqd), u64_pick_left _ _ (Nat.lt_trans ht hmW)]
    exact ⟨by rw [Int.natCast_mod, Int.emod_emod_of_dvd _ (dvd_refl _)], Nat.le_of_lt ht⟩

theorem splitRow_spec (qd m : Nat) (hqd : 1 < qd ∧ qd < W) (hm : 1 < m ∧ m < W) (X : List Nat) :
    List.Forall₂ (fun x out =>
        ((out : ℕ) : ℤ) % (m : ℤ) = digitA qd (x % qd) % (m : ℤ) ∧ out ≤ m)
      X ((X.map (· % qd)).map (splitLimb qd m)) := by
  rw [List.forall₂_map_right_iff, List.forall₂_map_right_iff, List.forall₂_same]
  intro x _
  exact splitLimb_spec qd m (x % qd) (Nat.mod_lt _ (by omega)) hqd.2 hm.1 hm.2

theorem das_single (Q P : List Nat) (hasP : Bool) (levelQ levelP nbPi d : Nat) (p0Q prevQ : Rows)
    (hdl : decompLvl levelQ nbPi d < 0) (hst : ¬ d * nbPi > levelQ) :
    decomposeAndSplit Q P hasP levelQ levelP nbPi d p0Q prevQ =
      some ((List.range (levelQ + 1)).map fun i =>
              (row p0Q (d * nbPi)).map (splitLimb (Q.getD (d * nbPi) 0) (Q.getD i 0)),
            if hasP then (List.range (levelP + 1)).map fun i =>
              (row p0Q (d * nbPi)).map (splitLimb (Q.getD (d * nbPi) 0) (P.getD i 0)) else []) := by
  unfold decomposeAndSplit
  show (if decompLvl levelQ nbPi d < 0 then
      (if d * nbPi > levelQ then none else some _) else _) = _
  rw [if_pos hdl, if_neg hst]

/-- `decompLvl < 0`: the digit has one modulus `q_d = Q[d·nbPi]` and only `[x]_{q_d}` is read.  The signed digit
`digitA q_d (x mod q_d)` is `≡ x (mod q_d)` (`digitA_emod`), its range is in `digitA_bounds`. -/
theorem decompose_single_limbs (Q P : List Nat) (hasP : Bool) (levelQ levelP nbPi d : Nat)
    (hdl : decompLvl levelQ nbPi d < 0) (hst : d * nbPi ≤ levelQ) (hlQ : levelQ < Q.length)
    (hlP : hasP = true → levelP < P.length)
    (hQ : ∀ m ∈ Q, 1 < m ∧ m < W) (hP : ∀ m ∈ P, 1 < m ∧ m < W)
    (p0Q prevQ : Rows) (X : List Nat)
    (hrow : row p0Q (d * nbPi) = X.map (· % Q.getD (d * nbPi) 0)) :
    ∃ outQ outP, decomposeAndSplit Q P hasP levelQ levelP nbPi d p0Q prevQ = some (outQ, outP)
      ∧ (∀ i, i ≤ levelQ → List.Forall₂ (fun x out =>
            ((out : ℕ) : ℤ) % (Q.getD i 0 : ℤ)
                = digitA (Q.getD (d * nbPi) 0) (x % Q.getD (d * nbPi) 0) % (Q.getD i 0 : ℤ)
              ∧ out ≤ Q.getD i 0) X (row outQ i))
      ∧ (hasP = true → ∀ j, j ≤ levelP → List.Forall₂ (fun x out =>
            ((out : ℕ) : ℤ) % (P.getD j 0 : ℤ)
                = digitA (Q.getD (d * nbPi) 0) (x % Q.getD (d * nbPi) 0) % (P.getD j 0 : ℤ)
              ∧ out ≤ P.getD j 0) X (row outP j)) := by
  have hqd := hQ _ (getD_mem Q (d * nbPi) (by omega))
  refine ⟨_, _, das_single Q P hasP levelQ levelP nbPi d p0Q prevQ hdl (by omega), ?_, ?_⟩
  · intro i hi
    rw [row_map_range _ _ i (by omega), hrow]
    exact splitRow_spec _ _ hqd (hQ _ (getD_mem Q i (by omega))) X
  · intro hp j hj
    rw [if_pos hp, row_map_range _ _ j (by omega), hrow]
    exact splitRow_spec _ _ hqd (hP _ (getD_mem P j (by have := hlP hp; omega))) X

/-- the moduli of digit `d`: `Q[d·nbPi .. min(d·nbPi + nbPi, levelQ+1))` -/
def dasGrp (Q : List Nat) (levelQ nbPi d : Nat) : List Nat :=
  (Q.drop (d * nbPi)).take (min (d * nbPi + nbPi) (levelQ + 1) - d * nbPi)

/-- the `y_i` of a lane of digit `d` -/
def dasY (qs : List Nat) (x : Nat) : List Nat := hpsY qs (residues qs ((x + prodN qs / 2) % prodN qs))

/-- the `y_i` of a lane of digit `d` are those of a lane of `ModUpQtoP`, so that the limbs are `BasisExt.extLane` -/
theorem dasY_eq_laneY (qs : List Nat) (x : Nat) : dasY qs x = laneY qs x := rfl

/-- `ModUpConstants[nbPi-2][d][decompLvl]` -/
def dasMuc (Q P : List Nat) (levelQ nbPi d : Nat) : MUC :=
  genModUpConstants ((Q.drop (d * nbPi)).take ((decompLvl levelQ nbPi d).toNat + 2)) (Q ++ P.take nbPi)

/-- the lanes after `reconstructRNSCentered` -/
def dasRecs (Q P : List Nat) (levelQ nbPi d : Nat) (p0Q : Rows) : List (List Nat × Nat) :=
  (transpose ((List.range (min (d * nbPi + nbPi) (levelQ + 1) - d * nbPi)).map
      fun i => row p0Q (d * nbPi + i))).map
    (reconstructCentered (dasGrp Q levelQ nbPi d) ((dasGrp Q levelQ nbPi d).map GenMRedConstant)
      ((dasGrp Q levelQ nbPi d).map fun q => (prodN (dasGrp Q levelQ nbPi d) / 2) % q) (dasMuc Q P levelQ nbPi d))

/-- one target row before `SubScalarBigint` -/
def dasMs (Q P : List Nat) (levelQ nbPi d : Nat) (p0Q : Rows) (m j : Nat) : List Nat :=
  (dasRecs Q P levelQ nbPi d p0Q).map fun (ys, v) =>
    multSum (ys.take ((decompLvl levelQ nbPi d).toNat + 2)) v m (GenMRedConstant m)
      (dasMuc Q P levelQ nbPi d).vtimesqmodp[j]! (dasMuc Q P levelQ nbPi d).qoverqimodp[j]!

theorem das_multi (Q P : List Nat) (hasP : Bool) (levelQ levelP nbPi d : Nat) (p0Q prevQ : Rows)
    (hdl : ¬ decompLvl levelQ nbPi d < 0) :
    decomposeAndSplit Q P hasP levelQ levelP nbPi d p0Q prevQ =
      some (subScalarBig Q levelQ (prodN (dasGrp Q levelQ nbPi d) / 2)
              ((List.range (levelQ + 1)).map fun j =>
                if j < d * nbPi ∨ min (d * nbPi + nbPi) (levelQ + 1) ≤ j
                then dasMs Q P levelQ nbPi d p0Q (Q.getD j 0) j else row prevQ j),
            subScalarBig P levelP (prodN (dasGrp Q levelQ nbPi d) / 2)
              ((List.range (levelP + 1)).map fun j =>
                dasMs Q P levelQ nbPi d p0Q (P.getD j 0) (Q.length + j))) := by
  unfold decomposeAndSplit
  show (if decompLvl levelQ nbPi d < 0 then _ else some _) = _
  rw [if_neg hdl]
  rfl

theorem residues_getD (qs : List Nat) (x i : Nat) (hi : i < qs.length) :
    (residues qs x).getD i 0 = x % qs.getD i 0 := by
  unfold residues
  simp [List.getD_eq_getElem?_getD, hi]

/-- one lane of `reconstructRNSCentered`: the `y_i` are `hpsY` of the SHIFTED value `x' = (x + ⌊Q_d/2⌋) mod Q_d` -/
theorem reconstructCentered_eq (qs T : List Nat) (hC : Chain qs) (x : Nat) :
    reconstructCentered qs (qs.map GenMRedConstant) (qs.map fun q => (prodN qs / 2) % q)
        (genModUpConstants qs T) (residues qs x)
      = (hpsY qs (residues qs ((x + prodN qs / 2) % prodN qs)),
         fidx qs (hpsY qs (residues qs ((x + prodN qs / 2) % prodN qs)))) := by
  have hrl := residues_length qs
  have hys : (List.range (residues qs x).length).map (fun i =>
        MRed (u64add ((residues qs x).getD i 0) ((qs.map fun q => (prodN qs / 2) % q).getD i 0))
          (genModUpConstants qs T).qoverqiinvqi[i]! (qs.getD i 0) ((qs.map GenMRedConstant).getD i 0))
      = hpsY qs (residues qs ((x + prodN qs / 2) % prodN qs)) := by
    rw [hpsY_eq_range_map _ _ (hrl _), hrl]
    apply List.map_congr_left
    intro i hi
    have h1 := List.mem_range.mp hi
    have hmem := getD_mem qs i h1
    have hq0 := (hC.prime _ hmem).pos
    have hq61 := hC.small _ hmem
    have hx : x % qs.getD i 0 < qs.getD i 0 := Nat.mod_lt _ hq0
    have hh : prodN qs / 2 % qs.getD i 0 < qs.getD i 0 := Nat.mod_lt _ hq0
    -- `x_i + ⌊Q_d/2⌋ mod q_i < 2q_i` goes UNREDUCED into `MRed`: `reconstruct_y` holds for every uint64
    rw [residues_getD qs x i h1, residues_getD qs _ i h1, ListLemmas.getD_map_of_lt _ qs i 0 h1, ListLemmas.getD_map_of_lt _ qs i 0 h1,
      Lattigo.u64add_eq _ _ (by unfold W; omega), reconstruct_y qs T hC i h1 _ (by unfold W; omega),
      Nat.mod_mod_of_dvd _ (Scaling.dvd_prodN_of_mem qs _ hmem), Nat.mul_mod, ← Nat.add_mod, ← Nat.mul_mod]
    exact Nat.mod_mul_mod _ _ _ |>.symm
  unfold reconstructCentered
  simp only []
  rw [hys]
  rfl

theorem dasGrp_length (Q : List Nat) (levelQ nbPi d : Nat) (hlQ : levelQ < Q.length) :
    (dasGrp Q levelQ nbPi d).length = min (d * nbPi + nbPi) (levelQ + 1) - d * nbPi := by
  unfold dasGrp
  rw [List.length_take, List.length_drop]; omega

theorem dasGrp_ne_nil (Q : List Nat) (levelQ nbPi d : Nat) (hlQ : levelQ < Q.length)
    (hcnt : 2 ≤ min (d * nbPi + nbPi) (levelQ + 1) - d * nbPi) : dasGrp Q levelQ nbPi d ≠ [] := by
  intro h
  have := dasGrp_length Q levelQ nbPi d hlQ
  rw [h, List.length_nil] at this
  omega

theorem toNat_decompLvl (levelQ nbPi d : Nat) (hnb : 0 < nbPi) (hst : d * nbPi ≤ levelQ)
    (hcnt : 2 ≤ min (d * nbPi + nbPi) (levelQ + 1) - d * nbPi) :
    (decompLvl levelQ nbPi d).toNat + 2 = min (d * nbPi + nbPi) (levelQ + 1) - d * nbPi
    ∧ ¬ decompLvl levelQ nbPi d < 0 := by
  rw [decompLvl_eq levelQ nbPi d hnb hst]
  generalize min (d * nbPi + nbPi) (levelQ + 1) - d * nbPi = c at *
  constructor <;> omega

theorem dasY_length (qs : List Nat) (x : Nat) : (dasY qs x).length = qs.length := by
  unfold dasY
  exact hpsY_length _ _ (residues_length _ _)

theorem append_getD_right (Q R : List Nat) (j : Nat) : (Q ++ R).getD (Q.length + j) 0 = R.getD j 0 := by
  simp [List.getD_eq_getElem?_getD, List.getElem?_append_right]

/-- a lane of the HPS branch into a Q-row: the targets are `T = Q ++ P[:nbPi]`, row `j` of `Q` is entry `j` of `T` -/
theorem _root_.Lattigo.BasisExt.LaneOK.of_append_left {qs Q R : List Nat} {j k r : Nat} (hC : Chain qs) (hne : qs ≠ [])
    (hk : qs.sum ≤ k * W) (hT : Target Q (k + r)) (hj : j < Q.length) : LaneOK qs (Q ++ R) j k r := by
  have hm := getD_mem Q j hj
  have he := List.getD_append Q R 0 j hj
  exact ⟨hC, hne, by rw [List.length_append]; omega, hk, he ▸ hT.prime _ hm, he ▸ hT.odd _ hm,
    he ▸ Nat.add_right_comm k r 2 ▸ hT.small _ hm⟩

/-- … into a P-row: row `j` of `P` is entry `#Q + j` of `T` -/
theorem _root_.Lattigo.BasisExt.LaneOK.of_append_right {qs Q P : List Nat} {n j k r : Nat} (hC : Chain qs) (hne : qs ≠ [])
    (hk : qs.sum ≤ k * W) (hT : Target P (k + r)) (hj : j < n) (hn : n ≤ P.length) :
    LaneOK qs (Q ++ P.take n) (Q.length + j) k r := by
  have hm := getD_mem P j (by omega)
  have he : (Q ++ P.take n).getD (Q.length + j) 0 = P.getD j 0 := by rw [append_getD_right, ListLemmas.getD_take P n j hj]
  exact ⟨hC, hne, by rw [List.length_append, List.length_take]; omega, hk, he ▸ hT.prime _ hm, he ▸ hT.odd _ hm,
    he ▸ Nat.add_right_comm k r 2 ▸ hT.small _ hm⟩

section digit
variable (Q P : List Nat) (levelQ nbPi d : Nat) (hnb : 0 < nbPi) (hst : d * nbPi ≤ levelQ)
  (hlQ : levelQ < Q.length) (hcnt : 2 ≤ min (d * nbPi + nbPi) (levelQ + 1) - d * nbPi)
include hnb hst hcnt

theorem dasMuc_eq : dasMuc Q P levelQ nbPi d = genModUpConstants (dasGrp Q levelQ nbPi d) (Q ++ P.take nbPi) := by
  unfold dasMuc dasGrp
  rw [(toNat_decompLvl levelQ nbPi d hnb hst hcnt).1]

variable (hC : Chain (dasGrp Q levelQ nbPi d)) (p0Q : Rows) (X : List Nat)
  (hrows : ∀ i, d * nbPi ≤ i → i < min (d * nbPi + nbPi) (levelQ + 1) → row p0Q i = X.map (· % Q.getD i 0))
include hlQ hC hrows

theorem dasRecs_eq :
    dasRecs Q P levelQ nbPi d p0Q = X.map fun x =>
      (dasY (dasGrp Q levelQ nbPi d) x, fidx (dasGrp Q levelQ nbPi d) (dasY (dasGrp Q levelQ nbPi d) x)) := by
  unfold dasRecs
  rw [dasMuc_eq Q P levelQ nbPi d hnb hst hcnt]
  generalize hc : min (d * nbPi + nbPi) (levelQ + 1) - d * nbPi = cnt at *
  have hrw : (List.range cnt).map (fun i => row p0Q (d * nbPi + i))
      = (List.range cnt).map fun i => X.map ((fun i x => x % Q.getD (d * nbPi + i) 0) i) := by
    apply List.map_congr_left
    intro i hi
    have := List.mem_range.mp hi
    exact hrows (d * nbPi + i) (by omega) (by omega)
  rw [hrw, transpose_map_rows cnt (by omega) X (fun i x => x % Q.getD (d * nbPi + i) 0), List.map_map]
  apply List.map_congr_left
  intro x _
  simp only [Function.comp]
  have hres : (List.range cnt).map (fun i => x % Q.getD (d * nbPi + i) 0) = residues (dasGrp Q levelQ nbPi d) x := by
    have := range_map_residues (Q.drop (d * nbPi)) cnt x (by rw [List.length_drop]; omega)
    unfold dasGrp
    rw [hc, ← this]
    apply List.map_congr_left
    intro i _
    rw [ListLemmas.getD_drop]
  rw [hres, reconstructCentered_eq _ _ hC x]
  rfl

theorem dasMs_eq (m j : Nat) (hm : (Q ++ P.take nbPi).getD j 0 = m) :
    (dasMs Q P levelQ nbPi d p0Q m j).map
        (fun o => subscalarvec_lane o ((prodN (dasGrp Q levelQ nbPi d) / 2) % m) 0 m)
      = X.map (extLane (dasGrp Q levelQ nbPi d) (dasGrp Q levelQ nbPi d) (Q ++ P.take nbPi) j) := by
  subst hm
  unfold dasMs
  rw [dasRecs_eq Q P levelQ nbPi d hnb hst hlQ hcnt hC p0Q X hrows,
    dasMuc_eq Q P levelQ nbPi d hnb hst hcnt, List.map_map, List.map_map]
  apply List.map_congr_left
  intro x _
  simp only [Function.comp]
  rw [List.take_of_length_le (by
    rw [dasY_length, dasGrp_length Q levelQ nbPi d hlQ, (toNat_decompLvl levelQ nbPi d hnb hst hcnt).1])]
  rfl

/-- the source chain of the lanes is the digit's moduli, the targets are `Q ++ P[:nbPi]` -/
theorem das_multi_rows (hasP : Bool) (levelP : Nat) (hlP : levelP + 1 ≤ nbPi) (prevQ : Rows) :
    ∃ outQ outP, decomposeAndSplit Q P hasP levelQ levelP nbPi d p0Q prevQ = some (outQ, outP)
      ∧ (∀ j, j ≤ levelQ → (j < d * nbPi ∨ min (d * nbPi + nbPi) (levelQ + 1) ≤ j) →
          row outQ j = X.map (extLane (dasGrp Q levelQ nbPi d) (dasGrp Q levelQ nbPi d) (Q ++ P.take nbPi) j))
      ∧ (∀ j, j ≤ levelP →
          row outP j
            = X.map (extLane (dasGrp Q levelQ nbPi d) (dasGrp Q levelQ nbPi d) (Q ++ P.take nbPi) (Q.length + j))) := by
  refine ⟨_, _, das_multi Q P hasP levelQ levelP nbPi d p0Q prevQ
    (toNat_decompLvl levelQ nbPi d hnb hst hcnt).2, ?_, ?_⟩
  · intro j hj hout
    unfold subScalarBig
    rw [row_map_range _ _ j (by omega), row_map_range _ _ j (by omega), if_pos hout]
    exact dasMs_eq Q P levelQ nbPi d hnb hst hlQ hcnt hC p0Q X hrows _ _ (List.getD_append Q _ 0 j (by omega))
  · intro j hj
    unfold subScalarBig
    rw [row_map_range _ _ j (by omega), row_map_range _ _ j (by omega)]
    exact dasMs_eq Q P levelQ nbPi d hnb hst hlQ hcnt hC p0Q X hrows _ _
      (by rw [append_getD_right, ListLemmas.getD_take P nbPi j (by omega)])

end digit

/-- HPS branch: the digit has `≥ 2` moduli, `Q_d = Π dasGrp`.  `δ = hpsV − v`, `v = fidx` the IEEE index (hypothesis:
`v ≤ #moduli of the digit`): for `δ = 0` the limb is congruent to THE centred digit `d = centeredRep Q_d x`, for `δ = ±1` to
`d ± Q_d`, still `≡ x (mod Q_d)`.  The rows of `p1Q` inside the digit's own moduli are not written by the Go function
(they keep `prevQ` minus `⌊Q_d/2⌋`). -/
theorem decompose_multi_limbs (Q P : List Nat) (hasP : Bool) (levelQ levelP nbPi d : Nat) (hnb : 0 < nbPi)
    (hst : d * nbPi ≤ levelQ) (hlQ : levelQ < Q.length)
    (hcnt : 2 ≤ min (d * nbPi + nbPi) (levelQ + 1) - d * nbPi)
    (hC : Chain (dasGrp Q levelQ nbPi d)) (k : Nat) (hk : (dasGrp Q levelQ nbPi d).sum ≤ k * W)
    (hTQ : Target Q (k + 1)) (hTP : Target P (k + 1)) (hlP : levelP + 1 ≤ nbPi) (hnP : nbPi ≤ P.length)
    (p0Q prevQ : Rows) (X : List Nat)
    (hrows : ∀ i, d * nbPi ≤ i → i < min (d * nbPi + nbPi) (levelQ + 1) →
      row p0Q i = X.map (· % Q.getD i 0)) :
    ∃ outQ outP, decomposeAndSplit Q P hasP levelQ levelP nbPi d p0Q prevQ = some (outQ, outP)
      ∧ (∀ j, j ≤ levelQ → (j < d * nbPi ∨ min (d * nbPi + nbPi) (levelQ + 1) ≤ j) →
          List.Forall₂ (fun x out =>
            fidx (dasGrp Q levelQ nbPi d) (dasY (dasGrp Q levelQ nbPi d) x) ≤ (dasGrp Q levelQ nbPi d).length →
              ((out : ℕ) : ℤ) % (Q.getD j 0 : ℤ)
                  = (centeredRep (prodN (dasGrp Q levelQ nbPi d)) x
                      + ((hpsV (dasGrp Q levelQ nbPi d) (dasY (dasGrp Q levelQ nbPi d) x) : ℤ)
                          - (fidx (dasGrp Q levelQ nbPi d) (dasY (dasGrp Q levelQ nbPi d) x) : ℤ))
                        * (prodN (dasGrp Q levelQ nbPi d) : ℤ)) % (Q.getD j 0 : ℤ)
                ∧ out < (k + 2) * Q.getD j 0) X (row outQ j))
      ∧ (∀ j, j ≤ levelP →
          List.Forall₂ (fun x out =>
            fidx (dasGrp Q levelQ nbPi d) (dasY (dasGrp Q levelQ nbPi d) x) ≤ (dasGrp Q levelQ nbPi d).length →
              ((out : ℕ) : ℤ) % (P.getD j 0 : ℤ)
                  = (centeredRep (prodN (dasGrp Q levelQ nbPi d)) x
                      + ((hpsV (dasGrp Q levelQ nbPi d) (dasY (dasGrp Q levelQ nbPi d) x) : ℤ)
                          - (fidx (dasGrp Q levelQ nbPi d) (dasY (dasGrp Q levelQ nbPi d) x) : ℤ))
                        * (prodN (dasGrp Q levelQ nbPi d) : ℤ)) % (P.getD j 0 : ℤ)
                ∧ out < (k + 2) * P.getD j 0) X (row outP j)) := by
  obtain ⟨outQ, outP, hout, hq, hp⟩ :=
    das_multi_rows Q P levelQ nbPi d hnb hst hlQ hcnt hC p0Q X hrows hasP levelP hlP prevQ
  have hne := dasGrp_ne_nil Q levelQ nbPi d hlQ hcnt
  refine ⟨outQ, outP, hout, ?_, ?_⟩
  · intro j hj ho
    rw [hq j hj ho, ← List.getD_append Q (P.take nbPi) 0 j (by omega)]
    refine forall₂_map_self _ _ X fun x _ hv => ?_
    have h := extLane_spec (r := 0) (T := Q ++ P.take nbPi) (j := j) (.of_append_left hC hne hk hTQ (by omega))
      (dasGrp Q levelQ nbPi d) x
    exact ⟨h.2 hv, h.1⟩
  · intro j hj
    rw [hp j hj, ← ListLemmas.getD_take P nbPi j (by omega), ← append_getD_right Q (P.take nbPi) j]
    refine forall₂_map_self _ _ X fun x _ hv => ?_
    have h := extLane_spec (r := 0) (.of_append_right (Q := Q) (j := j) hC hne hk hTP (by omega) hnP)
      (dasGrp Q levelQ nbPi d) x
    exact ⟨h.2 hv, h.1⟩

-- `hpos` is not needed: `hinv` already excludes a modulus `0`
set_option linter.unusedVariables false in
theorem digits_recombine (Qs : List Nat) (inv : Nat → Nat) (x : Nat) (δ : Nat → ℤ)
    (hc : Qs.Pairwise Nat.Coprime) (hpos : ∀ Q ∈ Qs, 0 < Q)
    (hinv : ∀ Q ∈ Qs, ((prodN Qs / Q) * inv Q) % Q = 1) :
    rnsRecombine Qs inv (Qs.map fun Qi => centeredRep Qi x + δ Qi * (Qi : ℤ)) % (prodN Qs : ℤ)
      = (x : ℤ) % (prodN Qs : ℤ) := by
  apply rnsRecombine_modEq Qs inv (x : ℤ) _ hc hinv
  rw [List.forall₂_map_right_iff, List.forall₂_same]
  intro Qi _
  rw [Int.add_mul_emod_self_right, centeredRep_emod]

theorem decompose_multi_lt (Q P : List Nat) (hasP : Bool) (levelQ levelP nbPi d : Nat) (hnb : 0 < nbPi)
    (hst : d * nbPi ≤ levelQ) (hlQ : levelQ < Q.length)
    (hcnt : 2 ≤ min (d * nbPi + nbPi) (levelQ + 1) - d * nbPi)
    (hC : Chain (dasGrp Q levelQ nbPi d)) (k : Nat) (hk : (dasGrp Q levelQ nbPi d).sum ≤ k * W)
    (hTQ : Target Q (k + 1)) (hTP : Target P (k + 1)) (hlP : levelP + 1 ≤ nbPi) (hnP : nbPi ≤ P.length)
    (p0Q prevQ : Rows) (X : List Nat)
    (hrows : ∀ i, d * nbPi ≤ i → i < min (d * nbPi + nbPi) (levelQ + 1) →
      row p0Q i = X.map (· % Q.getD i 0))
    (outQ outP : Rows) (hout : decomposeAndSplit Q P hasP levelQ levelP nbPi d p0Q prevQ = some (outQ, outP)) :
    (∀ j, j ≤ levelQ → (j < d * nbPi ∨ min (d * nbPi + nbPi) (levelQ + 1) ≤ j) →
        ∀ y ∈ row outQ j, y < (k + 2) * Q.getD j 0)
    ∧ (∀ j, j ≤ levelP → ∀ y ∈ row outP j, y < (k + 2) * P.getD j 0) := by
  obtain ⟨oQ, oP, h, hq, hp⟩ :=
    das_multi_rows Q P levelQ nbPi d hnb hst hlQ hcnt hC p0Q X hrows hasP levelP hlP prevQ
  cases h.symm.trans hout
  have hne := dasGrp_ne_nil Q levelQ nbPi d hlQ hcnt
  constructor
  · intro j hj ho y hy
    rw [hq j hj ho, List.mem_map] at hy
    obtain ⟨x, _, rfl⟩ := hy
    rw [← List.getD_append Q (P.take nbPi) 0 j (by omega)]
    exact extLane_lt (r := 0) (.of_append_left hC hne hk hTQ (by omega)) _ x
  · intro j hj y hy
    rw [hp j hj, List.mem_map] at hy
    obtain ⟨x, _, rfl⟩ := hy
    rw [← ListLemmas.getD_take P nbPi j (by omega), ← append_getD_right Q (P.take nbPi) j]
    exact extLane_lt (r := 0) (.of_append_right hC hne hk hTP (by omega) hnP) _ x

end Lattigo.Decomp

#print axioms Lattigo.Decomp.decompLvl_eq
#print axioms Lattigo.Decomp.splitLimb_spec
#print axioms Lattigo.Decomp.decompose_single_limbs
#print axioms Lattigo.Decomp.reconstructCentered_eq
#print axioms Lattigo.Decomp.das_multi_rows
#print axioms Lattigo.Decomp.decompose_multi_limbs
#print axioms Lattigo.Decomp.digits_recombine
#print axioms Lattigo.Decomp.decompose_multi_lt
