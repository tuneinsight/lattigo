/-
  `rlwe.Evaluator.DecomposeNTT` (core/rlwe/evaluator_gadget_product.go), twin `Decomp.decomposeNTT`:
  the digits of `DecomposeAndSplit` moved to the NTT domain.

  The rows `DecomposeAndSplit` writes are not reduced (`< 3q`, resp. `≤ q`), but for every degree `N = 2^K` the reduced
  forward NTT of an UNREDUCED row (entries `< M`, `M + 4q ≤ 2^64`) is the NTT of the row reduced modulo `q`.  So every digit
  of `decomposeNTT` is, row by row, the NTT of the residues of the limbs of `decomposeAndSplit` (rows inside the digit's own
  moduli: copied from the NTT-domain input), and `decompose_single_limbs` / `decompose_multi_limbs` describe `INTT` of
  every row.
-/
import Lattigo.Proofs.DecompLimb
import Lattigo.Proofs.ScalingNTT
import Lattigo.Proofs.ListLemmas

namespace Lattigo.Decomp
open Lattigo Lattigo.Gen Lattigo.Scaling Lattigo.BasisExt Lattigo.NTT

theorem nttStd_unreduced {T : Tables} {K : ℕ} (hT : Valid T K) (M : ℕ) (hM : M + 4 * T.q ≤ W)
    (a : List ℕ) (ha : ∀ x ∈ a, x < M) : nttStd T a = nttStd T (a.map (· % T.q)) := by
  have : Fact T.q.Prime := ⟨hT.prime⟩
  have h8 := hT.h8
  obtain ⟨hc, hr⟩ := nttCoreLazy_big_all hT M hM a ha
  obtain ⟨hbc, hblt⟩ := map_BRedAdd_cast hT.prime.one_lt (nttCoreLazy T a)
    (fun y hy => by have := hr y hy; omega)
  obtain ⟨hrc, hrlt⟩ := nttStd_cast hT (a.map (· % T.q)) (List.forall_mem_map.2 fun x _ => Nat.mod_lt _ hT.q_pos)
  unfold nttStd at hrc hrlt ⊢
  rw [hT.bred] at hrc hrlt ⊢
  apply map_cast_inj (q := T.q) _ _ hblt hrlt
  rw [hbc, hc, hrc, List.map_map]
  exact congrArg _ (List.map_congr_left fun x _ => (ZMod.natCast_mod x T.q).symm)

/-- the coefficient-domain input of `decomposeNTT` -/
def dnInv (TQ : Tabs) (levelQ : ℕ) (isNTT : Bool) (c2 : Rows) : Rows :=
  if isNTT then inttRows TQ levelQ c2 else c2
/-- the NTT-domain input of `decomposeNTT` -/
def dnNtt (TQ : Tabs) (levelQ : ℕ) (isNTT : Bool) (c2 : Rows) : Rows :=
  if isNTT then c2 else nttRows TQ levelQ c2

/-- one digit of `decomposeNTT`, given the output `(a, b)` of `decomposeAndSplit` -/
def dnOut (TQ TP : Tabs) (levelQ levelP nbPi d : ℕ) (ntt a b : Rows) : Rows × Rows :=
  ((List.range (levelQ + 1)).map fun x =>
      if d * nbPi ≤ x ∧ x < d * nbPi + nbPi then row ntt x else nttStd (tab TQ x) (row a x),
   (List.range (levelP + 1)).map fun j => nttStd (tab TP j) (row b j))

/-- the hypothesis `h` (`DecomposeAndSplit` succeeds for every digit) holds under the hypotheses of
`decompose_single_limbs` / `decompose_multi_limbs` -/
theorem decomposeNTT_some (TQ TP : Tabs) (Q P : List ℕ) (levelQ levelP nbPi size : ℕ) (isNTT : Bool) (c2 : Rows)
    (A B : ℕ → Rows)
    (h : ∀ d, d < size → decomposeAndSplit Q P true levelQ levelP nbPi d (dnInv TQ levelQ isNTT c2)
        ((List.range (levelQ + 1)).map fun _ => []) = some (A d, B d)) :
    decomposeNTT TQ TP Q P levelQ levelP nbPi size isNTT c2
      = some ((List.range size).map fun d =>
          dnOut TQ TP levelQ levelP nbPi d (dnNtt TQ levelQ isNTT c2) (A d) (B d)) := by
  unfold decomposeNTT
  apply ListLemmas.mapM_eq_some_map
  intro d hd
  have hd' := h d (List.mem_range.mp hd)
  unfold dnInv at hd'
  simp only [hd']
  rfl

end Lattigo.Decomp

#print axioms Lattigo.Decomp.nttStd_unreduced
#print axioms Lattigo.Decomp.decomposeNTT_some
