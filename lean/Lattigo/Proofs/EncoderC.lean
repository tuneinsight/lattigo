/-
  Proofs about `Lattigo.EncoderC`: the fixed-point round trip on exact rationals, `decodePublic` rounding (nearest, ties
  away from zero), the `rotGroup` table is the orbit `5^i mod m` and, for `m = 2^k`, its `m/4` entries are pairwise distinct
  (5 has order `2^(k-2)` modulo `2^k`), and `bitRev` is a bit reversal in the sense of `Proofs/BitRev` (`isBitRev`).
-/
import Lattigo.Model.EncoderC
import Lattigo.Proofs.CKKSDyadic
import Lattigo.Proofs.GaloisOrder
import Lattigo.Proofs.BitRev
import Mathlib.Data.Nat.ModEq
import Mathlib.Data.Nat.Prime.Basic
import Mathlib.Algebra.Order.Field.Power
import Mathlib.Tactic.Ring
import Mathlib.Tactic.Linarith
import Mathlib.Tactic.Positivity
import Mathlib.Tactic.FieldSimp
import Mathlib.Tactic.Push
import Mathlib.Tactic.IntervalCases

namespace Lattigo.EncoderC

theorem roundHalfAway_spec (num : ℤ) (den : ℕ) (hd : 0 < den) :
    |(roundHalfAway num den : ℚ) - (num : ℚ) / den| ≤ 1 / 2 := by
  unfold roundHalfAway
  have hdq : (den : ℚ) ≠ 0 := by exact_mod_cast hd.ne'
  -- `q = ⌊|num|/den + 1/2⌋`
  obtain ⟨h1, h2⟩ := CKKS.natDiv_floor (2 * num.natAbs + den) (2 * den) (by omega)
  have e : ((2 * num.natAbs + den : ℕ) : ℚ) / (2 * den : ℕ) = |(num : ℚ)| / den + 1 / 2 := by
    rw [Nat.cast_add, Nat.cast_mul, Nat.cast_mul, Nat.cast_natAbs, Int.cast_abs, add_div,
      Nat.cast_ofNat, mul_div_mul_left _ _ (two_ne_zero (α := ℚ)), div_mul_cancel_right₀ hdq, one_div]
  rw [e] at h1 h2
  generalize (2 * num.natAbs + den) / (2 * den) = q at h1 h2
  have key : |(q : ℚ) - |(num : ℚ)| / den| ≤ 1 / 2 := abs_le.mpr ⟨by linarith, by linarith⟩
  dsimp only
  split
  · rename_i hneg
    rwa [abs_of_neg (show (num : ℚ) < 0 by exact_mod_cast hneg), neg_div, ← abs_neg, neg_sub', neg_neg,
      ← Int.cast_natCast (R := ℚ), ← Int.cast_neg] at key
  · rename_i hpos
    rwa [abs_of_nonneg (show (0 : ℚ) ≤ num by exact_mod_cast not_lt.mp hpos), ← Int.cast_natCast (R := ℚ)] at key

theorem roundHalfAway_nearest_int (num : ℤ) (den : ℕ) (hd : 0 < den) (k' : ℤ) :
    |(roundHalfAway num den : ℚ) - (num : ℚ) / den| ≤ |(k' : ℚ) - (num : ℚ) / den| := by
  have h := roundHalfAway_spec num den hd
  rcases eq_or_ne k' (roundHalfAway num den) with rfl | hne
  · exact le_rfl
  · -- another integer is at distance `≥ 1` from the rounded one, hence `≥ 1/2` from `num/den`
    have h1 : (1 : ℚ) ≤ |(k' : ℚ) - (roundHalfAway num den : ℚ)| := by
      exact_mod_cast Int.one_le_abs (sub_ne_zero.mpr hne)
    have h2 := abs_sub_le (k' : ℚ) ((num : ℚ) / den) (roundHalfAway num den : ℚ)
    rw [abs_sub_comm ((num : ℚ) / den)] at h2
    linarith

/-- ties go away from zero (`math.Round`, resp. `±0.5` then truncation). -/
theorem roundHalfAway_tie (h : ℤ) : roundHalfAway (2 * h + 1) 2 = if 0 ≤ 2 * h + 1 then h + 1 else h := by
  unfold roundHalfAway
  dsimp only
  split <;> split <;> omega

theorem abs_div_sub_le {c y s : ℚ} (hs : 0 < s) (h : |c - y * s| ≤ 1 / 2) : |c / s - y| ≤ 1 / (2 * s) := by
  rw [show c / s - y = (c - y * s) / s by rw [sub_div, mul_div_cancel_right₀ _ hs.ne'], abs_div, abs_of_pos hs,
    ← div_div]
  exact div_le_div_of_nonneg_right h hs.le

theorem fixedpoint_roundtrip (xn : ℤ) (xd sn sd : ℕ) (hxd : 0 < xd) (hsn : 0 < sn) (hsd : 0 < sd) :
    |(encodeFP xn xd sn sd : ℚ) / ((sn : ℚ) / sd) - (xn : ℚ) / xd| ≤ 1 / (2 * ((sn : ℚ) / sd)) := by
  have h := roundHalfAway_spec (xn * sn) (xd * sd) (Nat.mul_pos hxd hsd)
  rw [Int.cast_mul, Nat.cast_mul, Int.cast_natCast, mul_div_mul_comm] at h
  exact abs_div_sub_le (by positivity) h

theorem rotGroupFrom_eq (m : ℕ) : ∀ (n cur : ℕ), cur < m →
    rotGroupFrom m n cur = (List.range n).map (fun i => cur * 5 ^ i % m)
  | 0, cur, _ => rfl
  | n + 1, cur, h => by
    have hm : 0 < m := by omega
    rw [rotGroupFrom, rotGroupFrom_eq m n (cur * 5 % m) (Nat.mod_lt _ hm), List.range_succ_eq_map,
      List.map_cons, List.map_map]
    congr 1
    · simp [Nat.mod_eq_of_lt h]
    · apply List.map_congr_left
      intro i _
      simp only [Function.comp]
      rw [pow_succ, Nat.mod_mul_mod]
      congr 1; ring

theorem rotGroup_eq (m : ℕ) (hm : 1 < m) :
    rotGroup m = (List.range (m / 4)).map (fun i => 5 ^ i % m) := by
  unfold rotGroup
  rw [rotGroupFrom_eq m _ _ (Nat.mod_lt _ (by omega))]
  apply List.map_congr_left
  intro i _
  rw [Nat.mod_eq_of_lt hm, one_mul]

theorem five_pow_mod4 (d : ℕ) : 5 ^ d % 4 = 1 := by
  induction d with
  | zero => rfl
  | succ d ih => rw [pow_succ, Nat.mul_mod, ih]

/-- The slot index ↦ Galois element map of `rotGroup` is injective: the exponents are below the order of 5
    (`Proofs.Galois.orderOf_five`). -/
theorem five_pow_injective (k : ℕ) (hk : 2 ≤ k) (i j : ℕ) (hi : i < 2 ^ (k - 2)) (hj : j < 2 ^ (k - 2))
    (h : 5 ^ i % 2 ^ k = 5 ^ j % 2 ^ k) : i = j := by
  obtain rfl | ⟨t, rfl⟩ : k = 2 ∨ ∃ t, k = t + 3 := by
    rcases Nat.lt_or_ge k 3 with h3 | h3
    · exact Or.inl (by omega)
    · exact Or.inr ⟨k - 3, by omega⟩
  · simp at hi hj; omega
  · rw [show t + 3 - 2 = t + 1 by omega, ← Proofs.Galois.orderOf_five t] at hi hj
    exact pow_injOn_Iio_orderOf hi hj ((Proofs.Galois.five_pow_eq_iff _ i j).mpr h)

theorem rotGroup_nodup (k : ℕ) (hk : 2 ≤ k) : (rotGroup (2 ^ k)).Nodup := by
  rw [rotGroup_eq _ (Nat.one_lt_two_pow (by omega))]
  rw [show 2 ^ k / 4 = 2 ^ (k - 2) from Nat.pow_div hk two_pos]
  apply List.Nodup.map_on _ List.nodup_range
  intro i hi j hj h
  exact five_pow_injective k hk i j (List.mem_range.mp hi) (List.mem_range.mp hj) h

theorem isBitRev : IsBitRev bitRev := ⟨fun _ => rfl, fun _ _ => rfl⟩

end Lattigo.EncoderC
