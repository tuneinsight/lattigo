/-
  The special (odd-exponent) DFT of the CKKS encoder in EXACT arithmetic.

  `K` a field, `ζ` a primitive `2N`-th root of unity, `(N : K) ≠ 0`.  A plaintext polynomial `m(X) = Σ_{k<N} m_k X^k`
  is decoded by evaluating it at the `N` roots of `X^N + 1`, i.e. at the odd powers `ζ^(2t+1)`, `t < N`
  (`evalOdd`); the encoder inverts this map (`interpOdd`: the inverse transform the special IFFT computes).

    `evalOdd_interpOdd`  decode ∘ encode = id   on every slot vector
    `interpOdd_evalOdd`  encode ∘ decode = id   on every coefficient vector

  * ordering of the slots: lattigo stores slot `j` at the exponent `5^j mod 2N` and its conjugate at `−5^j`;
    `Props.C07CKKS.orbit_injective` + `conj_exponents_disjoint` show these `N` exponents are pairwise distinct
    odd residues, so they are a re-indexing of `t ↦ 2t+1`;
  * sparse packing (`n` slots, `gap = N/(2n)`): the plaintext is a polynomial in `Y = X^gap` and `ζ^gap` is a
    primitive `2·(N/gap)`-th root: `Props.C07CKKS.special_dft_sparse` is the same statement for `N/gap`;
  * conjugate-invariant ring of degree `N`: its elements are the polynomials of degree `< 2N` in a `4N`-th root
    with `p_{2N−k} = −p_k`; the statement is the one for `2N` (real slots are the conjugation-fixed vectors).

  Rounding: if every coefficient of the encoded polynomial is off by at most `B` (`B = 1/(2Δ)`,
  `fixedpoint_roundtrip`), every slot is off by at most `N·B` (`slot_error_of_coeff_error`).
-/
import Lattigo.Proofs.CKKSError
import Mathlib.RingTheory.RootsOfUnity.PrimitiveRoots
import Mathlib.Analysis.Normed.Field.Basic
import Mathlib.Algebra.Field.GeomSum
import Mathlib.Tactic.FieldSimp
import Mathlib.Tactic.Ring
import Mathlib.Tactic.Linarith

namespace Lattigo.EncoderC
open Finset

section exact
variable {K : Type*} [Field K]

/-- value of the polynomial with coefficients `m` at the `t`-th odd power of `ζ` (Decode, exact). -/
def evalOdd (ζ : K) (N : ℕ) (m : ℕ → K) (t : ℕ) : K := ∑ k ∈ range N, m k * ζ ^ ((2 * t + 1) * k)

/-- the inverse transform (Encode before rounding, exact). -/
def interpOdd (ζ : K) (N : ℕ) (v : ℕ → K) (k : ℕ) : K :=
  (N : K)⁻¹ * ∑ t ∈ range N, v t * ζ⁻¹ ^ ((2 * t + 1) * k)

open Classical in
theorem geom_sum_root (x : K) (N : ℕ) (hx : x ^ N = 1) :
    ∑ k ∈ range N, x ^ k = if x = 1 then (N : K) else 0 := by
  split
  · rename_i h; simp [h]
  · rename_i h
    have := geom_sum_mul x N
    rw [hx, sub_self] at this
    rcases mul_eq_zero.mp this with h0 | h0
    · exact h0
    · exact absurd (sub_eq_zero.mp h0) h

variable {ζ : K} {N : ℕ}

theorem sq_primitive (hζ : IsPrimitiveRoot ζ (2 * N)) (hN : 0 < N) : IsPrimitiveRoot (ζ ^ 2) N := by
  exact hζ.pow (by omega) rfl

open Classical in
/-- orthogonality of the powers of a primitive `N`-th root. -/
theorem sum_ratio_pow {ω : K} (hω : IsPrimitiveRoot ω N) {t u : ℕ} (ht : t < N) (hu : u < N) :
    ∑ k ∈ range N, (ω ^ t * ω⁻¹ ^ u) ^ k = if t = u then (N : K) else 0 := by
  have hpow : (ω ^ t * ω⁻¹ ^ u) ^ N = 1 := by
    rw [mul_pow, ← pow_mul, ← pow_mul, mul_comm t, mul_comm u, pow_mul, pow_mul, inv_pow, hω.pow_eq_one]
    simp
  have hone : ω ^ t * ω⁻¹ ^ u = 1 ↔ t = u := by
    rw [inv_pow, mul_inv_eq_one₀ (pow_ne_zero _ (hω.ne_zero (by omega)))]
    exact ⟨fun h => hω.pow_inj ht hu h, fun h => by rw [h]⟩
  rw [geom_sum_root _ N hpow]
  simp only [hone]

/-- If the rows of `B` and `A` are orthogonal with norm `N`, then `v ↦ N⁻¹·Σ_u v_u B_u` is inverted by `A`. -/
theorem sum_inv_of_orth (hNK : (N : K) ≠ 0) (A B : ℕ → ℕ → K)
    (h : ∀ u ∈ range N, ∀ t < N, ∑ k ∈ range N, B u k * A t k = if t = u then (N : K) else 0)
    (v : ℕ → K) (t : ℕ) (ht : t < N) :
    ∑ k ∈ range N, ((N : K)⁻¹ * ∑ u ∈ range N, v u * B u k) * A t k = v t := by
  calc _ = ∑ u ∈ range N, (N : K)⁻¹ * v u * ∑ k ∈ range N, B u k * A t k := by
        simp only [mul_sum, sum_mul, mul_assoc]
        exact sum_comm
    _ = v t := by
        rw [sum_congr rfl fun u hu => by rw [h u hu t ht]]
        simp only [mul_ite, mul_zero]
        rw [sum_ite_eq (range N) t, if_pos (mem_range.mpr ht), mul_right_comm, inv_mul_cancel₀ hNK, one_mul]

theorem evalOdd_interpOdd (hζ : IsPrimitiveRoot ζ (2 * N)) (hN : 0 < N) (hNK : (N : K) ≠ 0) (v : ℕ → K)
    (t : ℕ) (ht : t < N) : evalOdd ζ N (interpOdd ζ N v) t = v t := by
  have hz : ζ * ζ⁻¹ = 1 := mul_inv_cancel₀ (hζ.ne_zero (by omega))
  refine sum_inv_of_orth hNK (fun t k => ζ ^ ((2 * t + 1) * k)) (fun u k => ζ⁻¹ ^ ((2 * u + 1) * k))
    (fun u hu t ht => ?_) v t ht
  rw [← sum_ratio_pow (sq_primitive hζ hN) ht (mem_range.mp hu)]
  refine sum_congr rfl fun k _ => ?_
  calc ζ⁻¹ ^ ((2 * u + 1) * k) * ζ ^ ((2 * t + 1) * k)
      = ((ζ ^ 2) ^ t * (ζ⁻¹ ^ 2) ^ u) ^ k * (ζ * ζ⁻¹) ^ k := by ring
    _ = _ := by rw [hz, one_pow, mul_one, inv_pow]

theorem interpOdd_evalOdd (hζ : IsPrimitiveRoot ζ (2 * N)) (hN : 0 < N) (hNK : (N : K) ≠ 0) (m : ℕ → K)
    (k : ℕ) (hk : k < N) : interpOdd ζ N (evalOdd ζ N m) k = m k := by
  have hz : ζ ≠ 0 := hζ.ne_zero (by omega)
  unfold interpOdd evalOdd
  rw [mul_sum]
  simp only [← mul_assoc]
  refine sum_inv_of_orth hNK (fun k t => ζ⁻¹ ^ ((2 * t + 1) * k)) (fun l t => ζ ^ ((2 * t + 1) * l))
    (fun l hl k hk => ?_) m k hk
  -- `Σ_t ζ^((2t+1)l)·ζ⁻¹^((2t+1)k) = ζ^l·ζ⁻¹^k · Σ_t (ω^l·ω⁻¹^k)^t`, and `ζ^l·ζ⁻¹^l = 1`
  rw [sum_congr rfl fun t _ => show ζ ^ ((2 * t + 1) * l) * ζ⁻¹ ^ ((2 * t + 1) * k)
      = (ζ ^ l * ζ⁻¹ ^ k) * ((ζ ^ 2) ^ l * (ζ ^ 2)⁻¹ ^ k) ^ t by rw [← inv_pow ζ 2]; ring,
    ← mul_sum, sum_ratio_pow (sq_primitive hζ hN) (mem_range.mp hl) hk]
  split
  · rename_i h
    rw [h, inv_pow, mul_inv_cancel₀ (pow_ne_zero _ hz), one_mul, if_pos rfl]
  · rename_i h
    rw [mul_zero, if_neg (Ne.symm h)]

end exact

section rounding
variable {K : Type*} [NormedField K]

theorem evalOdd_add (ζ : K) (N : ℕ) (m δ : ℕ → K) (t : ℕ) :
    evalOdd ζ N (fun k => m k + δ k) t = evalOdd ζ N m t + evalOdd ζ N δ t := by
  unfold evalOdd; rw [← sum_add_distrib]; apply sum_congr rfl; intro k _; ring

theorem slot_error_of_coeff_error (ζ : K) (N : ℕ) (hζ : ‖ζ‖ = 1) (m δ : ℕ → K) (B : ℝ)
    (hδ : ∀ k < N, ‖δ k‖ ≤ B) (t : ℕ) :
    ‖evalOdd ζ N (fun k => m k + δ k) t - evalOdd ζ N m t‖ ≤ N * B := by
  rw [evalOdd_add, add_sub_cancel_left]
  unfold evalOdd
  simp only [pow_mul]
  exact CKKS.embedding_bound N δ (ζ ^ (2 * t + 1)) B (by rw [norm_pow, hζ, one_pow]) hδ

theorem norm_root_eq_one {ζ : K} {n : ℕ} (hn : 0 < n) (h : ζ ^ n = 1) : ‖ζ‖ = 1 := by
  have h1 : ‖ζ‖ ^ n = 1 := by rw [← norm_pow, h, norm_one]
  exact (pow_eq_one_iff_of_nonneg (norm_nonneg ζ) (by omega)).mp h1

end rounding
end Lattigo.EncoderC
