/-
  Integer encoder (schemes/bgv/encoder.go): DecodeRingT ∘ EncodeRingT = id (mod t) and the int64
  sign trick.
-/
import Lattigo.Model.EncoderT
import Mathlib.Data.List.Nodup
import Mathlib.Data.List.GetD
import Mathlib.Data.ZMod.Basic
import Lattigo.Proofs.ZModCast
import Mathlib.Tactic.Ring

namespace Lattigo.EncoderT
open Lattigo

theorem setAll_length : ∀ (ps vs buf : List Nat), (setAll ps vs buf).length = buf.length
  | [], _, _ => by simp [setAll]
  | _ :: _, [], _ => by simp [setAll]
  | p :: ps, v :: vs, buf => by simp [setAll, setAll_length ps vs]

theorem setAll_map (f : Nat → Nat) : ∀ (ps vs buf : List Nat),
    (setAll ps vs buf).map f = setAll ps (vs.map f) (buf.map f)
  | [], _, _ => by simp [setAll]
  | _ :: _, [], _ => by simp [setAll]
  | p :: ps, v :: vs, buf => by simp only [setAll, List.map_cons, setAll_map f ps vs, List.map_set]

theorem setAll_forall (P : Nat → Prop) : ∀ (ps vs buf : List Nat),
    (∀ e ∈ buf, P e) → (∀ v ∈ vs, P v) → ∀ e ∈ setAll ps vs buf, P e
  | [], _, _ => by intro hb _ e he; simp only [setAll] at he; exact hb e he
  | _ :: _, [], _ => by intro hb _ e he; simp only [setAll] at he; exact hb e he
  | p :: ps, v :: vs, buf => by
    intro hb hv e he
    simp only [setAll] at he
    refine setAll_forall P ps vs (buf.set p v) ?_ (fun w hw => hv w (List.mem_cons_of_mem _ hw)) e he
    intro x hx
    rcases List.mem_or_eq_of_mem_set hx with h | h
    · exact hb x h
    · rw [h]; exact hv v (List.mem_cons_self)

theorem setAll_getD_of_not_mem : ∀ (ps vs buf : List Nat) (q : Nat), q ∉ ps →
    (setAll ps vs buf).getD q 0 = buf.getD q 0
  | [], _, _, _ => by intro _; simp [setAll]
  | _ :: _, [], _, _ => by intro _; simp [setAll]
  | p :: ps, v :: vs, buf, q => by
    intro h
    have hne : p ≠ q := fun e => h (by rw [e]; exact List.mem_cons_self)
    have hq : q ∉ ps := fun e => h (List.mem_cons_of_mem _ e)
    simp only [setAll]
    rw [setAll_getD_of_not_mem ps vs (buf.set p v) q hq]
    simp [List.getD_eq_getElem?_getD, hne]

theorem setAll_getD : ∀ (ps vs buf : List Nat), ps.Nodup → (∀ p ∈ ps, p < buf.length) →
    ∀ (i : Nat) (hi : i < ps.length) (hv : i < vs.length), (setAll ps vs buf).getD ps[i] 0 = vs[i]
  | [], _, _ => by intro _ _ i hi; simp at hi
  | _ :: _, [], _ => by intro _ _ i _ hv; simp at hv
  | p :: ps, v :: vs, buf => by
    intro hnd hlt i hi hv
    have hnd' := List.nodup_cons.mp hnd
    simp only [setAll]
    cases i with
    | zero =>
      simp only [List.getElem_cons_zero]
      rw [setAll_getD_of_not_mem ps vs (buf.set p v) p hnd'.1]
      have hp : p < buf.length := hlt p List.mem_cons_self
      simp [List.getD_eq_getElem?_getD, hp]
    | succ i =>
      simp only [List.getElem_cons_succ]
      exact setAll_getD ps vs (buf.set p v) hnd'.2
        (by intro q hq; rw [List.length_set]; exact hlt q (List.mem_cons_of_mem _ hq)) i
        (by simpa using hi) (by simpa using hv)

theorem map_getD_setAll (ps vs buf : List Nat) (hnd : ps.Nodup) (hlt : ∀ p ∈ ps, p < buf.length)
    (hl : vs.length = ps.length) : ps.map (fun p => (setAll ps vs buf).getD p 0) = vs := by
  apply List.ext_getElem (by simp [hl])
  intro i h1 h2
  rw [List.getElem_map]
  exact setAll_getD ps vs buf hnd hlt i (by simpa using h1) h2

theorem setAll_take : ∀ (ps vs buf : List Nat), setAll ps vs buf = setAll (ps.take vs.length) vs buf
  | [], _, _ => by simp [setAll]
  | _ :: _, [], _ => by simp [setAll]
  | p :: ps, v :: vs, buf => by simp only [setAll, List.length_cons, List.take_succ_cons]; exact setAll_take ps vs _

theorem setAll_append (ps₂ vs₂ : List Nat) : ∀ (ps₁ vs₁ buf : List Nat), ps₁.length = vs₁.length →
    setAll (ps₁ ++ ps₂) (vs₁ ++ vs₂) buf = setAll ps₂ vs₂ (setAll ps₁ vs₁ buf)
  | [], [], _, _ => rfl
  | [], _ :: _, _, h => (Nat.succ_ne_zero _ h.symm).elim
  | _ :: _, [], _, h => (Nat.succ_ne_zero _ h).elim
  | p :: ps, v :: vs, buf, h => by
    simp only [List.cons_append, setAll]
    exact setAll_append ps₂ vs₂ ps vs _ (Nat.succ.inj h)

/-- the two loops of `EncodeRingT` (the values, then zeros at the remaining positions) are ONE scatter of the
    zero-padded values -/
theorem zeroFill_scatter (perm vals buf : List Nat) (hvl : vals.length ≤ perm.length) :
    zeroFill perm vals.length (scatter perm vals buf)
      = setAll perm (vals ++ List.replicate (perm.length - vals.length) 0) buf := by
  have h := setAll_append (perm.drop vals.length) (List.replicate (perm.length - vals.length) 0)
    (perm.take vals.length) vals buf (by simp [hvl])
  rw [List.take_append_drop] at h
  rw [h, ← setAll_take]
  rfl

theorem map_mod_mod (t : ℕ) (l : List ℕ) : (l.map (· % t)).map (· % t) = l.map (· % t) := by
  rw [List.map_map]
  exact List.map_congr_left fun x _ => Nat.mod_mod x t

/-- `s⁻¹·(s·y) = y mod t` (no reducedness needed) -/
theorem mulScalar_inv_mod (t s si : ℕ) (h : s * si % t = 1) (y : List ℕ) :
    mulScalar t si (mulScalar t s y) = y.map (· % t) := by
  unfold mulScalar
  rw [List.map_map]
  apply List.map_congr_left
  intro e _
  simp only [Function.comp]
  rw [Nat.mod_mul_mod, mul_assoc, Nat.mul_mod, h, mul_one, Nat.mod_mod]

theorem mulScalar_inv (t s si : Nat) (h : s * si % t = 1) (y : List Nat) (hy : ∀ e ∈ y, e < t) :
    mulScalar t si (mulScalar t s y) = y := by
  rw [mulScalar_inv_mod t s si h]
  conv_rhs => rw [← List.map_id y]
  exact List.map_congr_left fun e he => Nat.mod_eq_of_lt (hy e he)

theorem mulScalar_cast (t s : ℕ) (a : List ℕ) :
    (mulScalar t s a).map (Nat.cast : ℕ → ZMod t) = (a.map (Nat.cast : ℕ → ZMod t)).map (· * (s : ZMod t)) :=
  map_mulmod_cast t s a

/-- the slot vector the int64 path hands to INTT (NOT reduced: entries may equal `t`, and stale
    buffer content survives at positions outside the index table) -/
def slotsI (perm vals buf : List Nat) : List Nat := zeroFill perm vals.length (scatter perm vals buf)

/-- the slot vector the uint64 path hands to INTT -/
def slotsU (t : Nat) (perm vals buf : List Nat) : List Nat :=
  zeroFill perm vals.length ((scatter perm vals buf).map (· % t))

theorem slotsU_eq_slotsI (t : Nat) (perm vals buf : List Nat) :
    slotsU t perm vals buf = slotsI perm (vals.map (· % t)) (buf.map (· % t)) := by
  unfold slotsU slotsI scatter
  rw [setAll_map, List.length_map]

theorem slotsI_length (perm vals buf : List Nat) : (slotsI perm vals buf).length = buf.length := by
  simp [slotsI, zeroFill, scatter, setAll_length]

theorem slotsU_length (t : Nat) (perm vals buf : List Nat) : (slotsU t perm vals buf).length = buf.length := by
  rw [slotsU_eq_slotsI, slotsI_length, List.length_map]

theorem slotsU_lt (t : Nat) (ht : 0 < t) (perm vals buf : List Nat) : ∀ e ∈ slotsU t perm vals buf, e < t := by
  unfold slotsU zeroFill
  apply setAll_forall (fun e => e < t)
  · intro e he
    simp only [List.mem_map] at he
    obtain ⟨x, _, rfl⟩ := he
    exact Nat.mod_lt _ ht
  · intro v hv
    rw [List.eq_of_mem_replicate hv]; exact ht

theorem slotsI_read (perm vals buf : List Nat) (hnd : perm.Nodup) (hlt : ∀ p ∈ perm, p < buf.length)
    (hvl : vals.length ≤ perm.length) :
    (perm.map fun p => (slotsI perm vals buf).getD p 0)
      = vals ++ List.replicate (perm.length - vals.length) 0 := by
  rw [slotsI, zeroFill_scatter perm vals buf hvl]
  exact map_getD_setAll perm _ buf hnd hlt (by simp; omega)

theorem slotsU_read (t : Nat) (perm vals buf : List Nat) (len : Nat) (hnd : perm.Nodup)
    (hlt : ∀ p ∈ perm, p < buf.length) (hvl : vals.length ≤ perm.length) :
    ((perm.take len).map fun p => (slotsU t perm vals buf).getD p 0)
      = ((vals.map (· % t)) ++ List.replicate (perm.length - vals.length) 0).take len := by
  rw [List.map_take, slotsU_eq_slotsI,
    slotsI_read perm _ _ hnd (by simpa using hlt) (by simpa using hvl), List.length_map]

theorem encodeRingTU_eq_some_iff {T : NTT.Tables} {perm vals buf p : List Nat} {scale : Nat} :
    encodeRingTU T perm vals scale buf = some p
      ↔ vals.length ≤ perm.length ∧ p = mulScalar T.q scale (NTT.inttStd T (slotsU T.q perm vals buf)) := by
  unfold encodeRingTU
  by_cases hvl : vals.length > perm.length
  · rw [if_pos hvl]; exact ⟨nofun, fun h => absurd h.1 (by omega)⟩
  · rw [if_neg hvl, Option.some.injEq]; exact ⟨fun h => ⟨by omega, h.symm⟩, fun h => h.2.symm⟩

theorem decode_encode_T_of_slots (T : NTT.Tables) (perm vals buf p : List Nat) (scale len : Nat)
    (hperm : perm.Nodup) (hplt : ∀ q ∈ perm, q < T.n) (hbuf : buf.length = T.n)
    (hs : scale * scaleInv T.q scale % T.q = 1)
    (hntt : NTT.nttStd T (NTT.inttStd T (slotsU T.q perm vals buf)) = slotsU T.q perm vals buf)
    (hlt : ∀ e ∈ NTT.inttStd T (slotsU T.q perm vals buf), e < T.q)
    (henc : encodeRingTU T perm vals scale buf = some p) :
    decodeRingTU T perm scale p len
      = ((vals.map (· % T.q)) ++ List.replicate (perm.length - vals.length) 0).take len := by
  obtain ⟨hvl, rfl⟩ := encodeRingTU_eq_some_iff.1 henc
  unfold decodeRingTU
  rw [mulScalar_inv T.q scale _ hs _ hlt, hntt]
  exact slotsU_read T.q perm vals buf len hperm (by rw [hbuf]; exact hplt) hvl

set_option linter.unusedVariables false in  -- `hlen` is not needed: both sides are cut to `len`
/-- `hntt`, `hlt` are discharged from `Valid T K` in `EncoderTRound` (`decode_encode_T_valid`). -/
theorem decode_encode_T (T : NTT.Tables) (perm vals buf p : List Nat) (scale len : Nat)
    (ht : 1 < T.q) (hperm : perm.Nodup) (hplt : ∀ q ∈ perm, q < T.n) (hbuf : buf.length = T.n)
    (hs : scale * scaleInv T.q scale % T.q = 1)
    (hntt : ∀ x : List Nat, x.length = T.n → (∀ e ∈ x, e < T.q) → NTT.nttStd T (NTT.inttStd T x) = x)
    (hlt : ∀ x : List Nat, x.length = T.n → ∀ e ∈ NTT.inttStd T x, e < T.q)
    (hlen : len ≤ perm.length)
    (henc : encodeRingTU T perm vals scale buf = some p) :
    decodeRingTU T perm scale p len
      = ((vals.map (· % T.q)) ++ List.replicate (perm.length - vals.length) 0).take len :=
  have hxl : (slotsU T.q perm vals buf).length = T.n := by rw [slotsU_length, hbuf]
  decode_encode_T_of_slots T perm vals buf p scale len hperm hplt hbuf hs
    (hntt _ hxl (slotsU_lt T.q (by omega) perm vals buf)) (hlt _ hxl) henc

theorem i64Slot_natCast (t n : ℕ) (hn : n < 2 ^ 63) : i64Slot t (n : ℤ) = n % t := by
  have hu : ((n : ℤ) % (W : ℤ)).toNat = n := by
    rw [← Int.natCast_mod, Int.toNat_natCast, Nat.mod_eq_of_lt (by unfold W; omega)]
  have hs : n / 2 ^ 63 = 0 := Nat.div_eq_of_lt hn
  unfold i64Slot
  simp only [hu, hs, zero_ne_one, ↓reduceIte]

/-- a negative `int64` (`MinInt64` included): `uint64(c)` is `2^64 − n`, its top bit is set, and the
    two's-complement negation gives `n` back -/
theorem i64Slot_neg_natCast (t n : ℕ) (h0 : 0 < n) (hn : n ≤ 2 ^ 63) : i64Slot t (-(n : ℤ)) = t - n % t := by
  have hu : ((-(n : ℤ)) % (W : ℤ)).toNat = W - n := by
    rw [← Int.add_emod_right, Int.emod_eq_of_lt (by unfold W; omega) (by unfold W; omega)]
    unfold W; omega
  have hs : (W - n) / 2 ^ 63 = 1 := by unfold W; omega
  have hm : (W - (W - n)) % W = n := by unfold W; omega
  unfold i64Slot
  simp only [hu, hs, one_ne_zero, ↓reduceIte, hm]

/-- The residue lies in `[0, t]`: it is `t` itself, not `0`, for negative multiples of `t`. -/
theorem i64Slot_spec (t : Nat) (c : Int) (ht : 0 < t) (hlo : -(2 ^ 63 : Int) ≤ c) (hhi : c < (2 ^ 63 : Int)) :
    ((i64Slot t c : Nat) : Int) ≡ c [ZMOD (t : Int)] ∧ i64Slot t c ≤ t := by
  by_cases hc : 0 ≤ c
  · obtain ⟨n, rfl⟩ := Int.eq_ofNat_of_zero_le hc
    rw [i64Slot_natCast t n (by omega)]
    exact ⟨by rw [Int.natCast_mod]; exact Int.mod_modEq _ _, le_of_lt (Nat.mod_lt _ ht)⟩
  · obtain ⟨n, rfl⟩ := Int.exists_eq_neg_ofNat (by omega : c ≤ 0)
    rw [i64Slot_neg_natCast t n (by omega) (by omega)]
    refine ⟨?_, Nat.sub_le _ _⟩
    rw [Nat.cast_sub (le_of_lt (Nat.mod_lt _ ht)), Int.natCast_mod]
    have h2 : ((t : Int) - (n : ℤ) % (t : Int)) ≡ (0 - (n : ℤ)) [ZMOD (t : Int)] :=
      Int.ModEq.sub (by simp [Int.ModEq]) (Int.mod_modEq _ _)
    simpa using h2

end Lattigo.EncoderT
