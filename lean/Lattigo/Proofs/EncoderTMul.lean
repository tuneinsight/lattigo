/-
  Encoded plaintexts multiply slot-wise (property C07, integer half, plaintext ring Z_t[Y]/(Y^n+1)):

      DecodeRingT( EncodeRingT(u, s₁) ⊛ EncodeRingT(v, s₂), scale s ≡ s₁·s₂ ) = u ⊙ v  (mod t)

  `⊛ = RPoly.rowMul t` is the negacyclic product of the plaintext ring, `⊙` the slot-wise product modulo `t`.
  Ingredients: C01's `nttStd_mul` (NTT of the product = pointwise product), the linearity of the
  exact network (`RPolyRefine.fwdZ_map`), `nttStd_inttStd` (NTT ∘ INTT = id) and `modExp_fermat`.
-/
import Lattigo.Proofs.EncoderTRound
import Lattigo.Proofs.EncoderTPerm

namespace Lattigo.EncoderT
open Lattigo Lattigo.Gen Lattigo.NTT

section
variable {T : Tables} {K : ℕ}

theorem red_mulScalar (hT : Valid T K) (s : ℕ) {a : List ℕ} (ha : RPolyRefine.Red T a) :
    RPolyRefine.Red T (mulScalar T.q s a) :=
  ⟨by rw [mulScalar_length, ha.len], mulScalar_lt _ _ hT.q_pos _⟩

theorem nttStd_mulScalar (hT : Valid T K) (s : ℕ) {a : List ℕ} (ha : RPolyRefine.Red T a) :
    nttStd T (mulScalar T.q s a) = mulScalar T.q s (nttStd T a) := by
  have : Fact T.q.Prime := ⟨hT.prime⟩
  have hs := red_mulScalar hT s ha
  apply map_cast_inj (q := T.q) _ _ (nttStd_cast hT _ hs.lt).2 (mulScalar_lt T.q s hT.q_pos _)
  rw [(nttStd_cast hT _ hs.lt).1, mulScalar_cast,
    RPolyRefine.fwdZ_map _ _ (fun _ _ _ => by ring) (fun _ _ _ => by ring) K 1 _
      (by rw [List.length_map, ha.len, hT.n_eq]),
    mulScalar_cast, (nttStd_cast hT a ha.lt).1]

/-- the algebraic core: `NTT(s⁻¹ · ((s₁·INTT x) ⊛ (s₂·INTT y))) = x ⊙ y` when `s₁ s₂ s⁻¹ ≡ 1` -/
theorem ntt_mul_scaled (hT : Valid T K) (hinv : TableInv (rho T.q T.rootsF) (2 ^ K))
    (x y : List ℕ) (hx : RPolyRefine.Red T x) (hy : RPolyRefine.Red T y) (su sv si : ℕ)
    (hs : su * sv * si % T.q = 1) :
    nttStd T (mulScalar T.q si
        (RPoly.rowMul T.q (mulScalar T.q su (inttStd T x)) (mulScalar T.q sv (inttStd T y))))
      = List.zipWith (fun a b => a * b % T.q) x y := by
  have hax := red_mulScalar hT su (hx.intt hT)
  have hay := red_mulScalar hT sv (hy.intt hT)
  rw [nttStd_mulScalar hT si (hax.rowMul hT _), nttStd_mul hT hinv _ _ hax.len hay.len hax.lt hay.lt,
    nttStd_mulScalar hT su (hx.intt hT), nttStd_mulScalar hT sv (hy.intt hT),
    RPolyRefine.nttStd_inttStd hT x hx, RPolyRefine.nttStd_inttStd hT y hy]
  unfold mulScalar
  rw [List.zipWith_map, List.map_zipWith]
  congr 1
  funext a b
  have h1 : (((a * su % T.q * (b * sv % T.q) % T.q * si % T.q : ℕ) : ℕ) : ZMod T.q)
      = ((a * b % T.q : ℕ) : ZMod T.q) := by
    have h := (ZMod.natCast_eq_natCast_iff' (su * sv * si) 1 T.q).2
      (by rw [hs, Nat.mod_eq_of_lt hT.prime.one_lt])
    simp only [Nat.cast_mul, Nat.cast_one] at h
    simp only [ZMod.natCast_mod, Nat.cast_mul]
    linear_combination ((a : ZMod T.q) * b) * h
  exact eq_of_cast_eq (Nat.mod_lt _ hT.q_pos) (Nat.mod_lt _ hT.q_pos) h1

end

theorem map_getD_zipWith (f : ℕ → ℕ → ℕ) (x y ps : List ℕ) (hx : ∀ p ∈ ps, p < x.length)
    (hy : ∀ p ∈ ps, p < y.length) :
    (ps.map fun p => (List.zipWith f x y).getD p 0)
      = List.zipWith f (ps.map fun p => x.getD p 0) (ps.map fun p => y.getD p 0) := by
  rw [List.zipWith_map, List.zipWith_self]
  exact List.map_congr_left fun p hp => ListLemmas.getD_zipWith f x y p 0 0 (hx p hp) (hy p hp)

theorem encode_mul_T (T : NTT.Tables) (K : ℕ) (hT : Valid T K)
    (hinv : TableInv (rho T.q T.rootsF) (2 ^ K))
    (perm u v buf1 buf2 pu pv : List ℕ) (su sv s len : ℕ)
    (hperm : perm.Nodup) (hplt : ∀ q ∈ perm, q < T.n)
    (hbuf1 : buf1.length = T.n) (hbuf2 : buf2.length = T.n)
    (hs : s % T.q = su * sv % T.q) (hsd : ¬ T.q ∣ s)
    (hencu : encodeRingTU T perm u su buf1 = some pu)
    (hencv : encodeRingTU T perm v sv buf2 = some pv) :
    decodeRingTU T perm s (RPoly.rowMul T.q pu pv) len
      = (List.zipWith (fun a b => a * b % T.q)
          ((u.map (· % T.q)) ++ List.replicate (perm.length - u.length) 0)
          ((v.map (· % T.q)) ++ List.replicate (perm.length - v.length) 0)).take len := by
  have hq := hT.q_pos
  have hsss : su * sv * scaleInv T.q s % T.q = 1 := by
    rw [Nat.mul_mod, ← hs, ← Nat.mul_mod]; exact scaleInv_valid hT s hsd
  obtain ⟨hul, rfl⟩ := encodeRingTU_eq_some_iff.1 hencu
  obtain ⟨hvl, rfl⟩ := encodeRingTU_eq_some_iff.1 hencv
  have hxl : (slotsU T.q perm u buf1).length = T.n := by rw [slotsU_length, hbuf1]
  have hyl : (slotsU T.q perm v buf2).length = T.n := by rw [slotsU_length, hbuf2]
  have hpt : ∀ p ∈ perm.take len, p < T.n := fun p hp => hplt p (List.mem_of_mem_take hp)
  unfold decodeRingTU
  rw [ntt_mul_scaled hT hinv _ _ ⟨hxl, slotsU_lt T.q hq perm u buf1⟩ ⟨hyl, slotsU_lt T.q hq perm v buf2⟩ su sv _ hsss,
    map_getD_zipWith _ _ _ _ (by rwa [hxl]) (by rwa [hyl]),
    slotsU_read T.q perm u buf1 len hperm (by rwa [hbuf1]) hul,
    slotsU_read T.q perm v buf2 len hperm (by rwa [hbuf2]) hvl, List.take_zipWith]

end Lattigo.EncoderT
