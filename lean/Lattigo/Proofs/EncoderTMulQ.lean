/-
  `encode_mul` in `R_Q`: the product of two lifted plaintexts (`RingT2Q` with `T⁻¹`), multiplied by `T`, is decoded by
  `RingQ2T` to the negacyclic product of the plaintext polynomials modulo `t` — provided the integer product does
  not wrap modulo `Q` (`2·n·(t−1)² + 1 < Q`).  Every level (one modulus / CRT branches), every gap.
-/
import Lattigo.Proofs.EncoderTRound
import Lattigo.Proofs.EncoderTMul
import Lattigo.Proofs.RPolyRing

namespace Lattigo.EncoderT
open Lattigo Finset

/-- `Σ_{i ≤ k} x_i y_{k−i}` -/
def posN (x y : List ℕ) (k : ℕ) : ℕ := ∑ i ∈ range (k + 1), x.getD i 0 * y.getD (k - i) 0

/-- `Σ_{i > k} x_i y_{n+k−i}` -/
def negN (x y : List ℕ) (n k : ℕ) : ℕ :=
  ∑ j ∈ range (n - 1 - k), x.getD (k + 1 + j) 0 * y.getD (n + k - (k + 1 + j)) 0

/-- the row of residues modulo `q` of the integer negacyclic product of `A` and `B`, from the two sums -/
def prodRow (q N : ℕ) (A B : List ℕ) : List ℕ :=
  (List.range N).map fun k => diffT q (posN A B k) (negN A B N k)

theorem rowMul_eq_prodRow (q : ℕ) (x y : List ℕ) : RPoly.rowMul q x y = prodRow q x.length x y := by
  unfold RPoly.rowMul prodRow
  apply List.map_congr_left
  intro k _
  have h1 := NTT.foldl_mod_eq q (fun i => x.toArray[i]! * y.toArray[k - i]!) (k + 1)
  have h2 := NTT.foldl_mod_eq q
    (fun j => x.toArray[k + 1 + j]! * y.toArray[x.length + k - (k + 1 + j)]!) (x.length - 1 - k)
  simp only [ListLemmas.toArray_get!] at h1 h2 ⊢
  rw [h1, h2]
  rfl

theorem prodRow_res (q N : ℕ) (hq : 0 < q) (A B : List ℕ) :
    prodRow q N A B = (List.range N).map fun j => res q ((posN A B j : ℤ) - (negN A B N j : ℕ)) :=
  List.map_congr_left fun _ _ => diffT_res q _ _ hq

section residues
variable {q : ℕ}

theorem sum_scaled_cast (c : ℕ) (A B : List ℕ) (s : Finset ℕ) (f g : ℕ → ℕ) :
    ((∑ i ∈ s, (A.map fun x => x * c % q).getD (f i) 0 * (B.map fun x => x * c % q).getD (g i) 0 : ℕ) : ZMod q)
      = (c : ZMod q) * c * ((∑ i ∈ s, A.getD (f i) 0 * B.getD (g i) 0 : ℕ) : ZMod q) := by
  rw [Nat.cast_sum, Nat.cast_sum, mul_sum]
  apply sum_congr rfl
  intro i _
  rw [ListLemmas.getD_map_of_eq _ 0 0 (by simp) A, ListLemmas.getD_map_of_eq _ 0 0 (by simp) B]
  push_cast
  rw [ZMod.natCast_mod, ZMod.natCast_mod]
  push_cast
  ring

theorem posN_scaled_cast (c : ℕ) (A B : List ℕ) (k : ℕ) :
    ((posN (A.map fun x => x * c % q) (B.map fun x => x * c % q) k : ℕ) : ZMod q)
      = (c : ZMod q) * c * (posN A B k : ZMod q) :=
  sum_scaled_cast c A B _ _ _

theorem negN_scaled_cast (c : ℕ) (A B : List ℕ) (n k : ℕ) :
    ((negN (A.map fun x => x * c % q) (B.map fun x => x * c % q) n k : ℕ) : ZMod q)
      = (c : ZMod q) * c * (negN A B n k : ZMod q) :=
  sum_scaled_cast c A B _ _ _

/-- Residues of `T·T·(a ⊛ b)` for `a = A·T⁻¹`, `b = B·T⁻¹` modulo `q` (`t1`, `t2`: two representatives of `T`
    modulo `q`): the plain residue of the integer negacyclic product `P − M` of `A` and `B`. -/
theorem mul_scaled_residue (hq : 0 < q) (c t1 t2 : ℕ) (hc1 : c * t1 % q = 1 % q) (hc2 : c * t2 % q = 1 % q)
    (A B : List ℕ) :
    ((RPoly.rowMul q (A.map fun x => x * c % q) (B.map fun x => x * c % q)).map fun x => x * t1 % q).map
        (fun x => x * t2 % q)
      = prodRow q A.length A B := by
  have cast1 : ∀ tq : ℕ, c * tq % q = 1 % q → ((c : ℕ) : ZMod q) * (tq : ZMod q) = 1 := by
    intro tq h
    have := cast_of_mod h
    push_cast at this
    exact this
  have h1 := cast1 t1 hc1
  have h2 := cast1 t2 hc2
  rw [rowMul_eq_prodRow, List.length_map]
  unfold prodRow
  rw [List.map_map, List.map_map]
  apply List.map_congr_left
  intro k _
  apply eq_of_cast_eq (Nat.mod_lt _ hq) (show diffT q (posN A B k) (negN A B A.length k) < q from Nat.mod_lt _ hq)
  rw [ZMod.natCast_mod, Nat.cast_mul, ZMod.natCast_mod, Nat.cast_mul, diffT_cast q _ _ hq, diffT_cast q _ _ hq,
    posN_scaled_cast, negN_scaled_cast]
  linear_combination ((posN A B k : ZMod q) - (negN A B A.length k : ZMod q)) * ((c : ZMod q) * t2) * h1
    + ((posN A B k : ZMod q) - (negN A B A.length k : ZMod q)) * h2

end residues

theorem sum_multiples {F : Type} [AddCommMonoid F] (g : ℕ) (hg : 0 < g) (G : ℕ → F) : ∀ m : ℕ,
    ∑ i ∈ range (m * g), (if i % g = 0 then G (i / g) else 0) = ∑ i ∈ range m, G i
  | 0 => by simp
  | m + 1 => by
    rw [Nat.succ_mul, sum_range_add, sum_multiples g hg G m, sum_range_succ]
    congr 1
    rw [sum_eq_single 0]
    · simp [Nat.mul_mod_left, Nat.mul_div_cancel _ hg]
    · intro x hx hx0
      have hxg : x < g := mem_range.1 hx
      have : (m * g + x) % g ≠ 0 := by
        rw [Nat.mul_add_mod_of_lt hxg]; exact hx0
      rw [if_neg this]
    · intro h; exact absurd (mem_range.2 hg) h

theorem evalRow_gapEmbed {F : Type} [CommRing F] (g n : ℕ) (hg : 0 < g) (p : List ℕ) (x : F) :
    RPolyRing.evalRow (n * g) (gapEmbed g (n * g) p) x = RPolyRing.evalRow n p (x ^ g) := by
  unfold RPolyRing.evalRow
  rw [← sum_multiples g hg (fun j => ((p.getD j 0 : ℕ) : F) * (x ^ g) ^ j) n]
  refine sum_congr rfl fun i hi => ?_
  rw [gapEmbed, ListLemmas.getD_map_range _ _ _ (mem_range.1 hi)]
  by_cases h0 : i % g = 0
  · rw [if_pos h0, if_pos h0, ← pow_mul, Nat.mul_div_cancel' (Nat.dvd_of_mod_eq_zero h0)]
  · rw [if_neg h0, if_neg h0, Nat.cast_zero, zero_mul]

/-- the product of two gap embeddings is the gap embedding of the product: both sides are reduced rows with the same
    value at the root `r` of `X^(n·g) + 1` (`rowMul` is the product there, and `r^g` is a root of `Y^n + 1`) -/
theorem rowMul_gapEmbed (q g n : ℕ) (hq : 2 ≤ q) (hg : 0 < g) (hn : 0 < n) (pa pb : List ℕ) (hal : pa.length = n) :
    RPoly.rowMul q (gapEmbed g (n * g) pa) (gapEmbed g (n * g) pb)
      = gapEmbed g (n * g) (RPoly.rowMul q pa pb) := by
  have hr := RPolyRing.root_pow_n (q := q) (n := n * g)
  have hl := gapEmbed_length g (n * g) pa
  have hwf : RPolyRing.RowWF q (n * g) (gapEmbed g (n * g) (RPoly.rowMul q pa pb)) :=
    RPolyRing.RowWF.range_map _ fun j => by
      split
      · exact ListLemmas.getD_forall (p := (· < q)) (by omega) (NTT.rowMul_lt (by omega) pa pb) _
      · omega
  have hwf1 : RPolyRing.RowWF q (n * g) (RPoly.rowMul q (gapEmbed g (n * g) pa) (gapEmbed g (n * g) pb)) :=
    ⟨by rw [NTT.rowMul_length, hl], NTT.rowMul_lt (by omega) _ _⟩
  apply RPolyRing.toQuot_inj (n := n * g) hq (Nat.mul_pos hn hg) hwf1 hwf
  rw [RPolyRing.toQuot_eq_evalRow, RPolyRing.toQuot_eq_evalRow, evalRow_gapEmbed g n hg, ← hal,
    RPolyRing.evalRow_rowMul (by omega) RPolyRing.natCast_q_Rq pa pb _ (by rw [hal, ← pow_mul', hr]),
    hal, ← evalRow_gapEmbed g n hg, ← evalRow_gapEmbed g n hg]
  have := RPolyRing.evalRow_rowMul (by omega : 0 < q) RPolyRing.natCast_q_Rq (gapEmbed g (n * g) pa)
    (gapEmbed g (n * g) pb) _ (by rw [hl]; exact hr)
  rwa [hl] at this

theorem sum_getD_mul_le (t : ℕ) (pa pb : List ℕ) (ha : ∀ e ∈ pa, e < t) (hb : ∀ e ∈ pb, e < t) (m : ℕ)
    (f g : ℕ → ℕ) : ∑ i ∈ range m, pa.getD (f i) 0 * pb.getD (g i) 0 ≤ m * ((t - 1) * (t - 1)) :=
  calc ∑ i ∈ range m, pa.getD (f i) 0 * pb.getD (g i) 0
      ≤ ∑ _i ∈ range m, (t - 1) * (t - 1) :=
        sum_le_sum fun i _ => Nat.mul_le_mul (getD_le t pa ha _) (getD_le t pb hb _)
    _ = m * ((t - 1) * (t - 1)) := by rw [sum_const, card_range, smul_eq_mul]

theorem posN_le (t : ℕ) (pa pb : List ℕ) (ha : ∀ e ∈ pa, e < t) (hb : ∀ e ∈ pb, e < t) (n j : ℕ) (hj : j < n) :
    posN pa pb j ≤ n * ((t - 1) * (t - 1)) :=
  le_trans (sum_getD_mul_le t pa pb ha hb (j + 1) _ _) (Nat.mul_le_mul_right _ hj)

theorem negN_le (t : ℕ) (pa pb : List ℕ) (ha : ∀ e ∈ pa, e < t) (hb : ∀ e ∈ pb, e < t) (n j : ℕ) :
    negN pa pb n j ≤ n * ((t - 1) * (t - 1)) :=
  le_trans (sum_getD_mul_le t pa pb ha hb (n - 1 - j) _ _) (Nat.mul_le_mul_right _ (by omega))

/-- the rows `RingQ2T` works on (after its own `MulScalar(·, T)`) for `T·(a·b)`, `a`, `b` two lifted plaintexts -/
theorem rows_mul_eq (qs : List ℕ) (t : ℕ) (A B : List ℕ) (hne : qs ≠ [])
    (h1 : ∀ q ∈ qs, 1 < q) (hct : ∀ q ∈ qs, Nat.Coprime t q) :
    let tinv := RPoly.modInv (t % RPoly.prod qs) (RPoly.prod qs)
    let a : RPoly := { qs := qs, c := qs.map fun q => A.map fun x => x * (tinv % q) % q }
    let b : RPoly := { qs := qs, c := qs.map fun q => B.map fun x => x * (tinv % q) % q }
    (RPoly.scale (a * b) t).qs = qs ∧ ((RPoly.scale (a * b) t).c.headD []).length = A.length ∧
    ((qs.zip (RPoly.scale (a * b) t).c).map fun (q, r) => r.map fun x => x * (t % q) % q)
      = qs.map fun q => prodRow q A.length A B := by
  intro tinv a b
  have hmul : (a * b).c = qs.map fun q => RPoly.rowMul q (A.map fun x => x * (tinv % q) % q)
      (B.map fun x => x * (tinv % q) % q) := by
    show ((qs.zip ((qs.map _).zip (qs.map _))).map _) = _
    rw [List.zip_map', ListLemmas.zip_map_self]
  have hsc : (RPoly.scale (a * b) t).c = qs.map fun q => (RPoly.rowMul q (A.map fun x => x * (tinv % q) % q)
      (B.map fun x => x * (tinv % q) % q)).map fun x => x * t % q := by
    show ((qs.zip (a * b).c).map _) = _
    rw [hmul, ListLemmas.zip_map_self]
    rfl
  refine ⟨rfl, ?_, ?_⟩
  · rw [hsc]
    obtain ⟨q0, l, rfl⟩ := List.exists_cons_of_ne_nil hne
    simp [NTT.rowMul_length]
  rw [hsc, ListLemmas.zip_map_self]
  apply List.map_congr_left
  intro q hq
  -- `T⁻¹ mod q` is inverse to both `t` and `t mod q` modulo `q`
  have hq1 := tinv_mod qs t q hne h1 hct hq
  exact mul_scaled_residue (by have := h1 q hq; omega) (tinv % q) t (t % q) hq1
    (by rw [Nat.mul_mod_mod]; exact hq1) A B

theorem ringQ2T_mul (qs : List ℕ) (t n g : ℕ) (pa pb : List ℕ) (hne : qs ≠ [])
    (hc : qs.Pairwise Nat.Coprime) (h1 : ∀ q ∈ qs, 1 < q) (hct : ∀ q ∈ qs, Nat.Coprime t q)
    (ht : 0 < t) (hn : 0 < n) (hg : 0 < g) (hal : pa.length = n) (hbl : pb.length = n)
    (ha : ∀ e ∈ pa, e < t) (hb : ∀ e ∈ pb, e < t)
    (hB : 2 * (n * ((t - 1) * (t - 1))) + 1 < RPoly.prod qs) :
    ringQ2T t n (RPoly.scale (ringT2Q qs t (n * g) true pa * ringT2Q qs t (n * g) true pb) t)
      = RPoly.rowMul t pa pb := by
  rw [ringT2Q_eq qs t n g pa hn hal, ringT2Q_eq qs t n g pb hn hbl]
  obtain ⟨hqs, hhead, hrows⟩ := rows_mul_eq qs t (gapEmbed g (n * g) pa) (gapEmbed g (n * g) pb) hne h1 hct
  rw [gapEmbed_length] at hhead hrows
  generalize RPoly.scale _ t = X at hqs hhead hrows ⊢
  -- the integer vector: the gap embedding of the integer negacyclic product `W` of `pa`, `pb`
  let W : ℕ → ℤ := fun j => ((posN pa pb j : ℕ) : ℤ) - (negN pa pb n j : ℕ)
  let z : List ℤ := (List.range (n * g)).map fun k => if k % g = 0 then W (k / g) else 0
  have hzj : ∀ j < n, z.getD (j * g) 0 = W j := fun j hj => by
    rw [ListLemmas.getD_map_range _ _ _ (Nat.mul_lt_mul_of_pos_right hj hg)]
    simp [Nat.mul_mod_left, Nat.mul_div_cancel _ hg]
  -- rows: modulo each `q`, the row `rows_mul_eq` gives is the row of residues of `z`
  have hres : ∀ q ∈ qs, prodRow q (n * g) (gapEmbed g (n * g) pa) (gapEmbed g (n * g) pb) = z.map (res q) :=
    fun q hq => by
      have hq0 : 0 < q := by have := h1 q hq; omega
      have hge := rowMul_gapEmbed q g n (h1 q hq) hg hn pa pb hal
      rw [rowMul_eq_prodRow, gapEmbed_length, rowMul_eq_prodRow, hal] at hge
      rw [hge, prodRow_res q n hq0]
      unfold gapEmbed
      simp only [z, List.map_map]
      refine List.map_congr_left fun k hk => ?_
      simp only [Function.comp]
      split
      · rw [ListLemmas.getD_map_range _ _ _
          (Nat.div_lt_of_lt_mul (by rw [Nat.mul_comm]; exact List.mem_range.1 hk))]
      · exact (res_zero q).symm
  -- windows: `|P_j − M_j| ≤ B := n(t−1)²`, and `2B + 1 < Q` puts `[−B, B]` inside both windows of `ringQ2T_lift`,
  -- `[⌊Q/2⌋ − Q, ⌊Q/2⌋)` and `[−⌊Q/2⌋, Q − ⌊Q/2⌋)`
  rw [ringQ2T_lift X qs t n g z hqs hne hc h1 ht hn hg hhead (by simp [z])
    (fun j hj => by
      have hP := posN_le t pa pb ha hb n j hj
      have hM := negN_le t pa pb ha hb n j
      rw [hzj j hj]
      simp only [W]
      generalize n * ((t - 1) * (t - 1)) = B at hB hP hM
      split <;> omega)
    (by rw [hrows]; exact List.map_congr_left hres), rowMul_eq_prodRow, hal, prodRow_res t n ht]
  exact List.map_congr_left fun j hj => by rw [hzj j (List.mem_range.1 hj)]

set_option linter.unusedVariables false in  -- `hlen` is not needed: both sides are cut to `len`
/-- `T·(a·b)`: each of `a`, `b` carries a factor `T⁻¹`; `RingQ2T` removes one, the explicit `T` the other. -/
theorem encode_mul_RQ (P : Params) (K g : ℕ) (h : ParamsOK P K g)
    (hinv : NTT.TableInv (NTT.rho P.T.q P.T.rootsF) (2 ^ K))
    (hB : 2 * (P.T.n * ((P.T.q - 1) * (P.T.q - 1))) + 1 < RPoly.prod P.qs)
    (u v : List ℕ) (su sv s len : ℕ) (a b : RPoly)
    (hs : s % P.T.q = su * sv % P.T.q) (hsd : ¬ P.T.q ∣ s) (hlen : len ≤ P.T.n)
    (henca : encode P true su (.u u) = some a) (hencb : encode P true sv (.u v) = some b) :
    decodeU P true s (RPoly.scale (a * b) P.T.q) len
      = (List.zipWith (fun x y => x * y % P.T.q)
          ((u.map (· % P.T.q)) ++ List.replicate (P.T.n - u.length) 0)
          ((v.map (· % P.T.q)) ++ List.replicate (P.T.n - v.length) 0)).take len := by
  unfold encode at henca hencb
  simp only [if_true, Option.map_eq_some_iff] at henca hencb
  obtain ⟨pu, hpu, rfl⟩ := henca
  obtain ⟨pv, hpv, rfl⟩ := hencb
  obtain ⟨hlu, hltu⟩ := encodeRingTU_shape P.T K h.valid P.perm u _ pu su (by simp) hpu
  obtain ⟨hlv, hltv⟩ := encodeRingTU_shape P.T K h.valid P.perm v _ pv sv (by simp) hpv
  unfold decodeU
  simp only [if_true]
  rw [h.bigN_eq, ringQ2T_mul P.qs P.T.q P.T.n g pu pv h.qs_ne h.qs_coprime h.qs_gt h.qs_t h.valid.q_pos h.n_pos
    h.g_pos hlu hlv hltu hltv hB]
  have := encode_mul_T P.T K h.valid hinv P.perm u v _ _ pu pv su sv s len h.perm_nodup h.perm_lt
    (by simp) (by simp) hs hsd hpu hpv
  rw [this, h.perm_full]

end Lattigo.EncoderT
