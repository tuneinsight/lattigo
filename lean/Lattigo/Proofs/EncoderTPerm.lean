/-
  `permuteMatrix` (schemes/bgv/encoder.go:98) is a permutation of `[0, n)` for EVERY `n = 2^K`, `K ≥ 1`.

  The table is `perm[i] = brv_K((5^i mod 2n) >> 1)`, `perm[i + n/2] = n − 1 − perm[i]`, `i < n/2`.
  * `5` has order `n/2` modulo `2n` (`EncoderC.five_pow_injective`, the Nat form of C11's
    `orderOf_five`), so the `n/2` values `5^i mod 2n` are pairwise distinct;
  * they are `≡ 1 (mod 4)`, so `(5^i mod 2n) >> 1` is even and `< n`: its bit reversal on `K` bits has the
    top bit clear, i.e. the first row lies in `[0, n/2)` and is injective (`NTT.bitRev_inj`);
  * the second row `n − 1 − perm[i]` lies in `[n/2, n)` and is injective as well.
  (Equivalently: `±5^i` exhausts the odd residues modulo `2n`; the second row is the bit reversal of
  `((−5^i) mod 2n) >> 1`, `row1_eq`.)
-/
import Lattigo.Model.EncoderT
import Lattigo.Proofs.EncoderC
import Lattigo.Proofs.NTTTables
import Mathlib.Data.List.Perm.Subperm

namespace Lattigo.EncoderT
open Lattigo

/-- the loop is that of the CKKS encoder's rotation group (`Model/EncoderC`) -/
theorem powers5_eq_rotGroupFrom (m : ℕ) : ∀ (k p : ℕ), powers5 m k p = EncoderC.rotGroupFrom m k p
  | 0, _ => rfl
  | k + 1, p => by rw [powers5, EncoderC.rotGroupFrom, powers5_eq_rotGroupFrom m k]

theorem powers5_eq (m k p : ℕ) (hp : p < m) : powers5 m k p = (List.range k).map (fun i => p * 5 ^ i % m) := by
  rw [powers5_eq_rotGroupFrom]; exact EncoderC.rotGroupFrom_eq m k p hp

/-- the first row of the table -/
def row0 (L : ℕ) : List ℕ :=
  (List.range (2 ^ L)).map fun i => NTT.bitRev (5 ^ i % 2 ^ (L + 2) / 2) (L + 1)

theorem permuteMatrix_eq (L : ℕ) :
    permuteMatrix (L + 1) = row0 L ++ (row0 L).map fun pos => 2 ^ (L + 1) - pos - 1 := by
  have h2 : 2 * 2 ^ (L + 1) = 2 ^ (L + 2) := by ring
  have hh : 2 ^ (L + 1) / 2 = 2 ^ L := by rw [pow_succ]; omega
  have h1 : 1 < 2 ^ (L + 2) := Nat.one_lt_two_pow (by omega)
  unfold permuteMatrix row0
  simp only [h2, hh]
  rw [powers5_eq _ _ _ h1, List.map_map]
  have : ((fun p => NTT.bitRev (p / 2) (L + 1)) ∘ fun i => 1 * 5 ^ i % 2 ^ (L + 2))
      = fun i => NTT.bitRev (5 ^ i % 2 ^ (L + 2) / 2) (L + 1) := by
    funext i; simp
  rw [this]

theorem pow5_mod4 (L i : ℕ) : 5 ^ i % 2 ^ (L + 2) % 4 = 1 := by
  have hd : 4 ∣ 2 ^ (L + 2) := ⟨2 ^ L, by ring⟩
  rw [Nat.mod_mod_of_dvd _ hd]
  exact EncoderC.five_pow_mod4 i

theorem pow5_half_lt (L i : ℕ) : 5 ^ i % 2 ^ (L + 2) / 2 < 2 ^ (L + 1) := by
  rw [Nat.div_lt_iff_lt_mul (by decide), ← pow_succ]
  exact Nat.mod_lt _ (by positivity)

theorem row0_lt (L : ℕ) : ∀ x ∈ row0 L, x < 2 ^ L := by
  intro x hx
  unfold row0 at hx
  rw [List.mem_map] at hx
  obtain ⟨i, _, rfl⟩ := hx
  have h4 := pow5_mod4 L i
  rw [NTT.bitRev_succ_first]
  have : 5 ^ i % 2 ^ (L + 2) / 2 % 2 = 0 := by omega
  rw [this, Nat.zero_mul, Nat.zero_add]
  exact NTT.bitRev_lt L _

theorem row0_nodup (L : ℕ) : (row0 L).Nodup := by
  unfold row0
  apply List.Nodup.map_on _ List.nodup_range
  intro i hi j hj h
  have hi' : i < 2 ^ (L + 2 - 2) := by simpa using hi
  have hj' : j < 2 ^ (L + 2 - 2) := by simpa using hj
  have hh := NTT.bitRev_inj (L + 1) _ _ (pow5_half_lt L i) (pow5_half_lt L j) h
  have hi4 := pow5_mod4 L i
  have hj4 := pow5_mod4 L j
  exact EncoderC.five_pow_injective (L + 2) (by omega) i j hi' hj' (by omega)

theorem row0_length (L : ℕ) : (row0 L).length = 2 ^ L := by simp [row0]

theorem permuteMatrix_length_succ (L : ℕ) : (permuteMatrix (L + 1)).length = 2 ^ (L + 1) := by
  rw [permuteMatrix_eq, List.length_append, List.length_map, row0_length, pow_succ]; omega

theorem permuteMatrix_lt_succ (L : ℕ) : ∀ p ∈ permuteMatrix (L + 1), p < 2 ^ (L + 1) := by
  intro p hp
  rw [permuteMatrix_eq, List.mem_append] at hp
  have hpow : 2 ^ (L + 1) = 2 * 2 ^ L := by rw [pow_succ]; ring
  rcases hp with h | h
  · have := row0_lt L p h; omega
  · rw [List.mem_map] at h
    obtain ⟨x, hx, rfl⟩ := h
    have := row0_lt L x hx; omega

theorem permuteMatrix_nodup_succ (L : ℕ) : (permuteMatrix (L + 1)).Nodup := by
  rw [permuteMatrix_eq, List.nodup_append]
  have hpow : 2 ^ (L + 1) = 2 * 2 ^ L := by rw [pow_succ]; ring
  refine ⟨row0_nodup L, ?_, ?_⟩
  · apply List.Nodup.map_on _ (row0_nodup L)
    intro x hx y hy h
    have := row0_lt L x hx
    have := row0_lt L y hy
    omega
  · intro a ha b hb
    rw [List.mem_map] at hb
    obtain ⟨x, hx, rfl⟩ := hb
    have := row0_lt L a ha
    have := row0_lt L x hx
    omega

theorem permuteMatrix_perm (K : ℕ) (hK : 1 ≤ K) : (permuteMatrix K).Perm (List.range (2 ^ K)) := by
  obtain ⟨L, rfl⟩ : ∃ L, K = L + 1 := ⟨K - 1, by omega⟩
  have hsub : permuteMatrix (L + 1) ⊆ List.range (2 ^ (L + 1)) :=
    fun p hp => List.mem_range.2 (permuteMatrix_lt_succ L p hp)
  exact (List.subperm_of_subset (permuteMatrix_nodup_succ L) hsub).perm_of_length_le
    (by rw [permuteMatrix_length_succ, List.length_range])

theorem permuteMatrix_length (K : ℕ) (hK : 1 ≤ K) : (permuteMatrix K).length = 2 ^ K := by
  rw [(permuteMatrix_perm K hK).length_eq, List.length_range]

theorem permuteMatrix_nodup (K : ℕ) (hK : 1 ≤ K) : (permuteMatrix K).Nodup :=
  (permuteMatrix_perm K hK).nodup_iff.2 List.nodup_range

theorem permuteMatrix_lt (K : ℕ) (hK : 1 ≤ K) : ∀ p ∈ permuteMatrix K, p < 2 ^ K :=
  fun _ hp => List.mem_range.1 ((permuteMatrix_perm K hK).mem_iff.1 hp)

theorem permuteMatrix_length_n {T : NTT.Tables} {K : ℕ} (hT : NTT.Valid T K) (hK : 1 ≤ K) :
    (permuteMatrix K).length = T.n := by rw [hT.n_eq]; exact permuteMatrix_length K hK

theorem permuteMatrix_lt_n {T : NTT.Tables} {K : ℕ} (hT : NTT.Valid T K) (hK : 1 ≤ K) :
    ∀ q ∈ permuteMatrix K, q < T.n := by rw [hT.n_eq]; exact permuteMatrix_lt K hK

/-! ### the second row is the orbit of `−5^i`: `±5^i` exhausts the odd residues mod `2n` -/

/-- `i + j + 1 = 2^L` says that the digits of `i` and `j` are complementary; then so are those of the reversals -/
theorem bitRev_add_compl : ∀ (L i j : ℕ), i + j + 1 = 2 ^ L → NTT.bitRev i L + NTT.bitRev j L + 1 = 2 ^ L
  | 0, i, j, h => by simp [NTT.bitRev_zero_len]
  | L + 1, i, j, h => by
    rw [pow_succ] at h ⊢
    have hd : i / 2 + j / 2 + 1 = 2 ^ L ∧ i % 2 + j % 2 = 1 := by
      generalize 2 ^ L = P at h ⊢
      omega
    have ih := bitRev_add_compl L (i / 2) (j / 2) hd.1
    rw [NTT.bitRev_succ_first, NTT.bitRev_succ_first L j]
    calc i % 2 * 2 ^ L + NTT.bitRev (i / 2) L + (j % 2 * 2 ^ L + NTT.bitRev (j / 2) L) + 1
        = (i % 2 + j % 2) * 2 ^ L + (NTT.bitRev (i / 2) L + NTT.bitRev (j / 2) L + 1) := by ring
      _ = 2 ^ L * 2 := by rw [hd.2, ih]; ring

theorem bitRev_compl : ∀ (L i : ℕ), i < 2 ^ L → NTT.bitRev (2 ^ L - 1 - i) L = 2 ^ L - 1 - NTT.bitRev i L := by
  intro L i h
  have := bitRev_add_compl L i (2 ^ L - 1 - i) (by omega)
  omega

/-- the second row, read through the complement: `perm[i + n/2] = brv_K(((2n − 5^i mod 2n)) >> 1)` -/
theorem row1_eq (L i : ℕ) :
    2 ^ (L + 1) - NTT.bitRev (5 ^ i % 2 ^ (L + 2) / 2) (L + 1) - 1
      = NTT.bitRev ((2 ^ (L + 2) - 5 ^ i % 2 ^ (L + 2)) / 2) (L + 1) := by
  have h4 := pow5_mod4 L i
  have hp : 5 ^ i % 2 ^ (L + 2) < 2 ^ (L + 2) := Nat.mod_lt _ (by positivity)
  rw [pow_succ 2 (L + 1)] at hp h4 ⊢
  generalize 5 ^ i % (2 ^ (L + 1) * 2) = p at *
  -- `p` is odd: `p >> 1` and `(2n − p) >> 1` are complementary
  have := bitRev_add_compl (L + 1) (p / 2) ((2 ^ (L + 1) * 2 - p) / 2) (by generalize 2 ^ (L + 1) = P at *; omega)
  generalize NTT.bitRev (p / 2) (L + 1) = x at *
  generalize NTT.bitRev ((2 ^ (L + 1) * 2 - p) / 2) (L + 1) = y at *
  omega

end Lattigo.EncoderT
