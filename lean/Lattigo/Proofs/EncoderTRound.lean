/-
  Integer encoder (schemes/bgv/encoder.go).  `DecodeRingT ∘ EncodeRingT = id (mod t)` from `Valid T K` alone; the int64
  path (no `Reduce`; residues in `[0, t]`, `t` included) is reduced to the uint64 path.  `RingQ2T` is characterised on
  the residues of ONE integer vector (`ringQ2T_of_residues`, the three branches; `ringQ2T_lift`: it returns `z mod t`
  for a small signed vector `z`), whence `RingQ2T ∘ RingT2Q = id` at every level and gap (`ParamsOK.roundQ` for an
  encoder instance), on which `Decoder.Decode ∘ Encoder.Encode` through `R_Q` rests (`Props/C07.lean`).
  NTT ∘ INTT = id and the correctness of `RPoly.modInv`, `RPoly.crt` are those of `RPolyRefine`, `RPolyRing`, `StackKSInt`.
-/
import Lattigo.Proofs.EncoderT
import Lattigo.Proofs.NTTTables
import Lattigo.Proofs.BasisExtInt
import Lattigo.Proofs.RPolyRing
import Lattigo.Proofs.RPolyRefine
import Lattigo.Proofs.StackKSInt
import Mathlib.Data.Set.Finite.List
import Mathlib.Data.List.Perm.Subperm
import Mathlib.Tactic.Ring
import Mathlib.Tactic.Linarith

namespace Lattigo.EncoderT
open Lattigo Lattigo.Gen Lattigo.NTT

section
variable {T : Tables} {K : ℕ}

theorem inttStd_mod (hT : Valid T K) (a : List ℕ) (ha : ∀ x ∈ a, x < 2 * T.q) :
    inttStd T a = inttStd T (a.map (· % T.q)) := by
  have : Fact T.q.Prime := ⟨hT.prime⟩
  have hq := hT.q_pos
  have ha' : ∀ x ∈ a.map (· % T.q), x < 2 * T.q := by
    intro x hx
    rw [List.mem_map] at hx
    obtain ⟨y, _, rfl⟩ := hx
    have := Nat.mod_lt y hq; omega
  obtain ⟨h1, h1lt⟩ := RPolyRefine.inttStd_cast hT a ha
  obtain ⟨h2, h2lt⟩ := RPolyRefine.inttStd_cast hT _ ha'
  apply map_cast_inj (q := T.q) _ _ h1lt h2lt
  rw [h1, h2, List.map_map]
  congr 2
  apply List.map_congr_left
  intro x _
  simp only [Function.comp]
  exact (ZMod.natCast_mod x T.q).symm

end

/-- `t < 2^64`: the 64 rounds of `ring.ModExp` then consume the whole exponent `t − 2`. -/
theorem modExp_fermat (t s : ℕ) (ht : t.Prime) (h64 : t < 2 ^ 64) (hs : ¬ t ∣ s) :
    s * NTT.modExp s (t - 2) t % t = 1 :=
  NTT.mul_modExp_sub_two s t ht h64 hs

theorem scaleInv_spec (t s : ℕ) (ht : t.Prime) (h64 : t < 2 ^ 64) (hs : ¬ t ∣ s) :
    s * scaleInv t s % t = 1 := modExp_fermat t s ht h64 hs

/-- `t < 2^64` comes from `8t ≤ 2^64` of `Valid`. -/
theorem scaleInv_valid {T : Tables} {K : ℕ} (hT : Valid T K) (s : ℕ) (hs : ¬ T.q ∣ s) :
    s * scaleInv T.q s % T.q = 1 :=
  scaleInv_spec T.q s hT.prime (by have := hT.h8; unfold W at this; omega) hs

theorem decode_encode_T_valid (T : NTT.Tables) (K : ℕ) (hT : Valid T K) (perm vals buf p : List ℕ)
    (scale len : ℕ) (hperm : perm.Nodup) (hplt : ∀ q ∈ perm, q < T.n) (hbuf : buf.length = T.n)
    (hs : ¬ T.q ∣ scale)
    (henc : encodeRingTU T perm vals scale buf = some p) :
    decodeRingTU T perm scale p len
      = ((vals.map (· % T.q)) ++ List.replicate (perm.length - vals.length) 0).take len := by
  have hr : RPolyRefine.Red T (slotsU T.q perm vals buf) :=
    ⟨by rw [slotsU_length, hbuf], slotsU_lt T.q hT.q_pos perm vals buf⟩
  exact decode_encode_T_of_slots T perm vals buf p scale len hperm hplt hbuf
    (scaleInv_valid hT scale hs) (RPolyRefine.nttStd_inttStd hT _ hr) (hr.intt hT).lt henc

theorem perm_full (perm : List ℕ) (n : ℕ) (hnd : perm.Nodup) (hlt : ∀ p ∈ perm, p < n)
    (hlen : perm.length = n) (k : ℕ) (hk : k < n) : ∃ i, ∃ h : i < perm.length, perm[i] = k := by
  have hsub : perm ⊆ List.range n := fun p hp => List.mem_range.2 (hlt p hp)
  have hp : perm.Perm (List.range n) :=
    (List.subperm_of_subset hnd hsub).perm_of_length_le (by simp [hlen])
  have : k ∈ perm := hp.mem_iff.2 (List.mem_range.2 hk)
  obtain ⟨i, hi, he⟩ := List.getElem_of_mem this
  exact ⟨i, hi, he⟩

theorem slotsI_mod (t : ℕ) (perm vals buf : List ℕ) :
    (slotsI perm vals buf).map (· % t) = slotsU t perm (vals.map (· % t)) buf := by
  unfold slotsI slotsU zeroFill scatter
  rw [setAll_map, List.map_replicate, Nat.zero_mod, List.length_map, setAll_map _ perm (vals.map _), map_mod_mod,
    ← setAll_map]

/-- `hfull`: only with a full index table does no stale buffer content survive. -/
theorem slotsI_le (t : ℕ) (perm vals buf : List ℕ) (hnd : perm.Nodup)
    (hlt : ∀ p ∈ perm, p < buf.length) (hfull : perm.length = buf.length) (hvl : vals.length ≤ perm.length)
    (hv : ∀ v ∈ vals, v ≤ t) : ∀ e ∈ slotsI perm vals buf, e ≤ t := by
  intro e he
  obtain ⟨k, hk, rfl⟩ := List.getElem_of_mem he
  obtain ⟨i, hi, rfl⟩ := perm_full perm buf.length hnd hlt hfull k (by simpa [slotsI_length] using hk)
  have hr := slotsI_read perm vals buf hnd hlt hvl
  have hm : (slotsI perm vals buf)[perm[i]] ∈ vals ++ List.replicate (perm.length - vals.length) 0 := by
    rw [← hr, ← List.getD_eq_getElem _ 0 hk]
    exact List.mem_map.2 ⟨perm[i], List.getElem_mem hi, rfl⟩
  rcases List.mem_append.1 hm with h | h
  · exact hv _ h
  · rw [List.eq_of_mem_replicate h]; exact Nat.zero_le _

theorem i64Slot_mod (t : ℕ) (c : ℤ) (ht : 0 < t) (hlo : -(2 ^ 63 : ℤ) ≤ c) (hhi : c < (2 ^ 63 : ℤ)) :
    i64Slot t c % t = (c % (t : ℤ)).toNat := by
  have h := (i64Slot_spec t c ht hlo hhi).1
  have h2 : ((i64Slot t c % t : ℕ) : ℤ) = c % (t : ℤ) := by
    rw [Int.natCast_mod]; exact h
  rw [← h2, Int.toNat_natCast]

theorem i64Slot_map_mod (t : ℕ) (ht : 0 < t) (vals : List ℤ)
    (hv : ∀ c ∈ vals, -(2 ^ 63 : ℤ) ≤ c ∧ c < (2 ^ 63 : ℤ)) :
    (vals.map (i64Slot t)).map (· % t) = vals.map fun c => (c % (t : ℤ)).toNat := by
  rw [List.map_map]
  apply List.map_congr_left
  intro c hc
  exact i64Slot_mod t c ht (hv c hc).1 (hv c hc).2

theorem encodeRingTI_eq_some_iff {T : NTT.Tables} {perm buf p : List ℕ} {vals : List ℤ} {scale : ℕ} :
    encodeRingTI T perm vals scale buf = some p
      ↔ vals.length ≤ perm.length
        ∧ p = mulScalar T.q scale (NTT.inttStd T (slotsI perm (vals.map (i64Slot T.q)) buf)) := by
  unfold encodeRingTI slotsI
  rw [List.length_map]
  by_cases hvl : vals.length > perm.length
  · rw [if_pos hvl]; exact ⟨nofun, fun h => absurd h.1 (by omega)⟩
  · rw [if_neg hvl, Option.some.injEq]; exact ⟨fun h => ⟨by omega, h.symm⟩, fun h => h.2.symm⟩

/-- The int64 path returns what the uint64 path returns on the Euclidean residues: the value `t` that the sign trick
    produces for negative multiples of `t` is inside the lazy input range `< 2t` of INTT, and with a FULL index table (as
    `permuteMatrix` produces) no stale buffer content survives. -/
theorem encodeRingTI_eq_U (T : NTT.Tables) (K : ℕ) (hT : Valid T K) (perm buf p : List ℕ) (vals : List ℤ)
    (scale : ℕ) (hperm : perm.Nodup) (hplt : ∀ q ∈ perm, q < T.n) (hfull : perm.length = T.n)
    (hbuf : buf.length = T.n) (hv : ∀ c ∈ vals, -(2 ^ 63 : ℤ) ≤ c ∧ c < (2 ^ 63 : ℤ))
    (henc : encodeRingTI T perm vals scale buf = some p) :
    encodeRingTU T perm ((vals.map (i64Slot T.q)).map (· % T.q)) scale buf = some p := by
  obtain ⟨hvl, rfl⟩ := encodeRingTI_eq_some_iff.1 henc
  have hplt' : ∀ q ∈ perm, q < buf.length := by rw [hbuf]; exact hplt
  have hfull' : perm.length = buf.length := by rw [hfull, hbuf]
  have hle := slotsI_le T.q perm (vals.map (i64Slot T.q)) buf hperm hplt' hfull' (by simpa using hvl)
    (by intro v hv'
        rw [List.mem_map] at hv'
        obtain ⟨c, hc, rfl⟩ := hv'
        exact (i64Slot_spec T.q c hT.q_pos (hv c hc).1 (hv c hc).2).2)
  rw [encodeRingTU_eq_some_iff, ← slotsI_mod T.q perm _ buf,
    ← inttStd_mod hT _ (by intro x hx; have := hle x hx; have := hT.q_pos; omega)]
  exact ⟨by simpa using hvl, rfl⟩

theorem modInv_spec (a m : ℕ) (hm : 1 < m) (hc : Nat.Coprime a m) : (a * RPoly.modInv a m) % m = 1 :=
  RPolyRing.modInv_spec a m hm hc

theorem rprod_eq (qs : List ℕ) : RPoly.prod qs = qs.prod := by
  unfold RPoly.prod; rw [← List.prod_eq_foldl]

theorem crt_spec (qs : List ℕ) (hc : qs.Pairwise Nat.Coprime) (h1 : ∀ q ∈ qs, 1 < q) (x : ℕ)
    (hx : x < RPoly.prod qs) : RPoly.crt qs (qs.map (x % ·)) = x :=
  StackKS.crt_eq ⟨hc, h1, by rw [List.forall₂_map_right_iff, List.forall₂_same]; exact fun q _ => Nat.mod_mod x q⟩
    (by rwa [← StackKS.prod_eq_prodN])

/-- the difference modulo `t` as the code forms it (`SubScalar`, `rowMul`): `P − M` without leaving `ℕ` -/
def diffT (t P M : ℕ) : ℕ := (P % t + t - M % t) % t

theorem diffT_cast (t P M : ℕ) (ht : 0 < t) : ((diffT t P M : ℕ) : ZMod t) = (P : ZMod t) - (M : ZMod t) := by
  have hle : M % t ≤ P % t + t := le_trans (le_of_lt (Nat.mod_lt _ ht)) (Nat.le_add_left _ _)
  unfold diffT
  rw [ZMod.natCast_mod, Nat.cast_sub hle, Nat.cast_add, ZMod.natCast_mod, ZMod.natCast_mod, ZMod.natCast_self,
    add_zero]

/-- residue in `[0, m)` of an integer -/
def res (m : ℕ) (v : ℤ) : ℕ := (v % (m : ℤ)).toNat

theorem res_cast (m : ℕ) (hm : 0 < m) (v : ℤ) : ((res m v : ℕ) : ZMod m) = (v : ZMod m) :=
  cast_emod_toNat (ZMod.natCast_self m) hm v

theorem res_lt (m : ℕ) (hm : 0 < m) (v : ℤ) : res m v < m := by
  have := Int.emod_lt_of_pos v (show (0 : ℤ) < m by omega)
  have := Int.emod_nonneg v (show (m : ℤ) ≠ 0 by omega)
  unfold res; omega

theorem res_natCast (m x : ℕ) : res m (x : ℤ) = x % m := by
  rw [res, ← Int.natCast_mod, Int.toNat_natCast]

theorem res_zero (m : ℕ) : res m 0 = 0 := by simpa using res_natCast m 0

theorem res_res_of_dvd (Q q : ℕ) (hd : q ∣ Q) (hQ : 0 < Q) (v : ℤ) : res Q v % q = res q v := by
  have hnn : 0 ≤ v % (Q : ℤ) := Int.emod_nonneg _ (by omega)
  have : ((res Q v % q : ℕ) : ℤ) = v % (q : ℤ) := by
    rw [Int.natCast_mod, res, Int.toNat_of_nonneg hnn, Int.emod_emod_of_dvd _ (by exact_mod_cast hd)]
  show _ = (v % (q : ℤ)).toNat
  rw [← this, Int.toNat_natCast]

theorem diffT_res (m P M : ℕ) (hm : 0 < m) : diffT m P M = res m ((P : ℤ) - M) :=
  eq_of_cast_eq (Nat.mod_lt _ hm) (res_lt m hm _)
    (by rw [diffT_cast m P M hm, res_cast m hm]; push_cast; rfl)

/-- `AddScalar(H)`, reduce mod `t`, `SubScalar(H mod t)` on the residue of `v ∈ [−H, Q − H)` (the code takes
    `H = Q/2`): the shift makes the representative of a negative `v` small again -/
theorem half_res (t Q H : ℕ) (v : ℤ) (ht : 0 < t) (hlo : -(H : ℤ) ≤ v) (hhi : v < (Q : ℤ) - H) :
    ((res Q v + H) % Q % t + t - H % t) % t = res t v := by
  have hQ : 0 < Q := by omega
  have e : (res Q v + H) % Q = (v + (H : ℤ)).toNat := by
    apply eq_of_cast_eq (Nat.mod_lt _ hQ) (by omega)
    rw [ZMod.natCast_mod, Nat.cast_add, res_cast Q hQ, ← Int.cast_natCast (R := ZMod Q) (v + _).toNat,
      Int.toNat_of_nonneg (by omega), Int.cast_add, Int.cast_natCast]
  rw [e]
  show diffT t _ _ = _
  rw [diffT_res t _ _ ht, Int.toNat_of_nonneg (by omega), add_sub_cancel_right]

/-- `PolyToBigintCentered` (centres with `x ≥ H`, `H = Q>>1` in the code) on the residue of `v ∈ [H − Q, H)` -/
theorem centre_res (Q H : ℕ) (v : ℤ) (hH : H ≤ Q) (hlo : (H : ℤ) - Q ≤ v) (hhi : v < (H : ℤ)) :
    (if res Q v ≥ H then ((res Q v : ℕ) : ℤ) - (Q : ℤ) else ((res Q v : ℕ) : ℤ)) = v := by
  unfold res
  by_cases hv : 0 ≤ v
  · rw [Int.emod_eq_of_lt hv (by omega), if_neg (by omega)]; omega
  · have : v % (Q : ℤ) = v + Q := by
      rw [← Int.add_mul_emod_self_left v Q 1, mul_one]; exact Int.emod_eq_of_lt (by omega) (by omega)
    rw [this, if_pos (by omega)]; omega

theorem gapEmbed_length (g N : ℕ) (p : List ℕ) : (gapEmbed g N p).length = N := by simp [gapEmbed]

theorem gapEmbed_get (g N : ℕ) (p : List ℕ) (hg : 0 < g) (j : ℕ) (hj : j * g < N) :
    (gapEmbed g N p).getD (j * g) 0 = p.getD j 0 := by
  rw [gapEmbed, ListLemmas.getD_map_range _ _ _ hj]
  simp [Nat.mul_div_cancel _ hg]

theorem rprod_gt_one (qs : List ℕ) (hne : qs ≠ []) (h1 : ∀ q ∈ qs, 1 < q) : 1 < RPoly.prod qs := by
  rw [rprod_eq]
  obtain ⟨q, l, rfl⟩ := List.exists_cons_of_ne_nil hne
  rw [List.prod_cons]
  have hq := h1 q List.mem_cons_self
  have hl : 0 < l.prod := by
    rw [← Scaling.prodN_eq_prod]
    exact Scaling.prodN_pos l (fun a ha => by have := h1 a (List.mem_cons_of_mem _ ha); omega)
  nlinarith

/-- `T⁻¹ mod Q`, as `RingT2Q` computes it, is inverse to `t` modulo `Q` -/
theorem tinv_mul_modQ (qs : List ℕ) (t : ℕ) (hne : qs ≠ []) (h1 : ∀ q ∈ qs, 1 < q) (hct : ∀ q ∈ qs, Nat.Coprime t q) :
    (t % RPoly.prod qs * RPoly.modInv (t % RPoly.prod qs) (RPoly.prod qs)) % RPoly.prod qs = 1 := by
  apply modInv_spec _ _ (rprod_gt_one qs hne h1)
  show Nat.gcd (t % RPoly.prod qs) (RPoly.prod qs) = 1
  rw [← Nat.gcd_rec, Nat.gcd_comm, rprod_eq]
  exact Nat.coprime_list_prod_right_iff.mpr hct

theorem tinv_mod (qs : List ℕ) (t q : ℕ) (hne : qs ≠ []) (h1 : ∀ q ∈ qs, 1 < q) (hct : ∀ q ∈ qs, Nat.Coprime t q)
    (hq : q ∈ qs) : (RPoly.modInv (t % RPoly.prod qs) (RPoly.prod qs) % q) * t % q = 1 % q := by
  have hd : q ∣ RPoly.prod qs := by rw [rprod_eq]; exact List.dvd_prod hq
  have h := congrArg (· % q) (tinv_mul_modQ qs t hne h1 hct)
  simp only [Nat.mod_mod_of_dvd _ hd] at h
  rw [Nat.mul_mod, Nat.mod_mod_of_dvd _ hd, ← Nat.mul_mod, Nat.mul_comm] at h
  rw [Nat.mul_mod, Nat.mod_mod, ← Nat.mul_mod]
  exact h

theorem column_rows (qs e : List ℕ) (k : ℕ) (hk : k < e.length) :
    column (qs.map fun q => e.map (· % q)) k = qs.map (e.getD k 0 % ·) := by
  unfold column
  rw [List.map_map]
  exact List.map_congr_left fun q _ => ListLemmas.getD_map_of_lt (· % q) e k 0 hk

theorem ringT2Q_eq (qs : List ℕ) (t n g : ℕ) (p : List ℕ) (hn : 0 < n) (hpl : p.length = n) :
    ringT2Q qs t (n * g) true p = { qs := qs, c := qs.map fun q => (gapEmbed g (n * g) p).map fun x =>
      x * (RPoly.modInv (t % RPoly.prod qs) (RPoly.prod qs) % q) % q } := by
  unfold ringT2Q
  simp only [hpl, Nat.mul_div_cancel_left _ hn, if_true]

theorem getD_le (t : ℕ) (p : List ℕ) (hp : ∀ e ∈ p, e < t) (i : ℕ) : p.getD i 0 ≤ t - 1 :=
  ListLemmas.getD_forall (p := (· ≤ t - 1)) (Nat.zero_le _) (fun e he => Nat.le_sub_one_of_lt (hp e he)) i

/-- What `RingQ2T` returns when the rows it works on (after its `MulScalar(pQ, T)`) are the residues of ONE
    integer vector `Z` with entries in `[0, Q)`: CRT recovers `z = Z[j·g]`, which is then centred
    (`PolyToBigintCentered`, branch `level > 0 ∧ gap > 1`) or goes through `AddScalar(Q/2)`, reduction modulo `t`,
    `SubScalar` (level 0, where no CRT is needed, and `gap = 1`). -/
theorem ringQ2T_of_residues (X : RPoly) (qs : List ℕ) (t n g : ℕ) (Z : List ℕ) (hqs : X.qs = qs) (hne : qs ≠ [])
    (hc : qs.Pairwise Nat.Coprime) (h1 : ∀ q ∈ qs, 1 < q) (hn : 0 < n) (hg : 0 < g)
    (hhead : (X.c.headD []).length = n * g) (hZl : Z.length = n * g) (hZ : ∀ z ∈ Z, z < RPoly.prod qs)
    (hrows : ((qs.zip X.c).map fun (q, r) => r.map fun x => x * (t % q) % q) = qs.map fun q => Z.map (· % q)) :
    ringQ2T t n X = (List.range n).map fun j =>
      if 1 < qs.length ∧ g ≠ 1 then
        ((if Z.getD (j * g) 0 ≥ RPoly.prod qs / 2 then ((Z.getD (j * g) 0 : ℕ) : ℤ) - (RPoly.prod qs : ℤ)
          else ((Z.getD (j * g) 0 : ℕ) : ℤ)) % (t : ℤ)).toNat
      else ((Z.getD (j * g) 0 + RPoly.prod qs / 2) % RPoly.prod qs % t + t - RPoly.prod qs / 2 % t) % t := by
  have hgap : n * g / n = g := Nat.mul_div_cancel_left _ hn
  have hjg : ∀ j ∈ List.range n, j * g < Z.length := fun j hj => by
    rw [hZl]; exact Nat.mul_lt_mul_of_pos_right (List.mem_range.1 hj) hg
  have hZget : ∀ k, k < Z.length → Z.getD k 0 < RPoly.prod qs := fun k hk => hZ _ (ListLemmas.getD_mem hk)
  unfold ringQ2T
  simp only [hqs, hhead, hgap, hrows]
  by_cases hlen : qs.length > 1
  · rw [if_pos hlen]
    by_cases hg1 : g = 1
    · rw [if_pos hg1]
      apply List.map_congr_left
      intro j hj
      have hk := hjg j hj
      rw [if_neg (fun h => h.2 hg1)]
      rw [hg1, Nat.mul_one] at hk ⊢
      rw [column_rows qs Z j hk, crt_spec qs hc h1 _ (hZget j hk)]
    · rw [if_neg hg1]
      apply List.map_congr_left
      intro j hj
      have hb : 1 < qs.length ∧ g ≠ 1 := ⟨hlen, hg1⟩
      rw [if_pos hb, column_rows qs Z (j * g) (hjg j hj), crt_spec qs hc h1 _ (hZget _ (hjg j hj))]
  · -- level 0: one modulus
    rw [if_neg hlen]
    obtain ⟨q0, l, rfl⟩ := List.exists_cons_of_ne_nil hne
    have hl : l = [] := by
      cases l with
      | nil => rfl
      | cons a l => simp at hlen
    subst hl
    have hprod : RPoly.prod [q0] = q0 := by simp [RPoly.prod]
    rw [hprod] at hZget ⊢
    apply List.map_congr_left
    intro j hj
    simp only [List.map_cons, List.map_nil, List.headD_cons]
    rw [if_neg (fun h => hlen h.1), ListLemmas.getD_map_of_eq (· % q0) 0 0 (Nat.zero_mod q0),
      Nat.mod_eq_of_lt (hZget _ (hjg j hj))]

/-- What `RingQ2T` returns, in integers: if the rows it works on (after its `MulScalar(pQ, T)`) are the residues of
    ONE integer vector `z` whose entries at the positions `j·g` lie in the window of the branch taken
    (`[⌊Q/2⌋ − Q, ⌊Q/2⌋)` for `PolyToBigintCentered`, `[−⌊Q/2⌋, Q − ⌊Q/2⌋)` for `AddScalar/Reduce/SubScalar`), it returns
    `z[j·g] mod t`. -/
theorem ringQ2T_lift (X : RPoly) (qs : List ℕ) (t n g : ℕ) (z : List ℤ) (hqs : X.qs = qs) (hne : qs ≠ [])
    (hc : qs.Pairwise Nat.Coprime) (h1 : ∀ q ∈ qs, 1 < q) (ht : 0 < t) (hn : 0 < n) (hg : 0 < g)
    (hhead : (X.c.headD []).length = n * g) (hzl : z.length = n * g)
    (hz : ∀ j < n, if 1 < qs.length ∧ g ≠ 1
      then ((RPoly.prod qs / 2 : ℕ) : ℤ) - (RPoly.prod qs : ℤ) ≤ z.getD (j * g) 0
        ∧ z.getD (j * g) 0 < ((RPoly.prod qs / 2 : ℕ) : ℤ)
      else -((RPoly.prod qs / 2 : ℕ) : ℤ) ≤ z.getD (j * g) 0
        ∧ z.getD (j * g) 0 < (RPoly.prod qs : ℤ) - ((RPoly.prod qs / 2 : ℕ) : ℤ))
    (hrows : ((qs.zip X.c).map fun (q, r) => r.map fun x => x * (t % q) % q) = qs.map fun q => z.map (res q)) :
    ringQ2T t n X = (List.range n).map fun j => res t (z.getD (j * g) 0) := by
  have hQ0 : 0 < RPoly.prod qs := by have := rprod_gt_one qs hne h1; omega
  rw [ringQ2T_of_residues X qs t n g (z.map (res (RPoly.prod qs))) hqs hne hc h1 hn hg hhead (by simpa using hzl)
    (by intro x hx; rw [List.mem_map] at hx; obtain ⟨v, _, rfl⟩ := hx; exact res_lt _ hQ0 v)
    (by rw [hrows]
        refine List.map_congr_left fun q hq => ?_
        rw [List.map_map]
        exact List.map_congr_left fun v _ =>
          (res_res_of_dvd _ q (by rw [rprod_eq]; exact List.dvd_prod hq) hQ0 v).symm)]
  apply List.map_congr_left
  intro j hj
  have hk : j * g < z.length := by rw [hzl]; exact Nat.mul_lt_mul_of_pos_right (List.mem_range.1 hj) hg
  have hw := hz j (List.mem_range.1 hj)
  rw [ListLemmas.getD_map_of_lt (res (RPoly.prod qs)) z (j * g) 0 hk]
  by_cases hb : 1 < qs.length ∧ g ≠ 1
  · rw [if_pos hb] at hw ⊢; rw [centre_res _ _ _ (Nat.div_le_self _ 2) hw.1 hw.2]; rfl
  · rw [if_neg hb] at hw ⊢; exact half_res t _ _ _ ht hw.1 hw.2

/-- One modulus takes the `AddScalar/Reduce/SubScalar` branch, several moduli the CRT branches.  `hQ'` is needed only on
    the branch `level > 0 ∧ gap > 1`: `PolyToBigintCentered` centres with `x ≥ Q>>1`. -/
theorem ringQ2T_ringT2Q (qs : List ℕ) (t n g : ℕ) (p : List ℕ) (hne : qs ≠ [])
    (hc : qs.Pairwise Nat.Coprime) (h1 : ∀ q ∈ qs, 1 < q) (hct : ∀ q ∈ qs, Nat.Coprime t q)
    (ht : 0 < t) (hn : 0 < n) (hg : 0 < g) (hpl : p.length = n) (hp : ∀ e ∈ p, e < t)
    (hQ : 2 * (t - 1) < RPoly.prod qs)
    (hQ' : 1 < qs.length → g ≠ 1 → t ≤ RPoly.prod qs / 2) :
    ringQ2T t n (ringT2Q qs t (n * g) true p) = p := by
  have hel : (gapEmbed g (n * g) p).length = n * g := gapEmbed_length _ _ _
  have hhead : ((qs.map fun q => (gapEmbed g (n * g) p).map fun x =>
      x * (RPoly.modInv (t % RPoly.prod qs) (RPoly.prod qs) % q) % q).headD []).length
      = n * g := by
    obtain ⟨q0, l, rfl⟩ := List.exists_cons_of_ne_nil hne
    simp [hel]
  -- the integer vector is the gap embedding itself; its entries `p_j < t` lie in either window
  have hzj : ∀ j < n, ((gapEmbed g (n * g) p).map (Nat.cast : ℕ → ℤ)).getD (j * g) 0 = ((p.getD j 0 : ℕ) : ℤ) :=
    fun j hj => by
      rw [ListLemmas.getD_map_of_eq _ 0 0 Nat.cast_zero,
        gapEmbed_get g (n * g) p hg j (Nat.mul_lt_mul_of_pos_right hj hg)]
  rw [ringT2Q_eq qs t n g p hn hpl, ringQ2T_lift _ qs t n g ((gapEmbed g (n * g) p).map Nat.cast) rfl hne hc h1 ht hn hg
    hhead (by simp [hel])
    (fun j hj => by
      have := getD_le t p hp j
      rw [hzj j hj]
      split
      · rename_i hb; have := hQ' hb.1 hb.2; omega
      · omega)
    -- the rows `RingQ2T` works on after `MulScalar(pQ, T)` are the plain residues of the embedded polynomial
    (by rw [ListLemmas.zip_map_self]
        refine List.map_congr_left fun q hq => ?_
        simp only [List.map_map]
        refine List.map_congr_left fun x _ => ?_
        simp only [Function.comp]
        rw [res_natCast, Nat.mod_mul_mod, mul_assoc, Nat.mul_mod x, Nat.mul_mod_mod _ t q,
          tinv_mod qs t q hne h1 hct hq, ← Nat.mul_mod, mul_one])]
  apply List.ext_getElem
  · simp [hpl]
  · intro j h1 h2
    have hj : j < n := by simpa using h1
    have := hp _ (List.getElem_mem h2)
    simp only [List.getElem_map, List.getElem_range]
    rw [hzj j hj, res_natCast, List.getD_eq_getElem?_getD, List.getElem?_eq_getElem h2, Option.getD_some,
      Nat.mod_eq_of_lt this]

theorem mulScalar_lt (t s : ℕ) (ht : 0 < t) (a : List ℕ) : ∀ e ∈ mulScalar t s a, e < t := by
  intro e he
  unfold mulScalar at he
  rw [List.mem_map] at he
  obtain ⟨x, _, rfl⟩ := he
  exact Nat.mod_lt _ ht

theorem mulScalar_length (t s : ℕ) (a : List ℕ) : (mulScalar t s a).length = a.length := by
  simp [mulScalar]

/-- what the theorems below assume about an encoder instance: valid plaintext tables, a full index table,
    ciphertext ring degree `N = n·g`, and a chain `qs` (the moduli at the plaintext's level) of pairwise
    coprime moduli `> 1`, coprime to `t`, with `2(t−1) < Q` (and `t ≤ ⌊Q/2⌋` on the
    `level > 0 ∧ gap > 1` branch). -/
structure ParamsOK (P : Params) (K g : ℕ) : Prop where
  valid : Valid P.T K
  perm_nodup : P.perm.Nodup
  perm_lt : ∀ q ∈ P.perm, q < P.T.n
  perm_full : P.perm.length = P.T.n
  bigN_eq : P.bigN = P.T.n * g
  g_pos : 0 < g
  qs_ne : P.qs ≠ []
  qs_coprime : P.qs.Pairwise Nat.Coprime
  qs_gt : ∀ q ∈ P.qs, 1 < q
  qs_t : ∀ q ∈ P.qs, Nat.Coprime P.T.q q
  hQ : 2 * (P.T.q - 1) < RPoly.prod P.qs
  hQ' : 1 < P.qs.length → g ≠ 1 → P.T.q ≤ RPoly.prod P.qs / 2

theorem ParamsOK.n_pos {P : Params} {K g : ℕ} (h : ParamsOK P K g) : 0 < P.T.n := by
  rw [h.valid.n_eq]; positivity

theorem ParamsOK.roundQ {P : Params} {K g : ℕ} (h : ParamsOK P K g) (pT : List ℕ)
    (hl : pT.length = P.T.n) (hlt : ∀ e ∈ pT, e < P.T.q) :
    ringQ2T P.T.q P.T.n (ringT2Q P.qs P.T.q P.bigN true pT) = pT := by
  rw [h.bigN_eq]
  exact ringQ2T_ringT2Q P.qs P.T.q P.T.n g pT h.qs_ne h.qs_coprime h.qs_gt h.qs_t h.valid.q_pos
    h.n_pos h.g_pos hl hlt h.hQ h.hQ'

theorem encodeRingTU_shape (T : NTT.Tables) (K : ℕ) (hT : Valid T K) (perm vals buf p : List ℕ) (scale : ℕ)
    (hbuf : buf.length = T.n) (henc : encodeRingTU T perm vals scale buf = some p) :
    p.length = T.n ∧ ∀ e ∈ p, e < T.q := by
  obtain ⟨_, rfl⟩ := encodeRingTU_eq_some_iff.1 henc
  have hr : RPolyRefine.Red T (slotsU T.q perm vals buf) :=
    ⟨by rw [slotsU_length, hbuf], slotsU_lt T.q hT.q_pos perm vals buf⟩
  exact ⟨by rw [mulScalar_length, (hr.intt hT).len], mulScalar_lt _ _ hT.q_pos _⟩

end Lattigo.EncoderT
