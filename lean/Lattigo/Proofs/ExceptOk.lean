/-
  What a successful call of a model function written with `Except` went through: a guard that answers with an error
  did not fire, a sequenced step succeeded.
-/
namespace Lattigo

theorem ok_of_ite_err {ε α : Type} {c : Prop} [Decidable c] {e : ε} {x : Except ε α} {r : α}
    (h : (if c then .error e else x) = .ok r) : ¬c ∧ x = .ok r := by
  split at h
  · cases h
  · exact ⟨‹_›, h⟩

theorem ok_of_bind {ε α β : Type} {x : Except ε β} {f : β → Except ε α} {r : α} (h : x >>= f = .ok r) :
    ∃ v, x = .ok v ∧ f v = .ok r := by
  cases x with
  | error e => cases h
  | ok v => exact ⟨v, rfl, h⟩

end Lattigo
