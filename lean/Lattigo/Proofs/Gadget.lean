/-
  C04 — lemmas about gadget ciphertexts (Model/Gadget.lean): one key row decrypts to
  `P·g_{ij}·s_in + e_{ij}`, structure of `genEvaluationKey`, compression/expansion.
  Generic over every commutative ring.
-/
import Lattigo.Model.Gadget
import Mathlib.Tactic.Ring

namespace Lattigo.KS

section ring
variable {α : Type} [CommRing α]

theorem gadget_row (a e sOut pgs : α) : phase (evkRow a e sOut pgs) sOut = pgs + e := by
  simp only [phase, evkRow, encZero]; ring

theorem encZero_phase (a e s : α) : phase (encZero a e s) s = e := by
  simp only [phase, encZero]; ring

end ring

/-! ### spec-side views of the sample matrix (used to state the theorems) -/

section views
variable {α : Type}

/-- `[f i j, f i (j+1), …]`, one entry per element of the row -/
def idxRowFrom {β : Type} (f : Nat → Nat → α) (i : Nat) : Nat → List β → List α
  | _, [] => []
  | j, _ :: rest => f i j :: idxRowFrom f i (j + 1) rest

/-- the matrix `f i j` in the shape of `m`, rows numbered from `i0` -/
def idxMatFrom {β : Type} (f : Nat → Nat → α) : Nat → List (List β) → List (List α)
  | _, [] => []
  | i, row :: rest => idxRowFrom f i 0 row :: idxMatFrom f (i + 1) rest

/-- the gadget vector `P·g_{ij}` laid out in the shape of the sample matrix -/
def pgMat {β : Type} (pg : Nat → Nat → α) (samples : List (List β)) : List (List α) :=
  idxMatFrom pg 0 samples

/-- the sampled masks `a_{ij}` / errors `e_{ij}` -/
def aMat (samples : List (List (α × α))) : List (List α) := samples.map fun r => r.map Prod.fst
def eMat (samples : List (List (α × α))) : List (List α) := samples.map fun r => r.map Prod.snd

theorem idxRowFrom_push {β γ : Type} (φ : α → β) (f : Nat → Nat → α) (i : Nat) : ∀ (j : Nat) (row : List γ),
    (idxRowFrom f i j row).map φ = idxRowFrom (fun i j => φ (f i j)) i j row
  | _, [] => rfl
  | j, _ :: rest => by simp only [idxRowFrom, List.map_cons, idxRowFrom_push φ f i (j + 1) rest]

theorem idxMatFrom_push {β γ : Type} (φ : α → β) (f : Nat → Nat → α) : ∀ (i : Nat) (m : List (List γ)),
    (idxMatFrom f i m).map (List.map φ) = idxMatFrom (fun i j => φ (f i j)) i m
  | _, [] => rfl
  | i, row :: rest => by
      simp only [idxMatFrom, List.map_cons, idxRowFrom_push, idxMatFrom_push φ f (i + 1) rest]

theorem pgMat_push {β γ : Type} (φ : α → β) (pg : Nat → Nat → α) (m : List (List γ)) :
    (pgMat pg m).map (List.map φ) = pgMat (fun i j => φ (pg i j)) m := idxMatFrom_push φ pg 0 m

end views

section structure_lemmas
variable {α : Type} [Add α] [Mul α] [Neg α] [Sub α]

theorem genRowFrom_snd (pg : Nat → Nat → α) (sIn sOut : α) (i : Nat) :
    ∀ (j : Nat) (row : List (α × α)),
      (genRowFrom pg sIn sOut i j row).map Prod.snd = row.map Prod.fst
  | _, [] => rfl
  | j, (a, e) :: rest => by
      simp only [genRowFrom, List.map_cons, evkRow]
      rw [genRowFrom_snd pg sIn sOut i (j + 1) rest]

theorem genFrom_snd (pg : Nat → Nat → α) (sIn sOut : α) :
    ∀ (i : Nat) (samples : List (List (α × α))),
      (genFrom pg sIn sOut i samples).map (fun r => r.map Prod.snd) = aMat samples
  | _, [] => rfl
  | i, row :: rest => by
      simp only [genFrom, List.map_cons, aMat]
      rw [genRowFrom_snd]
      have := genFrom_snd pg sIn sOut (i + 1) rest
      simp only [aMat] at this
      rw [this]

theorem genEvaluationKey_snd (pg : Nat → Nat → α) (sIn sOut : α) (samples : List (List (α × α))) :
    (genEvaluationKey pg sIn sOut samples).map (fun r => r.map Prod.snd) = aMat samples :=
  genFrom_snd pg sIn sOut 0 samples

theorem expand_compress (evk : List (List (α × α))) :
    expand (compress evk) (evk.map fun r => r.map Prod.snd) = evk := by
  induction evk with
  | nil => rfl
  | cons r rest ih =>
    simp only [expand, compress, List.map_cons, List.zipWith_cons_cons] at ih ⊢
    rw [← List.zip_of_prod (xs := r) rfl rfl, ih]

/-- `aMat samples` stands for the `a` stream `EvaluationKey.Expand` regenerates from the seed: the same PRNG, drawn in the same
    order as at generation -/
theorem expand_eq (pg : Nat → Nat → α) (sIn sOut : α) (samples : List (List (α × α))) :
    expand (compress (genEvaluationKey pg sIn sOut samples)) (aMat samples)
      = genEvaluationKey pg sIn sOut samples := by
  rw [← genEvaluationKey_snd pg sIn sOut samples]
  exact expand_compress _

theorem genRowFrom_length (pg : Nat → Nat → α) (sIn sOut : α) (i : Nat) : ∀ (j : Nat) (row : List (α × α)),
    (genRowFrom pg sIn sOut i j row).length = row.length
  | _, [] => rfl
  | j, (_, _) :: rest => by simp only [genRowFrom, List.length_cons, genRowFrom_length pg sIn sOut i (j + 1) rest]

theorem genFrom_lengths (pg : Nat → Nat → α) (sIn sOut : α) : ∀ (i : Nat) (m : List (List (α × α))),
    (genFrom pg sIn sOut i m).map List.length = m.map List.length
  | _, [] => rfl
  | i, row :: rest => by
    simp only [genFrom, List.map_cons, genRowFrom_length, genFrom_lengths pg sIn sOut (i + 1) rest]

theorem genEvaluationKey_lengths (pg : Nat → Nat → α) (sIn sOut : α) (m : List (List (α × α))) :
    (genEvaluationKey pg sIn sOut m).map List.length = m.map List.length := genFrom_lengths pg sIn sOut 0 m

end structure_lemmas

end Lattigo.KS
