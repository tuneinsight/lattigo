/-
  C04/C02 — integer digit recombination and the digit COUNT the code allots: the first `n` base-`2^w` digits reassemble
  `x mod 2^{wn}`; the code's count `⌈bitlen(q)/w⌉` always covers `q`; the count `⌈round(log2 q)/w⌉` of lattigo before fix C04-1
  covers `q` (`2^k < q < 2^{k+1}`) iff `q ≥ 2^{k+1/2}` or `w ∤ k` (witness `q = 1207959937`, `w = 10`).
-/
import Lattigo.Model.KeySwitch
import Lattigo.Proofs.BitLen
import Mathlib.Algebra.BigOperators.Group.Finset.Basic
import Mathlib.Tactic.Ring
import Mathlib.Tactic.Linarith

namespace Lattigo.KS
open Finset

/-- the value reassembled from the first `n` base-`2^w` digits of `x` -/
def recombine (w n x : Nat) : Nat := ∑ j ∈ range n, bitDigit w j x * 2 ^ (w * j)

theorem bitDigit_eq (w j x : Nat) : bitDigit w j x = x / 2 ^ (w * j) % 2 ^ w := by
  simp only [bitDigit, Nat.and_two_pow_sub_one_eq_mod, Nat.shiftRight_eq_div_pow, Nat.mul_comm j w]

theorem bitDigit_lt (w j x : Nat) : bitDigit w j x < 2 ^ w := by
  rw [bitDigit_eq]; exact Nat.mod_lt _ (Nat.two_pow_pos w)

theorem digits_recombine_mod (w : Nat) : ∀ (n x : Nat), recombine w n x = x % 2 ^ (w * n)
  | 0, x => by simp [recombine, Nat.mod_one]
  | n + 1, x => by
      have ih := digits_recombine_mod w n x
      simp only [recombine] at ih ⊢
      rw [sum_range_succ, ih, bitDigit_eq]
      have : w * (n + 1) = w * n + w := by ring
      rw [this, Nat.pow_add, Nat.mod_mul]
      ring

theorem digits_recombine (w n x : Nat) (h : x < 2 ^ (w * n)) : recombine w n x = x := by
  rw [digits_recombine_mod, Nat.mod_eq_of_lt h]

theorem digits_drop_top (w n x : Nat) (h : 2 ^ (w * n) ≤ x) : recombine w n x < x := by
  rw [digits_recombine_mod]
  exact Nat.lt_of_lt_of_le (Nat.mod_lt _ (Nat.two_pow_pos _)) h

theorem roundLog2_eq {q k : Nat} (h1 : 2 ^ k ≤ q) (h2 : q < 2 ^ (k + 1)) :
    roundLog2 q = if q * q ≥ 2 ^ (2 * k + 1) then k + 1 else k := by
  have hq : q ≠ 0 := Nat.ne_of_gt (Nat.lt_of_lt_of_le (Nat.two_pow_pos k) h1)
  simp only [roundLog2, (Nat.log2_eq_iff hq).mpr ⟨h1, h2⟩]

theorem mul_ceilDiv_ge (r w : Nat) (hw : 0 < w) : r ≤ w * ((r + w - 1) / w) := by
  have h := Nat.div_add_mod (r + w - 1) w
  have hm := Nat.mod_lt (r + w - 1) hw
  omega

theorem mul_ceilDiv_gt_of_not_dvd (r w : Nat) (hw : 0 < w) (hd : ¬ w ∣ r) :
    r + 1 ≤ w * ((r + w - 1) / w) := by
  have h := mul_ceilDiv_ge r w hw
  rcases Nat.lt_or_ge r (w * ((r + w - 1) / w)) with hlt | hge
  · exact hlt
  · exact absurd ⟨(r + w - 1) / w, by omega⟩ hd

theorem mul_ceilDiv_eq_of_dvd (r w : Nat) (hw : 0 < w) (hd : w ∣ r) :
    w * ((r + w - 1) / w) = r := by
  obtain ⟨t, rfl⟩ := hd
  have : (w * t + w - 1) / w = t := by
    have h1 : w * t + w - 1 = (w - 1) + w * t := by omega
    rw [h1, Nat.add_mul_div_left _ _ hw, Nat.div_eq_of_lt (by omega)]
    omega
  rw [this]

/-- the digit count of lattigo before fix C04-1 is too small exactly for the primes in `(2^k, 2^{k+1/2})` with `w ∣ k` -/
theorem digitCountRoundLog2_sufficient_iff (q k w : Nat) (hw : 0 < w) (h1 : 2 ^ k < q) (h2 : q < 2 ^ (k + 1)) :
    q ≤ 2 ^ (w * baseTwoDigitsRoundLog2 q w) ↔ (2 ^ (2 * k + 1) ≤ q * q ∨ ¬ w ∣ k) := by
  constructor
  · intro h
    by_contra hc
    rw [not_or, not_not] at hc
    obtain ⟨hlow, hd⟩ := hc
    have hr := (roundLog2_eq (Nat.le_of_lt h1) h2).trans (if_neg hlow)
    simp only [baseTwoDigitsRoundLog2, hr, mul_ceilDiv_eq_of_dvd k w hw hd] at h
    omega
  · have high : 2 ^ (2 * k + 1) ≤ q * q → q ≤ 2 ^ (w * baseTwoDigitsRoundLog2 q w) := fun hhigh => by
      simp only [baseTwoDigitsRoundLog2, roundLog2_eq (Nat.le_of_lt h1) h2, if_pos hhigh]
      exact Nat.le_trans (Nat.le_of_lt h2) (Nat.pow_le_pow_right (by decide) (mul_ceilDiv_ge (k + 1) w hw))
    rintro (hhigh | hnd)
    · exact high hhigh
    · rcases Nat.lt_or_ge (q * q) (2 ^ (2 * k + 1)) with hlow | hhigh
      · simp only [baseTwoDigitsRoundLog2, roundLog2_eq (Nat.le_of_lt h1) h2, if_neg (Nat.not_le.mpr hlow)]
        exact Nat.le_trans (Nat.le_of_lt h2)
          (Nat.pow_le_pow_right (by decide) (mul_ceilDiv_gt_of_not_dvd k w hw hnd))
      · exact high hhigh

theorem roundLog2_witness : roundLog2 1207959937 = 30 :=
  (roundLog2_eq (k := 30) (by norm_num) (by norm_num)).trans (if_neg (by norm_num))

theorem baseTwoDigitsRoundLog2_witness : baseTwoDigitsRoundLog2 1207959937 10 = 3 := by
  simp only [baseTwoDigitsRoundLog2, roundLog2_witness]

/-- the count `⌈round(log2 q)/w⌉` does not always cover the modulus (the defect repaired by fix C04-1): witness
    `q = 1207959937` (an NTT-friendly prime for `N ≤ 64`), `w = 10` (also 15, and every divisor of 30) -/
theorem digitCountRoundLog2_counterexample :
    ¬ (∀ q w : Nat, 0 < w → q ≤ 2 ^ (w * baseTwoDigitsRoundLog2 q w)) := by
  intro h
  have := h 1207959937 10 (by decide)
  rw [baseTwoDigitsRoundLog2_witness] at this
  norm_num at this

theorem digitsRoundLog2_recombine_counterexample :
    ∃ q w x : Nat, 0 < w ∧ x < q ∧ recombine w (baseTwoDigitsRoundLog2 q w) x ≠ x := by
  refine ⟨1207959937, 10, 2 ^ 30, by decide, by norm_num, ?_⟩
  rw [baseTwoDigitsRoundLog2_witness, digits_recombine_mod]
  norm_num

theorem digitCount_sufficient (q w : Nat) (hw : 0 < w) : q ≤ 2 ^ (w * baseTwoDigits q w) := by
  have h := mul_ceilDiv_ge (bitLen q) w hw
  have hq : q < 2 ^ bitLen q := lt_two_pow_len64 q
  exact Nat.le_trans (Nat.le_of_lt hq)
    (Nat.pow_le_pow_right (by decide) (by simpa [baseTwoDigits] using h))

theorem digits_recombine_code (q w x : Nat) (hw : 0 < w) (hx : x < q) :
    recombine w (baseTwoDigits q w) x = x :=
  digits_recombine w _ x (Nat.lt_of_lt_of_le hx (digitCount_sufficient q w hw))

theorem bitLen_witness : bitLen 1207959937 = 31 := len64_eq_of_bounds (by norm_num) (by norm_num)

theorem baseTwoDigits_witness : baseTwoDigits 1207959937 10 = 4 := by
  simp only [baseTwoDigits, bitLen_witness]

end Lattigo.KS
