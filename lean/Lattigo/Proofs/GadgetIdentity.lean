/-
  C04 — the gadget identity `Σ_{i,j} d_{ij}·(P·g_{ij}) = P·c` for the gadget vector AS LAID OUT BY THE
  CODE on RNS rows: `P·g_{ij}` is `P·2^{wj}` on the rows of digit group `i` and `0` on every other row
  (`AddPolyTimesGadgetVectorToGadgetCiphertext`).

  Ring of the statement: a product `∀ k : ι, R k` of commutative rings (`k` = RNS row; for lattigo
  `R k = Z_{q_k}[X]/(X^N+1)`), so equality is row-wise.  On row `k` only the digit row `i = grp k`
  contributes, and the identity reduces to the per-row recombination
  `Σ_j d_{grp k, j}(k)·b_j(k) = c(k)` — which is `digits_recombine` for the power-of-two digits, and
  `d_i ≡ c (mod q_k)` for the RNS digits (`b_0 = 1`).
-/
import Lattigo.Proofs.KeySwitch
import Lattigo.Proofs.KeySwitchPush
import Mathlib.Algebra.Ring.Pi

set_option linter.unusedSectionVars false

namespace Lattigo.KS

section oneRow
variable {R : Type} [CommRing R] {β : Type}

theorem wsumRow_zero_right (i : Nat) : ∀ (j : Nat) (row : List β) (d : List R),
    wsumRow 0 d (idxRowFrom (fun _ _ => (0 : R)) i j row) = 0
  | _, [], d => by cases d <;> simp [idxRowFrom, wsumRow]
  | _, _ :: _, [] => by simp [wsumRow]
  | j, _ :: rest, x :: xs => by
      simp only [idxRowFrom, wsumRow, wsumRow_zero_right i (j + 1) rest xs]; ring

theorem wsumRow_factor (P : R) (b : Nat → R) (i i' : Nat) : ∀ (j : Nat) (row : List β) (d : List R),
    wsumRow 0 d (idxRowFrom (fun _ j => P * b j) i j row)
      = P * wsumRow 0 d (idxRowFrom (fun _ j => b j) i' j row)
  | _, [], d => by cases d <;> simp [idxRowFrom, wsumRow]
  | _, _ :: _, [] => by simp [wsumRow]
  | j, _ :: rest, x :: xs => by
      simp only [idxRowFrom, wsumRow, wsumRow_factor P b i i' (j + 1) rest xs]; ring

theorem idxRowFrom_congr {f f' : Nat → Nat → R} (i : Nat) (h : ∀ j, f i j = f' i j) :
    ∀ (j : Nat) (row : List β), idxRowFrom f i j row = idxRowFrom f' i j row
  | _, [] => rfl
  | j, _ :: rest => by simp only [idxRowFrom, h j, idxRowFrom_congr i h (j + 1) rest]

/-- generalised over the number `i0` of the first row for the induction; `gadget_identity` is the case `i0 = 0` -/
theorem gadget_identity_oneRow (P : R) (b : Nat → R) (g : Nat) :
    ∀ (i0 : Nat) (shape : List (List β)) (d : List (List R)),
      wsumMat 0 d (idxMatFrom (fun i j => if i = g then P * b j else 0) i0 shape)
        = if i0 ≤ g then
            P * wsumRow 0 (d.getD (g - i0) []) (idxRowFrom (fun _ j => b j) 0 0 (shape.getD (g - i0) []))
          else 0
  | i0, [], d => by
      cases d <;> simp [idxMatFrom, wsumMat, idxRowFrom, wsumRow]
  | i0, _ :: _, [] => by
      simp only [wsumMat, List.getD_nil]
      split <;> simp [wsumRow]
  | i0, row :: rest, di :: ds => by
      simp only [idxMatFrom, wsumMat]
      rw [gadget_identity_oneRow P b g (i0 + 1) rest ds]
      by_cases heq : i0 = g
      ·
        subst heq
        rw [idxRowFrom_congr (f' := fun _ j => P * b j) i0 (fun j => if_pos rfl) 0 row,
          wsumRow_factor P b i0 0 0 row di]
        simp
      ·
        rw [idxRowFrom_congr (f' := fun _ _ => (0 : R)) i0 (fun j => if_neg heq) 0 row, wsumRow_zero_right, zero_add]
        rcases Nat.lt_or_gt_of_ne heq with hlt | hgt
        · rw [if_pos (Nat.succ_le_of_lt hlt), if_pos (Nat.le_of_lt hlt), show g - i0 = (g - (i0 + 1)) + 1 by omega,
            List.getD_cons_succ, List.getD_cons_succ]
        · rw [if_neg (by omega), if_neg (by omega)]

end oneRow

section pi
variable {ι : Type} {R : ι → Type} [∀ k, CommRing (R k)] {β : Type}

theorem gadget_identity (grp : ι → Nat) (P : ∀ k, R k) (b : Nat → ∀ k, R k) (c : ∀ k, R k)
    (samples : List (List β)) (d : List (List (∀ k, R k)))
    (hrec : ∀ k, wsumRow 0 ((d.getD (grp k) []).map fun x => x k)
              (idxRowFrom (fun _ j => b j k) 0 0 (samples.getD (grp k) [])) = c k) :
    wsumMat 0 d (pgMat (fun i j => fun k => if grp k = i then P k * b j k else 0) samples) = P * c := by
  funext k
  -- evaluation at the row `k` preserves `+ * − neg`
  rw [wsumMat_push (φ := fun x : ∀ k, R k => x k) ⟨fun _ _ => rfl, fun _ _ => rfl, fun _ => rfl, fun _ _ => rfl⟩,
    Pi.zero_apply, pgMat_push]
  unfold pgMat
  have hf : (fun i j => (fun k => if grp k = i then P k * b j k else (0 : R k)) k)
      = (fun i j => if i = grp k then P k * b j k else 0) := by
    funext i j
    by_cases h : grp k = i
    · simp [h]
    · simp [h, Ne.symm h]
  rw [hf, gadget_identity_oneRow (P k) (fun j => b j k) (grp k) 0 samples]
  simp only [Nat.zero_le, if_true, Nat.sub_zero, Pi.mul_apply]
  rw [← hrec k]
  congr 2
  -- (d.map …).getD g [] = (d.getD g []).map …
  cases h : d[grp k]? with
  | none => simp [List.getD, h]
  | some r => simp [List.getD, h]

end pi

end Lattigo.KS
