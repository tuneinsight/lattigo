/-
  C11 proofs: the Galois-element functions of `core/rlwe/params.go`.

  Throughout `nthRoot = 2^m`.  `galEl` is characterised as the integer power `5^k` of the unit
  `5 ∈ (ZMod 2^m)ˣ`; everything else is group theory in that (abelian) group together with
  `orderOf 5 = 2^(m-2)` (proved in `GaloisOrder`, not assumed).
-/
import Lattigo.Proofs.GaloisExp
import Lattigo.Proofs.GaloisOrder
import Lattigo.Proofs.ZModCast

namespace Lattigo.Proofs.Galois
open Lattigo Lattigo.Model.Galois

theorem toU64_cast (k : Int) : ((toU64 k : Nat) : Int) = k % 18446744073709551616 :=
  Int.toNat_of_nonneg (Int.emod_nonneg k (by norm_num))

theorem toU64_natCast (n : Nat) : toU64 (n : Int) = n % W := by
  rw [toU64, show (18446744073709551616 : Int) = ((W : Nat) : Int) from rfl, ← Int.natCast_mod,
    Int.toNat_natCast]

theorem toU64_lt (k : Int) : toU64 k < 2 ^ 64 := by
  unfold toU64; omega

theorem toU64_wrapInt (k : Int) : toU64 (wrapInt k) = toU64 k := by
  unfold toU64 wrapInt
  rw [Int.sub_emod, Int.emod_emod_of_dvd _ (dvd_refl _), ← Int.sub_emod, Int.add_sub_cancel]

/-- `uint64(k) & (NthRoot-1)`, the exponent `GaloisElement` uses -/
theorem exponent_cast (m : Nat) (hm : m ≤ 64) (k : Int) :
    ((toU64 k &&& (2 ^ m - 1) : Nat) : Int) = k % ((2 ^ m : Nat) : Int) := by
  rw [Nat.and_two_pow_sub_one_eq_mod]
  push_cast
  rw [toU64_cast, show (18446744073709551616 : Int) = 2 ^ 64 by norm_num]
  exact Int.emod_emod_of_dvd k (pow_dvd_pow 2 hm)

theorem unit_pow_nthRoot (m : Nat) (hm : 1 ≤ m) (x : (ZMod (2 ^ m))ˣ) : x ^ (2 ^ m) = 1 := by
  obtain ⟨j, rfl⟩ : ∃ j, m = j + 1 := ⟨m - 1, (Nat.sub_add_cancel hm).symm⟩
  exact (congrArg (x ^ ·) (pow_succ 2 j)).trans
    ((pow_mul x (2 ^ j) 2).trans (by rw [unit_pow_two_pow, one_pow]))

theorem galEl_lt (m : Nat) (hm : 1 ≤ m) (k : Int) : galEl (2 ^ m) k < 2 ^ m :=
  modExpLoop_lt _ _ _ _ _ (Nat.one_lt_two_pow (by omega))

theorem galEl_eq_pow (m : Nat) (hm1 : 1 ≤ m) (k : Int) :
    galEl (2 ^ m) k = 5 ^ (toU64 k &&& (2 ^ m - 1)) % 2 ^ m :=
  modExp_eq 5 _ (2 ^ m) (Nat.one_lt_two_pow (by omega)) (lt_of_le_of_lt Nat.and_le_left (toU64_lt k))

/-- `GaloisElement(k)` is the integer power `5^k` in `(ZMod 2^m)ˣ`, negative `k` included. -/
theorem galEl_cast (m : Nat) (hm1 : 1 ≤ m) (hm : m ≤ 64) (k : Int) :
    ((galEl (2 ^ m) k : Nat) : ZMod (2 ^ m)) = (((five m) ^ k : (ZMod (2 ^ m))ˣ) : ZMod (2 ^ m)) := by
  rw [galEl_eq_pow m hm1, ZMod.natCast_mod, zpow_eq_zpow_emod' k (unit_pow_nthRoot m hm1 (five m)),
    ← exponent_cast m hm k, zpow_natCast, five_pow_cast]

theorem galEl_eq (m : Nat) (hm1 : 1 ≤ m) (hm : m ≤ 64) (k : Int) :
    galEl (2 ^ m) k = 5 ^ (k % ((2 ^ m : Nat) : Int)).toNat % 2 ^ m := by
  rw [galEl_eq_pow m hm1, ← exponent_cast m hm k, Int.toNat_natCast]

theorem galEl_add (m : Nat) (hm1 : 1 ≤ m) (hm : m ≤ 64) (a b : Int) :
    (galEl (2 ^ m) a * galEl (2 ^ m) b) % 2 ^ m = galEl (2 ^ m) (a + b) := by
  apply eq_of_cast_eq (q := 2 ^ m) (Nat.mod_lt _ (by positivity)) (galEl_lt m hm1 _)
  rw [ZMod.natCast_mod, Nat.cast_mul, galEl_cast m hm1 hm, galEl_cast m hm1 hm, galEl_cast m hm1 hm,
    zpow_add]
  simp

theorem galEl_zero (m : Nat) (hm1 : 1 ≤ m) (hm : m ≤ 64) : galEl (2 ^ m) 0 = 1 := by
  apply eq_of_cast_eq (q := 2 ^ m) (galEl_lt m hm1 _) (Nat.one_lt_two_pow (by omega))
  rw [galEl_cast m hm1 hm]; simp

theorem galEl_wrapInt (n : Nat) (k : Int) : galEl n (wrapInt k) = galEl n k := by
  unfold galEl; rw [toU64_wrapInt]

theorem galEl_eq_iff_zpow (m : Nat) (hm1 : 1 ≤ m) (hm : m ≤ 64) (a b : Int) :
    galEl (2 ^ m) a = galEl (2 ^ m) b ↔ (five m) ^ a = (five m) ^ b := by
  rw [Units.ext_iff, ← galEl_cast m hm1 hm, ← galEl_cast m hm1 hm]
  exact ⟨congrArg _, eq_of_cast_eq (galEl_lt m hm1 a) (galEl_lt m hm1 b)⟩

/-- `2^(t+1) = nthRoot/4` is the number of slots per row. -/
theorem galEl_mod_slots (t : Nat) (ht : t + 3 ≤ 64) (k : Int) :
    galEl (2 ^ (t + 3)) k = galEl (2 ^ (t + 3)) (k % ((2 ^ (t + 1) : Nat) : Int)) :=
  (galEl_eq_iff_zpow _ (by omega) ht _ _).mpr
    (zpow_eq_zpow_emod' k (five_pow_eq_one_of_eq (m := t + 3) (t := t + 1) rfl))

theorem galEl_eq_iff (t : Nat) (ht : t + 3 ≤ 64) (a b : Int) :
    galEl (2 ^ (t + 3)) a = galEl (2 ^ (t + 3)) b ↔ a ≡ b [ZMOD ((2 ^ (t + 1) : Nat) : Int)] := by
  rw [galEl_eq_iff_zpow _ (by omega) ht, ← orderOf_five t, zpow_eq_zpow_iff_modEq]

theorem modInv_eq (m : Nat) (hm1 : 1 ≤ m) (hm : m ≤ 64) (g : Nat) :
    modInv (2 ^ m) g = g ^ (2 ^ m - 1) % 2 ^ m :=
  modExp_eq _ _ _ (Nat.one_lt_two_pow (by omega))
    ((Nat.sub_lt (Nat.two_pow_pos m) one_pos).trans_le (Nat.pow_le_pow_right two_pos hm))

theorem modInv_spec (m : Nat) (hm1 : 1 ≤ m) (hm : m ≤ 64) (g : Nat) (hg : g % 2 = 1) :
    (g * modInv (2 ^ m) g) % 2 ^ m = 1 := by
  have hcop : Nat.Coprime g (2 ^ m) :=
    Nat.Coprime.pow_right m (Nat.coprime_two_right.mpr (Nat.odd_iff.mpr hg))
  have h1 := congrArg Units.val (unit_pow_nthRoot m hm1 (ZMod.unitOfCoprime g hcop))
  rw [Units.val_pow_eq_pow_val, ZMod.coe_unitOfCoprime, Units.val_one] at h1
  apply eq_of_cast_eq (q := 2 ^ m) (Nat.mod_lt _ (Nat.two_pow_pos m)) (Nat.one_lt_two_pow (by omega))
  rw [modInv_eq m hm1 hm, ZMod.natCast_mod, Nat.cast_mul, ZMod.natCast_mod, Nat.cast_pow, ← pow_succ',
    Nat.sub_add_cancel Nat.one_le_two_pow, h1, Nat.cast_one]

theorem modInv_galEl (m : Nat) (hm1 : 1 ≤ m) (hm : m ≤ 64) (k : Int) :
    modInv (2 ^ m) (galEl (2 ^ m) k) = galEl (2 ^ m) (-k) := by
  have h1 : ((five m) ^ k) ^ (2 ^ m - 1) * (five m) ^ k = 1 := by
    rw [← pow_succ, Nat.sub_add_cancel Nat.one_le_two_pow, unit_pow_nthRoot m hm1]
  rw [modInv_eq m hm1 hm]
  apply eq_of_cast_eq (q := 2 ^ m) (Nat.mod_lt _ (Nat.two_pow_pos m)) (galEl_lt m hm1 _)
  rw [ZMod.natCast_mod, Nat.cast_pow, galEl_cast m hm1 hm, galEl_cast m hm1 hm,
    ← Units.val_pow_eq_pow_val, zpow_neg]
  exact congrArg Units.val (eq_inv_of_mul_eq_one_left h1)

theorem orderTwo_sq (n : Nat) (hn : 2 ≤ n) : ((n - 1) * (n - 1)) % n = 1 := by
  obtain ⟨j, rfl⟩ : ∃ j, n = j + 2 := ⟨n - 2, by omega⟩
  have : (j + 2 - 1) * (j + 2 - 1) = 1 + (j + 2) * j := by
    simp only [show j + 2 - 1 = j + 1 by omega]; ring
  rw [this, Nat.add_mul_mod_self_left]
  exact Nat.mod_eq_of_lt (by omega)

theorem galEl_mod_four (m : Nat) (hm2 : 2 ≤ m) (hm : m ≤ 64) (k : Int) : galEl (2 ^ m) k % 4 = 1 := by
  have h4 : 4 ∣ 2 ^ m := pow_dvd_pow 2 hm2
  rw [galEl_eq m (by omega) hm, Nat.mod_mod_of_dvd _ h4, Nat.pow_mod]
  norm_num

/-- every `GaloisElement(k)` is `≡ 1 (mod 4)`, so `nthRoot-1` (`≡ 3`) is not a rotation: it generates the
    "orthogonal" subgroup. -/
theorem orderTwo_not_rotation (m : Nat) (hm2 : 2 ≤ m) (hm : m ≤ 64) (k : Int) :
    galEl (2 ^ m) k ≠ 2 ^ m - 1 := by
  intro h
  have h1 := galEl_mod_four m hm2 hm k
  obtain ⟨j, rfl⟩ : ∃ j, m = j + 2 := ⟨m - 2, (Nat.sub_add_cancel hm2).symm⟩
  have hp : 0 < 2 ^ j := Nat.two_pow_pos j
  rw [h, pow_succ, pow_succ, Nat.mul_assoc] at h1
  omega

end Lattigo.Proofs.Galois
