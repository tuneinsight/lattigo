/-
  C11 proofs: `SolveDiscreteLogGaloisElement` inverts `GaloisElement`; its loop never returns once `x = 0`
  and needs no more fuel than `x` has bits.
-/
import Lattigo.Proofs.Galois

namespace Lattigo.Proofs.Galois
open Lattigo Lattigo.Model.Galois

/-- the comparison made in every turn of the loop, read on exponents (`g ≡ 5^κ`) -/
theorem dlog_test_iff (t : Nat) (ht : t + 3 ≤ 64) (g κ A X : Nat) (hA : A < 2 ^ 64) (hX : X < 2 ^ 64)
    (hg : (g : ZMod (2 ^ (t + 3))) = (((five (t + 3)) ^ κ : (ZMod (2 ^ (t + 3)))ˣ) : ZMod (2 ^ (t + 3)))) :
    modExpPow2 galoisGen A (2 ^ (t + 3)) = modExpPow2 g X (2 ^ (t + 3)) ↔
      A ≡ κ * X [MOD 2 ^ (t + 1)] := by
  rw [modExpPow2_eq _ _ _ ht hA, modExpPow2_eq _ _ _ ht hX, ← orderOf_five t, ← pow_eq_pow_iff_modEq,
    Units.ext_iff, pow_mul, Units.val_pow_eq_pow_val, Units.val_pow_eq_pow_val _ X, ← hg, val_five]
  exact (ZMod.natCast_eq_natCast_iff _ _ _).symm.trans (by rw [Nat.cast_pow, Nat.cast_pow]; rfl)

/-- with the `e` low bits of `κ` known, the test succeeds iff bit `e` of `κ` is clear -/
theorem bit_test (κ e s : Nat) :
    (κ % 2 ^ e) * 2 ^ s ≡ κ * 2 ^ s [MOD 2 ^ (e + s + 1)] ↔ κ / 2 ^ e % 2 = 0 := by
  have hsplit : κ % 2 ^ (e + 1) = κ % 2 ^ e + 2 ^ e * (κ / 2 ^ e % 2) := Nat.mod_pow_succ
  have hlt : κ % 2 ^ e < 2 ^ e := Nat.mod_lt _ (by positivity)
  rw [show 2 ^ (e + s + 1) = 2 ^ (e + 1) * 2 ^ s by ring, Nat.ModEq,
    Nat.mul_mod_mul_right, Nat.mul_mod_mul_right, Nat.mul_left_inj (by positivity),
    Nat.mod_eq_of_lt (hlt.trans (Nat.pow_lt_pow_right (by norm_num) (Nat.lt_succ_self e))), hsplit]
  have hp : 0 < 2 ^ e := by positivity
  rcases Nat.mod_two_eq_zero_or_one (κ / 2 ^ e) with h | h
  · rw [h]; omega
  · rw [h]; omega

/-- One comparison of the loop.  `x = 2^s`; the `e` low bits of `κ` are known and sit in
    `kuint = (κ mod 2^e)·2^s`, `e + s = t`: afterwards `kuint = (κ mod 2^(e+1))·2^s`. -/
theorem dlog_step (t : Nat) (ht : t + 3 ≤ 64) (g κ : Nat)
    (hg : (g : ZMod (2 ^ (t + 3))) = (((five (t + 3)) ^ κ : (ZMod (2 ^ (t + 3)))ˣ) : ZMod (2 ^ (t + 3))))
    (s e : Nat) (hes : e + s = t) :
    (if modExpPow2 galoisGen (κ % 2 ^ e * 2 ^ s) (2 ^ (t + 3)) ≠ modExpPow2 g (2 ^ s) (2 ^ (t + 3))
      then κ % 2 ^ e * 2 ^ s ||| 2 ^ (t + 3) >>> 3 else κ % 2 ^ e * 2 ^ s) = κ % 2 ^ (e + 1) * 2 ^ s := by
  have hlt : κ % 2 ^ e * 2 ^ s < 2 ^ t := by
    rw [← hes, pow_add]
    exact Nat.mul_lt_mul_of_pos_right (Nat.mod_lt _ (by positivity)) (Nat.two_pow_pos _)
  have h64 : (2 : Nat) ^ t < 2 ^ 64 := Nat.pow_lt_pow_right (by norm_num) (by omega)
  have htest : modExpPow2 galoisGen (κ % 2 ^ e * 2 ^ s) (2 ^ (t + 3)) = modExpPow2 g (2 ^ s) (2 ^ (t + 3))
      ↔ κ / 2 ^ e % 2 = 0 := by
    rw [dlog_test_iff t ht g κ _ _ (hlt.trans h64)
      ((Nat.pow_le_pow_right (by norm_num) (by omega)).trans_lt h64) hg, ← bit_test κ e s, hes]
  rw [Nat.mod_pow_succ (b := 2) (k := e)]
  rcases Nat.mod_two_eq_zero_or_one (κ / 2 ^ e) with h | h
  · rw [if_neg (not_not.mpr (htest.mpr h)), h, Nat.mul_zero, Nat.add_zero]
  · -- `kuint < 2^t = N >> 3`, so `kuint ||| 2^t` is `kuint + 2^t`: bit `e` of `κ`, shifted by `s`
    have hor := Nat.two_pow_add_eq_or_of_lt hlt 1
    rw [Nat.mul_one] at hor
    rw [if_pos (fun c => by rw [htest.mp c] at h; exact absurd h (by norm_num)), h, Nat.mul_one,
      Nat.shiftRight_eq_div_pow, Nat.pow_div (by omega) (by norm_num), Nat.add_sub_cancel, Nat.or_comm,
      ← hor, ← hes, pow_add]
    ring

theorem dlogLoop_spec (t : Nat) (ht : t + 3 ≤ 64) (g κ : Nat) (hκ : κ < 2 ^ (t + 1))
    (hg : (g : ZMod (2 ^ (t + 3))) = (((five (t + 3)) ^ κ : (ZMod (2 ^ (t + 3)))ˣ) : ZMod (2 ^ (t + 3)))) :
    ∀ (s e fuel : Nat), e + s = t → s + 1 ≤ fuel →
      dlogLoop (2 ^ (t + 3)) g fuel (2 ^ s) ((κ % 2 ^ e) * 2 ^ s) = some κ := by
  intro s
  induction s with
  | zero =>
    intro e fuel hes hf
    obtain ⟨f, rfl⟩ : ∃ f, fuel = f + 1 := ⟨fuel - 1, by omega⟩
    rw [dlogLoop, dlog_step t ht g κ hg 0 e hes, pow_zero, if_pos rfl, Nat.mul_one,
      show e + 1 = t + 1 by omega, Nat.mod_eq_of_lt hκ]
  | succ s ih =>
    intro e fuel hes hf
    obtain ⟨f, rfl⟩ : ∃ f, fuel = f + 1 := ⟨fuel - 1, by omega⟩
    have hx1 : (2 : Nat) ^ (s + 1) ≠ 1 := (Nat.one_lt_two_pow (Nat.succ_ne_zero s)).ne'
    rw [dlogLoop, dlog_step t ht g κ hg (s + 1) e hes, if_neg hx1, Nat.shiftRight_one, Nat.shiftRight_one,
      pow_succ 2 s, Nat.mul_div_cancel _ (by norm_num), ← Nat.mul_assoc, Nat.mul_div_cancel _ (by norm_num)]
    exact ih (e + 1) f (by omega) (by omega)

theorem dlog_galEl (t : Nat) (ht : t + 3 ≤ 64) (k : Int) :
    solveDiscreteLog (2 ^ (t + 3)) (galEl (2 ^ (t + 3)) k) = some (k % ((2 ^ (t + 1) : Nat) : Int)).toNat := by
  have hpos : (0 : Int) < ((2 ^ (t + 1) : Nat) : Int) := by positivity
  obtain ⟨κ, hκc⟩ := Int.eq_ofNat_of_zero_le (Int.emod_nonneg k hpos.ne')
  have hκ : κ < 2 ^ (t + 1) := by
    have := Int.emod_lt_of_pos k hpos
    rw [hκc] at this
    exact_mod_cast this
  have hg : ((galEl (2 ^ (t + 3)) k : Nat) : ZMod (2 ^ (t + 3))) =
      (((five (t + 3)) ^ κ : (ZMod (2 ^ (t + 3)))ˣ) : ZMod (2 ^ (t + 3))) := by
    rw [galEl_mod_slots t ht, galEl_cast _ (by omega) ht, hκc, zpow_natCast]
  have := dlogLoop_spec t ht _ κ hκ hg t 0 64 (by omega) (by omega)
  rw [pow_zero, Nat.mod_one, Nat.zero_mul] at this
  rw [solveDiscreteLog, Nat.shiftRight_eq_div_pow, Nat.pow_div (by omega) (by norm_num), Nat.add_sub_cancel,
    hκc, Int.toNat_natCast]
  exact this

theorem dlogLoop_zero (N g : Nat) : ∀ fuel k, dlogLoop N g fuel 0 k = none := by
  intro fuel
  induction fuel with
  | zero => intro k; rfl
  | succ f ih => intro k; rw [dlogLoop]; simp [ih]

/-- `x` is shifted right once per turn: what has not returned within `n` turns (`x < 2^n`) never returns -/
theorem dlogLoop_fuel (N g : Nat) : ∀ n x k, x < 2 ^ n → ∀ m, n ≤ m →
    dlogLoop N g m x k = dlogLoop N g n x k := by
  intro n
  induction n with
  | zero => intro x k hx m _; rw [Nat.lt_one_iff.mp hx, dlogLoop_zero, dlogLoop_zero]
  | succ n ih =>
    intro x k hx m hm
    obtain ⟨m', rfl⟩ : ∃ m', m = m' + 1 := ⟨m - 1, by omega⟩
    rw [dlogLoop, dlogLoop]
    split
    · rfl
    · refine ih _ _ ?_ m' (by omega)
      rw [Nat.shiftRight_eq_div_pow, Nat.pow_one]
      exact Nat.div_lt_of_lt_mul (by rwa [Nat.pow_succ, Nat.mul_comm] at hx)

end Lattigo.Proofs.Galois
