/-
  C11 proofs: the two modular exponentiation loops compute powers.
-/
import Lattigo.Model.Galois
import Lattigo.Proofs.SqMul
import Mathlib.Data.ZMod.Basic
import Mathlib.Tactic.Ring

namespace Lattigo.Proofs.Galois
open Lattigo Lattigo.Model.Galois

theorem sqMul (p : Nat) : SqMul p (modExpLoop p) where
  out _ _ _ := rfl
  stop f _ _ := by
    cases f with
    | zero => rfl
    | succ f => rw [modExpLoop, if_pos rfl]
  step f i x r h := by rw [modExpLoop, if_neg h, Nat.shiftRight_one]

theorem modExpLoop_cast (p : Nat) : ∀ (fuel i x r : Nat), i < 2 ^ fuel →
    ((modExpLoop p fuel i x r : Nat) : ZMod p) = (r : ZMod p) * (x : ZMod p) ^ i :=
  (sqMul p).cast

theorem modExpLoop_lt (p : Nat) : ∀ (fuel i x r : Nat), r < p →
    modExpLoop p fuel i x r < p :=
  (sqMul p).lt

theorem modExp_eq (x e p : Nat) (hp : 1 < p) (he : e < 2 ^ 64) : modExp x e p = x ^ e % p := by
  rw [modExp, (sqMul p).eq 64 e x 1 he hp, Nat.one_mul]

/-- `ModExpPow2` is the same loop modulo `2^64` (its products wrap) -/
theorem sqMulPow2 : SqMul W modExpPow2Loop where
  out _ _ _ := rfl
  stop f _ _ := by
    cases f with
    | zero => rfl
    | succ f => rw [modExpPow2Loop, if_pos rfl]
  step f i x r h := by rw [modExpPow2Loop, if_neg h, Nat.shiftRight_one, u64mul, u64mul]

theorem modExpPow2Loop_cast : ∀ (fuel i x r : Nat), i < 2 ^ fuel →
    ((modExpPow2Loop fuel i x r : Nat) : ZMod W) = (r : ZMod W) * (x : ZMod W) ^ i :=
  sqMulPow2.cast

theorem modExpPow2_eq (x e m : Nat) (hm : m ≤ 64) (he : e < 2 ^ 64) :
    modExpPow2 x e (2 ^ m) = x ^ e % 2 ^ m := by
  have h : modExpPow2Loop 64 e x 1 ≡ x ^ e [MOD W] := by
    rw [Nat.ModEq, sqMulPow2.mod_eq 64 e x 1 he, Nat.one_mul]
  rw [modExpPow2, Nat.and_two_pow_sub_one_eq_mod]
  exact h.of_dvd (W_eq ▸ Nat.pow_dvd_pow 2 hm)

end Lattigo.Proofs.Galois
