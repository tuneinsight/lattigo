/-
  C11 proofs: the hoisted-lazy rotation (`AutomorphismHoistedLazy` + `ModDown`, the path of
  `RotateHoistedLazyNew` and of the linear transformations) on the executable `RPoly` model of C04
  (`KS.scaleByP`, `KS.modDownR`).

  `AutomorphismHoistedLazy` adds `F·c0` to the Q rows of the (undivided) gadget product, which lives modulo
  `Q·P_key` where `P_key = Π ps` is the product of the auxiliary primes OF THE KEY (`evk.LevelP()`), and the
  caller divides by `P_key` (`ModDown`).  Here: for every factor `F`
      ModDown (x + F·c0 on the Q rows) = ModDown x + (F·P_key⁻¹)·c0,
  so the result contains `c0` itself exactly when `F = P_key` — the factor of the key's own level, not the
  product of all auxiliary primes of the parameters.
-/
import Lattigo.Proofs.StackKSNoise
import Lattigo.Proofs.KeySwitch

namespace Lattigo.Proofs.HoistedLazy
open Lattigo Lattigo.RPolyRing Lattigo.Transport Lattigo.KS Lattigo.StackKS

variable {qs ps : List ℕ} {n : ℕ}

/-- `MulScalarBigint(ctIn.Value[0], F, ctTmp.Value[1].Q)` followed by the addition on the Q rows only:
    `F·c0` on the rows of `Q`, zero on the rows of `P_key`. -/
def scaleQRows (F : ℕ) (ps : List ℕ) (c0 : RPoly) : RPoly :=
  let n := (c0.c.headD []).length
  let s := c0.scale F
  { qs := s.qs ++ ps, c := s.c ++ ps.map fun _ => List.replicate n 0 }

theorem scaleQRows_prod (ps : List ℕ) (c0 : RPoly) : scaleQRows (RPoly.prod ps) ps c0 = KS.scaleByP ps c0 := rfl

theorem scale_headD (c0 : RPoly) (h : WFq qs n c0) (hqs : qs ≠ []) :
    (c0.c.headD []).length = n := headD_length h hqs

theorem scaleQRows_eq_extZ [Good qs n] (F : ℕ) {c0 : RPoly} (h : WFq qs n c0) (hqs : qs ≠ []) :
    scaleQRows F ps c0 = extZ ps n (c0.scale F) := by
  unfold scaleQRows extZ zeroRow
  simp only [headD_length h hqs]

theorem scaleQRows_wf [Good qs n] [Good (qs ++ ps) n] (F : ℕ) {c0 : RPoly} (h : WFq qs n c0) (hqs : qs ≠ []) :
    WFq (qs ++ ps) n (scaleQRows F ps c0) := by
  rw [scaleQRows_eq_extZ F h hqs]; exact extZ_wf ps (h.scale F)

theorem takeRows_scaleQRows [Good qs n] (F : ℕ) {c0 : RPoly} (h : WFq qs n c0) (hqs : qs ≠ []) :
    takeRows qs.length (scaleQRows F ps c0) = c0.scale F := by
  rw [scaleQRows_eq_extZ F h hqs]; exact takeRows_extZ ps (h.scale F)

theorem partP_scaleQRows [Good qs n] (F : ℕ) {c0 : RPoly} (h : WFq qs n c0) (hqs : qs ≠ []) :
    KS.partP qs.length (scaleQRows F ps c0) = RPoly.zero ps n := by
  rw [scaleQRows_eq_extZ F h hqs]
  have hl : (c0.scale F).c.length = qs.length := by
    have := (h.scale F); rw [this.2.1, this.1]
  have hq : (c0.scale F).qs = qs := (h.scale F).1
  unfold extZ KS.partP RPoly.zero zeroRow
  simp only [hq, List.drop_left' rfl]
  rw [← hl, List.drop_left' rfl]

theorem modDown_add_scaleQRows [Good qs n] [Good (qs ++ ps) n] (hqs : qs ≠ []) (hps : ps ≠ [])
    (F : ℕ) {x c0 : RPoly} (hx : WFq (qs ++ ps) n x) (hc : WFq qs n c0) :
    KS.modDownR qs.length (x + scaleQRows F ps c0)
      = KS.modDownR qs.length x + c0.scale F * KS.pinvElt qs ps n := by
  have hs := scaleQRows_wf (ps := ps) F hc hqs
  rw [modDownR_of_wf hqs hps (hx.add hs), modDownR_of_wf hqs hps hx]
  rw [(takeRows_hom qs.length).add, (partP_hom qs.length).add, takeRows_scaleQRows F hc hqs,
    partP_scaleQRows F hc hqs]
  have hP0 : KS.partP qs.length x + RPoly.zero ps n = KS.partP qs.length x := by
    have : Good ps n := good_right (qs := qs) inferInstance
    obtain ⟨y, hy⟩ := exists_lift _ (partP_wf hx)
    rw [← hy]
    exact congrArg val (add_zero y)
  rw [hP0]
  obtain ⟨a, ha⟩ := exists_lift _ (takeRows_wf hx)
  obtain ⟨ρ, hρ⟩ := exists_lift _ (modUpPtoQ_wf (qs := qs) hx hps)
  obtain ⟨s, hs'⟩ := exists_lift _ (hc.scale F)
  obtain ⟨I, hI⟩ := exists_lift _ (pinvElt_wf (qs := qs) (n := n) ps)
  rw [← ha, ← hρ, ← hs', ← hI]
  show val ((a + s - ρ) * I) = val ((a - ρ) * I + s * I)
  congr 1; ring

theorem pinv_mul_prod [Good qs n] (hcop : ∀ q ∈ qs, Nat.Coprime (RPoly.prod ps) q) {I : WFPoly qs n}
    (hI : val I = KS.pinvElt qs ps n) : I * ((RPoly.prod ps : ℕ) : WFPoly qs n) = 1 := by
  -- the constant `P` and the cast of `P` are both what `scale P` multiplies by
  have hcn : (WFPoly.constNat fun _ => RPoly.prod ps) = ((RPoly.prod ps : ℕ) : WFPoly qs n) := by
    rw [← one_mul (WFPoly.constNat _), ← WFPoly.scaleBy_eq_mul, ← one_mul ((RPoly.prod ps : ℕ) : WFPoly qs n),
      ← WFPoly.scale_eq_mul_natCast]
    rfl
  have h := pinvElt_mul_constQ (qs := qs) (n := n) hcop
  rw [constQ_eq, ← hI] at h
  rw [← hcn]
  exact val_injective h

/-- `F = P_key`: the lazy path returns what the non-lazy path (`ModDown` first, then `+ c0`) returns -/
theorem modDown_add_scaleByP [Good qs n] [Good (qs ++ ps) n] (hqs : qs ≠ []) (hps : ps ≠ [])
    (hcop : ∀ q ∈ qs, Nat.Coprime (RPoly.prod ps) q) {x c0 : RPoly} (hx : WFq (qs ++ ps) n x)
    (hc : WFq qs n c0) :
    KS.modDownR qs.length (x + KS.scaleByP ps c0) = KS.modDownR qs.length x + c0 := by
  rw [← scaleQRows_prod, modDown_add_scaleQRows hqs hps _ hx hc]
  obtain ⟨c, rfl⟩ := exists_lift _ hc
  obtain ⟨I, hI⟩ := exists_lift _ (pinvElt_wf (qs := qs) (n := n) ps)
  rw [← hI]
  show _ + val (c.scale (RPoly.prod ps) * I) = _ + val c
  rw [WFPoly.scale_eq_mul_natCast, mul_assoc, mul_comm _ I, pinv_mul_prod hcop hI, mul_one]

end Lattigo.Proofs.HoistedLazy
