/-
  C11 proofs: `ring.AutomorphismNTTIndex(N, 2N, g)` is a permutation of
  `[0, N)` for every odd `g` (standard ring, `NthRoot = 2N = 2^m`).

  The model's table entry is the closed form `NTT.autIdx` of the C01 proofs (`Proofs/AutIndex`), whose
  exponent law `autIdx_exponent` gives injectivity: the odd `g` can be cancelled.
-/
import Lattigo.Proofs.Galois
import Lattigo.Proofs.AutIndex
import Mathlib.Data.Nat.Bitwise

namespace Lattigo.Proofs.Galois
open Lattigo Lattigo.Model.Galois

theorem bitRevAux_acc : ∀ (b x acc : Nat), bitRevAux b x acc = 2 ^ b * acc + bitRevAux b x 0 := by
  intro b
  induction b with
  | zero => intro x acc; simp [bitRevAux]
  | succ b ih =>
    intro x acc
    simp only [bitRevAux]
    rw [ih (x / 2) (2 * acc + x % 2), ih (x / 2) (2 * 0 + x % 2)]
    ring

theorem isBitRev : IsBitRev fun b x => bitRev x b :=
  ⟨fun _ => rfl, fun b x => by
    unfold bitRev
    simp only [bitRevAux]
    rw [bitRevAux_acc]; ring⟩

/-- the two models of `utils.BitReverse64` agree. -/
theorem bitRev_eq (b x : ℕ) : bitRev x b = NTT.bitRev x b := isBitRev.unique NTT.isBitRev b x

theorem u64_double_succ (r : Nat) (h : r < 2 ^ 63) : u64add (u64mul 2 r) 1 = 2 * r + 1 := by
  rw [u64add, u64mul, W_eq, Nat.mod_eq_of_lt (by omega), Nat.mod_eq_of_lt (by omega)]

theorem nttIndexAt_eq_autIdx (m : Nat) (hm1 : 1 ≤ m) (hm : m ≤ 64) (g i : Nat) (hg : g % 2 = 1) :
    nttIndexAt (2 ^ m) g i = NTT.autIdx m g i := by
  have hr : NTT.bitRev i (m - 1) < 2 ^ 63 :=
    (NTT.bitRev_lt (m - 1) i).trans_le (Nat.pow_le_pow_right two_pos (by omega))
  have hlt : g * (2 * NTT.bitRev i (m - 1) + 1) % 2 ^ m < 2 ^ 64 :=
    (Nat.mod_lt _ (Nat.two_pow_pos m)).trans_le (Nat.pow_le_pow_right two_pos hm)
  have hpos : 0 < g * (2 * NTT.bitRev i (m - 1) + 1) % 2 ^ m :=
    (Nat.odd_iff.mpr (NTT.odd_mul_mod_two_pow g (NTT.bitRev i (m - 1)) m hm1 hg)).pos
  unfold nttIndexAt NTT.autIdx
  simp only [len64_two_pow_sub_one m, bitRev_eq]
  rw [u64_double_succ _ hr, u64mul, Nat.and_two_pow_sub_one_eq_mod, W_eq,
    Nat.mod_mod_of_dvd _ (Nat.pow_dvd_pow 2 hm), u64sub_eq _ 1 hpos (W_eq ▸ hlt), Nat.shiftRight_one]

theorem automorphismNTTIndex_pow (a b g : ℕ) :
    automorphismNTTIndex (2 ^ a) (2 ^ b) g = some ((List.range (2 ^ a)).map (nttIndexAt (2 ^ b) g)) := by
  unfold automorphismNTTIndex
  rw [if_neg (by rw [Nat.and_two_pow_sub_one_eq_mod]; simp),
    if_neg (by rw [Nat.and_two_pow_sub_one_eq_mod]; simp)]

theorem autIdx_inj (m g : ℕ) (hm1 : 1 ≤ m) (hg : g % 2 = 1) {i j : ℕ} (hi : i < 2 ^ (m - 1))
    (hj : j < 2 ^ (m - 1)) (h : NTT.autIdx m g i = NTT.autIdx m g j) : i = j := by
  have h1 : g * (2 * NTT.bitRev i (m - 1) + 1) ≡ g * (2 * NTT.bitRev j (m - 1) + 1) [MOD 2 ^ m] := by
    unfold Nat.ModEq
    rw [← NTT.autIdx_exponent m g i hm1 hg, ← NTT.autIdx_exponent m g j hm1 hg, h]
  have h2 := Nat.ModEq.cancel_left_of_coprime
    (Nat.Coprime.pow_left m (Nat.coprime_two_left.mpr (Nat.odd_iff.mpr hg))) h1
  have h2m : 2 ^ m = 2 ^ (m - 1) * 2 := by rw [← pow_succ, Nat.sub_add_cancel hm1]
  have hbi := NTT.bitRev_lt (m - 1) i
  have hbj := NTT.bitRev_lt (m - 1) j
  unfold Nat.ModEq at h2
  rw [h2m, Nat.mod_eq_of_lt (by omega), Nat.mod_eq_of_lt (by omega)] at h2
  exact NTT.bitRev_inj (m - 1) i j hi hj (by omega)

/-- length `N`, no repetition, entries `< N`: the table is a permutation of `[0, N)` -/
theorem nttIndex_perm (m : Nat) (hm1 : 1 ≤ m) (hm : m ≤ 64) (g : Nat) (hg : g % 2 = 1) :
    ∃ l, automorphismNTTIndex (2 ^ (m - 1)) (2 ^ m) g = some l ∧ l.length = 2 ^ (m - 1) ∧
      l.Nodup ∧ ∀ x ∈ l, x < 2 ^ (m - 1) := by
  refine ⟨_, automorphismNTTIndex_pow (m - 1) m g, by simp, ?_, ?_⟩
  · refine List.Nodup.map_on (fun i hi j hj hij => ?_) List.nodup_range
    rw [nttIndexAt_eq_autIdx m hm1 hm g i hg, nttIndexAt_eq_autIdx m hm1 hm g j hg] at hij
    exact autIdx_inj m g hm1 hg (List.mem_range.mp hi) (List.mem_range.mp hj) hij
  · intro x hx
    obtain ⟨i, _, rfl⟩ := List.mem_map.mp hx
    rw [nttIndexAt_eq_autIdx m hm1 hm g i hg]
    exact NTT.autIdx_lt m g i

end Lattigo.Proofs.Galois
