/-
  C11 proofs: `5` has order `2^(m-2)` in `(ZMod 2^m)ˣ`; the unit group has exponent
  dividing `2^(m-1)`.
-/
import Mathlib.Data.ZMod.Basic
import Mathlib.GroupTheory.OrderOfElement
import Mathlib.FieldTheory.Finite.Basic
import Mathlib.Tactic.Ring

namespace Lattigo.Proofs.Galois

/-- lifting the exponent, by hand -/
theorem five_pow_two_pow (j : Nat) : ∃ u : Nat, Odd u ∧ 5 ^ 2 ^ j = 1 + 2 ^ (j + 2) * u := by
  induction j with
  | zero => exact ⟨1, by decide, by norm_num⟩
  | succ j ih =>
    obtain ⟨u, hu, h⟩ := ih
    refine ⟨u + 2 ^ (j + 1) * u ^ 2, ?_, ?_⟩
    · apply Odd.add_even hu
      exact Even.mul_right (Nat.even_pow.mpr ⟨by decide, by omega⟩) _
    · rw [pow_succ, pow_mul, h]; ring

theorem coprime_five_two_pow (m : Nat) : Nat.Coprime 5 (2 ^ m) :=
  Nat.Coprime.pow_right m (by decide)

/-- `5` as a unit of `ZMod 2^m`. -/
def five (m : Nat) : (ZMod (2 ^ m))ˣ := ZMod.unitOfCoprime 5 (coprime_five_two_pow m)

@[simp] theorem val_five (m : Nat) : ((five m : (ZMod (2 ^ m))ˣ) : ZMod (2 ^ m)) = 5 := by
  simp [five, ZMod.coe_unitOfCoprime]

theorem five_pow_cast (m e : Nat) :
    (((five m) ^ e : (ZMod (2 ^ m))ˣ) : ZMod (2 ^ m)) = ((5 ^ e : Nat) : ZMod (2 ^ m)) := by
  simp

theorem five_pow_eq_iff (m e e' : Nat) : five m ^ e = five m ^ e' ↔ 5 ^ e % 2 ^ m = 5 ^ e' % 2 ^ m := by
  rw [Units.ext_iff, five_pow_cast, five_pow_cast, ZMod.natCast_eq_natCast_iff']

/-- The exponent of the modulus is kept a variable: `t + 1 + 2` and `t + 3` are equal only after
    unfolding, which the types `ZMod (2 ^ ·)` of the users would have to do. -/
theorem five_pow_eq_one_of_eq {m t : Nat} (h : m = t + 2) : (five m) ^ 2 ^ t = 1 := by
  subst h
  obtain ⟨u, _, h⟩ := five_pow_two_pow t
  rw [Units.ext_iff, five_pow_cast, h, Units.val_one, Nat.cast_add, Nat.cast_mul, ZMod.natCast_self,
    zero_mul, add_zero, Nat.cast_one]

theorem five_pow_ne_one (t : Nat) : (five (t + 3)) ^ 2 ^ t ≠ 1 := by
  intro hc
  obtain ⟨u, hu, h⟩ := five_pow_two_pow t
  -- `5^(2^t) = 1` modulo `2^(t+3)` would make `2^(t+2)·u` a multiple of `2^(t+3)`, i.e. `u` even
  have h1 : 1 + 2 ^ (t + 2) * u ≡ 1 + 0 [MOD 2 ^ (t + 3)] := by
    rw [← h, ← ZMod.natCast_eq_natCast_iff, ← five_pow_cast, hc, Units.val_one, Nat.cast_one]
  have h2 := Nat.modEq_zero_iff_dvd.mp (Nat.ModEq.add_left_cancel' 1 h1)
  rw [pow_succ 2 (t + 2)] at h2
  exact Nat.not_even_iff_odd.mpr hu (even_iff_two_dvd.mpr (Nat.dvd_of_mul_dvd_mul_left (by positivity) h2))

theorem orderOf_five (t : Nat) : orderOf (five (t + 3)) = 2 ^ (t + 1) := by
  have : Fact (Nat.Prime 2) := ⟨Nat.prime_two⟩
  exact orderOf_eq_prime_pow (five_pow_ne_one t) (five_pow_eq_one_of_eq rfl)

theorem unit_pow_two_pow (m : Nat) (x : (ZMod (2 ^ (m + 1)))ˣ) : x ^ 2 ^ m = 1 := by
  have := ZMod.pow_totient x
  rw [Nat.totient_prime_pow_succ Nat.prime_two] at this
  simpa using this

end Lattigo.Proofs.Galois
