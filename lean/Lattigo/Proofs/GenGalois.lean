/-
  C11 — the regenerated tie: the definitions of `Lattigo/Gen/Galois.lean` (printed by tools/go2lean
  from core/rlwe/params.go and ring/utils.go on every run) are equal to the hand-written model
  `Model/Galois.lean`, for ALL inputs in the domain `1 < NthRoot`, `2·NthRoot ≤ 2^64`
  (`ring.BRed` inside `ModExp` is the generated word-level `Gen.BRed`, discharged by `BRed_spec`).
-/
import Lattigo.Gen.Galois
import Lattigo.Model.Galois
import Lattigo.Model.GaloisGen
import Lattigo.Proofs.ModRed
import Lattigo.Proofs.LoopWhile
import Lattigo.Proofs.GaloisDlog

namespace Lattigo.Proofs.GenGalois
open Lattigo Lattigo.Model.Galois Lattigo.Proofs.LoopWhile

/-- condition of the loop `for i := e; i > 0; i >>= 1` on the carried state `(i, result, x)`. -/
def expCond : Nat × Nat × Nat → Bool := fun st => u64gt st.1 0

/-- body (+ post statement) of the loop of `ring.ModExp`. -/
def modExpBody (p : Nat) : Nat × Nat × Nat → Nat × Nat × Nat := fun st =>
  (u64shr st.1 1,
   if u64eq (u64and st.1 1) 1 then Gen.BRed st.2.1 st.2.2 p (brc p) else st.2.1,
   Gen.BRed st.2.2 st.2.2 p (brc p))

theorem ModExp_unfold (x e p : Nat) :
    Gen.ModExp x e p = (loopWhile 64 expCond (modExpBody p) (e, 1, x)).2.1 := rfl

theorem modExp_loop (p : Nat) (hp : 1 < p) (h2p : 2 * p ≤ W) :
    ∀ fuel i x r, x < W → r < W →
      (loopWhile fuel expCond (modExpBody p) (i, r, x)).2.1 = modExpLoop p fuel i x r := by
  intro fuel
  induction fuel with
  | zero => intro i x r _ _; rfl
  | succ f ih =>
    intro i x r hx hr
    rw [loopWhile_succ, modExpLoop]
    by_cases hi : i = 0
    · subst hi; simp [expCond]
    · have hc : expCond (i, r, x) = true := by simp [expCond]; omega
      have hpW : ∀ a, a % p < W := fun a => (Nat.mod_lt a (by omega)).trans (by omega)
      have hb : modExpBody p (i, r, x)
          = (i >>> 1, (if i % 2 = 1 then r * x % p else r), x * x % p) := by
        simp only [modExpBody, u64and_one, u64shr_eq, BRed_spec x x p hp h2p hx hx, BRed_spec r x p hp h2p hr hx,
          decide_eq_true_eq]
      rw [hc, if_pos rfl, if_neg hi, hb]
      refine ih _ _ _ (hpW _) ?_
      split
      · exact hpW _
      · exact hr

theorem ModExp_eq (x e p : Nat) (hp : 1 < p) (h2p : 2 * p ≤ W) (hx : x < W) :
    Gen.ModExp x e p = modExp x e p := by
  rw [ModExp_unfold, modExp]
  exact modExp_loop p hp h2p 64 e x 1 hx (by unfold W; omega)

/-- rule S of the printer (fuel 64 for a loop that shifts a 64-bit word right while it is non-zero), checked for
    the loops of `ModExp` and `ModExpPow2` (any `body` that halves the counter) -/
theorem ModExp_fuel (body : Nat × Nat × Nat → Nat × Nat × Nat) (hb : ∀ s, (body s).1 = s.1 / 2)
    (x e : Nat) (he : e < W) (m : Nat) (hm : 64 ≤ m) :
    loopWhile m expCond body (e, 1, x) = loopWhile 64 expCond body (e, 1, x) :=
  loopWhile_fuel_halving expCond body (·.1) (fun s hs => by simp [expCond, hs]) hb 64 (e, 1, x) he m hm

/-- body (+ post statement) of the loop of `ring.ModExpPow2`. -/
def modExpPow2Body : Nat × Nat × Nat → Nat × Nat × Nat := fun st =>
  (u64shr st.1 1,
   if u64eq (u64and st.1 1) 1 then u64mul st.2.1 st.2.2 else st.2.1,
   u64mul st.2.2 st.2.2)

theorem ModExpPow2_unfold (x e p : Nat) :
    Gen.ModExpPow2 x e p = u64and (loopWhile 64 expCond modExpPow2Body (e, 1, x)).2.1 (u64sub p 1) := rfl

theorem modExpPow2_loop :
    ∀ fuel i x r, (loopWhile fuel expCond modExpPow2Body (i, r, x)).2.1 = modExpPow2Loop fuel i x r := by
  intro fuel
  induction fuel with
  | zero => intro i x r; rfl
  | succ f ih =>
    intro i x r
    rw [loopWhile_succ, modExpPow2Loop]
    by_cases hi : i = 0
    · subst hi; simp [expCond]
    · have hc : expCond (i, r, x) = true := by simp [expCond]; omega
      rw [hc, if_pos rfl, if_neg hi]
      have hb : modExpPow2Body (i, r, x)
          = (i >>> 1, (if i % 2 = 1 then u64mul r x else r), u64mul x x) := by
        simp only [modExpPow2Body, u64and_one, u64shr_eq, decide_eq_true_eq]
      rw [hb]
      exact ih _ _ _

/-- `0 < p`: for `p = 0` Go's `p-1` wraps -/
theorem ModExpPow2_eq (x e p : Nat) (h0 : 0 < p) (hW : p ≤ W) :
    Gen.ModExpPow2 x e p = modExpPow2 x e p := by
  rw [ModExpPow2_unfold, modExpPow2, modExpPow2_loop, u64sub_one p h0 hW]; rfl

/-- `Model.GaloisGen.galEl` is what the driver runs (a Go `int` `k` as its word `toU64 k`) -/
theorem galEl_gen_eq (N : Nat) (hN : 1 < N) (h2N : 2 * N ≤ W) (k : Int) :
    Model.GaloisGen.galEl N k = galEl N k := by
  unfold Model.GaloisGen.galEl Gen.GaloisElement galEl
  rw [ModExp_eq _ _ _ hN h2N (by unfold Gen.GaloisGen W; omega), u64sub_one N (by omega) (by omega)]
  rfl

theorem galEls_gen_eq (N : Nat) (hN : 1 < N) (h2N : 2 * N ≤ W) (ks : List Int) :
    Model.GaloisGen.galEls N ks = galEls N ks := by
  unfold Model.GaloisGen.galEls Gen.GaloisElements galEls
  rw [List.map_map]
  apply List.map_congr_left
  intro k _
  exact galEl_gen_eq N hN h2N k

theorem ModInvGaloisElement_eq (N : Nat) (hN : 1 < N) (h2N : 2 * N ≤ W) (g : Nat) (hg : g < W) :
    Gen.ModInvGaloisElement N g = modInv N g := by
  unfold Gen.ModInvGaloisElement modInv
  rw [ModExp_eq _ _ _ hN h2N hg, u64sub_one N (by omega) (by omega)]

theorem orderTwo_eq (rt : RingType) (N : Nat) (h0 : 0 < N) (hW : N ≤ W) :
    Gen.GaloisElementOrderTwoOrthogonalSubgroup (Model.GaloisGen.rtCode rt) N = orderTwo rt N := by
  cases rt
  · simp [Gen.GaloisElementOrderTwoOrthogonalSubgroup, Model.GaloisGen.rtCode, Gen.Standard,
      Gen.ConjugateInvariant, orderTwo, u64sub_one N h0 hW]
  · simp [Gen.GaloisElementOrderTwoOrthogonalSubgroup, Model.GaloisGen.rtCode,
      Gen.ConjugateInvariant, orderTwo]

/-- condition of the `for { … return … }` loop on the state `(ret_, kuint, x)`. -/
def dlogCond : Option Nat × Nat × Nat → Bool := fun st => st.1.isNone

/-- body of the loop of `SolveDiscreteLogGaloisElement`. -/
def dlogBody (N g : Nat) : Option Nat × Nat × Nat → Option Nat × Nat × Nat := fun st =>
  let k' := if u64ne (Gen.ModExpPow2 Gen.GaloisGen st.2.1 N) (Gen.ModExpPow2 g st.2.2 N)
            then u64or st.2.1 (u64shr N 3) else st.2.1
  if u64eq st.2.2 1 then (some k', k', st.2.2) else (none, u64shr k' 1, u64shr st.2.2 1)

theorem Solve_unfold (fuel N g : Nat) :
    Gen.SolveDiscreteLogGaloisElement fuel N g
      = (loopWhile fuel dlogCond (dlogBody N g) (none, 0, u64shr N 3)).1 := rfl

theorem dlog_loop (N g : Nat) (h0 : 0 < N) (hW : N ≤ W) :
    ∀ fuel k x, (loopWhile fuel dlogCond (dlogBody N g) (none, k, x)).1 = dlogLoop N g fuel x k := by
  intro fuel
  induction fuel with
  | zero => intro k x; rfl
  | succ f ih =>
    intro k x
    have hb : dlogBody N g (none, k, x)
        = (let k' := if modExpPow2 galoisGen k N ≠ modExpPow2 g x N then k ||| (N >>> 3) else k
           if x = 1 then (some k', k', x) else (none, k' >>> 1, x >>> 1)) := by
      simp only [dlogBody, ModExpPow2_eq _ _ _ h0 hW, u64shr_eq, decide_eq_true_eq, u64or]
      rfl
    rw [loopWhile_succ, dlogLoop, show dlogCond (none, k, x) = true from rfl, if_pos rfl, hb]
    by_cases hx : x = 1
    · simp only [if_pos hx]
      rw [loopWhile_of_false _ _ _ _ rfl]
    · simp only [if_neg hx]
      exact ih _ _

theorem Solve_eq (fuel N g : Nat) (h0 : 0 < N) (hW : N ≤ W) :
    Gen.SolveDiscreteLogGaloisElement fuel N g = dlogLoop N g fuel (N >>> 3) 0 := by
  rw [Solve_unfold, u64shr_eq]; exact dlog_loop N g h0 hW fuel 0 (N >>> 3)

theorem Solve64_eq (N g : Nat) (h0 : 0 < N) (hW : N ≤ W) :
    Gen.SolveDiscreteLogGaloisElement 64 N g = solveDiscreteLog N g := Solve_eq 64 N g h0 hW

/-- so `none` at fuel 64 means that the Go loop diverges -/
theorem Solve_fuel (N g : Nat) (h0 : 0 < N) (hW : N ≤ W) (m : Nat) (hm : 64 ≤ m) :
    Gen.SolveDiscreteLogGaloisElement m N g = Gen.SolveDiscreteLogGaloisElement 64 N g := by
  rw [Solve_eq m N g h0 hW, Solve_eq 64 N g h0 hW]
  apply Galois.dlogLoop_fuel N g 64 _ _ _ m hm
  rw [Nat.shiftRight_eq_div_pow]
  unfold W at hW
  omega

/-- the `int` the driver prints: the result word read as a Go `int`. -/
theorem solveDiscreteLog_gen_eq (N g : Nat) (h0 : 0 < N) (hW : N ≤ W) :
    Model.GaloisGen.solveDiscreteLog N g = (solveDiscreteLog N g).map i64toInt := by
  unfold Model.GaloisGen.solveDiscreteLog Model.GaloisGen.dlogFuel
  rw [Solve64_eq N g h0 hW]

end Lattigo.Proofs.GenGalois
