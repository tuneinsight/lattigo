/-
  C12 — the regenerated index arithmetic of `lintrans.BSGSIndex` (`Lattigo/Gen/LinTrans.lean`: the
  first three statements of the loop over the non-zero diagonals, printed by tools/go2lean on every
  run) in closed form on words; `Props/C12Gen` reads it against the hand-written model `Model/LinTrans.lean`
  (`normIdx`, `giant`, `baby`).  `slots` and `N1` are powers of two (as everywhere in lattigo); `rot` is ANY word.
-/
import Lattigo.Gen.LinTrans
import Lattigo.Model.LinTrans
import Lattigo.Proofs.GenParams

namespace Lattigo.Proofs.GenLinTrans
open Lattigo Lattigo.Gen.LinTrans Lattigo.Model.LinTrans Lattigo.Proofs.GenParams

theorem u64and_mask (x a : Nat) : u64and x (2 ^ a - 1) = x % 2 ^ a := by
  unfold u64and; exact Nat.and_two_pow_sub_one_eq_mod x a

theorem mask_cast (rot : Int) (a : Nat) (ha : a ≤ 64) :
    ((i64ofInt rot % 2 ^ a : Nat) : Int) = rot % ((2 ^ a : Nat) : Int) := by
  unfold i64ofInt
  have h64 : (18446744073709551616 : Int) = ((2 ^ 64 : Nat) : Int) := by norm_num
  have hpos : (0 : Int) ≤ rot % 18446744073709551616 := Int.emod_nonneg _ (by norm_num)
  rw [Int.natCast_mod, Int.toNat_of_nonneg hpos, h64]
  apply Int.emod_emod_of_dvd
  exact Int.natCast_dvd_natCast.2 (Nat.pow_dvd_pow 2 ha)

theorem BSGSIndex_rot_eq (a b : Nat) (ha : a ≤ 62) (hb : b ≤ 62) (w : Nat) :
    BSGSIndex_rot (2 ^ a) (2 ^ b) w = (w % 2 ^ a, w % 2 ^ a / 2 ^ b * 2 ^ b % 2 ^ a, w % 2 ^ a % 2 ^ b) := by
  have hA : 2 ^ a ≤ 2 ^ 62 := Nat.pow_le_pow_right (by norm_num) ha
  have hB : 2 ^ b ≤ 2 ^ 62 := Nat.pow_le_pow_right (by norm_num) hb
  have hρlt : w % 2 ^ a < 2 ^ a := Nat.mod_lt _ (Nat.two_pow_pos a)
  have hle : w % 2 ^ a / 2 ^ b * 2 ^ b ≤ w % 2 ^ a := Nat.div_mul_le_self _ _
  unfold BSGSIndex_rot
  simp only
  rw [u64sub_eq _ _ (Nat.two_pow_pos a) (by unfold W; omega), u64sub_eq _ _ (Nat.two_pow_pos b) (by unfold W; omega),
    u64and_mask, u64and_mask, u64and_mask, i64div_small _ _ (by omega) (by omega), u64mul,
    Nat.mod_eq_of_lt (a := w % 2 ^ a / 2 ^ b * 2 ^ b) (by unfold W; omega)]

end Lattigo.Proofs.GenLinTrans
