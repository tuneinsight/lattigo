/-
  The regenerated derived quantities of core/rlwe/params.go (`Lattigo/Gen/Params.lean`, printed by
  tools/go2lean on every run) against closed forms and the hand-written models that use them
  (`Lattigo.KS` digit counts of C04, `Model.LinTrans.Lazy.overflowMargin` of C12).

  Go `int`s are two's-complement words (`i64toInt`); the theorems are stated for all inputs in the
  stated ranges (levels and digit parameters below `2^62`, so that a sum of two of them is below `2^63` and
  `i64toInt_small` reads it as itself; chain lengths below `2^63`, moduli below `2^64`).
-/
import Lattigo.Gen.Params
import Lattigo.Model.Gadget
import Lattigo.Proofs.BitLen
import Lattigo.Model.LinTransLazy
import Lattigo.Proofs.ModRed
import Lattigo.Proofs.ListLemmas
import Mathlib.Tactic.Ring
import Mathlib.Tactic.Linarith
import Mathlib.Data.Nat.Prime.Basic

namespace Lattigo.Proofs.GenParams
open Lattigo Lattigo.Gen.Params

theorem i64toInt_small (a : Nat) (h : a < 2 ^ 63) : i64toInt a = (a : Int) := by
  unfold i64toInt; rw [if_pos (by omega)]

theorem i64ofInt_nat (n : Nat) (h : n < W) : i64ofInt (n : Int) = n := by
  unfold i64ofInt; unfold W at h; omega

theorem i64ofInt_neg_one : i64ofInt (-1) = W - 1 := by decide

theorem i64toInt_neg_one : i64toInt (W - 1) = -1 := by decide

/-- the word of the `int` `n - 1` (`n = 0` gives `-1`). -/
theorem i64ofInt_pred (n : Nat) (h : n < 2 ^ 63) : i64ofInt ((n : Int) - 1) = u64sub n 1 := by
  unfold i64ofInt u64sub; unfold W; omega

theorem i64div_small (a b : Nat) (ha : a < 2 ^ 63) (hb : b < 2 ^ 63) : i64div a b = a / b := by
  unfold i64div
  rw [i64toInt_small a ha, i64toInt_small b hb]
  have : Int.tdiv (a : Int) (b : Int) = ((a / b : Nat) : Int) := rfl
  rw [this, i64ofInt_nat]
  have := Nat.div_le_self a b
  unfold W; omega

theorem i64gt_small (a b : Nat) (ha : a < 2 ^ 63) (hb : b < 2 ^ 63) : i64gt a b = decide (b < a) := by
  simp only [i64gt, i64toInt_small a ha, i64toInt_small b hb, Nat.cast_lt]

theorem len64_eq_bitLen (q : Nat) : len64 q = KS.bitLen q := rfl

theorem len64_le_64 (q : Nat) (hq : q < W) : len64 q ≤ 64 := (len64_le_iff q 64).mpr hq

theorem QCount_eq (qs : List Nat) : QCount qs = qs.length := rfl
theorem PCount_eq (ps : List Nat) : PCount ps = ps.length := rfl

theorem MaxLevelQ_eq (qs : List Nat) (h : qs.length < 2 ^ 63) :
    i64toInt (MaxLevelQ qs) = (qs.length : Int) - 1 := by
  unfold MaxLevelQ
  rw [QCount_eq, ← i64ofInt_pred _ h]
  by_cases h0 : qs.length = 0
  · rw [h0]; decide
  · have : ((qs.length : Int) - 1) = ((qs.length - 1 : Nat) : Int) := by omega
    rw [this, i64ofInt_nat _ (by unfold W; omega), i64toInt_small _ (by omega)]

theorem ceilDiv_bounds (a : Nat) {b : Nat} (hb : 0 < b) :
    a ≤ (a + b - 1) / b * b ∧ (a + b - 1) / b * b < a + b := by
  have h1 := Nat.div_add_mod' (a + b - 1) b
  have h2 := Nat.mod_lt (a + b - 1) hb
  omega

/-- `⌈a/b⌉ = (a + b − 1) / b` is the least `d` with `a ≤ d·b` -/
theorem ceilDiv_spec {a b : Nat} (ha : 0 < a) (hb : 0 < b) :
    a ≤ (a + b - 1) / b * b ∧ ((a + b - 1) / b - 1) * b < a := by
  obtain ⟨h1, h2⟩ := ceilDiv_bounds a hb
  refine ⟨h1, ?_⟩
  rw [Nat.sub_mul, Nat.one_mul]
  omega

/-- `levelP` is the word of the `int` `nP - 1` (`nP = 0`: the code's `levelP == -1`) -/
theorem BaseRNS_eq (levelQ nP : Nat) (hq : levelQ < 2 ^ 62) (hp : nP < 2 ^ 62) :
    BaseRNSDecompositionVectorSize levelQ (i64ofInt ((nP : Int) - 1))
      = KS.baseRNSDecompositionVectorSize levelQ nP := by
  have hW : W = 2 ^ 64 := W_eq
  unfold BaseRNSDecompositionVectorSize KS.baseRNSDecompositionVectorSize
  rw [i64ofInt_pred nP (by omega)]
  rcases Nat.eq_zero_or_pos nP with rfl | h0
  · -- `levelP = -1`
    rw [show u64eq (u64sub 0 1) (u64neg 1) = true by decide, if_pos rfl, if_pos rfl]
    exact u64add_eq _ _ (by omega)
  · have hne : u64eq (nP - 1) (u64neg 1) = false := by
      rw [show u64neg 1 = W - 1 by decide]
      exact decide_eq_false (by omega)
    rw [u64sub_eq _ _ h0 (by omega), hne, if_neg Bool.false_ne_true, if_neg (by omega),
      u64add_eq levelQ _ (by omega), u64add_eq _ 1 (by omega), u64add_eq _ 1 (by omega),
      i64div_small _ _ (by omega) (by omega), Nat.add_assoc, Nat.sub_add_cancel h0]

/-- `⌈bitlen(q)/w⌉` per prime of the full chain, all ones for `w = 0` or `levelP > 0`; `levelQ` is ignored by the code -/
theorem BaseTwo_eq (qs : List Nat) (levelQ nP w : Nat) (hp : nP < 2 ^ 62) (hw : w < 2 ^ 62)
    (hqs : ∀ q ∈ qs, q < W) :
    BaseTwoDecompositionVectorSize qs levelQ (i64ofInt ((nP : Int) - 1)) w
      = KS.baseTwoDecompositionVectorSize qs nP w := by
  unfold BaseTwoDecompositionVectorSize KS.baseTwoDecompositionVectorSize
  rw [i64ofInt_pred nP (by omega)]
  have hlen : sliceLen (sliceMake (sliceLen qs)) = qs.length := by
    simp [sliceLen, sliceMake]
  have hcond : ((u64eq w 0) || (i64gt (u64sub nP 1) 0)) = decide (w = 0 ∨ nP ≥ 2) := by
    by_cases h0 : nP = 0
    · subst h0
      have : i64gt (u64sub 0 1) 0 = false := by decide
      rw [this]; simp
    · rw [u64sub_eq _ _ (by omega) (by unfold W; omega), i64gt_small _ _ (by omega) (by omega)]
      simp only [Bool.decide_or]
      congr 1
      simp only [decide_eq_decide]
      omega
  simp only [hcond, hlen]
  by_cases hc : w = 0 ∨ nP ≥ 2
  · simp only [decide_eq_true hc, if_true, if_pos hc]
    exact ListLemmas.map_getD_range (d := 0) (fun _ => 1) qs
  · simp only [decide_eq_false hc, if_neg hc, Bool.false_eq_true, if_false]
    have hw0 : 0 < w := by omega
    have key : ∀ q, q ∈ qs → (i64div (u64sub (u64add (len64 q) w) 1) w) = KS.baseTwoDigits q w := by
      intro q hq
      have hl := len64_le_64 q (hqs q hq)
      rw [u64add_eq _ _ (by unfold W; omega), u64sub_eq _ _ (by omega) (by unfold W; omega),
        i64div_small _ _ (by omega) (by omega)]
      rfl
    have : (List.range qs.length).map (fun i => i64div (u64sub (u64add (len64 (sliceAt qs i)) w) 1) w)
        = qs.map (fun q => i64div (u64sub (u64add (len64 q) w) 1) w) :=
      ListLemmas.map_getD_range (fun q => i64div (u64sub (u64add (len64 q) w) 1) w) qs
    rw [this]
    exact List.map_congr_left key

theorem Max_int_small (a b : Nat) (ha : a < 2 ^ 63) (hb : b < 2 ^ 63) : Max_int a b = max a b := by
  unfold Max_int
  have : i64ge a b = decide (b ≤ a) := by
    simp only [i64ge, i64toInt_small a ha, i64toInt_small b hb, Nat.cast_le]
  simp only [this, decide_eq_true_eq]
  split <;> omega

def maxBitLen (c : Nat) (qs : List Nat) : Nat := qs.foldl (fun c q => max c (KS.bitLen q)) c

theorem maxBitLen_le (qs : List Nat) (hqs : ∀ q ∈ qs, q < W) : ∀ c, c ≤ 64 → maxBitLen c qs ≤ 64 := by
  induction qs with
  | nil => intro c hc; exact hc
  | cons q t ih =>
    intro c hc
    unfold maxBitLen
    rw [List.foldl_cons]
    apply ih (fun x hx => hqs x (List.mem_cons_of_mem _ hx))
    have := len64_le_64 q (hqs q List.mem_cons_self)
    rw [len64_eq_bitLen] at this
    omega

theorem fold_Max_int (qs : List Nat) (hqs : ∀ q ∈ qs, q < W) : ∀ c, c ≤ 64 →
    List.foldl (fun (st_ : Nat) (q : Nat) => Max_int st_ (len64 q)) c qs = maxBitLen c qs := by
  induction qs with
  | nil => intro c _; rfl
  | cons q t ih =>
    intro c hc
    unfold maxBitLen
    rw [List.foldl_cons, List.foldl_cons]
    have hl := len64_le_64 q (hqs q List.mem_cons_self)
    rw [Max_int_small _ _ (by omega) (by omega), len64_eq_bitLen]
    apply ih (fun x hx => hqs x (List.mem_cons_of_mem _ hx))
    rw [len64_eq_bitLen] at hl
    omega

/-! ### float64 arithmetic (the formula `int(math.Exp2(64) / float64(max))`, which go2lean can print) and the margins -/

theorem f64ofU64_exact (n : Nat) (h : n < 2 ^ 53) : f64ofU64 n = n := by
  unfold f64ofU64; rw [if_pos (by omega)]

/-- rounding error of `float64(n)`: at most half a unit in the last place `2^s`, `s = ⌊log2 n⌋ - 52`. -/
theorem f64ofU64_near (n : Nat) (h : 2 ^ 53 ≤ n) :
    2 * f64ofU64 n ≤ 2 * n + 2 ^ (Nat.log2 n - 52) ∧ 2 * n ≤ 2 * f64ofU64 n + 2 ^ (Nat.log2 n - 52) := by
  unfold f64ofU64
  rw [if_neg (by omega)]
  simp only
  have hSpos : 0 < 2 ^ (Nat.log2 n - 52) := Nat.two_pow_pos _
  generalize 2 ^ (Nat.log2 n - 52) = S at *
  have hdm := Nat.div_add_mod n S
  have hr := Nat.mod_lt n hSpos
  rw [Nat.mul_comm] at hdm
  generalize n / S = m at *
  generalize n % S = r at *
  split
  · next hc =>
    rw [Nat.add_mul, Nat.one_mul]
    generalize m * S = X at *
    rcases hc with hc | ⟨hc, _⟩ <;> omega
  · next hc =>
    have : ¬ (S < 2 * r) := fun h => hc (Or.inl h)
    generalize m * S = X at *
    omega

/-- the arithmetic core of `f64quoToInt_bounds`. -/
theorem quo_aux (k m p E m' : Nat) (hE0 : 0 < E) (hpE : p ≤ E) (hlo : k * E ≤ m * p)
    (hhi : m * p < (k + 1) * E) (hm' : m' = m ∨ m' = m + 1) :
    k ≤ m' * p / E ∧ m' * p / E ≤ k + 1 := by
  have hle : m * p ≤ m' * p := Nat.mul_le_mul_right _ (by omega)
  have hge : m' * p ≤ m * p + p := by
    rcases hm' with rfl | rfl
    · omega
    · rw [Nat.add_mul, Nat.one_mul]
  constructor
  · rw [Nat.le_div_iff_mul_le hE0]; omega
  · apply Nat.le_of_lt_succ
    rw [Nat.div_lt_iff_lt_mul hE0, Nat.succ_mul]
    omega

/-- `int(a / b)` in float64 is the integer quotient, or one more (quotients below `2^53`). -/
theorem f64quoToInt_bounds (a b : Nat) (hb : 0 < b) (hab : b ≤ a) (h53 : a / b < 2 ^ 53) :
    a / b ≤ f64quoToInt a b ∧ f64quoToInt a b ≤ a / b + 1 := by
  have hk1 : 1 ≤ a / b := (Nat.one_le_div_iff hb).2 hab
  have hk0 : a / b ≠ 0 := by omega
  have he1 : 2 ^ Nat.log2 (a / b) ≤ a / b := Nat.log2_self_le hk0
  have he52 : Nat.log2 (a / b) ≤ 52 := by
    have := (Nat.log2_lt hk0).2 h53
    omega
  unfold f64quoToInt
  simp only
  generalize he : Nat.log2 (a / b) = e at *
  -- `E = 2^52`, the scale of the 53-bit mantissa of the quotient
  have hE : (4503599627370496 : Nat) = 2 ^ (52 - e) * 2 ^ e := by
    rw [← Nat.pow_add, Nat.sub_add_cancel he52]
  have hEpos : 0 < 2 ^ e := Nat.two_pow_pos e
  have hpE : 2 ^ e ≤ 4503599627370496 := by
    rw [hE]
    exact Nat.le_mul_of_pos_left _ (Nat.two_pow_pos _)
  generalize (4503599627370496 : Nat) = E at *
  have hE0 : 0 < E := Nat.lt_of_lt_of_le hEpos hpE
  have hdpos : 0 < b * 2 ^ e := Nat.mul_pos hb hEpos
  have hkb : a / b * b ≤ a := Nat.div_mul_le_self a b
  -- lower bound on m
  have hm_lo : a / b * 2 ^ (52 - e) ≤ a * E / (b * 2 ^ e) := by
    rw [Nat.le_div_iff_mul_le hdpos, hE]
    calc a / b * 2 ^ (52 - e) * (b * 2 ^ e) = (a / b * b) * (2 ^ (52 - e) * 2 ^ e) := by ring
      _ ≤ a * (2 ^ (52 - e) * 2 ^ e) := Nat.mul_le_mul_right _ hkb
  -- k·E ≤ m·p
  have hlo : a / b * E ≤ a * E / (b * 2 ^ e) * 2 ^ e := by
    calc a / b * E = (a / b * 2 ^ (52 - e)) * 2 ^ e := by rw [hE]; ring
      _ ≤ _ := Nat.mul_le_mul_right _ hm_lo
  -- m·p < (k+1)·E
  have h1 : a * E / (b * 2 ^ e) * (b * 2 ^ e) ≤ a * E := Nat.div_mul_le_self _ _
  have h2 : a < b * (a / b + 1) := Nat.lt_mul_div_succ a hb
  have hhi : a * E / (b * 2 ^ e) * 2 ^ e < (a / b + 1) * E := by
    apply Nat.lt_of_mul_lt_mul_left (a := b)
    calc b * (a * E / (b * 2 ^ e) * 2 ^ e) = a * E / (b * 2 ^ e) * (b * 2 ^ e) := by ring
      _ ≤ a * E := h1
      _ < (b * (a / b + 1)) * E := Nat.mul_lt_mul_of_pos_right h2 hE0
      _ = b * ((a / b + 1) * E) := by ring
  have := quo_aux (a / b) (a * E / (b * 2 ^ e)) (2 ^ e) E
  split
  · exact this _ hE0 hpE hlo hhi (Or.inr rfl)
  · exact this _ hE0 hpE hlo hhi (Or.inl rfl)

/-- `float64(n) ≤ 2^64` as a value (the rounding never leaves the binade structure of `2^64`). -/
theorem f64ofU64_le_W (n : Nat) (h : n < W) : f64ofU64 n ≤ W := by
  by_cases h53 : n < 2 ^ 53
  · rw [f64ofU64_exact n h53]; omega
  · unfold f64ofU64
    rw [if_neg (by omega)]
    simp only
    have hn0 : n ≠ 0 := by omega
    have hl : Nat.log2 n < 64 := (Nat.log2_lt hn0).2 (by simpa [W] using h)
    have hdvd : W = 2 ^ (64 - (Nat.log2 n - 52)) * 2 ^ (Nat.log2 n - 52) := by
      rw [← Nat.pow_add, W_eq]; congr 1; omega
    generalize hS : 2 ^ (Nat.log2 n - 52) = S at *
    have hSpos : 0 < S := by rw [← hS]; exact Nat.two_pow_pos _
    generalize 2 ^ (64 - (Nat.log2 n - 52)) = C at *
    have hlt : n / S < C := by
      rw [Nat.div_lt_iff_lt_mul hSpos, ← hdvd]; exact h
    have : ∀ m', m' ≤ n / S + 1 → m' * S ≤ W := by
      intro m' hm'
      rw [hdvd]; exact Nat.mul_le_mul_right _ (by omega)
    split
    · exact this _ (Nat.le_refl _)
    · exact this _ (by omega)

theorem f64ofU64_ge (n : Nat) (h12 : 2 ^ 12 ≤ n) (hW : n < W) : 2 ^ 12 ≤ f64ofU64 n := by
  by_cases h53 : n < 2 ^ 53
  · rw [f64ofU64_exact n h53]; exact h12
  · have hn := f64ofU64_near n (by omega)
    have hn0 : n ≠ 0 := by omega
    have hl : Nat.log2 n < 64 := (Nat.log2_lt hn0).2 (by simpa [W] using hW)
    have : 2 ^ (Nat.log2 n - 52) ≤ 2 ^ 11 := Nat.pow_le_pow_right (by norm_num) (by omega)
    omega

theorem slicesMax_take (qs : List Nat) (k : Nat) : slicesMax (sliceTake qs k) = (qs.take k).foldl max 0 := rfl

/-- since fix c11167e the integer quotient; `-1` for an empty chain -/
theorem QiOverflowMargin_eq (qs : List Nat) (level : Nat) (hl : level < 2 ^ 62) :
    QiOverflowMargin qs level
      = if qs = [] then W - 1 else (W - 1) / (qs.take (level + 1)).foldl max 0 := by
  unfold QiOverflowMargin
  rw [u64add_eq level 1 (by unfold W; omega), slicesMax_take]
  by_cases h : qs = []
  · subst h; simp [sliceLen]; decide
  · have : qs.length ≠ 0 := by simpa using h
    simp [sliceLen, this, h, u64div, W]

theorem PiOverflowMargin_eq (ps : List Nat) (level : Nat) (hl : level < 2 ^ 62) :
    PiOverflowMargin ps level
      = if ps = [] then W - 1 else (W - 1) / (ps.take (level + 1)).foldl max 0 := by
  have hneg : i64lt level 0 = false := by
    have h0 : i64toInt 0 = 0 := by decide
    simp only [i64lt, i64toInt_small level (by omega), h0, decide_eq_false_iff_not]
    omega
  rw [← QiOverflowMargin_eq ps level hl]
  unfold PiOverflowMargin QiOverflowMargin
  rw [hneg, Bool.or_false]

theorem odd_not_dvd_W {m : Nat} (hodd : m % 2 = 1) (h1 : 1 < m) : W % m ≠ 0 := by
  intro h
  have hd : m ∣ 2 ^ 64 := by rw [← W_eq]; exact Nat.dvd_of_mod_eq_zero h
  have hc : Nat.Coprime m (2 ^ 64) := Nat.Coprime.pow_right _ (Nat.coprime_two_right.mpr (Nat.odd_iff.mpr hodd))
  have := Nat.Coprime.eq_one_of_dvd hc hd
  omega

/-- `(2^64 - 1) / M = 2^64 / M` unless `M` divides `2^64`; in particular for every odd `M > 1`. -/
theorem pred_div_odd (M : Nat) (hodd : M % 2 = 1) (h1 : 1 < M) : (W - 1) / M = W / M := by
  have hnd := odd_not_dvd_W hodd h1
  have h1 := Nat.div_add_mod W M
  have h2 := Nat.mod_lt W (by omega : 0 < M)
  apply Nat.div_eq_of_lt_le
  · rw [Nat.mul_comm]; omega
  · rw [Nat.add_mul, Nat.one_mul, Nat.mul_comm]; omega

/-- the C12 model's margin (`floor(2^64 / max)`) is the regenerated one at the top level of the chain,
    for every chain whose largest modulus is odd and `> 1`. -/
theorem overflowMargin_eq (qs : List Nat) (hlen : qs.length < 2 ^ 62)
    (hodd : qs ≠ [] → (qs.foldl max 0) % 2 = 1) (hM : qs ≠ [] → 2 < qs.foldl max 0) :
    i64toInt (QiOverflowMargin qs (qs.length - 1)) = Model.LinTrans.Lazy.overflowMargin qs := by
  rw [QiOverflowMargin_eq qs _ (by omega)]
  unfold Model.LinTrans.Lazy.overflowMargin
  by_cases h : qs = []
  · subst h; decide
  · have hl : qs.length ≠ 0 := by simpa using h
    have ht : qs.take (qs.length - 1 + 1) = qs := by
      rw [Nat.sub_add_cancel (by omega)]; exact List.take_length
    have he : qs.isEmpty = false := by simpa using h
    have hM' := hM h
    rw [if_neg h, ht, he, pred_div_odd _ (hodd h) (by omega)]
    simp only [Bool.false_eq_true, if_false]
    have hW : (2 : Nat) ^ 64 = W := by decide
    rw [hW]
    apply i64toInt_small
    have : W / qs.foldl max 0 ≤ W / 3 := Nat.div_le_div_left (by omega) (by norm_num)
    have h3 : W / 3 < 2 ^ 63 := by decide
    omega

end Lattigo.Proofs.GenParams
