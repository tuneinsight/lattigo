/-
  C13 — the regenerated integer scheduling arithmetic of the polynomial evaluator
  (`Lattigo/Gen/PolySplit.lean`: `polynomial.SplitDegree`, ckks `simEvaluator.PolynomialDepth`, printed by
  tools/go2lean on every run) against the hand-written model `Model/PolyEval.lean` (`splitDegree`,
  `polynomialDepth`).  (`bignum.OptimalSplit` is compared by evaluation in `Props/C13Gen`.)
  Go `int`s are two's-complement words.
-/
import Lattigo.Gen.PolySplit
import Lattigo.Model.PolyEval
import Lattigo.Proofs.GenParams
import Lattigo.Proofs.InnerSumBasic
import Lattigo.Proofs.PolyEval

namespace Lattigo.Proofs.GenPolySplit
open Lattigo Lattigo.Gen.PolySplit Lattigo.Model.PolyEval Lattigo.Proofs.GenParams

theorem i64le_zero_small (n : Nat) (h1 : 1 ≤ n) (h : n < 2 ^ 63) : i64le n 0 = false := by
  have h0 : i64toInt 0 = 0 := by decide
  simp only [i64le, i64toInt_small n h, h0, decide_eq_false_iff_not]
  omega

theorem i64le_zero_nonpos (n : Nat) (hW : n < W) (h : n = 0 ∨ 2 ^ 63 ≤ n) : i64le n 0 = true := by
  rcases h with rfl | h
  · decide
  have h0 : i64toInt 0 = 0 := by decide
  have hn : i64toInt n = (n : Int) - 18446744073709551616 := by
    unfold i64toInt; rw [if_neg (by omega)]
  simp only [i64le, hn, h0, decide_eq_true_eq]
  unfold W at hW; omega

theorem len64_bitLen (n : Nat) : len64 n = bitLen n := rfl

/-- Go's `n&(n-1) == 0` is the model's `isPow2` (for `n ≥ 1`). -/
theorem pow2_test (n : Nat) (h1 : 1 ≤ n) (hW : n < W) :
    u64eq (u64and n (u64sub n 1)) 0 = isPow2 n := by
  have hn0 : n ≠ 0 := by omega
  rw [u64sub_eq n 1 h1 hW]
  have hiff := Proofs.InnerSum.and_pred_eq_zero_iff n (Nat.log2 n) (Nat.log2_self_le hn0) Nat.lt_log2_self
  have hm := Lattigo.Model.PolyEval.isPow2_iff n
  by_cases hp : n &&& (n - 1) = 0
  · have : isPow2 n = true := hm.2 ⟨hn0, (hiff.1 hp).symm⟩
    simp [u64and, hp, this]
  · have : isPow2 n = false := by
      rcases hb : isPow2 n with _ | _
      · rfl
      · exact absurd (hiff.2 (hm.1 hb).2.symm) hp
    simp [u64and, hp, this]

/-- `n ≥ 1`: Go panics for `n ≤ 0` -/
theorem SplitDegree_eq (n : Nat) (h1 : 1 ≤ n) (h : n < 2 ^ 62) :
    SplitDegree n = some (splitDegree n) := by
  have hW : n < W := by unfold W; omega
  unfold SplitDegree splitDegree
  simp only [i64le_zero_small n h1 (by omega), Bool.false_eq_true, if_false, pow2_test n h1 hW]
  by_cases hp : isPow2 n = true
  · simp only [hp, if_true, i64div_small n 2 (by omega) (by norm_num)]
  · have hp' : isPow2 n = false := by simpa using hp
    simp only [hp', Bool.false_eq_true, if_false]
    have hn2 : 2 ≤ n := by
      rcases Nat.lt_or_ge n 2 with hlt | hge
      · have : n = 1 := by omega
        subst this
        exact absurd (by decide : isPow2 1 = true) hp
      · exact hge
    have hs : u64sub n 1 = n - 1 := u64sub_eq n 1 h1 hW
    have hn1 : n - 1 ≠ 0 := by omega
    have hbl : bitLen (n - 1) = Nat.log2 (n - 1) + 1 := bitLen_pos _ (by omega)
    have hlog : Nat.log2 (n - 1) < 62 := (Nat.log2_lt hn1).2 (by omega)
    have hk : u64sub (len64 (n - 1)) 1 = bitLen (n - 1) - 1 := by
      rw [len64_bitLen, hbl]
      exact u64sub_eq _ _ (by omega) (by unfold W; omega)
    have hle : 2 ^ Nat.log2 (n - 1) ≤ n - 1 := Nat.log2_self_le hn1
    have hpos : 1 ≤ 2 ^ Nat.log2 (n - 1) := Nat.one_le_two_pow
    rw [hs, hk, hbl, Nat.add_sub_cancel, u64shl_one_left _ (by omega),
      u64sub_eq _ 1 hpos (by unfold W; omega), u64add_eq n 1 (by unfold W; omega),
      u64sub_eq _ _ (by omega) (by unfold W; omega)]

/-- `l` is `levelsConsumedPerRescaling` -/
theorem PolynomialDepth_eq (l d : Nat) (hl : l < 2 ^ 32) (h1 : 1 ≤ d) (hd : d < 2 ^ 63) :
    PolynomialDepth l d = some (l * polynomialDepth d) := by
  unfold PolynomialDepth polynomialDepth
  simp only [i64le_zero_small d h1 hd, Bool.false_eq_true, if_false]
  have hd0 : d ≠ 0 := by omega
  have hbl : bitLen d = Nat.log2 d + 1 := bitLen_pos d h1
  have hlog : Nat.log2 d < 63 := (Nat.log2_lt hd0).2 hd
  rw [len64_bitLen, hbl, u64sub_eq _ 1 (by omega) (by unfold W; omega), Nat.add_sub_cancel]
  unfold u64mul
  rw [Nat.mod_eq_of_lt]
  have : l * Nat.log2 d < 2 ^ 32 * 63 := Nat.mul_lt_mul'' hl hlog
  unfold W; omega

end Lattigo.Proofs.GenPolySplit
