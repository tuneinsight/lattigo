/-
  C15 — the regenerated tie for the RNS-scalar arithmetic: the definitions of
  `Lattigo/Gen/Scalar.lean` (printed by tools/go2lean from ring/utils.go `ModexpMontgomery` and the
  per-modulus loop bodies of ring/scalar.go on every run) against the residue-level functions of the
  hand-written model `Model/Shamir.lean`, via the word-level specifications of C01
  (`MRed_spec`, `MRedLazy_spec`, `MForm_spec`).

  The model works on canonical residues, the code on (lazily reduced) Montgomery words; the
  refinement relation is  `word % q = (residue · 2^64) % q`  (`Mont q a x`).
-/
import Lattigo.Gen.Scalar
import Lattigo.Model.Shamir
import Lattigo.Proofs.ModRed
import Lattigo.Proofs.ModRedZMod
import Lattigo.Proofs.LoopWhile
import Lattigo.Proofs.ShamirArith
import Mathlib.FieldTheory.Finite.Basic

namespace Lattigo.Proofs.GenScalar
open Lattigo Lattigo.Model.Shamir Lattigo.Proofs.LoopWhile

/-- `x` is a Montgomery representative of the residue `a` modulo `q`. -/
def Mont (q a x : Nat) : Prop := x % q = (a * W) % q

theorem Mont.mul_W_mod (q a : Nat) : Mont q a (a * W % q) :=
  Nat.mod_mod _ _

theorem Mont.cast {q a x : Nat} (h : Mont q a x) : (x : ZMod q) = (a : ZMod q) * (W : ZMod q) := by
  have := cast_of_mod h; rwa [Nat.cast_mul] at this

theorem Mont.of_cast {q a x : Nat} (h : (x : ZMod q) = (a : ZMod q) * (W : ZMod q)) : Mont q a x := by
  apply mod_of_cast; rw [Nat.cast_mul]; exact h

/-! ### `2^64` is invertible modulo an odd `q`; division by it is written `· * W⁻¹` -/

/-- Fermat for `2^64` modulo a prime `q`: `W^(-(q-2)) = W`. -/
theorem W_inv_pow {q qinv : Nat} [Fact q.Prime] (hm : MontConst q qinv) :
    ((W : Nat) : ZMod q)⁻¹ ^ (q - 2) = (W : ZMod q) := by
  rw [inv_pow, pow_sub_two_eq_inv (W_unit hm).ne_zero, inv_inv]

/-- the sum may wrap; the subtraction wraps back when the true difference is a `uint64`. -/
theorem u64sub_u64add {a b c : Nat} (hc : c ≤ a + b) (hcW : c < W) (h : a + b - c < W) :
    u64sub (u64add a b) c = a + b - c := by
  unfold u64sub u64add
  rw [Nat.mod_eq_of_lt hcW, ← Nat.add_mul_mod_self_left _ W ((a + b) / W)]
  have : (a + b) % W + W - c + W * ((a + b) / W) = a + b - c + W := by
    rw [Nat.add_sub_assoc (Nat.le_of_lt hcW), Nat.add_right_comm, Nat.mod_add_div,
      ← Nat.add_sub_assoc (Nat.le_of_lt hcW), Nat.sub_add_comm hc]
  rw [this, Nat.add_mod_right, Nat.mod_eq_of_lt h]

theorem i64gt_zero (i : Nat) (hi : i < 2 ^ 63) : i64gt i 0 = decide (0 < i) := by
  have h : i64toInt i = (i : Int) := by unfold i64toInt; rw [if_pos (by omega)]
  have h0 : i64toInt 0 = 0 := by unfold i64toInt; simp
  simp only [i64gt, h, h0]
  congr 1
  exact propext Int.natCast_pos

theorem i64gt_zero_neg (i : Nat) (hi : 2 ^ 63 ≤ i) (hW : i < W) : i64gt i 0 = false := by
  have h : i64toInt i = (i : Int) - 18446744073709551616 := by unfold i64toInt; rw [if_neg (by omega)]
  have h0 : i64toInt 0 = 0 := by unfold i64toInt; simp
  simp only [i64gt, h, h0, decide_eq_false_iff_not]
  unfold W at hW
  omega

theorem sub_two_lt {q : Nat} (h2q : 2 * q ≤ W) : q - 2 < 2 ^ 63 := by
  unfold W at h2q
  omega

theorem half_lt_two_pow {i n : Nat} (h : i < 2 ^ (n + 1)) : i / 2 < 2 ^ n :=
  Nat.div_lt_of_lt_mul (by rwa [Nat.mul_comm, ← Nat.pow_succ])

theorem i64shr_one (i : Nat) (hi : i < 2 ^ 63) : i64shr i 1 = i / 2 := by
  unfold i64shr; rw [if_pos (by omega)]

theorem lt_W_of_lt {x q : Nat} (h2q : 2 * q ≤ W) (hx : x < q) : x < W :=
  Nat.lt_of_lt_of_le hx (Nat.le_trans (Nat.le_mul_of_pos_left q Nat.two_pos) h2q)

theorem MRedLazy_cast (x y q qinv : Nat) (h2q : 2 * q ≤ W) (hm : MontConst q qinv) (hxy : x * y < q * W) :
    ((Gen.MRedLazy x y q qinv : Nat) : ZMod q) * (W : ZMod q) = (x : ZMod q) * (y : ZMod q) := by
  have := cast_of_mod (MRedLazy_spec x y q qinv h2q hm hxy).1
  rwa [Nat.cast_mul, Nat.cast_mul] at this

theorem MRed_red {x y q qinv : Nat} (h2q : 2 * q ≤ W) (hm : MontConst q qinv) (hx : x < q) (hy : y < W) :
    Gen.MRed x y q qinv < q ∧
    ((Gen.MRed x y q qinv : Nat) : ZMod q) = (x : ZMod q) * (y : ZMod q) * (W : ZMod q)⁻¹ := by
  have h := Nat.mul_lt_mul'' hx hy
  exact ⟨(MRed_spec x y q qinv h2q hm h).2, MRed_cast x y qinv h2q hm h⟩

/-- condition of `for i := e; i > 0; i >>= 1` with `i` a Go `int`, on the state `(i, result, x)`. -/
def mexpCond : Nat × Nat × Nat → Bool := fun st => i64gt st.1 0

/-- body (+ post statement) of the loop of `ring.ModexpMontgomery`. -/
def mexpBody (q qinv : Nat) : Nat × Nat × Nat → Nat × Nat × Nat := fun st =>
  (i64shr st.1 1,
   if u64eq (u64and st.1 1) 1 then Gen.MRed st.2.1 st.2.2 q qinv else st.2.1,
   Gen.MRed st.2.2 st.2.2 q qinv)

/-- the generated `ModexpMontgomery` is this loop (definitional unfolding of the printed `let`s). -/
theorem Modexp_unfold (x e q qinv : Nat) (bc : Nat × Nat) :
    Gen.ModexpMontgomery x e q qinv bc
      = (loopWhile 64 mexpCond (mexpBody q qinv) (e, Gen.MForm 1 q bc, x)).2.1 := rfl

theorem mexpCond_eq {i : Nat} (hi : i < 2 ^ 63) (r x : Nat) : mexpCond (i, r, x) = decide (0 < i) :=
  i64gt_zero i hi

theorem mexpBody_eq (q qinv : Nat) {i : Nat} (hi : i < 2 ^ 63) (r x : Nat) :
    mexpBody q qinv (i, r, x)
      = (i / 2, if i % 2 = 1 then Gen.MRed r x q qinv else r, Gen.MRed x x q qinv) := by
  simp only [mexpBody, u64and_one, i64shr_one i hi, decide_eq_true_eq]

/-- loop invariant: the final `result` is reduced and equals `r·(x/W)^i` modulo `q` — the loop is
    square-and-multiply on `x/W`, every `MRed` dividing by `W` once. -/
theorem mexp_loop (q qinv : Nat) (h2q : 2 * q ≤ W) (hm : MontConst q qinv) (fuel i r x : Nat)
    (hi : i < 2 ^ fuel) (hi63 : i < 2 ^ 63) (hr : r < q) (hx : x < q) :
    (loopWhile fuel mexpCond (mexpBody q qinv) (i, r, x)).2.1 < q ∧
    (((loopWhile fuel mexpCond (mexpBody q qinv) (i, r, x)).2.1 : Nat) : ZMod q)
      = (r : ZMod q) * ((x : ZMod q) * (W : ZMod q)⁻¹) ^ i := by
  induction fuel generalizing i r x with
  | zero =>
    rw [Nat.lt_one_iff.mp hi, loopWhile_zero, pow_zero, mul_one]
    exact ⟨hr, rfl⟩
  | succ f ih =>
    rw [loopWhile_succ, mexpCond_eq hi63]
    by_cases h0 : i = 0
    · rw [h0, pow_zero, mul_one]
      exact ⟨hr, rfl⟩
    · rw [decide_eq_true (Nat.pos_of_ne_zero h0), if_pos rfl, mexpBody_eq q qinv hi63]
      obtain ⟨hxx, cxx⟩ := MRed_red h2q hm hx (lt_W_of_lt h2q hx)
      obtain ⟨hrx, crx⟩ := MRed_red h2q hm hr (lt_W_of_lt h2q hx)
      obtain ⟨hlt, heq⟩ := ih (i / 2) (if i % 2 = 1 then Gen.MRed r x q qinv else r) (Gen.MRed x x q qinv)
        (half_lt_two_pow hi) (Nat.lt_of_le_of_lt (Nat.div_le_self i 2) hi63) (by split; exacts [hrx, hr]) hxx
      refine ⟨hlt, ?_⟩
      rw [heq, cxx, mul_assoc (x * x : ZMod q), mul_mul_mul_comm, ← SqMul.sq_mul_step (r : ZMod q)]
      congr 1
      split
      · rw [crx, mul_assoc]
      · rfl

/-- `he`: the exponent is a non-negative Go `int`; the result is `MForm(1)·(x/W)^e` -/
theorem Modexp_cast (x e q qinv : Nat) (hq : 1 < q) (h2q : 2 * q ≤ W) (hm : MontConst q qinv)
    (hx : x < q) (he : e < 2 ^ 63) :
    Gen.ModexpMontgomery x e q qinv (brc q) < q ∧
    ((Gen.ModexpMontgomery x e q qinv (brc q) : Nat) : ZMod q)
      = (W : ZMod q) * ((x : ZMod q) * (W : ZMod q)⁻¹) ^ e := by
  rw [Modexp_unfold]
  have h1 : Gen.MForm 1 q (brc q) = (1 * W) % q := MForm_spec 1 q hq h2q (by unfold W; omega)
  obtain ⟨hlt, heq⟩ := mexp_loop q qinv h2q hm 64 e (Gen.MForm 1 q (brc q)) x (by omega) he
    (by rw [h1]; exact Nat.mod_lt _ (by omega)) hx
  exact ⟨hlt, by rw [heq, h1, Nat.one_mul, ZMod.natCast_mod]⟩

theorem NewRNSScalarFromUInt64_body_eq (q mrc : Nat) (bc : Nat × Nat) (v : Nat) :
    Gen.NewRNSScalarFromUInt64_body q mrc bc v = v % q := rfl

/-- `o` is the previous `sout[i]`, which is overwritten -/
theorem SubRNSScalar_body_eq (q mrc : Nat) (bc : Nat × Nat) (a b o : Nat) (hqW : q ≤ W) (ha : a < q) (hb : b < q) :
    Gen.SubRNSScalar_body q mrc bc a b o = subMod q a b := by
  unfold Gen.SubRNSScalar_body subMod
  simp only [decide_eq_true_eq]
  split
  · exact u64sub_u64add (Nat.le_trans (Nat.le_of_lt hb) (Nat.le_add_left q a)) (Nat.lt_of_lt_of_le hb hqW)
      (by omega)
  · next h => exact u64sub_eq a b (Nat.le_of_not_lt h) (Nat.lt_of_lt_of_le ha hqW)

/-- note `0 ↦ q`: the result is not reduced -/
theorem NegRNSScalar_body_eq (q mrc : Nat) (bc : Nat × Nat) (a o : Nat) (hqW : q < W) (ha : a ≤ q) :
    Gen.NegRNSScalar_body q mrc bc a o = q - a :=
  u64sub_eq q a ha hqW

theorem MFormRNSScalar_body_spec (q mrc : Nat) (a o : Nat) (hq : 1 < q) (h2q : 2 * q ≤ W) (ha : a < W) :
    Gen.MFormRNSScalar_body q mrc (brc q) a o < q ∧ Mont q a (Gen.MFormRNSScalar_body q mrc (brc q) a o) := by
  have h : Gen.MFormRNSScalar_body q mrc (brc q) a o = (a * W) % q := MForm_spec a q hq h2q ha
  rw [h]
  exact ⟨Nat.mod_lt _ (by omega), Mont.mul_W_mod q a⟩

theorem MulRNSScalar_body_spec (q qinv : Nat) (bc : Nat × Nat) (s1 s2 o : Nat) (h2q : 2 * q ≤ W)
    (hm : MontConst q qinv) (h : s1 * s2 < q * W) :
    (Gen.MulRNSScalar_body q qinv bc s1 s2 o * W) % q = (s1 * s2) % q
    ∧ Gen.MulRNSScalar_body q qinv bc s1 s2 o < 2 * q ∧ 0 < Gen.MulRNSScalar_body q qinv bc s1 s2 o :=
  MRedLazy_spec s1 s2 q qinv h2q hm h

theorem MulRNSScalar_body_cast (q qinv : Nat) (bc : Nat × Nat) (s1 s2 o : Nat) (h2q : 2 * q ≤ W)
    (hm : MontConst q qinv) (h : s1 * s2 < q * W) :
    Gen.MulRNSScalar_body q qinv bc s1 s2 o < 2 * q ∧
    ((Gen.MulRNSScalar_body q qinv bc s1 s2 o : Nat) : ZMod q)
      = (s1 : ZMod q) * (s2 : ZMod q) * (W : ZMod q)⁻¹ :=
  ⟨(MRedLazy_spec s1 s2 q qinv h2q hm h).2.1, eq_mul_W_inv hm (MRedLazy_cast s1 s2 q qinv h2q hm h)⟩

theorem mulScalars_refines (q qinv : Nat) (bc : Nat × Nat) (s1 s2 o a b : Nat) (h4q : 4 * q ≤ W)
    (hm : MontConst q qinv) (h1 : s1 < 2 * q) (h2 : s2 < 2 * q) (ha : Mont q a s1) (hb : Mont q b s2) :
    Gen.MulRNSScalar_body q qinv bc s1 s2 o < 2 * q ∧
    Mont q (a * b % q) (Gen.MulRNSScalar_body q qinv bc s1 s2 o) := by
  have hlt : s1 * s2 < q * W :=
    calc s1 * s2 < (2 * q) * (2 * q) := Nat.mul_lt_mul'' h1 h2
      _ = q * (4 * q) := by ring
      _ ≤ q * W := Nat.mul_le_mul_left q h4q
  obtain ⟨hr, hc⟩ := MulRNSScalar_body_cast q qinv bc s1 s2 o (by omega) hm hlt
  refine ⟨hr, Mont.of_cast ?_⟩
  rw [hc, ha.cast, hb.cast, ZMod.natCast_mod, Nat.cast_mul, mul_mul_mul_comm, ← mul_assoc,
    mul_W_mul_inv hm]

theorem Inverse_body_eq (q qinv : Nat) (bc : Nat × Nat) (x : Nat) (hq : 2 ≤ q) (h2q : 2 * q ≤ W) :
    Gen.Inverse_body q qinv bc x = Gen.ModexpMontgomery x (q - 2) q qinv bc := by
  unfold Gen.Inverse_body
  rw [u64sub_eq q 2 hq (by omega)]

/-- `Inverse` applied to ANY reduced word `d` (Montgomery or not): `W·(d/W)^(q-2)` modulo `q`. -/
theorem Inverse_body_cast (d q qinv : Nat) (hq : 2 ≤ q) (h2q : 2 * q ≤ W) (hm : MontConst q qinv) (hd : d < q) :
    Gen.Inverse_body q qinv (brc q) d < q ∧
    ((Gen.Inverse_body q qinv (brc q) d : Nat) : ZMod q)
      = (W : ZMod q) * ((d : ZMod q) * (W : ZMod q)⁻¹) ^ (q - 2) := by
  rw [Inverse_body_eq q qinv (brc q) d hq h2q]
  exact Modexp_cast d (q - 2) q qinv hq h2q hm hd (sub_two_lt h2q)

/-- the word `Combiner.lagrangeCoeff(thisKey, thatKey)` stores for one modulus, composed from the
    regenerated bodies exactly as multiparty/threshold.go calls them:
    `this, that := NewRNSScalarFromUInt64(…)`; `SubRNSScalar(that, this, lagCoeff)`;
    `Inverse(lagCoeff)`; `MulRNSScalar(lagCoeff, that, lagCoeff)`.  (`lagCoeff` is a fresh zero
    scalar.) -/
def lagrangeCoeffWord (q qinv : Nat) (bc : Nat × Nat) (thisKey thatKey : Nat) : Nat :=
  let this := Gen.NewRNSScalarFromUInt64_body q qinv bc thisKey
  let that := Gen.NewRNSScalarFromUInt64_body q qinv bc thatKey
  let l := Gen.SubRNSScalar_body q qinv bc that this 0
  let l := Gen.Inverse_body q qinv bc l
  Gen.MulRNSScalar_body q qinv bc l that l

theorem lagrangeCoeff_refines (q qinv : Nat) [hp : Fact q.Prime] (h2 : 2 < q) (h2q : 2 * q ≤ W)
    (hm : MontConst q qinv) (thisKey thatKey : Nat) :
    lagrangeCoeffWord q qinv (brc q) thisKey thatKey < 2 * q ∧
    Mont q (lagrangeCoeff q thisKey thatKey) (lagrangeCoeffWord q qinv (brc q) thisKey thatKey) := by
  have hthis : thisKey % q < q := Nat.mod_lt _ hp.out.pos
  have hthat : thatKey % q < q := Nat.mod_lt _ hp.out.pos
  unfold lagrangeCoeffWord
  simp only [NewRNSScalarFromUInt64_body_eq]
  rw [SubRNSScalar_body_eq q qinv (brc q) _ _ 0 (Nat.le_trans (Nat.le_mul_of_pos_left q Nat.two_pos) h2q)
    hthat hthis]
  obtain ⟨hil, hic⟩ := Inverse_body_cast _ q qinv (Nat.le_of_lt h2) h2q hm (Shamir.subMod_lt hthat hthis)
  generalize Gen.Inverse_body q qinv (brc q) _ = inv at hil hic ⊢
  obtain ⟨hr, hc⟩ := MulRNSScalar_body_cast q qinv (brc q) inv (thatKey % q) inv h2q hm
    (Nat.mul_lt_mul'' hil (lt_W_of_lt h2q hthat))
  refine ⟨hr, Mont.of_cast ?_⟩
  -- the word was never in Montgomery form: `Inverse` leaves the factor `W·W^(-(q-2))`, which is
  -- `W²` by Fermat, and `MulRNSScalar` divides by `W` once
  rw [hc, hic, mul_pow, W_inv_pow hm, ZMod.natCast_mod, Shamir.cast_lagrangeCoeff_pow]
  exact (eq_mul_W_inv hm (by ring)).symm

end Lattigo.Proofs.GenScalar
