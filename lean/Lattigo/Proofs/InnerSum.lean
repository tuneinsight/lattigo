/-
  C11 proofs: `PartialTracesSum` / `InnerFunction` compute `Σ_{r<n} rot(r·offset) v`.

  The proof follows the code's binary reading of `n` (the `log n + HW(n)` tree):
  at the start of turn `i`
    * `ctInNTT = Σ_{r < 2^i} rot(r·off) v`                         (doubling chain)
    * `acc     = Σ_{r ∈ [n - n mod 2^i, n)} rot(r·off) v`           (one block per set low bit)
  and at the top bit the two are added.
-/
import Lattigo.Proofs.InnerSumBasic

namespace Lattigo.Proofs.InnerSum
open Lattigo Lattigo.Model.Galois Lattigo.Model.InnerSum Lattigo.Proofs.Galois
open Finset

variable {α : Type} [AddCommMonoid α]

variable (S : Ops α) (m : Nat) (n : Nat) (off : Int) (v : α)

structure Inv (i : Nat) (st : PState α) : Prop where
  state : st.state = false
  ct : st.ct = ∑ r ∈ range (2 ^ i), term S (2 ^ m) off v r
  acc : (st.copy = true ∧ n % 2 ^ i = 0) ∨
        (st.copy = false ∧ st.acc = ∑ r ∈ Ico (n - n % 2 ^ i) n, term S (2 ^ m) off v r)

variable {S m n off v}

theorem aut_wrap_block (hS : Lawful S (2 ^ m)) (hm1 : 1 ≤ m) (hm : m ≤ 64) (a c : ℕ) :
    S.aut (galEl (2 ^ m) (wrapInt ((a : Int) * off))) (∑ r ∈ range c, term S (2 ^ m) off v r)
      = ∑ r ∈ Ico a (a + c), term S (2 ^ m) off v r := by
  rw [galEl_wrapInt]; exact rot_block hS hm1 hm off v a c

/-- the doubling half of a turn takes the invariant of turn `i`, with the accumulator already that
    of turn `i + 1`, to the invariant of turn `i + 1` -/
theorem inv_dbl (hS : Lawful S (2 ^ m)) (hm1 : 1 ≤ m) (hm : m ≤ 64) (i : Nat) (st : PState α)
    (hstate : st.state = false) (hct : st.ct = ∑ r ∈ range (2 ^ i), term S (2 ^ m) off v r)
    (hacc : (st.copy = true ∧ n % 2 ^ (i + 1) = 0) ∨
      (st.copy = false ∧ st.acc = ∑ r ∈ Ico (n - n % 2 ^ (i + 1)) n, term S (2 ^ m) off v r)) :
    Inv S m n off v (i + 1) (dbl S S.add (2 ^ m) off i st) := by
  simp only [dbl, hstate, Bool.not_false, if_true]
  refine ⟨rfl, ?_, hacc⟩
  show S.add st.ct (S.aut _ st.ct) = _
  rw [hS.add_eq, hct, aut_wrap_block hS hm1 hm, Finset.sum_range_add_sum_Ico _ (Nat.le_add_right _ _),
    pow_succ, Nat.mul_two]

theorem step_mid (hS : Lawful S (2 ^ m)) (hm1 : 1 ≤ m) (hm : m ≤ 64)
    (lazy : Bool) (i : Nat) (st : PState α) (hinv : Inv S m n off v i st) (hj : 2 ≤ n / 2 ^ i) :
    Inv S m n off v (i + 1) (ptsStep S S.add lazy (2 ^ m) n off i (n / 2 ^ i) st) := by
  obtain ⟨hstate, hct, hacc⟩ := hinv
  have hn2 : 2 ^ (i + 1) ≤ n := by
    rw [pow_succ]
    exact (Nat.mul_le_mul_left _ hj).trans (Nat.mul_div_le n (2 ^ i))
  have hle : n % 2 ^ (i + 1) ≤ n := Nat.mod_le _ _
  by_cases hodd : n / 2 ^ i % 2 = 1
  · -- bit `i` is set: `n mod 2^(i+1) = n mod 2^i + 2^i`
    have hmod : n % 2 ^ (i + 1) = n % 2 ^ i + 2 ^ i := by rw [Nat.mod_pow_succ, hodd, Nat.mul_one]
    rw [ptsStep_odd S S.add lazy (2 ^ m) n off i _ st hodd
      (Nat.sub_ne_zero_of_lt ((Nat.mod_lt _ (Nat.two_pow_pos _)).trans_le hn2))]
    refine inv_dbl hS hm1 hm i _ hstate hct (Or.inr ⟨rfl, ?_⟩)
    have hblock : S.aut (galEl (2 ^ m) (wrapInt (((n - n % 2 ^ (i + 1) : Nat) : Int) * off))) st.ct
        = ∑ r ∈ Ico (n - n % 2 ^ (i + 1)) (n - n % 2 ^ i), term S (2 ^ m) off v r := by
      rw [hct, aut_wrap_block hS hm1 hm, hmod, Nat.sub_add_eq, Nat.sub_add_cancel]
      rw [hmod] at hle
      exact Nat.le_sub_of_add_le' hle
    show (if st.copy = true then _ else _) = _
    rcases hacc with ⟨hcopy, hzero⟩ | ⟨hcopy, haccv⟩
    · rw [if_pos hcopy, hblock, hzero, Nat.sub_zero]
    · rw [if_neg (by rw [hcopy]; exact Bool.false_ne_true), hblock, hS.add_eq, haccv, add_comm]
      exact Finset.sum_Ico_consecutive _
        (Nat.sub_le_sub_left (hmod ▸ Nat.le_add_right _ _) n) (Nat.sub_le _ _)
  · rw [ptsStep_even S S.add lazy (2 ^ m) n off i _ st hodd]
    refine inv_dbl hS hm1 hm i st hstate hct ?_
    rw [Nat.mod_pow_succ, (Nat.mod_two_eq_zero_or_one _).resolve_right hodd, Nat.mul_zero, Nat.add_zero]
    exact hacc

theorem step_top (hS : Lawful S (2 ^ m)) (lazy : Bool) (i : Nat) (st : PState α)
    (hinv : Inv S m n off v i st) (hj : n / 2 ^ i = 1) :
    (ptsStep S S.add lazy (2 ^ m) n off i 1 st).out = ∑ r ∈ range n, term S (2 ^ m) off v r := by
  obtain ⟨hstate, hct, hacc⟩ := hinv
  have hdm : 2 ^ i + n % 2 ^ i = n := by
    have := Nat.div_add_mod n (2 ^ i)
    rwa [hj, Nat.mul_one] at this
  have h1 : 2 ^ i ≤ n := hdm ▸ Nat.le_add_right _ _
  have h2 : n < 2 ^ (i + 1) :=
    calc n = 2 ^ i + n % 2 ^ i := hdm.symm
      _ < 2 ^ i + 2 ^ i := Nat.add_lt_add_left (Nat.mod_lt _ (Nat.two_pow_pos i)) _
      _ = 2 ^ (i + 1) := by rw [pow_succ, Nat.mul_two]
  rw [ptsStep_top S S.add lazy (2 ^ m) n off i 1 st rfl (by rw [Nat.mod_eq_of_lt h2, Nat.sub_self])]
  show (if n &&& (n - 1) ≠ 0 then S.add st.acc st.ct else st.ct) = _
  have hpow := and_pred_eq_zero_iff n i h1 h2
  by_cases hn : n = 2 ^ i
  · rw [if_neg (not_not.mpr (hpow.mpr hn)), hct, hn]
  · rcases hacc with ⟨_, hzero⟩ | ⟨_, haccv⟩
    · rw [hzero, Nat.add_zero] at hdm
      exact absurd hdm.symm hn
    · rw [if_pos (mt hpow.mp hn), hS.add_eq, haccv, hct, Nat.sub_eq_of_eq_add hdm.symm, add_comm]
      exact Finset.sum_range_add_sum_Ico _ h1

omit [AddCommMonoid α] in
theorem ptsLoop_zero_j (f : α → α → α) (lazy : Bool) (N : Nat) (fuel i : Nat) (st : PState α) :
    ptsLoop S f lazy N n off fuel i 0 st = st := by
  cases fuel <;> simp [ptsLoop]

theorem ptsLoop_spec (hS : Lawful S (2 ^ m)) (hm1 : 1 ≤ m) (hm : m ≤ 64)
    (lazy : Bool) : ∀ (fuel i : Nat) (st : PState α), Inv S m n off v i st →
      0 < n / 2 ^ i → n / 2 ^ i < 2 ^ fuel →
      (ptsLoop S S.add lazy (2 ^ m) n off fuel i (n / 2 ^ i) st).out
        = ∑ r ∈ range n, term S (2 ^ m) off v r := by
  intro fuel
  induction fuel with
  | zero => intro i st _ h0 h1; omega
  | succ f ih =>
    intro i st hinv h0 h1
    unfold ptsLoop
    rw [if_neg h0.ne', Nat.shiftRight_one]
    by_cases hj : n / 2 ^ i = 1
    · rw [hj, show 1 / 2 = 0 by norm_num, ptsLoop_zero_j]
      exact step_top hS lazy i st hinv hj
    · have h2 : 2 ≤ n / 2 ^ i := (Nat.succ_le_of_lt h0).lt_of_ne' hj
      have hdd : n / 2 ^ i / 2 = n / 2 ^ (i + 1) := by rw [Nat.div_div_eq_div_mul, pow_succ]
      have hpos : 0 < n / 2 ^ i / 2 := Nat.div_pos h2 two_pos
      have hlt : n / 2 ^ i / 2 < 2 ^ f := Nat.div_lt_of_lt_mul (by rwa [pow_succ, mul_comm] at h1)
      rw [hdd] at hpos hlt ⊢
      exact ih (i + 1) _ (step_mid hS hm1 hm lazy i st hinv h2) hpos hlt

/-- from the initial state; the stale buffers `out0`, `acc0` do not matter -/
theorem ptsLoop_init (hS : Lawful S (2 ^ m)) (hm1 : 1 ≤ m) (hm : m ≤ 64) (lazy : Bool)
    (v out0 acc0 : α) (off : Int) (n : Nat) (hn : 0 < n) (hn64 : n < 2 ^ 64) :
    (ptsLoop S S.add lazy (2 ^ m) n off 64 0 n
        { ct := v, acc := acc0, out := out0, state := false, copy := true, reqs := [] }).out
      = ∑ r ∈ range n, rot S (2 ^ m) ((r : Int) * off) v := by
  have hinv : Inv S m n off v 0
      { ct := v, acc := acc0, out := out0, state := false, copy := true, reqs := [] } :=
    ⟨rfl, (sum_term_one hS hm1 hm off v).symm, Or.inl ⟨rfl, by simp [Nat.mod_one]⟩⟩
  have := ptsLoop_spec hS hm1 hm lazy 64 0 _ hinv (by simpa using hn) (by simpa using hn64)
  rw [pow_zero, Nat.div_one] at this
  exact this

/-- `C11.innerSum_spec`; `hasP = true`: parameters with an auxiliary modulus; the products `r·offset` may wrap in
    `int` arithmetic -/
theorem partialTracesSum_spec (hS : Lawful S (2 ^ m)) (hm1 : 1 ≤ m) (hm : m ≤ 64)
    (v out0 acc0 : α) (offset n : Int) (hn : 1 ≤ n) (hn63 : n < 9223372036854775808) (hoff : offset ≠ 0) :
    (partialTracesSum S (2 ^ m) true v out0 acc0 offset n).val?
      = some (∑ r ∈ range n.toNat, rot S (2 ^ m) ((r : Int) * offset) v) := by
  unfold partialTracesSum
  rw [if_neg (by omega), if_neg (by simp)]
  split
  · next h1 => subst h1; simp [Res.val?, rot_zero hS hm1 hm]
  · exact congrArg some (ptsLoop_init hS hm1 hm true v out0 acc0 offset n.toNat (by omega) (by omega))

/-- no hypothesis on `batchSize`: for zero all rotations are the identity -/
theorem innerFunction_add_spec (hS : Lawful S (2 ^ m)) (hm1 : 1 ≤ m) (hm : m ≤ 64)
    (v out0 acc0 : α) (batch n : Int) (hn : 1 ≤ n) (hn63 : n < 9223372036854775808) :
    (innerFunction S S.add (2 ^ m) v out0 acc0 batch n).val?
      = some (∑ r ∈ range n.toNat, rot S (2 ^ m) ((r : Int) * batch) v) := by
  unfold innerFunction
  rw [if_neg (by omega)]
  split
  · next h1 => subst h1; simp [Res.val?, rot_zero hS hm1 hm]
  · exact congrArg some (ptsLoop_init hS hm1 hm false v out0 acc0 batch n.toNat (by omega) (by omega))

end Lattigo.Proofs.InnerSum
