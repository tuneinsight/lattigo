/-
  C11 proofs: algebra of the rotation action used by the rotate-and-accumulate proofs, and the
  body of their loop branch by branch.

  `Lawful S N` is the hypothesis under which the sum specifications are proved: the carrier is a
  commutative additive monoid, `S.add` is its addition and `S.aut` is an action of the
  multiplicative monoid of residues mod `N` by additive maps.  It holds for ciphertexts modulo
  key-switch noise, and exactly for evaluation vectors (`evalOps` in `Props/C11.lean`, `evOps` in
  `Proofs/SlotLawful.lean`); the executable slot vectors `List Int` are no additive monoid and get the
  specifications as images of `evOps` under `toSlots`.
-/
import Lattigo.Model.InnerSum
import Lattigo.Proofs.Galois
import Mathlib.Algebra.BigOperators.Intervals

namespace Lattigo.Proofs.InnerSum
open Lattigo Lattigo.Model.Galois Lattigo.Model.InnerSum Lattigo.Proofs.Galois
open Finset

variable {α : Type} [AddCommMonoid α]

/-- The algebraic laws of the carrier. -/
structure Lawful (S : Ops α) (N : Nat) : Prop where
  add_eq : ∀ a b, S.add a b = a + b
  aut_add : ∀ g a b, S.aut g (a + b) = S.aut g a + S.aut g b
  aut_zero : ∀ g, S.aut g 0 = 0
  aut_one : ∀ a, S.aut 1 a = a
  aut_mul : ∀ g h a, S.aut g (S.aut h a) = S.aut (g * h % N) a

/-- rotation by `k` slots: the automorphism of the Galois element `GaloisElement(k)`. -/
def rot (S : Ops α) (N : Nat) (k : Int) (v : α) : α := S.aut (galEl N k) v

variable {S : Ops α} {m : Nat}

theorem rot_add (hS : Lawful S (2 ^ m)) (hm1 : 1 ≤ m) (hm : m ≤ 64) (a b : Int) (v : α) :
    rot S (2 ^ m) a (rot S (2 ^ m) b v) = rot S (2 ^ m) (a + b) v := by
  unfold rot
  rw [hS.aut_mul, galEl_add m hm1 hm]

theorem rot_zero (hS : Lawful S (2 ^ m)) (hm1 : 1 ≤ m) (hm : m ≤ 64) (v : α) :
    rot S (2 ^ m) 0 v = v := by
  unfold rot
  rw [galEl_zero m hm1 hm, hS.aut_one]

omit [AddCommMonoid α] in
theorem rot_wrapInt (N : Nat) (k : Int) (v : α) : rot S N (wrapInt k) v = rot S N k v := by
  unfold rot; rw [galEl_wrapInt]

theorem aut_sum (hS : Lawful S (2 ^ m)) (g : Nat) (s : Finset ℕ) (f : ℕ → α) :
    S.aut g (∑ i ∈ s, f i) = ∑ i ∈ s, S.aut g (f i) := by
  classical
  induction s using Finset.induction_on with
  | empty => simp [hS.aut_zero]
  | insert a s ha ih => rw [Finset.sum_insert ha, Finset.sum_insert ha, hS.aut_add, ih]

/-- the `r`-th term of the documented sum: `rot (r·off) v`. -/
def term (S : Ops α) (N : Nat) (off : Int) (v : α) (r : ℕ) : α := rot S N ((r : Int) * off) v

theorem sum_term_one (hS : Lawful S (2 ^ m)) (hm1 : 1 ≤ m) (hm : m ≤ 64) (off : Int) (v : α) :
    ∑ r ∈ range 1, term S (2 ^ m) off v r = v := by
  rw [Finset.sum_range_one, term, Nat.cast_zero, zero_mul, rot_zero hS hm1 hm]

theorem rot_term (hS : Lawful S (2 ^ m)) (hm1 : 1 ≤ m) (hm : m ≤ 64) (off : Int) (v : α) (a r : ℕ) :
    rot S (2 ^ m) ((a : Int) * off) (term S (2 ^ m) off v r) = term S (2 ^ m) off v (a + r) := by
  unfold term
  rw [rot_add hS hm1 hm]; congr 1; push_cast; ring

theorem rot_block (hS : Lawful S (2 ^ m)) (hm1 : 1 ≤ m) (hm : m ≤ 64) (off : Int) (v : α) (a c : ℕ) :
    rot S (2 ^ m) ((a : Int) * off) (∑ r ∈ range c, term S (2 ^ m) off v r)
      = ∑ r ∈ Ico a (a + c), term S (2 ^ m) off v r := by
  unfold rot
  rw [aut_sum hS, Finset.sum_Ico_eq_sum_range, Nat.add_sub_cancel_left]
  apply Finset.sum_congr rfl
  intro r _
  exact rot_term hS hm1 hm off v a r

/-- the doubling step `ct ← ct + rot(c·off) ct`. -/
theorem double_block (hS : Lawful S (2 ^ m)) (hm1 : 1 ≤ m) (hm : m ≤ 64) (off : Int) (v : α) (c : ℕ) :
    (∑ r ∈ range c, term S (2 ^ m) off v r)
        + rot S (2 ^ m) ((c : Int) * off) (∑ r ∈ range c, term S (2 ^ m) off v r)
      = ∑ r ∈ range (c + c), term S (2 ^ m) off v r := by
  rw [rot_block hS hm1 hm, Finset.sum_range_add_sum_Ico _ (by omega)]

theorem wrapInt_of_small (x : Int) (h1 : -9223372036854775808 ≤ x) (h2 : x < 9223372036854775808) :
    wrapInt x = x := by
  unfold wrapInt; omega

theorem wrapInt_two_pow (i : Nat) (hi : i ≤ 62) : wrapInt ((2 : Int) ^ i) = 2 ^ i := by
  have h : (2 : Int) ^ i ≤ 2 ^ 62 := pow_le_pow_right₀ (by norm_num) hi
  have hp : (0 : Int) < 2 ^ i := by positivity
  exact wrapInt_of_small _ (by omega) (by norm_num at h ⊢; omega)

theorem toU64_of_nonneg (x : Int) (h0 : 0 ≤ x) (h1 : x < 9223372036854775808) : toU64 x = x.toNat := by
  rw [toU64, Int.emod_eq_of_lt h0 (h1.trans (by norm_num))]

theorem and_mask (n i : Nat) : n &&& ((2 <<< i) - 1) = n % 2 ^ (i + 1) := by
  rw [Nat.shiftLeft_eq, ← pow_succ', Nat.and_two_pow_sub_one_eq_mod]

/-- Go's `n&(n-1) != 0` test, for `n` whose top bit is `i`: it says `n` is not `2^i`. -/
theorem and_pred_eq_zero_iff (n i : Nat) (h1 : 2 ^ i ≤ n) (h2 : n < 2 ^ (i + 1)) :
    n &&& (n - 1) = 0 ↔ n = 2 ^ i := by
  rw [Nat.and_sub_one_eq_zero_iff_isPowerOfTwo ((Nat.two_pow_pos i).trans_le h1).ne']
  constructor
  · rintro ⟨k, rfl⟩
    have ha := (Nat.pow_le_pow_iff_right (le_refl 2)).mp h1
    have hb := (Nat.pow_lt_pow_iff_right (le_refl 2)).mp h2
    rw [Nat.le_antisymm (Nat.lt_succ_iff.mp hb) ha]
  · rintro rfl; exact ⟨i, rfl⟩

/-- Second half of a turn: unless the result is out, `ct ← f ct (rot(2^i·off) ct)`. -/
def dbl (S : Ops α) (f : α → α → α) (N : Nat) (off : Int) (i : Nat) (st : PState α) : PState α :=
  if !st.state then
    { st with ct := f st.ct (S.aut (galEl N (wrapInt (((2 ^ i : Nat) : Int) * off))) st.ct),
              reqs := request false (galEl N (wrapInt (((2 ^ i : Nat) : Int) * off))) st.reqs }
  else st

section step
omit [AddCommMonoid α]
variable (S : Ops α) (f : α → α → α) (lazy : Bool) (N n : Nat) (off : Int) (i j : Nat) (st : PState α)

theorem ptsStep_even (hj : j % 2 ≠ 1) : ptsStep S f lazy N n off i j st = dbl S f N off i st := by
  simp only [ptsStep, dbl, if_neg hj, Nat.one_shiftLeft]

/-- bit `i` is set below the top bit: the block of `2^i` terms starting at `k = n - n mod 2^(i+1)`
    goes to the accumulator. -/
theorem ptsStep_odd (hj : j % 2 = 1) (hk : n - n % 2 ^ (i + 1) ≠ 0) :
    ptsStep S f lazy N n off i j st = dbl S f N off i
      { st with
        acc := if st.copy then S.aut (galEl N (wrapInt (((n - n % 2 ^ (i + 1) : Nat) : Int) * off))) st.ct
               else f st.acc (S.aut (galEl N (wrapInt (((n - n % 2 ^ (i + 1) : Nat) : Int) * off))) st.ct),
        copy := false,
        reqs := request lazy (galEl N (wrapInt (((n - n % 2 ^ (i + 1) : Nat) : Int) * off))) st.reqs } := by
  simp only [ptsStep, dbl, if_pos hj, and_mask, if_pos hk, Nat.one_shiftLeft]
  cases st.copy <;> rfl

/-- the top bit (`k = 0`): the result is written, nothing is looked up. -/
theorem ptsStep_top (hj : j % 2 = 1) (hk : n - n % 2 ^ (i + 1) = 0) :
    ptsStep S f lazy N n off i j st
      = { st with state := true, out := if n &&& (n - 1) ≠ 0 then f st.acc st.ct else st.ct } := by
  simp only [ptsStep, if_pos hj, and_mask, hk, ne_eq, not_true_eq_false, if_false]
  split <;> rfl

end step

end Lattigo.Proofs.InnerSum
