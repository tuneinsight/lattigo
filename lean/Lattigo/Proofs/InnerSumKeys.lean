/-
  C11 proofs: `keys_sufficient` — every Galois key the rotate-and-accumulate loop looks
  up belongs to the advertised list for the same arguments.  Purely combinatorial: no hypothesis
  on the carrier, on `nthRoot`, on the presence of `P`, or on overflow.
-/
import Lattigo.Proofs.InnerSumBasic

namespace Lattigo.Proofs.InnerSum
open Lattigo Lattigo.Model.Galois Lattigo.Model.InnerSum

variable {α : Type}

/-- the two kinds of look-ups turn `i` of the loop can make, both only when `2^i < n` -/
def Req (N n : Nat) (off : Int) (r : Nat) : Prop :=
  ∃ i, 2 ^ i < n ∧
    (r = galEl N (wrapInt (((2 ^ i : Nat) : Int) * off)) ∨
     (n / 2 ^ i % 2 = 1 ∧ n - n % 2 ^ (i + 1) ≠ 0 ∧
        r = galEl N (wrapInt (((n - n % 2 ^ (i + 1) : Nat) : Int) * off))))

theorem mem_request {lazy : Bool} {g r : Nat} {reqs : List Nat} (h : r ∈ request lazy g reqs) :
    r ∈ reqs ∨ r = g := by
  unfold request at h
  split at h
  · simpa using h
  · exact Or.inl h

theorem mem_dbl_reqs {S : Ops α} {f : α → α → α} {N : Nat} {off : Int} {i : Nat} {st : PState α} {r : Nat}
    (h : r ∈ (dbl S f N off i st).reqs) :
    r ∈ st.reqs ∨ r = galEl N (wrapInt (((2 ^ i : Nat) : Int) * off)) := by
  unfold dbl at h
  split at h
  · exact mem_request h
  · exact Or.inl h

theorem ptsStep_reqs (S : Ops α) (f : α → α → α) (lazy : Bool) (N n : Nat) (off : Int) (i : Nat)
    (st : PState α) (hj : 0 < n / 2 ^ i) :
    ∀ r ∈ (ptsStep S f lazy N n off i (n / 2 ^ i) st).reqs, r ∈ st.reqs ∨ Req N n off r := by
  intro r hr
  have hmul := Nat.mul_div_le n (2 ^ i)
  by_cases hodd : n / 2 ^ i % 2 = 1
  · by_cases hk : n - n % 2 ^ (i + 1) = 0
    · rw [ptsStep_top S f lazy N n off i _ st hodd hk] at hr
      exact Or.inl hr
    · -- `2^i = n` would make the rotation amount `k` zero
      have hlt : 2 ^ i < n :=
        lt_of_le_of_ne ((Nat.le_mul_of_pos_right _ hj).trans hmul) fun h => hk (by
          rw [Nat.mod_eq_of_lt (h ▸ Nat.pow_lt_pow_right one_lt_two (Nat.lt_succ_self i)), Nat.sub_self])
      rw [ptsStep_odd S f lazy N n off i _ st hodd hk] at hr
      rcases mem_dbl_reqs hr with h | h
      · rcases mem_request h with h | h
        · exact Or.inl h
        · exact Or.inr ⟨i, hlt, Or.inr ⟨hodd, hk, h⟩⟩
      · exact Or.inr ⟨i, hlt, Or.inl h⟩
  · -- even turn: `n / 2^i ≥ 2`
    have hlt : 2 ^ i < n :=
      calc 2 ^ i < 2 ^ i * 2 := by rw [Nat.mul_two]; exact Nat.lt_add_of_pos_right (Nat.two_pow_pos i)
        _ ≤ 2 ^ i * (n / 2 ^ i) := Nat.mul_le_mul_left _ (by omega)
        _ ≤ n := hmul
    rw [ptsStep_even S f lazy N n off i _ st hodd] at hr
    rcases mem_dbl_reqs hr with h | h
    · exact Or.inl h
    · exact Or.inr ⟨i, hlt, Or.inl h⟩

theorem ptsLoop_reqs (S : Ops α) (f : α → α → α) (lazy : Bool) (N n : Nat) (off : Int) :
    ∀ (fuel i : Nat) (st : PState α),
      ∀ r ∈ (ptsLoop S f lazy N n off fuel i (n / 2 ^ i) st).reqs, r ∈ st.reqs ∨ Req N n off r := by
  intro fuel
  induction fuel with
  | zero => intro i st r hr; exact Or.inl (by simpa [ptsLoop] using hr)
  | succ fu ih =>
    intro i st r hr
    unfold ptsLoop at hr
    by_cases h0 : n / 2 ^ i = 0
    · rw [if_pos h0] at hr; exact Or.inl hr
    · rw [if_neg h0, Nat.shiftRight_one] at hr
      have hdd : n / 2 ^ i / 2 = n / 2 ^ (i + 1) := by
        rw [Nat.div_div_eq_div_mul, pow_succ]
      rw [hdd] at hr
      rcases ih (i + 1) _ r hr with h | h
      · exact ptsStep_reqs S f lazy N n off i st (Nat.pos_of_ne_zero h0) r h
      · exact Or.inr h

theorem mem_insertNew_self (k : Int) (l : List Int) : k ∈ insertNew k l := by
  unfold insertNew
  by_cases h : l.contains k = true
  · rw [if_pos h]; exact List.contains_iff_mem.mp h
  · rw [if_neg h]; simp

theorem mem_insertNew_of_mem {x : Int} (k : Int) {l : List Int} (h : x ∈ l) : x ∈ insertNew k l := by
  unfold insertNew
  split
  · exact h
  · simp [h]

/-- The loop variable of `GaloisElementsForInnerSum` is `i = 2^t`; for `n ≤ 2^62` the doubling `i <<= 1` never
    wraps (`t ≤ 62` throughout) and the loop has left `i < n` after at most `63 - t` turns, which the fuel covers
    (`63 ≤ t + fuel`; the model runs it with fuel 64). -/
theorem advLoop_spec (batch n : Int) (hn : n ≤ 4611686018427387904) :
    ∀ (fuel t : Nat) (acc : List Int), 63 ≤ t + fuel → t ≤ 62 →
      ∃ res, advLoop batch n fuel ((2 : Int) ^ t) acc = some res ∧ (∀ x ∈ acc, x ∈ res) ∧
        ∀ t', t ≤ t' → (2 : Int) ^ t' < n →
          wrapInt ((2 : Int) ^ t' * batch) ∈ res ∧
          wrapInt ((n - n % (2 * (2 : Int) ^ t')) * batch) ∈ res := by
  intro fuel
  induction fuel with
  | zero => intro t acc h1 h2; omega
  | succ fu ih =>
    intro t acc h1 h2
    unfold advLoop
    by_cases hlt : (2 : Int) ^ t < n
    · rw [if_pos hlt]
      have ht62 : t < 62 :=
        (pow_lt_pow_iff_right₀ (one_lt_two : (1 : Int) < 2)).mp (hlt.trans_le (by norm_num; exact hn))
      have hw : wrapInt (2 * (2 : Int) ^ t) = (2 : Int) ^ (t + 1) := by
        rw [mul_comm, ← pow_succ]; exact wrapInt_two_pow (t + 1) ht62
      rw [hw]
      obtain ⟨res, hres, hacc, hall⟩ := ih (t + 1)
        (insertNew (wrapInt ((n - n % (2 * (2 : Int) ^ t)) * batch)) (insertNew (wrapInt ((2 : Int) ^ t * batch)) acc))
        (by omega) (by omega)
      refine ⟨res, hres, ?_, ?_⟩
      · intro x hx
        exact hacc x (mem_insertNew_of_mem _ (mem_insertNew_of_mem _ hx))
      · intro t' ht' hlt'
        rcases Nat.eq_or_lt_of_le ht' with heq | hgt
        · subst heq
          exact ⟨hacc _ (mem_insertNew_of_mem _ (mem_insertNew_self _ _)),
                 hacc _ (mem_insertNew_self _ _)⟩
        · exact hall t' (by omega) hlt'
    · rw [if_neg hlt]
      refine ⟨acc, rfl, fun x hx => hx, ?_⟩
      intro t' ht' hlt'
      have : (2 : Int) ^ t ≤ 2 ^ t' := pow_le_pow_right₀ (by norm_num) ht'
      omega

theorem req_mem_adv (N : Nat) (off n : Int) (hn : n ≤ 4611686018427387904) :
    ∃ l, galoisElementsForInnerSum N off n = some l ∧ ∀ r, Req N n.toNat off r → r ∈ l := by
  obtain ⟨res, hres, _, hall⟩ := advLoop_spec off n hn 64 0 [] (by omega) (by omega)
  refine ⟨galEls N res, ?_, ?_⟩
  · unfold galoisElementsForInnerSum rotationsForInnerSum
    rw [show (1 : Int) = 2 ^ 0 by norm_num, hres]; rfl
  · rintro r ⟨i, hlt, hr⟩
    have hlt' : (2 : Int) ^ i < n := by exact_mod_cast Int.lt_toNat.mp hlt
    have hcast : ((n.toNat : Nat) : Int) = n :=
      Int.toNat_of_nonneg ((pow_pos two_pos i).le.trans hlt'.le)
    obtain ⟨h1, h2⟩ := hall i (Nat.zero_le i) hlt'
    unfold galEls
    rcases hr with hr | ⟨_, _, hr⟩
    · rw [hr]
      have : ((2 ^ i : Nat) : Int) = (2 : Int) ^ i := by push_cast; rfl
      rw [this]
      exact List.mem_map_of_mem h1
    · rw [hr]
      have : ((n.toNat - n.toNat % 2 ^ (i + 1) : Nat) : Int) = n - n % (2 * (2 : Int) ^ i) := by
        rw [Nat.cast_sub (Nat.mod_le _ _), Int.natCast_mod, hcast]
        push_cast; rw [pow_succ]; ring_nf
      rw [this]
      exact List.mem_map_of_mem h2

theorem ptsLoop_init_reqs (S : Ops α) (f : α → α → α) (lazy : Bool) (N n : Nat) (off : Int)
    (st : PState α) (h0 : st.reqs = []) :
    ∀ r ∈ (ptsLoop S f lazy N n off 64 0 n st).reqs, Req N n off r := by
  intro r hr
  have := ptsLoop_reqs S f lazy N n off 64 0 st r
  rw [pow_zero, Nat.div_one, h0] at this
  exact (this hr).resolve_left List.not_mem_nil

theorem partialTracesSum_reqs (S : Ops α) (N : Nat) (hasP : Bool) (v out0 acc0 : α) (offset n : Int) :
    ∀ r ∈ (partialTracesSum S N hasP v out0 acc0 offset n).reqs, Req N n.toNat offset r := by
  intro r hr
  unfold partialTracesSum at hr
  split_ifs at hr
  · exact absurd hr List.not_mem_nil
  · exact absurd hr List.not_mem_nil
  · exact absurd hr List.not_mem_nil
  · exact ptsLoop_init_reqs S S.add true N n.toNat offset _ rfl r hr

theorem innerFunction_reqs (S : Ops α) (f : α → α → α) (N : Nat) (v out0 acc0 : α) (batch n : Int) :
    ∀ r ∈ (innerFunction S f N v out0 acc0 batch n).reqs, Req N n.toNat batch r := by
  intro r hr
  unfold innerFunction at hr
  split_ifs at hr
  · exact absurd hr List.not_mem_nil
  · exact absurd hr List.not_mem_nil
  · exact ptsLoop_init_reqs S f false N n.toNat batch _ rfl r hr

/-- `C11.keys_sufficient_partialTracesSum` (also `RotateAndAdd`); zero and negative `offset`, `n` included -/
theorem partialTracesSum_keys (S : Ops α) (N : Nat) (hasP : Bool) (v out0 acc0 : α) (offset n : Int)
    (hn : n ≤ 4611686018427387904) :
    ∃ l, galoisElementsForInnerSum N offset n = some l ∧
      ∀ r ∈ (partialTracesSum S N hasP v out0 acc0 offset n).reqs, r ∈ l := by
  obtain ⟨l, hl, hmem⟩ := req_mem_adv N offset n hn
  exact ⟨l, hl, fun r hr => hmem r (partialTracesSum_reqs S N hasP v out0 acc0 offset n r hr)⟩

theorem replicate_keys (S : Ops α) (N : Nat) (hasP : Bool) (v out0 acc0 : α) (batch n : Int)
    (hn : n ≤ 4611686018427387904) :
    ∃ l, galoisElementsForReplicate N batch n = some l ∧
      ∀ r ∈ (replicate S N hasP v out0 acc0 batch n).reqs, r ∈ l :=
  partialTracesSum_keys S N hasP v out0 acc0 _ n hn

end Lattigo.Proofs.InnerSum
