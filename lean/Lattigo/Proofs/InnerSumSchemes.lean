/-
  C11 proofs: the scheme-level wrappers — `Replicate`, `ckks.InnerSum`, `bgv.InnerSum`
  (two-row layout), and their advertised lists.
-/
import Lattigo.Proofs.InnerSum
import Lattigo.Proofs.InnerSumKeys

namespace Lattigo.Proofs.InnerSum
open Lattigo Lattigo.Model.Galois Lattigo.Model.InnerSum Lattigo.Proofs.Galois
open Finset

variable {α : Type}

/-- `RotateRows(opOut, ctTmp); Add(opOut, ctTmp, opOut)` on the result of a call: the value plus
    its image under `aut g`, one more look-up. -/
def withRowSwap (S : Ops α) (g : Nat) : Res α → Res α
  | .ok u reqs => .ok (S.add u (S.aut g u)) (request false g reqs)
  | r => r

theorem withRowSwap_val? (S : Ops α) (g : Nat) (r : Res α) :
    (withRowSwap S g r).val? = r.val?.map fun u => S.add u (S.aut g u) := by
  cases r <;> rfl

theorem mem_withRowSwap_reqs {S : Ops α} {g x : Nat} {r : Res α} (h : x ∈ (withRowSwap S g r).reqs) :
    x ∈ r.reqs ∨ x = g := by
  cases r with
  | ok u reqs => exact mem_request h
  | err => exact Or.inl h
  | panic => exact Or.inl h

theorem innerSumCKKS_cases (S : Ops α) (N slots : Nat) (hasP : Bool) (v out0 acc0 : α) (batch n : Int) :
    innerSumCKKS S N slots hasP v out0 acc0 batch n = .err ∨
    innerSumCKKS S N slots hasP v out0 acc0 batch n = partialTracesSum S N hasP v out0 acc0 batch n := by
  unfold innerSumCKKS
  dsimp only
  split_ifs
  exacts [Or.inl rfl, Or.inl rfl, Or.inl rfl, Or.inr rfl]

/-- the guards of `bgv.Evaluator.InnerSum` (`l = n·batch` as a Go `int`, `l&(l-1) == 0` its power-of-two test) -/
theorem innerSumBGV_cases (S : Ops α) (N slots : Nat) (hasP : Bool) (v out0 acc0 : α) (batch n : Int) :
    innerSumBGV S N slots hasP v out0 acc0 batch n = .err ∨
    (wrapInt (n * batch) ≠ slots ∧
      innerSumBGV S N slots hasP v out0 acc0 batch n = partialTracesSum S N hasP v out0 acc0 batch n) ∨
    (wrapInt (n * batch) = slots ∧
      toU64 (wrapInt (n * batch)) &&& toU64 (wrapInt (wrapInt (n * batch) - 1)) = 0 ∧
      innerSumBGV S N slots hasP v out0 acc0 batch n
        = if n = 1 then .ok v []
          else withRowSwap S (N - 1) (partialTracesSum S N hasP v out0 acc0 batch (n / 2))) := by
  unfold innerSumBGV
  dsimp only
  by_cases h1 : n ≤ 0 ∨ batch ≤ 0
  · exact Or.inl (if_pos h1)
  rw [if_neg h1]
  by_cases h2 : wrapInt (n * batch) > slots
  · exact Or.inl (if_pos h2)
  rw [if_neg h2]
  by_cases h3 : toU64 (wrapInt (n * batch)) &&& toU64 (wrapInt (wrapInt (n * batch) - 1)) ≠ 0
  · exact Or.inl (if_pos h3)
  rw [if_neg h3]
  by_cases h4 : wrapInt (n * batch) = slots
  · rw [if_pos h4]; exact Or.inr (Or.inr ⟨h4, not_not.mp h3, rfl⟩)
  · rw [if_neg h4]; exact Or.inr (Or.inl ⟨h4, rfl⟩)

/-- for a power-of-two count the loop only makes the doubling look-ups, and those of `2^s` are
    among those of `2^(s+1)` -/
theorem req_pow2_succ {N s : Nat} {off : Int} {r : Nat} (h : Req N (2 ^ s) off r) :
    Req N (2 ^ (s + 1)) off r := by
  obtain ⟨i, hlt, hr | ⟨hodd, _, _⟩⟩ := h
  · exact ⟨i, hlt.trans (Nat.pow_lt_pow_right (by norm_num) (Nat.lt_succ_self s)), Or.inl hr⟩
  · have his : i < s := (Nat.pow_lt_pow_iff_right (by norm_num)).mp hlt
    obtain ⟨d, rfl⟩ : ∃ d, s = i + (d + 1) := ⟨s - i - 1, by omega⟩
    rw [pow_add, Nat.mul_div_cancel_left _ (by positivity), pow_succ, Nat.mul_mod_left] at hodd
    exact absurd hodd (by norm_num)

/-- Go's `l&(l-1) == 0` (on the words of `l` and of the `int` `l-1`) for a positive `int`: `l` is a
    power of two. -/
theorem pow2_test (l : Int) (h0 : 0 < l) (hl : l < 9223372036854775808)
    (h : toU64 l &&& toU64 (wrapInt (l - 1)) = 0) : ∃ e, l.toNat = 2 ^ e := by
  rw [wrapInt_of_small _ (by omega) (by omega), toU64_of_nonneg _ h0.le hl,
    toU64_of_nonneg _ (by omega) (by omega), show (l - 1).toNat = l.toNat - 1 by omega] at h
  exact (Nat.and_sub_one_eq_zero_iff_isPowerOfTwo (by omega)).mp h

theorem pow2_half (n b : Int) (hn : 1 < n) (hb : 0 < b) (hnb : n * b < 9223372036854775808)
    (h : toU64 (n * b) &&& toU64 (wrapInt (n * b - 1)) = 0) :
    ∃ s, n.toNat = 2 ^ (s + 1) ∧ (n / 2).toNat = 2 ^ s := by
  obtain ⟨e, he⟩ := pow2_test _ (Int.mul_pos (by omega) hb) hnb h
  have hdvd : n.toNat ∣ 2 ^ e := ⟨b.toNat, by rw [← he, Int.toNat_mul (by omega) hb.le]⟩
  obtain ⟨s, _, hs⟩ := (Nat.dvd_prime_pow Nat.prime_two).mp hdvd
  cases s with
  | zero => rw [pow_zero] at hs; omega
  | succ s =>
    refine ⟨s, hs, ?_⟩
    rw [pow_succ] at hs
    omega

/-- `C11.keys_sufficient_innerSumBGV` (`ctIn.Slots() = MaxSlots`): the list covers the row swap and the rotations
    for `(batch, n/2)` the call uses when `n·batch` equals the slot count -/
theorem innerSumBGV_keys (S : Ops α) (N maxSlots : Nat) (hms : 1 ≤ maxSlots) (hasP : Bool) (v out0 acc0 : α)
    (batch n : Int) (hn : 0 < n) (hb : 0 < batch) (hnb : n * batch < 4611686018427387904) :
    ∃ l, galoisElementsForInnerSumBGV N maxSlots batch n = some l ∧
      ∀ r ∈ (innerSumBGV S N maxSlots hasP v out0 acc0 batch n).reqs, r ∈ l := by
  have hnle : n ≤ n * batch := le_mul_of_one_le_right hn.le hb
  have hw : wrapInt (n * batch) = n * batch := wrapInt_of_small _ (by omega) (by omega)
  obtain ⟨l, hl, hmem⟩ := req_mem_adv N batch n (by omega)
  refine ⟨_, by rw [galoisElementsForInnerSumBGV, hl]; rfl, fun r hr => ?_⟩
  beta_reduce
  have hsub : ∀ x ∈ l, x ∈ if wrapInt (n * batch) > (maxSlots >>> 1 : Nat) then l ++ [N - 1] else l := by
    intro x hx
    split
    · exact List.mem_append_left _ hx
    · exact hx
  rcases innerSumBGV_cases S N maxSlots hasP v out0 acc0 batch n with h | ⟨_, h⟩ | ⟨heq, hpow, h⟩
  · rw [h] at hr; exact absurd hr List.not_mem_nil
  · rw [h] at hr; exact hsub r (hmem r (partialTracesSum_reqs S N hasP v out0 acc0 batch n r hr))
  · by_cases h1 : n = 1
    · rw [h, if_pos h1] at hr; exact absurd hr List.not_mem_nil
    · rw [h, if_neg h1] at hr
      rcases mem_withRowSwap_reqs hr with hr | rfl
      · -- `n` is a power of two, and the look-ups for `(batch, n/2)` are among those for `(batch, n)`
        rw [hw] at hpow
        obtain ⟨s, hs, hs2⟩ := pow2_half n batch (by omega) hb (by omega) hpow
        have := partialTracesSum_reqs S N hasP v out0 acc0 batch (n / 2) r hr
        rw [hs2] at this
        exact hsub r (hmem r (hs ▸ req_pow2_succ this))
      · -- the row swap: `n·batch = maxSlots > maxSlots / 2`
        have hhalf : maxSlots >>> 1 < maxSlots := by
          rw [Nat.shiftRight_eq_div_pow]; exact Nat.div_lt_self hms (by norm_num)
        rw [if_pos (by rw [heq]; exact_mod_cast hhalf)]
        exact List.mem_append_right _ (List.mem_singleton_self _)

theorem rotateHoisted_keys (S : Ops α) (N : Nat) (hasP : Bool) (v : α) (ks : List Int) :
    ∀ res, rotateHoisted S N hasP v ks = some res → ∀ r ∈ res.2, r ∈ galEls N ks := by
  have h : ∀ (ks : List Int) (acc : List α × List Nat),
      ∀ r ∈ (ks.foldl (fun (acc : List α × List Nat) k =>
        (acc.1 ++ [S.aut (galEl N k) v], request false (galEl N k) acc.2)) acc).2,
        r ∈ acc.2 ∨ r ∈ galEls N ks := by
    intro ks
    induction ks with
    | nil => exact fun acc r hr => Or.inl hr
    | cons k ks ih =>
      intro acc r hr
      rcases ih _ r hr with h | h
      · rcases mem_request h with h | rfl
        · exact Or.inl h
        · exact Or.inr List.mem_cons_self
      · exact Or.inr (List.mem_cons_of_mem _ h)
  intro res hres r hr
  unfold rotateHoisted at hres
  split at hres
  · exact absurd hres (by simp)
  · rw [← Option.some.inj hres] at hr
    exact (h ks ([], []) r hr).resolve_left List.not_mem_nil

variable [AddCommMonoid α] {S : Ops α} {m : Nat}

theorem replicate_spec (hS : Lawful S (2 ^ m)) (hm1 : 1 ≤ m) (hm : m ≤ 64)
    (v out0 acc0 : α) (batch n : Int) (hn : 1 ≤ n) (hb : batch ≠ 0)
    (hsmall : n * |batch| < 9223372036854775808) :
    (replicate S (2 ^ m) true v out0 acc0 batch n).val?
      = some (∑ r ∈ range n.toNat, rot S (2 ^ m) (-((r : Int) * batch)) v) := by
  have hble : |batch| ≤ n * |batch| := le_mul_of_one_le_left (abs_nonneg batch) hn
  have hnle : n ≤ n * |batch| := le_mul_of_one_le_right (by omega) (Int.one_le_abs hb)
  have hb' := abs_lt.mp (lt_of_le_of_lt hble hsmall)
  unfold replicate
  rw [wrapInt_of_small _ (by omega) (by omega),
    partialTracesSum_spec hS hm1 hm v out0 acc0 (-batch) n hn (by omega) (by omega)]
  simp only [mul_neg]

/-- `C11.innerSumCKKS_spec` -/
theorem innerSumCKKS_spec (hS : Lawful S (2 ^ m)) (hm1 : 1 ≤ m) (hm : m ≤ 64) (slots : Nat)
    (v out0 acc0 : α) (batch n : Int) (hn : 0 < n) (hb : 0 < batch)
    (hnb : n * batch < 9223372036854775808) :
    ∀ x, (innerSumCKKS S (2 ^ m) slots true v out0 acc0 batch n).val? = some x →
      x = ∑ r ∈ range n.toNat, rot S (2 ^ m) ((r : Int) * batch) v := by
  intro x hx
  have hnle : n ≤ n * batch := le_mul_of_one_le_right hn.le hb
  rcases innerSumCKKS_cases S (2 ^ m) slots true v out0 acc0 batch n with h | h
  · rw [h] at hx; exact absurd hx (by simp [Res.val?])
  · rw [h, partialTracesSum_spec hS hm1 hm v out0 acc0 batch n hn (hnle.trans_lt hnb) hb.ne'] at hx
    exact (Option.some.inj hx).symm

/-- `C11.innerSumBGV_spec`: `u + swap(u)` is the sum over both rows, the plaintext being read as one vector of
    `slots` entries -/
theorem innerSumBGV_spec (hS : Lawful S (2 ^ m)) (hm1 : 1 ≤ m) (hm : m ≤ 64) (slots : Nat)
    (v out0 acc0 : α) (batch n : Int) (hn : 0 < n) (hb : 0 < batch)
    (hnb : n * batch < 9223372036854775808) :
    ∀ x, (innerSumBGV S (2 ^ m) slots true v out0 acc0 batch n).val? = some x →
      x = if n * batch = slots ∧ n ≠ 1 then
            (let u := ∑ r ∈ range (n / 2).toNat, rot S (2 ^ m) ((r : Int) * batch) v
             u + S.aut (2 ^ m - 1) u)
          else ∑ r ∈ range n.toNat, rot S (2 ^ m) ((r : Int) * batch) v := by
  intro x hx
  have hnle : n ≤ n * batch := le_mul_of_one_le_right hn.le hb
  have hw : wrapInt (n * batch) = n * batch := wrapInt_of_small _ (by omega) hnb
  have hspec := fun k hk hk' => partialTracesSum_spec hS hm1 hm v out0 acc0 batch k hk hk' hb.ne'
  rcases innerSumBGV_cases S (2 ^ m) slots true v out0 acc0 batch n with h | ⟨hne, h⟩ | ⟨heq, _, h⟩
  · rw [h] at hx; exact absurd hx (by simp [Res.val?])
  · rw [h, hspec n hn (hnle.trans_lt hnb)] at hx
    rw [hw] at hne
    rw [if_neg (fun c => hne c.1)]
    exact (Option.some.inj hx).symm
  · rw [hw] at heq
    by_cases h1 : n = 1
    · rw [h, if_pos h1] at hx
      rw [if_neg (fun c => c.2 h1), ← Option.some.inj hx, h1]
      simp [rot_zero hS hm1 hm]
    · rw [h, if_neg h1, withRowSwap_val?, hspec (n / 2) (Int.le_ediv_of_mul_le two_pos (by omega))
        ((Int.ediv_le_self 2 hn.le).trans_lt (hnle.trans_lt hnb))] at hx
      rw [if_pos ⟨heq, h1⟩, ← Option.some.inj hx]
      exact hS.add_eq _ _

end Lattigo.Proofs.InnerSum
