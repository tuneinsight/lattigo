/-
  C11 proofs: `Trace` — value and advertised keys, both ring types
  (the number of rotations is `N/2` in the standard ring, `N` in the conjugate-invariant ring;
  `logN` outside `[0, log2 #rotations]` is rejected: fix C11-1).
-/
import Lattigo.Proofs.InnerSum
import Lattigo.Proofs.InnerSumKeys

namespace Lattigo.Proofs.InnerSum
open Lattigo Lattigo.Model.Galois Lattigo.Model.InnerSum Lattigo.Proofs.Galois
open Finset

variable {α : Type}

theorem shlInt_eq (i : Nat) (hi : i ≤ 62) : shlInt i = ((2 ^ i : Nat) : Int) := by
  rw [shlInt, if_neg (by omega), wrapInt_two_pow i hi, Nat.cast_pow, Nat.cast_ofNat]

theorem logRot_standard (L : Nat) (hL : 1 ≤ L) : logRot .standard L = ((L - 1 : Nat) : Int) := by
  rw [logRot, Nat.cast_sub hL, Nat.cast_one]

/-- `Trace` and `GaloisElementsForTrace` run the same loop: what the one looks up the other lists. -/
theorem traceLoop_reqs_sub (S : Ops α) (N B : Nat) : ∀ (fuel i : Nat) (out : α) (reqs acc : List Nat),
    (∀ r ∈ reqs, r ∈ acc) →
    ∀ r ∈ (traceLoop S N B fuel i (out, reqs)).2, r ∈ advTraceLoop N B fuel i acc := by
  intro fuel
  induction fuel with
  | zero => intro i out reqs acc h; exact h
  | succ fu ih =>
    intro i out reqs acc h
    unfold traceLoop advTraceLoop
    by_cases hc : i < B
    · rw [if_pos hc, if_pos hc]
      refine ih (i + 1) _ _ _ fun r hr => ?_
      rcases mem_request hr with hr | rfl
      · exact List.mem_append_left _ (h r hr)
      · exact List.mem_append_right _ (List.mem_singleton_self _)
    · rw [if_neg hc, if_neg hc]
      exact h

theorem trace_rejected (S : Ops α) (rt : RingType) (L : Nat) (v : α) (logN : Int)
    (h : logN < 0 ∨ logN > logRot rt L) :
    trace S rt L v logN = .err ∧ galoisElementsForTrace rt L logN = none := by
  unfold trace galoisElementsForTrace
  simp only
  rw [if_pos h, if_pos h]
  exact ⟨rfl, rfl⟩

/-- `C11.keys_sufficient_trace` -/
theorem trace_keys (S : Ops α) (rt : RingType) (L : Nat) (v : α) (logN : Int)
    (h0 : 0 ≤ logN) (h1 : logN ≤ logRot rt L) :
    ∃ l, galoisElementsForTrace rt L logN = some l ∧
      ∀ r ∈ (trace S rt L v logN).reqs, r ∈ l := by
  have hin : ¬ (logN < 0 ∨ logN > logRot rt L) := by omega
  have hloop := fun w => traceLoop_reqs_sub S (nthRootOf rt L) (logRot rt L).toNat
    (logRot rt L - logN).toNat logN.toNat w [] [] fun _ h => h
  unfold galoisElementsForTrace trace
  dsimp only
  rw [if_neg hin, if_neg hin]
  by_cases h4 : logN = 0 ∧ rt = .standard
  · simp only [if_pos h4]
    refine ⟨_, rfl, fun r hr => ?_⟩
    split at hr
    · rcases mem_request hr with h | rfl
      · exact List.mem_append_left _ (hloop _ r h)
      · exact List.mem_append_right _ (List.mem_singleton_self _)
    · exact absurd hr List.not_mem_nil
  · simp only [if_neg h4]
    refine ⟨_, rfl, fun r hr => ?_⟩
    split at hr
    · exact hloop _ r hr
    · exact absurd hr List.not_mem_nil

variable [AddCommMonoid α] {S : Ops α} {m : Nat}

/-- `B ≤ 62`: the rotation amount `1 << i` of turn `i < B` must not wrap a Go `int` (`shlInt_eq`); this is where the
    bounds `L ≤ 62` of the `trace_spec_*` theorems come from. -/
theorem traceLoop_spec (hS : Lawful S (2 ^ m)) (hm1 : 1 ≤ m) (hm : m ≤ 64) (B l : Nat) (hB : B ≤ 62)
    (w : α) : ∀ (fuel i : Nat) (out : α) (reqs : List Nat), l ≤ i → i ≤ B → B ≤ i + fuel →
      out = ∑ j ∈ range (2 ^ (i - l)), term S (2 ^ m) ((2 ^ l : Nat) : Int) w j →
      (traceLoop S (2 ^ m) B fuel i (out, reqs)).1
        = ∑ j ∈ range (2 ^ (B - l)), term S (2 ^ m) ((2 ^ l : Nat) : Int) w j := by
  intro fuel
  induction fuel with
  | zero =>
    intro i out reqs h1 h2 h3 hout
    have : i = B := by omega
    simp only [traceLoop]; rw [hout, this]
  | succ fu ih =>
    intro i out reqs h1 h2 h3 hout
    unfold traceLoop
    by_cases hc : i < B
    · rw [if_pos hc]
      apply ih (i + 1) _ _ (h1.trans (Nat.le_succ i)) hc (by omega)
      have hsplit : ((2 ^ i : Nat) : Int) = ((2 ^ (i - l) : Nat) : Int) * ((2 ^ l : Nat) : Int) := by
        rw [← Nat.cast_mul, ← pow_add, Nat.sub_add_cancel h1]
      have := double_block hS hm1 hm ((2 ^ l : Nat) : Int) w (2 ^ (i - l))
      unfold rot at this
      rw [hS.add_eq, hout, shlInt_eq i (hc.le.trans hB), hsplit, this, Nat.succ_sub h1, pow_succ, Nat.mul_two]
    · rw [if_neg hc]
      have : i = B := by omega
      simp only; rw [hout, this]

theorem traceLoop_run (hS : Lawful S (2 ^ m)) (hm1 : 1 ≤ m) (hm : m ≤ 64) (R l : Nat) (hR : R ≤ 62)
    (hl : l ≤ R) (w : α) :
    (traceLoop S (2 ^ m) R (R - l) l (w, [])).1
      = ∑ j ∈ range (2 ^ (R - l)), rot S (2 ^ m) ((j : Int) * ((2 ^ l : Nat) : Int)) w :=
  traceLoop_spec hS hm1 hm R l hR w (R - l) l w [] le_rfl hl (by omega)
    (by rw [Nat.sub_self, pow_zero, sum_term_one hS hm1 hm])

omit [AddCommMonoid α] in
/-- `Trace` for an accepted `logN` with `R = log2 #rotations` and a gap `G > 1`: the doubling chain on
    `G⁻¹·v`, followed in the full trace of the standard ring by the order-two element. -/
theorem trace_of_gap (S : Ops α) (rt : RingType) (L : Nat) (v : α) (logN : Int) (R G : Nat)
    (hR : logRot rt L = (R : Int)) (h0 : 0 ≤ logN) (hle : logN ≤ R)
    (hgap : (if logN = 0 ∧ rt = .standard then wrapInt (shlInt ((R : Int) - logN).toNat * 2)
      else shlInt ((R : Int) - logN).toNat) = (G : Int)) (hG : 1 < G)
    (p : α × List Nat)
    (hp : traceLoop S (nthRootOf rt L) R ((R : Int) - logN).toNat logN.toNat (S.scaleInv G v, []) = p) :
    trace S rt L v logN =
      if logN = 0 ∧ rt = .standard then
        .ok (S.add p.1 (S.aut (nthRootOf rt L - 1) p.1)) (request false (nthRootOf rt L - 1) p.2)
      else .ok p.1 p.2 := by
  unfold trace
  simp only [hR, Int.toNat_natCast]
  rw [if_neg (by omega), hgap, if_pos (by exact_mod_cast hG), Int.toNat_natCast, hp]

theorem trace_spec_general (rt : RingType) (L R logN : Nat) (hN : nthRootOf rt L = 2 ^ m)
    (hR : logRot rt L = (R : Int)) (hS : Lawful S (2 ^ m)) (hm1 : 1 ≤ m) (hm : m ≤ 64)
    (hR62 : R ≤ 62) (hlt : logN < R) (hnz : ¬ (logN = 0 ∧ rt = .standard)) (v : α) :
    (trace S rt L v (logN : Int)).val?
      = some (∑ j ∈ range (2 ^ (R - logN)),
          rot S (2 ^ m) ((j : Int) * ((2 ^ logN : Nat) : Int)) (S.scaleInv (2 ^ (R - logN)) v)) := by
  have hnz' : ¬ ((logN : Int) = 0 ∧ rt = .standard) := fun h => hnz ⟨by exact_mod_cast h.1, h.2⟩
  have hsh : ((R : Int) - (logN : Int)).toNat = R - logN := by omega
  rw [trace_of_gap S rt L v logN R (2 ^ (R - logN)) hR (by omega) (by omega)
      (by rw [if_neg hnz', hsh, shlInt_eq _ (by omega)]) (Nat.one_lt_two_pow (by omega)) _ rfl,
    if_neg hnz', hN, hsh, Int.toNat_natCast]
  exact congrArg some (traceLoop_run hS hm1 hm R logN hR62 hlt.le _)

/-- `C11.trace_spec_standard` -/
theorem trace_spec_pos (L : Nat) (hS : Lawful S (2 ^ (L + 1))) (hL : L ≤ 62) (v : α) (logN : Nat)
    (h0 : 0 < logN) (hlt : logN + 1 < L) :
    (trace S .standard L v (logN : Int)).val?
      = some (∑ j ∈ range (2 ^ (L - 1 - logN)),
          rot S (2 ^ (L + 1)) ((j : Int) * ((2 ^ logN : Nat) : Int)) (S.scaleInv (2 ^ (L - 1 - logN)) v)) :=
  trace_spec_general .standard L (L - 1) logN rfl (logRot_standard L (by omega)) hS (by omega) (by omega) (by omega)
    (by omega) (by omega) v

/-- `C11.trace_spec_ci`: the rotations by multiples of `2^logN` are the subgroup of index `2^logN` of the rotation
    group of order `N = 2^L`; `logN = 0` is the full trace (no order-two element). -/
theorem trace_spec_ci (L : Nat) (hS : Lawful S (2 ^ (L + 2))) (hL : L ≤ 62) (v : α) (logN : Nat)
    (hlt : logN < L) :
    (trace S .conjugateInvariant L v (logN : Int)).val?
      = some (∑ j ∈ range (2 ^ (L - logN)),
          rot S (2 ^ (L + 2)) ((j : Int) * ((2 ^ logN : Nat) : Int)) (S.scaleInv (2 ^ (L - logN)) v)) :=
  trace_spec_general .conjugateInvariant L L logN rfl rfl hS (by omega) (by omega) hL
    hlt (by simp) v

/-- `C11.trace_spec_zero_standard`: all `2^(L-1)` rotations, then the order-two element; `gap = 2^L = N` -/
theorem trace_spec_zero (L : Nat) (hS : Lawful S (2 ^ (L + 1))) (hL1 : 1 ≤ L) (hL : L ≤ 62) (v : α) :
    (trace S .standard L v 0).val?
      = some (let u := ∑ j ∈ range (2 ^ (L - 1)),
                rot S (2 ^ (L + 1)) ((j : Int) * ((2 ^ 0 : Nat) : Int)) (S.scaleInv (2 ^ L) v)
              u + S.aut (2 ^ (L + 1) - 1) u) := by
  have hgap : wrapInt (shlInt (L - 1) * 2) = ((2 ^ L : Nat) : Int) := by
    rw [shlInt_eq _ (by omega), Nat.cast_pow, Nat.cast_pow, Nat.cast_ofNat, ← pow_succ,
      Nat.sub_add_cancel hL1]
    exact wrapInt_two_pow L hL
  have hrun : (traceLoop S (nthRootOf .standard L) (L - 1) (L - 1) 0 (S.scaleInv (2 ^ L) v, [])).1
      = ∑ j ∈ range (2 ^ (L - 1)), rot S (2 ^ (L + 1)) ((j : Int) * ((2 ^ 0 : Nat) : Int))
          (S.scaleInv (2 ^ L) v) :=
    traceLoop_run hS (by omega) (by omega) (L - 1) 0 (by omega) (Nat.zero_le _) _
  rw [trace_of_gap S .standard L v 0 (L - 1) (2 ^ L) (logRot_standard L hL1) le_rfl (by omega)
      (by rw [if_pos ⟨rfl, rfl⟩, Int.sub_zero, Int.toNat_natCast]; exact hgap)
      (Nat.one_lt_two_pow (by omega)) _ rfl,
    if_pos ⟨rfl, rfl⟩, Int.sub_zero, Int.toNat_natCast, Int.toNat_zero]
  show some (S.add _ _) = _
  rw [hS.add_eq, hrun]
  rfl

omit [AddCommMonoid α] in
/-- `logN = log2 #rotations` (and not the one-slot standard ring): nothing to sum, `Trace` copies. -/
theorem trace_spec_top (S : Ops α) (rt : RingType) (L : Nat) (v : α) (logN : Int)
    (h : logN = logRot rt L) (h0 : 0 ≤ logN) (hnz : ¬ (logN = 0 ∧ rt = .standard)) :
    (trace S rt L v logN).val? = some v := by
  unfold trace
  simp only
  rw [if_neg (by omega), h]
  simp only [sub_self, Int.toNat_zero]
  have hnz' : ¬ (logRot rt L = 0 ∧ rt = .standard) := by rw [← h]; exact hnz
  simp [shlInt, wrapInt, hnz', Res.val?]

end Lattigo.Proofs.InnerSum
