/-
  C01, kernel loop semantics: "a kernel = the pointwise map of its lane", also under in-place aliasing.

  Every kernel of ring/vec_ops.go has the shape

      for j := 0; j < N; j = j + 8 {
          x := (*[8]uint64)(unsafe.Pointer(&p1[j]))      -- windows: POINTERS into the slices
          y := (*[8]uint64)(unsafe.Pointer(&p2[j]))
          z := (*[8]uint64)(unsafe.Pointer(&p3[j]))
          z[0] = f_0(x, y, z)
          …
          z[7] = f_7(x, y, z)
      }

  The translator prints the 8 right-hand sides as `K_lanes x y z … : List (Nat × Nat)` (pairs
  `(written index, value)`, windows as functions `Nat → Nat`) and the generated theorem `K_uniform`
  states `K_lanes x y z … = lanes8 (fun k => K_lane (x k) (y k) (z k) …)`.

  Here the loop is EXECUTED, statement after statement, on a memory `σ → Nat → Nat` (slice id ↦
  index ↦ word) in which the three slice parameters are arbitrary ids — they may be equal in any
  pattern (`p1 = p3`, `p2 = p3`, `p1 = p2 = p3`, …): every statement reads the CURRENT memory
  through the windows (so a statement sees the writes of the earlier ones if the slices alias) and
  writes one word of the output slice.  `runLoop_spec` proves that, when the lanes are uniform and
  `8 ∣ N`, the final memory holds `lane (m₀ p1 i) (m₀ p2 i) (m₀ p3 i)` at `p3[i]` for all `i < N`,
  with `m₀` the INITIAL memory, and is unchanged everywhere else — for every aliasing pattern.
  `runLoop_map3` restates the result as `Vec.map3 lane` (Model/Vec.lean) of the initial contents.

  Modelling assumption (stated, not proved): two slice parameters are either the same slice or
  disjoint (partial overlap `p3 = p1[8:]` is outside the model), and the written slice is the LAST
  slice parameter of the kernel (checked for all 38 kernels by `C01Tie.kernelSigs_out_last`, from the
  table `Gen.kernelSigs` the translator emits).  Core Lean only.
-/
import Lattigo.Gen.VecLanes
import Lattigo.Model.Vec

namespace Lattigo.KernelLoop
open Lattigo Lattigo.Gen

/-- memory: slice id ↦ index ↦ word -/
abbrev Mem (σ : Type) := σ → Nat → Nat

/-- `s[i] = v` -/
def Mem.set {σ : Type} [DecidableEq σ] (m : Mem σ) (s : σ) (i v : Nat) : Mem σ :=
  fun s' i' => if s' = s ∧ i' = i then v else m s' i'

/-- the right-hand sides of an unrolled block, as printed by the translator: the three windows
    (functions of the offset `0..7`) ↦ the list of `(offset written, value)`; scalar parameters
    are closed over -/
abbrev Lanes := (Nat → Nat) → (Nat → Nat) → (Nat → Nat) → List (Nat × Nat)

/-- statement number `k` of the block at base `j`: evaluate the `k`-th right-hand side on the windows
    of the CURRENT memory, write it at the stated offset of the output slice `p3` -/
def stmt {σ : Type} [DecidableEq σ] (lanes : Lanes) (p1 p2 p3 : σ) (j : Nat) (m : Mem σ) (k : Nat) :
    Mem σ :=
  match (lanes (fun t => m p1 (j + t)) (fun t => m p2 (j + t)) (fun t => m p3 (j + t)))[k]? with
  | some (off, v) => m.set p3 (j + off) v
  | none => m

/-- one loop body: the 8 statements, in order -/
def block {σ : Type} [DecidableEq σ] (lanes : Lanes) (p1 p2 p3 : σ) (j : Nat) (m : Mem σ) : Mem σ :=
  (List.range 8).foldl (stmt lanes p1 p2 p3 j) m

/-- `for j := 0; j < N; j = j + 8 { block }`: the body runs for `j = 0, 8, …` while `j < N`, that is
    `⌈N/8⌉` times -/
def runLoop {σ : Type} [DecidableEq σ] (lanes : Lanes) (p1 p2 p3 : σ) (N : Nat) (m : Mem σ) : Mem σ :=
  (List.range ((N + 7) / 8)).foldl (fun m b => block lanes p1 p2 p3 (8 * b) m) m

theorem lanes8_getElem? (f : Nat → Nat) (k : Nat) (hk : k < 8) : (lanes8 f)[k]? = some (k, f k) := by
  rw [show lanes8 f = (List.range 8).map fun k => (k, f k) from rfl, List.getElem?_map,
    List.getElem?_range hk]
  rfl

/-- the loop invariant after the first `c` cells have been written: cells `< c` of the output slice
    hold the lane of the INITIAL values, everything else is untouched -/
def Inv {σ : Type} [DecidableEq σ] (lane : Nat → Nat → Nat → Nat) (p1 p2 p3 : σ) (m0 m : Mem σ)
    (c : Nat) : Prop :=
  ∀ s i, m s i = if s = p3 ∧ i < c then lane (m0 p1 i) (m0 p2 i) (m0 p3 i) else m0 s i

/-- the first `N` words of a slice -/
def content {σ : Type} (m : Mem σ) (s : σ) (N : Nat) : List Nat := (List.range N).map (m s)

theorem map3_content {σ : Type} (lane : Nat → Nat → Nat → Nat) (m : Mem σ) (p1 p2 p3 : σ) (N : Nat) :
    Vec.map3 lane (content m p1 N) (content m p2 N) (content m p3 N)
      = (List.range N).map (fun i => lane (m p1 i) (m p2 i) (m p3 i)) := by
  unfold Vec.map3 content
  apply List.ext_getElem
  · simp
  · intro i h1 h2
    simp

section
variable {σ : Type} [DecidableEq σ] (lanes : Lanes) (lane : Nat → Nat → Nat → Nat)
  (hU : ∀ w1 w2 w3, lanes w1 w2 w3 = lanes8 (fun k => lane (w1 k) (w2 k) (w3 k)))
  (p1 p2 p3 : σ)
include hU

theorem stmt_inv (m0 m : Mem σ) (j k : Nat) (hk : k < 8) (h : Inv lane p1 p2 p3 m0 m (j + k)) :
    Inv lane p1 p2 p3 m0 (stmt lanes p1 p2 p3 j m k) (j + k + 1) := by
  intro s i
  unfold stmt
  rw [hU, lanes8_getElem? _ k hk]
  -- the three reads at cell `j + k` see the initial memory, whatever the aliasing
  have r : ∀ p, m p (j + k) = m0 p (j + k) := fun p => by rw [h p (j + k)]; simp
  simp only [Mem.set, r, h s i]
  by_cases hs : s = p3
  · by_cases hi : i = j + k
    · simp [hs, hi]
    · by_cases hlt : i < j + k
      · simp [hs, hi, hlt, Nat.lt_succ_of_lt hlt]
      · simp [hs, hi, hlt, show ¬ i < j + k + 1 by omega]
  · simp [hs]

omit hU in
theorem foldl_range_inv {α : Type} (I : Nat → α → Prop) (f : α → Nat → α) :
    ∀ n, (∀ k a, k < n → I k a → I (k + 1) (f a k)) → ∀ a, I 0 a → I n ((List.range n).foldl f a)
  | 0, _, _, h0 => h0
  | n + 1, h, a, h0 => by
    rw [List.range_succ, List.foldl_append]
    exact h n _ (Nat.lt_succ_self n)
      (foldl_range_inv I f n (fun k a hk => h k a (Nat.lt_succ_of_lt hk)) a h0)

theorem block_inv (m0 m : Mem σ) (j : Nat) (h : Inv lane p1 p2 p3 m0 m j) :
    Inv lane p1 p2 p3 m0 (block lanes p1 p2 p3 j m) (j + 8) :=
  foldl_range_inv (fun k m => Inv lane p1 p2 p3 m0 m (j + k)) _ 8
    (fun k m hk => stmt_inv lanes lane hU p1 p2 p3 m0 m j k hk) m h

theorem blocks_inv (m0 : Mem σ) (nb : Nat) :
    Inv lane p1 p2 p3 m0
      ((List.range nb).foldl (fun m b => block lanes p1 p2 p3 (8 * b) m) m0) (8 * nb) :=
  foldl_range_inv (fun b m => Inv lane p1 p2 p3 m0 m (8 * b)) _ nb
    (fun b m _ => block_inv lanes lane hU p1 p2 p3 m0 m (8 * b)) m0 (fun s i => by simp)

/-- No distinctness of the slice ids `p1 p2 p3` is assumed: that is "every aliasing pattern".  `hU` is the generated
`K_uniform`; on the right are the values of the INITIAL memory. -/
theorem runLoop_spec (N : Nat) (h8 : 8 ∣ N) (m0 : Mem σ) :
    (∀ i, i < N → runLoop lanes p1 p2 p3 N m0 p3 i = lane (m0 p1 i) (m0 p2 i) (m0 p3 i))
    ∧ (∀ s i, ¬ (s = p3 ∧ i < N) → runLoop lanes p1 p2 p3 N m0 s i = m0 s i) := by
  obtain ⟨nb, rfl⟩ := h8
  have hnb : (8 * nb + 7) / 8 = nb := by omega
  have h := blocks_inv lanes lane hU p1 p2 p3 m0 nb
  unfold runLoop
  rw [hnb]
  constructor
  · intro i hi
    rw [h p3 i, if_pos ⟨rfl, hi⟩]
  · intro s i hsi
    rw [h s i, if_neg hsi]

/-- `Vec.map3 lane` is what `Vec.op` computes -/
theorem runLoop_map3 (N : Nat) (h8 : 8 ∣ N) (m0 : Mem σ) :
    content (runLoop lanes p1 p2 p3 N m0) p3 N
      = Vec.map3 lane (content m0 p1 N) (content m0 p2 N) (content m0 p3 N) := by
  rw [map3_content]
  unfold content
  apply List.map_congr_left
  intro i hi
  exact (runLoop_spec lanes lane hU p1 p2 p3 N h8 m0).1 i (List.mem_range.1 hi)

end

theorem kernelSigs_names : kernelSigs.map (·.1) = kernelNames := rfl

/-! Four samples through the REGENERATED `K_uniform` theorems, one for each shape of signature (3 slices, accumulating,
2 slices, a scalar between the slices), not the 38 kernels: every other kernel is the same one-line instance of
`runLoop_spec` with its own `K_uniform`. -/

section instances
variable {σ : Type} [DecidableEq σ]

theorem mulcoeffsmontgomeryvec_loop (q qinv : Nat) (p1 p2 p3 : σ) (N : Nat) (h8 : 8 ∣ N)
    (m0 : Mem σ) :
    (∀ i, i < N →
        runLoop (fun w1 w2 w3 => mulcoeffsmontgomeryvec_lanes w1 w2 w3 q qinv) p1 p2 p3 N m0 p3 i
        = mulcoeffsmontgomeryvec_lane (m0 p1 i) (m0 p2 i) (m0 p3 i) q qinv)
    ∧ (∀ s i, ¬ (s = p3 ∧ i < N) →
        runLoop (fun w1 w2 w3 => mulcoeffsmontgomeryvec_lanes w1 w2 w3 q qinv) p1 p2 p3 N m0 s i
          = m0 s i) :=
  runLoop_spec _ (fun a b c => mulcoeffsmontgomeryvec_lane a b c q qinv)
    (fun w1 w2 w3 => mulcoeffsmontgomeryvec_uniform w1 w2 w3 q qinv) p1 p2 p3 N h8 m0

/-- an ACCUMULATING kernel: the statement reads `z[k]` before writing it; with `p1 = p3` it also reads the
accumulator as a factor -/
theorem mulcoeffsmontgomerylazythenaddlazyvec_loop (q qinv : Nat) (p1 p2 p3 : σ) (N : Nat)
    (h8 : 8 ∣ N) (m0 : Mem σ) :
    (∀ i, i < N →
        runLoop (fun w1 w2 w3 => mulcoeffsmontgomerylazythenaddlazyvec_lanes w1 w2 w3 q qinv)
          p1 p2 p3 N m0 p3 i
        = mulcoeffsmontgomerylazythenaddlazyvec_lane (m0 p1 i) (m0 p2 i) (m0 p3 i) q qinv)
    ∧ (∀ s i, ¬ (s = p3 ∧ i < N) →
        runLoop (fun w1 w2 w3 => mulcoeffsmontgomerylazythenaddlazyvec_lanes w1 w2 w3 q qinv)
          p1 p2 p3 N m0 s i = m0 s i) :=
  runLoop_spec _ (fun a b c => mulcoeffsmontgomerylazythenaddlazyvec_lane a b c q qinv)
    (fun w1 w2 w3 => mulcoeffsmontgomerylazythenaddlazyvec_uniform w1 w2 w3 q qinv) p1 p2 p3 N h8 m0

/-- a 2-slice kernel, `negvec(p1, p2, q)`: the unused middle slice id is arbitrary -/
theorem negvec_loop (q : Nat) (p1 p2 pOut : σ) (N : Nat) (h8 : 8 ∣ N) (m0 : Mem σ) :
    (∀ i, i < N → runLoop (fun w1 _ w3 => negvec_lanes w1 w3 q) p1 p2 pOut N m0 pOut i
        = negvec_lane (m0 p1 i) (m0 pOut i) q)
    ∧ (∀ s i, ¬ (s = pOut ∧ i < N) →
        runLoop (fun w1 _ w3 => negvec_lanes w1 w3 q) p1 p2 pOut N m0 s i = m0 s i) :=
  runLoop_spec _ (fun a _ c => negvec_lane a c q) (fun w1 _ w3 => negvec_uniform w1 w3 q)
    p1 p2 pOut N h8 m0

/-- a scalar parameter between the slices: `addlazythenmulscalarmontgomeryvec(p1, p2, scalarMont, p3, q, qinv)` -/
theorem addlazythenmulscalarmontgomeryvec_loop (sc q qinv : Nat) (p1 p2 p3 : σ) (N : Nat)
    (h8 : 8 ∣ N) (m0 : Mem σ) :
    (∀ i, i < N →
        runLoop (fun w1 w2 w3 => addlazythenmulscalarmontgomeryvec_lanes w1 w2 sc w3 q qinv)
          p1 p2 p3 N m0 p3 i
        = addlazythenmulscalarmontgomeryvec_lane (m0 p1 i) (m0 p2 i) sc (m0 p3 i) q qinv)
    ∧ (∀ s i, ¬ (s = p3 ∧ i < N) →
        runLoop (fun w1 w2 w3 => addlazythenmulscalarmontgomeryvec_lanes w1 w2 sc w3 q qinv)
          p1 p2 p3 N m0 s i = m0 s i) :=
  runLoop_spec _ (fun a b c => addlazythenmulscalarmontgomeryvec_lane a b sc c q qinv)
    (fun w1 w2 w3 => addlazythenmulscalarmontgomeryvec_uniform w1 w2 sc w3 q qinv) p1 p2 p3 N h8 m0

end instances

end Lattigo.KernelLoop
