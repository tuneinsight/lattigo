import Lattigo.Gen.VecLanes
import Lattigo.Proofs.ModRed
/-!
  Lane-level specifications of the 38 unrolled kernels of `ring/vec_ops.go` (`K_lane_spec` for the kernel `K`; which
  `SubRing` method wraps which kernel is the regenerated table `Gen.subRingOps`).

  `Gen/VecLanes.lean` (regenerated on every run) contains for each kernel `K` the 8 printed lanes
  `K_lanes`, the single-lane function `K_lane` and the generated `K_uniform : K_lanes … = lanes8
  (fun k => K_lane …)`; so a statement about `K_lane` is a statement about each of the 8 lanes of
  the Go loop body.  Below: `q` = `modulus`, `x, y` = lanes of `p1, p2`, `z` = previous content of
  the output lane (or the unused output argument), `qinv` = `mredconstant`, `brc q` = `bredconstant`.

  Every theorem is stated over `Nat`; a hypothesis `… < W` is the statement that the value is a
  `uint64` (or the *no-wrap side condition* of a lazy kernel).  Montgomery kernels: `out·2^64 ≡ …`.
-/
namespace Lattigo
open Lattigo.Gen

theorem add_congr_left {a b q : Nat} (c : Nat) (h : a % q = b % q) : (a + c) % q = (b + c) % q := by
  rw [Nat.add_mod, h, ← Nat.add_mod]

/-- adding `z` to a Montgomery residue `r` of `xy`: the shape of the "then add" Montgomery kernels -/
theorem add_mont {r q xy : Nat} (z : Nat) (h : (r * W) % q = xy % q) :
    ((z + r) * W) % q = (z * W + xy) % q := by
  rw [Nat.add_mul]; exact Nat.add_mod_eq_add_mod_left _ h

theorem two_q_lt (q qinv : Nat) (hq : 2 * q ≤ W) (hm : MontConst q qinv) : 2 * q < W := by
  have := hm.odd; unfold W at *; omega

/-- the shape of all "then subtract / negate" Montgomery kernels (`M` is `q` or `2q`) -/
theorem neg_mont_congr (c M r q xy : Nat) (hr : r ≤ M) (hM : M % q = 0)
    (h : (r * W) % q = xy % q) : ((c + (M - r)) * W + xy) % q = (c * W) % q := by
  rw [Nat.add_mod_eq_add_mod_left _ h.symm, ← Nat.add_mul, Nat.add_assoc, Nat.sub_add_cancel hr, Nat.add_mul,
    Nat.add_mod, Nat.mul_mod M, hM, Nat.zero_mul, Nat.zero_mod, Nat.add_zero, Nat.mod_mod]

/-- the shape of all "then add (mod q)" kernels -/
theorem cred_add (z r q : Nat) (hq : 2 * q ≤ W) (hz : z ≤ q) (hr : r < q) :
    CRed (u64add z r) q = (z + r) % q := by
  rw [u64add_eq z r (by omega)]
  exact CRed_spec _ q (by omega) (by omega) (by omega)

theorem addvec_lane_spec (x y z q : Nat) (hq : 0 < q) (h : x + y < 2 * q) (hW : x + y < W) :
    addvec_lane x y z q = (x + y) % q := by
  unfold addvec_lane
  rw [u64add_eq x y hW]
  exact CRed_spec _ q hq h hW

theorem addlazyvec_lane_spec (x y z : Nat) :
    addlazyvec_lane x y z = (x + y) % W ∧ (x + y < W → addlazyvec_lane x y z = x + y) :=
  ⟨rfl, fun h => u64add_eq x y h⟩

/-- the hypotheses hold for `x, y < q`, more generally for `x < 2q`, `y ≤ q` -/
theorem subvec_lane_spec (x y z q : Nat) (hq : 0 < q) (h1 : y ≤ x + q) (h2 : x + q < y + 2 * q)
    (hW : x + q < W) :
    subvec_lane x y z q = (x + q - y) % q
    ∧ subvec_lane x y z q < q
    ∧ (subvec_lane x y z q + y) % q = x % q := by
  unfold subvec_lane
  rw [u64add_eq x q hW, u64sub_eq _ y h1 hW, CRed_spec _ q hq (by omega) (by omega)]
  refine ⟨rfl, Nat.mod_lt _ hq, ?_⟩
  rw [Nat.mod_add_mod, Nat.sub_add_cancel h1, Nat.add_mod_right]

theorem sublazyvec_lane_spec (x y z q : Nat) (h1 : y ≤ x + q) (hW : x + q < W) :
    sublazyvec_lane x y z q = x + q - y
    ∧ (sublazyvec_lane x y z q + y) % q = x % q := by
  unfold sublazyvec_lane
  rw [u64add_eq x q hW, u64sub_eq _ y h1 hW]
  refine ⟨rfl, ?_⟩
  rw [Nat.sub_add_cancel h1, Nat.add_mod_right]

/-- The output range is `[0, q]`, not `[0, q)`: `x = 0 ↦ q` (`negvec_lane_zero`). -/
theorem negvec_lane_spec (x z q : Nat) (hx : x ≤ q) (hW : q < W) :
    negvec_lane x z q = q - x
    ∧ (negvec_lane x z q + x) % q = 0
    ∧ negvec_lane x z q ≤ q
    ∧ (0 < x → negvec_lane x z q < q) := by
  unfold negvec_lane
  rw [u64sub_eq q x hx hW]
  refine ⟨rfl, ?_, Nat.sub_le _ _, fun h => by omega⟩
  rw [Nat.sub_add_cancel hx, Nat.mod_self]

/-- Discrepancy: `Neg` documents `p2 = -p1 (mod modulus)`, but `negvec` maps `0` to `q`
(not reduced). -/
theorem negvec_lane_zero (z q : Nat) (hW : q < W) : negvec_lane 0 z q = q := by
  have := (negvec_lane_spec 0 z q (Nat.zero_le _) hW).1
  simpa using this

theorem addscalarvec_lane_spec (x s z q : Nat) (hq : 0 < q) (h : x + s < 2 * q) (hW : x + s < W) :
    addscalarvec_lane x s z q = (x + s) % q :=
  addvec_lane_spec x s z q hq h hW

theorem addscalarlazyvec_lane_spec (x s z : Nat) :
    addscalarlazyvec_lane x s z = (x + s) % W ∧ (x + s < W → addscalarlazyvec_lane x s z = x + s) :=
  addlazyvec_lane_spec x s z

theorem addscalarlazythenNegTwoModuluslazyvec_lane_spec (x s z q : Nat) (hx : x ≤ s + 2 * q)
    (hW : s + 2 * q < W) :
    addscalarlazythenNegTwoModuluslazyvec_lane x s z q = s + 2 * q - x
    ∧ (addscalarlazythenNegTwoModuluslazyvec_lane x s z q + x) % q = s % q := by
  unfold addscalarlazythenNegTwoModuluslazyvec_lane
  simp only []
  rw [u64shl_one q (by omega), u64add_eq _ _ hW, u64sub_eq _ x hx hW]
  refine ⟨rfl, ?_⟩
  rw [Nat.sub_add_cancel hx, Nat.add_mul_mod_self_right]

theorem subscalarvec_lane_spec (x s z q : Nat) (hq : 0 < q) (h1 : s ≤ x + q) (h2 : x + q < s + 2 * q)
    (hW : x + q < W) :
    subscalarvec_lane x s z q = (x + q - s) % q
    ∧ subscalarvec_lane x s z q < q
    ∧ (subscalarvec_lane x s z q + s) % q = x % q :=
  subvec_lane_spec x s z q hq h1 h2 hW

theorem reducevec_lane_spec (x z q : Nat) (hq : 1 < q) (hx : x < W) :
    reducevec_lane x z q (brc q) = x % q := BRedAdd_spec x q hq hx

theorem reducelazyvec_lane_spec (x z q : Nat) (hq : 1 < q) (hx : x < W) :
    reducelazyvec_lane x z q (brc q) % q = x % q ∧ reducelazyvec_lane x z q (brc q) < 2 * q :=
  BRedAddLazy_spec x q hq hx

theorem mulcoeffslazyvec_lane_spec (x y z : Nat) :
    mulcoeffslazyvec_lane x y z = (x * y) % W ∧ (x * y < W → mulcoeffslazyvec_lane x y z = x * y) :=
  ⟨rfl, fun h => Nat.mod_eq_of_lt h⟩

theorem mulcoeffslazythenaddlazyvec_lane_spec (x y z : Nat) :
    mulcoeffslazythenaddlazyvec_lane x y z = (z + x * y) % W
    ∧ (z + x * y < W → mulcoeffslazythenaddlazyvec_lane x y z = z + x * y) := by
  have h : mulcoeffslazythenaddlazyvec_lane x y z = (z + x * y) % W := by
    unfold mulcoeffslazythenaddlazyvec_lane
    simp only [u64add, u64mul, Nat.add_mod_mod]
  exact ⟨h, fun hlt => by rw [h, Nat.mod_eq_of_lt hlt]⟩

theorem mulcoeffsbarrettvec_lane_spec (x y z q : Nat) (hq : 1 < q) (h2q : 2 * q ≤ W) (hx : x < W)
    (hy : y < W) : mulcoeffsbarrettvec_lane x y z q (brc q) = (x * y) % q :=
  BRed_spec x y q hq h2q hx hy

theorem mulcoeffsbarrettlazyvec_lane_spec (x y z q : Nat) (hq : 1 < q) (h2q : 2 * q ≤ W)
    (hx : x < W) (hy : y < W) :
    mulcoeffsbarrettlazyvec_lane x y z q (brc q) % q = (x * y) % q
    ∧ mulcoeffsbarrettlazyvec_lane x y z q (brc q) < 2 * q :=
  BRedLazy_spec x y q hq h2q hx hy

/-- the kernel of `SubRing.MulCoeffsBarrettThenAdd` -/
theorem mulcoeffsthenaddvec_lane_spec (x y z q : Nat) (hq : 1 < q) (h2q : 2 * q ≤ W) (hx : x < W)
    (hy : y < W) (hz : z ≤ q) :
    mulcoeffsthenaddvec_lane x y z q (brc q) = (z + x * y) % q := by
  unfold mulcoeffsthenaddvec_lane
  rw [cred_add z _ q h2q hz (BRed_lt x y q hq h2q hx hy), BRed_spec x y q hq h2q hx hy,
    Nat.add_mod_mod]

/-- `hz` is the no-wrap side condition -/
theorem mulcoeffsbarrettthenaddlazyvec_lane_spec (x y z q : Nat) (hq : 1 < q) (h2q : 2 * q ≤ W)
    (hx : x < W) (hy : y < W) (hz : z + q ≤ W) :
    mulcoeffsbarrettthenaddlazyvec_lane x y z q (brc q) = z + (x * y) % q
    ∧ mulcoeffsbarrettthenaddlazyvec_lane x y z q (brc q) % q = (z + x * y) % q
    ∧ mulcoeffsbarrettthenaddlazyvec_lane x y z q (brc q) < z + q := by
  have hlt : (x * y) % q < q := Nat.mod_lt _ (by omega)
  unfold mulcoeffsbarrettthenaddlazyvec_lane
  rw [BRed_spec x y q hq h2q hx hy, u64add_eq _ _ (by omega)]
  exact ⟨rfl, Nat.add_mod_mod _ _ _, by omega⟩

/-- `hxy` holds as soon as one factor is `< q` -/
theorem mulcoeffsmontgomeryvec_lane_spec (x y z q qinv : Nat) (hq : 2 * q ≤ W)
    (hm : MontConst q qinv) (hxy : x * y < q * W) :
    (mulcoeffsmontgomeryvec_lane x y z q qinv * W) % q = (x * y) % q
    ∧ mulcoeffsmontgomeryvec_lane x y z q qinv < q := MRed_spec x y q qinv hq hm hxy

/-- the documented range is `[0, 2q-1]`; `0` is never produced -/
theorem mulcoeffsmontgomerylazyvec_lane_spec (x y z q qinv : Nat) (hq : 2 * q ≤ W)
    (hm : MontConst q qinv) (hxy : x * y < q * W) :
    (mulcoeffsmontgomerylazyvec_lane x y z q qinv * W) % q = (x * y) % q
    ∧ mulcoeffsmontgomerylazyvec_lane x y z q qinv < 2 * q
    ∧ 0 < mulcoeffsmontgomerylazyvec_lane x y z q qinv := MRedLazy_spec x y q qinv hq hm hxy

theorem cred_add_mred (x y z q qinv : Nat) (hq : 2 * q ≤ W) (hm : MontConst q qinv)
    (hxy : x * y < q * W) (hz : z ≤ q) :
    (CRed (u64add z (MRed x y q qinv)) q * W) % q = (z * W + x * y) % q
    ∧ CRed (u64add z (MRed x y q qinv)) q < q := by
  obtain ⟨h1, h2⟩ := MRed_spec x y q qinv hq hm hxy
  rw [cred_add z _ q hq hz h2]
  exact ⟨by rw [Nat.mod_mul_mod, add_mont z h1], Nat.mod_lt _ hm.pos⟩

theorem mulcoeffsmontgomerythenaddvec_lane_spec (x y z q qinv : Nat) (hq : 2 * q ≤ W)
    (hm : MontConst q qinv) (hxy : x * y < q * W) (hz : z ≤ q) :
    (mulcoeffsmontgomerythenaddvec_lane x y z q qinv * W) % q = (z * W + x * y) % q
    ∧ mulcoeffsmontgomerythenaddvec_lane x y z q qinv < q :=
  cred_add_mred x y z q qinv hq hm hxy hz

/-- `hz` is the no-wrap side condition -/
theorem mulcoeffsmontgomerythenaddlazyvec_lane_spec (x y z q qinv : Nat) (hq : 2 * q ≤ W)
    (hm : MontConst q qinv) (hxy : x * y < q * W) (hz : z + q ≤ W) :
    mulcoeffsmontgomerythenaddlazyvec_lane x y z q qinv = z + MRed x y q qinv
    ∧ (mulcoeffsmontgomerythenaddlazyvec_lane x y z q qinv * W) % q = (z * W + x * y) % q
    ∧ mulcoeffsmontgomerythenaddlazyvec_lane x y z q qinv < z + q := by
  obtain ⟨h1, h2⟩ := MRed_spec x y q qinv hq hm hxy
  unfold mulcoeffsmontgomerythenaddlazyvec_lane
  rw [u64add_eq _ _ (by omega)]
  exact ⟨rfl, add_mont z h1, by omega⟩

/-- `hz` is the no-wrap side condition; for `z < q` the result is within the documented `[0, 3q-2]` -/
theorem mulcoeffsmontgomerylazythenaddlazyvec_lane_spec (x y z q qinv : Nat) (hq : 2 * q ≤ W)
    (hm : MontConst q qinv) (hxy : x * y < q * W) (hz : z + 2 * q ≤ W) :
    mulcoeffsmontgomerylazythenaddlazyvec_lane x y z q qinv = z + MRedLazy x y q qinv
    ∧ (mulcoeffsmontgomerylazythenaddlazyvec_lane x y z q qinv * W) % q = (z * W + x * y) % q
    ∧ mulcoeffsmontgomerylazythenaddlazyvec_lane x y z q qinv < z + 2 * q
    ∧ z < mulcoeffsmontgomerylazythenaddlazyvec_lane x y z q qinv
    ∧ (z < q → mulcoeffsmontgomerylazythenaddlazyvec_lane x y z q qinv + 2 ≤ 3 * q) := by
  obtain ⟨h1, h2, h3⟩ := MRedLazy_spec x y q qinv hq hm hxy
  unfold mulcoeffsmontgomerylazythenaddlazyvec_lane
  rw [u64add_eq _ _ (by omega)]
  exact ⟨rfl, add_mont z h1, by omega⟩

theorem mulcoeffsmontgomerythensubvec_lane_spec (x y z q qinv : Nat) (hq : 2 * q ≤ W)
    (hm : MontConst q qinv) (hxy : x * y < q * W) (hz : z < q) :
    (mulcoeffsmontgomerythensubvec_lane x y z q qinv * W + x * y) % q = (z * W) % q
    ∧ mulcoeffsmontgomerythensubvec_lane x y z q qinv < q := by
  obtain ⟨h1, h2⟩ := MRed_spec x y q qinv hq hm hxy
  have hq0 := hm.pos
  unfold mulcoeffsmontgomerythensubvec_lane
  rw [u64sub_eq q _ (Nat.le_of_lt h2) (by omega), u64add_eq _ _ (by omega),
    CRed_spec _ q hq0 (by omega) (by omega)]
  refine ⟨?_, Nat.mod_lt _ hq0⟩
  rw [Nat.add_mod, Nat.mod_mul_mod, ← Nat.add_mod]
  exact neg_mont_congr z q _ q _ (Nat.le_of_lt h2) (Nat.mod_self q) h1

/-- `hz` is the no-wrap side condition; for `z < q` the result is in `[1, 2q-1]`, within the documented `[0, 2q-1]`,
whose upper end is attained (`mulcoeffsmontgomerythensublazyvec_lane_max`). -/
theorem mulcoeffsmontgomerythensublazyvec_lane_spec (x y z q qinv : Nat) (hq : 2 * q ≤ W)
    (hm : MontConst q qinv) (hxy : x * y < q * W) (hz : z + q < W) :
    mulcoeffsmontgomerythensublazyvec_lane x y z q qinv = z + (q - MRed x y q qinv)
    ∧ (mulcoeffsmontgomerythensublazyvec_lane x y z q qinv * W + x * y) % q = (z * W) % q
    ∧ mulcoeffsmontgomerythensublazyvec_lane x y z q qinv ≤ z + q
    ∧ z < mulcoeffsmontgomerythensublazyvec_lane x y z q qinv := by
  obtain ⟨h1, h2⟩ := MRed_spec x y q qinv hq hm hxy
  unfold mulcoeffsmontgomerythensublazyvec_lane
  rw [u64sub_eq q _ (Nat.le_of_lt h2) (by omega), u64add_eq _ _ (by omega)]
  exact ⟨rfl, neg_mont_congr z q _ q _ (Nat.le_of_lt h2) (Nat.mod_self q) h1, by omega⟩

/-- The bound `z + q` is attained: `x = 0` gives `MRed = 0`, so `z = q - 1 ↦ 2q - 1`, the upper end
of the documented `[0, 2q-1]`. -/
theorem mulcoeffsmontgomerythensublazyvec_lane_max (z q qinv : Nat) (hq : 2 * q ≤ W)
    (hm : MontConst q qinv) (hz : z + q < W) :
    mulcoeffsmontgomerythensublazyvec_lane 0 0 z q qinv = z + q := by
  have h00 : 0 * 0 < q * W := Nat.zero_mul 0 ▸ Nat.mul_pos hm.pos W_pos
  -- `MRed 0 0 < q` is a multiple of `q`, since `MRed 0 0 · 2^64 ≡ 0` and `q` is coprime to `2^64`
  obtain ⟨h1, h2⟩ := MRed_spec 0 0 q qinv hq hm h00
  have h0 : MRed 0 0 q qinv = 0 :=
    Nat.eq_zero_of_dvd_of_lt (hm.coprime.dvd_of_dvd_mul_right (Nat.dvd_of_mod_eq_zero h1)) h2
  rw [(mulcoeffsmontgomerythensublazyvec_lane_spec 0 0 z q qinv hq hm h00 hz).1, h0]; rfl

/-- `hz` is the no-wrap side condition; for `z < q` the result is in `[1, 3q-2]`, within the documented `[0, 3q-2]` -/
theorem mulcoeffsmontgomerylazythensublazyvec_lane_spec (x y z q qinv : Nat) (hq : 2 * q ≤ W)
    (hm : MontConst q qinv) (hxy : x * y < q * W) (hz : z + 2 * q ≤ W) :
    mulcoeffsmontgomerylazythensublazyvec_lane x y z q qinv = z + (2 * q - MRedLazy x y q qinv)
    ∧ (mulcoeffsmontgomerylazythensublazyvec_lane x y z q qinv * W + x * y) % q = (z * W) % q
    ∧ mulcoeffsmontgomerylazythensublazyvec_lane x y z q qinv < z + 2 * q
    ∧ z < mulcoeffsmontgomerylazythensublazyvec_lane x y z q qinv
    ∧ (z < q → mulcoeffsmontgomerylazythensublazyvec_lane x y z q qinv + 2 ≤ 3 * q) := by
  obtain ⟨h1, h2, h3⟩ := MRedLazy_spec x y q qinv hq hm hxy
  have h2q := two_q_lt q qinv hq hm
  unfold mulcoeffsmontgomerylazythensublazyvec_lane
  simp only []
  rw [u64shl_one q h2q, u64sub_eq _ _ (Nat.le_of_lt h2) h2q, u64add_eq _ _ (by omega)]
  exact ⟨rfl, neg_mont_congr z (2 * q) _ q _ (Nat.le_of_lt h2) (Nat.mul_mod_left _ _) h1, by omega⟩

/-- `1 ≤ out ≤ 2q-1`, within the documented `[0, 2q-1]`, whose upper end is attained (`MRedLazy = 1` at `x = 1`,
`y = 2^64 mod q`: `C01Words.lazyThenNeg_max`). -/
theorem mulcoeffsmontgomerylazythenNegvec_lane_spec (x y z q qinv : Nat) (hq : 2 * q ≤ W)
    (hm : MontConst q qinv) (hxy : x * y < q * W) :
    mulcoeffsmontgomerylazythenNegvec_lane x y z q qinv = 2 * q - MRedLazy x y q qinv
    ∧ (mulcoeffsmontgomerylazythenNegvec_lane x y z q qinv * W + x * y) % q = 0
    ∧ mulcoeffsmontgomerylazythenNegvec_lane x y z q qinv < 2 * q
    ∧ 0 < mulcoeffsmontgomerylazythenNegvec_lane x y z q qinv := by
  obtain ⟨h1, h2, h3⟩ := MRedLazy_spec x y q qinv hq hm hxy
  have h2q := two_q_lt q qinv hq hm
  unfold mulcoeffsmontgomerylazythenNegvec_lane
  simp only []
  rw [u64shl_one q h2q, u64sub_eq _ _ (Nat.le_of_lt h2) h2q]
  exact ⟨rfl, by simpa using neg_mont_congr 0 (2 * q) _ q _ (Nat.le_of_lt h2) (Nat.mul_mod_left _ _) h1,
    by omega⟩

/-! With the scalar in the place of the second lane the scalar kernels are the coefficient kernels, word for word. -/

theorem addlazythenmulscalarmontgomeryvec_lane_spec (x y s z q qinv : Nat) (hq : 2 * q ≤ W)
    (hm : MontConst q qinv) (hW : x + y < W) (hs : (x + y) * s < q * W) :
    (addlazythenmulscalarmontgomeryvec_lane x y s z q qinv * W) % q = ((x + y) * s) % q
    ∧ addlazythenmulscalarmontgomeryvec_lane x y s z q qinv < q := by
  unfold addlazythenmulscalarmontgomeryvec_lane
  rw [u64add_eq x y hW]
  exact MRed_spec _ s q qinv hq hm hs

theorem addscalarlazythenmulscalarmontgomeryvec_lane_spec (x s0 s1 z q qinv : Nat)
    (hq : 2 * q ≤ W) (hm : MontConst q qinv) (hW : x + s0 < W) (hs : (x + s0) * s1 < q * W) :
    (addscalarlazythenmulscalarmontgomeryvec_lane x s0 s1 z q qinv * W) % q = ((x + s0) * s1) % q
    ∧ addscalarlazythenmulscalarmontgomeryvec_lane x s0 s1 z q qinv < q :=
  addlazythenmulscalarmontgomeryvec_lane_spec x s0 s1 z q qinv hq hm hW hs

theorem mulscalarmontgomeryvec_lane_spec (x s z q qinv : Nat) (hq : 2 * q ≤ W)
    (hm : MontConst q qinv) (hxs : x * s < q * W) :
    (mulscalarmontgomeryvec_lane x s z q qinv * W) % q = (x * s) % q
    ∧ mulscalarmontgomeryvec_lane x s z q qinv < q := MRed_spec x s q qinv hq hm hxs

theorem mulscalarmontgomerylazyvec_lane_spec (x s z q qinv : Nat) (hq : 2 * q ≤ W)
    (hm : MontConst q qinv) (hxs : x * s < q * W) :
    (mulscalarmontgomerylazyvec_lane x s z q qinv * W) % q = (x * s) % q
    ∧ mulscalarmontgomerylazyvec_lane x s z q qinv < 2 * q
    ∧ 0 < mulscalarmontgomerylazyvec_lane x s z q qinv := MRedLazy_spec x s q qinv hq hm hxs

theorem mulscalarmontgomerythenaddvec_lane_spec (x s z q qinv : Nat) (hq : 2 * q ≤ W)
    (hm : MontConst q qinv) (hxs : x * s < q * W) (hz : z ≤ q) :
    (mulscalarmontgomerythenaddvec_lane x s z q qinv * W) % q = (z * W + x * s) % q
    ∧ mulscalarmontgomerythenaddvec_lane x s z q qinv < q :=
  cred_add_mred x s z q qinv hq hm hxs hz

theorem mulscalarmontgomerythenaddscalarvec_lane_spec (x s0 s1 z q qinv : Nat) (hq : 2 * q ≤ W)
    (hm : MontConst q qinv) (hxs : x * s1 < q * W) (hs0 : s0 ≤ q) :
    (mulscalarmontgomerythenaddscalarvec_lane x s0 s1 z q qinv * W) % q = (s0 * W + x * s1) % q
    ∧ mulscalarmontgomerythenaddscalarvec_lane x s0 s1 z q qinv < q := by
  unfold mulscalarmontgomerythenaddscalarvec_lane
  rw [show u64add (MRed x s1 q qinv) s0 = u64add s0 (MRed x s1 q qinv) from
    congrArg (· % W) (Nat.add_comm _ _)]
  exact cred_add_mred x s1 s0 q qinv hq hm hxs hs0

theorem subthenmulscalarmontgomeryTwoModulusvec_lane_spec (x y s z q qinv : Nat) (hq : 2 * q ≤ W)
    (hm : MontConst q qinv) (hy : y ≤ 2 * q) (hW : x + (2 * q - y) < W)
    (hs : (x + (2 * q - y)) * s < q * W) :
    (subthenmulscalarmontgomeryTwoModulusvec_lane x y s z q qinv * W) % q
      = ((x + (2 * q - y)) * s) % q
    ∧ subthenmulscalarmontgomeryTwoModulusvec_lane x y s z q qinv < q := by
  have h2q := two_q_lt q qinv hq hm
  unfold subthenmulscalarmontgomeryTwoModulusvec_lane
  simp only []
  rw [u64shl_one q h2q, u64sub_eq _ y hy h2q, Nat.add_comm x, u64add_eq _ _ (by omega)]
  rw [Nat.add_comm x] at hs
  exact MRed_spec _ s q qinv hq hm hs

theorem mformvec_lane_spec (x z q : Nat) (hq : 1 < q) (h2q : 2 * q ≤ W) (hx : x < W) :
    mformvec_lane x z q (brc q) = (x * W) % q := MForm_spec x q hq h2q hx

theorem mformlazyvec_lane_spec (x z q : Nat) (hq : 1 < q) (h2q : 2 * q ≤ W) (hx : x < W) :
    mformlazyvec_lane x z q (brc q) % q = (x * W) % q ∧ mformlazyvec_lane x z q (brc q) < 2 * q :=
  MFormLazy_spec x q hq h2q hx

theorem imformvec_lane_spec (x z q qinv : Nat) (hqW : q < W) (hm : MontConst q qinv) (hx : x < W) :
    (imformvec_lane x z q qinv * W) % q = x % q ∧ imformvec_lane x z q qinv < q :=
  IMForm_spec x q qinv hqW hm hx

theorem ZeroVec_lane_spec (x : Nat) : ZeroVec_lane x = 0 := rfl

theorem MaskVec_lane_spec (x w k z : Nat) :
    MaskVec_lane x w (2 ^ k - 1) z = (x / 2 ^ w) % 2 ^ k
    ∧ MaskVec_lane x w (2 ^ k - 1) z < 2 ^ k := by
  unfold MaskVec_lane
  rw [u64and, u64shr, Nat.and_two_pow_sub_one_eq_mod]
  exact ⟨rfl, Nat.mod_lt _ (Nat.two_pow_pos k)⟩

end Lattigo
