/-
  C04 — lemmas about key switching (Model/KeySwitch.lean), for every commutative ring:
  the inner product with a generated key has phase `(Σ d·Pg)·s_in + Σ d·e`; division by `P`;
  relinearisation; automorphisms; hoisted = plain.
-/
import Lattigo.Model.KeySwitch
import Lattigo.Proofs.Gadget
import Mathlib.Tactic.Ring
import Mathlib.Algebra.Ring.Hom.Defs
import Mathlib.Algebra.Group.Hom.Defs

set_option linter.unusedSectionVars false

namespace Lattigo.KS

section ring
variable {α : Type} [CommRing α]

theorem phase_dotRow (s : α) : ∀ (d : List α) (k : List (α × α)),
    phase (dotRow 0 d k) s = wsumRow 0 d (k.map fun r => phase r s)
  | [], _ => by simp [dotRow, wsumRow, phase]
  | _ :: _, [] => by simp [dotRow, wsumRow, phase]
  | x :: xs, (b, a) :: ks => by
      have ih := phase_dotRow s xs ks
      simp only [dotRow, wsumRow, List.map_cons, phase] at ih ⊢
      rw [← ih]; ring

theorem phase_dotMat (s : α) : ∀ (d : List (List α)) (k : List (List (α × α))),
    phase (dotMat 0 d k) s = wsumMat 0 d (k.map fun r => r.map fun e => phase e s)
  | [], _ => by simp [dotMat, wsumMat, phase]
  | _ :: _, [] => by simp [dotMat, wsumMat, phase]
  | di :: ds, ei :: es => by
      have ih := phase_dotMat s ds es
      have hr := phase_dotRow s di ei
      simp only [dotMat, wsumMat, List.map_cons, phase] at ih hr ⊢
      rw [← ih, ← hr]; ring

theorem genRowFrom_phase (pg : Nat → Nat → α) (sIn sOut : α) (i : Nat) :
    ∀ (j : Nat) (row : List (α × α)) (d : List α),
      wsumRow 0 d ((genRowFrom pg sIn sOut i j row).map fun r => phase r sOut)
        = wsumRow 0 d (idxRowFrom pg i j row) * sIn + wsumRow 0 d (row.map Prod.snd)
  | _, [], d => by cases d <;> simp [genRowFrom, idxRowFrom, wsumRow]
  | _, _ :: _, [] => by simp [wsumRow]
  | j, (a, e) :: rest, x :: xs => by
      have ih := genRowFrom_phase pg sIn sOut i (j + 1) rest xs
      simp only [genRowFrom, idxRowFrom, List.map_cons, wsumRow, gadget_row] at ih ⊢
      rw [ih]; ring

theorem genFrom_phase (pg : Nat → Nat → α) (sIn sOut : α) :
    ∀ (i : Nat) (samples : List (List (α × α))) (d : List (List α)),
      wsumMat 0 d ((genFrom pg sIn sOut i samples).map fun r => r.map fun e => phase e sOut)
        = wsumMat 0 d (idxMatFrom pg i samples) * sIn + wsumMat 0 d (eMat samples)
  | _, [], d => by cases d <;> simp [genFrom, idxMatFrom, eMat, wsumMat]
  | _, _ :: _, [] => by simp [wsumMat]
  | i, row :: rest, di :: ds => by
      have ih := genFrom_phase pg sIn sOut (i + 1) rest ds
      have hr := genRowFrom_phase pg sIn sOut i 0 row di
      simp only [genFrom, idxMatFrom, eMat, List.map_cons, wsumMat] at ih hr ⊢
      rw [ih, hr]; ring

theorem keyswitch_phase_sum (pg : Nat → Nat → α) (sIn sOut : α) (samples : List (List (α × α)))
    (d : List (List α)) :
    phase (dotMat 0 d (genEvaluationKey pg sIn sOut samples)) sOut
      = wsumMat 0 d (pgMat pg samples) * sIn + wsumMat 0 d (eMat samples) := by
  rw [phase_dotMat]
  exact genFrom_phase pg sIn sOut 0 samples d

theorem keyswitch_phase_QP (pg : Nat → Nat → α) (P c sIn sOut : α) (samples : List (List (α × α)))
    (d : List (List α)) (hg : wsumMat 0 d (pgMat pg samples) = P * c) :
    phase (dotMat 0 d (genEvaluationKey pg sIn sOut samples)) sOut
      = P * c * sIn + wsumMat 0 d (eMat samples) := by
  rw [keyswitch_phase_sum, hg]

theorem modDown_spec (P pinv xQ rho : α) (h : P * pinv = 1) :
    P * modDown pinv xQ rho = xQ - rho := by
  simp only [modDown]
  calc P * ((xQ - rho) * pinv) = (xQ - rho) * (P * pinv) := by ring
    _ = xQ - rho := by rw [h]; ring

theorem modDown_phase (P pinv s x0 x1 rho0 rho1 : α) (h : P * pinv = 1) :
    P * phase (modDown pinv x0 rho0, modDown pinv x1 rho1) s
      = phase (x0, x1) s - (rho0 + rho1 * s) := by
  simp only [phase]
  calc P * (modDown pinv x0 rho0 + modDown pinv x1 rho1 * s)
      = P * modDown pinv x0 rho0 + (P * modDown pinv x1 rho1) * s := by ring
    _ = (x0 - rho0) + (x1 - rho1) * s := by rw [modDown_spec _ _ _ _ h, modDown_spec _ _ _ _ h]
    _ = x0 + x1 * s - (rho0 + rho1 * s) := by ring

theorem modDown_phase_eq (P pinv s x0 x1 rho0 rho1 c t E ν : α) (hP : P * pinv = 1)
    (hx : phase (x0, x1) s = P * c * t + E) (hR : E - (rho0 + rho1 * s) = P * ν) :
    phase (modDown pinv x0 rho0, modDown pinv x1 rho1) s = c * t + ν := by
  have h := modDown_phase P pinv s x0 x1 rho0 rho1 hP
  rw [hx] at h
  exact (IsUnit.of_mul_eq_one pinv hP).mul_left_cancel (by rw [h, mul_add, ← hR]; ring)

end ring

section twoRings
variable {A B : Type} [CommRing A] [CommRing B]

theorem map_phase (π : A →+* B) (ct : A × A) (s : A) :
    π (phase ct s) = phase (π ct.1, π ct.2) (π s) := by
  simp [phase]

/-- `A = R_{QP}`, `B = R_Q`, `π` the reduction; `rho0`, `rho1` the centred remainders modulo `P` of the two accumulators, `ν` the
    rounding term -/
theorem keyswitch_phase (π : A →+* B) (pg : Nat → Nat → A) (P c sIn sOut : A)
    (samples : List (List (A × A))) (d : List (List A)) (pinv rho0 rho1 ν : B)
    (hg : wsumMat 0 d (pgMat pg samples) = P * c) (hP : π P * pinv = 1)
    (hν : π (wsumMat 0 d (eMat samples)) - (rho0 + rho1 * π sOut) = π P * ν) :
    let x := dotMat 0 d (genEvaluationKey pg sIn sOut samples)
    phase (modDown pinv (π x.1) rho0, modDown pinv (π x.2) rho1) (π sOut) = π c * π sIn + ν := by
  have h := congrArg π (keyswitch_phase_QP pg P c sIn sOut samples d hg)
  rw [map_phase, map_add, map_mul, map_mul] at h
  exact modDown_phase_eq (π P) pinv (π sOut) _ _ rho0 rho1 (π c) (π sIn) _ ν hP h hν

end twoRings

section users
variable {α : Type} [CommRing α]

theorem applyEvaluationKey_phase (ks ct : α × α) (sIn sOut ν : α)
    (hks : phase ks sOut = ct.2 * sIn + ν) :
    phase (applyEvaluationKey ks ct) sOut = phase ct sIn + ν := by
  simp only [phase, applyEvaluationKey] at hks ⊢
  calc ct.1 + ks.1 + ks.2 * sOut = ct.1 + (ks.1 + ks.2 * sOut) := by ring
    _ = ct.1 + ct.2 * sIn + ν := by rw [hks]; ring

theorem relin_phase (ks : α × α) (ct : α × α × α) (s ν : α)
    (hks : phase ks s = ct.2.2 * (s * s) + ν) :
    phase (relinearize ks ct) s = ct.1 + ct.2.1 * s + ct.2.2 * (s * s) + ν := by
  simp only [phase, relinearize] at hks ⊢
  calc ct.1 + ks.1 + (ct.2.1 + ks.2) * s = ct.1 + ct.2.1 * s + (ks.1 + ks.2 * s) := by ring
    _ = ct.1 + ct.2.1 * s + ct.2.2 * (s * s) + ν := by rw [hks]; ring

/-- the Galois key for `g` re-encrypts from `s` to `σ⁻¹(s)` (`GenGaloisKey`): hence `hks` under `σinv s` -/
theorem automorphism_phase (σ : α →+* α) (σinv : α → α) (ks ct : α × α) (s ν : α)
    (hinv : σ (σinv s) = s)
    (hks : phase ks (σinv s) = ct.2 * s + ν) :
    phase (automorphism σ ks ct) s = σ (phase ct s) + σ ν := by
  simp only [phase, automorphism] at hks ⊢
  calc σ (ks.1 + ct.1) + σ ks.2 * s
      = σ (ks.1 + ct.1) + σ ks.2 * σ (σinv s) := by rw [hinv]
    _ = σ (ct.1 + (ks.1 + ks.2 * σinv s)) := by simp only [map_add, map_mul]; ring
    _ = σ (ct.1 + ct.2 * s) + σ ν := by rw [hks]; simp only [map_add, map_mul]; ring

theorem automorphismHoistedLazy_phase (σ : α →+* α) (σinv : α → α) (x : α × α) (P c0 c1 s E : α)
    (hinv : σ (σinv s) = s)
    (hx : phase x (σinv s) = P * c1 * s + E) :
    phase (automorphismHoistedLazy σ x (P * c0)) s = σ (P * phase (c0, c1) s + E) := by
  simp only [phase, automorphismHoistedLazy] at hx ⊢
  calc σ (x.1 + P * c0) + σ x.2 * s
      = σ (x.1 + P * c0) + σ x.2 * σ (σinv s) := by rw [hinv]
    _ = σ (P * c0 + (x.1 + x.2 * σinv s)) := by simp only [map_add, map_mul]; ring
    _ = σ (P * (c0 + c1 * s) + E) := by rw [hx]; congr 1; ring

end users

section hoisted
variable {α : Type} [Add α] [Mul α] [Neg α] [Sub α]

/-- one entry per key row is the only case the code accepts (`BaseTwoDecomposition = 0`) -/
theorem gadgetProductHoistedLazy_eq (z : α) (decomp : List α) (evk : List (List (α × α)))
    (h : ∀ r ∈ evk, r.length = 1) :
    gadgetProductHoistedLazy z decomp evk = dotMat z (decomp.map fun d => [d]) evk := by
  simp only [gadgetProductHoistedLazy]
  rw [List.map_congr_left fun r hr => List.take_of_length_le (h r hr).le, List.map_id']

end hoisted

end Lattigo.KS
