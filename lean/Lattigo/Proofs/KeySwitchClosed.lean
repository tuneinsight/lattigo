/-
  C04 — closed phase theorems for the cases `Props/C04Stack` leaves open:
  * keys WITHOUT special modulus `P` (no division): `keyswitch_phase_closed_noP` and its users;
  * the hoisted products (`GadgetProductHoisted{,Lazy}` on `DecomposeNTT(levelQ, levelP, nbPi = levelP+1, c)`).
-/
import Lattigo.Props.C04Stack
import Lattigo.Proofs.KeySwitchHoisted

set_option linter.unusedSectionVars false

namespace Lattigo.KS.Closed
open Lattigo Lattigo.KS Lattigo.RPolyRing Lattigo.Transport Lattigo.KS.C04Ring Lattigo.StackKS

section noP
variable {qs : List ℕ} {n : ℕ} [hg : Good qs n]

theorem extZ_nil (c : RPoly) : extZ [] n c = c := by
  cases c; simp [extZ]

theorem rpOne_mul {c : RPoly} (hc : WFq qs n c) : rpOne qs n * c = c :=
  congrArg val (one_mul (lift c hc))

theorem constQ_one : constQ qs n 1 = rpOne qs n := by
  rw [constQ_eq]
  have : (WFPoly.constNat (qs := qs) (n := n) fun _ => 1) = 1 := by
    apply WFPoly.toProd_injective
    funext k
    simp [WFPoly.toProd_constNat, WFPoly.toProd_one]
  rw [this, val_one]

theorem modDownR_noP {x : RPoly} (hx : WFq qs n x) : modDownR qs.length x = x := by
  obtain ⟨h1, h2, _⟩ := hx
  have hl : x.c.length = qs.length := by rw [h2, h1]
  cases x with
  | mk xq xc =>
    simp only at h1 hl
    subst h1
    simp [modDownR, partQ, partP, List.take_of_length_le (Nat.le_of_eq hl)]

/-- a key WITHOUT special modulus: parameters without `P`, or a key generated at `LevelP = -1`; no rounding term -/
theorem keyswitch_phase_closed_noP (hqs : qs ≠ []) (hco : qs.Pairwise Nat.Coprime) (w : ℕ)
    (sIn sOut : RPoly) (samples : List (List (RPoly × RPoly))) (c0 c1 : RPoly)
    (hsIn : WFq qs n sIn) (hsOut : WFq qs n sOut) (hsm : WFpairs qs n samples)
    (hc0 : WFq qs n c0) (hc1 : WFq qs n c1)
    (hshape : samples.map List.length = gadgetShape qs (qs.length - 1) 0 w) :
    let key := genEvaluationKey (pgElt qs [] n w) sIn sOut samples
    let d := decompose [] w (key.map List.length) c1
    let E := wsumMat (RPoly.zero qs n) d (eMat samples)
    phase (applyEvaluationKey (gadgetProductR [] w qs.length key c1) (c0, c1)) sOut = phase (c0, c1) sIn + E
      ∧ WFq qs n E := by
  have : Good (qs ++ []) n := by rw [List.append_nil]; exact hg
  have hlazy := C04Stack.gadgetProductLazy_closed (qs := qs) (ps := []) (n := n) hqs hco w sIn sOut samples c1
    (by simpa using hsIn) (by simpa using hsOut) (by simpa using hsm) hc1 (by simpa using hshape)
  simp only [List.append_nil, extZ_nil, RPoly.prod, List.foldl_nil, constQ_one] at hlazy
  obtain ⟨hl, -, hx1, hx2, hE, hQP⟩ := hlazy
  rw [rpOne_mul hc1] at hQP
  intro key d E
  have hgp : gadgetProductR [] w qs.length key c1 = dotMat (RPoly.zero qs n) d key := by
    show (modDownR c1.qs.length (gadgetProductLazyR [] w qs.length key c1).1,
      modDownR c1.qs.length (gadgetProductLazyR [] w qs.length key c1).2) = _
    rw [hl, hc1.1, modDownR_noP hx1, modDownR_noP hx2]
  rw [hgp]
  exact ⟨applyEvaluationKey_phase_wf hx1 hx2 hc0 hc1 hsIn hsOut hE hQP, hE⟩

end noP

section hoisted
variable {qs ps : List ℕ} {n : ℕ} [Good qs n] [Good (qs ++ ps) n]

theorem baseRNS_le (lq nP : ℕ) (h : 1 ≤ nP) : baseRNSDecompositionVectorSize lq nP ≤ lq + 1 := by
  unfold baseRNSDecompositionVectorSize
  rw [if_neg (by omega)]
  apply Nat.div_le_of_le_mul
  calc lq + nP ≤ nP * lq + nP := by nlinarith
    _ = nP * (lq + 1) := by ring

theorem shape_w0 (hqs : qs ≠ []) (hps : ps ≠ []) {β : Type} (key : List (List β))
    (hshape : key.map List.length = gadgetShape qs (qs.length - 1) ps.length 0) :
    (∀ r ∈ key, r.length = 1) ∧ (ps.length = 1 → qs.length ≤ key.length) := by
  have hk : 1 ≤ qs.length := List.length_pos_of_ne_nil hqs
  have hp : 1 ≤ ps.length := List.length_pos_of_ne_nil hps
  have hnI := baseRNS_le (qs.length - 1) ps.length hp
  have hlen : key.length = baseRNSDecompositionVectorSize (qs.length - 1) ps.length := by
    have := congrArg List.length hshape
    simpa [gadgetShape] using this
  constructor
  · intro r hr
    have hmem : r.length ∈ key.map List.length := List.mem_map_of_mem hr
    rw [hshape] at hmem
    simp only [gadgetShape, baseTwoDecompositionVectorSize, true_or, if_true, List.mem_map, List.mem_range] at hmem
    obtain ⟨i, hi, he⟩ := hmem
    have hiq : i < qs.length := by omega
    simp [List.getD_eq_getElem?_getD, hiq] at he
    omega
  · intro h1
    rw [hlen, h1]
    simp [baseRNSDecompositionVectorSize]
    omega

/-- so every closed theorem of `Props/C04Stack` holds verbatim for the hoisted variants (`AutomorphismHoisted` =
`automorphism ∘ gadgetProductHoistedR`) -/
theorem hoisted_eq_plain_closed (hqs : qs ≠ []) (hps : ps ≠ []) (sIn sOut : RPoly)
    (samples : List (List (RPoly × RPoly))) (c1 : RPoly) (hc1 : WFq qs n c1)
    (hshape : samples.map List.length = gadgetShape qs (qs.length - 1) ps.length 0) :
    let key := genEvaluationKey (pgElt qs ps n 0) sIn sOut samples
    gadgetProductHoistedR ps ps.length qs.length key c1 = gadgetProductR ps 0 qs.length key c1
      ∧ gadgetProductHoistedLazyR ps ps.length qs.length key c1 = gadgetProductLazyR ps 0 qs.length key c1 := by
  intro key
  have hklen : key.map List.length = samples.map List.length := genEvaluationKey_lengths _ _ _ _
  obtain ⟨hrow, hlen⟩ := shape_w0 hqs hps key (hklen.trans hshape)
  have hk : 1 ≤ qs.length := List.length_pos_of_ne_nil hqs
  have hp : 1 ≤ ps.length := List.length_pos_of_ne_nil hps
  have hcq : c1.qs = qs := hc1.1
  have h := hoisted_eq_plain_R ps qs.length key c1 hp hrow (by rw [hcq]; exact hk) (by rw [hcq]; exact hlen)
  exact ⟨by simp only [gadgetProductR, gadgetProductHoistedR, h], h.symm⟩

end hoisted
end Lattigo.KS.Closed
