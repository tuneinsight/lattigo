/-
  C04 — the ring-degree switch `Y ↦ X^{gap}` (`SwitchCiphertextRingDegree{,NTT}` small → large,
  `MapSmallDimensionToLargerDimensionNTT` at key generation; `Model/KeySwitch.embedR`) IS a ring homomorphism
  `Z_q[Y]/(Y^n+1) → Z_q[X]/(X^{gap·n}+1)` on well-formed values: the hypothesis `ι : β →+* A` of
  `degree_up_phase` is discharged for the executable model.
-/
import Lattigo.Model.KeySwitch
import Lattigo.Proofs.RPolyRing
import Lattigo.Proofs.RPolyTransport

set_option linter.unusedSectionVars false

namespace Lattigo.KS.Degree
open Lattigo Lattigo.KS Lattigo.RPolyRing Lattigo.Transport Polynomial Finset

section rows
variable {q n gap : ℕ}

/-- the embedding of quotient rings `Y ↦ X^{gap}` -/
noncomputable def embHom (q n gap : ℕ) : Rq q n →+* Rq q (gap * n) :=
  AdjoinRoot.lift (AdjoinRoot.of _) ((AdjoinRoot.root (X ^ (gap * n) + 1 : (ZMod q)[X])) ^ gap) (by
    simp only [eval₂_add, eval₂_pow, eval₂_X, eval₂_one]
    rw [← pow_mul, root_pow_n, neg_add_cancel])

theorem embHom_root : embHom q n gap (AdjoinRoot.root _)
    = (AdjoinRoot.root (X ^ (gap * n) + 1 : (ZMod q)[X])) ^ gap := by
  unfold embHom; rw [AdjoinRoot.lift_root]

/-- list evaluation `Σ_i l_i x^i` -/
def evalList {F : Type} [CommRing F] : List ℕ → F → F
  | [], _ => 0
  | a :: l, x => (a : F) + x * evalList l x

theorem evalRow_eq_evalList {F : Type} [CommRing F] (m : ℕ) (l : List ℕ) (h : l.length = m) (x : F) :
    evalRow m l x = evalList l x := by
  subst h
  induction l with
  | nil => simp [evalRow, evalList]
  | cons a l ih =>
      unfold evalRow at ih ⊢
      simp only [List.length_cons, evalList]
      rw [Finset.sum_range_succ', ← ih, Finset.mul_sum]
      simp only [List.getD_cons_zero, pow_zero, mul_one, List.getD_cons_succ]
      rw [add_comm]
      congr 1
      apply Finset.sum_congr rfl
      intro i _
      ring

theorem evalList_append {F : Type} [CommRing F] : ∀ (l1 l2 : List ℕ) (x : F),
    evalList (l1 ++ l2) x = evalList l1 x + x ^ l1.length * evalList l2 x
  | [], l2, x => by simp [evalList]
  | a :: l1, l2, x => by
      simp only [List.cons_append, evalList, List.length_cons, evalList_append l1 l2 x]
      ring

theorem evalList_replicate_zero {F : Type} [CommRing F] : ∀ (k : ℕ) (x : F),
    evalList (List.replicate k 0) x = 0
  | 0, _ => rfl
  | k + 1, x => by simp [List.replicate_succ, evalList, evalList_replicate_zero k x]

theorem rowEmbed_cons (a : ℕ) (l : List ℕ) :
    rowEmbed gap (a :: l) = (a :: List.replicate (gap - 1) 0) ++ rowEmbed gap l := by
  simp [rowEmbed]

theorem rowEmbed_length (hg : 1 ≤ gap) : ∀ (l : List ℕ), (rowEmbed gap l).length = gap * l.length
  | [] => by simp [rowEmbed]
  | a :: l => by
      rw [rowEmbed_cons, List.length_append, rowEmbed_length hg l]
      simp only [List.length_cons, List.length_replicate]
      rw [Nat.mul_succ]; omega

theorem evalList_rowEmbed {F : Type} [CommRing F] (hg : 1 ≤ gap) : ∀ (l : List ℕ) (x : F),
    evalList (rowEmbed gap l) x = evalList l (x ^ gap)
  | [], x => by simp [rowEmbed, evalList]
  | a :: l, x => by
      rw [rowEmbed_cons, evalList_append, evalList_rowEmbed hg l x]
      simp only [evalList, evalList_replicate_zero, List.length_cons, List.length_replicate, mul_zero, add_zero]
      have : gap - 1 + 1 = gap := by omega
      rw [this]

theorem toQuot_rowEmbed (hg : 1 ≤ gap) (x : List ℕ) (hx : x.length = n) :
    toQuot q (gap * n) (rowEmbed gap x) = embHom q n gap (toQuot q n x) := by
  subst hx
  rw [toQuot_eq_evalRow, toQuot_eq_evalRow]
  rw [evalRow_eq_evalList _ _ (rowEmbed_length hg x), evalRow_eq_evalList _ _ rfl, evalList_rowEmbed hg]
  have push : ∀ (l : List ℕ) (r : Rq q x.length), embHom q x.length gap (evalList l r)
      = evalList l (embHom q x.length gap r) := by
    intro l r
    induction l with
    | nil => simp [evalList]
    | cons a l ih => simp only [evalList, map_add, map_mul, map_natCast, ih]
  rw [push, embHom_root]

theorem rowEmbed_wf (hg : 1 ≤ gap) (hq : 0 < q) {x : List ℕ} (hx : RowWF q n x) :
    RowWF q (gap * n) (rowEmbed gap x) := by
  refine ⟨by rw [rowEmbed_length hg, hx.len], ?_⟩
  intro y hy
  simp only [rowEmbed, List.mem_flatMap, List.mem_cons, List.mem_replicate] at hy
  obtain ⟨v, hv, h | ⟨_, h⟩⟩ := hy
  · rw [h]; exact hx.lt v hv
  · rw [h]; exact hq

/-- how `rowEmbed_mul/_add/_one/_zero` follow from `toQuot_rowEmbed`: `toQuot` is injective on well-formed rows -/
theorem rowEmbed_eq (hg : 1 ≤ gap) (hq : 2 ≤ q) (hn : 1 ≤ n) {x y : List ℕ} (hx : RowWF q n x)
    (hy : RowWF q (gap * n) y) (h : toQuot q (gap * n) y = embHom q n gap (toQuot q n x)) : rowEmbed gap x = y :=
  toQuot_inj hq (Nat.mul_pos hg hn) (rowEmbed_wf hg (by omega) hx) hy (by rw [toQuot_rowEmbed hg x hx.len, h])

theorem rowEmbed_mul (hg : 1 ≤ gap) (hq : 2 ≤ q) (hn : 1 ≤ n) {x y : List ℕ} (hx : RowWF q n x) (hy : RowWF q n y) :
    rowEmbed gap (RPoly.rowMul q x y) = RPoly.rowMul q (rowEmbed gap x) (rowEmbed gap y) := by
  have hex := rowEmbed_wf (n := n) hg (by omega : 0 < q) hx
  refine rowEmbed_eq hg hq hn (hx.mul y (by omega)) (hex.mul _ (by omega)) ?_
  rw [toQuot_rowMul (by omega) x y hx.len, map_mul, toQuot_rowMul (by omega) _ _ hex.len,
    toQuot_rowEmbed hg x hx.len, toQuot_rowEmbed hg y hy.len]

theorem rowEmbed_add (hg : 1 ≤ gap) (hq : 2 ≤ q) (hn : 1 ≤ n) {x y : List ℕ} (hx : RowWF q n x) (hy : RowWF q n y) :
    rowEmbed gap (RPoly.rowAdd q x y) = RPoly.rowAdd q (rowEmbed gap x) (rowEmbed gap y) := by
  have hex := rowEmbed_wf (n := n) hg (by omega : 0 < q) hx
  have hey := rowEmbed_wf (n := n) hg (by omega : 0 < q) hy
  refine rowEmbed_eq hg hq hn (hx.add (by omega) hy) (hex.add (by omega) hey) ?_
  rw [toQuot_rowAdd x y hx.len hy.len, map_add, toQuot_rowAdd _ _ hex.len hey.len, toQuot_rowEmbed hg x hx.len,
    toQuot_rowEmbed hg y hy.len]

theorem rowEmbed_one (hg : 1 ≤ gap) (hq : 2 ≤ q) (hn : 1 ≤ n) : rowEmbed gap (oneRow n) = oneRow (gap * n) :=
  rowEmbed_eq hg hq hn (RowWF.one hq) (RowWF.one hq)
    (by rw [toQuot_oneRow hn, toQuot_oneRow (Nat.mul_pos hg hn), map_one])

theorem rowEmbed_zero (hg : 1 ≤ gap) (hq : 2 ≤ q) (hn : 1 ≤ n) : rowEmbed gap (zeroRow n) = zeroRow (gap * n) :=
  rowEmbed_eq hg hq hn (RowWF.zero (by omega)) (RowWF.zero (by omega))
    (by rw [toQuot_zeroRow, toQuot_zeroRow, map_zero])

end rows

section rpoly
variable {qs : List ℕ} {n gap : ℕ}

theorem embedR_qs (a : RPoly) : (embedR gap a).qs = a.qs := rfl

theorem embedR_getD (a : RPoly) (i : ℕ) (hi : i < a.c.length) :
    (embedR gap a).c.getD i [] = rowEmbed gap (a.c.getD i []) := by
  simp [embedR, List.getD_eq_getElem?_getD, hi]

theorem embedR_wf [hg : Good qs n] (hgap : 1 ≤ gap) {a : RPoly} (ha : WFq qs n a) :
    WFq qs (gap * n) (embedR gap a) := by
  obtain ⟨h1, h2, h3⟩ := ha
  refine ⟨h1, by simp [embedR, h2], fun i hi => ?_⟩
  have hi' : i < a.qs.length := hi
  have hic : i < a.c.length := by omega
  rw [embedR_getD a i hic]
  have hq : 0 < a.qs[i] := by
    have := hg.q_ge_of_eq a.qs h1 i hi'
    omega
  exact rowEmbed_wf hgap hq (h3 i hi')

theorem embedR_zipRows [hg : Good qs n] (f : ℕ → List ℕ → List ℕ → List ℕ)
    (hf : ∀ q x y, 2 ≤ q → RowWF q n x → RowWF q n y → rowEmbed gap (f q x y) = f q (rowEmbed gap x) (rowEmbed gap y))
    {a b : RPoly} (ha : WFq qs n a) (hb : WFq qs n b) :
    embedR gap (RPoly.zipRows f a b) = RPoly.zipRows f (embedR gap a) (embedR gap b) := by
  obtain ⟨ha1, ha2, ha3⟩ := ha
  obtain ⟨hb1, hb2, hb3⟩ := hb
  have hbl : b.c.length = a.qs.length := by rw [hb2, hb1, ha1]
  have hea : (embedR gap a).c.length = (embedR gap a).qs.length := by simp [embedR, ha2]
  have heb : (embedR gap b).c.length = (embedR gap a).qs.length := by simp [embedR, hbl]
  refine rpoly_ext (a := embedR gap (RPoly.zipRows f a b)) (b := RPoly.zipRows f (embedR gap a) (embedR gap b)) rfl ?_ ?_
  · simp [embedR, RPoly.zipRows, ha2, hbl]
  · intro i hi
    have hl : (embedR gap (RPoly.zipRows f a b)).c.length = a.qs.length := by
      simp [embedR, RPoly.zipRows, ha2, hbl]
    have hiq : i < a.qs.length := by rw [← hl]; exact hi
    have hzl : i < (RPoly.zipRows f a b).c.length := by rw [zipRows_length f a b ha2 hbl]; exact hiq
    rw [embedR_getD _ i hzl, zipRows_getD f a b ha2 hbl i hiq,
      zipRows_getD f (embedR gap a) (embedR gap b) hea heb i hiq,
      embedR_getD a i (by omega), embedR_getD b i (by omega)]
    have hq2 : 2 ≤ a.qs[i] := hg.q_ge_of_eq a.qs ha1 i hiq
    have hbq : b.qs[i]'(by rw [hb1, ← ha1]; exact hiq) = a.qs[i] := by simp [hb1, ← ha1]
    have hyb := hb3 i (by rw [hb1, ← ha1]; exact hiq)
    rw [hbq] at hyb
    exact hf _ _ _ hq2 (ha3 i hiq) hyb

theorem embedR_mul [Good qs n] (hgap : 1 ≤ gap) {a b : RPoly} (ha : WFq qs n a) (hb : WFq qs n b) :
    embedR gap (a * b) = embedR gap a * embedR gap b :=
  embedR_zipRows RPoly.rowMul (fun _ _ _ hq hx hy => rowEmbed_mul hgap hq (Good.n_pos qs) hx hy) ha hb

theorem embedR_add [Good qs n] (hgap : 1 ≤ gap) {a b : RPoly} (ha : WFq qs n a) (hb : WFq qs n b) :
    embedR gap (a + b) = embedR gap a + embedR gap b :=
  embedR_zipRows RPoly.rowAdd (fun _ _ _ hq hx hy => rowEmbed_add hgap hq (Good.n_pos qs) hx hy) ha hb

theorem good_mul [hg : Good qs n] (hgap : 1 ≤ gap) : Good qs (gap * n) :=
  ⟨Nat.mul_pos hgap hg.n_pos, hg.q_ge⟩

/-- `degree_up_phase` (Props/C04) for the driver's `applyup` op: `embedR` is a ring homomorphism on well-formed values (`embedR_add`,
`embedR_mul`), so no hypothesis on `ι` is left -/
theorem degree_up_phase_rpoly [hg : Good qs n] (hgap : 1 ≤ gap) (ksOf : RPoly → RPoly × RPoly)
    (c0 c1 sS sL ν : RPoly) (hc0 : WFq qs n c0) (hc1 : WFq qs n c1) (hsS : WFq qs n sS)
    (hsL : WFq qs (gap * n) sL) (hν : WFq qs (gap * n) ν)
    (hk0 : WFq qs (gap * n) (ksOf (embedR gap c1)).1) (hk1 : WFq qs (gap * n) (ksOf (embedR gap c1)).2)
    (hks : phase (ksOf (embedR gap c1)) sL = embedR gap c1 * embedR gap sS + ν) :
    phase (applyEvaluationKeyUp (embedR gap) ksOf (c0, c1)) sL = embedR gap (phase (c0, c1) sS) + ν := by
  have : Good qs (gap * n) := good_mul hgap
  have hphase : embedR gap (phase (c0, c1) sS) = embedR gap c0 + embedR gap c1 * embedR gap sS := by
    simp only [phase]
    rw [embedR_add hgap hc0 (hc1.mul hsS), embedR_mul hgap hc1 hsS]
  rw [hphase]
  obtain ⟨E0, hE0⟩ := exists_lift _ (embedR_wf hgap hc0)
  obtain ⟨E1, hE1⟩ := exists_lift _ (embedR_wf hgap hc1)
  obtain ⟨ES, hES⟩ := exists_lift _ (embedR_wf hgap hsS)
  obtain ⟨K0, hK0⟩ := exists_lift _ hk0
  obtain ⟨K1, hK1⟩ := exists_lift _ hk1
  obtain ⟨SL, rfl⟩ := exists_lift sL hsL
  obtain ⟨NU, rfl⟩ := exists_lift ν hν
  simp only [applyEvaluationKeyUp, applyEvaluationKey, phase] at hks ⊢
  rw [← hK0, ← hK1, ← hE1, ← hES] at hks
  rw [← hK0, ← hK1, ← hE0, ← hE1, ← hES]
  have h : K0 + K1 * SL = E1 * ES + NU := val_injective (by simp only [val_add, val_mul]; exact hks)
  have : E0 + K0 + K1 * SL = E0 + E1 * ES + NU := by rw [add_assoc, h]; ring
  have h2 := congrArg Transport.val this
  simpa only [val_add, val_mul] using h2

end rpoly

end Lattigo.KS.Degree
