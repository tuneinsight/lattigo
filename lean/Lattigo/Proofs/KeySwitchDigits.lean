/-
  C04 — the copy branch of `DecomposeAndSplit` (one prime per digit): reducing the centred value `centerSingle q x`
  modulo `q` gives back `x` (`map_centerSingle`).  Used for the row-wise
  recombination hypothesis of `gadget_identity` with `b_0 = 1` (`Props/C04.noP_gadget_identity`).
-/
import Lattigo.Model.KeySwitch
import Mathlib.Tactic.Ring
import Mathlib.Tactic.Linarith

namespace Lattigo.KS
open RPoly

theorem centerSingle_emod (q x : Nat) (hx : x < q) : (centerSingle q x % (q : Int)).toNat = x := by
  have hq : (0 : Int) < q := by exact_mod_cast Nat.lt_of_le_of_lt (Nat.zero_le x) hx
  have hx0 : (0 : Int) ≤ (x : Int) := Int.natCast_nonneg x
  have hxq : (x : Int) < q := by exact_mod_cast hx
  unfold centerSingle
  split
  · rw [Int.sub_emod_right, Int.emod_eq_of_lt hx0 hxq, Int.toNat_natCast]
  · rw [Int.emod_eq_of_lt hx0 hxq, Int.toNat_natCast]

theorem map_centerSingle (q : Nat) : ∀ (row : List Nat), (∀ x ∈ row, x < q) →
    (row.map fun x => centerSingle q x).map (fun (x : Int) => (x % (q : Int)).toNat) = row
  | [], _ => rfl
  | x :: rest, h => by
      simp only [List.map_cons]
      rw [centerSingle_emod q x (h x (by simp)), map_centerSingle q rest (fun y hy => h y (by simp [hy]))]

end Lattigo.KS
