/-
  C04 — hoisted = plain on the executable `RPoly` model: for a key with `BaseTwoDecomposition = 0`
  and at least one special prime, `GadgetProductLazy` (digits computed on the fly) and
  `GadgetProductHoistedLazy` fed with `DecomposeNTT(levelQ, levelP, nbPi = levelP+1, c)` are the SAME
  function of `(key, c)`.
-/
import Lattigo.Proofs.KeySwitch

namespace Lattigo.KS
open RPoly

theorem evkAtLevel_rowLength (nQkey l : Nat) (evk : List (List (RPoly × RPoly)))
    (h : ∀ r ∈ evk, r.length = 1) : ∀ r ∈ evkAtLevel nQkey l evk, r.length = 1 := by
  intro r hr
  simp only [evkAtLevel, List.mem_map] at hr
  obtain ⟨r0, hr0, rfl⟩ := hr
  simpa using h r0 hr0

theorem decompose_eq_decomposeNTT (qsP : List Nat) (evk : List (List (RPoly × RPoly))) (c : RPoly)
    (hP : 1 ≤ qsP.length) (hrow : ∀ r ∈ evk, r.length = 1)
    (hc : 1 ≤ c.qs.length) (hlen : qsP.length = 1 → c.qs.length ≤ evk.length) :
    decompose qsP 0 (evk.map List.length) c = (decomposeNTT qsP qsP.length c).map fun d => [d] := by
  simp only [decompose, decomposeNTT, List.map_map]
  by_cases h2 : qsP.length ≥ 2
  · simp only [h2, if_true]
    rfl
  · have h1 : qsP.length = 1 := by omega
    simp only [h1, baseRNSDecompositionVectorSize]
    have hl : c.qs.length - 1 + 1 = c.qs.length := by omega
    simp only [if_true, Nat.div_one, hl, if_neg (by decide : ¬ (1 = 0))]
    apply List.map_congr_left
    intro i hi
    have hi' : i < evk.length := Nat.lt_of_lt_of_le (List.mem_range.mp hi) (hlen h1)
    have hmem : evk[i] ∈ evk := List.getElem_mem hi'
    simp [List.getElem?_eq_getElem hi', hrow _ hmem]

/-- for the lazy products; `gadgetProductR`, `gadgetProductHoistedR` are `modDownR` of these (`C04.hoisted_eq_plain_R`) -/
theorem hoisted_eq_plain_R (qsP : List Nat) (nQkey : Nat) (evk : List (List (RPoly × RPoly)))
    (c : RPoly) (hP : 1 ≤ qsP.length) (hrow : ∀ r ∈ evk, r.length = 1)
    (hc : 1 ≤ c.qs.length) (hlen : qsP.length = 1 → c.qs.length ≤ evk.length) :
    gadgetProductLazyR qsP 0 nQkey evk c = gadgetProductHoistedLazyR qsP qsP.length nQkey evk c := by
  simp only [gadgetProductLazyR, gadgetProductHoistedLazyR]
  rw [gadgetProductHoistedLazy_eq _ _ _ (evkAtLevel_rowLength nQkey _ evk hrow),
    decompose_eq_decomposeNTT qsP evk c hP hrow hc hlen]

end Lattigo.KS
