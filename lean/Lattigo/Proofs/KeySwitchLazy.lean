/-
  C04 — the lazy `uint64` accumulators of `GadgetProduct{,Hoisted}Lazy` never wrap (`Model/KeySwitch.gpLazyLimb`,
  tie `gplazyw`): with the code's schedule (`QiOverflowMargin >> 1` / `PiOverflowMargin >> 1`, each family on its
  own) every slot of every limb is the EXACT sum of the lazy Montgomery products modulo `p`, and that sum is the
  Montgomery-domain inner product `Σ key·digit·2^{-64}`.

  The schedule is that of the external product (`Proofs/RGSWLazy`, C20).  Difference: in the single-`P`/base-`2^w`
  loop the digits are `NTTLazy` outputs, documented in `[0, 6p−2]` (not reduced), so the term bound is `p + ⌊6p²/2^64⌋`.
-/
import Lattigo.Model.KeySwitch
import Lattigo.Proofs.RGSWLazy
import Lattigo.Proofs.ModRed

namespace Lattigo.KS
open Lattigo Lattigo.RGSW Lattigo.LazyAcc

set_option linter.unusedVariables false in
/-- Digit words below ANY bound `Y`: covers small primes in a family with a large prime (small margin) and digit words beyond
`6p` (base-`2^w` digits with `2^w > p` fed unreduced to `NTTLazy`); the numeric condition `hB` is evaluated by the probe
`lazy_digit_range` on every tied limb.  `h8` and `hY` are not needed (`RGSW.lazySlot_exact_bound` has neither). -/
theorem gpLazySlot_exact_bound (p mrc Y : Nat) (fam : List Nat) (hp : 0 < p) (h8 : 8 * p ≤ W) (hY : Y ≤ W)
    (hF : 1 ≤ lazyMargin fam) (hB : (p - 1) + lazyMargin fam * (p + p * Y / W) < W)
    (rs cs : List Nat) (hr : ∀ r ∈ rs, r < p) (hc : ∀ c ∈ cs, c < Y) :
    lazySlot p mrc (lazyMargin fam) rs cs =
      (List.zipWith (fun r c => Gen.MRedLazy r c p mrc) rs cs).sum % p :=
  lazySlot_exact_bound p mrc Y _ hp hF hB rs cs hr hc

/-- `hfam`: primes of at most 61 bits, what `rlwe` accepts.  `hc`: `< 6p` covers the reduced digits of the multiple-`P`/hoisted
loops and the `NTTLazy` outputs of the single-`P` loop.  ANY number of terms. -/
theorem gpLazySlot_exact (p mrc : Nat) (fam : List Nat) (hp : 0 < p) (hmem : p ∈ fam) (hfam : ∀ q ∈ fam, 8 * q ≤ W)
    (rs cs : List Nat) (hr : ∀ r ∈ rs, r < p) (hc : ∀ c ∈ cs, c < 6 * p) :
    lazySlot p mrc (lazyMargin fam) rs cs =
      (List.zipWith (fun r c => Gen.MRedLazy r c p mrc) rs cs).sum % p :=
  lazySlot_exact_fam 6 p mrc fam (Nat.le_refl 6) hp hmem hfam rs cs hr hc

/-- `hsmall` (`F` the margin of the family, fixed by its LARGEST prime: true when every prime of the family is below `2^31.5`)
makes a hypothesis on the digit words unnecessary: the terms are `< 2p` (`MRedLazy_eq`) and `(p−1) + F(2p−1) < 2^64`.
Covers base-`2^w` digits fed unreduced to `NTTLazy` with `2^w > p`. -/
theorem gpLazySlot_exact_small (p mrc : Nat) (fam : List Nat) (hp : 2 ≤ p) (hmem : p ∈ fam)
    (hm : MontConst p mrc) (h2p : 2 * p ≤ W) (hsmall : p ≤ lazyMargin fam + 1)
    (rs cs : List Nat) (hr : ∀ r ∈ rs, r < p) (hc : ∀ c ∈ cs, c < W) :
    lazySlot p mrc (lazyMargin fam) rs cs =
      (List.zipWith (fun r c => Gen.MRedLazy r c p mrc) rs cs).sum % p := by
  have hge := le_foldl_max fam 0 p (Or.inr hmem)
  have hFp : 2 * (lazyMargin fam * p) ≤ W - 1 := two_mul_margin_le hge (le_refl (lazyMargin fam))
  have hB : (p - 1) + lazyMargin fam * (2 * p - 1) < W := by
    rw [Nat.mul_sub, Nat.mul_one, ← Nat.mul_assoc, Nat.mul_comm _ 2, Nat.mul_assoc]
    generalize lazyMargin fam * p = A at hFp
    generalize lazyMargin fam = F at hsmall
    omega
  refine accSched_eq p _ _ (by omega) (by omega) hB _ (ListLemmas.forall_zipWith _ _ _ _ fun r hr' c hc' => ?_)
  have hxy : r * c < p * W :=
    Nat.lt_of_le_of_lt (Nat.mul_le_mul_left _ (Nat.le_of_lt (hc c hc')))
      (Nat.mul_lt_mul_of_pos_right (hr r hr') (by decide))
  exact Nat.le_sub_one_of_lt (MRedLazy_eq r c p mrc h2p hm hxy).2.1

theorem mredLazy_sum_mont (p mrc : Nat) (hm : MontConst p mrc) (h2p : 2 * p ≤ W) :
    ∀ (rs cs : List Nat), (∀ r ∈ rs, r < p) → (∀ c ∈ cs, c < W) →
      (List.zipWith (fun r c => Gen.MRedLazy r c p mrc) rs cs).sum * W % p
        = (List.zipWith (fun r c => r * c) rs cs).sum % p
  | [], _, _, _ => by simp
  | _ :: _, [], _, _ => by simp
  | r :: rs, c :: cs, hr, hc => by
      have ih := mredLazy_sum_mont p mrc hm h2p rs cs (fun x hx => hr x (List.mem_cons_of_mem _ hx))
        (fun x hx => hc x (List.mem_cons_of_mem _ hx))
      have h1 := hr r List.mem_cons_self
      have h2 := hc c List.mem_cons_self
      have hxy : r * c < p * W := by
        calc r * c ≤ r * W := Nat.mul_le_mul_left _ (Nat.le_of_lt h2)
          _ < p * W := Nat.mul_lt_mul_of_pos_right h1 (by decide)
      have ht := (MRedLazy_spec r c p mrc h2p hm hxy).1
      simp only [List.zipWith_cons_cons, List.sum_cons]
      rw [Nat.add_mul, Nat.add_mod, ht, ih, ← Nat.add_mod]

/-- with the key stored in Montgomery form (`key = a·2^64 mod p`) the slot is `Σ a_k·digit_k mod p`, the row of the canonical
`dotMat` -/
theorem gpLazySlot_montgomery (p mrc : Nat) (fam : List Nat) (hp : 0 < p) (hmem : p ∈ fam)
    (hfam : ∀ q ∈ fam, 8 * q ≤ W) (hm : MontConst p mrc)
    (rs cs : List Nat) (hr : ∀ r ∈ rs, r < p) (hc : ∀ c ∈ cs, c < 6 * p) :
    lazySlot p mrc (lazyMargin fam) rs cs * W % p = (List.zipWith (fun r c => r * c) rs cs).sum % p
      ∧ lazySlot p mrc (lazyMargin fam) rs cs < p := by
  have h8 : 8 * p ≤ W := hfam p hmem
  rw [gpLazySlot_exact p mrc fam hp hmem hfam rs cs hr hc]
  refine ⟨?_, Nat.mod_lt _ hp⟩
  rw [Nat.mod_mul_mod]
  exact mredLazy_sum_mont p mrc hm (by omega) rs cs hr (fun c h => by have := hc c h; unfold W at *; omega)

theorem getElem!_mem_or_zero (row : List Nat) (j : Nat) : row[j]! ∈ row ∨ row[j]! = 0 := by
  by_cases h : j < row.length
  · left; rw [getElem!_pos row j h]; exact List.getElem_mem h
  · right; rw [getElem!_neg row j h]; rfl

theorem transpose_mem {rows : List (List Nat)} {col : List Nat} (h : col ∈ RPoly.transpose rows) :
    ∀ x ∈ col, x = 0 ∨ ∃ row ∈ rows, x ∈ row := by
  intro x hx
  cases rows with
  | nil => simp [RPoly.transpose] at h
  | cons r rest =>
    simp only [RPoly.transpose, List.mem_map, List.mem_range] at h
    obtain ⟨j, _, rfl⟩ := h
    simp only [List.mem_map] at hx
    obtain ⟨row, hrow, rfl⟩ := hx
    rcases getElem!_mem_or_zero row j with h1 | h1
    · right; exact ⟨row, hrow, h1⟩
    · left; exact h1

/-- the limb the driver op `gplazyw` computes -/
theorem gpLazyLimb_exact (p mrc : Nat) (fam : List Nat) (hp : 0 < p) (hmem : p ∈ fam)
    (hfam : ∀ q ∈ fam, 8 * q ≤ W) (R C : List (List Nat))
    (hR : ∀ row ∈ R, ∀ x ∈ row, x < p) (hC : ∀ row ∈ C, ∀ x ∈ row, x < 6 * p) :
    gpLazyLimb p mrc fam R C
      = (List.zip (RPoly.transpose R) (RPoly.transpose C)).map fun (rs, cs) =>
          (List.zipWith (fun r c => Gen.MRedLazy r c p mrc) rs cs).sum % p := by
  unfold gpLazyLimb
  apply List.map_congr_left
  rintro ⟨rs, cs⟩ hmemz
  have h1 := (List.of_mem_zip hmemz).1
  have h2 := (List.of_mem_zip hmemz).2
  apply gpLazySlot_exact p mrc fam hp hmem hfam rs cs
  · intro r hr
    rcases transpose_mem h1 r hr with h0 | ⟨row, hrow, hx⟩
    · omega
    · exact hR row hrow r hx
  · intro c hc
    rcases transpose_mem h2 c hc with h0 | ⟨row, hrow, hx⟩
    · omega
    · exact hC row hrow c hx

end Lattigo.KS
