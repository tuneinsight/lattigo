/-
  C04 — the weighted sums `wsumRow`, `wsumMat` of `Model/KeySwitch` commute with every map that preserves `+ *`
  (used with `val : WFPoly → RPoly` and with `WFPoly.toProd`).
-/
import Lattigo.Model.KeySwitch
import Lattigo.Proofs.RPolyTransport

namespace Lattigo.KS
open Lattigo.Transport

variable {α β : Type} [Add α] [Mul α] [Neg α] [Sub α] [Add β] [Mul β] [Neg β] [Sub β] {φ : α → β} (hφ : OpsHom φ)
include hφ

theorem wsumRow_push (z : α) : ∀ (x y : List α),
    φ (wsumRow z x y) = wsumRow (φ z) (x.map φ) (y.map φ)
  | [], _ => by simp [wsumRow]
  | _ :: _, [] => by simp [wsumRow]
  | x :: xs, y :: ys => by simp only [wsumRow, List.map_cons, hφ.add, hφ.mul, wsumRow_push z xs ys]

theorem wsumMat_push (z : α) : ∀ (x y : List (List α)),
    φ (wsumMat z x y) = wsumMat (φ z) (x.map (List.map φ)) (y.map (List.map φ))
  | [], _ => by simp [wsumMat]
  | _ :: _, [] => by simp [wsumMat]
  | x :: xs, y :: ys => by
      simp only [wsumMat, List.map_cons, hφ.add, wsumRow_push hφ, wsumMat_push z xs ys]

end Lattigo.KS
