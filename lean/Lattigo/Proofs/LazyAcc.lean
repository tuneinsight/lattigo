/-
  Lazy accumulation on uint64 words, as far as it does not depend on one model: `MultiplyByDiagMatrixBSGS` (C12,
  `Proofs/LinTransLazy`), the external product with several auxiliary primes (C20, `Proofs/RGSWLazy`) and
  `GadgetProduct{,Hoisted}Lazy` (C04, `Proofs/KeySwitchLazy`) all add lazy Montgomery products into a word and reduce
  every `⌊2^64/q_max⌋ >> 1` terms.  Here: the counter modulo the margin, the bound on one lazy product, the window
  between two reductions, the maximum of a modulus chain.
-/
import Lattigo.Proofs.ModRed

namespace Lattigo.LazyAcc
open Lattigo Lattigo.Gen

theorem succ_mod_of_eq {F cnt : Nat} (hF : 1 ≤ F) (h : cnt % F = F - 1) : (cnt + 1) % F = 0 := by
  rw [← Nat.mod_add_mod, h, Nat.sub_add_cancel hF, Nat.mod_self]

theorem succ_mod_of_ne {F cnt : Nat} (hF : 1 ≤ F) (h : cnt % F ≠ F - 1) :
    (cnt + 1) % F = cnt % F + 1 := by
  have hlt := Nat.mod_lt cnt hF
  rw [← Nat.mod_add_mod]
  exact Nat.mod_eq_of_lt (by omega)

theorem u64add_u64sub_le {a h q : Nat} (hh : h % W < q) : u64add (u64sub a h) q ≤ q + a := by
  unfold u64add u64sub
  unfold W at *
  omega

/-- `MRedLazy(x, y) = ahi − H + q` on words, with `ahi = ⌊x·y / 2^64⌋` and `H = ⌊m·q / 2^64⌋ < q`: at most
    `q + ⌊x·y / 2^64⌋`, whatever the word `mrc` — much sharper than the documented `< 2q` when `x·y` is small -/
theorem mredLazy_le_hi (x y q mrc : Nat) (hq0 : 0 < q) : MRedLazy x y q mrc ≤ q + x * y / W := by
  have hH : x * y % W * mrc % W * q / W < q :=
    Nat.div_lt_of_lt_mul (Nat.mul_lt_mul_of_pos_right (Nat.mod_lt _ (by decide)) hq0)
  have hH' : x * y % W * mrc % W * q / W % W % W < q :=
    Nat.lt_of_le_of_lt (Nat.le_trans (Nat.mod_le _ _) (Nat.mod_le _ _)) hH
  exact Nat.le_trans (u64add_u64sub_le hH') (Nat.add_le_add_left (Nat.mod_le _ _) q)

/-- `N` is `2^64`, or `2^64 − 1` as the code divides -/
theorem two_mul_margin_le {q qmax M N : Nat} (hq : q ≤ qmax) (hM : M ≤ N / qmax / 2) : 2 * (M * q) ≤ N :=
  calc 2 * (M * q) = 2 * M * q := (Nat.mul_assoc ..).symm
    _ ≤ N / qmax * qmax := Nat.mul_le_mul (by omega) hq
    _ ≤ N := Nat.div_mul_le_self N qmax

/-- a reduced word plus `M ≤ ⌊2^64/qmax⌋/2` summands of size `q + ⌊c·q²/2^64⌋` stays below `2^64`, provided
    `(c+2)·qmax ≤ 2^64`: `2·M·q ≤ 2^64` and `2·M·⌊c·q²/2^64⌋ ≤ c·q`, so twice the sum is below `(c+2)·q + 2^64`.
    `c = 1`: both operands of the products reduced; `c = 6`: one operand in the `NTTLazy` range `[0, 6q)`. -/
theorem window (c q qmax M : Nat) (hq0 : 0 < q) (hq : q ≤ qmax) (hc : (c + 2) * qmax ≤ W)
    (hM : M ≤ W / qmax / 2) : (q - 1) + M * (q + c * (q * q) / W) < W := by
  have h1 : 2 * (M * q) ≤ W := two_mul_margin_le hq hM
  have h2 : 2 * (M * (c * (q * q) / W)) ≤ c * q := by
    apply Nat.le_of_mul_le_mul_right (c := W) _ (by decide)
    calc 2 * (M * (c * (q * q) / W)) * W = 2 * M * (c * (q * q) / W * W) := by ring
      _ ≤ 2 * M * (c * (q * q)) := Nat.mul_le_mul_left _ (Nat.div_mul_le_self _ _)
      _ = c * q * (2 * (M * q)) := by ring
      _ ≤ c * q * W := Nat.mul_le_mul_left _ h1
  have h3 : c * q + 2 * q ≤ W := by
    rw [← Nat.add_mul]; exact le_trans (Nat.mul_le_mul_left _ hq) hc
  rw [Nat.mul_add]
  omega

theorem one_le_margin {pmax : Nat} (hpm : 0 < pmax) (hmax : 8 * pmax ≤ W) : 1 ≤ (W - 1) / pmax / 2 := by
  rw [Nat.le_div_iff_mul_le (by decide), Nat.le_div_iff_mul_le hpm]
  unfold W at *; omega

theorem margin_le (pmax : Nat) : (W - 1) / pmax / 2 ≤ W / pmax / 2 :=
  Nat.div_le_div_right (Nat.div_le_div_right (Nat.sub_le _ _))

theorem le_foldl_max (l : List Nat) : ∀ (a x : Nat), (x = a ∨ x ∈ l) → x ≤ l.foldl max a := by
  induction l with
  | nil =>
    intro a x h
    rcases h with h | h
    · exact le_of_eq h
    · cases h
  | cons y ys ih =>
    intro a x h
    simp only [List.foldl_cons]
    rcases h with h | h
    · exact le_trans (by rw [h]; exact Nat.le_max_left _ _) (ih (max a y) (max a y) (Or.inl rfl))
    · rcases List.mem_cons.1 h with h | h
      · exact le_trans (by rw [h]; exact Nat.le_max_right _ _) (ih (max a y) (max a y) (Or.inl rfl))
      · exact ih _ x (Or.inr h)

theorem foldl_max_mem (l : List Nat) : ∀ a, l.foldl max a = a ∨ l.foldl max a ∈ l := by
  induction l with
  | nil => intro a; exact Or.inl rfl
  | cons y ys ih =>
    intro a
    rw [List.foldl_cons]
    rcases ih (max a y) with h | h
    · rcases Nat.le_total a y with hay | hay
      · right; rw [h, Nat.max_eq_right hay]; exact List.mem_cons_self ..
      · left; rw [h, Nat.max_eq_left hay]
    · exact Or.inr (List.mem_cons_of_mem _ h)

theorem foldl_max_mem_of_pos {l : List Nat} (hpos : ∀ x ∈ l, 0 < x) (hne : l ≠ []) : l.foldl max 0 ∈ l := by
  refine (foldl_max_mem l 0).resolve_left fun h => ?_
  obtain ⟨x, hx⟩ := List.exists_mem_of_ne_nil l hne
  have := le_foldl_max l 0 x (Or.inr hx)
  have := hpos x hx
  omega

theorem foldl_max_lt (l : List Nat) (b a : Nat) (ha : a < b) (h : ∀ x ∈ l, x < b) : l.foldl max a < b :=
  (foldl_max_mem l a).elim (fun e => e.symm ▸ ha) (h _)

end Lattigo.LazyAcc
