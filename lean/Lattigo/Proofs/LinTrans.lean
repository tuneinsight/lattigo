/-
  C12 — lemmas about `Lattigo.Model.LinTrans`: sorted index lists, sums over the abstract slot
  carrier, the baby-step/giant-step regrouping.
-/
import Lattigo.Model.LinTrans
import Lattigo.Proofs.ListLemmas
import Mathlib.Tactic.Ring
import Mathlib.Tactic.Linarith

namespace Lattigo.Model.LinTrans

theorem mem_insertU (a x : Int) (l : List Int) : a ∈ insertU x l ↔ a = x ∨ a ∈ l := by
  induction l with
  | nil => simp [insertU]
  | cons y ys ih =>
    unfold insertU
    split
    · exact List.mem_cons
    · split
      · rename_i hxy
        rw [hxy]
        exact ⟨Or.inr, fun h => h.elim (fun e => e ▸ List.mem_cons_self ..) id⟩
      · rw [List.mem_cons, ih, List.mem_cons]
        exact or_left_comm

theorem mem_sortU (a : Int) (l : List Int) : a ∈ sortU l ↔ a ∈ l := by
  induction l with
  | nil => simp [sortU]
  | cons x xs ih =>
    have : sortU (x :: xs) = insertU x (sortU xs) := rfl
    rw [this, mem_insertU, ih]; simp

theorem insertU_sorted (x : Int) (l : List Int) (h : l.Pairwise (· < ·)) :
    (insertU x l).Pairwise (· < ·) := by
  induction l with
  | nil => simp [insertU]
  | cons y ys ih =>
    unfold insertU
    rw [List.pairwise_cons] at h
    split
    · rename_i hxy
      refine List.pairwise_cons.2 ⟨?_, List.pairwise_cons.2 h⟩
      intro a ha
      rcases List.mem_cons.1 ha with rfl | ha
      · exact hxy
      · exact lt_trans hxy (h.1 a ha)
    · split
      · exact List.pairwise_cons.2 h
      · rename_i h1 h2
        refine List.pairwise_cons.2 ⟨?_, ih h.2⟩
        intro a ha
        rcases (mem_insertU a x ys).1 ha with rfl | ha
        · omega
        · exact h.1 a ha

theorem sortU_sorted (l : List Int) : (sortU l).Pairwise (· < ·) := by
  induction l with
  | nil => simp [sortU]
  | cons x xs ih => exact insertU_sorted x _ ih

theorem sortU_nodup (l : List Int) : (sortU l).Nodup :=
  (sortU_sorted l).imp (fun h => ne_of_lt h)

theorem insertU_perm (x : Int) (l : List Int) (hx : x ∉ l) : (insertU x l).Perm (x :: l) := by
  induction l with
  | nil => simp [insertU]
  | cons y ys ih =>
    unfold insertU
    have hxy : x ≠ y := fun e => hx (e ▸ List.mem_cons_self ..)
    have hx' : x ∉ ys := fun e => hx (List.mem_cons_of_mem _ e)
    split
    · exact List.Perm.refl _
    · exact (List.Perm.cons y (ih hx')).trans (List.Perm.swap x y ys)

theorem sortU_perm (l : List Int) (h : l.Nodup) : (sortU l).Perm l := by
  induction l with
  | nil => simp [sortU]
  | cons x xs ih =>
    rw [List.nodup_cons] at h
    have : sortU (x :: xs) = insertU x (sortU xs) := rfl
    rw [this]
    have hx : x ∉ sortU xs := fun e => h.1 ((mem_sortU x xs).1 e)
    exact (insertU_perm x _ hx).trans (List.Perm.cons x (ih h.2))

theorem insertS_perm (x : Int) (l : List Int) : (insertS x l).Perm (x :: l) := by
  induction l with
  | nil => simp [insertS]
  | cons y ys ih =>
    unfold insertS
    split
    · exact List.Perm.refl _
    · exact (List.Perm.cons y ih).trans (List.Perm.swap x y ys)

theorem sortS_perm (l : List Int) : (sortS l).Perm l := by
  induction l with
  | nil => simp [sortS]
  | cons x xs ih =>
    have : sortS (x :: xs) = insertS x (sortS xs) := rfl
    rw [this]
    exact (insertS_perm x _).trans (List.Perm.cons x ih)

/-- what the theorems assume about the slot carrier: a commutative monoid under `add`, `rot` an
    action of `(ℤ,+)` by endomorphisms of `add`/`mul`, of period `n` (the number of columns). -/
structure SlotLaws {α : Type} (O : SlotOps α) (n : Nat) : Prop where
  add_comm : ∀ a b, O.add a b = O.add b a
  add_assoc : ∀ a b c, O.add (O.add a b) c = O.add a (O.add b c)
  zero_add : ∀ a, O.add O.zero a = a
  rot_add : ∀ k a b, O.rot k (O.add a b) = O.add (O.rot k a) (O.rot k b)
  rot_mul : ∀ k a b, O.rot k (O.mul a b) = O.mul (O.rot k a) (O.rot k b)
  rot_rot : ∀ j k a, O.rot j (O.rot k a) = O.rot (j + k) a
  rot_zero : ∀ a, O.rot 0 a = a
  rot_zeroElem : ∀ k, O.rot k O.zero = O.zero
  rot_period : ∀ a, O.rot (n : Int) a = a

/-- `Σ` over a list -/
def sumL {α : Type} (O : SlotOps α) (l : List α) : α := l.foldr O.add O.zero

section
variable {α : Type} {O : SlotOps α} {n : Nat}

theorem SlotLaws.add_zero (L : SlotLaws O n) (a : α) : O.add a O.zero = a := by
  rw [L.add_comm, L.zero_add]

theorem SlotLaws.add_left_comm (L : SlotLaws O n) (a b c : α) :
    O.add a (O.add b c) = O.add b (O.add a c) := by
  rw [← L.add_assoc, L.add_comm a b, L.add_assoc]

theorem SlotLaws.rot_mul_period (L : SlotLaws O n) (m : Int) (a : α) :
    O.rot ((n : Int) * m) a = a := by
  induction m using Int.induction_on with
  | zero => simpa using L.rot_zero a
  | succ i ih =>
    have : (n : Int) * ((i : Int) + 1) = (n : Int) + (n : Int) * i := by ring
    rw [this, ← L.rot_rot, ih, L.rot_period]
  | pred i ih =>
    have h1 : O.rot ((n : Int) * (-(i : Int) - 1)) a
        = O.rot ((n : Int) * (-(i : Int) - 1)) (O.rot (n : Int) a) := by rw [L.rot_period]
    rw [h1, L.rot_rot]
    have : (n : Int) * (-(i : Int) - 1) + (n : Int) = (n : Int) * (-(i : Int)) := by ring
    rw [this, ih]

theorem foldl_add_eq (L : SlotLaws O n) (x : α) (xs : List α) :
    xs.foldl O.add x = O.add x (sumL O xs) := by
  induction xs generalizing x with
  | nil => simp [sumL, L.add_zero]
  | cons y ys ih =>
    simp only [List.foldl_cons, sumL, List.foldr_cons]
    rw [ih, L.add_assoc]; rfl

theorem accum_eq (L : SlotLaws O n) (l : List α) (h : l ≠ []) : accum O l = some (sumL O l) := by
  cases l with
  | nil => exact absurd rfl h
  | cons x xs => simp [accum, foldl_add_eq L, sumL]

theorem sumL_cons (x : α) (l : List α) : sumL O (x :: l) = O.add x (sumL O l) := rfl

theorem sumL_perm (L : SlotLaws O n) {l l' : List α} (h : l.Perm l') : sumL O l = sumL O l' := by
  induction h with
  | nil => rfl
  | cons x _ ih => simp [sumL_cons, ih]
  | swap x y l => simp [sumL_cons, L.add_left_comm]
  | trans _ _ ih1 ih2 => exact ih1.trans ih2

theorem rot_sumL (L : SlotLaws O n) (k : Int) (l : List α) :
    O.rot k (sumL O l) = sumL O (l.map (O.rot k)) := by
  induction l with
  | nil => simp [sumL, L.rot_zeroElem]
  | cons x xs ih => simp [sumL_cons, L.rot_add, ih]

theorem sumL_zeros (L : SlotLaws O n) {β : Type} (J : List β) :
    sumL O (J.map fun _ => O.zero) = O.zero := by
  induction J with
  | nil => rfl
  | cons _ _ ih => simp [sumL_cons, ih, L.zero_add]

/-- pulling one summand out of the group it belongs to -/
theorem sumL_single_out (L : SlotLaws O n) (J : List Int) (hJ : J.Nodup) (a : Int) (ha : a ∈ J)
    (x : α) (h : Int → α) :
    sumL O (J.map fun j => if a = j then O.add x (h j) else h j) = O.add x (sumL O (J.map h)) := by
  induction J with
  | nil => simp at ha
  | cons j js ih =>
    rw [List.nodup_cons] at hJ
    simp only [List.map_cons, sumL_cons]
    by_cases hj : a = j
    · subst hj
      have : (js.map fun j => if a = j then O.add x (h j) else h j) = js.map h := by
        apply List.map_congr_left
        intro j' hj'
        have : a ≠ j' := fun e => hJ.1 (e ▸ hj')
        simp [this]
      rw [this, if_pos rfl, L.add_assoc]
    · have ha' : a ∈ js := by
        rcases List.mem_cons.1 ha with e | e
        · exact absurd e hj
        · exact e
      rw [if_neg hj, ih hJ.2 ha', L.add_left_comm]

theorem sumL_fiberwise (L : SlotLaws O n) (g : Int → Int) (F : Int → α) (J : List Int)
    (hJ : J.Nodup) (ds : List Int) (hds : ∀ r ∈ ds, g r ∈ J) :
    sumL O (J.map fun j => sumL O ((ds.filter fun r => g r == j).map F)) = sumL O (ds.map F) := by
  induction ds with
  | nil =>
    have h0 : sumL O ([] : List α) = O.zero := rfl
    simp only [List.filter_nil, List.map_nil, h0]
    exact sumL_zeros L J
  | cons r rs ih =>
    have hr : g r ∈ J := hds r (List.mem_cons_self ..)
    have hrs : ∀ r' ∈ rs, g r' ∈ J := fun r' h => hds r' (List.mem_cons_of_mem _ h)
    have : (J.map fun j => sumL O (((r :: rs).filter fun r => g r == j).map F))
        = J.map fun j => if g r = j then O.add (F r) (sumL O ((rs.filter fun r => g r == j).map F))
            else sumL O ((rs.filter fun r => g r == j).map F) := by
      apply List.map_congr_left
      intro j _
      by_cases h : g r = j
      · simp [h, sumL_cons]
      · simp [h]
    rw [this, sumL_single_out L J hJ (g r) hr, ih hrs]
    rfl

end

theorem lookupI_map {β : Type} (ks : List Int) (enc : Int → β) (k : Int) (hk : k ∈ ks) :
    lookupI k (ks.map fun k => (k, enc k)) = some (enc k) := by
  induction ks with
  | nil => simp at hk
  | cons x xs ih =>
    simp only [List.map_cons, lookupI]
    by_cases hx : x = k
    · simp [hx]
    · rw [if_neg hx]
      rcases List.mem_cons.1 hk with e | e
      · exact absurd e.symm hx
      · exact ih e

theorem normIdx_of_range (n : Nat) (k : Int) (h0 : 0 ≤ k) (h1 : k < n) : normIdx n k = k :=
  Int.emod_eq_of_lt h0 h1

theorem normIdx_idem (n : Nat) (i : Int) : normIdx n (normIdx n i) = normIdx n i := by
  unfold normIdx; exact Int.emod_emod_of_dvd _ (dvd_refl _)

theorem giant_eq (n N1 : Nat) (hN : 0 < N1) (r : Int) (h0 : 0 ≤ r) (h1 : r < n) :
    giant n N1 r = r / (N1 : Int) * (N1 : Int) := by
  have hN' : (0 : Int) < (N1 : Int) := by exact_mod_cast hN
  have hq : 0 ≤ r / (N1 : Int) := Int.ediv_nonneg h0 (le_of_lt hN')
  have h2 : r / (N1 : Int) * (N1 : Int) ≤ r := Int.ediv_mul_le r (ne_of_gt hN')
  exact normIdx_of_range n _ (Int.mul_nonneg hq (le_of_lt hN')) (lt_of_le_of_lt h2 h1)

theorem giant_add_baby (n N1 : Nat) (hN : 0 < N1) (r : Int) (h0 : 0 ≤ r) (h1 : r < n) :
    giant n N1 r + baby N1 r = r := by
  rw [giant_eq n N1 hN r h0 h1]; exact Int.ediv_mul_add_emod r N1

end Lattigo.Model.LinTrans
