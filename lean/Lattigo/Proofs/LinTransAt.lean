/-
  C12 — `Diagonals.At` finds every allocated key: for a diagonal map whose indices lie in `(-n, n)`
  and are distinct modulo `n`, the key `k = i mod n` is found under the spelling the user chose
  (`k` itself, or `k - n` where the user wrote the negative index).  This is what `encode_bsgs` asks of every key,
  derived here from the index-set hypotheses alone.
-/
import Lattigo.Proofs.LinTransMatrix

namespace Lattigo.Model.LinTrans

variable {β : Type}

theorem lookupI_none_of_not_mem (m : List (Int × β)) (i : Int) (h : ∀ d ∈ m, d.1 ≠ i) :
    lookupI i m = none := by
  induction m with
  | nil => rfl
  | cons d rest ih =>
    obtain ⟨k, v⟩ := d
    have hk : k ≠ i := h (k, v) (by simp)
    simp only [lookupI, if_neg hk]
    exact ih fun d hd => h d (by simp [hd])

theorem lookupI_of_mem (m : List (Int × β)) (i : Int) (v : β) (hmem : (i, v) ∈ m)
    (hnd : (m.map (·.1)).Nodup) : lookupI i m = some v := by
  induction m with
  | nil => simp at hmem
  | cons d rest ih =>
    obtain ⟨k, w⟩ := d
    simp only [List.map_cons, List.nodup_cons] at hnd
    rcases List.mem_cons.1 hmem with h | h
    · cases h
      simp [lookupI]
    · have hk : k ≠ i := by
        intro hki
        apply hnd.1
        rw [hki]
        exact List.mem_map.2 ⟨(i, v), h, rfl⟩
      simp only [lookupI, if_neg hk]
      exact ih h hnd.2

theorem nodup_of_nodup_mod (m : List (Int × β)) (n : Nat)
    (hnd : (m.map fun d => d.1 % (n : Int)).Nodup) : (m.map (·.1)).Nodup := by
  have : (m.map fun d => d.1 % (n : Int)) = (m.map (·.1)).map (· % (n : Int)) := by
    simp [List.map_map, Function.comp_def]
  rw [this] at hnd
  exact List.Nodup.of_map _ hnd

/-- for an index in `(-n, n)` the naive branch's own normalisation `if i < 0 { i + cols }` is `normIdx` -/
theorem naiveNorm_eq (n : Nat) (i : Int) (hlo : -(n : Int) < i) (hhi : i < (n : Int)) :
    (if i < 0 then i + (n : Int) else i) = normIdx n i := by
  unfold normIdx
  split
  · have h1 : (i + (n : Int)) % (n : Int) = i % (n : Int) := by simp
    rw [← h1]; exact (Int.emod_eq_of_lt (by omega) (by omega)).symm
  · exact (Int.emod_eq_of_lt (by omega) hhi).symm

theorem diagAt_of_mem (m : List (Int × β)) (n : Nat)
    (hrange : ∀ d ∈ m, -(n : Int) < d.1 ∧ d.1 < (n : Int))
    (hnd : (m.map fun d => d.1 % (n : Int)).Nodup) (i : Int) (v : β) (hmem : (i, v) ∈ m) :
    diagAt m (normIdx n i) n = some v := by
  obtain ⟨hlo, hhi⟩ := hrange (i, v) hmem
  have hfound := lookupI_of_mem m i v hmem (nodup_of_nodup_mod m n hnd)
  rw [← naiveNorm_eq n i hlo hhi]
  split
  · -- a negative `i` is not stored under `i + n` (that would be a second index of its class), but under `i + n - n`
    have hnone : lookupI (i + (n : Int)) m = none := by
      apply lookupI_none_of_not_mem
      intro d hd hdi
      have := List.inj_on_of_nodup_map hnd hd hmem (by simp only [hdi]; simp)
      rw [this] at hdi
      simp only at hdi
      omega
    simp only [diagAt, hnone, show i + (n : Int) > 0 by omega, if_true, Int.add_sub_cancel, hfound]
  · simp only [diagAt, hfound]

/-- the diagonal the user supplied for the residue class of `k` (zero if there is none) -/
def diagOf (n : Nat) (m : List (Int × Slots n)) (k : Int) : Slots n :=
  match m.find? (fun d => d.1 % (n : Int) == k % (n : Int)) with
  | some d => d.2
  | none => fun _ _ => 0

theorem diagOf_of_mem (n : Nat) (m : List (Int × Slots n))
    (hnd : (m.map fun d => d.1 % (n : Int)).Nodup) (i : Int) (v : Slots n) (hmem : (i, v) ∈ m) :
    diagOf n m (normIdx n i) = v := by
  unfold diagOf
  cases hf : m.find? (fun d => d.1 % (n : Int) == normIdx n i % (n : Int)) with
  | none =>
    have := List.find?_eq_none.1 hf (i, v) hmem
    simp [normIdx] at this
  | some d =>
    have hd := List.mem_of_find?_eq_some hf
    have hp := List.find?_some hf
    simp only [normIdx, Int.emod_emod_of_dvd _ (dvd_refl _), beq_iff_eq] at hp
    have := List.inj_on_of_nodup_map hnd hd hmem hp
    simp [this]

theorem getLast?_filter_unique {γ : Type} (l : List γ) (p : γ → Bool) (d : γ) (hd : d ∈ l) (hp : p d = true)
    (huniq : ∀ e ∈ l, p e = true → e = d) : (l.filter p).getLast? = some d := by
  have hmem : d ∈ l.filter p := List.mem_filter.2 ⟨hd, hp⟩
  cases hl : (l.filter p).getLast? with
  | none => rw [List.getLast?_eq_none_iff.1 hl] at hmem; cases hmem
  | some e =>
    have he := List.mem_filter.1 (List.mem_of_getLast? hl)
    rw [huniq e he.1 he.2]

theorem encode_naive (n : Nat) (m : List (Int × Slots n))
    (hrange : ∀ d ∈ m, -(n : Int) < d.1 ∧ d.1 < (n : Int))
    (hnd : (m.map fun d => d.1 % (n : Int)).Nodup) (keys : List Int)
    (hall : ∀ d ∈ m, normIdx n d.1 ∈ keys)
    (hkeys : ∀ k ∈ keys, ∃ d ∈ m, k = normIdx n d.1) :
    encode (fnOps n) n 0 keys m = some (keys.map fun k => (k, diagOf n m k)) := by
  unfold encode
  simp only [if_true]
  have hallb : (m.all fun d => keys.contains (if d.1 < 0 then d.1 + (n : Int) else d.1)) = true := by
    rw [List.all_eq_true]
    intro d hd
    rw [naiveNorm_eq n d.1 (hrange d hd).1 (hrange d hd).2]
    simpa using hall d hd
  rw [if_pos hallb]
  congr 1
  apply List.map_congr_left
  intro k hk
  obtain ⟨d, hd, rfl⟩ := hkeys k hk
  have hlast : (m.filter fun e => (if e.1 < 0 then e.1 + (n : Int) else e.1) == normIdx n d.1).getLast? = some d := by
    apply getLast?_filter_unique m _ d hd
    · rw [naiveNorm_eq n d.1 (hrange d hd).1 (hrange d hd).2]; simp
    · intro e he hpe
      rw [naiveNorm_eq n e.1 (hrange e he).1 (hrange e he).2] at hpe
      have : e.1 % (n : Int) = d.1 % (n : Int) := by simpa [normIdx] using hpe
      exact List.inj_on_of_nodup_map hnd he hd this
  rw [hlast]
  simp only
  rw [diagOf_of_mem n m hnd d.1 d.2 hd]

end Lattigo.Model.LinTrans
