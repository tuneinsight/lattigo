/-
  C12 — the evaluation algorithms of `Lattigo.Model.LinTrans` compute `Σ_d diag_d ⊙ rot_d v`.
-/
import Lattigo.Proofs.LinTrans

namespace Lattigo.Model.LinTrans

variable {α : Type} {O : SlotOps α} {n : Nat}

/-- the specified value: `Σ_{d ∈ ks} diag_d ⊙ rot_d v` -/
def diagSum (O : SlotOps α) (ks : List Int) (diag : Int → α) (v : α) : α :=
  sumL O (ks.map fun d => O.mul (diag d) (O.rot d v))

theorem rotateAndEncode_eq (L : SlotLaws O n) (ρ : Int) (x : α) :
    rotateAndEncode O n ρ x = O.rot (normIdx n ρ) x := by
  unfold rotateAndEncode
  by_cases h : normIdx n ρ = 0
  · simp [h, L.rot_zero]
  · simp [h]

/-- one summand of the baby-step/giant-step evaluation, rotated by its giant step, is the
    summand of the plain diagonal method -/
theorem bsgs_term (L : SlotLaws O n) (N1 : Nat) (hN : 0 < N1) (diag : Int → α) (v : α)
    (r : Int) (h0 : 0 ≤ r) (h1 : r < n) :
    O.rot (giant n N1 r)
      (O.mul (preRot O n N1 (giant n N1 r + baby N1 r) (diag (giant n N1 r + baby N1 r)))
        (if (baby N1 r == 0) = true then v else O.rot (baby N1 r) v))
      = O.mul (diag r) (O.rot r v) := by
  have hgb := giant_add_baby n N1 hN r h0 h1
  rw [hgb]
  have hv : (if (baby N1 r == 0) = true then v else O.rot (baby N1 r) v) = O.rot (baby N1 r) v := by
    by_cases hb : baby N1 r = 0
    · simp [hb, L.rot_zero]
    · simp [hb]
  rw [hv, L.rot_mul, L.rot_rot, hgb]
  unfold preRot
  rw [rotateAndEncode_eq L, L.rot_rot, normIdx_idem]
  have hm : giant n N1 r + normIdx n (-giant n N1 r) = (n : Int) * -((-giant n N1 r) / (n : Int)) := by
    rw [normIdx, Int.emod_def]; ring
  rw [hm, L.rot_mul_period]

theorem map_normIdx_id (ks : List Int) (hr : ∀ k ∈ ks, 0 ≤ k ∧ k < (n : Int)) :
    ks.map (normIdx n) = ks := by
  conv_rhs => rw [← List.map_id ks]
  apply List.map_congr_left
  intro k hk
  exact normIdx_of_range n k (hr k hk).1 (hr k hk).2

theorem keys_map (ks : List Int) (enc : Int → α) :
    (ks.map fun k => (k, enc k)).map (·.1) = ks := by
  simp [List.map_map, Function.comp_def]

/-- one giant step `j` of `MultiplyByDiagMatrixBSGS`: the inner sum over its baby steps, rotated by `j`, is the sum of
    the plain terms over the diagonals whose giant step is `j` -/
theorem bsgsOuter_eq (L : SlotLaws O n) (N1 : Nat) (hN : 0 < N1) (ks : List Int)
    (hr : ∀ k ∈ ks, 0 ≤ k ∧ k < (n : Int)) (diag : Int → α) (v : α) (j : Int) (hj : ∃ r ∈ ks, giant n N1 r = j) :
    bsgsOuter O (ks.map fun k => (k, preRot O n N1 k (diag k))) v
        (j, sortS ((ks.filter fun r => giant n N1 r == j).map (baby N1)))
      = some (sumL O ((ks.filter fun r => giant n N1 r == j).map fun d => O.mul (diag d) (O.rot d v))) := by
  have hmem : ∀ r ∈ ks.filter fun r => giant n N1 r == j, r ∈ ks ∧ giant n N1 r = j := by
    intro r hr'
    simpa using hr'
  have hfib : ∃ r, r ∈ ks.filter fun r => giant n N1 r == j := by
    obtain ⟨r, hrk, hg⟩ := hj
    exact ⟨r, List.mem_filter.2 ⟨hrk, by simpa using hg⟩⟩
  generalize (ks.filter fun r => giant n N1 r == j) = fib at hmem hfib ⊢
  let T : Int → α := fun i =>
    O.mul (preRot O n N1 (j + i) (diag (j + i))) (if (i == 0) = true then v else O.rot i v)
  have hinner : (sortS (fib.map (baby N1))).mapM (bsgsInner O (ks.map fun k => (k, preRot O n N1 k (diag k))) v j)
      = some ((sortS (fib.map (baby N1))).map T) := by
    apply ListLemmas.mapM_eq_some_map
    intro i hi
    obtain ⟨r, hrf, rfl⟩ := List.mem_map.1 ((sortS_perm _).mem_iff.1 hi)
    obtain ⟨hrk, hg⟩ := hmem r hrf
    have : j + baby N1 r = r := by
      rw [← hg]; exact giant_add_baby n N1 hN r (hr r hrk).1 (hr r hrk).2
    simp only [bsgsInner, T, this, lookupI_map ks (fun k => preRot O n N1 k (diag k)) r hrk]
  have hne : (sortS (fib.map (baby N1))).map T ≠ [] := by
    obtain ⟨r, hrf⟩ := hfib
    have : baby N1 r ∈ sortS (fib.map (baby N1)) := (sortS_perm _).mem_iff.2 (List.mem_map_of_mem hrf)
    exact fun h => List.ne_nil_of_mem this (List.map_eq_nil_iff.1 h)
  have hrot : ∀ s : α, (if (j != 0) = true then O.rot j s else s) = O.rot j s := by
    intro s
    by_cases hj0 : j = 0
    · simp [hj0, L.rot_zero]
    · simp [hj0]
  simp only [bsgsOuter, hinner, accum_eq L _ hne, hrot]
  rw [rot_sumL L, List.map_map, sumL_perm L ((sortS_perm _).map _), List.map_map]
  congr 2
  apply List.map_congr_left
  intro r hrf
  obtain ⟨hrk, hg⟩ := hmem r hrf
  simp only [Function.comp, T]
  rw [← hg]
  exact bsgs_term L N1 hN diag v r (hr r hrk).1 (hr r hrk).2

/-- `C12.bsgs_regroup` -/
theorem evalBSGS_eq (L : SlotLaws O n) (N1 : Nat) (hN : 0 < N1) (ks : List Int)
    (hr : ∀ k ∈ ks, 0 ≤ k ∧ k < (n : Int))
    (diag : Int → α) (v : α) :
    evalBSGS O n N1 (ks.map fun k => (k, preRot O n N1 k (diag k))) v
      = .val (diagSum O ks diag v) := by
  by_cases hne : ks = []
  · subst hne
    simp [evalBSGS, bsgsIndex, sortU, accum, diagSum, sumL]
  have hmemJ : ∀ j, j ∈ sortU (ks.map (giant n N1)) ↔ ∃ r ∈ ks, giant n N1 r = j := by
    intro j; rw [mem_sortU]; simp
  have houter := ListLemmas.mapM_eq_some_map (bsgsOuter O (ks.map fun k => (k, preRot O n N1 k (diag k))) v)
    (fun ji => sumL O ((ks.filter fun r => giant n N1 r == ji.1).map fun d => O.mul (diag d) (O.rot d v)))
    ((sortU (ks.map (giant n N1))).map fun j => (j, sortS ((ks.filter fun r => giant n N1 r == j).map (baby N1))))
    (by
      intro ji hji
      obtain ⟨j, hj, rfl⟩ := List.mem_map.1 hji
      exact bsgsOuter_eq L N1 hN ks hr diag v j ((hmemJ j).1 hj))
  have hJne : (sortU (ks.map (giant n N1))).map (fun j =>
      sumL O ((ks.filter fun r => giant n N1 r == j).map fun d => O.mul (diag d) (O.rot d v))) ≠ [] := by
    obtain ⟨k, hk⟩ := List.exists_mem_of_ne_nil ks hne
    exact fun h => List.ne_nil_of_mem ((hmemJ _).2 ⟨k, hk, rfl⟩) (List.map_eq_nil_iff.1 h)
  unfold evalBSGS bsgsIndex
  simp only [map_normIdx_id ks hr, houter, List.map_map, Function.comp_def, accum_eq L _ hJne]
  congr 1
  exact sumL_fiberwise L (giant n N1) (fun d => O.mul (diag d) (O.rot d v)) _ (sortU_nodup _) ks
    (fun r hrk => (hmemJ _).2 ⟨r, hrk, rfl⟩)

/-- `C12.naive_spec` -/
theorem evalNaive_eq (L : SlotLaws O n) (ks : List Int)
    (hr : ∀ k ∈ ks, 0 ≤ k ∧ k < (n : Int)) (hnd : ks.Nodup)
    (diag : Int → α) (v : α) :
    evalNaive O n (ks.map fun k => (k, diag k)) v = .val (diagSum O ks diag v) := by
  let F : Int → α := fun d => O.mul (diag d) (O.rot d v)
  have hperm := sortU_perm ks hnd
  have hsum : diagSum O ks diag v = sumL O ((sortU ks).map F) :=
    (sumL_perm L (hperm.map F)).symm
  have hterms : ∀ (l : List Int), (∀ k ∈ l, k ∈ ks) →
      l.mapM (naiveTerm O n (ks.map fun k => (k, diag k)) v) = some (l.map F) := by
    intro l hl
    apply ListLemmas.mapM_eq_some_map
    intro k hk
    simp only [naiveTerm, F]
    rw [normIdx_of_range n k (hr k (hl k hk)).1 (hr k (hl k hk)).2, lookupI_map ks diag k (hl k hk)]
  unfold evalNaive
  simp only [keys_map]
  rw [hsum]
  have hmem : ∀ k, k ∈ sortU ks ↔ k ∈ ks := fun k => mem_sortU k ks
  cases hK : sortU ks with
  | nil => simp [sumL]
  | cons k0 rest =>
    rw [hK] at hmem
    simp only
    by_cases h0 : k0 = 0
    · subst h0
      have hrest : ∀ k ∈ rest, k ∈ ks := fun k hk => (hmem k).1 (List.mem_cons_of_mem _ hk)
      have h0mem : lookupI 0 (ks.map fun k => (k, diag k)) = some (diag 0) :=
        lookupI_map ks diag 0 ((hmem 0).1 (List.mem_cons_self ..))
      simp only [beq_self_eq_true, if_true, hterms rest hrest, h0mem, Option.map_some]
      by_cases hre : rest = []
      · subst hre
        simp only [List.map_nil, accum, Option.getD_some, List.map_cons, sumL_cons, F, L.rot_zero]
        rw [show sumL O ([] : List α) = O.zero from rfl, L.add_zero]
      · have hne : rest.map F ≠ [] := by
          intro h; rw [List.map_eq_nil_iff] at h; exact hre h
        simp only [accum_eq L _ hne, List.map_cons, sumL_cons]
        -- Go adds the product with the main diagonal after the loop over the other keys: `Σ rest + pt_0 ⊙ v`
        rw [L.add_comm]
        simp only [F, L.rot_zero]
    · have hall : ∀ k ∈ k0 :: rest, k ∈ ks := fun k hk => (hmem k).1 hk
      have hne : (k0 :: rest).map F ≠ [] := by simp
      have hb : (k0 == 0) = false := by simpa using h0
      simp only [hb, Bool.false_eq_true, if_false, hterms (k0 :: rest) hall, accum_eq L _ hne]

theorem encode_bsgs (O : SlotOps α) (n N1 : Nat) (hN : N1 ≠ 0) (keys : List Int)
    (diagonals : List (Int × α)) (diag : Int → α)
    (h : ∀ k ∈ keys, diagAt diagonals k n = some (diag k)) :
    encode O n N1 keys diagonals = some (keys.map fun k => (k, preRot O n N1 k (diag k))) := by
  unfold encode
  rw [if_neg hN]
  apply ListLemmas.mapM_eq_some_map
  intro k hk
  rw [h k hk]

theorem evalSeq_cons_val (O : SlotOps α) (lt lt' : LT α) (rest : List (LT α)) (v w : α)
    (h : evalOne O lt v = .val w) : evalSeq O (lt :: lt' :: rest) v = evalSeq O (lt' :: rest) w := by
  simp only [evalSeq, List.foldl_cons, h]

end Lattigo.Model.LinTrans
