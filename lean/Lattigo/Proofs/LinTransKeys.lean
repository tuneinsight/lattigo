/-
  C12 — the execution instance satisfies the slot laws; the Galois keys requested by an evaluation
  are among the advertised ones; `FindBestBSGSRatio` never returns 0.
-/
import Lattigo.Proofs.LinTransEval

namespace Lattigo.Model.LinTrans

theorem rotFin_val (n : Nat) (k : Int) (c : Fin n) :
    ((rotFin n k c).val : Int) = ((c.val : Int) + k) % (n : Int) := by
  have hn : (0 : Int) < (n : Int) := by have := c.isLt; omega
  simp only [rotFin]
  exact Int.toNat_of_nonneg (Int.emod_nonneg _ (ne_of_gt hn))

theorem fin_ext_of_cast (n : Nat) (a b : Fin n) (h : (a.val : Int) = (b.val : Int)) : a = b := by
  apply Fin.ext; exact_mod_cast h

theorem rotFin_rotFin (n : Nat) (j k : Int) (c : Fin n) :
    rotFin n k (rotFin n j c) = rotFin n (j + k) c := by
  apply fin_ext_of_cast
  rw [rotFin_val, rotFin_val, rotFin_val, Int.emod_add_emod, add_assoc]

theorem rotFin_zero (n : Nat) (c : Fin n) : rotFin n 0 c = c := by
  apply fin_ext_of_cast
  rw [rotFin_val, add_zero]
  exact Int.emod_eq_of_lt (by omega) (by have := c.isLt; omega)

theorem rotFin_period (n : Nat) (c : Fin n) : rotFin n (n : Int) c = c := by
  apply fin_ext_of_cast
  rw [rotFin_val, Int.add_emod_right]
  exact Int.emod_eq_of_lt (by omega) (by have := c.isLt; omega)

/-- the carrier the driver executes on is lawful -/
theorem fnOps_laws (n : Nat) : SlotLaws (fnOps n) n where
  add_comm a b := by funext r c; simp only [fnOps]; ring
  add_assoc a b c := by funext r x; simp only [fnOps]; ring
  zero_add a := by funext r c; simp only [fnOps]; ring
  rot_add k a b := rfl
  rot_mul k a b := rfl
  rot_rot j k a := by
    funext r c; simp only [fnOps]; rw [rotFin_rotFin, add_comm]
  rot_zero a := by funext r c; simp only [fnOps]; rw [rotFin_zero]
  rot_zeroElem k := rfl
  rot_period a := by funext r c; simp only [fnOps]; rw [rotFin_period]

theorem sumL_fn_apply (n : Nat) (l : List (Slots n)) (r : Nat) (c : Fin n) :
    sumL (fnOps n) l r c = (l.map fun f => f r c).foldr (· + ·) 0 := by
  induction l with
  | nil => rfl
  | cons f fs ih =>
    simp only [sumL_cons, List.map_cons, List.foldr_cons]
    rw [← ih]; rfl

theorem diagSum_fn (n : Nat) (ds : List Int) (diag : Int → Slots n) (v : Slots n) :
    diagSum (fnOps n) ds diag v = matVec n ds diag v := by
  funext r c
  unfold diagSum matVec
  rw [sumL_fn_apply, List.map_map]
  rfl

theorem normIdx_wrap (n : Nat) (i : Int) :
    normIdx n (if i < 0 then i + (n : Int) else i) = normIdx n i := by
  unfold normIdx
  split
  · exact Int.add_emod_right i n
  · rfl

theorem normIdx_range (n : Nat) (hn : 0 < n) (i : Int) : 0 ≤ normIdx n i ∧ normIdx n i < (n : Int) := by
  have hn' : (0 : Int) < (n : Int) := by exact_mod_cast hn
  exact ⟨Int.emod_nonneg _ (ne_of_gt hn'), Int.emod_lt_of_pos _ hn'⟩

theorem reqNaive_mem (n : Nat) (keys : List Int) (x : Int) (hx : x ∈ reqNaive n keys) :
    ∃ k ∈ keys, x = normIdx n k := by
  unfold reqNaive at hx
  cases hK : sortU keys with
  | nil => rw [hK] at hx; simp at hx
  | cons k0 rest =>
    rw [hK] at hx
    simp only at hx
    have hsub : ∀ k ∈ (if (k0 == 0) = true then rest else k0 :: rest), k ∈ keys := by
      intro k hk
      apply (mem_sortU k keys).1
      rw [hK]
      split at hk
      · exact List.mem_cons_of_mem _ hk
      · exact hk
    obtain ⟨k, hk, rfl⟩ := List.mem_map.1 hx
    exact ⟨k, hsub k hk, rfl⟩

/-- the naive half of `C12.lintrans_keys_sufficient` -/
theorem naive_keys_sufficient (n : Nat) (diags : List Int) (x : Int)
    (hx : x ∈ reqNaive n (sortU (diags.map fun i => if i < 0 then i + (n : Int) else i))) :
    x ∈ (bsgsIndex diags n n).rotN2 := by
  obtain ⟨k, hk, rfl⟩ := reqNaive_mem n _ x hx
  rw [mem_sortU] at hk
  obtain ⟨i, hi, rfl⟩ := List.mem_map.1 hk
  rw [normIdx_wrap, bsgsIndex, mem_sortU]
  exact List.mem_map.2 ⟨normIdx n i, List.mem_map.2 ⟨i, hi, rfl⟩, normIdx_idem n i⟩

theorem reqPreRot_subset (rots have_ : List Int) : ∀ x ∈ (reqPreRot rots have_).1, x ∈ rots := by
  unfold reqPreRot
  refine List.foldlRecOn (motive := fun acc : List Int × List Int => ∀ x ∈ acc.1, x ∈ rots) rots _
    (fun _ h => nomatch h) fun acc hacc i hi => ?_
  split
  · intro x hx
    rcases List.mem_append.1 hx with h | h
    · exact hacc x h
    · rw [List.mem_singleton] at h; exact h ▸ hi
  · exact hacc

theorem allocate_naive (diags : List Int) (cols : Nat) {logRatio : Int} (hl : logRatio < 0) :
    allocate diags cols logRatio = (0, sortU (diags.map fun i => if i < 0 then i + cols else i)) :=
  if_pos hl

theorem allocate_bsgs (diags : List Int) (cols : Nat) {logRatio : Int} (hl : ¬ logRatio < 0) :
    allocate diags cols logRatio = (findBestBSGSRatio diags cols logRatio.toNat,
      sortU ((bsgsIndex diags cols (findBestBSGSRatio diags cols logRatio.toNat)).index.flatMap
        fun ji => ji.2.map fun i => ji.1 + i)) :=
  if_neg hl

theorem allocKeys_mem (n N1 : Nat) (hn : 0 < n) (hN : 0 < N1) (diags : List Int) (k : Int)
    (hk : k ∈ sortU ((bsgsIndex diags n N1).index.flatMap fun ji => ji.2.map fun i => ji.1 + i)) :
    ∃ d ∈ diags, k = normIdx n d := by
  rw [mem_sortU] at hk
  simp only [bsgsIndex, List.mem_flatMap, List.mem_map] at hk
  obtain ⟨ji, ⟨j, _, rfl⟩, i, hi, rfl⟩ := hk
  simp only at hi
  rw [(sortS_perm _).mem_iff] at hi
  obtain ⟨r, hr, rfl⟩ := List.mem_map.1 hi
  rw [List.mem_filter] at hr
  obtain ⟨⟨d, hd, rfl⟩, hg⟩ := (show (∃ d ∈ diags, normIdx n d = r) ∧ _ from
    ⟨by simpa using hr.1, hr.2⟩)
  have hg' : giant n N1 (normIdx n d) = j := by simpa using hg
  refine ⟨d, hd, ?_⟩
  rw [← hg']
  exact giant_add_baby n N1 hN _ (normIdx_range n hn d).1 (normIdx_range n hn d).2

theorem index_keys (ds : List Int) (n N1 : Nat) :
    (bsgsIndex ds n N1).index.map (·.1) = (bsgsIndex ds n N1).rotN1 := by
  simp [bsgsIndex, List.map_map, Function.comp_def]

/-- baby or giant steps (`f`) of the allocated keys are baby or giant steps of the user's diagonals -/
theorem allocKeys_steps (n : Nat) (diags keys : List Int) (hkeys : ∀ k ∈ keys, ∃ d ∈ diags, k = normIdx n d)
    (f : Int → Int) (x : Int) (h : x ∈ sortU ((keys.map (normIdx n)).map f)) :
    x ∈ sortU ((diags.map (normIdx n)).map f) := by
  rw [mem_sortU] at h ⊢
  obtain ⟨r, hr, rfl⟩ := List.mem_map.1 h
  obtain ⟨k, hk, rfl⟩ := List.mem_map.1 hr
  obtain ⟨d, hd, rfl⟩ := hkeys k hk
  rw [normIdx_idem]
  exact List.mem_map.2 ⟨_, List.mem_map.2 ⟨d, hd, rfl⟩, rfl⟩

/-- the BSGS half of `C12.lintrans_keys_sufficient` (`keys`: the allocated ones, `allocKeys_mem`): baby steps are
    requested by `PreRotatedCiphertextForDiagonalMatrixMultiplication`, giant steps by `MultiplyByDiagMatrixBSGS` -/
theorem bsgs_keys_sufficient (n N1 : Nat) (diags keys : List Int)
    (hkeys : ∀ k ∈ keys, ∃ d ∈ diags, k = normIdx n d) (have_ : List Int) (x : Int)
    (hx : x ∈ (reqPreRot (bsgsIndex keys n N1).rotN2 have_).1 ++ reqGiant n N1 keys) :
    x ∈ sortU ((bsgsIndex diags n N1).rotN1 ++ (bsgsIndex diags n N1).rotN2) := by
  rw [mem_sortU, List.mem_append]
  rcases List.mem_append.1 hx with h | h
  · exact Or.inr (allocKeys_steps n diags keys hkeys (baby N1) x (reqPreRot_subset _ _ x h))
  · rw [reqGiant, List.mem_filter, index_keys] at h
    exact Or.inl (allocKeys_steps n diags keys hkeys (giant n N1) x h.1)

theorem length_le_one_of_all_zero (l : List Int) (hnd : l.Nodup) (h0 : ∀ a ∈ l, a = 0) :
    l.length ≤ 1 := by
  match l, hnd, h0 with
  | [], _, _ => simp
  | [_], _, _ => simp
  | a :: b :: rest, hnd, h0 =>
    have ha := h0 a (by simp)
    have hb := h0 b (by simp)
    rw [List.nodup_cons] at hnd
    exact absurd (by rw [ha, hb]; simp) hnd.1

/-- with no baby step to count (`nbN2 ≤ 0`) the ratio test `>` can only fire on a negative `nbN1` -/
theorem ratioGt_nonpos {nbN2 nbN1 : Int} {lr : Nat} (h : ratioGt nbN2 nbN1 lr = true) (h2 : nbN2 ≤ 0) :
    nbN2 < nbN1 ∧ nbN1 < 0 := by
  have hp : (1 : Int) ≤ 2 ^ lr := by exact_mod_cast Nat.one_le_two_pow
  unfold ratioGt at h
  split at h
  · rename_i hpos
    have : 0 < (2 : Int) ^ lr * nbN1 := Int.mul_pos (by omega) hpos
    simp only [gt_iff_lt, decide_eq_true_eq] at h
    omega
  · split at h
    · simp only [gt_iff_lt, decide_eq_true_eq] at h
      omega
    · rename_i hnp hnz
      simp only [decide_eq_true_eq] at h
      have hneg : nbN1 < 0 := by
        have : nbN1 ≠ 0 := by simpa using hnz
        omega
      have := Int.mul_le_mul_of_nonpos_right hp hneg.le
      exact ⟨by omega, hneg⟩

theorem findBestLoop_pos (diags : List Int) (maxN lr : Nat) (fuel N1 : Nat) (hN : 0 < N1) :
    0 < findBestLoop diags maxN lr fuel N1 := by
  induction fuel generalizing N1 with
  | zero => exact Nat.one_pos
  | succ f ih =>
    unfold findBestLoop
    split
    · simp only
      split
      · exact hN
      · split
        · rename_i hgt
          -- `N1 / 2 = 0` only for `N1 = 1`; there every baby step is 0, so `nbN2 ≤ 0`, and by `ratioGt_nonpos`
          -- the test needs `nbN2 < nbN1 < 0`, which two list lengths minus one cannot satisfy
          by_cases h1 : N1 = 1
          · subst h1
            have hlen : (bsgsIndex diags maxN 1).rotN2.length ≤ 1 := by
              apply length_le_one_of_all_zero _ (sortU_nodup _)
              intro a ha
              rw [mem_sortU] at ha
              obtain ⟨r, _, rfl⟩ := List.mem_map.1 ha
              simp [baby]
            have := ratioGt_nonpos hgt (by omega)
            omega
          · omega
        · exact ih (2 * N1) (by omega)
    · exact Nat.one_pos

theorem findBestBSGSRatio_pos (diags : List Int) (maxN lr : Nat) :
    0 < findBestBSGSRatio diags maxN lr :=
  findBestLoop_pos diags maxN lr _ 1 Nat.one_pos

end Lattigo.Model.LinTrans
