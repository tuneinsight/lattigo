/-
  C12 — lazy accumulation in `MultiplyByDiagMatrixBSGS`: the uint64 accumulators never wrap around.

  The margin `M = ⌊2^64 / max q_i⌋ >> 1` allows `M` summands between two reductions.  The first window
  starts from an assignment, every later one from a REDUCED word (`< q`), so the bound the code's
  comments suggest — "`M` lazy products below `2q` each" — gives `(q-1) + M(2q-1)`, which exceeds
  2^64 for `q = 2^61 - 1` (`C12.lazy_2q_bound_insufficient`).  What makes the code safe is the sharper
  bound `MRedLazy x y ≤ q + ⌊x·y/2^64⌋` (`LazyAcc.mredLazy_le_hi`): for reduced operands the product is at most
  `q + ⌊q²/2^64⌋`, and then `(q-1) + M·(q + ⌊q²/2^64⌋) < 2^64` for every modulus `q ≤ 2^64/3`, in
  particular every `q < 2^61` (what `CheckModuli` admits in Q and in P).
-/
import Lattigo.Model.LinTransLazy
import Lattigo.Proofs.ModRed
import Lattigo.Proofs.LazyAcc

namespace Lattigo.Model.LinTrans.Lazy
open Lattigo Lattigo.Gen Lattigo.LazyAcc

theorem natCast_beq (a b : Nat) : ((a : Int) == (b : Int)) = decide (a = b) := by
  rw [Bool.eq_iff_iff, beq_iff_eq, decide_eq_true_eq, Int.natCast_inj]

theorem reduceNow_nat (M : Nat) (hM : 1 ≤ M) (cnt : Nat) :
    reduceNow (M : Int) cnt = decide (cnt % M = M - 1) := by
  rw [reduceNow, ← Int.ofNat_tmod, show (M : Int) - 1 = ((M - 1 : Nat) : Int) by omega, natCast_beq]

theorem reduceAtEndNaive_nat (M : Nat) (len : Nat) :
    reduceAtEndNaive (M : Int) len = decide (len % M = 0) := by
  rw [reduceAtEndNaive, ← Int.ofNat_tmod, ← Int.natCast_zero, natCast_beq]

theorem reduceAtEnd_nat (M : Nat) (cnt : Nat) :
    reduceAtEnd (M : Int) cnt = decide (cnt % M ≠ 0) := by
  rw [reduceAtEnd, bne, ← reduceAtEndNaive, reduceAtEndNaive_nat, decide_not]

theorem succ_mod (M : Nat) (hM : 1 ≤ M) (c : Nat) :
    (c + 1) % M = if c % M = M - 1 then 0 else c % M + 1 := by
  split
  · exact succ_mod_of_eq hM ‹_›
  · exact succ_mod_of_ne hM ‹_›

theorem MRedLazy_le_reduced (x y q qinv : Nat) (hx : x < q) (hy : y < q) : MRedLazy x y q qinv ≤ q + q * q / W :=
  (mredLazy_le_hi x y q qinv (by omega)).trans
    (Nat.add_le_add_left (Nat.div_le_div_right (Nat.mul_le_mul hx.le hy.le)) q)

/-- invariant of `accLoop`: before summand number `cnt` the word is at most `(q-1) + (cnt mod M)·B` — a reduced
    word plus the summands of the current window — and represents the sum so far modulo `q`. -/
theorem accLoop_inv (q M B : Nat) (hq0 : 0 < q) (hM : 1 ≤ M) (hwin : (q - 1) + M * B < W) :
    ∀ (ps : List Nat), (∀ p ∈ ps, p ≤ B) → ∀ (cnt acc s : Nat), acc ≤ (q - 1) + (cnt % M) * B →
      (cnt = 0 → acc = 0) → acc % q = s % q →
      (∀ raw ∈ (accLoop q (M : Int) cnt acc ps).1, raw < W) ∧
      (accLoop q (M : Int) cnt acc ps).2 % q = (s + ps.sum) % q ∧
      (ps ≠ [] → (cnt + ps.length) % M = 0 → (accLoop q (M : Int) cnt acc ps).2 < q)
  | [], _, cnt, acc, s, _, _, h1 => ⟨fun _ h => (nomatch h), h1, fun h => absurd rfl h⟩
  | p :: ps, hps, cnt, acc, s, hacc, h0, h1 => by
    have hp : p ≤ B := hps p List.mem_cons_self
    have hr : cnt % M < M := Nat.mod_lt _ hM
    -- the sum formed at this step; the first summand assigns to a word that is 0
    have hraw : (if cnt = 0 then p else acc + p) = acc + p := by
      split
      · rename_i hc; rw [h0 hc, Nat.zero_add]
      · rfl
    have hle : (cnt % M + 1) * B ≤ M * B := Nat.mul_le_mul_right B hr
    have hrawW : acc + p < W := by rw [Nat.succ_mul] at hle; omega
    have hmod : (acc + p) % q = (s + p) % q := by rw [Nat.add_mod, h1, ← Nat.add_mod]
    have hlast : (cnt + 1) % M = 0 → (if reduceNow (M : Int) cnt then (acc + p) % q else acc + p) < q := by
      intro h
      have hred : cnt % M = M - 1 := by
        rw [succ_mod M hM] at h
        split at h
        · assumption
        · omega
      rw [reduceNow_nat M hM, decide_eq_true hred, if_pos rfl]
      exact Nat.mod_lt _ hq0
    obtain ⟨i1, i2, i3⟩ := accLoop_inv q M B hq0 hM hwin ps (fun x hx => hps x (List.mem_cons_of_mem _ hx))
      (cnt + 1) (if reduceNow (M : Int) cnt then (acc + p) % q else acc + p) (s + p)
      (by
        rw [reduceNow_nat M hM, succ_mod M hM]
        by_cases hred : cnt % M = M - 1
        · -- reduce point: the next window starts from a reduced word
          rw [decide_eq_true hred, if_pos rfl, if_pos hred]
          have := Nat.mod_lt (acc + p) hq0
          omega
        · rw [decide_eq_false hred, if_neg Bool.false_ne_true, if_neg hred, Nat.succ_mul]
          omega)
      (fun h => absurd h (Nat.succ_ne_zero _))
      (by split
          · rw [Nat.mod_mod]; exact hmod
          · exact hmod)
    simp only [accLoop, hraw, show (2 : Nat) ^ 64 = W from rfl, Nat.mod_eq_of_lt hrawW, List.sum_cons,
      List.length_cons, List.mem_cons]
    refine ⟨?_, by rw [i2, Nat.add_assoc], fun _ hlen => ?_⟩
    · rintro raw (rfl | hraw')
      · exact hrawW
      · exact i1 raw hraw'
    · by_cases hps' : ps = []
      · subst hps'
        exact hlast hlen
      · exact i3 hps' (by rw [← hlen]; congr 1; omega)

/-- `C12.lazy_accumulation_no_wrap_general` -/
theorem accRun_no_wrap (q qmax : Nat) (hq0 : 0 < q) (hq : q ≤ qmax) (h3 : 3 * qmax ≤ W)
    (ps : List Nat) (hps : ∀ p ∈ ps, p ≤ q + q * q / W) (hne : ps ≠ []) :
    let r := accRun q (halved ((W / qmax : Nat) : Int)) ps
    (∀ raw ∈ r.1, raw < W) ∧ r.2 < q ∧ r.2 % q = ps.sum % q := by
  have hqm : 0 < qmax := by omega
  -- the margin as a natural number, at least 3, halved at least 1 (`cnt % M` never divides by zero)
  have hm : 3 ≤ W / qmax := by
    rw [Nat.le_div_iff_mul_le hqm]; unfold W at *; omega
  have hhalf : halved ((W / qmax : Nat) : Int) = ((W / qmax / 2 : Nat) : Int) := by
    unfold halved; norm_cast
  have hM : 1 ≤ W / qmax / 2 := by omega
  -- `M ≤ ⌊2^64/qmax⌋/2`, `q ≤ qmax`, `3·qmax ≤ 2^64`: a reduced word plus `M` summands stays below 2^64
  have hwin := window 1 q qmax (W / qmax / 2) hq0 hq h3 (le_refl _)
  rw [Nat.one_mul] at hwin
  obtain ⟨hnw, hcong, hfin⟩ := accLoop_inv q (W / qmax / 2) (q + q * q / W) hq0 hM hwin ps hps 0 0 0
    (Nat.zero_le _) (fun _ => rfl) rfl
  simp only [accRun, hhalf]
  refine ⟨hnw, ?_, ?_⟩
  · rw [reduceAtEnd_nat]
    by_cases hz : ps.length % (W / qmax / 2) = 0
    · simp only [hz, ne_eq, not_true_eq_false, decide_false, Bool.false_eq_true, if_false]
      exact hfin hne (by rwa [Nat.zero_add])
    · simp only [hz, ne_eq, not_false_eq_true, decide_true, if_true]
      exact Nat.mod_lt _ hq0
  · rw [Nat.zero_add] at hcong
    split
    · rw [Nat.mod_mod]; exact hcong
    · exact hcong

/-- `C12.lazy_accumulation_no_wrap`, as the code sets it up: `2^61` is the bound `CheckModuli` enforces for Q and
    for P, `x` an encoded diagonal in Montgomery form, `y` a coefficient of the pre-rotated ciphertext. -/
theorem lazy_accumulation_no_wrap (qs : List Nat) (hqs : ∀ x ∈ qs, x < 2 ^ 61) (q qinv : Nat) (hq : q ∈ qs)
    (hm : MontConst q qinv) (xys : List (Nat × Nat)) (hxy : ∀ xy ∈ xys, xy.1 < q ∧ xy.2 < q) (hne : xys ≠ []) :
    let ps := xys.map fun xy => MRedLazy xy.1 xy.2 q qinv
    let r := accRun q (halved (overflowMargin qs)) ps
    (∀ raw ∈ r.1, raw < W) ∧ r.2 < q ∧ r.2 % q = ps.sum % q := by
  intro ps r
  have hmarg : overflowMargin qs = ((W / qs.foldl max 0 : Nat) : Int) := by
    cases qs with
    | nil => cases hq
    | cons _ _ => rfl
  have hq0 : 0 < q := hm.pos
  have hle : q ≤ qs.foldl max 0 := le_foldl_max qs 0 q (Or.inr hq)
  have hlt : qs.foldl max 0 < 2 ^ 61 := foldl_max_lt qs _ 0 (by decide) hqs
  have h3 : 3 * qs.foldl max 0 ≤ W := by unfold W; omega
  have hps : ∀ p ∈ ps, p ≤ q + q * q / W := by
    intro p hp
    obtain ⟨xy, hxy', rfl⟩ := List.mem_map.1 hp
    exact MRedLazy_le_reduced xy.1 xy.2 q qinv (hxy xy hxy').1 (hxy xy hxy').2
  have := accRun_no_wrap q (qs.foldl max 0) hq0 hle h3 ps hps (by simpa [ps] using hne)
  simpa [r, hmarg] using this

def isModDownInner : Ev → Bool
  | .modDownInner _ => true
  | _ => false

theorem countP_evIf (b : Bool) (e : Ev) :
    (evIf b e).countP isModDownInner = if b && isModDownInner e then 1 else 0 := by
  cases b <;> cases h : isModDownInner e <;> simp [evIf, h]

theorem innerLoop_no_modDown (MQ MP : Int) (j : Int) (is : List Int) :
    ∀ cnt, (innerLoop MQ MP j cnt is).countP isModDownInner = 0 := by
  induction is with
  | nil => intro _; rfl
  | cons i is ih =>
    intro cnt
    simp only [innerLoop, List.countP_append, ih, countP_evIf, isModDownInner, Bool.and_false,
      Bool.false_eq_true, if_false]
    split <;> rfl

/-- `C12.modDown_once_per_giant_step`; the final ModDown of the result is a different event and not counted here -/
theorem modDown_once_per_giant_step (MQ MP : Int) (index : List (Int × List Int)) :
    (bsgsSchedule MQ MP index).countP isModDownInner = (index.filter fun ji => ji.1 != 0).length := by
  have houter : ∀ (l : List (Int × List Int)) (cnt0 : Nat),
      (outerLoop MQ MP cnt0 l).countP isModDownInner = (l.filter fun ji => ji.1 != 0).length := by
    intro l
    induction l with
    | nil => intro _; rfl
    | cons ji rest ih =>
      intro cnt0
      have hmid : ([if cnt0 = 0 then Ev.outerAssign ji.1 else Ev.outerAdd ji.1]).countP isModDownInner = 0 := by
        split <;> rfl
      simp only [outerLoop, giantStep, List.countP_append, ih, innerLoop_no_modDown, countP_evIf, hmid,
        isModDownInner, Bool.and_false, Bool.and_true, Bool.false_eq_true, if_false, List.filter_cons]
      by_cases hj : ji.1 = 0
      · simp [hj]
      · simp [hj]; omega
  unfold bsgsSchedule
  split
  · rename_i he
    rw [List.isEmpty_iff.1 he]
    rfl
  · simp only [List.countP_append, houter, countP_evIf, isModDownInner, Bool.and_false, Bool.false_eq_true,
      if_false]
    rfl

/-- the naive algorithm's final test `len(keys) % M == 0` fires exactly when the LAST iteration has
    already reduced: the final reduction is redundant, and for `len(keys) % M ≠ 0` nothing is reduced
    after the last iteration — harmless only because `MulCoeffsMontgomeryThenAdd` is not lazy -/
theorem naive_final_reduce_redundant (M : Nat) (hM : 1 ≤ M) (len : Nat) (hlen : 1 ≤ len) :
    reduceAtEndNaive (M : Int) len = reduceNow (M : Int) (len - 1) := by
  rw [reduceAtEndNaive_nat, reduceNow_nat M hM]
  conv_lhs => rw [show len = len - 1 + 1 by omega, succ_mod M hM]
  by_cases h : (len - 1) % M = M - 1 <;> simp [h]

end Lattigo.Model.LinTrans.Lazy
