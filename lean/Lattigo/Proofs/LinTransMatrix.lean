/-
  C12 — the diagonal method IS the matrix–vector product: `matVec` (what the evaluation algorithms
  are proved to return) equals `Σ_{c'} M[c][c'] · v[c']` for the matrix whose generalised diagonals
  are the given ones.
-/
import Lattigo.Proofs.LinTransKeys
import Mathlib.Algebra.BigOperators.Fin

namespace Lattigo.Model.LinTrans

open Finset

/-- the plaintext matrix (of row `r` of the packing) given by its generalised diagonals:
    `M[c][c'] = diag_d[c]` for `d = (c' - c) mod n` if `d` is one of the indices, else 0. -/
def matrixOf (n : Nat) (ds : List Int) (diag : Int → Slots n) (r : Nat) (c c' : Fin n) : Int :=
  if (((c'.val : Int) - (c.val : Int)) % (n : Int)) ∈ ds
  then diag (((c'.val : Int) - (c.val : Int)) % (n : Int)) r c else 0

theorem diagIdx_iff (n : Nat) (d : Int) (h0 : 0 ≤ d) (h1 : d < n) (c c' : Fin n) :
    (((c'.val : Int) - (c.val : Int)) % (n : Int) = d) ↔ c' = rotFin n d c := by
  have hc' : (0 : Int) ≤ (c'.val : Int) ∧ (c'.val : Int) < n := ⟨by omega, by have := c'.isLt; omega⟩
  constructor
  · intro h
    apply fin_ext_of_cast
    rw [rotFin_val, ← h, Int.add_emod_emod]
    have : (c.val : Int) + ((c'.val : Int) - (c.val : Int)) = (c'.val : Int) := by ring
    rw [this, Int.emod_eq_of_lt hc'.1 hc'.2]
  · intro h
    have hv := rotFin_val n d c
    rw [← h] at hv
    rw [hv, Int.emod_sub_emod]
    have : (c.val : Int) + d - (c.val : Int) = d := by ring
    rw [this, Int.emod_eq_of_lt h0 h1]

/-- `C12.diag_method` on `matVec` -/
theorem matVec_eq_matrix (n : Nat) (ds : List Int) (hnd : ds.Nodup)
    (hr : ∀ d ∈ ds, 0 ≤ d ∧ d < (n : Int)) (diag : Int → Slots n) (v : Slots n) (r : Nat) (c : Fin n) :
    matVec n ds diag v r c = ∑ c' : Fin n, matrixOf n ds diag r c c' * v r c' := by
  induction ds with
  | nil => simp [matVec, matrixOf]
  | cons d ds ih =>
    rw [List.nodup_cons] at hnd
    have hd := hr d (List.mem_cons_self ..)
    have ih' := ih hnd.2 (fun x hx => hr x (List.mem_cons_of_mem _ hx))
    have hstep : matVec n (d :: ds) diag v r c
        = diag d r c * v r (rotFin n d c) + matVec n ds diag v r c := by
      simp [matVec]
    rw [hstep, ih']
    have hpt : ∀ c' : Fin n, matrixOf n (d :: ds) diag r c c' * v r c'
        = (if c' = rotFin n d c then diag d r c * v r c' else 0) + matrixOf n ds diag r c c' * v r c' := by
      intro c'
      unfold matrixOf
      simp only [← diagIdx_iff n d hd.1 hd.2 c c']
      by_cases h : ((c'.val : Int) - (c.val : Int)) % (n : Int) = d
      · rw [if_pos h, h, if_pos List.mem_cons_self, if_neg hnd.1]
        ring
      · simp only [List.mem_cons, h, false_or, if_false, zero_add]
    rw [Finset.sum_congr rfl (fun c' _ => hpt c'), Finset.sum_add_distrib]
    congr 1
    rw [Finset.sum_ite_eq' Finset.univ (rotFin n d c) (fun c' => diag d r c * v r c')]
    simp

end Lattigo.Model.LinTrans
