/-
  C12 — `EvaluateSequential`: level and scale bookkeeping (`seqMeta`, bgv: exact scales modulo the prime
  `t`) as a fold of one step; too few levels, the reduced scale, the closed form.
-/
import Lattigo.Model.LinTrans
import Lattigo.Proofs.GaloisExp
import Mathlib.FieldTheory.Finite.Basic

namespace Lattigo.Model.LinTrans
open Lattigo.Model

/-- the inverse `Rescale` multiplies the scale with: `q^(t-2) mod t` is `q⁻¹` in `ZMod t`; `t < 2^64` because `modExp`
    runs 64 rounds, one per bit of a `uint64` exponent -/
theorem cast_modExp_inv (t q : Nat) [hp : Fact t.Prime] (h64 : t < 2 ^ 64) (hq : (q : ZMod t) ≠ 0) :
    ((Galois.modExp q (t - 2) t : Nat) : ZMod t) = (q : ZMod t)⁻¹ := by
  rw [Galois.modExp, Lattigo.Proofs.Galois.modExpLoop_cast t 64 _ _ _ (by omega), Nat.cast_one, one_mul,
    pow_sub_two_eq_inv hq]

/-- one `EvaluateMany` + `Rescale` step of the sequence, from `(lvl, sc)` with a transformation at level
    `≥ lvl`: one level down, scale times the transformation's scale over `q_lvl` -/
def seqStep (t : Nat) (qmodt : List Nat) (acc : Option (Nat × Nat)) (ls : Nat × Nat) : Option (Nat × Nat) :=
  match acc with
  | none => none
  | some (lvl, sc) =>
    let m := outMeta t lvl lvl ls.1 sc ls.2
    if m.1 = 0 then none else some (m.1 - 1, m.2 * Galois.modExp (qmodt.getD m.1 0) (t - 2) t % t)

/-- the first transformation's own level enters through `min` only, like the later ones' -/
theorem seqMeta_eq_foldl (t : Nat) (qmodt : List Nat) (ctLevel ctScale : Nat) (ls : Nat × Nat) (rest : List (Nat × Nat)) :
    seqMeta t qmodt ctLevel ctScale (ls :: rest) = (ls :: rest).foldl (seqStep t qmodt) (some (ctLevel, ctScale)) := by
  have h : outMeta t ls.1 ctLevel ls.1 ctScale ls.2 = outMeta t ctLevel ctLevel ls.1 ctScale ls.2 := by
    unfold outMeta
    congr 1
    omega
  unfold seqMeta
  simp only [h]
  rfl

theorem seqFold_none (t : Nat) (qmodt : List Nat) : ∀ rest : List (Nat × Nat), rest.foldl (seqStep t qmodt) none = none
  | [] => rfl
  | _ :: rest => seqFold_none t qmodt rest

/-- every step consumes at least one level: more steps than levels end on a failing `Rescale` -/
theorem seqFold_too_few (t : Nat) (qmodt : List Nat) : ∀ (rest : List (Nat × Nat)) (lvl sc : Nat),
    lvl < rest.length → rest.foldl (seqStep t qmodt) (some (lvl, sc)) = none
  | [], _, _, h => absurd h (Nat.not_lt_zero _)
  | ls :: rest, lvl, sc, h => by
    rw [List.foldl_cons, seqStep]
    have hm : (outMeta t lvl lvl ls.1 sc ls.2).1 ≤ lvl := Nat.min_le_left ..
    by_cases h0 : (outMeta t lvl lvl ls.1 sc ls.2).1 = 0
    · rw [if_pos h0]; exact seqFold_none t qmodt rest
    · rw [if_neg h0]
      exact seqFold_too_few t qmodt rest _ _ (by rw [List.length_cons] at h; omega)

theorem seqStep_scale_lt {t : Nat} (ht : 0 < t) {qmodt : List Nat} {acc : Option (Nat × Nat)} {ls : Nat × Nat}
    {l sc : Nat} (e : seqStep t qmodt acc ls = some (l, sc)) : sc < t := by
  cases acc with
  | none => cases e
  | some p =>
    simp only [seqStep] at e
    split at e
    · cases e
    · cases e
      exact Nat.mod_lt _ ht

/-- `C12.evaluateSequential_meta` on the fold -/
theorem seqFold_spec (t : Nat) [hp : Fact t.Prime] (h64 : t < 2 ^ 64) (qmodt : List Nat) (rest : List (Nat × Nat)) :
    ∀ (lvl sc : Nat), (∀ ls ∈ rest, lvl ≤ ls.1) → rest.length ≤ lvl →
      (∀ l, 1 ≤ l → l ≤ lvl → ((qmodt.getD l 0 : Nat) : ZMod t) ≠ 0) →
      ∃ sc', rest.foldl (seqStep t qmodt) (some (lvl, sc)) = some (lvl - rest.length, sc') ∧
        ((sc' : Nat) : ZMod t) = (sc : ZMod t) * ((rest.map fun ls => ((ls.2 : Nat) : ZMod t)).prod) *
          ((List.range rest.length).map fun j => (((qmodt.getD (lvl - j) 0 : Nat) : ZMod t))⁻¹).prod := by
  induction rest with
  | nil => intro lvl sc _ _ _; exact ⟨sc, rfl, by simp⟩
  | cons ls rest ih =>
    intro lvl sc hlv hlen hq
    have hl1 : lvl ≤ ls.1 := hlv ls (by simp)
    have hpos : 1 ≤ lvl := by simp only [List.length_cons] at hlen; omega
    have ht0 : t ≠ 0 := hp.out.ne_zero
    have hm1 : (outMeta t lvl lvl ls.1 sc ls.2).1 = lvl := by
      simp only [outMeta]; omega
    have hm2 : (outMeta t lvl lvl ls.1 sc ls.2).2 = sc * ls.2 % t := by
      simp only [outMeta, if_neg ht0]
    simp only [List.foldl_cons, seqStep, hm1, hm2]
    rw [if_neg (by omega)]
    obtain ⟨sc', h1, h2⟩ := ih (lvl - 1) (sc * ls.2 % t * Galois.modExp (qmodt.getD lvl 0) (t - 2) t % t)
      (fun x hx => by have := hlv x (by simp [hx]); omega)
      (by simp only [List.length_cons] at hlen; omega)
      (fun l h1 h2 => hq l h1 (by omega))
    refine ⟨sc', ?_, ?_⟩
    · rw [h1]; simp only [List.length_cons]; congr 2; omega
    · rw [h2, ZMod.natCast_mod, Nat.cast_mul, ZMod.natCast_mod, Nat.cast_mul,
        cast_modExp_inv t _ h64 (hq lvl hpos (le_refl _))]
      simp only [List.map_cons, List.prod_cons, List.length_cons, List.range_succ_eq_map, List.map_map,
        Nat.sub_zero]
      have : (fun j => (((qmodt.getD (lvl - 1 - j) 0 : Nat) : ZMod t))⁻¹) =
          ((fun j => (((qmodt.getD (lvl - j) 0 : Nat) : ZMod t))⁻¹) ∘ Nat.succ) := by
        funext j; simp only [Function.comp]; congr 3; omega
      rw [this]
      ring

end Lattigo.Model.LinTrans
