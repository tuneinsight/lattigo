import Mathlib.Data.List.GetD

/-!
  Facts about `List.getD`, `zip`, `zipWith`, `range`, `range'`, `mapM` and `toArray` that do not depend on what the
  lists hold: the row-, limb- and table-level proofs cite them from here (`ListLemmas.ext_getD`, …).  The default of
  `getD` is implicit where the left-hand side shows it, so that `rw` reads it off the goal, and explicit otherwise.
-/
namespace Lattigo.ListLemmas

universe u v w
variable {α : Type u} {β : Type v} {γ : Type w}

theorem ext_getD (d : α) {a b : List α} (hl : a.length = b.length)
    (h : ∀ i < a.length, a.getD i d = b.getD i d) : a = b :=
  List.ext_getElem hl fun i h1 h2 => by
    rw [← List.getD_eq_getElem a d h1, ← List.getD_eq_getElem b d h2]
    exact h i h1

theorem getD_mem {d : α} {l : List α} {i : ℕ} (h : i < l.length) : l.getD i d ∈ l := by
  rw [List.getD_eq_getElem l d h]
  exact List.getElem_mem h

theorem getD_forall {p : α → Prop} {d : α} {l : List α} (hd : p d) (h : ∀ x ∈ l, p x) (i : ℕ) :
    p (l.getD i d) := by
  by_cases hi : i < l.length
  · exact h _ (getD_mem hi)
  · rw [List.getD_eq_default l d (Nat.le_of_not_lt hi)]
    exact hd

/-- inside the list the two defaults need not correspond (`List.getD_map` is the total form, default `f d`) -/
theorem getD_map_of_lt {d' : β} (f : α → β) (l : List α) (i : ℕ) (d : α) (h : i < l.length) :
    (l.map f).getD i d' = f (l.getD i d) := by
  rw [List.getD_eq_getElem _ _ (by rwa [List.length_map]), List.getElem_map, List.getD_eq_getElem l d h]

theorem getD_map_of_eq (f : α → β) (d : α) (d' : β) (hf : f d = d') (l : List α) (i : ℕ) :
    (l.map f).getD i d' = f (l.getD i d) := by
  subst hf
  exact List.getD_map l d f

theorem getD_zipWith {dc : γ} (f : α → β → γ) (a : List α) (b : List β) (i : ℕ) (da : α) (db : β)
    (ha : i < a.length) (hb : i < b.length) :
    (List.zipWith f a b).getD i dc = f (a.getD i da) (b.getD i db) := by
  rw [List.getD_eq_getElem _ _ (by rw [List.length_zipWith]; exact Nat.lt_min.2 ⟨ha, hb⟩), List.getElem_zipWith,
    List.getD_eq_getElem a da ha, List.getD_eq_getElem b db hb]

theorem getD_zip {da : α} {db : β} (a : List α) (b : List β) (i : ℕ) (ha : i < a.length) (hb : i < b.length) :
    (a.zip b).getD i (da, db) = (a.getD i da, b.getD i db) :=
  getD_zipWith Prod.mk a b i da db ha hb

theorem getD_map_range {d : α} (g : ℕ → α) (n k : ℕ) (h : k < n) : ((List.range n).map g).getD k d = g k := by
  rw [List.getD_eq_getElem _ _ (by rwa [List.length_map, List.length_range]), List.getElem_map, List.getElem_range]

theorem map_getD_range {d : α} (f : α → β) (l : List α) :
    (List.range l.length).map (fun i => f (l.getD i d)) = l.map f :=
  List.ext_getElem (by rw [List.length_map, List.length_map, List.length_range]) fun i h1 h2 => by
    rw [List.length_map] at h2
    rw [List.getElem_map, List.getElem_map, List.getElem_range, List.getD_eq_getElem l d h2]

theorem zipWith_map_map {δ : Type _} (F : α → β → γ) (g : δ → α) (h : δ → β) (X : List δ) :
    List.zipWith F (X.map g) (X.map h) = X.map fun x => F (g x) (h x) := by
  rw [List.zipWith_map, List.zipWith_self]

theorem getD_drop {d : α} (l : List α) (n j : ℕ) : (l.drop n).getD j d = l.getD (n + j) d := by
  rw [List.getD_eq_getElem?_getD, List.getElem?_drop, ← List.getD_eq_getElem?_getD]

theorem zip_map_self (F : α → β) (G : α × β → γ) : ∀ l : List α, (l.zip (l.map F)).map G = l.map fun q => G (q, F q)
  | [] => rfl
  | q :: l => by rw [List.map_cons, List.zip_cons_cons, List.map_cons, List.map_cons, zip_map_self F G l]

theorem mapM_eq_some_map (f : α → Option β) (g : α → β) :
    ∀ l : List α, (∀ x ∈ l, f x = some (g x)) → l.mapM f = some (l.map g)
  | [], _ => rfl
  | x :: l, h => by
    rw [List.mapM_cons, h x List.mem_cons_self, mapM_eq_some_map f g l fun y hy => h y (List.mem_cons_of_mem _ hy)]
    rfl

theorem range'_filter_lt (N : ℕ) : ∀ m a : ℕ,
    (List.range' a m).filter (fun x => decide (x < N)) = List.range' a (min m (N - a))
  | 0, a => by rw [Nat.zero_min]; rfl
  | m + 1, a => by
    rw [List.range'_succ]
    by_cases h : a < N
    · rw [List.filter_cons_of_pos (p := fun x => decide (x < N)) (decide_eq_true h), range'_filter_lt N m (a + 1),
        show min (m + 1) (N - a) = min m (N - (a + 1)) + 1 by omega, List.range'_succ]
    · rw [List.filter_cons_of_neg (p := fun x => decide (x < N)) (by rwa [decide_eq_true_eq]),
        range'_filter_lt N m (a + 1), show min m (N - (a + 1)) = 0 by omega, show min (m + 1) (N - a) = 0 by omega]
      rfl

theorem range'_takeWhile_lt (N : ℕ) : ∀ m a : ℕ,
    (List.range' a m).takeWhile (fun x => decide (x < N)) = List.range' a (min m (N - a))
  | 0, a => by rw [Nat.zero_min]; rfl
  | m + 1, a => by
    rw [List.range'_succ, List.takeWhile_cons]
    by_cases h : a < N
    · rw [decide_eq_true h, range'_takeWhile_lt N m (a + 1),
        show min (m + 1) (N - a) = min m (N - (a + 1)) + 1 by omega, List.range'_succ]
      rfl
    · rw [decide_eq_false h, show min (m + 1) (N - a) = 0 by omega]
      rfl

/-- of the block `i·m, …, i·m + m − 1` the members below `N` are the `k < N` with `k / m = i` -/
theorem mem_range'_block {m : ℕ} (hm : 0 < m) (N i k : ℕ) :
    k ∈ List.range' (i * m) (min m (N - i * m)) ↔ k < N ∧ k / m = i := by
  rw [List.mem_range'_1, Nat.div_eq_iff hm]
  omega

theorem toArray_get! (x : List ℕ) (i : ℕ) : x.toArray[i]! = x.getD i 0 := by
  simp

theorem get!_eq_getD (x : List ℕ) (i : ℕ) : x[i]! = x.getD i 0 := by
  simp [List.getD_eq_getElem?_getD]

theorem zipWith_zipWith_zipWith {A B C D E F G : Type _} (h : D → E → F) (f : A → B → D) (f' : A → C → E)
    (p : B → C → G) (k : A → G → F) (H : ∀ x b c, h (f x b) (f' x c) = k x (p b c)) :
    ∀ (l : List A) (bs : List B) (cs : List C),
      List.zipWith h (List.zipWith f l bs) (List.zipWith f' l cs) = List.zipWith k l (List.zipWith p bs cs)
  | [], _, _ => rfl
  | _ :: _, [], _ => rfl
  | _ :: _, _ :: _, [] => rfl
  | x :: l, b :: bs, c :: cs => List.cons_eq_cons.mpr ⟨H x b c, zipWith_zipWith_zipWith h f f' p k H l bs cs⟩

theorem getD_take {d : α} (l : List α) (n i : ℕ) (h : i < n) : (l.take n).getD i d = l.getD i d := by
  rw [List.getD_eq_getElem?_getD, List.getElem?_take_of_lt h, ← List.getD_eq_getElem?_getD]

theorem forall_zipWith (f : α → β → γ) (P : γ → Prop) :
    ∀ (l1 : List α) (l2 : List β), (∀ u ∈ l1, ∀ v ∈ l2, P (f u v)) →
      ∀ x ∈ List.zipWith f l1 l2, P x
  | [], _, _, x, hx => by simp at hx
  | _ :: _, [], _, x, hx => by simp at hx
  | u :: l1, v :: l2, h, x, hx => by
    rw [List.zipWith_cons_cons, List.mem_cons] at hx
    rcases hx with rfl | hx
    · exact h u (List.mem_cons_self ..) v (List.mem_cons_self ..)
    · exact forall_zipWith f P l1 l2
        (fun u' hu' v' hv' => h u' (List.mem_cons_of_mem _ hu') v' (List.mem_cons_of_mem _ hv')) x hx

end Lattigo.ListLemmas
