/-
  Generic facts about the fuel-bounded loop primitive `loopWhile` of `Lattigo/Word.lean`
  (printed by the typed mode of tools/go2lean for general `for` loops).
-/
import Lattigo.Word

namespace Lattigo.Proofs.LoopWhile
open Lattigo

variable {σ : Type}

theorem loopWhile_zero (c : σ → Bool) (f : σ → σ) (s : σ) : loopWhile 0 c f s = s := rfl

theorem loopWhile_succ (n : Nat) (c : σ → Bool) (f : σ → σ) (s : σ) :
    loopWhile (n + 1) c f s = if c s then loopWhile n c f (f s) else s := rfl

theorem loopWhile_of_false (n : Nat) (c : σ → Bool) (f : σ → σ) (s : σ) (h : c s = false) :
    loopWhile n c f s = s := by
  cases n with
  | zero => rfl
  | succ n => rw [loopWhile_succ, h]; rfl

/-- fuel adequacy: the states are ranked by levels `P n`, one turn goes one level down and the condition is false
    at level `0`, so the cut-off is never reached with the condition still true -/
theorem loopWhile_fuel (c : σ → Bool) (f : σ → σ) (P : Nat → σ → Prop)
    (h0 : ∀ s, P 0 s → c s = false)
    (hs : ∀ n s, P (n + 1) s → c s = true → P n (f s)) :
    ∀ n s, P n s → ∀ m, n ≤ m → loopWhile m c f s = loopWhile n c f s := by
  intro n
  induction n with
  | zero =>
    intro s hP m _
    rw [loopWhile_of_false m c f s (h0 s hP)]; rfl
  | succ n ih =>
    intro s hP m hm
    obtain ⟨m', rfl⟩ : ∃ m', m = m' + 1 := ⟨m - 1, by omega⟩
    rw [loopWhile_succ, loopWhile_succ]
    cases hc : c s with
    | false => rfl
    | true =>
      simp only [if_true]
      exact ih (f s) (hs n s hP hc) m' (by omega)

/-- the instance the printed loops need: the level of a state is the bit length of a component halved in every turn -/
theorem loopWhile_fuel_halving (c : σ → Bool) (f : σ → σ) (k : σ → Nat)
    (h0 : ∀ s, k s = 0 → c s = false) (hf : ∀ s, k (f s) = k s / 2) :
    ∀ n s, k s < 2 ^ n → ∀ m, n ≤ m → loopWhile m c f s = loopWhile n c f s :=
  loopWhile_fuel c f (fun n s => k s < 2 ^ n)
    (fun s hs => h0 s (Nat.lt_one_iff.mp hs))
    (fun n s hs _ => by rw [hf, Nat.div_lt_iff_lt_mul (by decide), ← Nat.pow_succ]; exact hs)

end Lattigo.Proofs.LoopWhile
