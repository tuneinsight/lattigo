/-
  C14 — aggregation is order- and grouping-independent.

  `AggTree.eval (· + ·) sh t` is the aggregate obtained by combining the shares `sh i` along the binary
  tree `t`.  In any commutative additive semigroup it only depends on the multiset of leaves.
  The proof goes through `WithZero β` (the free adjunction of a neutral element), where the value of a
  tree is the `List.sum` of its leaves.

  Then the same for the *validating* aggregation of the model (`evkAggregate`, `galAggregate`) on
  compatible degree-zero shares: every tree gives `ok` of the component-wise sum.
-/
import Mathlib.Algebra.Group.WithOne.Defs
import Mathlib.Algebra.BigOperators.Group.List.Basic
import Lattigo.Proofs.MPTree
import Lattigo.Proofs.MPLists

namespace Lattigo.MP

section semigroup
variable {β : Type} [AddCommSemigroup β]

theorem AggTree.eval_coe (t : AggTree) (sh : Nat → β) :
    ((t.eval (· + ·) sh : β) : WithZero β) = (t.leaves.map fun i => (sh i : WithZero β)).sum := by
  induction t with
  | leaf i => exact (List.sum_singleton).symm
  | node l r ihl ihr =>
    rw [AggTree.eval, AggTree.leaves, WithZero.coe_add, ihl, ihr, List.map_append, List.sum_append]

theorem AggTree.eval_perm (t₁ t₂ : AggTree) (sh : Nat → β) (h : t₁.leaves.Perm t₂.leaves) :
    t₁.eval (· + ·) sh = t₂.eval (· + ·) sh := by
  apply WithZero.coe_inj.mp
  rw [AggTree.eval_coe, AggTree.eval_coe]
  exact (h.map _).sum_eq

theorem foldl_coe (x : β) (xs : List β) :
    ((xs.foldl (· + ·) x : β) : WithZero β) = ((x :: xs).map WithZero.coe).sum := by
  induction xs generalizing x with
  | nil => exact (List.sum_singleton).symm
  | cons y ys ih =>
    rw [List.foldl_cons, ih, List.map_cons, List.sum_cons, WithZero.coe_add, add_assoc]
    rfl

end semigroup

section cube
variable {α : Type} [AddCommSemigroup α]

theorem vecAdd_comm (x y : List α) : vecAdd x y = vecAdd y x :=
  List.zipWith_comm_of_comm add_comm
theorem vecAdd_assoc (x y z : List α) : vecAdd (vecAdd x y) z = vecAdd x (vecAdd y z) :=
  zipWith_assoc _ add_assoc x y z
theorem matAdd_comm (x y : Mat α) : matAdd x y = matAdd y x :=
  List.zipWith_comm_of_comm vecAdd_comm
theorem matAdd_assoc (x y z : Mat α) : matAdd (matAdd x y) z = matAdd x (matAdd y z) :=
  zipWith_assoc _ vecAdd_assoc x y z
theorem cubeAdd_comm (x y : Mat (List α)) : cubeAdd x y = cubeAdd y x :=
  List.zipWith_comm_of_comm fun _ _ => List.zipWith_comm_of_comm vecAdd_comm
theorem cubeAdd_assoc (x y z : Mat (List α)) : cubeAdd (cubeAdd x y) z = cubeAdd x (cubeAdd y z) :=
  zipWith_assoc _ (zipWith_assoc _ vecAdd_assoc) x y z

/-- share arrays `[i][j][k]` under component-wise addition -/
structure Cube (α : Type) where
  v : Mat (List α)

instance : AddCommSemigroup (Cube α) where
  add x y := ⟨cubeAdd x.v y.v⟩
  add_assoc x y z := congrArg Cube.mk (cubeAdd_assoc x.v y.v z.v)
  add_comm x y := congrArg Cube.mk (cubeAdd_comm x.v y.v)

theorem Cube.add_v (x y : Cube α) : (x + y).v = cubeAdd x.v y.v := rfl

/-- `RelinearizationKeyGenProtocol.AggregateShares` / the value part of every gadget-share
    aggregation: any two trees over permuted leaves agree -/
theorem cube_eval_perm (t₁ t₂ : AggTree) (sh : Nat → Mat (List α)) (h : t₁.leaves.Perm t₂.leaves) :
    t₁.eval cubeAdd sh = t₂.eval cubeAdd sh := by
  have e : ∀ t : AggTree, t.eval cubeAdd sh = (t.eval (· + ·) fun i => (⟨sh i⟩ : Cube α)).v :=
    fun t => t.eval_map Cube.v (fun _ _ => rfl) _
  rw [e, e, AggTree.eval_perm _ _ _ h]

end cube

section validated
variable {α : Type} [Add α]

/-- every entry `[i][j]` has exactly one component (degree-zero share) and the row lengths are `shape` -/
def Deg0 (shape : List Nat) (v : Mat (List α)) : Prop :=
  v.map (fun r => r.map List.length) = shape.map fun k => List.replicate k 1

theorem addHead_singleton (x y z : α) : addHead [x] [y] [z] = some [x + y] := rfl

theorem aggRow_deg0 (k : Nat) : ∀ x y z : List (List α),
    x.map List.length = List.replicate k 1 → y.map List.length = List.replicate k 1 →
    z.map List.length = List.replicate k 1 → aggRow x y z = some (List.zipWith vecAdd x y) := by
  induction k with
  | zero =>
    intro x y z hx _ hz
    rw [List.map_eq_nil_iff.mp hx, List.map_eq_nil_iff.mp hz]
    rfl
  | succ k ih =>
    intro x y z hx hy hz
    obtain ⟨a, x, rfl, ha, hx'⟩ := List.map_eq_cons_iff.mp hx
    obtain ⟨b, y, rfl, hb, hy'⟩ := List.map_eq_cons_iff.mp hy
    obtain ⟨c, z, rfl, hc, hz'⟩ := List.map_eq_cons_iff.mp hz
    obtain ⟨a, rfl⟩ := List.length_eq_one_iff.mp ha
    obtain ⟨b, rfl⟩ := List.length_eq_one_iff.mp hb
    obtain ⟨c, rfl⟩ := List.length_eq_one_iff.mp hc
    rw [aggRow, ih x y z hx' hy' hz']
    rfl

theorem aggRows_deg0 (shape : List Nat) : ∀ x y z : Mat (List α),
    Deg0 shape x → Deg0 shape y → Deg0 shape z → aggRows x y z = some (cubeAdd x y) := by
  induction shape with
  | nil =>
    intro x y z hx _ hz
    rw [List.map_eq_nil_iff.mp hx, List.map_eq_nil_iff.mp hz]
    rfl
  | cons k shape ih =>
    intro x y z hx hy hz
    obtain ⟨a, x, rfl, ha, hx'⟩ := List.map_eq_cons_iff.mp hx
    obtain ⟨b, y, rfl, hb, hy'⟩ := List.map_eq_cons_iff.mp hy
    obtain ⟨c, z, rfl, hc, hz'⟩ := List.map_eq_cons_iff.mp hz
    rw [aggRows, aggRow_deg0 k a b c ha hb hc, ih x y z hx' hy' hz']
    rfl

theorem lengths_cubeAdd (x y : Mat (List α)) :
    (cubeAdd x y).map (List.map List.length) =
      List.zipWith (List.zipWith min) (x.map (List.map List.length)) (y.map (List.map List.length)) :=
  zipWith_push _ _ _ _ _
    (zipWith_push vecAdd min List.length List.length List.length fun _ _ => List.length_zipWith) x y

theorem deg0_cubeAdd (shape : List Nat) (x y : Mat (List α)) (hx : Deg0 shape x) (hy : Deg0 shape y) :
    Deg0 shape (cubeAdd x y) := by
  unfold Deg0 at *
  rw [lengths_cubeAdd, hx, hy, List.zipWith_self, List.map_map]
  exact List.map_congr_left fun k _ => by
    rw [Function.comp_apply, List.zipWith_replicate, Nat.min_self, Nat.min_self]

omit [Add α] in
theorem deg0_shapeOf (shape : List Nat) (v : Mat (List α)) (h : Deg0 shape v) : shapeOf v = shape := by
  have := congrArg (List.map List.length) h
  simpa [shapeOf, Function.comp_def] using this

/-- compatible shares: same levels, same decomposition (`BaseTwoDecomposition`, degree-zero shape) -/
structure Compat (lq : Nat) (lp : Int) (b2 : Nat) (shape : List Nat) (s : GShare α) : Prop where
  hq : s.levelQ = lq
  hp : s.levelP = lp
  hb : s.base2 = b2
  hs : Deg0 shape s.val

theorem evkAggregate_compat {lq : Nat} {lp : Int} {b2 : Nat} {shape : List Nat} {s1 s2 s3 : GShare α}
    (h1 : Compat lq lp b2 shape s1) (h2 : Compat lq lp b2 shape s2) (h3 : Compat lq lp b2 shape s3) :
    evkAggregate s1 s2 s3 = .ok { s3 with val := cubeAdd s1.val s2.val } := by
  simp [evkAggregate, h1.hq, h2.hq, h3.hq, h1.hp, h2.hp, h3.hp, h1.hb, h2.hb,
    deg0_shapeOf shape _ h1.hs, deg0_shapeOf shape _ h2.hs, deg0_shapeOf shape _ h3.hs,
    aggRows_deg0 shape _ _ _ h1.hs h2.hs h3.hs]

/-- `recv`: each step aggregates into a receiver that is itself compatible, e.g. a freshly allocated share or the
    first operand -/
theorem evk_evalM_compat {lq : Nat} {lp : Int} {b2 : Nat} {shape : List Nat}
    (recv : GShare α → GShare α) (hrecv : ∀ s, Compat lq lp b2 shape s → Compat lq lp b2 shape (recv s))
    (sh : Nat → GShare α) (t : AggTree) (hc : ∀ i ∈ t.leaves, Compat lq lp b2 shape (sh i)) :
    ∃ g, t.evalM (fun x y => evkAggregate x y (recv x)) sh = .ok g ∧ Compat lq lp b2 shape g ∧
      g.val = t.eval cubeAdd (fun i => (sh i).val) :=
  t.evalM_ok (Compat lq lp b2 shape) GShare.val cubeAdd
    (fun x _ cx cy =>
      have cr := hrecv x cx
      ⟨_, evkAggregate_compat cx cy cr, ⟨cr.hq, cr.hp, cr.hb, deg0_cubeAdd shape _ _ cx.hs cy.hs⟩, rfl⟩)
    sh hc

theorem gal_evalM_compat {lq : Nat} {lp : Int} {b2 : Nat} {shape : List Nat} (g0 : Nat)
    (recv : GalShare α → GalShare α) (hrecv : ∀ s, Compat lq lp b2 shape s.sh → Compat lq lp b2 shape (recv s).sh)
    (sh : Nat → GalShare α) (t : AggTree)
    (hc : ∀ i ∈ t.leaves, (sh i).galEl = g0 ∧ Compat lq lp b2 shape (sh i).sh) :
    ∃ g, t.evalM (fun x y => galAggregate x y (recv x)) sh = .ok g ∧
      (g.galEl = g0 ∧ Compat lq lp b2 shape g.sh) ∧ g.sh.val = t.eval cubeAdd (fun i => (sh i).sh.val) :=
  t.evalM_ok (fun s => s.galEl = g0 ∧ Compat lq lp b2 shape s.sh) (fun s => s.sh.val) cubeAdd
    (fun x y ⟨tx, cx⟩ ⟨ty, cy⟩ => by
      have cr := hrecv x cx
      refine ⟨⟨x.galEl, { (recv x).sh with val := cubeAdd x.sh.val y.sh.val }⟩, ?_,
        ⟨tx, cr.hq, cr.hp, cr.hb, deg0_cubeAdd shape _ _ cx.hs cy.hs⟩, rfl⟩
      simp [galAggregate, tx, ty, Res.bind, evkAggregate_compat cx cy cr])
    sh hc

end validated

theorem evk_agg_perm {α : Type} [AddCommSemigroup α] {lq : Nat} {lp : Int} {b2 : Nat} {shape : List Nat}
    (recv : GShare α → GShare α) (hrecv : ∀ s, Compat lq lp b2 shape s → Compat lq lp b2 shape (recv s))
    (sh : Nat → GShare α) (t₁ t₂ : AggTree) (hperm : t₁.leaves.Perm t₂.leaves)
    (hc : ∀ i ∈ t₁.leaves, Compat lq lp b2 shape (sh i)) :
    ∃ g₁ g₂, t₁.evalM (fun x y => evkAggregate x y (recv x)) sh = .ok g₁ ∧
             t₂.evalM (fun x y => evkAggregate x y (recv x)) sh = .ok g₂ ∧ g₁.val = g₂.val ∧
             g₁.levelQ = g₂.levelQ ∧ g₁.levelP = g₂.levelP := by
  obtain ⟨g1, h1, c1, v1⟩ := evk_evalM_compat recv hrecv sh t₁ hc
  obtain ⟨g2, h2, c2, v2⟩ := evk_evalM_compat recv hrecv sh t₂ (fun i hi => hc i (hperm.mem_iff.mpr hi))
  exact ⟨g1, g2, h1, h2, by rw [v1, v2, cube_eval_perm _ _ _ hperm], by rw [c1.hq, c2.hq], by rw [c1.hp, c2.hp]⟩

end Lattigo.MP
