/-
  C14 — the aggregate of the collective key-generation shares is EXACTLY the single-party key for the
  ideal secret `Σ s_i` with error `Σ e_i` (for every commutative ring).
-/
import Mathlib.Tactic.Ring
import Mathlib.Algebra.Ring.Hom.Defs
import Lattigo.Proofs.MPAgg
import Lattigo.Proofs.ListLemmas

namespace Lattigo.MP

theorem tree_map_add {α F : Type} [Add α] [FunLike F α α] [AddHomClass F α α] (σ : F) (t : AggTree)
    (s : Nat → α) : t.eval (· + ·) (fun i => σ (s i)) = σ (t.eval (· + ·) s) :=
  t.eval_map σ (fun x y => (map_add σ x y).symm) s

section values
variable {α : Type} [Add α] [Mul α] [Sub α]

/-- the value array written by `evkGenShare` -/
def evkVal (sIn sOut : α) (crp w e : Mat α) : Mat (List α) :=
  matMap3 (fun a w e => [evkShareRow a sOut e w sIn]) crp w e

/-- the value array written by `rkgRoundOne` -/
def rkgVal1 (s u : α) (crp w : Mat α) (e : Mat (α × α)) : Mat (List α) :=
  matMap3 (fun a w (e : α × α) => rkgRoundOneRow a s u e.1 e.2 w) crp w e

/-- the value array written by `rkgRoundTwo` -/
def rkgVal2 (s u : α) (round1 : Mat (List α)) (e2 : Mat α) : Mat (List α) :=
  List.zipWith (List.zipWith (rkgRoundTwoEntry s u)) round1 e2

end values

section ring
variable {α : Type} [CommRing α]

theorem cpkShare_add (a s e s' e' : α) :
    cpkShare a s e + cpkShare a s' e' = cpkShare a (s + s') (e + e') := by
  unfold cpkShare; ring

theorem cpk_phase_single (a s e : α) : phase (cpkShare a s e) a s = e := by
  unfold phase cpkShare; ring

theorem cpk_tree (a : α) (s e : Nat → α) (t : AggTree) :
    (t.eval cpkAggregate fun i => cpkShare a (s i) (e i)) =
      cpkShare a (t.eval (· + ·) s) (t.eval (· + ·) e) :=
  t.eval_map₂ (cpkShare a) (cpkShare_add a) s e

theorem cpk_fold (a : α) (p : α × α) (ps : List (α × α)) :
    aggList (cpkShare a p.1 p.2) (ps.map fun q => cpkShare a q.1 q.2) =
      cpkShare a (aggList p.1 (ps.map Prod.fst)) (aggList p.2 (ps.map Prod.snd)) := by
  unfold aggList
  induction ps generalizing p with
  | nil => rfl
  | cons q qs ih =>
    simp only [List.map_cons, List.foldl_cons, cpkShare_add]
    exact ih (p.1 + q.1, p.2 + q.2)

theorem aggList_eq_sum (x : α) (xs : List α) : aggList x xs = (x :: xs).sum := by
  unfold aggList
  induction xs generalizing x with
  | nil => exact (List.sum_singleton).symm
  | cons y ys ih => rw [List.foldl_cons, ih, List.sum_cons, List.sum_cons, List.sum_cons, add_assoc]

theorem evkShareRow_add (a w so e si so' e' si' : α) :
    evkShareRow a so e w si + evkShareRow a so' e' w si' =
      evkShareRow a (so + so') (e + e') w (si + si') := by
  unfold evkShareRow; ring

theorem evk_row_phase (a w so e si : α) : phase (evkShareRow a so e w si) a so = w * si + e := by
  unfold phase evkShareRow; ring

theorem evkVal_add (crp w : Mat α) (sIn sOut : α) (e : Mat α) (sIn' sOut' : α) (e' : Mat α) :
    cubeAdd (evkVal sIn sOut crp w e) (evkVal sIn' sOut' crp w e') =
      evkVal (sIn + sIn') (sOut + sOut') crp w (matAdd e e') := by
  unfold evkVal matMap3 cubeAdd matAdd
  apply map3_zipWith
  intro ar wr er er'
  unfold vecAdd
  apply map3_zipWith
  intro a w e e'
  exact congrArg (· :: []) (evkShareRow_add a w sOut e sIn sOut' e' sIn')

theorem evk_tree_val (t : AggTree) (sIn sOut : Nat → α) (e : Nat → Mat α) (crp w : Mat α) :
    t.eval cubeAdd (fun i => evkVal (sIn i) (sOut i) crp w (e i)) =
      evkVal (t.eval (· + ·) sIn) (t.eval (· + ·) sOut) crp w (t.eval matAdd e) :=
  t.eval_map₃ (evkVal · · crp w ·) (evkVal_add crp w) sIn sOut e

theorem rkgRoundOneRow_add (a w s u e0 e1 s' u' e0' e1' : α) :
    vecAdd (rkgRoundOneRow a s u e0 e1 w) (rkgRoundOneRow a s' u' e0' e1' w) =
      rkgRoundOneRow a (s + s') (u + u') (e0 + e0') (e1 + e1') w := by
  unfold rkgRoundOneRow vecAdd
  simp only [List.zipWith_cons_cons, List.zipWith_nil_left, List.cons.injEq, and_true]
  constructor <;> ring

theorem rkgRoundTwoRow_add (h0 h1 s u e2 s' u' e2' : α) :
    rkgRoundTwoRow h0 h1 s u e2 + rkgRoundTwoRow h0 h1 s' u' e2' =
      rkgRoundTwoRow h0 h1 (s + s') (u + u') (e2 + e2') := by
  unfold rkgRoundTwoRow; ring

/-- `(E0 + w·s − u·a, E1 + s·a)` is the aggregated round-one row for `(s, u, E0, E1)` -/
theorem rkg_row_phase (a w s u E0 E1 E2 : α) :
    phase (rkgRoundTwoRow ((E0 + w * s) - u * a) (E1 + s * a) s u E2) (E1 + s * a) s =
      w * (s * s) + (s * E0 + u * E1 + E2) := by
  unfold phase rkgRoundTwoRow; ring

def pairAdd (x y : α × α) : α × α := (x.1 + y.1, x.2 + y.2)

theorem rkgVal1_add (crp w : Mat α) (s u : α) (e : Mat (α × α)) (s' u' : α) (e' : Mat (α × α)) :
    cubeAdd (rkgVal1 s u crp w e) (rkgVal1 s' u' crp w e') =
      rkgVal1 (s + s') (u + u') crp w (List.zipWith (List.zipWith pairAdd) e e') := by
  unfold rkgVal1 matMap3 cubeAdd
  apply map3_zipWith
  intro ar wr er er'
  apply map3_zipWith
  intro a w e e'
  exact rkgRoundOneRow_add a w s u e.1 e.2 s' u' e'.1 e'.2

theorem rkg1_tree_val (t : AggTree) (s u : Nat → α) (e : Nat → Mat (α × α)) (crp w : Mat α) :
    t.eval cubeAdd (fun i => rkgVal1 (s i) (u i) crp w (e i)) =
      rkgVal1 (t.eval (· + ·) s) (t.eval (· + ·) u) crp w
        (t.eval (List.zipWith (List.zipWith pairAdd)) e) :=
  t.eval_map₃ (rkgVal1 · · crp w ·) (rkgVal1_add crp w) s u e

theorem rkgRoundTwoEntry_add (s u s' u' : α) (h : List α) (e2 e2' : α) :
    vecAdd (rkgRoundTwoEntry s u h e2) (rkgRoundTwoEntry s' u' h e2') =
      rkgRoundTwoEntry (s + s') (u + u') h (e2 + e2') :=
  match h with
  | [] => rfl
  | [_] => rfl
  | h0 :: h1 :: _ => congrArg (· :: []) (rkgRoundTwoRow_add h0 h1 s u e2 s' u' e2')

theorem rkgVal2_add (round1 : Mat (List α)) (s u : α) (e2 : Mat α) (s' u' : α) (e2' : Mat α) :
    cubeAdd (rkgVal2 s u round1 e2) (rkgVal2 s' u' round1 e2') =
      rkgVal2 (s + s') (u + u') round1 (matAdd e2 e2') := by
  unfold rkgVal2 cubeAdd matAdd
  apply ListLemmas.zipWith_zipWith_zipWith
  intro hr er er'
  unfold vecAdd
  apply ListLemmas.zipWith_zipWith_zipWith
  intro h e e'
  exact rkgRoundTwoEntry_add s u s' u' h e e'

theorem rkg2_tree_val (t : AggTree) (s u : Nat → α) (e2 : Nat → Mat α) (round1 : Mat (List α)) :
    t.eval cubeAdd (fun i => rkgVal2 (s i) (u i) round1 (e2 i)) =
      rkgVal2 (t.eval (· + ·) s) (t.eval (· + ·) u) round1 (t.eval matAdd e2) :=
  t.eval_map₃ (rkgVal2 · · round1 ·) (rkgVal2_add round1) s u e2

end ring

section shapes
variable {α : Type} [Add α] [Mul α] [Sub α]

theorem deg0_evkVal (sIn sOut : α) (shape : List Nat) : ∀ crp w e : Mat α,
    shapeOf crp = shape → shapeOf w = shape → shapeOf e = shape →
    Deg0 shape (evkVal sIn sOut crp w e) := by
  induction shape with
  | nil =>
    intro crp w e hc _ _
    rw [List.map_eq_nil_iff.mp hc]
    rfl
  | cons k shape ih =>
    intro crp w e hc hw he
    obtain ⟨c, crp, rfl, hc, hcrp⟩ := List.map_eq_cons_iff.mp hc
    obtain ⟨w, ws, rfl, hw, hws⟩ := List.map_eq_cons_iff.mp hw
    obtain ⟨e, es, rfl, he, hes⟩ := List.map_eq_cons_iff.mp he
    exact List.cons_eq_cons.mpr ⟨map3_singleton_length _ k c w e hc hw he, ih crp ws es hcrp hws hes⟩

theorem evkGenShare_ok (skInLvl skOutLvl : Nat) (skInLvlP skOutLvlP : Int) (sIn sOut : α)
    (crp w e : Mat α) (out : GShare α)
    (hl : out.levelQ ≤ min skInLvl skOutLvl) (hlp : out.levelP ≤ min skInLvlP skOutLvlP)
    (hs : shapeOf out.val = shapeOf crp) :
    evkGenShare skInLvl skOutLvl skInLvlP skOutLvlP sIn sOut crp w e out =
      .ok { out with val := evkVal sIn sOut crp w e } := by
  have hlen : out.val.length = crp.length := by
    simpa only [shapeOf, List.length_map] using congrArg List.length hs
  simp only [evkGenShare, gt_iff_lt, Nat.not_lt.mpr hl, Int.not_lt.mpr hlp, hlen, hs, ne_eq,
    not_true_eq_false, if_false]
  rfl

theorem galGenShare_ok (sigInv : α → α) (skLvl bufLvl : Nat) (skLvlP bufLvlP : Int) (s : α) (galEl : Nat)
    (crp w e : Mat α) (out : GalShare α)
    (hl : out.sh.levelQ ≤ min skLvl bufLvl) (hlp : out.sh.levelP ≤ min skLvlP bufLvlP)
    (hs : shapeOf out.sh.val = shapeOf crp) :
    galGenShare sigInv skLvl bufLvl skLvlP bufLvlP s galEl crp w e out =
      .ok ⟨galEl, { out.sh with val := evkVal s (sigInv s) crp w e }⟩ :=
  congrArg (Res.bind · _) (evkGenShare_ok _ _ _ _ s (sigInv s) crp w e out.sh hl hlp hs)

/-- the validated aggregate (any tree) of the shares `GenShare` writes into `out`: it succeeds, keeps the levels of
    `out`, and its value is the sum of the value arrays — which a ring law (`evk_tree_val`, on `RPoly`
    `evk_tree_val_rpoly`) then turns into the value array of the summed secrets -/
theorem evk_collective_val (crp w : Mat α) (out : GShare α) (sIn sOut : Nat → α) (e : Nat → Mat α) (t : AggTree)
    (hw : shapeOf w = shapeOf crp) (he : ∀ i ∈ t.leaves, shapeOf (e i) = shapeOf crp)
    (recv : GShare α → GShare α)
    (hrecv : ∀ s, Compat out.levelQ out.levelP out.base2 (shapeOf crp) s →
      Compat out.levelQ out.levelP out.base2 (shapeOf crp) (recv s)) :
    ∃ g, t.evalM (fun x y => evkAggregate x y (recv x))
        (fun i => { out with val := evkVal (sIn i) (sOut i) crp w (e i) }) = .ok g ∧
      g.levelQ = out.levelQ ∧ g.levelP = out.levelP ∧
      g.val = t.eval cubeAdd fun i => evkVal (sIn i) (sOut i) crp w (e i) := by
  obtain ⟨g, hg, cg, vg⟩ := evk_evalM_compat recv hrecv
    (fun i => { out with val := evkVal (sIn i) (sOut i) crp w (e i) }) t fun i hi =>
      ⟨rfl, rfl, rfl, deg0_evkVal (sIn i) (sOut i) _ crp w (e i) rfl hw (he i hi)⟩
  exact ⟨g, hg, cg.hq, cg.hp, vg⟩

theorem gal_collective_val (galEl : Nat) (crp w : Mat α) (out : GalShare α) (s s' : Nat → α) (e : Nat → Mat α)
    (t : AggTree) (hw : shapeOf w = shapeOf crp) (he : ∀ i ∈ t.leaves, shapeOf (e i) = shapeOf crp) :
    ∃ g, t.evalM (fun x y => galAggregate x y x)
        (fun i => ⟨galEl, { out.sh with val := evkVal (s i) (s' i) crp w (e i) }⟩) = .ok g ∧
      g.galEl = galEl ∧ g.sh.val = t.eval cubeAdd fun i => evkVal (s i) (s' i) crp w (e i) := by
  obtain ⟨g, hg, ⟨tg, _⟩, vg⟩ := gal_evalM_compat galEl (fun x => x) (fun _ h => h)
    (fun i => ⟨galEl, { out.sh with val := evkVal (s i) (s' i) crp w (e i) }⟩) t fun i hi =>
      ⟨rfl, rfl, rfl, rfl, deg0_evkVal (s i) (s' i) _ crp w (e i) rfl hw (he i hi)⟩
  exact ⟨g, hg, tg, vg⟩

omit [Add α] [Mul α] [Sub α] in
theorem keyRow_ok (k : Nat) : ∀ (m : List (List α)) (p : List α) (kk : List (List α)),
    m.map List.length = List.replicate k 1 → p.length = k → kk.map List.length = List.replicate k 2 →
    keyRow m p kk = some (List.zipWith (fun m a => [m.headD a, a]) m p) := by
  induction k with
  | zero =>
    intro m p kk hm _ hk
    rw [List.map_eq_nil_iff.mp hm, List.map_eq_nil_iff.mp hk]
    rfl
  | succ k ih =>
    intro m p kk hm hp hk
    obtain ⟨m, ms, rfl, hm1, hms⟩ := List.map_eq_cons_iff.mp hm
    obtain ⟨e, es, rfl, he, hes⟩ := List.map_eq_cons_iff.mp hk
    obtain ⟨a, ps, rfl⟩ := List.exists_cons_of_length_eq_add_one hp
    obtain ⟨m0, rfl⟩ := List.length_eq_one_iff.mp hm1
    obtain ⟨b, c, rfl⟩ := List.length_eq_two.mp he
    rw [keyRow, ih ms ps es hms (Nat.succ.inj hp) hes]
    rfl

omit [Add α] [Mul α] [Sub α] in
/-- for ANY decomposition shape (ragged or not) -/
theorem keyRows_ok (shape : List Nat) : ∀ (m : Mat (List α)) (p : Mat α) (kk : Mat (List α)),
    Deg0 shape m → shapeOf p = shape →
    kk.map (fun row => row.map List.length) = shape.map (fun k => List.replicate k 2) →
    keyRows m p kk = some (evkAssemble m p) := by
  induction shape with
  | nil =>
    intro m p kk hm _ hk
    rw [List.map_eq_nil_iff.mp hm, List.map_eq_nil_iff.mp hk]
    rfl
  | cons k shape ih =>
    intro m p kk hm hp hk
    obtain ⟨m, ms, rfl, hm1, hms⟩ := List.map_eq_cons_iff.mp hm
    obtain ⟨p, ps, rfl, hp1, hps⟩ := List.map_eq_cons_iff.mp hp
    obtain ⟨e, es, rfl, he, hes⟩ := List.map_eq_cons_iff.mp hk
    rw [keyRows, keyRow_ok k m p e hm1 hp1 he, ih ms ps es hms hps hes]
    rfl

end shapes

end Lattigo.MP
