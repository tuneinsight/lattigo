/-
  C14 — `List.zipWith` and the model's `map3` under a second operation: combining two results
  component-wise (`…_zipWith`) and mapping a result (`…_push`).  The share arrays `[i][j][k]` are nested
  lists, so every fact about them is one of these applied once per level.  Last, `bind_of_eq_some`: one step of a
  driver handler's `do` block (used by the `handle*_calls` theorems of C04Ring, C14Ring, C16Ring).  Core Lean only.
-/
import Lattigo.Model.MPShare

namespace Lattigo.MP

variable {β γ δ ε β' γ' δ' ε' δ'' ε'' : Type}

theorem zipWith_assoc (f : β → β → β) (hf : ∀ a b c, f (f a b) c = f a (f b c)) :
    ∀ x y z : List β, List.zipWith f (List.zipWith f x y) z = List.zipWith f x (List.zipWith f y z)
  | [], _, _ => rfl
  | _ :: _, [], _ => rfl
  | _ :: _, _ :: _, [] => rfl
  | a :: x, b :: y, c :: z => List.cons_eq_cons.mpr ⟨hf a b c, zipWith_assoc f hf x y z⟩

theorem map3_zipWith (f : β → γ → δ → ε) (f' : β → γ → δ' → ε') (f'' : β → γ → δ'' → ε'')
    (g : ε → ε' → ε'') (h : δ → δ' → δ'') (hf : ∀ b c d d', g (f b c d) (f' b c d') = f'' b c (h d d')) :
    ∀ (B : List β) (C : List γ) (D : List δ) (D' : List δ'),
      List.zipWith g (map3 f B C D) (map3 f' B C D') = map3 f'' B C (List.zipWith h D D')
  | [], _, _, _ => rfl
  | _ :: _, [], _, _ => rfl
  | _ :: _, _ :: _, [], _ => rfl
  | _ :: _, _ :: _, _ :: _, [] => rfl
  | b :: B, c :: C, d :: D, d' :: D' =>
    List.cons_eq_cons.mpr ⟨hf b c d d', map3_zipWith f f' f'' g h hf B C D D'⟩

theorem zipWith_push (f : β → γ → ε) (f' : β' → γ' → ε') (g : ε → ε') (φb : β → β') (φc : γ → γ')
    (h : ∀ b c, g (f b c) = f' (φb b) (φc c)) (B : List β) (C : List γ) :
    (List.zipWith f B C).map g = List.zipWith f' (B.map φb) (C.map φc) := by
  rw [List.map_zipWith, List.zipWith_map]
  exact congrArg (List.zipWith · B C) (funext fun b => funext (h b))

theorem map3_push (f : β → γ → δ → ε) (f' : β' → γ' → δ' → ε') (g : ε → ε') (φb : β → β') (φc : γ → γ')
    (φd : δ → δ') (h : ∀ b c d, g (f b c d) = f' (φb b) (φc c) (φd d)) :
    ∀ (B : List β) (C : List γ) (D : List δ),
      (map3 f B C D).map g = map3 f' (B.map φb) (C.map φc) (D.map φd)
  | [], _, _ => rfl
  | _ :: _, [], _ => rfl
  | _ :: _, _ :: _, [] => rfl
  | b :: B, c :: C, d :: D => List.cons_eq_cons.mpr ⟨h b c d, map3_push f f' g φb φc φd h B C D⟩

theorem matMap3_push (f : β → γ → δ → ε) (f' : β' → γ' → δ' → ε') (g : ε → ε') (φb : β → β')
    (φc : γ → γ') (φd : δ → δ') (h : ∀ b c d, g (f b c d) = f' (φb b) (φc c) (φd d))
    (B : Mat β) (C : Mat γ) (D : Mat δ) :
    (matMap3 f B C D).map (List.map g)
      = matMap3 f' (B.map (List.map φb)) (C.map (List.map φc)) (D.map (List.map φd)) :=
  map3_push (map3 f) (map3 f') (List.map g) (List.map φb) (List.map φc) (List.map φd)
    (map3_push f f' g φb φc φd h) B C D

theorem map3_singleton_length (f : β → γ → δ → ε) :
    ∀ (k : Nat) (a : List β) (w : List γ) (e : List δ), a.length = k → w.length = k → e.length = k →
      (map3 (fun a w e => [f a w e]) a w e).map List.length = List.replicate k 1
  | 0, [], _, _, _, _, _ => rfl
  | k + 1, _ :: as, _ :: ws, _ :: es, ha, hw, he =>
    congrArg (List.cons 1)
      (map3_singleton_length f k as ws es (Nat.succ.inj ha) (Nat.succ.inj hw) (Nat.succ.inj he))

theorem bind_of_eq_some {α β : Type} {a : Option α} {v : α} {f : α → Option β} {r : Option β} (h : a = some v)
    (hf : f v = r) : a >>= f = r := by
  subst h
  exact hf

end Lattigo.MP
