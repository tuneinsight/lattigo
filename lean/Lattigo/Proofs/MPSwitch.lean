/-
  C16 — collective key switching, share conversion, refresh: algebra for every commutative ring,
  plus the integer lemmas behind the plaintext-space maps (BGV `RingQ2T`: `q2t_centred`, `e2s_sum_mod_t`; CKKS mask
  rescaling: `tdiv_err`) and behind `GetMinimumLevelForRefresh` (`le_two_pow_clog2`, `primesNeeded_sound`,
  `abs_sum_le_of_abs_le`).
-/
import Mathlib.Tactic.Ring
import Mathlib.Tactic.Linarith
import Mathlib.Algebra.Order.Group.Abs
import Mathlib.Data.Int.ModEq
import Lattigo.Proofs.MPKeys
import Lattigo.Model.MPSwitch

namespace Lattigo.MP

section ring
variable {α : Type} [CommRing α]

theorem cksShare_add (c1 sIn sOut e sIn' sOut' e' : α) :
    cksShare c1 sIn sOut e + cksShare c1 sIn' sOut' e' =
      cksShare c1 (sIn + sIn') (sOut + sOut') (e + e') := by
  unfold cksShare; ring

theorem cks_tree (c1 : α) (sIn sOut e : Nat → α) (t : AggTree) :
    t.eval (· + ·) (fun i => cksShare c1 (sIn i) (sOut i) (e i)) =
      cksShare c1 (t.eval (· + ·) sIn) (t.eval (· + ·) sOut) (t.eval (· + ·) e) :=
  t.eval_map₃ (cksShare c1) (cksShare_add c1) sIn sOut e

theorem cks_phase_single (c0 c1 sIn sOut e : α) :
    phase (c0 + cksShare c1 sIn sOut e) c1 sOut = phase c0 c1 sIn + e := by
  unfold phase cksShare; ring

theorem pcksShare_add (c1 : α) (z : α × α) (s e : α) (z' : α × α) (s' e' : α) :
    pcksAggregate (pcksShare z c1 s e) (pcksShare z' c1 s' e') =
      pcksShare (pcksAggregate z z') c1 (s + s') (e + e') := by
  unfold pcksAggregate pcksShare
  exact Prod.ext (by ring) rfl

theorem pcks_tree (c1 : α) (z : Nat → α × α) (s e : Nat → α) (t : AggTree) :
    t.eval pcksAggregate (fun i => pcksShare (z i) c1 (s i) (e i)) =
      pcksShare (t.eval (· + ·) (fun i => (z i).1), t.eval (· + ·) (fun i => (z i).2)) c1
        (t.eval (· + ·) s) (t.eval (· + ·) e) := by
  rw [← t.eval_map₂ Prod.mk (op := pcksAggregate) (fun _ _ _ _ => rfl)]
  exact t.eval_map₃ (pcksShare · c1 · ·) (pcksShare_add c1) z s e

theorem pcks_phase_single (c0 c1 s e sOut : α) (z : α × α) :
    phase (pcksKeySwitch c0 (pcksShare z c1 s e)).1 (pcksKeySwitch c0 (pcksShare z c1 s e)).2 sOut =
      phase c0 c1 s + e + phase z.1 z.2 sOut := by
  unfold phase pcksKeySwitch pcksShare; ring

/-- `pinv·P = 1`; `d0, d1` are the centred lifts of the P-residues, which make the bracket divisible by P -/
theorem encZeroPk_phase (pinv pk0 pk1 u e0 e1 d0 d1 sOut epk : α) (hpk : phase pk0 pk1 sOut = epk) :
    phase (encZeroPk pinv pk0 pk1 u e0 e1 d0 d1).1 (encZeroPk pinv pk0 pk1 u e0 e1 d0 d1).2 sOut =
      pinv * (u * epk + e0 + e1 * sOut - d0 - d1 * sOut) := by
  subst hpk
  unfold phase encZeroPk; ring

theorem e2sShare_add (c1 s e m s' e' m' : α) :
    e2sShare 0 c1 s e m + e2sShare 0 c1 s' e' m' = e2sShare 0 c1 (s + s') (e + e') (m + m') := by
  unfold e2sShare cksShare; ring

theorem e2s_tree (c1 : α) (s e m : Nat → α) (t : AggTree) :
    t.eval (· + ·) (fun i => e2sShare 0 c1 (s i) (e i) (m i)) =
      e2sShare 0 c1 (t.eval (· + ·) s) (t.eval (· + ·) e) (t.eval (· + ·) m) :=
  t.eval_map₃ (e2sShare 0 c1) (e2sShare_add c1) s e m

theorem e2s_masked_single (c0 c1 s e m : α) :
    e2sMasked c0 (e2sShare 0 c1 s e m) = phase c0 c1 s + e - m := by
  unfold e2sMasked e2sShare cksShare phase; ring

theorem s2eShare_add (a s e m s' e' m' : α) :
    s2eShare 0 a s e m + s2eShare 0 a s' e' m' = s2eShare 0 a (s + s') (e + e') (m + m') := by
  unfold s2eShare cksShare; ring

theorem s2e_tree (a : α) (s e m : Nat → α) (t : AggTree) :
    t.eval (· + ·) (fun i => s2eShare 0 a (s i) (e i) (m i)) =
      s2eShare 0 a (t.eval (· + ·) s) (t.eval (· + ·) e) (t.eval (· + ·) m) :=
  t.eval_map₃ (s2eShare 0 a) (s2eShare_add a) s e m

theorem s2e_phase_single (a s e m : α) : phase (s2eShare 0 a s e m) a s = m + e := by
  unfold phase s2eShare cksShare; ring

theorem refresh_tree (c1 a : α) (sIn sOut e1 e2 m m' : Nat → α) (t : AggTree) :
    t.eval refreshAggregate (fun i => refreshShare 0 c1 a (sIn i) (sOut i) (e1 i) (e2 i) (m i) (m' i)) =
      (e2sShare 0 c1 (t.eval (· + ·) sIn) (t.eval (· + ·) e1) (t.eval (· + ·) m),
        s2eShare 0 a (t.eval (· + ·) sOut) (t.eval (· + ·) e2) (t.eval (· + ·) m')) := by
  rw [← e2s_tree, ← s2e_tree]
  exact t.eval_map₂ Prod.mk (fun _ _ _ _ => rfl) _ _

/-- the masks cancel because `T` is additive: `T(p − M) + T(M) = T(p)` -/
theorem transform_single (T : α →+ α) (c0 c1 a SIn SOut E1 E2 M : α) :
    phase (refreshFinalize (T (e2sMasked c0 (e2sShare 0 c1 SIn E1 M))) (s2eShare 0 a SOut E2 (T M)) a).1
      (refreshFinalize (T (e2sMasked c0 (e2sShare 0 c1 SIn E1 M))) (s2eShare 0 a SOut E2 (T M)) a).2 SOut =
      T (phase c0 c1 SIn + E1) + E2 := by
  rw [e2s_masked_single, map_sub]
  unfold refreshFinalize phase s2eShare cksShare
  ring

end ring

/-! ### BGV: `RingQ2T` is "centred representative modulo Q, then modulo t" -/

set_option linter.unusedVariables false in  -- `hQ` is not needed: `hlo` and `hhi` give `0 < Q`
theorem q2t_centred (Q T x : Nat) (v : Int) (hQ : 0 < Q) (hT : 0 < T)
    (hx : v ≡ (x * T : Nat) [ZMOD Q]) (hlo : -((Q / 2 : Nat) : Int) ≤ v)
    (hhi : v < (Q : Int) - ((Q / 2 : Nat) : Int)) :
    ((q2tCoeff Q T x : Nat) : Int) = v % T := by
  -- `y = (x·T mod Q + Q/2) mod Q` is `v + Q/2`: congruent to it modulo `Q`, and both lie in `[0, Q)`
  have hy : ((x * T % Q + Q / 2 : Nat) : Int) % Q = v + ((Q / 2 : Nat) : Int) := by
    have h : ((x * T : Nat) : Int) % Q + ((Q / 2 : Nat) : Int) ≡ v + ((Q / 2 : Nat) : Int) [ZMOD Q] :=
      ((Int.mod_modEq _ _).trans hx.symm).add_right _
    rw [Int.natCast_add, Int.natCast_mod, h.eq]
    exact Int.emod_eq_of_lt (by omega) (by omega)
  have hle : Q / 2 % T ≤ (x * T % Q + Q / 2) % Q % T + T :=
    Nat.le_trans (Nat.mod_lt _ hT).le (Nat.le_add_left _ _)
  unfold q2tCoeff
  rw [Int.natCast_mod, Int.natCast_sub hle, Int.natCast_add, Int.natCast_mod, Int.natCast_mod, hy,
    Int.natCast_mod,
    Int.emod_def (v + _) T, Int.emod_def ((Q / 2 : Nat) : Int) T]
  -- modulo `T` what is left is `v` plus a multiple of `T`
  have e : v + ((Q / 2 : Nat) : Int) - T * ((v + ((Q / 2 : Nat) : Int)) / T) + T
        - (((Q / 2 : Nat) : Int) - T * (((Q / 2 : Nat) : Int) / T))
      = v + T * (1 - (v + ((Q / 2 : Nat) : Int)) / T + ((Q / 2 : Nat) : Int) / T) := by ring
  rw [e, Int.add_mul_emod_self_left]

theorem e2s_sum_mod_t (Q T x : Nat) (msg masks noise : Int) (hQ : 0 < Q) (hT : 0 < T)
    (hx : msg - masks + T * noise ≡ (x * T : Nat) [ZMOD Q])
    (hlo : -((Q / 2 : Nat) : Int) ≤ msg - masks + T * noise)
    (hhi : msg - masks + T * noise < (Q : Int) - ((Q / 2 : Nat) : Int)) :
    (((q2tCoeff Q T x : Nat) : Int) + masks) % T = msg % T := by
  rw [q2t_centred Q T x _ hQ hT hx hlo hhi, Int.emod_add_emod,
    show msg - masks + (T : Int) * noise + masks = msg + (T : Int) * noise by ring,
    Int.add_mul_emod_self_left]

/-! ### CKKS: rescaling the shares one by one loses less than one unit per share -/

theorem tdiv_err (y S : Int) (hS : 0 < S) : |S * Int.tdiv y S - y| < S := by
  have h := Int.mul_tdiv_add_tmod y S
  have h2 : S * Int.tdiv y S - y = -(Int.tmod y S) := by omega
  rw [h2, abs_neg]
  have := Int.tmod_lt_of_pos y hS
  have hneg : -S < Int.tmod y S := by
    rcases Int.le_total 0 y with hy | hy
    · have := Int.tmod_nonneg S hy; omega
    · have h3 : Int.tmod y S = -(Int.tmod (-y) S) := by simp [Int.neg_tmod]
      have h4 := Int.tmod_lt_of_pos (-y) hS
      omega
  exact abs_lt.mpr ⟨hneg, this⟩

theorem le_two_pow_clog2 (n : Nat) : n ≤ 2 ^ clog2 n := by
  unfold clog2
  split
  · omega
  · have := Nat.lt_log2_self (n := n - 1)
    omega

/-- `primesNeeded bound acc qs = some k`: `k` is the least number of leading primes of `qs` whose product with
    `acc` reaches `bound` -/
theorem primesNeeded_sound : ∀ (qs : List Nat) (bound acc k : Nat),
    primesNeeded bound acc qs = some k →
      bound ≤ acc * (qs.take k).prod ∧ (0 < k → acc * (qs.take (k - 1)).prod < bound) := by
  intro qs
  induction qs with
  | nil =>
    intro bound acc k h
    rw [primesNeeded] at h
    split at h
    · cases h
      exact ⟨by rwa [List.take_nil, List.prod_nil, Nat.mul_one], fun h0 => absurd h0 (Nat.lt_irrefl 0)⟩
    · cases h
  | cons q rest ih =>
    intro bound acc k h
    rw [primesNeeded] at h
    split at h
    · cases h
      exact ⟨by rwa [List.take_zero, List.prod_nil, Nat.mul_one], fun h0 => absurd h0 (Nat.lt_irrefl 0)⟩
    · rename_i hlt
      obtain ⟨k', hk', rfl⟩ := Option.map_eq_some_iff.mp h
      obtain ⟨h1, h2⟩ := ih bound (acc * q) k' hk'
      refine ⟨by rwa [List.take_succ_cons, List.prod_cons, ← Nat.mul_assoc], fun _ => ?_⟩
      cases k' with
      | zero => rwa [Nat.zero_add, Nat.sub_self, List.take_zero, List.prod_nil, Nat.mul_one, ← Nat.not_le]
      | succ j =>
        rw [Nat.add_sub_cancel, List.take_succ_cons, List.prod_cons, ← Nat.mul_assoc]
        exact h2 (Nat.succ_pos j)

theorem abs_sum_le_of_abs_le (H : Int) (masks : List Int) (h : ∀ M ∈ masks, |M| ≤ H) :
    |masks.sum| ≤ masks.length * H := by
  induction masks with
  | nil => simp
  | cons M Ms ih =>
    have h1 := h M List.mem_cons_self
    have h2 := ih fun x hx => h x (List.mem_cons_of_mem _ hx)
    rw [List.sum_cons, List.length_cons, Nat.cast_succ, add_mul, one_mul, add_comm _ H]
    exact (abs_add_le _ _).trans (add_le_add h1 h2)

end Lattigo.MP
