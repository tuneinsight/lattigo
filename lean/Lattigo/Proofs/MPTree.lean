/-
  C14/C16 — what holds of an aggregation along a tree whatever the shares are: a map that turns one
  operation into another commutes with `AggTree.eval` (one to three share families), an invariant of
  the validating operation makes `AggTree.evalM` succeed, a subadditive size grows at most with the
  number of leaves.  Every "the aggregate of the shares is the share of the sums" below is one of these.
  Core Lean only.
-/
import Lattigo.Model.MPShare

namespace Lattigo.MP.AggTree

variable {β β₁ β₂ β₃ γ : Type}

theorem eval_map (φ : β → γ) {op : β → β → β} {op' : γ → γ → γ}
    (h : ∀ x y, op' (φ x) (φ y) = φ (op x y)) (t : AggTree) (s : Nat → β) :
    t.eval op' (fun i => φ (s i)) = φ (t.eval op s) := by
  induction t with
  | leaf i => rfl
  | node l r ihl ihr => exact (congr (congrArg op' ihl) ihr).trans (h _ _)

theorem eval_map₂ (φ : β₁ → β₂ → γ) {op₁ : β₁ → β₁ → β₁} {op₂ : β₂ → β₂ → β₂} {op : γ → γ → γ}
    (h : ∀ a b a' b', op (φ a b) (φ a' b') = φ (op₁ a a') (op₂ b b'))
    (t : AggTree) (a : Nat → β₁) (b : Nat → β₂) :
    t.eval op (fun i => φ (a i) (b i)) = φ (t.eval op₁ a) (t.eval op₂ b) := by
  induction t with
  | leaf i => rfl
  | node l r ihl ihr => exact (congr (congrArg op ihl) ihr).trans (h _ _ _ _)

theorem eval_map₃ (φ : β₁ → β₂ → β₃ → γ) {op₁ : β₁ → β₁ → β₁} {op₂ : β₂ → β₂ → β₂}
    {op₃ : β₃ → β₃ → β₃} {op : γ → γ → γ}
    (h : ∀ a b c a' b' c', op (φ a b c) (φ a' b' c') = φ (op₁ a a') (op₂ b b') (op₃ c c'))
    (t : AggTree) (a : Nat → β₁) (b : Nat → β₂) (c : Nat → β₃) :
    t.eval op (fun i => φ (a i) (b i) (c i)) = φ (t.eval op₁ a) (t.eval op₂ b) (t.eval op₃ c) := by
  induction t with
  | leaf i => rfl
  | node l r ihl ihr => exact (congr (congrArg op ihl) ihr).trans (h _ _ _ _ _ _)

theorem evalM_ok {op : β → β → Res β} (I : β → Prop) (π : β → γ) (op' : γ → γ → γ)
    (h : ∀ x y, I x → I y → ∃ z, op x y = .ok z ∧ I z ∧ π z = op' (π x) (π y))
    (t : AggTree) (s : Nat → β) (hs : ∀ i ∈ t.leaves, I (s i)) :
    ∃ g, t.evalM op s = .ok g ∧ I g ∧ π g = t.eval op' (fun i => π (s i)) := by
  induction t with
  | leaf i => exact ⟨s i, rfl, hs i (List.mem_singleton_self i), rfl⟩
  | node l r ihl ihr =>
    obtain ⟨x, hx, ix, vx⟩ := ihl fun i hi => hs i (List.mem_append_left _ hi)
    obtain ⟨y, hy, iy, vy⟩ := ihr fun i hi => hs i (List.mem_append_right _ hi)
    obtain ⟨z, hz, iz, vz⟩ := h x y ix iy
    refine ⟨z, ?_, iz, by rw [vz, vx, vy]; rfl⟩
    show ((l.evalM op s).bind fun x => (r.evalM op s).bind fun y => op x y) = .ok z
    rw [hx, hy]
    exact hz

theorem eval_le (ν : β → Nat) {op : β → β → β} (hν : ∀ x y, ν (op x y) ≤ ν x + ν y)
    (t : AggTree) (s : Nat → β) (B : Nat) (h : ∀ i ∈ t.leaves, ν (s i) ≤ B) :
    ν (t.eval op s) ≤ t.leaves.length * B := by
  induction t with
  | leaf i => exact Nat.le_trans (h i (List.mem_singleton_self i)) (Nat.le_of_eq (Nat.one_mul B).symm)
  | node l r ihl ihr =>
    have hl := ihl fun i hi => h i (List.mem_append_left _ hi)
    have hr := ihr fun i hi => h i (List.mem_append_right _ hi)
    have := hν (l.eval op s) (r.eval op s)
    show ν (op (l.eval op s) (r.eval op s)) ≤ (l.leaves ++ r.leaves).length * B
    rw [List.length_append, Nat.add_mul]
    omega

theorem eval_op_le (ν : β → Nat) {op : β → β → β} (hν : ∀ x y, ν (op x y) ≤ ν x + ν y)
    (t : AggTree) (a b : Nat → β) (A B : Nat) (ha : ∀ i ∈ t.leaves, ν (a i) ≤ A)
    (hb : ∀ i ∈ t.leaves, ν (b i) ≤ B) :
    ν (op (t.eval op a) (t.eval op b)) ≤ t.leaves.length * (A + B) := by
  rw [Nat.mul_add]
  exact Nat.le_trans (hν _ _) (Nat.add_le_add (t.eval_le ν hν a A ha) (t.eval_le ν hν b B hb))

end Lattigo.MP.AggTree
