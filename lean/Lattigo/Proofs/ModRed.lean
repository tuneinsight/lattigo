import Lattigo.Gen.ModRed
import Lattigo.Model.BRedConst
import Mathlib.Tactic.Linarith
import Mathlib.Tactic.Ring
/-!
  C01 — the word-level reductions of ring/modular_reduction.go as regenerated in `Gen/ModRed.lean`.  The Montgomery
  family (`MRed`, `MRedLazy`, `IMForm`, `IMFormLazy`) comes from one step lemma on naturals (`mont_step_eq`), the Barrett
  family (`BRedAdd`, `BRed`, `MForm` and their lazy forms) from the quotient estimate `barrett_quot` and `barrett_words`.
-/
namespace Lattigo
open Lattigo.Gen

theorem W_pos : 0 < W := by decide

theorem u64add_eq (a b : Nat) (h : a + b < W) : u64add a b = a + b := Nat.mod_eq_of_lt h

/-- the minuend may be `2^64` itself (as `NthRoot` is in `GaloisGen`) -/
theorem u64sub_eq_of_sub_lt (a b : Nat) (hb : b ≤ a) (hbW : b < W) (h : a - b < W) :
    u64sub a b = a - b := by
  unfold u64sub
  rw [Nat.mod_eq_of_lt hbW, Nat.sub_add_comm hb, Nat.add_mod_right, Nat.mod_eq_of_lt h]

theorem u64sub_eq (a b : Nat) (hb : b ≤ a) (ha : a < W) : u64sub a b = a - b :=
  u64sub_eq_of_sub_lt a b hb (Nat.lt_of_le_of_lt hb ha) (Nat.lt_of_le_of_lt (Nat.sub_le a b) ha)

theorem u64sub_one (p : Nat) (h0 : 0 < p) (hW : p ≤ W) : u64sub p 1 = p - 1 :=
  u64sub_eq_of_sub_lt p 1 h0 (by decide) (Nat.lt_of_lt_of_le (Nat.sub_lt h0 Nat.one_pos) hW)

theorem u64shl_one (q : Nat) (h : 2 * q < W) : u64shl q 1 = 2 * q := by
  simp only [u64shl, Nat.pow_one]; rw [Nat.mul_comm]; exact Nat.mod_eq_of_lt h

theorem u64shl_one_left (k : Nat) (hk : k < 64) : u64shl 1 k = 2 ^ k := by
  unfold u64shl
  rw [Nat.one_mul, W_eq]
  exact Nat.mod_eq_of_lt (Nat.pow_lt_pow_right (by decide) hk)

theorem u64shr_eq (i k : Nat) : u64shr i k = i >>> k := (Nat.shiftRight_eq_div_pow i k).symm

theorem u64and_one (i : Nat) : u64and i 1 = i % 2 := Nat.and_one_is_mod i

theorem u64mul_one_right (a : Nat) : u64mul a 1 = a % W := by
  unfold u64mul; rw [Nat.mul_one]

theorem u64mul_zero_right (a : Nat) : u64mul a 0 = 0 := by
  unfold u64mul; rw [Nat.mul_zero]; exact Nat.zero_mod W

theorem u64mul_zero_left (a : Nat) : u64mul 0 a = 0 := by
  unfold u64mul; rw [Nat.zero_mul]; exact Nat.zero_mod W

theorem u64or_zero_right (a : Nat) : u64or a 0 = a := Nat.or_zero a

theorem u64or_zero_left (a : Nat) : u64or 0 a = a := Nat.zero_or a

theorem u64neg_zero : u64neg 0 = 0 := by decide

theorem u64neg_pos (a : Nat) (h0 : 0 < a) (hW : a < W) : u64neg a = W - a := by
  unfold u64neg
  rw [Nat.mod_eq_of_lt hW, Nat.mod_eq_of_lt (by omega)]

/-- `(c | -c) >> 63` is the "non-zero" bit of a uint64 -/
theorem nonzero_bit (a : Nat) (hW : a < W) : u64shr (u64or a (u64neg a)) 63 = if a = 0 then 0 else 1 := by
  by_cases h : a = 0
  · subst h; rw [if_pos rfl, u64neg_zero]; decide
  · rw [if_neg h, u64neg_pos a (Nat.pos_of_ne_zero h) hW]
    unfold u64shr u64or
    -- `a` and `2^64 - a` add up to `2^64`, so one of them, hence their `|||`, is at least `2^63`
    have h1 : a ≤ a ||| (W - a) := Nat.left_le_or
    have h2 : W - a ≤ a ||| (W - a) := Nat.right_le_or
    have h3 : a ||| (W - a) < 2 ^ 64 := Nat.or_lt_two_pow (by unfold W at hW; omega) (by unfold W; omega)
    generalize a ||| (W - a) = x at *
    unfold W at *
    omega

/-- `a - b + q` on uint64: a borrow in `a - b` is repaid by the `+ q`. -/
theorem u64sub_add_eq (a b q : Nat) (ha : a < W) (h1 : b ≤ a + q) (h2 : a + q - b < W) :
    u64add (u64sub a b) q = a + q - b := by
  simp only [u64add, u64sub]; unfold W at *; omega

theorem u64sub_low (P X : Nat) (h1 : X ≤ P) (h2 : P < X + W) : u64sub (P % W) (X % W) = P - X := by
  obtain ⟨d, rfl⟩ := Nat.exists_eq_add_of_le h1
  have hx := Nat.mod_lt X W_pos
  have hX := Nat.div_add_mod X W
  unfold u64sub
  rw [Nat.mod_mod, Nat.add_sub_cancel_left, Nat.add_sub_assoc (Nat.le_of_lt hx), Nat.mod_add_mod]
  -- the base plays no part from here on
  generalize W = w at *
  generalize X / w = k at *
  generalize X % w = x0 at *
  have e : X + d + (w - x0) = d + w + w * k := by omega
  rw [e, Nat.add_mul_mod_self_left, Nat.add_mod_right, Nat.mod_eq_of_lt (by omega)]

theorem u64neg_mul (t q : Nat) : u64mul (u64neg t) q = u64sub 0 (u64mul t q) := by
  simp only [u64mul, u64neg, u64sub, Nat.mod_mod, Nat.mod_mul_mod, Nat.zero_add]
  have ht := Nat.mod_lt t W_pos
  have hY : (W - t % W) * q + t % W * q = W * q := by
    rw [← Nat.add_mul, Nat.sub_add_cancel (Nat.le_of_lt ht)]
  rw [← Nat.mod_mul_mod t q]
  generalize (W - t % W) * q = Y at *
  generalize t % W * q = Z at *
  unfold W at *
  omega

/-- the form in which all congruences below are derived -/
theorem mod_eq_of_add_mul_eq {a b k1 k2 q : Nat} (h : a + k1 * q = b + k2 * q) : a % q = b % q := by
  have := congrArg (· % q) h
  simpa [Nat.add_mul_mod_self_right] using this

/-- `a < W` is needed because the statement is over `Nat`: for `a ≥ 2^64` the `uint64` subtraction is not the
integer one. -/
theorem CRed_spec (a q : Nat) (hq : 0 < q) (ha : a < 2 * q) (haW : a < W) : CRed a q = a % q := by
  unfold CRed
  by_cases h : q ≤ a
  · rw [if_pos (decide_eq_true h), u64sub_eq a q h haW]
    exact ((Nat.div_mod_unique hq (d := 1)).2 ⟨by omega, by omega⟩).2.symm
  · rw [if_neg (by simpa using h), Nat.mod_eq_of_lt (by omega)]

theorem CRed_lt_of_lt (a q b : Nat) (haW : a < W) (hab : a < b + q) (hqb : q ≤ b) : CRed a q < b := by
  unfold CRed
  by_cases h : q ≤ a
  · rw [if_pos (decide_eq_true h), u64sub_eq a q h haW]; omega
  · rw [if_neg (by simpa using h)]; omega

theorem CRed_lt (a q : Nat) (hq : 0 < q) (ha : a < 2 * q) (haW : a < W) : CRed a q < q := by
  rw [CRed_spec a q hq ha haW]; exact Nat.mod_lt _ hq

/-- The Montgomery constant hypothesis: `q * qinv ≡ 1 (mod 2^64)`. -/
def MontConst (q qinv : Nat) : Prop := (q * qinv) % W = 1

theorem mont_low (q qinv alo : Nat) (h : MontConst q qinv) (ha : alo < W) :
    ((alo * qinv) % W * q) % W = alo := by
  unfold MontConst at h
  rw [Nat.mod_mul_mod, Nat.mul_assoc, Nat.mul_comm qinv q, Nat.mul_mod, h, Nat.mul_one, Nat.mod_mod,
    Nat.mod_eq_of_lt ha]

theorem MontConst.pos {q qinv : Nat} (h : MontConst q qinv) : 0 < q := by
  rcases Nat.eq_zero_or_pos q with h0 | h0
  · subst h0; unfold MontConst at h; simp at h
  · exact h0

/-- the operand bounds of a Montgomery product as its callers have them: a word times a residue -/
theorem mul_lt_qW {x y q : Nat} (hx : x < W) (hy : y < q) : x * y < q * W :=
  Nat.mul_comm q W ▸ Nat.mul_lt_mul'' hx hy

theorem mont_high (m q qinv : Nat) (hm : MontConst q qinv) : m % W * q / W < q :=
  Nat.div_lt_of_lt_mul (Nat.mul_lt_mul_of_pos_right (Nat.mod_lt m W_pos) hm.pos)

/-- The Montgomery step on naturals, in any base `w`: `M` is the multiple of `q` with the low word of `P`, its high word
is below `q`; then `r = hi P + q - hi M` satisfies `r·w + M = P + q·w` and `hi P < r ≤ hi P + q`.  Nothing is asked of
`hi P` (the closing reduction of the 128-bit accumulator of `multSum` has a high word of several `q`). -/
theorem mont_step_eq {w P M q : Nat} (hlo : M % w = P % w) (hM : M / w < q) :
    (P / w + q - M / w) * w + M = P + q * w
    ∧ P / w < P / w + q - M / w ∧ P / w + q - M / w ≤ P / w + q := by
  have h1 := Nat.div_add_mod P w
  have h2 := Nat.div_add_mod M w
  have hb := Nat.mul_le_mul_right w (Nat.le_of_lt hM)
  rw [Nat.mul_comm] at h1 h2
  rw [hlo] at h2
  generalize P / w = a at *
  generalize M / w = b at *
  refine ⟨?_, by omega, by omega⟩
  rw [Nat.sub_mul, Nat.add_mul]
  omega

theorem mont_step {w P M q : Nat} (hlo : M % w = P % w) (hP : P / w < q) (hM : M / w < q) :
    (P / w + q - M / w) * w + M = P + q * w
    ∧ 0 < P / w + q - M / w ∧ P / w + q - M / w < 2 * q := by
  obtain ⟨h1, h2, h3⟩ := mont_step_eq (P := P) hlo hM
  exact ⟨h1, Nat.zero_lt_of_lt h2, Nat.lt_of_le_of_lt h3 (by rw [Nat.two_mul]; exact Nat.add_lt_add_right hP q)⟩

theorem MRedLazy_eq (x y q qinv : Nat) (hq : 2 * q ≤ W) (hm : MontConst q qinv)
    (hxy : x * y < q * W) :
    MRedLazy x y q qinv * W + ((x * y) % W * qinv % W) * q = x * y + q * W
    ∧ MRedLazy x y q qinv < 2 * q ∧ 0 < MRedLazy x y q qinv := by
  have hP : x * y / W < q := Nat.div_lt_of_lt_mul (Nat.mul_comm q W ▸ hxy)
  have hM := mont_high (x * y % W * qinv) q qinv hm
  obtain ⟨h1, h2, h3⟩ := mont_step (mont_low q qinv _ hm (Nat.mod_lt (x * y) W_pos)) hP hM
  unfold MRedLazy
  simp only [mul64, u64mul]
  rw [Nat.mod_eq_of_lt (by omega : x * y / W < W), Nat.mod_eq_of_lt (by omega : _ / W < W),
    u64sub_add_eq _ _ q (by omega) (by omega) (by omega)]
  exact ⟨h1, h3, h2⟩

/-- The Go comment says `[0, 2q-1]`; the value `0` is never produced. -/
theorem MRedLazy_spec (x y q qinv : Nat) (hq : 2 * q ≤ W) (hm : MontConst q qinv)
    (hxy : x * y < q * W) :
    (MRedLazy x y q qinv * W) % q = (x * y) % q
    ∧ MRedLazy x y q qinv < 2 * q ∧ 0 < MRedLazy x y q qinv := by
  obtain ⟨h, h2, h3⟩ := MRedLazy_eq x y q qinv hq hm hxy
  exact ⟨mod_eq_of_add_mul_eq (k2 := W) (by rw [h, Nat.mul_comm q W]), h2, h3⟩

theorem MRed_eq_CRed (x y q c : Nat) : MRed x y q c = CRed (MRedLazy x y q c) q := rfl

theorem MRed_spec (x y q qinv : Nat) (hq : 2 * q ≤ W) (hm : MontConst q qinv)
    (hxy : x * y < q * W) :
    (MRed x y q qinv * W) % q = (x * y) % q ∧ MRed x y q qinv < q := by
  obtain ⟨h1, h2, _⟩ := MRedLazy_spec x y q qinv hq hm hxy
  have hq0 := hm.pos
  rw [MRed_eq_CRed, CRed_spec _ q hq0 h2 (by omega)]
  exact ⟨by rw [Nat.mod_mul_mod]; exact h1, Nat.mod_lt _ hq0⟩

/-- The Go comment says `[0, 2q-1]`; the true range is `[1, q]`, with `q` attained at `a = 0`
(`C01Words.IMFormLazy_zero`).  It is the Montgomery step on `P = a`, whose high word is `0`. -/
theorem IMFormLazy_spec (a q qinv : Nat) (hqW : q < W) (hm : MontConst q qinv) (ha : a < W) :
    (IMFormLazy a q qinv * W) % q = a % q
    ∧ 0 < IMFormLazy a q qinv ∧ IMFormLazy a q qinv ≤ q := by
  have hM := mont_high (a * qinv) q qinv hm
  have hlo : a * qinv % W * q % W = a % W := by rw [mont_low q qinv a hm ha, Nat.mod_eq_of_lt ha]
  have h := mont_step hlo (Nat.div_eq_of_lt ha ▸ hm.pos) hM
  rw [Nat.div_eq_of_lt ha, Nat.zero_add] at h
  unfold IMFormLazy
  simp only [mul64, u64mul]
  rw [Nat.mod_eq_of_lt (by omega : _ / W < W), u64sub_eq q _ (by omega) hqW]
  exact ⟨mod_eq_of_add_mul_eq (k2 := W) (by rw [h.1, Nat.mul_comm q W]), h.2.1, Nat.sub_le _ _⟩

theorem IMForm_eq_CRed (a q c : Nat) : IMForm a q c = CRed (IMFormLazy a q c) q := rfl

theorem IMForm_spec (a q qinv : Nat) (hqW : q < W) (hm : MontConst q qinv) (ha : a < W) :
    (IMForm a q qinv * W) % q = a % q ∧ IMForm a q qinv < q := by
  obtain ⟨h1, h2, h3⟩ := IMFormLazy_spec a q qinv hqW hm ha
  have hq0 := hm.pos
  rw [IMForm_eq_CRed, CRed_spec _ q hq0 (by omega) (by omega)]
  exact ⟨by rw [Nat.mod_mul_mod]; exact h1, Nat.mod_lt _ hq0⟩

/-- The Barrett quotient estimate, used with `N = 2^64` (BRedAdd) and `N = 2^128` (BRed, MForm). -/
theorem barrett_quot (N q P : Nat) (hq : 0 < q) (hN : 0 < N) (hP : P ≤ N) :
    (P * (N / q) / N) * q ≤ P ∧ P < (P * (N / q) / N) * q + 2 * q := by
  have hu := Nat.div_add_mod N q
  have hr := Nat.mod_lt N hq
  generalize N / q = u at *
  generalize N % q = r0 at *
  have ht := Nat.div_add_mod (P * u) N
  have hs := Nat.mod_lt (P * u) hN
  generalize P * u / N = t at *
  generalize P * u % N = s at *
  -- `N·P = N·(t·q) + (s·q + P·r0)`, and the remainder term is below `2·N·q`
  have e : N * (t * q) + (s * q + P * r0) = N * P :=
    calc _ = (N * t + s) * q + P * r0 := by ring
      _ = P * (q * u + r0) := by rw [ht]; ring
      _ = N * P := by rw [hu, Nat.mul_comm]
  have h1 : s * q < N * q := Nat.mul_lt_mul_of_pos_right hs hq
  have h2 : P * r0 ≤ N * r0 := Nat.mul_le_mul_right r0 hP
  have h3 : N * r0 < N * q := Nat.mul_lt_mul_of_pos_left hr hN
  constructor
  · apply Nat.le_of_mul_le_mul_left _ hN
    omega
  · apply Nat.lt_of_mul_lt_mul_left (a := N)
    rw [Nat.mul_add, Nat.mul_left_comm N 2 q]
    omega

theorem brc_fst (q : Nat) (hq : 1 < q) : (brc q).1 = W / q := by
  unfold brc
  simp only
  rw [Nat.div_div_eq_div_mul, Nat.mul_div_mul_right _ _ W_pos]
  exact Nat.mod_eq_of_lt (Nat.div_lt_self W_pos hq)

theorem brc_snd (q : Nat) : (brc q).2 = (W * W / q) % W := rfl

theorem brc_lt (q : Nat) : (brc q).1 < W ∧ (brc q).2 < W :=
  ⟨Nat.mod_lt _ W_pos, Nat.mod_lt _ W_pos⟩

theorem brc_combine (q : Nat) (hq : 1 < q) : (brc q).1 * W + (brc q).2 = W * W / q := by
  have h1 : (brc q).1 = W * W / q / W := by
    rw [brc_fst q hq, Nat.div_div_eq_div_mul, Nat.mul_div_mul_right _ _ W_pos]
  rw [h1, brc_snd, Nat.mul_comm]
  exact Nat.div_add_mod _ _

/-- What every lazy Barrett reduction returns: with the quotient estimate `T = ⌊P·⌊N/q⌋/N⌋`, the word
`(P - t·q) mod 2^64`, `t ≡ T (mod 2^64)`, is the integer `P - T·q ∈ [0, 2q)`; it is recoverable from
the low words because `P - T·q < 2^64` (`hW`). -/
theorem barrett_words (N P Plo q t : Nat) (hq : 0 < q) (hN : 0 < N) (hP : P ≤ N)
    (hW : P < W ∨ 2 * q ≤ W) (hlo : Plo = P % W) (ht : t = P * (N / q) / N % W) :
    u64sub Plo (u64mul t q) % q = P % q ∧ u64sub Plo (u64mul t q) < 2 * q := by
  obtain ⟨h1, h2⟩ := barrett_quot N q P hq hN hP
  generalize P * (N / q) / N = T at *
  subst ht hlo
  rw [u64mul, Nat.mod_mul_mod, u64sub_low P (T * q) h1 (by omega)]
  exact ⟨mod_eq_of_add_mul_eq (k1 := T) (k2 := 0) (by omega), by omega⟩

/-- Only `q ≥ 2` is needed (`GenBRedConstant 1` wraps to `[0,0]`). -/
theorem BRedAddLazy_spec (x q : Nat) (hq : 1 < q) (hx : x < W) :
    BRedAddLazy x q (brc q) % q = x % q ∧ BRedAddLazy x q (brc q) < 2 * q := by
  unfold BRedAddLazy
  simp only [mul64, brc_fst q hq]
  exact barrett_words W x x q _ (by omega) W_pos (Nat.le_of_lt hx) (Or.inl hx)
    (Nat.mod_eq_of_lt hx).symm rfl

theorem BRedAdd_eq_CRed (a q : Nat) (c : Nat × Nat) : BRedAdd a q c = CRed (BRedAddLazy a q c) q := rfl

theorem BRedAdd_spec (a q : Nat) (hq : 1 < q) (ha : a < W) : BRedAdd a q (brc q) = a % q := by
  obtain ⟨h1, h2⟩ := BRedAddLazy_spec a q hq ha
  have h3 : BRedAddLazy a q (brc q) < W := Nat.mod_lt _ W_pos
  rw [BRedAdd_eq_CRed, CRed_spec _ q (by omega) h2 h3, h1]

/-- the two carries of the schedule below add up to the carry of the three-term sum -/
theorem add64_carries (B D c : Nat) :
    B / W + (B % W + c) / W + D / W + (D % W + (B + c) % W) / W = (B + D + c) / W := by
  unfold W
  omega

theorem div_div_limbs {w : Nat} (hw : 0 < w) (A B D C : Nat) :
    (A * w * w + (B + D) * w + C) / w / w = A + (B + D + C / w) / w := by
  rw [← Nat.add_mul, Nat.add_comm _ C, Nat.add_mul_div_right _ _ hw, Nat.add_comm (A * w),
    ← Nat.add_assoc, Nat.add_mul_div_right _ _ hw, Nat.add_comm _ A, Nat.add_comm (C / w)]

/-- The 128×128→high-128 partial-product schedule of `BRed` computes `⌊P·u / 2^128⌋ mod 2^64`
exactly (`P = mhi·2^64 + mlo`, `u = uhi·2^64 + ulo`); products are atoms. -/
theorem bred_quot_words (A B C D Pu : Nat) (h : Pu = A * W * W + (B + D) * W + C)
    (hC : C < W * W) :
    u64add (u64add (u64add (u64add (A % W) (B / W % W)) (add64 (B % W) (C / W % W) 0).2)
        (D / W % W)) (add64 (D % W) (add64 (B % W) (C / W % W) 0).1 0).2
      = Pu / (W * W) % W := by
  simp only [u64add, add64, Nat.add_mod_mod, Nat.mod_add_mod, Nat.add_zero]
  rw [Nat.mod_eq_of_lt (Nat.div_lt_of_lt_mul hC : C / W < W), h, ← Nat.div_div_eq_div_mul,
    div_div_limbs W_pos, ← add64_carries B D (C / W)]
  simp only [Nat.add_assoc]

/-- `2q ≤ 2^64` is what makes `x·y - t·q ∈ [0,2q)` recoverable from its low word. -/
theorem BRedLazy_spec (x y q : Nat) (hq : 1 < q) (h2q : 2 * q ≤ W) (hx : x < W) (hy : y < W) :
    BRedLazy x y q (brc q) % q = (x * y) % q ∧ BRedLazy x y q (brc q) < 2 * q := by
  have hP : x * y < W * W := Nat.mul_lt_mul'' hx hy
  unfold BRedLazy
  simp only [mul64, u64mul]
  refine barrett_words (W * W) (x * y) _ q _ (by omega) (by decide) (Nat.le_of_lt hP) (Or.inr h2q)
    rfl ?_
  rw [Nat.mod_eq_of_lt (Nat.div_lt_of_lt_mul hP)]
  refine bred_quot_words _ _ _ _ _ ?_ (Nat.mul_lt_mul'' (Nat.mod_lt _ W_pos) (brc_lt q).2)
  rw [← brc_combine q hq]
  conv_lhs => rw [← Nat.div_add_mod (x * y) W]
  ring

theorem BRed_eq_CRed (x y q : Nat) (c : Nat × Nat) : BRed x y q c = CRed (BRedLazy x y q c) q := rfl

theorem BRed_spec (x y q : Nat) (hq : 1 < q) (h2q : 2 * q ≤ W) (hx : x < W) (hy : y < W) :
    BRed x y q (brc q) = (x * y) % q := by
  obtain ⟨h1, h2⟩ := BRedLazy_spec x y q hq h2q hx hy
  rw [BRed_eq_CRed, CRed_spec _ q (by omega) h2 (by omega), h1]

theorem BRed_lt (x y q : Nat) (hq : 1 < q) (h2q : 2 * q ≤ W) (hx : x < W) (hy : y < W) :
    BRed x y q (brc q) < q := by
  rw [BRed_spec x y q hq h2q hx hy]; exact Nat.mod_lt _ (by omega)

/-- It is the Barrett reduction of `P = a·2^64`, whose low word is `0`: the final subtraction `0 - t·q`
is computed as `(-t)·q`. -/
theorem MFormLazy_spec (a q : Nat) (hq : 1 < q) (h2q : 2 * q ≤ W) (ha : a < W) :
    MFormLazy a q (brc q) % q = (a * W) % q ∧ MFormLazy a q (brc q) < 2 * q := by
  have hP : a * W ≤ W * W := Nat.mul_le_mul_right W (Nat.le_of_lt ha)
  unfold MFormLazy
  simp only [mul64, u64neg_mul]
  refine barrett_words (W * W) (a * W) 0 q _ (by omega) (by decide) hP (Or.inr h2q)
    (Nat.mul_mod_left _ _).symm ?_
  rw [Nat.mul_right_comm a W, Nat.mul_div_mul_right _ _ W_pos, ← brc_combine q hq, Nat.mul_add,
    ← Nat.mul_assoc, Nat.add_comm, Nat.add_mul_div_right _ _ W_pos, Nat.add_comm]
  simp only [u64add, u64mul, Nat.mod_add_mod, Nat.add_mod_mod]

theorem MForm_eq_CRed (a q : Nat) (c : Nat × Nat) : MForm a q c = CRed (MFormLazy a q c) q := rfl

theorem MForm_spec (a q : Nat) (hq : 1 < q) (h2q : 2 * q ≤ W) (ha : a < W) :
    MForm a q (brc q) = (a * W) % q := by
  obtain ⟨h1, h2⟩ := MFormLazy_spec a q hq h2q ha
  rw [MForm_eq_CRed, CRed_spec _ q (by omega) h2 (by omega), h1]

/-- the loop keeps a pair `(q^a, q^(a+1))`: multiplying and squaring takes `a` to `2a + 1` -/
theorem genMRed_loop (q : Nat) : ∀ n a : Nat,
    (loopN n (fun t : Nat × Nat => (u64mul t.1 t.2, u64mul t.2 t.2)) (q ^ a % W, q ^ (a + 1) % W)).1
      = q ^ ((a + 1) * 2 ^ n - 1) % W
  | 0, a => by rw [Nat.pow_zero, Nat.mul_one]; rfl
  | n + 1, a => by
    show (loopN n _ (u64mul _ _, u64mul _ _)).1 = _
    rw [u64mul, u64mul, ← Nat.mul_mod, ← Nat.mul_mod, ← Nat.pow_add, ← Nat.pow_add,
      show a + 1 + (a + 1) = a + (a + 1) + 1 by omega, genMRed_loop q n,
      show (a + (a + 1) + 1) * 2 ^ n = (a + 1) * 2 ^ (n + 1) by rw [Nat.pow_succ]; ring]

theorem GenMRedConstant_eq (q : Nat) (hq : q < W) : GenMRedConstant q = q ^ (2 ^ 63 - 1) % W := by
  have h := genMRed_loop q 63 0
  rw [Nat.pow_zero, Nat.zero_add, Nat.pow_one, Nat.one_mul, Nat.mod_eq_of_lt hq,
    Nat.mod_eq_of_lt (by decide : 1 < W)] at h
  exact h

theorem sq_mod_double (x M h : Nat) (hM : M = 2 * h) (hh : 0 < h) (hx : x % M = 1) :
    (x * x) % (2 * M) = 1 := by
  have hd := Nat.div_add_mod x M
  rw [hx] at hd
  generalize x / M = c at hd
  have : x * x = 2 * M * (h * c * c + c) + 1 := by rw [← hd, hM]; ring
  rw [this, Nat.mul_add_mod]
  exact Nat.mod_eq_of_lt (by omega)

/-- each squaring doubles the modulus -/
theorem odd_pow_two_pow (q : Nat) (hodd : q % 2 = 1) : ∀ k : Nat, q ^ (2 ^ k) % 2 ^ (k + 1) = 1
  | 0 => by simpa using hodd
  | k + 1 => by
    rw [Nat.pow_succ 2 k, Nat.pow_mul, Nat.pow_two, Nat.pow_succ 2 (k + 1), Nat.mul_comm _ 2]
    exact sq_mod_double _ _ (2 ^ k) (by rw [Nat.pow_succ, Nat.mul_comm]) (Nat.two_pow_pos k)
      (odd_pow_two_pow q hodd k)

/-- The 63-step loop returns `q^(2^63-1) mod 2^64`: the inverse of `q`, because `q^(2^63) ≡ 1 (mod 2^64)` for odd `q`. -/
theorem GenMRedConstant_spec (q : Nat) (hodd : q % 2 = 1) (hq : q < W) :
    MontConst q (GenMRedConstant q) ∧ GenMRedConstant q < W := by
  rw [GenMRedConstant_eq q hq]
  refine ⟨?_, Nat.mod_lt _ (by decide)⟩
  unfold MontConst
  rw [Nat.mul_mod_mod, ← Nat.pow_succ']
  have : (2 ^ 63 - 1).succ = 2 ^ 63 := by decide
  rw [this, W_eq]
  exact odd_pow_two_pow q hodd 63

theorem MontConst.odd {q qinv : Nat} (h : MontConst q qinv) : q % 2 = 1 := by
  unfold MontConst at h
  have h2 : (q * qinv) % 2 = 1 := by
    have : (q * qinv) % W % 2 = (q * qinv) % 2 := Nat.mod_mod_of_dvd _ ⟨2 ^ 63, by decide⟩
    rw [← this, h]
  rcases Nat.mod_two_eq_zero_or_one q with h0 | h0
  · rw [Nat.mul_mod, h0] at h2; simp at h2
  · exact h0

theorem MontConst.coprime {q qinv : Nat} (hm : MontConst q qinv) : Nat.Coprime q W := by
  unfold MontConst at hm
  have hd := Nat.div_add_mod (q * qinv) W
  rw [hm] at hd
  have hg1 : Nat.gcd q W ∣ q * qinv := Nat.dvd_trans (Nat.gcd_dvd_left q W) (Nat.dvd_mul_right q qinv)
  have hg2 : Nat.gcd q W ∣ W * (q * qinv / W) := Nat.dvd_trans (Nat.gcd_dvd_right q W) (Nat.dvd_mul_right _ _)
  rw [← hd] at hg1
  exact Nat.eq_one_of_dvd_one ((Nat.dvd_add_right hg2).1 hg1)

/-- the minimum `1` of the range `[1, 2q-1]` is attained, for every admissible modulus -/
theorem MRedLazy_one (q qinv : Nat) (hq : 2 * q ≤ W) (hm : MontConst q qinv) :
    MRedLazy 1 (W % q) q qinv = 1 := by
  have hy : W % q < q := Nat.mod_lt _ hm.pos
  have hxy : 1 * (W % q) < q * W := mul_lt_qW (by decide) hy
  obtain ⟨he, hlt, hpos⟩ := MRedLazy_eq 1 (W % q) q qinv hq hm hxy
  have hmod : (MRedLazy 1 (W % q) q qinv * W) % q = (1 * W) % q := by
    rw [(MRedLazy_spec 1 (W % q) q qinv hq hm hxy).1, Nat.one_mul, Nat.one_mul, Nat.mod_mod]
  generalize MRedLazy 1 (W % q) q qinv = r at *
  -- `r·W ≡ 1·W (mod q)` with `q` coprime to `W`: `q ∣ r - 1`, and `r - 1 < 2q`
  have hdvd : q ∣ r - 1 := by
    apply hm.coprime.dvd_of_dvd_mul_right
    rw [Nat.sub_mul]
    exact Nat.dvd_of_mod_eq_zero (Nat.sub_mod_eq_zero_of_mod_eq hmod)
  rcases Nat.eq_zero_or_pos (r - 1) with h0 | h0
  · omega
  · -- `r = q + 1` would give `W + m·q = W mod q < q`
    have hr : r = q + 1 := by
      have := Nat.eq_of_dvd_of_lt_two_mul (Nat.ne_of_gt h0) hdvd (by omega)
      omega
    subst hr
    rw [Nat.add_mul, Nat.one_mul, Nat.one_mul] at he
    omega

end Lattigo
