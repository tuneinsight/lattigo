import Lattigo.Proofs.ModRed
import Lattigo.Proofs.ZModCast
import Mathlib.Data.ZMod.Basic
/-!
  The word-level reductions of Proofs/ModRed read in `ZMod q`.

  `2^64` is a unit of `ZMod q` as soon as a Montgomery constant exists (`MontConst`, which makes `q`
  coprime to `2^64`): no primality of `q` is needed, and division by `2^64` is written `· * W⁻¹`
  (`W_mul_inv`).  A congruence `r·2^64 ≡ t (mod q)`, the form in which Proofs/ModRed states the
  Montgomery results, then reads `r = t·W⁻¹` (`cast_eq_mul_W_inv`).
-/
namespace Lattigo
open Lattigo.Gen

theorem W_unit {q qinv : Nat} (hm : MontConst q qinv) : IsUnit ((W : Nat) : ZMod q) :=
  (ZMod.isUnit_iff_coprime W q).mpr hm.coprime.symm

theorem W_mul_inv {q qinv : Nat} (hm : MontConst q qinv) :
    ((W : Nat) : ZMod q) * ((W : Nat) : ZMod q)⁻¹ = 1 :=
  ZMod.coe_mul_inv_eq_one W hm.coprime.symm

theorem mul_W_mul_inv {q qinv : Nat} (hm : MontConst q qinv) (a : ZMod q) :
    a * (W : ZMod q) * (W : ZMod q)⁻¹ = a := by
  rw [mul_assoc, W_mul_inv hm, mul_one]

theorem eq_mul_W_inv {q qinv : Nat} (hm : MontConst q qinv) {a b : ZMod q} (h : a * (W : ZMod q) = b) :
    a = b * (W : ZMod q)⁻¹ := by
  rw [← h, mul_W_mul_inv hm]

theorem cast_eq_mul_W_inv {q qinv r t : Nat} (hm : MontConst q qinv) (h : (r * W) % q = t % q) :
    (r : ZMod q) = (t : ZMod q) * (W : ZMod q)⁻¹ :=
  eq_mul_W_inv hm (by rw [← Nat.cast_mul]; exact cast_of_mod h)

theorem MRedLazy_cast {q : Nat} (x y qinv : Nat) (hq : 2 * q ≤ W) (hm : MontConst q qinv) (hxy : x * y < q * W) :
    (MRedLazy x y q qinv : ZMod q) = (x : ZMod q) * (y : ZMod q) * (W : ZMod q)⁻¹ := by
  rw [cast_eq_mul_W_inv hm (MRedLazy_spec x y q qinv hq hm hxy).1, Nat.cast_mul]

theorem MRed_cast {q : Nat} (x y qinv : Nat) (hq : 2 * q ≤ W) (hm : MontConst q qinv) (hxy : x * y < q * W) :
    (MRed x y q qinv : ZMod q) = (x : ZMod q) * (y : ZMod q) * (W : ZMod q)⁻¹ := by
  rw [cast_eq_mul_W_inv hm (MRed_spec x y q qinv hq hm hxy).1, Nat.cast_mul]

theorem IMForm_cast (a q qinv : Nat) (hqW : q < W) (hm : MontConst q qinv) (ha : a < W) :
    (IMForm a q qinv : ZMod q) = (a : ZMod q) * (W : ZMod q)⁻¹ :=
  cast_eq_mul_W_inv hm (IMForm_spec a q qinv hqW hm ha).1

theorem CRed_cast (y q : Nat) (hy : y < W) : ((CRed y q : Nat) : ZMod q) = (y : ZMod q) := by
  unfold CRed
  by_cases h : q ≤ y
  · rw [if_pos (decide_eq_true h), u64sub_eq y q h hy, Nat.cast_sub h, ZMod.natCast_self, sub_zero]
  · rw [if_neg (by simpa using h)]

end Lattigo
