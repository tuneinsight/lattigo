import Lattigo.Proofs.NTTTables
import Mathlib.Algebra.BigOperators.Intervals

/-!
  # The conjugate-invariant transforms: semantics and `INTT_ci (NTT_ci a) = a` (property C01)

  `nttCI` = twist by `ρ_1` (`a'_0 = a_0`, `a'_j = a_j − ρ_1 a_{N−j}`), then the exact network from node
  `2` of a table of `2N` entries; `inttCI` = inverse network from node `2`, twist by `ρ_1⁻¹`,
  `p[0] ← 2p[0]`, multiplication by `(2N)⁻¹`.  With `ρ_1² = −1` the two twists compose to `2·id`
  (`twist_inv_twist`), whence `inttCI_nttCI`.
-/
namespace Lattigo.NTT
open Lattigo Lattigo.Gen

section
variable {F : Type} [CommRing F]

/-- exact twist: `a'_0 = a_0`, `a'_j = a_j − i·a_{n−j}` -/
def twistZ (i : F) (a : List F) : List F :=
  (List.range a.length).map fun j =>
    if j = 0 then a.getD 0 0 else a.getD j 0 - i * a.getD (a.length - j) 0

theorem twistZ_length (i : F) (a : List F) : (twistZ i a).length = a.length := by
  simp [twistZ]

theorem twistZ_getD (i : F) (a : List F) (j : ℕ) (hj : j < a.length) :
    (twistZ i a).getD j 0 = if j = 0 then a.getD 0 0 else a.getD j 0 - i * a.getD (a.length - j) 0 := by
  simp [twistZ, List.getD, hj]

theorem getD_map_mul (c : F) (l : List F) (j : ℕ) : (l.map (c * ·)).getD j 0 = c * l.getD j 0 :=
  ListLemmas.getD_map_of_eq _ 0 0 (mul_zero c) l j

/-- `i² = −1` and `i' = i⁻¹` give `i + i' = 0`.  The head of the second twist is replaced by twice the head of its
input, as `inttCoreConjugateInvariantLazy` does; `c` is the scaling in between. -/
theorem twist_inv_twist (i i' c : F) (hii : i * i' = 1) (hsq : i * i = -1) (a : List F) (ha : a ≠ []) :
    (2 * ((twistZ i a).map (c * ·)).getD 0 0) :: (twistZ i' ((twistZ i a).map (c * ·))).tail
      = a.map (2 * c * ·) := by
  have hs : i + i' = 0 := by linear_combination (-i) * hii + i' * hsq
  have hn : 0 < a.length := List.length_pos_iff.2 ha
  have hlenb : ((twistZ i a).map (c * ·)).length = a.length := by rw [List.length_map, twistZ_length]
  have hlen2 : (twistZ i' ((twistZ i a).map (c * ·))).length = a.length := by
    rw [twistZ_length, hlenb]
  apply ListLemmas.ext_getD 0
  · rw [List.length_cons, List.length_tail, hlen2, List.length_map]; omega
  intro j hj
  rw [List.length_cons, List.length_tail, hlen2] at hj
  rw [getD_map_mul (2 * c) a j]
  rcases j with _ | j
  · rw [List.getD_cons_zero, getD_map_mul, twistZ_getD i a 0 hn, if_pos rfl]; ring
  · have hj' : j + 1 < a.length := by omega
    rw [List.getD_cons_succ, List.getD_eq_getElem?_getD, List.getElem?_tail, ← List.getD_eq_getElem?_getD,
      twistZ_getD i' _ (j + 1) (by rw [hlenb]; exact hj'), if_neg (by omega), hlenb,
      getD_map_mul, getD_map_mul,
      twistZ_getD i a (j + 1) hj', if_neg (by omega),
      twistZ_getD i a (a.length - (j + 1)) (by omega), if_neg (by omega),
      show a.length - (a.length - (j + 1)) = j + 1 by omega]
    linear_combination (c * a.getD (j + 1) 0) * hii - (c * a.getD (a.length - (j + 1)) 0) * hs

end

theorem twistN_cast (T : Tables) (roots : Array ℕ) (a : List ℕ) (bu : ℕ)
    (h2 : bu + 2 * T.q ≤ W) (hm : MontConst T.q T.qinv) (hr : RootsLt roots T.q)
    (ha : ∀ x ∈ a, x < bu) :
    (twistN T roots a).map (Nat.cast : ℕ → ZMod T.q)
      = twistZ (rho T.q roots 1) (a.map (Nat.cast : ℕ → ZMod T.q)) := by
  have hq0 := hm.pos
  unfold twistN twistZ
  simp only [List.map_map, List.length_map]
  apply List.map_congr_left
  intro j _
  simp only [Function.comp, getD_map_cast, ListLemmas.toArray_get!]
  by_cases hj0 : j = 0
  · rw [if_pos hj0, if_pos hj0]
  · rw [if_neg hj0, if_neg hj0]
    have hlt : ∀ k, a.getD k 0 < W := by
      intro k
      cases a with
      | nil => exact Nat.lt_of_lt_of_le hq0 (by omega)
      | cons x a' =>
        have hb : 0 < bu := Nat.lt_of_le_of_lt (Nat.zero_le _) (ha x (List.mem_cons_self ..))
        have := ListLemmas.getD_forall (p := (· < bu)) hb ha k
        omega
    have hVP : a.getD (a.length - j) 0 * roots[1]! < T.q * W := mul_lt_qW (hlt _) (hr 1)
    have h2q : 2 * T.q ≤ W := by omega
    obtain ⟨_, hl, _⟩ := MRedLazy_eq _ _ T.q T.qinv h2q hm hVP
    rw [Nat.cast_sub (by omega), Nat.cast_add, Nat.cast_mul, ZMod.natCast_self, mul_zero, add_zero,
      MRedLazy_cast _ _ T.qinv h2q hm hVP]
    unfold rho
    ring

/-- Hypotheses on a `Tables` value for the conjugate-invariant ring of degree `n = 2^K`
(`nthRoot = 4n`, tables of `2n` entries): as `Valid`, with the inverse-pair condition on the node
indices `1 ≤ j < 2n`, `rootsF[1]² ≡ −W²` (`ρ_1² = −1`), and `nInv ≡ (2n)⁻¹·W`. -/
structure ValidCI (T : Tables) (K : ℕ) : Prop where
  n_eq : T.n = 2 ^ K
  prime : T.q.Prime
  h8 : 8 * T.q ≤ W
  mont : MontConst T.q T.qinv
  bred : T.bred = brc T.q
  rootsF_lt : RootsLt T.rootsF T.q
  rootsB_lt : RootsLt T.rootsB T.q
  roots_inv : ∀ j, 1 ≤ j → j < 2 ^ (K + 1) → (T.rootsF[j]! * T.rootsB[j]!) % T.q = (W * W) % T.q
  root1 : (T.rootsF[1]! * T.rootsF[1]! + W * W) % T.q = 0
  nInv_lt : T.nInv < T.q
  nInv_eq : (T.nInv * (2 * T.n)) % T.q = W % T.q

section
variable {T : Tables} {K : ℕ}

theorem ValidCI.fact (hT : ValidCI T K) : Fact T.q.Prime := ⟨hT.prime⟩

theorem ValidCI.rho_inv (hT : ValidCI T K) [Fact T.q.Prime] (j : ℕ) (h1 : 1 ≤ j)
    (h2 : j < 2 ^ (K + 1)) : rho T.q T.rootsF j * rho T.q T.rootsB j = 1 :=
  (rho_mul_eq_one_iff hT.mont.odd _ _ j).2 (hT.roots_inv j h1 h2)

theorem ValidCI.rho1_sq (hT : ValidCI T K) [Fact T.q.Prime] :
    rho T.q T.rootsF 1 * rho T.q T.rootsF 1 = -1 :=
  (rho_sq_eq_neg_one_iff hT.mont.odd _ 1).2 hT.root1

/-- `nttCICoreLazy` is `NTTLazy` of the conjugate-invariant ring; no relation between `M` and `q` is asked beyond
`M + 6q ≤ 2^64`.  The twist maps the inputs to values `< M + 2q`, the network goes on from there (`fwdRec_cast_sched`);
`M = 2q` gives `< 6q`, the documented range. -/
theorem nttCICoreLazy_big_all (hT : ValidCI T K) (M : ℕ)
    (hM : M + 6 * T.q ≤ W) (a : List ℕ) (ha : ∀ x ∈ a, x < M) :
    (nttCICoreLazy T a).map (Nat.cast : ℕ → ZMod T.q)
      = fwdZ (rho T.q T.rootsF) K 2 (twistZ (rho T.q T.rootsF 1) (a.map (Nat.cast : ℕ → ZMod T.q)))
    ∧ ∀ y ∈ nttCICoreLazy T a, y < max (M + 2 * T.q) (4 * T.q) + 2 * T.q := by
  obtain ⟨et, ht⟩ := twist_ok T T.rootsF a M (by omega) hT.mont hT.rootsF_lt ha
  unfold nttCICoreLazy
  rw [hT.n_eq, log2n_two_pow, et, ← twistN_cast T T.rootsF a M (by omega) hT.mont hT.rootsF_lt ha]
  exact fwdRec_cast_sched T.rootsF T.qinv _ 1 K 2 (by omega) hT.h8 hT.mont hT.rootsF_lt
    (fun hK d => flagCI_eq_true K d hK) (fun hK d => flagCI_true_iff K d hK) (M + 2 * T.q) (by omega) _ ht

theorem nttCI_big (hT : ValidCI T K) (M : ℕ) (hM : M + 6 * T.q ≤ W) (a : List ℕ)
    (ha : ∀ x ∈ a, x < M) :
    (nttCI T a).map (Nat.cast : ℕ → ZMod T.q)
      = fwdZ (rho T.q T.rootsF) K 2 (twistZ (rho T.q T.rootsF 1) (a.map (Nat.cast : ℕ → ZMod T.q)))
    ∧ ∀ y ∈ nttCI T a, y < T.q := by
  obtain ⟨c, r⟩ := nttCICoreLazy_big_all hT M hM a ha
  obtain ⟨c', r'⟩ := map_BRedAdd_cast hT.prime.one_lt (nttCICoreLazy T a)
    (fun y hy => by have := r y hy; omega)
  unfold nttCI
  rw [hT.bred, c', c]
  exact ⟨rfl, r'⟩

theorem nttCI_cast (hT : ValidCI T K) (a : List ℕ) (ha : ∀ x ∈ a, x < T.q) :
    (nttCI T a).map (Nat.cast : ℕ → ZMod T.q)
      = fwdZ (rho T.q T.rootsF) K 2 (twistZ (rho T.q T.rootsF 1) (a.map (Nat.cast : ℕ → ZMod T.q)))
    ∧ ∀ y ∈ nttCI T a, y < T.q :=
  nttCI_big hT T.q (by have := hT.h8; omega) a ha

theorem inttCICoreLazy_unfold (T : Tables) (a : List ℕ) :
    inttCICoreLazy T a
      = if twist T T.rootsB (invRec T.rootsB T.q T.qinv (log2n T.n) 2 a) = [] then []
        else CRed (u64shl ((invRec T.rootsB T.q T.qinv (log2n T.n) 2 a).headD 0) 1) T.q
          :: (twist T T.rootsB (invRec T.rootsB T.q T.qinv (log2n T.n) 2 a)).tail := by
  unfold inttCICoreLazy
  simp only []
  cases twist T T.rootsB (invRec T.rootsB T.q T.qinv (log2n T.n) 2 a) with
  | nil => simp
  | cons x l => simp

theorem inttCI_nttCI (hT : ValidCI T K) (a : List ℕ) (hlen : a.length = T.n)
    (ha : ∀ x ∈ a, x < T.q) : inttCI T (nttCI T a) = a := by
  have := hT.fact
  have h8 := hT.h8
  have h6 : 6 * T.q ≤ W := by omega
  have hK : 0 < 2 ^ K := Nat.two_pow_pos K
  obtain ⟨hfc, hflt⟩ := nttCI_cast hT a ha
  have hb2 : ∀ x ∈ nttCI T a, x < 2 * T.q := fun x hx => by have := hflt x hx; omega
  -- the inverse network undoes the forward network up to the factor `2^K`
  obtain ⟨_, hrlt⟩ := invRec_ok T.rootsB T.q T.qinv h6 hT.mont hT.rootsB_lt K 2 _ hb2
  have hic := invRec_cast T.rootsB T.qinv h6 hT.mont hT.rootsB_lt K 2 _ hb2
  have hlen' : (twistZ (rho T.q T.rootsF 1) (a.map (Nat.cast : ℕ → ZMod T.q))).length = 2 ^ K := by
    rw [twistZ_length, List.length_map, hlen, hT.n_eq]
  rw [hfc, invZ_fwdZ (rho T.q T.rootsF) (rho T.q T.rootsB) (2 ^ (K + 1))
    (fun i h1 h2 => hT.rho_inv i h1 h2) K 2 _ hlen' (by omega)
    (by rw [Nat.pow_succ]; omega)] at hic
  -- the second twist undoes the first up to the factor `2`
  have halg := twist_inv_twist (rho T.q T.rootsF 1) (rho T.q T.rootsB 1) ((2 : ZMod T.q) ^ K)
    (hT.rho_inv 1 (by omega) (by rw [Nat.pow_succ]; omega)) hT.rho1_sq (a.map (Nat.cast : ℕ → ZMod T.q))
    (by rw [Ne, List.map_eq_nil_iff, ← List.length_eq_zero_iff, hlen, hT.n_eq]; omega)
  rw [← hic] at halg
  have hcl := (inttCICoreLazy_range T K hT.n_eq h6 hT.mont hT.rootsB_lt _ hb2).2.2
  have hcore : (inttCICoreLazy T (nttCI T a)).map (Nat.cast : ℕ → ZMod T.q)
      = (a.map (Nat.cast : ℕ → ZMod T.q)).map (fun x => 2 * 2 ^ K * x) := by
    rw [inttCICoreLazy_unfold, hT.n_eq, log2n_two_pow]
    have hrlen : (invRec T.rootsB T.q T.qinv K 2 (nttCI T a)).length = 2 ^ K := by
      rw [← List.length_map (f := (Nat.cast : ℕ → ZMod T.q)), hic, List.length_map, hlen']
    generalize invRec T.rootsB T.q T.qinv K 2 (nttCI T a) = r at hrlt halg hrlen
    obtain ⟨x, r', rfl⟩ := List.exists_cons_of_length_pos (hrlen ▸ hK)
    obtain ⟨et, _⟩ := twist_ok T T.rootsB _ (2 * T.q) (by omega) hT.mont hT.rootsB_lt hrlt
    have htc := twistN_cast T T.rootsB _ (2 * T.q) (by omega) hT.mont hT.rootsB_lt hrlt
    have hne : twistN T T.rootsB (x :: r') ≠ [] := fun h => by
      have := congrArg List.length htc
      rw [h, List.length_map, twistZ_length, List.length_map] at this
      exact absurd this.symm (List.length_cons ▸ Nat.succ_ne_zero _)
    have hx := hrlt x (List.mem_cons_self ..)
    rw [et, if_neg hne, List.map_cons, ← halg, ← htc, List.map_tail, List.headD_cons,
      u64shl_one x (by omega), CRed_cast (2 * x) T.q (by omega), Nat.cast_mul, Nat.cast_ofNat]
    rfl
  -- the final multiplication by `nInv`
  have hn : ((T.nInv : ZMod T.q)) * (2 * (2 : ZMod T.q) ^ K) * (W : ZMod T.q)⁻¹ = 1 := by
    have h := (ZMod.natCast_eq_natCast_iff' _ _ T.q).2 hT.nInv_eq
    rw [hT.n_eq] at h
    simp only [Nat.cast_mul, Nat.cast_pow, Nat.cast_ofNat] at h
    rw [h]; exact W_mul_inv hT.mont
  unfold inttCI
  exact map_MRed_nInv T.qinv T.nInv _ (by omega) hT.mont hT.nInv_lt hn _ a
    (fun x hx => by have := hcl x hx; omega) ha hcore

end

/-- the conjugate-invariant ring of degree `N = 2^K` has `nthRoot = 4N`: its tables are the `PowTables` of `2N` entries
(`mkTables_pow` at `K + 1`) -/
theorem PowTables.validCI {T : Tables} {K : ℕ} {ψ : ZMod T.q}
    (h : PowTables T.q T.qinv T.rootsF T.rootsB T.nInv (K + 1) ψ) (hn : T.n = 2 ^ K) (hq : T.q.Prime)
    (h8 : 8 * T.q ≤ W) (hb : T.bred = brc T.q) : ValidCI T K := by
  have : Fact T.q.Prime := ⟨hq⟩
  refine ⟨hn, hq, h8, h.mont, hb, h.rootsF_lt, h.rootsB_lt, fun j _ hj => h.roots_inv j hj, ?_, h.nInv_lt, ?_⟩
  · have h1 := h.tableInv 1 (by omega) (Nat.one_lt_two_pow (by omega))
    rw [cnode_one, pow_two] at h1
    exact (rho_sq_eq_neg_one_iff h.mont.odd _ 1).1 h1
  · have e : 2 * T.n = 2 ^ (K + 1) := by rw [hn, Nat.pow_succ]; omega
    rw [e]; exact h.nInv_eq

open Finset

section
variable {F : Type} [CommRing F]

/-- what the twist is for: at `x` with `x^N = i`, `i² = −1`, the twisted vector takes the value of the
conjugate-invariant polynomial `a_0 + Σ_{m≥1} a_m (X^m + X^{−m})` -/
theorem evalL_twistZ (i x y : F) (hxy : x * y = 1) (a : List F) (hx : x ^ a.length = i)
    (hi : i * i = -1) (hN : 0 < a.length) :
    evalL (twistZ i a) x
      = ∑ j ∈ range a.length, a.getD j 0 * x ^ j
        + ∑ m ∈ range (a.length - 1), a.getD (m + 1) 0 * y ^ (m + 1) := by
  unfold twistZ
  rw [evalL_map_range]
  have hsplit : ∀ j ∈ range a.length,
      (if j = 0 then a.getD 0 0 else a.getD j 0 - i * a.getD (a.length - j) 0) * x ^ j
        = a.getD j 0 * x ^ j - (if j = 0 then 0 else i * a.getD (a.length - j) 0 * x ^ j) := by
    intro j _
    by_cases h : j = 0
    · subst h; simp
    · rw [if_neg h, if_neg h]; ring
  rw [sum_congr rfl hsplit, sum_sub_distrib, sub_eq_add_neg]
  congr 1
  obtain ⟨n, hn⟩ : ∃ n, a.length = n + 1 := ⟨a.length - 1, by omega⟩
  rw [hn, sum_range_succ', Nat.add_sub_cancel]
  simp only [if_true, add_zero, Nat.add_one_ne_zero, if_false]
  rw [← sum_neg_distrib, ← sum_range_reflect (fun m => a.getD (m + 1) 0 * y ^ (m + 1)) n]
  apply sum_congr rfl
  intro k hk
  have hk' : k < n := mem_range.1 hk
  have e1 : n + 1 - (k + 1) = n - 1 - k + 1 := by omega
  rw [e1]
  -- `x^(k+1) = i · y^(n-1-k+1)` because `x^(k+1) · x^(n-1-k+1) = x^N = i` and `x y = 1`
  have hxy' : x ^ (n - 1 - k + 1) * y ^ (n - 1 - k + 1) = 1 := by rw [← mul_pow, hxy, one_pow]
  have hsum : x ^ (k + 1) * x ^ (n - 1 - k + 1) = i := by
    rw [← pow_add, ← hx, hn]; congr 1; omega
  linear_combination (i * a.getD (n - 1 - k + 1) 0 * x ^ (k + 1)) * hxy'
    - (i * a.getD (n - 1 - k + 1) 0 * y ^ (n - 1 - k + 1)) * hsum
    - (a.getD (n - 1 - k + 1) 0 * y ^ (n - 1 - k + 1)) * hi

theorem pt_two_pow (ρ : ℕ → F) (K : ℕ) (hρ : TableInv ρ (2 ^ (K + 1))) (t : ℕ) : pt ρ K 2 t ^ 2 ^ K = ρ 1 := by
  rw [pt_pow _ _ hρ K 2 t (by omega) (by rw [Nat.pow_succ]; omega)]
  exact cnode_even _ 1 (by omega)

end

section
variable {T : Tables} {K : ℕ}

/-- With `x_t = pt ρ K 2 t`: `x_t^N = ρ_1` (`pt_two_pow`) and `ρ_1² = −1` (`ValidCI.rho1_sq`), so `x_t^{2N} = −1`; the
`x_t` are primitive `4N`-th roots of unity, and `nttCI` is the left half of the `2N`-point negacyclic transform of the
folded polynomial. -/
theorem nttCI_eval (hT : ValidCI T K) [Fact T.q.Prime]
    (hinv : TableInv (rho T.q T.rootsF) (2 ^ (K + 1)))
    (a : List ℕ) (hlen : a.length = T.n) (ha : ∀ x ∈ a, x < T.q) :
    (nttCI T a).map (Nat.cast : ℕ → ZMod T.q)
      = (List.range (2 ^ K)).map (fun t =>
          ∑ j ∈ range (2 ^ K), ((a.getD j 0 : ℕ) : ZMod T.q) * pt (rho T.q T.rootsF) K 2 t ^ j
          + ∑ m ∈ range (2 ^ K - 1),
              ((a.getD (m + 1) 0 : ℕ) : ZMod T.q) * (pt (rho T.q T.rootsF) K 2 t)⁻¹ ^ (m + 1)) := by
  have hK : 0 < 2 ^ K := Nat.two_pow_pos K
  have hsq := hT.rho1_sq
  have hpt := pt_two_pow _ K hinv
  have hl : (a.map (Nat.cast : ℕ → ZMod T.q)).length = 2 ^ K := by
    rw [List.length_map, hlen, hT.n_eq]
  rw [(nttCI_cast hT a ha).1, fwdZ_eval _ _ hinv K 2 _ (by rw [twistZ_length, hl]) (by omega)
    (by rw [Nat.pow_succ]; omega)]
  apply List.map_congr_left
  intro t _
  -- `x_t ≠ 0` because `x_t^N·x_t^N = −1`
  have hx0 : pt (rho T.q T.rootsF) K 2 t ≠ 0 := fun h0 => by
    have h := hsq
    rw [← hpt t, h0, zero_pow (by omega), mul_zero] at h
    exact one_ne_zero (α := ZMod T.q) (neg_eq_zero.1 h.symm)
  rw [evalL_twistZ (rho T.q T.rootsF 1) _ (pt (rho T.q T.rootsF) K 2 t)⁻¹ (mul_inv_cancel₀ hx0) _
    (by rw [hl]; exact hpt t) hsq (by rw [hl]; exact hK), hl]
  simp only [getD_map_cast]

end
end Lattigo.NTT
