import Lattigo.Proofs.NTTCI
import Lattigo.Proofs.NTTRangeBig

/-!
  # The conjugate-invariant forward transform on LARGE inputs

  `nttCICoreLazy_big_all` / `nttCI_big` (`NTTCI.lean`) are the no-wrap theorems for inputs `< M`, `M + 6q ≤ 2^64`.
  Their corollaries `C01QP.ntt_ci_unreduced` (`nttCI T a = nttCI T (a mod q)`) and `C01QP.twist_linear` (linearity of the
  exact twist, the companion of `fwdZ_zipWith_lin`; its entry-level step is here) are what
  `Div{Floor,Round}ByLastModulusNTT` / `DecomposeNTT` on a conjugate-invariant ring would need (`NTTLazy` of ring `q_i`
  applied to residues modulo the larger `q_ℓ`); no theorem about those operations uses them.
-/
namespace Lattigo.NTT
open Lattigo Lattigo.Gen

section
variable {F : Type} [CommRing F]

theorem getD_zipWith_lin (c : F) (A B : List F) (h : A.length = B.length) (k : ℕ) :
    (List.zipWith (fun a b => (a - b) * c) A B).getD k 0 = (A.getD k 0 - B.getD k 0) * c := by
  by_cases hk : k < A.length
  · simp [List.getD_eq_getElem?_getD, List.getElem?_zipWith, List.getElem?_eq_getElem hk,
      List.getElem?_eq_getElem (h ▸ hk)]
  · simp [List.getD_eq_getElem?_getD, List.getElem?_zipWith, List.getElem?_eq_none (Nat.le_of_not_lt hk),
      List.getElem?_eq_none (h ▸ Nat.le_of_not_lt hk)]

end

#print axioms nttCICoreLazy_big_all
#print axioms nttCI_big

end Lattigo.NTT
