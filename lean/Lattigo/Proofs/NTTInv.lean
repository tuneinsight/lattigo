import Lattigo.Proofs.NTTSem

/-!
  # `INTT (NTT a) = a`  (property C01)

  `invZ_fwdZ`: over any commutative ring, the Gentleman–Sande network with twiddles `ρ'` undoes the
  Cooley–Tukey network with twiddles `ρ` up to the factor `2^k` as soon as `ρ_j ρ'_j = 1` on the
  nodes used (one inverse stage undoes one forward stage up to the factor 2).  Together with the
  stage-wise exactness of `NTTSem.lean` and `nInv = N⁻¹` this gives `intt_ntt` for the Model's
  `inttStd`/`nttStd` (`inttStd_nttStd`).

  Also here, because both ring types and the users outside C01 (RingQP, C02's NTT-domain divisions) start from them:
  the hypothesis bundle `Valid T K`, `nttCoreLazy_abs`, `nttStd_cast`, `fwdZ_zipWith`, `MRed_mul_W`, `map_MRed_nInv`.
-/
namespace Lattigo.NTT
open Lattigo Lattigo.Gen

section
variable {F : Type} [CommRing F]

theorem node_bounds {j k M : ℕ} (hj : (j + 1) * 2 ^ (k + 1) ≤ 2 * M) :
    j < M ∧ (2 * j + 1) * 2 ^ k ≤ 2 * M ∧ (2 * j + 1 + 1) * 2 ^ k ≤ 2 * M := by
  have h2 : 2 ≤ 2 ^ (k + 1) := by
    calc 2 = 2 ^ 1 := rfl
      _ ≤ 2 ^ (k + 1) := Nat.pow_le_pow_right (by decide) (by omega)
  have h3 : (j + 1) * 2 ≤ (j + 1) * 2 ^ (k + 1) := Nat.mul_le_mul_left _ h2
  have h4 : (2 * j + 1) * 2 ^ k ≤ (2 * j + 2) * 2 ^ k := Nat.mul_le_mul_right _ (by omega)
  have e : (2 * j + 2) * 2 ^ k = (j + 1) * 2 ^ (k + 1) := by rw [Nat.pow_succ]; ring
  have e2 : (2 * j + 1 + 1) * 2 ^ k = (j + 1) * 2 ^ (k + 1) := by rw [Nat.pow_succ]; ring
  refine ⟨by omega, by omega, by omega⟩

theorem halves_length {α : Type} {a : List α} {k : ℕ} (h : a.length = 2 ^ (k + 1)) :
    a.length / 2 = 2 ^ k ∧ (a.take (a.length / 2)).length = 2 ^ k
    ∧ (a.drop (a.length / 2)).length = 2 ^ k := by
  rw [List.length_take, List.length_drop, h, Nat.pow_succ]
  omega

theorem zipWith_length_eq {α β γ : Type} (f : α → β → γ) {U : List α} {V : List β} {n : ℕ}
    (hU : U.length = n) (hV : V.length = n) : (List.zipWith f U V).length = n := by
  rw [List.length_zipWith, hU, hV, Nat.min_self]

theorem fwdZ_length (ρ : ℕ → F) : ∀ (k j : ℕ) (a : List F), a.length = 2 ^ k →
    (fwdZ ρ k j a).length = 2 ^ k
  | 0, _, _, h => h
  | k + 1, j, a, h => by
    obtain ⟨_, hl, hr⟩ := halves_length h
    simp only [fwdZ, List.length_append]
    rw [fwdZ_length ρ k _ _ (zipWith_length_eq _ hl hr), fwdZ_length ρ k _ _ (zipWith_length_eq _ hl hr),
      Nat.pow_succ, Nat.mul_two]

theorem zipWith_zipWith_comm {α : Type} (f g : α → α → α)
    (h : ∀ u u' v v', f (g u u') (g v v') = g (f u v) (f u' v')) :
    ∀ (U U' V V' : List α),
      List.zipWith f (List.zipWith g U U') (List.zipWith g V V')
        = List.zipWith g (List.zipWith f U V) (List.zipWith f U' V')
  | [], _, _, _ => by simp
  | _ :: _, [], _, _ => by simp
  | _ :: _, _ :: _, [], _ => by simp
  | _ :: _, _ :: _, _ :: _, [] => by simp
  | u :: U, u' :: U', v :: V, v' :: V' => by
    simp only [List.zipWith_cons_cons, h, zipWith_zipWith_comm f g h U U' V V']

/-- the exact forward network commutes with every coefficient-wise operation `g` that commutes with
the two butterflies (in particular `+`, `−`, `x ↦ −x`, `x ↦ c·x`) -/
theorem fwdZ_zipWith (ρ : ℕ → F) (g : F → F → F)
    (hp : ∀ r u u' v v', g u u' + r * g v v' = g (u + r * v) (u' + r * v'))
    (hm : ∀ r u u' v v', g u u' - r * g v v' = g (u - r * v) (u' - r * v')) :
    ∀ (k j : ℕ) (a b : List F), a.length = 2 ^ k → b.length = 2 ^ k →
      fwdZ ρ k j (List.zipWith g a b) = List.zipWith g (fwdZ ρ k j a) (fwdZ ρ k j b)
  | 0, _, _, _, _, _ => rfl
  | k + 1, j, a, b, ha, hb => by
    obtain ⟨h2a, hla, hra⟩ := halves_length ha
    obtain ⟨h2b, hlb, hrb⟩ := halves_length hb
    obtain ⟨hz, _, _⟩ := halves_length (zipWith_length_eq g ha hb)
    rw [h2a] at hla hra
    rw [h2b] at hlb hrb
    simp only [fwdZ]
    rw [hz, h2a, h2b, List.take_zipWith, List.drop_zipWith,
      zipWith_zipWith_comm (fun u v => u + ρ j * v) g (hp (ρ j)),
      zipWith_zipWith_comm (fun u v => u - ρ j * v) g (hm (ρ j)),
      fwdZ_zipWith ρ g hp hm k (2 * j) _ _ (zipWith_length_eq _ hla hra) (zipWith_length_eq _ hlb hrb),
      fwdZ_zipWith ρ g hp hm k (2 * j + 1) _ _ (zipWith_length_eq _ hla hra)
        (zipWith_length_eq _ hlb hrb)]
    refine (List.zipWith_append ?_).symm
    rw [fwdZ_length ρ k _ _ (zipWith_length_eq _ hla hra), fwdZ_length ρ k _ _ (zipWith_length_eq _ hlb hrb)]

theorem zipWith_recombine_left {α β : Type} (f1 f2 : α → α → β) (g : β → β → α) (m : α → α)
    (h : ∀ u v, g (f1 u v) (f2 u v) = m u) :
    ∀ (U V : List α), U.length = V.length →
      List.zipWith g (List.zipWith f1 U V) (List.zipWith f2 U V) = U.map m
  | [], _, _ => by simp
  | _ :: _, [], hl => by simp at hl
  | u :: U, v :: V, hl => by
    simp only [List.zipWith_cons_cons, List.map_cons, h]
    rw [zipWith_recombine_left f1 f2 g m h U V (by simpa using hl)]

theorem zipWith_recombine_right {α β : Type} (f1 f2 : α → α → β) (g : β → β → α) (m : α → α)
    (h : ∀ u v, g (f1 u v) (f2 u v) = m v) :
    ∀ (U V : List α), U.length = V.length →
      List.zipWith g (List.zipWith f1 U V) (List.zipWith f2 U V) = V.map m := fun U V hl => by
  rw [List.zipWith_comm (f := f1), List.zipWith_comm (f := f2)]
  exact zipWith_recombine_left _ _ g m (fun v u => h u v) V U hl.symm

/-- Only `ρ_i · ρ'_i = 1` on the nodes of the subtree is needed (no table invariant). -/
theorem invZ_fwdZ (ρ ρ' : ℕ → F) (M : ℕ) (hinv : ∀ i, 1 ≤ i → i < M → ρ i * ρ' i = 1) :
    ∀ (k j : ℕ) (a : List F), a.length = 2 ^ k → 1 ≤ j → (j + 1) * 2 ^ k ≤ 2 * M →
      invZ ρ' k j (fwdZ ρ k j a) = a.map (fun x => 2 ^ k * x)
  | 0, _, a, _, _, _ => by simp [invZ, fwdZ]
  | k + 1, j, a, h, hj0, hj => by
    obtain ⟨h2, hl, hr⟩ := halves_length h
    obtain ⟨hjM, hj1, hj2⟩ := node_bounds hj
    have hρ := hinv j hj0 hjM
    have hX := zipWith_length_eq (fun u v => u + ρ j * v) hl hr
    have hY := zipWith_length_eq (fun u v => u - ρ j * v) hl hr
    have hlenX := fwdZ_length ρ k (2 * j) _ hX
    have hlen : (fwdZ ρ (k + 1) j a).length / 2 = 2 ^ k := (halves_length (fwdZ_length ρ (k + 1) j a h)).1
    -- the two halves of `fwdZ ρ (k+1) j a` are the transforms of the two stage outputs
    rw [invZ, hlen, fwdZ, List.take_left' hlenX, List.drop_left' hlenX,
      invZ_fwdZ ρ ρ' M hinv k (2 * j) _ hX (by omega) hj1,
      invZ_fwdZ ρ ρ' M hinv k (2 * j + 1) _ hY (by omega) hj2, List.zipWith_map, List.zipWith_map,
      zipWith_recombine_left (fun u v => u + ρ j * v) (fun u v => u - ρ j * v)
        (fun x y => 2 ^ k * x + 2 ^ k * y) (fun x => 2 ^ (k + 1) * x)
        (by intro u v; ring) _ _ (hl.trans hr.symm),
      zipWith_recombine_right (fun u v => u + ρ j * v) (fun u v => u - ρ j * v)
        (fun x y => (2 ^ k * x - 2 ^ k * y) * ρ' j) (fun x => 2 ^ (k + 1) * x)
        (by intro u v
            have : (2 ^ k * (u + ρ j * v) - 2 ^ k * (u - ρ j * v)) * ρ' j
                = 2 ^ (k + 1) * v * (ρ j * ρ' j) := by ring
            rw [this, hρ, mul_one]) _ _ (hl.trans hr.symm),
      ← List.map_append, List.take_append_drop]

end

/-- Hypotheses on a `Tables` value for the standard ring of degree `n = 2^K` (all decidable, stated
with `%` on ℕ so that concrete tables can be checked by evaluation):
`q` prime, `8q ≤ 2^64`, Montgomery and Barrett constants, all roots `< q`,
`rootsF[j]·rootsB[j] ≡ W²` (i.e. `ρF_j·ρB_j = 1` after stripping the Montgomery factors) for the
node indices `1 ≤ j < n`, and `nInv ≡ n⁻¹·W`, `nInv < q`. -/
structure Valid (T : Tables) (K : ℕ) : Prop where
  n_eq : T.n = 2 ^ K
  prime : T.q.Prime
  h8 : 8 * T.q ≤ W
  mont : MontConst T.q T.qinv
  bred : T.bred = brc T.q
  rootsF_lt : RootsLt T.rootsF T.q
  rootsB_lt : RootsLt T.rootsB T.q
  roots_inv : ∀ j, 1 ≤ j → j < 2 ^ K → (T.rootsF[j]! * T.rootsB[j]!) % T.q = (W * W) % T.q
  nInv_lt : T.nInv < T.q
  nInv_eq : (T.nInv * T.n) % T.q = W % T.q

section
variable {T : Tables} {K : ℕ}

theorem Valid.q_pos (hT : Valid T K) : 0 < T.q := hT.prime.pos

theorem Valid.fact (hT : Valid T K) : Fact T.q.Prime := ⟨hT.prime⟩

theorem Valid.rho_inv (hT : Valid T K) [Fact T.q.Prime] (j : ℕ) (h1 : 1 ≤ j) (h2 : j < 2 ^ K) :
    rho T.q T.rootsF j * rho T.q T.rootsB j = 1 :=
  (rho_mul_eq_one_iff hT.mont.odd _ _ j).2 (hT.roots_inv j h1 h2)

theorem Valid.nInv_cast (hT : Valid T K) [Fact T.q.Prime] :
    (T.nInv : ZMod T.q) * (2 : ZMod T.q) ^ K * (W : ZMod T.q)⁻¹ = 1 := by
  have h := (ZMod.natCast_eq_natCast_iff' _ _ T.q).2 hT.nInv_eq
  rw [hT.n_eq] at h
  simp only [Nat.cast_mul, Nat.cast_pow, Nat.cast_ofNat] at h
  rw [h]; exact W_mul_inv hT.mont

/-- the final `BRedAdd` of the reducing transforms: same residues, canonical representatives -/
theorem map_BRedAdd_cast {q : ℕ} (hq1 : 1 < q) (l : List ℕ) (hl : ∀ y ∈ l, y < W) :
    (l.map fun x => BRedAdd x q (brc q)).map (Nat.cast : ℕ → ZMod q) = l.map (Nat.cast : ℕ → ZMod q)
    ∧ ∀ y ∈ l.map (fun x => BRedAdd x q (brc q)), y < q := by
  have hred : ∀ y ∈ l, BRedAdd y q (brc q) = y % q := fun y hy => BRedAdd_spec y q hq1 (hl y hy)
  constructor
  · rw [List.map_map]
    apply List.map_congr_left
    intro y hy
    rw [Function.comp, hred y hy]
    exact ZMod.natCast_mod y q
  · exact List.forall_mem_map.2 fun y hy => by rw [hred y hy]; exact Nat.mod_lt _ (by omega)

/-- `nttCoreLazy` is `NTTLazy`; no relation between `M` and `q` is asked beyond `M + 4q ≤ 2^64`.  `N ≥ 16`: the bounds
`bAlt 2`, that is `M, M+2q, M+4q`, then alternately `m+2q` / `m+4q` with `m = max M 4q`; `N < 16`: the constant bound
`max M 6q`. -/
theorem nttCoreLazy_abs (hT : Valid T K) (M : ℕ)
    (hM : M + 4 * T.q ≤ W) (a : List ℕ) (ha : ∀ x ∈ a, x < M) :
    (nttCoreLazy T a).map (Nat.cast : ℕ → ZMod T.q)
      = fwdZ (rho T.q T.rootsF) K 1 (a.map (Nat.cast : ℕ → ZMod T.q))
    ∧ ∀ y ∈ nttCoreLazy T a, y < max M (4 * T.q) + 2 * T.q := by
  unfold nttCoreLazy
  rw [hT.n_eq, log2n_two_pow]
  exact fwdRec_cast_sched T.rootsF T.qinv _ 2 K 1 (by omega) hT.h8 hT.mont hT.rootsF_lt
    (fun hK d => flagStd_eq_true K d hK) (fun hK d => flagStd_true_iff K d hK) M hM a ha

theorem nttStd_cast (hT : Valid T K) (a : List ℕ) (ha : ∀ x ∈ a, x < T.q) :
    (nttStd T a).map (Nat.cast : ℕ → ZMod T.q)
      = fwdZ (rho T.q T.rootsF) K 1 (a.map (Nat.cast : ℕ → ZMod T.q))
    ∧ ∀ y ∈ nttStd T a, y < T.q := by
  have h8 := hT.h8
  obtain ⟨c, r⟩ := nttCoreLazy_abs hT T.q (by omega) a ha
  obtain ⟨c', r'⟩ := map_BRedAdd_cast hT.prime.one_lt (nttCoreLazy T a)
    (fun y hy => by have := r y hy; omega)
  unfold nttStd
  rw [hT.bred, c', c]
  exact ⟨rfl, r'⟩

theorem fwdRec_length (roots : Array ℕ) (q qinv : ℕ) (flag : ℕ → Bool) :
    ∀ (k d j : ℕ) (a : List ℕ), a.length = 2 ^ k → (fwdRec roots q qinv flag k d j a).length = 2 ^ k
  | 0, _, _, _, h => h
  | k + 1, d, j, a, h => by
    obtain ⟨_, hl, hr⟩ := halves_length h
    have hs : (fwdStage roots q qinv flag d j a).length = 2 ^ k := zipWith_length_eq _ hl hr
    rw [fwdRec_succ, List.length_append,
      fwdRec_length roots q qinv flag k _ _ _ (by rw [List.length_map, hs]),
      fwdRec_length roots q qinv flag k _ _ _ (by rw [List.length_map, hs]), Nat.pow_succ, Nat.mul_two]

theorem MRed_mul_W {q : ℕ} (x y y' qinv : ℕ) (hq : 2 * q ≤ W) (hm : MontConst q qinv)
    (hx : x < q) (hy' : y' < q) (hc : (y' : ZMod q) = (y : ZMod q) * (W : ZMod q)) :
    MRed x y' q qinv = (x * y) % q := by
  have hxy : x * y' < q * W := Nat.mul_lt_mul'' hx (by omega)
  have h := (ZMod.natCast_eq_natCast_iff' _ (x * y) q).1 (by
    rw [MRed_cast x y' qinv hq hm hxy, hc, Nat.cast_mul, mul_assoc, mul_assoc, W_mul_inv hm, mul_one])
  rwa [Nat.mod_eq_of_lt (MRed_spec x y' q qinv hq hm hxy).2] at h

/-- the final multiplication by `nInv` of both inverse transforms (`c = 2^K`, resp. `2·2^K` for the conjugate-invariant
ring) -/
theorem map_MRed_nInv {q : ℕ} (qinv nInv : ℕ) (c : ZMod q) (h2 : 2 * q ≤ W)
    (hm : MontConst q qinv) (hN : nInv < q) (hc : (nInv : ZMod q) * c * (W : ZMod q)⁻¹ = 1)
    (l a : List ℕ) (hl : ∀ x ∈ l, x < W) (ha : ∀ x ∈ a, x < q)
    (hla : l.map (Nat.cast : ℕ → ZMod q) = (a.map (Nat.cast : ℕ → ZMod q)).map (fun x => c * x)) :
    l.map (fun x => MRed x nInv q qinv) = a := by
  have hxy : ∀ x ∈ l, x * nInv < q * W := fun x hx => mul_lt_qW (hl x hx) hN
  apply map_cast_inj (q := q) _ _ (List.forall_mem_map.2 fun x hx => (MRed_spec x nInv q qinv h2 hm (hxy x hx)).2) ha
  have hstep : ∀ x ∈ l, ((Nat.cast : ℕ → ZMod q) ∘ fun x => MRed x nInv q qinv) x
      = ((fun z : ZMod q => z * (nInv : ZMod q) * (W : ZMod q)⁻¹) ∘ (Nat.cast : ℕ → ZMod q)) x :=
    fun x hx => MRed_cast x nInv qinv h2 hm (hxy x hx)
  rw [List.map_map, List.map_congr_left hstep, ← List.map_map, hla, List.map_map, List.map_map]
  conv_rhs => rw [← List.map_id (a.map (Nat.cast : ℕ → ZMod q)), List.map_map]
  apply List.map_congr_left
  intro x _
  simp only [Function.comp, id]
  calc c * (x : ZMod q) * (nInv : ZMod q) * (W : ZMod q)⁻¹
      = (x : ZMod q) * ((nInv : ZMod q) * c * (W : ZMod q)⁻¹) := by ring
    _ = x := by rw [hc, mul_one]

theorem inttStd_nttStd (hT : Valid T K) (a : List ℕ) (hlen : a.length = T.n)
    (ha : ∀ x ∈ a, x < T.q) : inttStd T (nttStd T a) = a := by
  have := hT.fact
  have h8 := hT.h8
  obtain ⟨hfc, hflt⟩ := nttStd_cast hT a ha
  have hb2 : ∀ x ∈ nttStd T a, x < 2 * T.q := fun x hx => by have := hflt x hx; omega
  have h6 : 6 * T.q ≤ W := by omega
  obtain ⟨_, hilt⟩ := invRec_ok T.rootsB T.q T.qinv h6 hT.mont hT.rootsB_lt K 1 _ hb2
  have hic := invRec_cast T.rootsB T.qinv h6 hT.mont hT.rootsB_lt K 1 _ hb2
  rw [hfc, invZ_fwdZ (rho T.q T.rootsF) (rho T.q T.rootsB) (2 ^ K)
    (fun i h1 h2 => hT.rho_inv i h1 h2) K 1 _ (by rw [List.length_map, hlen, hT.n_eq]) (by omega)
    (by omega)] at hic
  unfold inttStd inttCoreLazy
  rw [hT.n_eq, log2n_two_pow]
  exact map_MRed_nInv T.qinv T.nInv _ (by omega) hT.mont hT.nInv_lt hT.nInv_cast _ a
    (fun x hx => by have := hilt x hx; omega) ha hic

end
end Lattigo.NTT
