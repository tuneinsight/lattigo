/-
  `NTT.modExp` (the value `ring.ModExp` returns) is `x^e mod p` for exponents below `2^64`, and
  `modExp a (p-2) p` is the inverse of `a` modulo a prime `p < 2^64`.
-/
import Lattigo.Model.NTT
import Lattigo.Proofs.SqMul

namespace Lattigo.NTT

theorem sqMul (p : ℕ) : SqMul p fun f e x r => modExp.go p f x e r where
  out _ _ _ := rfl
  stop f _ _ := by
    cases f with
    | zero => rfl
    | succ f => rw [modExp.go, if_pos rfl]
  step f e x r h := by simp only [modExp.go, if_neg h]

theorem modExp_go_spec (p : ℕ) : ∀ (fuel x e r : ℕ), e < 2 ^ fuel → r < p →
    modExp.go p fuel x e r = (r * x ^ e) % p :=
  fun fuel x e r he hr => (sqMul p).eq fuel e x r he hr

theorem modExp_go_lt (p : ℕ) : ∀ (fuel x e r : ℕ), r < p → modExp.go p fuel x e r < p :=
  fun fuel x e r hr => (sqMul p).lt fuel e x r hr

theorem modExp_spec (x e p : ℕ) (hp : 0 < p) (he : e < 2 ^ 64) : modExp x e p = x ^ e % p :=
  (sqMul p).eq_pow_mod hp 64 e x he

theorem modExp_lt (x e p : ℕ) (hp : 0 < p) : modExp x e p < p :=
  (sqMul p).lt 64 e _ _ (Nat.mod_lt _ hp)

theorem mul_modExp_sub_two (a p : ℕ) (hp : p.Prime) (h64 : p < 2 ^ 64) (ha : ¬ p ∣ a) :
    a * modExp a (p - 2) p % p = 1 := by
  rw [modExp_spec a (p - 2) p hp.pos (by omega)]
  exact mul_pow_sub_two_mod hp ha

end Lattigo.NTT
