import Lattigo.Proofs.NTTInv
import Lattigo.Proofs.RowEval
import Lattigo.Model.RPoly
import Mathlib.Algebra.BigOperators.Ring.Finset
import Mathlib.Algebra.BigOperators.Group.Finset.Sigma

/-!
  # Evaluation semantics of the forward NTT and `NTT(a ⊛ b) = NTT a ⊙ NTT b` (property C01)

  Under the table invariant `ρ_1² = −1, ρ_{2j}² = ρ_j, ρ_{2j+1}² = −ρ_j`, node `(k,j)` of the exact network computes
  `a mod (X^{2^k} − c_j)`: leaf `t` holds `a(pt t)` with `pt t ^ 2^k = c_j`; at the root `c_1 = −1`, so every point is
  a root of `X^N + 1` (`fwdZ_eval`).  Evaluation at such a point is multiplicative on the schoolbook negacyclic product
  `RPoly.rowMul` (`RPolyRing.evalRow_rowMul` of `Proofs/RowEval.lean`, through `evalL_map_cast`), whence `nttStd_mul`.
-/
namespace Lattigo.NTT
open Lattigo Lattigo.Gen

section
variable {F : Type} [CommRing F]

/-- `evalL a x = Σ a_i x^i` (Horner) -/
def evalL : List F → F → F
  | [], _ => 0
  | a :: l, x => a + x * evalL l x

theorem evalL_append (x : F) : ∀ (l1 l2 : List F),
    evalL (l1 ++ l2) x = evalL l1 x + x ^ l1.length * evalL l2 x
  | [], l2 => by simp [evalL]
  | a :: l1, l2 => by
    simp only [List.cons_append, evalL, evalL_append x l1 l2, List.length_cons, pow_succ]
    ring

theorem evalL_zipWith_add (x r : F) : ∀ (U V : List F), U.length = V.length →
    evalL (List.zipWith (fun u v => u + r * v) U V) x = evalL U x + r * evalL V x
  | [], [], _ => by simp [evalL]
  | [], _ :: _, h => by simp at h
  | _ :: _, [], h => by simp at h
  | u :: U, v :: V, h => by
    simp only [List.zipWith_cons_cons, evalL, evalL_zipWith_add x r U V (by simpa using h)]
    ring

theorem evalL_zipWith_sub (x r : F) (U V : List F) (h : U.length = V.length) :
    evalL (List.zipWith (fun u v => u - r * v) U V) x = evalL U x - r * evalL V x := by
  have e : (fun u v : F => u - r * v) = fun u v => u + -r * v := by funext u v; ring
  rw [e, evalL_zipWith_add x (-r) U V h]; ring

/-- the constant `c_j` of node `j`: the node holds its input modulo `X^len − c_j`;
`c_1 = −1`, `c_{2j} = ρ_j`, `c_{2j+1} = −ρ_j`. -/
def cnode (ρ : ℕ → F) (j : ℕ) : F :=
  if j = 1 then -1 else if j % 2 = 0 then ρ (j / 2) else -ρ (j / 2)

/-- **Table invariant** on the node indices `1 ≤ j < M`: `ρ_j² = c_j`, i.e.
`ρ_1² = −1`, `ρ_{2j}² = ρ_j`, `ρ_{2j+1}² = −ρ_j`. -/
def TableInv (ρ : ℕ → F) (M : ℕ) : Prop := ∀ j, 1 ≤ j → j < M → ρ j ^ 2 = cnode ρ j

theorem cnode_one (ρ : ℕ → F) : cnode ρ 1 = -1 := by simp [cnode]
theorem cnode_even (ρ : ℕ → F) (j : ℕ) (_hj : 1 ≤ j) : cnode ρ (2 * j) = ρ j := by
  have h1 : ¬ 2 * j = 1 := by omega
  have h2 : 2 * j % 2 = 0 := by omega
  have h3 : 2 * j / 2 = j := by omega
  unfold cnode; rw [if_neg h1, if_pos h2, h3]
theorem cnode_odd (ρ : ℕ → F) (j : ℕ) (hj : 1 ≤ j) : cnode ρ (2 * j + 1) = -ρ j := by
  have h1 : ¬ 2 * j + 1 = 1 := by omega
  have h2 : ¬ (2 * j + 1) % 2 = 0 := by omega
  have h3 : (2 * j + 1) / 2 = j := by omega
  unfold cnode; rw [if_neg h1, if_neg h2, h3]

/-- the evaluation point of leaf `t` below node `(k,j)` -/
def pt (ρ : ℕ → F) : (k : ℕ) → (j : ℕ) → (t : ℕ) → F
  | 0, j, _ => cnode ρ j
  | k + 1, j, t => if t < 2 ^ k then pt ρ k (2 * j) t else pt ρ k (2 * j + 1) (t - 2 ^ k)

theorem pt_pow (ρ : ℕ → F) (M : ℕ) (hρ : TableInv ρ M) :
    ∀ (k j t : ℕ), 1 ≤ j → (j + 1) * 2 ^ k ≤ 2 * M → pt ρ k j t ^ 2 ^ k = cnode ρ j
  | 0, j, t, _, _ => by simp [pt]
  | k + 1, j, t, hj1, hj => by
    obtain ⟨hjM, hb1, hb2⟩ := node_bounds hj
    have hsq := hρ j hj1 hjM
    simp only [pt]
    split
    · rw [pow_succ, pow_mul, pt_pow ρ M hρ k (2 * j) t (by omega) hb1, cnode_even ρ j hj1, hsq]
    · rw [pow_succ, pow_mul, pt_pow ρ M hρ k (2 * j + 1) _ (by omega) hb2, cnode_odd ρ j hj1,
        neg_sq, hsq]

/-- the leaf node is `j·2^k + t`: in binary, `j` followed by the `k` bits of `t` -/
theorem pt_eq_cnode (ρ : ℕ → F) : ∀ (k j t : ℕ), t < 2 ^ k → pt ρ k j t = cnode ρ (j * 2 ^ k + t)
  | 0, j, t, h => by
    have : t = 0 := by simpa using h
    subst this; simp [pt]
  | k + 1, j, t, h => by
    simp only [pt]
    have e : j * 2 ^ (k + 1) = 2 * j * 2 ^ k := by rw [Nat.pow_succ]; ring
    split
    · rename_i ht
      rw [pt_eq_cnode ρ k (2 * j) t ht, e]
    · rename_i ht
      have h2 : 2 ^ (k + 1) = 2 ^ k + 2 ^ k := by rw [Nat.pow_succ]; omega
      rw [pt_eq_cnode ρ k (2 * j + 1) (t - 2 ^ k) (by omega), e]
      congr 1
      have : (2 * j + 1) * 2 ^ k = 2 * j * 2 ^ k + 2 ^ k := by ring
      omega

theorem fwdZ_eval (ρ : ℕ → F) (M : ℕ) (hρ : TableInv ρ M) :
    ∀ (k j : ℕ) (a : List F), a.length = 2 ^ k → 1 ≤ j → (j + 1) * 2 ^ k ≤ 2 * M →
      fwdZ ρ k j a = (List.range (2 ^ k)).map (fun t => evalL a (pt ρ k j t))
  | 0, j, a, h, _, _ => by
    match a, h with
    | [x], _ => simp [fwdZ, evalL]
  | k + 1, j, a, h, hj1, hj => by
    obtain ⟨hjM, hb1, hb2⟩ := node_bounds hj
    obtain ⟨_, hl, hr⟩ := halves_length h
    have hUV := hl.trans hr.symm
    have hsplit : ∀ x : F, evalL a x
        = evalL (a.take (a.length / 2)) x + x ^ 2 ^ k * evalL (a.drop (a.length / 2)) x := by
      intro x
      conv_lhs => rw [← List.take_append_drop (a.length / 2) a]
      rw [evalL_append, hl]
    have e2 : 2 ^ (k + 1) = 2 ^ k + 2 ^ k := by rw [Nat.pow_succ, Nat.mul_two]
    simp only [fwdZ]
    rw [fwdZ_eval ρ M hρ k (2 * j) _ (zipWith_length_eq _ hl hr) (by omega) hb1,
      fwdZ_eval ρ M hρ k (2 * j + 1) _ (zipWith_length_eq _ hl hr) (by omega) hb2,
      e2, List.range_add, List.map_append, List.map_map]
    congr 1
    · apply List.map_congr_left
      intro t ht
      have ht' : t < 2 ^ k := List.mem_range.1 ht
      simp only [pt, ht', if_true]
      rw [evalL_zipWith_add _ _ _ _ hUV, hsplit, pt_pow ρ M hρ k (2 * j) t (by omega) hb1,
        cnode_even ρ j hj1]
    · apply List.map_congr_left
      intro t _
      have ht' : ¬ 2 ^ k + t < 2 ^ k := by omega
      have ht2 : 2 ^ k + t - 2 ^ k = t := by omega
      simp only [Function.comp, pt, ht', if_false, ht2]
      rw [evalL_zipWith_sub _ _ _ _ hUV, hsplit, pt_pow ρ M hρ k (2 * j + 1) t (by omega) hb2,
        cnode_odd ρ j hj1]
      ring


open Finset in
theorem evalL_map_range (f : ℕ → F) (x : F) : ∀ n : ℕ,
    evalL ((List.range n).map f) x = ∑ k ∈ range n, f k * x ^ k
  | 0 => by simp [evalL]
  | n + 1 => by
    rw [List.range_succ, List.map_append, evalL_append, evalL_map_range f x n, sum_range_succ]
    simp [evalL]
    ring

open Finset in
theorem evalL_eq_sum (x : F) : ∀ a : List F, evalL a x = ∑ i ∈ range a.length, a.getD i 0 * x ^ i
  | [] => by simp [evalL]
  | a :: l => by
    rw [List.length_cons, sum_range_succ', evalL, evalL_eq_sum x l, mul_sum]
    simp only [List.getD_cons_succ, List.getD_cons_zero, pow_zero, mul_one, pow_succ]
    rw [add_comm]
    congr 1
    apply sum_congr rfl
    intro i _; ring

open Finset in
theorem evalL_map_cast (a : List ℕ) (r : F) :
    evalL (a.map (Nat.cast : ℕ → F)) r = RPolyRing.evalRow a.length a r := by
  rw [evalL_eq_sum, List.length_map]
  unfold RPolyRing.evalRow
  refine sum_congr rfl fun i hi => ?_
  have hi' : i < a.length := mem_range.1 hi
  simp [List.getD_eq_getElem?_getD, hi']

end

section
variable {q : ℕ}
open Finset

theorem rowMul_eval (hq : 0 < q) (x y : List ℕ) (hxy : y.length = x.length) (r : ZMod q)
    (hr : r ^ x.length = -1) :
    evalL ((RPoly.rowMul q x y).map (Nat.cast : ℕ → ZMod q)) r
      = evalL (x.map (Nat.cast : ℕ → ZMod q)) r * evalL (y.map (Nat.cast : ℕ → ZMod q)) r := by
  rw [evalL_map_cast, evalL_map_cast, evalL_map_cast, rowMul_length, hxy]
  exact RPolyRing.evalRow_rowMul hq (ZMod.natCast_self q) x y r hr

end

/-- **Table invariant in decidable ℕ form** (entries are in Montgomery form, so `r² ≡ r'·W`):
`roots[1]² ≡ −W²`, `roots[2j]² ≡ roots[j]·W`, `roots[2j+1]² ≡ −roots[j]·W (mod q)` for the node
indices below `M`. -/
structure TableInvNat (roots : Array ℕ) (q M : ℕ) : Prop where
  root1 : 1 < M → (roots[1]! * roots[1]! + W * W) % q = 0
  even : ∀ j, 1 ≤ j → 2 * j < M → (roots[2 * j]! * roots[2 * j]!) % q = (roots[j]! * W) % q
  odd : ∀ j, 1 ≤ j → 2 * j + 1 < M →
    (roots[2 * j + 1]! * roots[2 * j + 1]! + roots[j]! * W) % q = 0

theorem TableInvNat.toZ {roots : Array ℕ} {q M : ℕ} [Fact q.Prime] (hodd : q % 2 = 1)
    (h : TableInvNat roots q M) : TableInv (rho q roots) M := by
  intro j hj1 hjM
  rw [pow_two]
  rcases Nat.lt_or_ge 1 j with hj | hj
  · obtain ⟨i, rfl | rfl⟩ : ∃ i, j = 2 * i ∨ j = 2 * i + 1 := ⟨j / 2, by omega⟩
    · rw [cnode_even _ _ (by omega)]
      exact (rho_sq_eq_iff hodd roots i _).2 (h.even i (by omega) hjM)
    · rw [cnode_odd _ _ (by omega)]
      exact (rho_sq_eq_neg_iff hodd roots i _).2 (h.odd i (by omega) hjM)
  · obtain rfl : j = 1 := by omega
    rw [cnode_one]
    exact (rho_sq_eq_neg_one_iff hodd roots 1).2 (h.root1 hjM)

section
variable {T : Tables} {K : ℕ}

theorem nttStd_eval (hT : Valid T K) [Fact T.q.Prime] (hZ : TableInv (rho T.q T.rootsF) (2 ^ K))
    (a : List ℕ) (hlen : a.length = T.n) (ha : ∀ x ∈ a, x < T.q) :
    (nttStd T a).map (Nat.cast : ℕ → ZMod T.q)
      = (List.range (2 ^ K)).map
          (fun t => evalL (a.map (Nat.cast : ℕ → ZMod T.q)) (pt (rho T.q T.rootsF) K 1 t))
    ∧ ∀ t, pt (rho T.q T.rootsF) K 1 t ^ 2 ^ K = -1 := by
  constructor
  · rw [(nttStd_cast hT a ha).1]
    exact fwdZ_eval _ _ hZ K 1 _ (by rw [List.length_map, hlen, hT.n_eq]) (by omega) (by omega)
  · intro t
    rw [pt_pow _ _ hZ K 1 t (by omega) (by omega), cnode_one]

theorem nttStd_mul (hT : Valid T K) (hinv : TableInv (rho T.q T.rootsF) (2 ^ K))
    (a b : List ℕ) (hla : a.length = T.n) (hlb : b.length = T.n)
    (ha : ∀ x ∈ a, x < T.q) (hb : ∀ x ∈ b, x < T.q) :
    nttStd T (RPoly.rowMul T.q a b)
      = List.zipWith (fun x y => (x * y) % T.q) (nttStd T a) (nttStd T b) := by
  have := hT.fact
  have hq0 := hT.q_pos
  have hm := rowMul_lt hq0 a b
  obtain ⟨eA, hr⟩ := nttStd_eval hT hinv a hla ha
  obtain ⟨eB, _⟩ := nttStd_eval hT hinv b hlb hb
  obtain ⟨eM, _⟩ := nttStd_eval hT hinv (RPoly.rowMul T.q a b) (by rw [rowMul_length, hla]) hm
  apply map_cast_inj (q := T.q) _ _ (nttStd_cast hT _ hm).2
  · exact ListLemmas.forall_zipWith _ (fun z => z < T.q) _ _ (fun _ _ _ _ => Nat.mod_lt _ hq0)
  · rw [eM, map_zipWith_mem (fun x y => (x * y) % T.q) (Nat.cast : ℕ → ZMod T.q)
        (Nat.cast : ℕ → ZMod T.q) (fun x y => x * y) _ _
        (fun u _ v _ => by rw [ZMod.natCast_mod, Nat.cast_mul]),
      eA, eB, List.zipWith_map, List.zipWith_self]
    apply List.map_congr_left
    intro t _
    exact rowMul_eval hq0 a b (by rw [hla, hlb]) _ (by rw [hla, hT.n_eq]; exact hr t)

end
end Lattigo.NTT
