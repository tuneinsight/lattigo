import Lattigo.Model.NTT
import Lattigo.Proofs.ModRed
import Lattigo.Proofs.Butterfly
import Lattigo.Proofs.ListLemmas
/-!
  # Range / no-wrap invariant of the lazy NTT networks (`ring/ntt.go`), property C01

  `fwdRec`/`invRec` of `Model/NTT.lean` are compared with *ideal* networks `fwdRecN`/`invRecN` whose
  butterflies are computed with unbounded natural numbers (no `% 2^64` outside `MRedLazy`).

  The forward network is treated once, with ABSOLUTE per-depth bounds `b d` on the values entering depth `d`
  (`BoundOKA`, `fwdStage_okA`): a reducing stage subtracts `4q` once when `u ≥ 4q`, a non-reducing stage adds
  `2q`, nothing exceeds `2^64`.  The bounds in units of `q` of the documented ranges (`BoundOK`, the invariant
  `FwdOK`; everything `≤ 8q ≤ 2^64`) are the case `b d = B d · q`.  The reduce schedules of `ring/ntt.go` are
  of two kinds, every stage reducing (`N < 16`) or alternating after a prefix (`bAlt`), and `BStd`/`BCI` are
  `bAlt` in units of `q`.
-/
namespace Lattigo.NTT
open Lattigo Lattigo.Gen

theorem zipWith_congr_mem {α β γ : Type} (f g : α → β → γ) :
    ∀ (l1 : List α) (l2 : List β), (∀ u ∈ l1, ∀ v ∈ l2, f u v = g u v) →
      List.zipWith f l1 l2 = List.zipWith g l1 l2
  | [], _, _ => by simp
  | _ :: _, [], _ => by simp
  | u :: l1, v :: l2, h => by
    rw [List.zipWith_cons_cons, List.zipWith_cons_cons,
      h u (List.mem_cons_self ..) v (List.mem_cons_self ..),
      zipWith_congr_mem f g l1 l2
        (fun u' hu' v' hv' => h u' (List.mem_cons_of_mem _ hu') v' (List.mem_cons_of_mem _ hv'))]

theorem twoQ_eq (q : Nat) (h : 2 * q < W) : twoQ q = 2 * q := by
  unfold twoQ u64mul; exact Nat.mod_eq_of_lt h
theorem fourQ_eq (q : Nat) (h : 4 * q < W) : fourQ q = 4 * q := by
  unfold fourQ u64mul; exact Nat.mod_eq_of_lt h

/-- forward butterfly over ℕ (no wrap): `U' = U − 4q` if reducing and `U ≥ 4q`; `V' = MRedLazy V ψ`;
    `(U' + V', U' + 2q − V')`. -/
def bflyN (reduce : Bool) (psi q qinv : Nat) (u v : Nat) : Nat × Nat :=
  let u' := if reduce && decide (4 * q ≤ u) then u - 4 * q else u
  let v' := MRedLazy v psi q qinv
  (u' + v', u' + 2 * q - v')

/-- inverse (Gentleman–Sande) butterfly over ℕ: `X = U + V (− 2q if ≥ 2q)`, `Y = MRedLazy (U + 4q − V) ψ`. -/
def ibflyN (psi q qinv : Nat) (u v : Nat) : Nat × Nat :=
  (if 2 * q ≤ u + v then u + v - 2 * q else u + v, MRedLazy (u + 4 * q - v) psi q qinv)

/-- `hB` is what `BoundOKA` gives at one depth (no relation between `bu` and `q`).  The outputs are `≤ y − 2` because
`0 < MRedLazy v ψ < 2q`.  One butterfly, hence one stage (`fwdStage_okA`), needs `6q ≤ 2^64` only; `8q` enters with the
bounds that the reduce schedules of `ring/ntt.go` reach (`bAlt_ok`, `BoundOK`). -/
theorem bfly_eq_bflyN_abs (r : Bool) (psi q qinv u v bu y : Nat) (h6 : 6 * q ≤ W)
    (hm : MontConst q qinv) (hpsi : psi < q) (hv : v < W) (hu : u < bu)
    (hB : (r = true → bu ≤ W ∧ max (min bu (4 * q)) (bu - 4 * q) + 2 * q ≤ y)
      ∧ (r = false → bu + 2 * q ≤ y ∧ y ≤ W)) :
    bfly r psi q qinv u v = bflyN r psi q qinv u v
    ∧ (bflyN r psi q qinv u v).1 + 2 ≤ y ∧ (bflyN r psi q qinv u v).2 + 2 ≤ y := by
  obtain ⟨h2, h4⟩ : 2 * q < W ∧ 4 * q < W := by have := hm.pos; omega
  obtain ⟨-, hlt, hpos⟩ := MRedLazy_spec v psi q qinv (Nat.le_of_lt h2) hm (mul_lt_qW hv hpsi)
  unfold bfly bflyN
  rw [twoQ_eq q h2, fourQ_eq q h4]
  cases r with
  | false =>
    obtain ⟨hy, hyW⟩ := hB.2 rfl
    obtain ⟨e1, e2, b1, -, b2⟩ := bfly_noreduce_range u _ q bu hu hlt (Nat.le_trans hy hyW)
    simp only [Bool.false_and, if_false, Bool.false_eq_true]
    exact ⟨by rw [e1, e2], Nat.le_trans b1 hy, Nat.le_trans (b2 hpos) hy⟩
  | true =>
    obtain ⟨hbW, hy⟩ := hB.1 rfl
    simp only [if_true, Bool.true_and, decide_eq_true_eq]
    -- `u' = u − 4q` if `u ≥ 4q`, else `u`: below `max (min bu 4q) (bu − 4q)`
    have hu' : (if 4 * q ≤ u then u - 4 * q else u) < max (min bu (4 * q)) (bu - 4 * q) := by
      split
      · next h => exact Nat.lt_of_lt_of_le (Nat.sub_lt_sub_right h hu) (Nat.le_max_right _ _)
      · next h => exact Nat.lt_of_lt_of_le (Nat.lt_min.2 ⟨hu, Nat.lt_of_not_le h⟩) (Nat.le_max_left _ _)
    have hw : (if 4 * q ≤ u then u - 4 * q else u) + 2 * q < W := by split <;> omega
    refine ⟨butterfly_eq u v psi q qinv (Nat.lt_of_lt_of_le hu hbW) hw (Nat.le_of_lt hlt), ?_⟩
    generalize (if 4 * q ≤ u then u - 4 * q else u) = u' at *
    generalize max (min bu (4 * q)) (bu - 4 * q) = X at *
    omega

/-- `U + 4q − V` does not wrap because `U + 4q < 6q ≤ 2^64`. -/
theorem ibfly_eq_ibflyN (psi q qinv u v : Nat) (h6 : 6 * q ≤ W)
    (hm : MontConst q qinv) (hpsi : psi < q) (hu : u < 2 * q) (hv : v < 2 * q) :
    ibfly psi q qinv u v = ibflyN psi q qinv u v
    ∧ (ibflyN psi q qinv u v).1 < 2 * q
    ∧ (ibflyN psi q qinv u v).2 < 2 * q ∧ 0 < (ibflyN psi q qinv u v).2 := by
  have hq0 := hm.pos
  obtain ⟨-, hlt, hpos⟩ := MRedLazy_spec (u + 4 * q - v) psi q qinv (by omega) hm (mul_lt_qW (by omega) hpsi)
  unfold ibfly ibflyN
  rw [twoQ_eq q (by omega), fourQ_eq q (by omega), invbutterfly_eq u v psi q qinv h6 hu hv]
  exact ⟨rfl, by split <;> omega, hlt, hpos⟩

def fwdRecN (roots : Array Nat) (q qinv : Nat) (flag : Nat → Bool) :
    (k : Nat) → (d : Nat) → (j : Nat) → List Nat → List Nat
  | 0, _, _, a => a
  | k + 1, d, j, a =>
    let h := a.length / 2
    let xy := List.zipWith (bflyN (flag d) roots[j]! q qinv) (a.take h) (a.drop h)
    fwdRecN roots q qinv flag k (d + 1) (2 * j) (xy.map Prod.fst)
      ++ fwdRecN roots q qinv flag k (d + 1) (2 * j + 1) (xy.map Prod.snd)

def invRecN (roots : Array Nat) (q qinv : Nat) :
    (k : Nat) → (j : Nat) → List Nat → List Nat
  | 0, _, a => a
  | k + 1, j, a =>
    let h := a.length / 2
    let l := invRecN roots q qinv k (2 * j) (a.take h)
    let r := invRecN roots q qinv k (2 * j + 1) (a.drop h)
    let xy := List.zipWith (ibflyN roots[j]! q qinv) l r
    xy.map Prod.fst ++ xy.map Prod.snd

/-- the stage executed at a node: the list of butterfly outputs -/
def fwdStage (roots : Array Nat) (q qinv : Nat) (flag : Nat → Bool) (d j : Nat) (a : List Nat) :
    List (Nat × Nat) :=
  List.zipWith (bfly (flag d) roots[j]! q qinv) (a.take (a.length / 2)) (a.drop (a.length / 2))

def fwdStageN (roots : Array Nat) (q qinv : Nat) (flag : Nat → Bool) (d j : Nat) (a : List Nat) :
    List (Nat × Nat) :=
  List.zipWith (bflyN (flag d) roots[j]! q qinv) (a.take (a.length / 2)) (a.drop (a.length / 2))

theorem fwdRec_succ (roots : Array Nat) (q qinv : Nat) (flag : Nat → Bool) (k d j : Nat) (a : List Nat) :
    fwdRec roots q qinv flag (k + 1) d j a =
      fwdRec roots q qinv flag k (d + 1) (2 * j) ((fwdStage roots q qinv flag d j a).map Prod.fst)
      ++ fwdRec roots q qinv flag k (d + 1) (2 * j + 1) ((fwdStage roots q qinv flag d j a).map Prod.snd) := rfl

theorem fwdRecN_succ (roots : Array Nat) (q qinv : Nat) (flag : Nat → Bool) (k d j : Nat) (a : List Nat) :
    fwdRecN roots q qinv flag (k + 1) d j a =
      fwdRecN roots q qinv flag k (d + 1) (2 * j) ((fwdStageN roots q qinv flag d j a).map Prod.fst)
      ++ fwdRecN roots q qinv flag k (d + 1) (2 * j + 1) ((fwdStageN roots q qinv flag d j a).map Prod.snd) := rfl

/-- every entry of the table is `< q` (out-of-range reads return `0`) -/
def RootsLt (roots : Array Nat) (q : Nat) : Prop := ∀ i : Nat, roots[i]! < q

/-- the absolute per-depth bounds `b d` are compatible with the reduce schedule `flag` on depths `< K` -/
def BoundOKA (flag : Nat → Bool) (b : Nat → Nat) (q K : Nat) : Prop :=
  ∀ d, d < K →
    (flag d = true → b d ≤ W ∧ max (min (b d) (4 * q)) (b d - 4 * q) + 2 * q ≤ b (d + 1)) ∧
    (flag d = false → b d + 2 * q ≤ b (d + 1) ∧ b (d + 1) ≤ W)

theorem BoundOKA.le_W {flag : Nat → Bool} {b : Nat → Nat} {q K : Nat} (hB : BoundOKA flag b q K)
    (d : Nat) (hd : d < K) : b d ≤ W := by
  obtain ⟨h1, h2⟩ := hB d hd
  cases hf : flag d with
  | true => exact (h1 hf).1
  | false => have := h2 hf; omega

theorem fwdStage_okA (roots : Array Nat) (q qinv : Nat) (flag : Nat → Bool) (b : Nat → Nat) (K : Nat)
    (h6 : 6 * q ≤ W) (hm : MontConst q qinv) (hr : RootsLt roots q) (hB : BoundOKA flag b q K)
    (d j : Nat) (hd : d < K) (a : List Nat) (ha : ∀ x ∈ a, x < b d) :
    fwdStage roots q qinv flag d j a = fwdStageN roots q qinv flag d j a
    ∧ (∀ p ∈ fwdStageN roots q qinv flag d j a, p.1 + 2 ≤ b (d + 1) ∧ p.2 + 2 ≤ b (d + 1)) := by
  have hW := hB.le_W d hd
  have key : ∀ u ∈ a.take (a.length / 2), ∀ v ∈ a.drop (a.length / 2),
      bfly (flag d) roots[j]! q qinv u v = bflyN (flag d) roots[j]! q qinv u v
      ∧ (bflyN (flag d) roots[j]! q qinv u v).1 + 2 ≤ b (d + 1)
      ∧ (bflyN (flag d) roots[j]! q qinv u v).2 + 2 ≤ b (d + 1) := fun u hu v hv =>
    bfly_eq_bflyN_abs (flag d) roots[j]! q qinv u v (b d) (b (d + 1)) h6 hm (hr j)
      (Nat.lt_of_lt_of_le (ha v (List.mem_of_mem_drop hv)) hW) (ha u (List.mem_of_mem_take hu)) (hB d hd)
  exact ⟨zipWith_congr_mem _ _ _ _ (fun u hu v hv => (key u hu v hv).1),
    ListLemmas.forall_zipWith _ (fun p : Nat × Nat => p.1 + 2 ≤ b (d + 1) ∧ p.2 + 2 ≤ b (d + 1)) _ _
      (fun u hu v hv => (key u hu v hv).2)⟩

/-- the per-depth bounds `B d · q` are compatible with the reduce schedule `flag` on depths `< K`:
a reducing stage needs inputs `< 8q` and yields `< (min (B d) 4 + 2) q`; a non-reducing stage yields
`< (B d + 2) q` which must not exceed `8q` (this is where `8q ≤ 2^64` is used). -/
def BoundOK (flag : Nat → Bool) (B : Nat → Nat) (K : Nat) : Prop :=
  ∀ d, d < K →
    (flag d = true → B d ≤ 8 ∧ min (B d) 4 + 2 ≤ B (d + 1)) ∧
    (flag d = false → B d + 2 ≤ B (d + 1) ∧ B (d + 1) ≤ 8)

theorem BoundOK.abs {flag : Nat → Bool} {B : Nat → Nat} {K : Nat} (hB : BoundOK flag B K) (q : Nat)
    (h8 : 8 * q ≤ W) : BoundOKA flag (fun d => B d * q) q K := by
  intro d hd
  obtain ⟨h1, h2⟩ := hB d hd
  show (_ → B d * q ≤ W ∧ max (min (B d * q) (4 * q)) (B d * q - 4 * q) + 2 * q ≤ B (d + 1) * q)
    ∧ (_ → B d * q + 2 * q ≤ B (d + 1) * q ∧ B (d + 1) * q ≤ W)
  constructor
  · intro hf
    obtain ⟨ha, hb⟩ := h1 hf
    have h := Nat.mul_le_mul_right q hb
    have h' := Nat.mul_le_mul_right q ha
    rw [Nat.add_mul] at h
    rcases Nat.le_total (B d) 4 with h4 | h4
    · rw [Nat.min_eq_left h4] at h
      have := Nat.mul_le_mul_right q h4
      omega
    · rw [Nat.min_eq_right h4] at h
      have := Nat.mul_le_mul_right q h4
      omega
  · intro hf
    obtain ⟨ha, hb⟩ := h2 hf
    have h := Nat.mul_le_mul_right q ha
    have h' := Nat.mul_le_mul_right q hb
    rw [Nat.add_mul] at h
    omega

theorem BoundOK.of_abs {flag : Nat → Bool} {B : Nat → Nat} {K : Nat} (hB : BoundOKA flag B 1 K)
    (h8 : ∀ d, B d ≤ 8) : BoundOK flag B K := by
  intro d hd
  obtain ⟨h1, h2⟩ := hB d hd
  have := h8 d
  have := h8 (d + 1)
  exact ⟨fun hf => by have := h1 hf; omega, fun hf => by have := h2 hf; omega⟩

/-- **Node invariant of the forward network.** At node `(k,d,j)` on input `a`:
all inputs are `< B d · q`; the stage's word-level butterflies equal the ideal ones (no wrap);
all outputs of the stage are `≤ B (d+1) · q − 2`; and recursively for both children. -/
def FwdOK (roots : Array Nat) (q qinv : Nat) (flag : Nat → Bool) (B : Nat → Nat) :
    (k : Nat) → (d : Nat) → (j : Nat) → List Nat → Prop
  | 0, d, _, a => ∀ x ∈ a, x < B d * q
  | k + 1, d, j, a =>
    (∀ x ∈ a, x < B d * q)
    ∧ fwdStage roots q qinv flag d j a = fwdStageN roots q qinv flag d j a
    ∧ (∀ p ∈ fwdStageN roots q qinv flag d j a, p.1 + 2 ≤ B (d + 1) * q ∧ p.2 + 2 ≤ B (d + 1) * q)
    ∧ FwdOK roots q qinv flag B k (d + 1) (2 * j) ((fwdStage roots q qinv flag d j a).map Prod.fst)
    ∧ FwdOK roots q qinv flag B k (d + 1) (2 * j + 1) ((fwdStage roots q qinv flag d j a).map Prod.snd)

theorem fwdRec_ok (roots : Array Nat) (q qinv : Nat) (flag : Nat → Bool) (B : Nat → Nat) (K : Nat)
    (h8 : 8 * q ≤ W) (hm : MontConst q qinv) (hr : RootsLt roots q) (hB : BoundOK flag B K) :
    ∀ (k d j : Nat) (a : List Nat), d + k ≤ K → (∀ x ∈ a, x < B d * q) →
      FwdOK roots q qinv flag B k d j a
  | 0, _, _, _, _, ha => ha
  | k + 1, d, j, a, hdk, ha => by
    obtain ⟨e, hb⟩ := fwdStage_okA roots q qinv flag (fun d => B d * q) K (by omega) hm hr (hB.abs q h8) d j
      (by omega) a ha
    refine ⟨ha, e, hb, ?_, ?_⟩
    · apply fwdRec_ok roots q qinv flag B K h8 hm hr hB k (d + 1) (2 * j) _ (by omega)
      rw [e]
      exact List.forall_mem_map.2 fun p hp => by have := (hb p hp).1; omega
    · apply fwdRec_ok roots q qinv flag B K h8 hm hr hB k (d + 1) (2 * j + 1) _ (by omega)
      rw [e]
      exact List.forall_mem_map.2 fun p hp => by have := (hb p hp).2; omega

theorem fwdRec_eq_fwdRecN_of_ok (roots : Array Nat) (q qinv : Nat) (flag : Nat → Bool) (B : Nat → Nat) :
    ∀ (k d j : Nat) (a : List Nat), FwdOK roots q qinv flag B k d j a →
      fwdRec roots q qinv flag k d j a = fwdRecN roots q qinv flag k d j a
  | 0, _, _, _, _ => rfl
  | k + 1, d, j, a, ⟨_, e, _, h1, h2⟩ => by
    rw [fwdRec_succ, fwdRecN_succ,
      fwdRec_eq_fwdRecN_of_ok roots q qinv flag B k _ _ _ h1,
      fwdRec_eq_fwdRecN_of_ok roots q qinv flag B k _ _ _ h2, e]

theorem fwdRec_out_le (roots : Array Nat) (q qinv : Nat) (flag : Nat → Bool) (B : Nat → Nat) :
    ∀ (k d j : Nat) (a : List Nat), FwdOK roots q qinv flag B (k + 1) d j a →
      ∀ y ∈ fwdRec roots q qinv flag (k + 1) d j a, y + 2 ≤ B (d + (k + 1)) * q
  | 0, d, j, a, ⟨_, e, hb, _, _⟩ => by
    intro y hy
    rw [fwdRec_succ, List.mem_append] at hy
    simp only [fwdRec] at hy
    rw [e] at hy
    rcases hy with hy | hy
    · obtain ⟨p, hp, rfl⟩ := List.mem_map.1 hy; exact (hb p hp).1
    · obtain ⟨p, hp, rfl⟩ := List.mem_map.1 hy; exact (hb p hp).2
  | k + 1, d, j, a, ⟨_, _, _, h1, h2⟩ => by
    intro y hy
    rw [fwdRec_succ, List.mem_append] at hy
    rw [show d + (k + 1 + 1) = d + 1 + (k + 1) by omega]
    rcases hy with hy | hy
    · exact fwdRec_out_le roots q qinv flag B k _ _ _ h1 y hy
    · exact fwdRec_out_le roots q qinv flag B k _ _ _ h2 y hy

/-- **Node invariant of the inverse network**: inputs `< 2q`, both children OK, the node's
word-level butterflies equal the ideal ones (no wrap) and their outputs are `< 2q`. -/
def InvOK (roots : Array Nat) (q qinv : Nat) : (k : Nat) → (j : Nat) → List Nat → Prop
  | 0, _, a => ∀ x ∈ a, x < 2 * q
  | k + 1, j, a =>
    (∀ x ∈ a, x < 2 * q)
    ∧ InvOK roots q qinv k (2 * j) (a.take (a.length / 2))
    ∧ InvOK roots q qinv k (2 * j + 1) (a.drop (a.length / 2))
    ∧ List.zipWith (ibfly roots[j]! q qinv)
          (invRec roots q qinv k (2 * j) (a.take (a.length / 2)))
          (invRec roots q qinv k (2 * j + 1) (a.drop (a.length / 2)))
        = List.zipWith (ibflyN roots[j]! q qinv)
          (invRec roots q qinv k (2 * j) (a.take (a.length / 2)))
          (invRec roots q qinv k (2 * j + 1) (a.drop (a.length / 2)))
    ∧ (∀ p ∈ List.zipWith (ibflyN roots[j]! q qinv)
          (invRec roots q qinv k (2 * j) (a.take (a.length / 2)))
          (invRec roots q qinv k (2 * j + 1) (a.drop (a.length / 2))), p.1 < 2 * q ∧ p.2 < 2 * q)

theorem invRec_ok (roots : Array Nat) (q qinv : Nat) (h6 : 6 * q ≤ W) (hm : MontConst q qinv)
    (hr : RootsLt roots q) :
    ∀ (k j : Nat) (a : List Nat), (∀ x ∈ a, x < 2 * q) →
      InvOK roots q qinv k j a ∧ ∀ y ∈ invRec roots q qinv k j a, y < 2 * q
  | 0, _, _, ha => ⟨ha, ha⟩
  | k + 1, j, a, ha => by
    obtain ⟨okl, hl⟩ := invRec_ok roots q qinv h6 hm hr k (2 * j) (a.take (a.length / 2))
      (fun x hx => ha x (List.mem_of_mem_take hx))
    obtain ⟨okr, hr'⟩ := invRec_ok roots q qinv h6 hm hr k (2 * j + 1) (a.drop (a.length / 2))
      (fun x hx => ha x (List.mem_of_mem_drop hx))
    have key : ∀ u ∈ invRec roots q qinv k (2 * j) (a.take (a.length / 2)),
        ∀ v ∈ invRec roots q qinv k (2 * j + 1) (a.drop (a.length / 2)),
        ibfly roots[j]! q qinv u v = ibflyN roots[j]! q qinv u v
        ∧ (ibflyN roots[j]! q qinv u v).1 < 2 * q ∧ (ibflyN roots[j]! q qinv u v).2 < 2 * q := by
      intro u hu v hv
      obtain ⟨e, b1, b2, _⟩ := ibfly_eq_ibflyN roots[j]! q qinv u v h6 hm (hr j) (hl u hu) (hr' v hv)
      exact ⟨e, b1, b2⟩
    have e := zipWith_congr_mem _ _ _ _ (fun u hu v hv => (key u hu v hv).1)
    have hb := ListLemmas.forall_zipWith _ (fun p : Nat × Nat => p.1 < 2 * q ∧ p.2 < 2 * q) _ _
      (fun u hu v hv => (key u hu v hv).2)
    refine ⟨⟨ha, okl, okr, e, hb⟩, ?_⟩
    intro y hy
    simp only [invRec] at hy
    rw [e, List.mem_append] at hy
    rcases hy with hy | hy
    · obtain ⟨p, hp, rfl⟩ := List.mem_map.1 hy; exact (hb p hp).1
    · obtain ⟨p, hp, rfl⟩ := List.mem_map.1 hy; exact (hb p hp).2

theorem invRec_eq_invRecN_of_ok (roots : Array Nat) (q qinv : Nat) :
    ∀ (k j : Nat) (a : List Nat), InvOK roots q qinv k j a →
      invRec roots q qinv k j a = invRecN roots q qinv k j a
  | 0, _, _, _ => rfl
  | k + 1, j, a, ⟨_, h1, h2, e, _⟩ => by
    simp only [invRec, invRecN]
    rw [e, invRec_eq_invRecN_of_ok roots q qinv k _ _ h1, invRec_eq_invRecN_of_ok roots q qinv k _ _ h2]

theorem boundOKA_const (flag : Nat → Bool) (C q K : Nat) (hflag : ∀ d, d < K → flag d = true)
    (h6 : 6 * q ≤ C) (hC : C ≤ W) : BoundOKA flag (fun _ => C) q K := by
  intro d hd
  refine ⟨fun _ => ⟨hC, ?_⟩, fun hf => ?_⟩
  · show max (min C (4 * q)) (C - 4 * q) + 2 * q ≤ C
    omega
  · rw [hflag d hd] at hf; exact Bool.noConfusion hf

/-- Bounds for a schedule that does not reduce at depths `< s` and from depth `s` on reduces at every second
depth and at the last one, for inputs `< M`: `M + 2dq` entering depth `d ≤ s`, then with `m = max M 4q`
alternately `m + 2q` (after a reducing stage) and `m + 4q`. -/
def bAlt (s M q K d : Nat) : Nat :=
  if d ≤ s then M + d * (2 * q)
  else if d ≠ K ∧ d % 2 = s % 2 then max M (4 * q) + 4 * q else max M (4 * q) + 2 * q

theorem bAlt_zero (s M q K : Nat) : bAlt s M q K 0 = M := by
  unfold bAlt; rw [if_pos (Nat.zero_le s), Nat.zero_mul, Nat.add_zero]

theorem bAlt_last (s M q K : Nat) (hK : s < K) : bAlt s M q K K = max M (4 * q) + 2 * q := by
  unfold bAlt; rw [if_neg (by omega), if_neg (fun h => h.1 rfl)]

theorem bAlt_le (s M q K d : Nat) (hs : s ≤ 2) : bAlt s M q K d ≤ max M (4 * q) + 4 * q := by
  unfold bAlt
  split
  · have : d * (2 * q) ≤ 2 * (2 * q) := Nat.mul_le_mul_right _ (by omega)
    omega
  · split <;> omega

theorem bAlt_ok (s M q K : Nat) (flag : Nat → Bool) (hs : s ≤ 2)
    (hflag : ∀ d, d < K → (flag d = true ↔ s ≤ d ∧ (d + 1 = K ∨ d % 2 = s % 2)))
    (hM : max M (4 * q) + 4 * q ≤ W) : BoundOKA flag (bAlt s M q K) q K := by
  intro d hd
  have hle := bAlt_le s M q K d hs
  constructor
  · intro hf
    obtain ⟨h1, h2⟩ := (hflag d hd).1 hf
    have hy : bAlt s M q K (d + 1) = max M (4 * q) + 2 * q := by
      unfold bAlt; rw [if_neg (by omega), if_neg (by omega)]
    rw [hy]
    -- a reducing stage brings anything `≤ m + 4q`, `m = max M 4q ≥ 4q`, down to `≤ m + 2q`
    have := Nat.le_max_right M (4 * q)
    exact ⟨Nat.le_trans hle hM, by omega⟩
  · intro hf
    have hn : ¬ (s ≤ d ∧ (d + 1 = K ∨ d % 2 = s % 2)) := fun h => by
      rw [(hflag d hd).2 h] at hf; exact Bool.noConfusion hf
    refine ⟨?_, Nat.le_trans (bAlt_le s M q K (d + 1) hs) hM⟩
    unfold bAlt
    by_cases hds : d < s
    · rw [if_pos (by omega), if_pos (by omega), Nat.add_mul, Nat.one_mul, Nat.add_assoc]
    · rw [if_neg (by omega), if_neg (by omega), if_neg (by omega), if_pos (by omega)]
      omega

theorem two_pow_lt_16 (K : Nat) : 2 ^ K < 16 ↔ K < 4 :=
  Nat.pow_lt_pow_iff_right (a := 2) (m := 4) (by decide)

theorem unrollMin_eq : unrollMin = 16 := rfl

theorem flagStd_eq_true (K d : Nat) (hK : K < 4) : flagStd (2 ^ K) d = true := by
  unfold flagStd
  rw [unrollMin_eq, if_pos ((two_pow_lt_16 K).2 hK)]

theorem flagCI_eq_true (K d : Nat) (hK : K < 4) : flagCI (2 ^ K) d = true := by
  unfold flagCI
  rw [unrollMin_eq, if_pos ((two_pow_lt_16 K).2 hK)]

/-- `nttUnrolled16Lazy`: no reduction at depths `0, 1`, then at even depths and at the last one (the parity is spelt
`d % 2 = 2 % 2` so that this is literally the `hflag` of `bAlt_ok` at `s = 2`) -/
theorem flagStd_true_iff (K d : Nat) (hK : 4 ≤ K) :
    flagStd (2 ^ K) d = true ↔ 2 ≤ d ∧ (d + 1 = K ∨ d % 2 = 2 % 2) := by
  unfold flagStd
  rw [unrollMin_eq, if_neg (by rw [two_pow_lt_16]; omega)]
  simp only [Nat.pow_right_inj Nat.one_lt_two]
  split
  · simp only [Bool.false_eq_true, false_iff]; omega
  · split
    · simp only [true_iff]; omega
    · rw [decide_eq_true_eq]; omega

/-- `nttConjugateInvariantLazyUnrolled16`: no reduction at depth `0`, then at odd depths and at the last one
(`d % 2 = 1 % 2`: the `hflag` of `bAlt_ok` at `s = 1`) -/
theorem flagCI_true_iff (K d : Nat) (hK : 4 ≤ K) :
    flagCI (2 ^ K) d = true ↔ 1 ≤ d ∧ (d + 1 = K ∨ d % 2 = 1 % 2) := by
  unfold flagCI
  rw [unrollMin_eq, if_neg (by rw [two_pow_lt_16]; omega)]
  simp only [Nat.pow_right_inj Nat.one_lt_two]
  split
  · simp only [true_iff]; omega
  · rw [decide_eq_true_eq]; omega

/-- Bound (in units of `q`) on the values ENTERING depth `d` of the standard forward transform of
degree `n`, for inputs `< b0·q` (`b0 = 1`: reduced input, `b0 = 2`: lazy input).
`n < 16` (every stage reduces): `b0, b0+2, …` capped at `6`.
`n ≥ 16` (unrolled schedule): `b0, b0+2, b0+4`, then `6` at odd depths, `8` at even depths,
and `6` after the last stage:  for `b0 = 1` this is the `q, 3q, 5q / 6q, 8q` alternation. -/
def BStd (n b0 d : Nat) : Nat :=
  if n < 16 then min (b0 + 2 * d) 6
  else if d ≤ 2 then b0 + 2 * d
  else if 2 ^ d = n then 6
  else if d % 2 = 1 then 6 else 8

/-- Same for the conjugate-invariant forward transform (after the twist, so `b0 = 3` for reduced
and `b0 = 4` for lazy input): `b0, b0+2`, then `6` at even depths, `8` at odd depths, `6` at the end. -/
def BCI (n b0 d : Nat) : Nat :=
  if n < 16 then min (b0 + 2 * d) 6
  else if d ≤ 1 then b0 + 2 * d
  else if 2 ^ d = n then 6
  else if d % 2 = 0 then 6 else 8

theorem BStd_small (K b0 d : Nat) (hK : K < 4) : BStd (2 ^ K) b0 d = min (b0 + 2 * d) 6 := by
  unfold BStd; rw [if_pos ((two_pow_lt_16 K).2 hK)]

theorem BCI_small (K b0 d : Nat) (hK : K < 4) : BCI (2 ^ K) b0 d = min (b0 + 2 * d) 6 := by
  unfold BCI; rw [if_pos ((two_pow_lt_16 K).2 hK)]

theorem BStd_big (K b0 d : Nat) (hK : 4 ≤ K) (hb0 : b0 ≤ 4) : BStd (2 ^ K) b0 d = bAlt 2 b0 1 K d := by
  unfold BStd bAlt
  rw [if_neg (by rw [two_pow_lt_16]; omega)]
  simp only [Nat.pow_right_inj Nat.one_lt_two]
  split_ifs <;> omega

theorem BCI_big (K b0 d : Nat) (hK : 4 ≤ K) (hb0 : b0 ≤ 4) : BCI (2 ^ K) b0 d = bAlt 1 b0 1 K d := by
  unfold BCI bAlt
  rw [if_neg (by rw [two_pow_lt_16]; omega)]
  simp only [Nat.pow_right_inj Nat.one_lt_two]
  split_ifs <;> omega

theorem boundOK_small (flag : Nat → Bool) (B : Nat → Nat) (b0 K : Nat)
    (hflag : ∀ d, d < K → flag d = true) (hB : ∀ d, B d = min (b0 + 2 * d) 6) : BoundOK flag B K := by
  intro d hd
  rw [hB d, hB (d + 1)]
  refine ⟨fun _ => by omega, fun hf => ?_⟩
  rw [hflag d hd] at hf; exact Bool.noConfusion hf

theorem boundOK_alt (s b0 K : Nat) (flag : Nat → Bool) (hs : s ≤ 2) (hb0 : b0 ≤ 4)
    (hflag : ∀ d, d < K → (flag d = true ↔ s ≤ d ∧ (d + 1 = K ∨ d % 2 = s % 2))) :
    BoundOK flag (bAlt s b0 1 K) K :=
  BoundOK.of_abs (bAlt_ok s b0 1 K flag hs hflag (Nat.le_trans (by omega) (by decide : 8 ≤ W)))
    (fun d => by have := bAlt_le s b0 1 K d hs; omega)

theorem BStd_ok (K b0 : Nat) (hb0 : b0 ≤ 2) : BoundOK (flagStd (2 ^ K)) (BStd (2 ^ K) b0) K := by
  by_cases hK : K < 4
  · exact boundOK_small _ _ b0 K (fun d _ => flagStd_eq_true K d hK) (fun d => BStd_small K b0 d hK)
  · rw [funext fun d => BStd_big K b0 d (by omega) (by omega)]
    exact boundOK_alt 2 b0 K _ (by omega) (by omega) (fun d _ => flagStd_true_iff K d (by omega))

theorem BCI_ok (K b0 : Nat) (hb0 : b0 ≤ 4) : BoundOK (flagCI (2 ^ K)) (BCI (2 ^ K) b0) K := by
  by_cases hK : K < 4
  · exact boundOK_small _ _ b0 K (fun d _ => flagCI_eq_true K d hK) (fun d => BCI_small K b0 d hK)
  · rw [funext fun d => BCI_big K b0 d (by omega) hb0]
    exact boundOK_alt 1 b0 K _ (by omega) hb0 (fun d _ => flagCI_true_iff K d (by omega))

theorem BStd_zero (n b0 : Nat) (hb0 : b0 ≤ 6) : BStd n b0 0 = b0 := by
  unfold BStd; rw [if_pos (Nat.zero_le 2)]; split <;> omega

theorem BCI_zero (n b0 : Nat) (hb0 : b0 ≤ 6) : BCI n b0 0 = b0 := by
  unfold BCI; rw [if_pos (Nat.zero_le 1)]; split <;> omega

theorem BStd_last (K b0 : Nat) (hb0 : b0 ≤ 2) : BStd (2 ^ K) b0 K ≤ 6 := by
  by_cases hK : K < 4
  · rw [BStd_small K b0 K hK]; exact Nat.min_le_right _ _
  · rw [BStd_big K b0 K (by omega) (by omega), bAlt_last 2 b0 1 K (by omega)]; omega

theorem BCI_last (K b0 : Nat) (hb0 : b0 ≤ 4) : BCI (2 ^ K) b0 K ≤ 6 := by
  by_cases hK : K < 4
  · rw [BCI_small K b0 K hK]; exact Nat.min_le_right _ _
  · rw [BCI_big K b0 K (by omega) hb0, bAlt_last 1 b0 1 K (by omega)]; omega

theorem toArray_getElem!_lt (a : List Nat) (b : Nat) (hb : 0 < b) (ha : ∀ x ∈ a, x < b) (i : Nat) :
    a.toArray[i]! < b := by
  rw [ListLemmas.toArray_get!]
  exact ListLemmas.getD_forall (p := (· < b)) hb ha i

def twistN (T : Tables) (roots : Array Nat) (a : List Nat) : List Nat :=
  let n := a.length
  let arr := a.toArray
  let f := roots[1]!
  (List.range n).map fun j =>
    if j = 0 then arr[0]!
    else arr[j]! + 2 * T.q - MRedLazy arr[n - j]! f T.q T.qinv

theorem twist_entry (T : Tables) (roots : Array Nat) (x y bu : Nat)
    (h2 : bu + 2 * T.q ≤ W) (hm : MontConst T.q T.qinv) (hr : RootsLt roots T.q)
    (hx : x < bu) (hy : y < bu) :
    u64sub (u64add x (twoQ T.q)) (MRedLazy y roots[1]! T.q T.qinv)
      = x + 2 * T.q - MRedLazy y roots[1]! T.q T.qinv
    ∧ x + 2 * T.q - MRedLazy y roots[1]! T.q T.qinv < bu + 2 * T.q := by
  have hq0 := hm.pos
  obtain ⟨-, hlt, hpos⟩ := MRedLazy_spec y roots[1]! T.q T.qinv (by omega) hm (mul_lt_qW (by omega) (hr 1))
  rw [twoQ_eq T.q (by omega), u64add_eq x (2 * T.q) (by omega), u64sub_eq _ _ (by omega) (by omega)]
  exact ⟨rfl, by omega⟩

theorem twist_ok (T : Tables) (roots : Array Nat) (a : List Nat) (bu : Nat)
    (h2 : bu + 2 * T.q ≤ W) (hm : MontConst T.q T.qinv) (hr : RootsLt roots T.q)
    (ha : ∀ x ∈ a, x < bu) :
    twist T roots a = twistN T roots a ∧ ∀ y ∈ twistN T roots a, y < bu + 2 * T.q := by
  cases a with
  | nil => exact ⟨by simp [twist, twistN], fun y hy => by simp [twistN] at hy⟩
  | cons x0 a' =>
    have hbu : 0 < bu := Nat.lt_of_le_of_lt (Nat.zero_le _) (ha x0 (List.mem_cons_self ..))
    generalize x0 :: a' = a at ha
    have hlt := toArray_getElem!_lt a bu hbu ha
    have key := fun j => twist_entry T roots _ _ bu h2 hm hr (hlt j) (hlt (a.length - j))
    unfold twist twistN
    constructor
    · apply List.map_congr_left
      intro j _
      by_cases hj0 : j = 0
      · rw [if_pos hj0, if_pos hj0]
      · rw [if_neg hj0, if_neg hj0]; exact (key j).1
    · refine List.forall_mem_map.2 fun j _ => ?_
      by_cases hj0 : j = 0
      · rw [if_pos hj0]; exact Nat.lt_of_lt_of_le (hlt 0) (Nat.le_add_right _ _)
      · rw [if_neg hj0]; exact (key j).2

theorem log2n_two_pow (K : Nat) : log2n (2 ^ K) = K := by
  unfold log2n; exact Nat.log2_two_pow

theorem fwdRec_range (roots : Array Nat) (q qinv : Nat) (flag : Nat → Bool) (B : Nat → Nat) (K j : Nat)
    (h8 : 8 * q ≤ W) (hm : MontConst q qinv) (hr : RootsLt roots q) (hB : BoundOK flag B K)
    (hBK : B K ≤ 6) (a : List Nat) (ha : ∀ x ∈ a, x < B 0 * q) :
    FwdOK roots q qinv flag B K 0 j a
    ∧ fwdRec roots q qinv flag K 0 j a = fwdRecN roots q qinv flag K 0 j a
    ∧ (1 ≤ K → ∀ y ∈ fwdRec roots q qinv flag K 0 j a, y + 2 ≤ 6 * q) := by
  have ok := fwdRec_ok roots q qinv flag B K h8 hm hr hB K 0 j a (by omega) ha
  refine ⟨ok, fwdRec_eq_fwdRecN_of_ok _ _ _ _ _ _ _ _ _ ok, ?_⟩
  intro hK y hy
  obtain ⟨k, rfl⟩ : ∃ k, K = k + 1 := ⟨K - 1, by omega⟩
  have := fwdRec_out_le _ _ _ _ _ k 0 j a ok y hy
  have := Nat.mul_le_mul_right q hBK
  rw [Nat.zero_add] at *
  omega

/-- Inverse network from node `2` (`< 2q`), twist by `rootsB[1]` (`< 4q`), `p[0] ← CRed(2·p[0])` (`< 3q`).  So all
outputs are `< 4q`, NOT the `[0, 2q−1]` of the Go comment on `inttCoreConjugateInvariantLazy`; the callers multiply by
`N⁻¹` with `MRed`/`MRedLazy`, which restores `< q` / `< 2q`. -/
theorem inttCICoreLazy_range (T : Tables) (K : Nat) (hn : T.n = 2 ^ K) (h6 : 6 * T.q ≤ W)
    (hm : MontConst T.q T.qinv) (hr : RootsLt T.rootsB T.q)
    (a : List Nat) (ha : ∀ x ∈ a, x < 2 * T.q) :
    InvOK T.rootsB T.q T.qinv K 2 a
    ∧ twist T T.rootsB (invRec T.rootsB T.q T.qinv K 2 a)
        = twistN T T.rootsB (invRec T.rootsB T.q T.qinv K 2 a)
    ∧ ∀ y ∈ inttCICoreLazy T a, y < 4 * T.q := by
  have hq0 := hm.pos
  obtain ⟨ok, hlt⟩ := invRec_ok T.rootsB T.q T.qinv h6 hm hr K 2 a ha
  obtain ⟨et, ht⟩ := twist_ok T T.rootsB _ (2 * T.q) (by omega) hm hr hlt
  refine ⟨ok, et, ?_⟩
  unfold inttCICoreLazy
  rw [hn, log2n_two_pow]
  simp only []
  rw [et]
  generalize invRec T.rootsB T.q T.qinv K 2 a = b at hlt ht
  cases hc : twistN T T.rootsB b with
  | nil => simp
  | cons c0 rest =>
    rw [hc] at ht
    intro y hy
    rcases List.mem_cons.1 hy with rfl | hy
    · have hh : b.headD 0 < 2 * T.q := by
        cases b with
        | nil => exact Nat.mul_pos (by decide) hq0
        | cons x _ => exact hlt x (List.mem_cons_self ..)
      generalize b.headD 0 = x at hh
      rw [u64shl_one x (by omega)]
      have := CRed_lt_of_lt (2 * x) T.q (3 * T.q) (by omega) (by omega) (by omega)
      omega
    · have := ht y (List.mem_cons_of_mem _ hy); omega

end Lattigo.NTT
