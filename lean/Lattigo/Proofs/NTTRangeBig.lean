import Lattigo.Proofs.NTTInv

/-!
  # Linearity of the exact forward network
  (used by property C02: `Div{Floor,Round}ByLastModulusNTT` feed `NTTLazy` of ring `q_i` with residues modulo the
  possibly much larger `q_ℓ`, resp. with values `< q_ℓ + q_i`; the no-wrap statement for such inputs is
  `nttCoreLazy_abs` of Proofs/NTTInv)
-/
namespace Lattigo.NTT
open Lattigo Lattigo.Gen

section
variable {F : Type} [CommRing F]

theorem fwdZ_zipWith_lin (ρ : ℕ → F) (c : F) (k j : ℕ) (A B : List F)
    (hA : A.length = 2 ^ k) (hB : B.length = 2 ^ k) :
    fwdZ ρ k j (List.zipWith (fun a b => (a - b) * c) A B)
      = List.zipWith (fun a b => (a - b) * c) (fwdZ ρ k j A) (fwdZ ρ k j B) :=
  fwdZ_zipWith ρ _ (fun _ _ _ _ _ => by ring) (fun _ _ _ _ _ => by ring) k j A B hA hB

end

#print axioms bfly_eq_bflyN_abs
#print axioms fwdRec_castA
#print axioms bAlt_ok
#print axioms fwdZ_zipWith_lin

end Lattigo.NTT
