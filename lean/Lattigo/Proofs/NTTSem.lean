import Lattigo.Proofs.NTTRange
import Lattigo.Proofs.ModRedZMod
import Mathlib.Data.ZMod.Basic
import Mathlib.Tactic.Ring
import Mathlib.Tactic.Linarith
import Mathlib.Algebra.Field.ZMod

/-!
  # Semantics of the NTT networks in `Z_q` (property C01)

  The word-level networks of `Model/NTT.lean`, read in `ZMod q`, ARE the exact Cooley–Tukey / Gentleman–Sande networks
  `fwdZ`/`invZ` over a commutative ring, with twiddles `ρ_j = roots[j]·W⁻¹` (`rho`: the Montgomery factor stripped,
  because `MRedLazy x y = x·y·W⁻¹`, Proofs/ModRedZMod): stage-wise exactness, on top of the range invariants of
  `NTTRange.lean`.  For the forward network the inputs need not be `< 2q` (`Div{Floor,Round}ByLastModulusNTT` of C02
  feed `NTTLazy` of ring `q_i` with residues modulo a larger `q_ℓ`).
-/
namespace Lattigo.NTT
open Lattigo Lattigo.Gen

section
variable {q : ℕ}

theorem W_ne_zero [Fact q.Prime] (hodd : q % 2 = 1) : (W : ZMod q) ≠ 0 :=
  ((ZMod.isUnit_iff_coprime W q).2
    (W_eq ▸ (Nat.coprime_two_left.2 (Nat.odd_iff.2 hodd)).pow_left 64)).ne_zero

/-- the value of table entry `j` in `Z_q`, Montgomery factor stripped: `roots[j]·W⁻¹` -/
def rho (q : ℕ) (roots : Array ℕ) (j : ℕ) : ZMod q := (roots[j]! : ZMod q) * (W : ZMod q)⁻¹

/-- `ρ_j ρ'_j = 1` is the decidable condition `roots[j]·roots'[j] ≡ W²` of `Valid`/`ValidCI` -/
theorem rho_mul_eq_one_iff [Fact q.Prime] (hodd : q % 2 = 1) (roots roots' : Array ℕ) (j : ℕ) :
    rho q roots j * rho q roots' j = 1 ↔ (roots[j]! * roots'[j]!) % q = (W * W) % q := by
  have hW := W_ne_zero (q := q) hodd
  unfold rho
  rw [mul_mul_mul_comm, ← mul_inv, mul_inv_eq_one₀ (mul_ne_zero hW hW), ← Nat.cast_mul, ← Nat.cast_mul,
    ZMod.natCast_eq_natCast_iff']

/-- `ρ_j² = −1` is the decidable condition `roots[j]² + W² ≡ 0` of `ValidCI`/`TableInvNat` -/
theorem rho_sq_eq_neg_one_iff [Fact q.Prime] (hodd : q % 2 = 1) (roots : Array ℕ) (j : ℕ) :
    rho q roots j * rho q roots j = -1 ↔ (roots[j]! * roots[j]! + W * W) % q = 0 := by
  have hW := W_ne_zero (q := q) hodd
  unfold rho
  rw [mul_mul_mul_comm, ← mul_inv, mul_inv_eq_iff_eq_mul₀ (mul_ne_zero hW hW), neg_one_mul,
    ← add_eq_zero_iff_eq_neg, ← Nat.cast_mul, ← Nat.cast_mul, ← Nat.cast_add, ZMod.natCast_eq_zero_iff,
    Nat.dvd_iff_mod_eq_zero]

theorem rho_sq_eq_iff [Fact q.Prime] (hodd : q % 2 = 1) (roots : Array ℕ) (i j : ℕ) :
    rho q roots j * rho q roots j = rho q roots i
      ↔ (roots[j]! * roots[j]!) % q = (roots[i]! * W) % q := by
  have hW := W_ne_zero (q := q) hodd
  unfold rho
  rw [mul_mul_mul_comm, ← mul_inv, mul_inv_eq_iff_eq_mul₀ (mul_ne_zero hW hW), mul_assoc (roots[i]! : ZMod q),
    ← mul_assoc (W : ZMod q)⁻¹, inv_mul_cancel₀ hW, one_mul, ← Nat.cast_mul, ← Nat.cast_mul,
    ZMod.natCast_eq_natCast_iff']

theorem rho_sq_eq_neg_iff [Fact q.Prime] (hodd : q % 2 = 1) (roots : Array ℕ) (i j : ℕ) :
    rho q roots j * rho q roots j = -rho q roots i
      ↔ (roots[j]! * roots[j]! + roots[i]! * W) % q = 0 := by
  have hW := W_ne_zero (q := q) hodd
  unfold rho
  rw [mul_mul_mul_comm, ← mul_inv, mul_inv_eq_iff_eq_mul₀ (mul_ne_zero hW hW), neg_mul,
    mul_assoc (roots[i]! : ZMod q), ← mul_assoc (W : ZMod q)⁻¹, inv_mul_cancel₀ hW, one_mul,
    ← add_eq_zero_iff_eq_neg, ← Nat.cast_mul, ← Nat.cast_mul, ← Nat.cast_add, ZMod.natCast_eq_zero_iff,
    Nat.dvd_iff_mod_eq_zero]
theorem bflyN_cast (r : Bool) (psi qinv u v : ℕ) (h6 : 6 * q ≤ W) (hm : MontConst q qinv)
    (hpsi : psi < q) (hv : v < W) :
    (((bflyN r psi q qinv u v).1 : ℕ) : ZMod q) = (u : ZMod q) + (psi : ZMod q) * (W : ZMod q)⁻¹ * v
    ∧ (((bflyN r psi q qinv u v).2 : ℕ) : ZMod q) = (u : ZMod q) - (psi : ZMod q) * (W : ZMod q)⁻¹ * v := by
  have hVP : v * psi < q * W := mul_lt_qW hv hpsi
  have h2q : 2 * q ≤ W := by omega
  have hc := MRedLazy_cast v psi qinv h2q hm hVP
  obtain ⟨_, hlt, _⟩ := MRedLazy_eq v psi q qinv h2q hm hVP
  unfold bflyN
  simp only []
  generalize MRedLazy v psi q qinv = v' at *
  have hu' : (((if r && decide (4 * q ≤ u) then u - 4 * q else u : ℕ)) : ZMod q) = (u : ZMod q) := by
    split
    · rename_i h
      simp only [Bool.and_eq_true, decide_eq_true_eq] at h
      rw [Nat.cast_sub h.2, Nat.cast_mul, ZMod.natCast_self, mul_zero, sub_zero]
    · rfl
  generalize (if r && decide (4 * q ≤ u) then u - 4 * q else u) = u' at *
  constructor
  · rw [Nat.cast_add, hu', hc]; ring
  · rw [Nat.cast_sub (by omega), Nat.cast_add, Nat.cast_mul, ZMod.natCast_self, mul_zero, add_zero,
      hu', hc]; ring

theorem ibflyN_cast (psi qinv u v : ℕ) (h6 : 6 * q ≤ W) (hm : MontConst q qinv)
    (hpsi : psi < q) (hu : u < 2 * q) (hv : v < 2 * q) :
    (((ibflyN psi q qinv u v).1 : ℕ) : ZMod q) = (u : ZMod q) + v
    ∧ (((ibflyN psi q qinv u v).2 : ℕ) : ZMod q)
        = ((u : ZMod q) - v) * ((psi : ZMod q) * (W : ZMod q)⁻¹) := by
  have h2q : 2 * q ≤ W := by omega
  have hc := MRedLazy_cast (u + 4 * q - v) psi qinv h2q hm (mul_lt_qW (by omega) hpsi)
  unfold ibflyN
  simp only []
  constructor
  · split
    · rename_i h
      rw [Nat.cast_sub h, Nat.cast_mul, ZMod.natCast_self, mul_zero, sub_zero, Nat.cast_add]
    · rw [Nat.cast_add]
  · rw [hc, Nat.cast_sub (by omega), Nat.cast_add, Nat.cast_mul, ZMod.natCast_self, mul_zero,
      add_zero]; ring

end

section
variable {F : Type} [CommRing F]

/-- exact Cooley–Tukey network: node `j` maps `(U,V)` to `(U + ρ_j V, U − ρ_j V)` -/
def fwdZ (ρ : ℕ → F) : (k : ℕ) → (j : ℕ) → List F → List F
  | 0, _, a => a
  | k + 1, j, a =>
    fwdZ ρ k (2 * j)
        (List.zipWith (fun u v => u + ρ j * v) (a.take (a.length / 2)) (a.drop (a.length / 2)))
    ++ fwdZ ρ k (2 * j + 1)
        (List.zipWith (fun u v => u - ρ j * v) (a.take (a.length / 2)) (a.drop (a.length / 2)))

/-- exact Gentleman–Sande network: `(L,R) ↦ (L + R, (L − R)·ρ'_j)` after the children -/
def invZ (ρ' : ℕ → F) : (k : ℕ) → (j : ℕ) → List F → List F
  | 0, _, a => a
  | k + 1, j, a =>
    List.zipWith (fun u v => u + v)
        (invZ ρ' k (2 * j) (a.take (a.length / 2))) (invZ ρ' k (2 * j + 1) (a.drop (a.length / 2)))
    ++ List.zipWith (fun u v => (u - v) * ρ' j)
        (invZ ρ' k (2 * j) (a.take (a.length / 2))) (invZ ρ' k (2 * j + 1) (a.drop (a.length / 2)))
end

theorem map_zipWith_mem {α β γ δ : Type} (f : α → α → β) (g : β → δ) (c : α → γ) (f' : γ → γ → δ) :
    ∀ (l1 l2 : List α), (∀ u ∈ l1, ∀ v ∈ l2, g (f u v) = f' (c u) (c v)) →
      (List.zipWith f l1 l2).map g = List.zipWith f' (l1.map c) (l2.map c) := fun l1 l2 h => by
  rw [List.map_zipWith, List.zipWith_map]
  exact zipWith_congr_mem _ _ l1 l2 h

section
variable {q : ℕ}

/-- the bounds `b` are absolute: the inputs need NOT be `< 2q` -/
theorem fwdRec_castA (roots : Array ℕ) (qinv : ℕ) (flag : ℕ → Bool) (b : ℕ → ℕ) (K : ℕ)
    (h6 : 6 * q ≤ W) (hm : MontConst q qinv) (hr : RootsLt roots q) (hB : BoundOKA flag b q K) :
    ∀ (k d j : ℕ) (a : List ℕ), d + k ≤ K → (∀ x ∈ a, x < b d) →
      (fwdRec roots q qinv flag k d j a).map (Nat.cast : ℕ → ZMod q)
        = fwdZ (rho q roots) k j (a.map (Nat.cast : ℕ → ZMod q))
      ∧ ∀ y ∈ fwdRec roots q qinv flag k d j a, y < b (d + k)
  | 0, _, _, _, _, ha => ⟨rfl, ha⟩
  | k + 1, d, j, a, hdk, ha => by
    obtain ⟨e, hb⟩ := fwdStage_okA roots q qinv flag b K h6 hm hr hB d j (by omega) a ha
    have hW : ∀ x ∈ a, x < W := fun x hx => Nat.lt_of_lt_of_le (ha x hx) (hB.le_W d (by omega))
    have key : ∀ u ∈ a.take (a.length / 2), ∀ v ∈ a.drop (a.length / 2),
        (((bflyN (flag d) roots[j]! q qinv u v).1 : ℕ) : ZMod q) = (u : ZMod q) + rho q roots j * v
        ∧ (((bflyN (flag d) roots[j]! q qinv u v).2 : ℕ) : ZMod q) = (u : ZMod q) - rho q roots j * v :=
      fun u _ v hv => bflyN_cast (flag d) roots[j]! qinv u v h6 hm (hr j) (hW v (List.mem_of_mem_drop hv))
    have h1 : ∀ x ∈ (fwdStage roots q qinv flag d j a).map Prod.fst, x < b (d + 1) := by
      rw [e]; exact List.forall_mem_map.2 fun p hp => by have := (hb p hp).1; omega
    have h2 : ∀ x ∈ (fwdStage roots q qinv flag d j a).map Prod.snd, x < b (d + 1) := by
      rw [e]; exact List.forall_mem_map.2 fun p hp => by have := (hb p hp).2; omega
    obtain ⟨c1, r1⟩ := fwdRec_castA roots qinv flag b K h6 hm hr hB k (d + 1) (2 * j) _ (by omega) h1
    obtain ⟨c2, r2⟩ := fwdRec_castA roots qinv flag b K h6 hm hr hB k (d + 1) (2 * j + 1) _ (by omega) h2
    constructor
    · rw [fwdRec_succ, List.map_append, c1, c2, e]
      unfold fwdStageN
      simp only [fwdZ, List.map_map, List.length_map, ← List.map_take, ← List.map_drop]
      congr 2
      · exact map_zipWith_mem _ _ _ (fun u v => u + rho q roots j * v) _ _
          (fun u hu v hv => (key u hu v hv).1)
      · exact map_zipWith_mem _ _ _ (fun u v => u - rho q roots j * v) _ _
          (fun u hu v hv => (key u hu v hv).2)
    · intro y hy
      rw [fwdRec_succ, List.mem_append] at hy
      rw [show d + (k + 1) = d + 1 + k by omega]
      exact hy.elim (r1 y) (r2 y)

/-- Either kind of schedule of `ring/ntt.go`.  `K < 4`: every stage reduces, constant bound `max M 6q`; `K ≥ 4`:
alternating from depth `s ≤ 2` on, bounds `bAlt s`. -/
theorem fwdRec_cast_sched (roots : Array ℕ) (qinv : ℕ) (flag : ℕ → Bool) (s K j : ℕ) (hs : s ≤ 2)
    (h8 : 8 * q ≤ W) (hm : MontConst q qinv) (hr : RootsLt roots q)
    (hsmall : K < 4 → ∀ d, flag d = true)
    (hbig : 4 ≤ K → ∀ d, (flag d = true ↔ s ≤ d ∧ (d + 1 = K ∨ d % 2 = s % 2)))
    (M : ℕ) (hM : M + 4 * q ≤ W) (a : List ℕ) (ha : ∀ x ∈ a, x < M) :
    (fwdRec roots q qinv flag K 0 j a).map (Nat.cast : ℕ → ZMod q)
      = fwdZ (rho q roots) K j (a.map (Nat.cast : ℕ → ZMod q))
    ∧ ∀ y ∈ fwdRec roots q qinv flag K 0 j a, y < max M (4 * q) + 2 * q := by
  by_cases hK : K < 4
  · obtain ⟨c, r⟩ := fwdRec_castA roots qinv flag (fun _ => max M (6 * q)) K (by omega) hm hr
      (boundOKA_const flag _ q K (fun d _ => hsmall hK d) (by omega) (by omega)) K 0 j a
      (by omega) (fun x hx => by have := ha x hx; omega)
    exact ⟨c, fun y hy => by have : y < max M (6 * q) := r y hy; omega⟩
  · obtain ⟨c, r⟩ := fwdRec_castA roots qinv flag (bAlt s M q K) K (by omega) hm hr
      (bAlt_ok s M q K flag hs (fun d _ => hbig (by omega) d) (by omega)) K 0 j a
      (by omega) (by rw [bAlt_zero]; exact ha)
    refine ⟨c, fun y hy => ?_⟩
    have := r y hy
    rwa [Nat.zero_add, bAlt_last s M q K (by omega)] at this

theorem invRec_cast (roots : Array ℕ) (qinv : ℕ) (h6 : 6 * q ≤ W) (hm : MontConst q qinv)
    (hr : RootsLt roots q) :
    ∀ (k j : ℕ) (a : List ℕ), (∀ x ∈ a, x < 2 * q) →
      (invRec roots q qinv k j a).map (Nat.cast : ℕ → ZMod q)
        = invZ (rho q roots) k j (a.map (Nat.cast : ℕ → ZMod q))
  | 0, _, _, _ => rfl
  | k + 1, j, a, ha => by
    have hal : ∀ x ∈ a.take (a.length / 2), x < 2 * q := fun x hx => ha x (List.mem_of_mem_take hx)
    have har : ∀ x ∈ a.drop (a.length / 2), x < 2 * q := fun x hx => ha x (List.mem_of_mem_drop hx)
    obtain ⟨okl, hl⟩ := invRec_ok roots q qinv h6 hm hr k (2 * j) _ hal
    obtain ⟨okr, hr'⟩ := invRec_ok roots q qinv h6 hm hr k (2 * j + 1) _ har
    -- `InvOK` holds the children's invariants but not the bounds `hl`, `hr'` on their outputs, hence the two calls above;
    -- this one supplies `e`: no wrap at the node itself
    obtain ⟨⟨_, _, _, e, _⟩, _⟩ := invRec_ok roots q qinv h6 hm hr (k + 1) j a ha
    have key : ∀ u ∈ invRec roots q qinv k (2 * j) (a.take (a.length / 2)),
        ∀ v ∈ invRec roots q qinv k (2 * j + 1) (a.drop (a.length / 2)),
        (((ibflyN roots[j]! q qinv u v).1 : ℕ) : ZMod q) = (u : ZMod q) + v
        ∧ (((ibflyN roots[j]! q qinv u v).2 : ℕ) : ZMod q) = ((u : ZMod q) - v) * rho q roots j :=
      fun u hu v hv => ibflyN_cast roots[j]! qinv u v h6 hm (hr j) (hl u hu) (hr' v hv)
    simp only [invRec]
    rw [e, List.map_append]
    simp only [invZ, List.map_map, List.length_map, ← List.map_take, ← List.map_drop]
    rw [← invRec_cast roots qinv h6 hm hr k (2 * j) _ hal,
      ← invRec_cast roots qinv h6 hm hr k (2 * j + 1) _ har]
    congr 1
    · exact map_zipWith_mem _ _ _ (fun u v => u + v) _ _ (fun u hu v hv => (key u hu v hv).1)
    · exact map_zipWith_mem _ _ _ (fun u v => (u - v) * rho q roots j) _ _
        (fun u hu v hv => (key u hu v hv).2)

end
end Lattigo.NTT
