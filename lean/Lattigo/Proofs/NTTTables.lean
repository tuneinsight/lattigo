import Lattigo.Proofs.NTTMul
import Lattigo.Proofs.BitRev
import Lattigo.Proofs.NTTModExp
import Mathlib.FieldTheory.Finite.Basic

/-!
  # The NTT tables computed by `mkTables` satisfy the table invariant (property C01)

  `bitRev` is an involution; `modExp` is modular exponentiation (`NTTModExp`); `genRoots` puts `ψ^j` (Montgomery
  form) at index `brv(j)`; hence `mkTables_pow` (the generated tables are
  `PowTables`: the powers of `ψ`) and from it `mkTables_all` (**tables_invariant**).
-/
namespace Lattigo.NTT
open Lattigo Lattigo.Gen

theorem bitRev_succ_last (i L : ℕ) : bitRev i (L + 1) = bitRev i L * 2 + (i / 2 ^ L) % 2 := by
  unfold bitRev
  rw [List.range_succ, List.foldl_append]
  rfl

theorem bitRev_zero_len (i : ℕ) : bitRev i 0 = 0 := rfl

theorem bitRev_succ_first : ∀ (L i : ℕ), bitRev i (L + 1) = (i % 2) * 2 ^ L + bitRev (i / 2) L
  | 0, i => by simp [bitRev_succ_last, bitRev_zero_len]
  | L + 1, i => by
    rw [bitRev_succ_last i (L + 1), bitRev_succ_first L i, bitRev_succ_last (i / 2) L,
      Nat.div_div_eq_div_mul, ← Nat.pow_succ']
    rw [Nat.pow_succ 2 L]
    ring

theorem isBitRev : IsBitRev fun L i => bitRev i L := ⟨bitRev_zero_len, bitRev_succ_first⟩

theorem bitRev_lt (L i : ℕ) : bitRev i L < 2 ^ L := isBitRev.lt L i

theorem bitRev_mod : ∀ (L i : ℕ), bitRev (i % 2 ^ L) L = bitRev i L
  | 0, i => rfl
  | L + 1, i => by
    rw [bitRev_succ_first, bitRev_succ_first L i, Nat.pow_succ', Nat.mod_mul_right_mod,
      Nat.mod_mul_right_div_self, bitRev_mod L (i / 2)]

theorem bitRev_zero : ∀ L : ℕ, bitRev 0 L = 0
  | 0 => rfl
  | L + 1 => by rw [bitRev_succ_last, bitRev_zero L]; simp

theorem bitRev_invol : ∀ (L i : ℕ), i < 2 ^ L → bitRev (bitRev i L) L = i
  | 0, i, h => by simp at h; subst h; rfl
  | L + 1, i, h => by
    have hb := bitRev_lt L (i / 2)
    have hi2 : i / 2 < 2 ^ L := by rw [Nat.pow_succ] at h; omega
    rw [bitRev_succ_first L i, bitRev_succ_last, ← bitRev_mod L, Nat.mul_add_mod_self_right,
      Nat.mod_eq_of_lt hb, bitRev_invol L (i / 2) hi2]
    have : (i % 2 * 2 ^ L + bitRev (i / 2) L) / 2 ^ L = i % 2 := by
      rw [Nat.mul_comm, Nat.mul_add_div (Nat.two_pow_pos L), Nat.div_eq_of_lt hb]; omega
    rw [this]; omega

theorem bitRev_inj (L i j : ℕ) (hi : i < 2 ^ L) (hj : j < 2 ^ L) (h : bitRev i L = bitRev j L) :
    i = j := isBitRev.inj L i j hi hj h

theorem bitRev_even (L i : ℕ) (h : 2 * i < 2 ^ (L + 1)) :
    2 * bitRev (2 * i) (L + 1) = bitRev i (L + 1) := by
  have hi : i < 2 ^ L := by rw [Nat.pow_succ] at h; omega
  rw [bitRev_succ_first L (2 * i), bitRev_succ_last i L, Nat.div_eq_of_lt hi]
  have : 2 * i / 2 = i := by omega
  rw [this]; simp; omega

theorem bitRev_odd (L i : ℕ) (h : 2 * i + 1 < 2 ^ (L + 1)) :
    2 * bitRev (2 * i + 1) (L + 1) = 2 ^ (L + 1) + bitRev i (L + 1) := by
  have hi : i < 2 ^ L := by rw [Nat.pow_succ] at h; omega
  rw [bitRev_succ_first L (2 * i + 1), bitRev_succ_last i L, Nat.div_eq_of_lt hi]
  have h1 : (2 * i + 1) / 2 = i := by omega
  have h2 : (2 * i + 1) % 2 = 1 := by omega
  rw [h1, h2, Nat.pow_succ]; omega

theorem bitRev_one (L : ℕ) : bitRev 1 (L + 1) = 2 ^ L := by
  rw [bitRev_succ_first]; simp [bitRev_zero]

/-- the sequence of successive Montgomery products: `v 0 = one`, `v (j+1) = MRed (v j) ψ` -/
def vseq (q qinv one psiMont : ℕ) : ℕ → ℕ
  | 0 => one
  | j + 1 => MRed (vseq q qinv one psiMont j) psiMont q qinv

/-- the loop body of `genRoots` with projections instead of the pattern match -/
def genStep (q qinv L psiMont : ℕ) (st : Array ℕ × ℕ) (jm1 : ℕ) : Array ℕ × ℕ :=
  (st.1.set! (bitRev (jm1 + 1) L) (MRed st.2 psiMont q qinv), MRed st.2 psiMont q qinv)

theorem genRoots_eq (q qinv : ℕ) (bred : ℕ × ℕ) (nthRoot psiMont : ℕ) :
    genRoots q qinv bred nthRoot psiMont
      = ((List.range (nthRoot / 2 - 1)).foldl (genStep q qinv (Nat.log2 (nthRoot / 2)) psiMont)
          ((Array.replicate (nthRoot / 2) 0).set! 0 (MForm 1 q bred), MForm 1 q bred)).1 := rfl

theorem vseq_pred (q qinv one psiMont : ℕ) (P : ℕ → Prop) (hone : P one)
    (hstep : ∀ x, P x → P (MRed x psiMont q qinv)) : ∀ j, P (vseq q qinv one psiMont j)
  | 0 => hone
  | j + 1 => hstep _ (vseq_pred q qinv one psiMont P hone hstep j)

theorem genFold_spec (q qinv L psiMont one : ℕ) (P : ℕ → Prop) (hone : P one) (h0 : P 0)
    (hstep : ∀ x, P x → P (MRed x psiMont q qinv)) :
    ∀ t, t + 1 ≤ 2 ^ L →
      let st := (List.range t).foldl (genStep q qinv L psiMont)
          ((Array.replicate (2 ^ L) 0).set! 0 one, one)
      st.2 = vseq q qinv one psiMont t ∧ st.1.size = 2 ^ L
      ∧ (∀ j, j ≤ t → st.1[bitRev j L]! = vseq q qinv one psiMont j)
      ∧ (∀ idx : ℕ, P st.1[idx]!)
  | 0, h => by
    simp only [List.range_zero, List.foldl_nil]
    refine ⟨rfl, by simp, ?_, ?_⟩
    · intro j hj
      have : j = 0 := by omega
      subst this
      rw [bitRev_zero]
      exact Array.getElem!_set!_self _ _ _ (by simp)
    · intro idx
      by_cases hi0 : idx = 0
      · subst hi0; rw [Array.getElem!_set!_self _ _ _ (by simp)]; exact hone
      · rw [Array.getElem!_set!_ne _ _ _ _ (Ne.symm hi0)]
        by_cases hi : idx < 2 ^ L
        · simp [hi, h0]
        · simp [hi, h0]
  | t + 1, h => by
    obtain ⟨h1, h2, h3, h4⟩ := genFold_spec q qinv L psiMont one P hone h0 hstep t (by omega)
    simp only [List.range_succ, List.foldl_append, List.foldl_cons, List.foldl_nil]
    generalize (List.range t).foldl (genStep q qinv L psiMont)
      ((Array.replicate (2 ^ L) 0).set! 0 one, one) = st at *
    simp only [genStep]
    rw [h1]
    have hb := bitRev_lt L (t + 1)
    refine ⟨rfl, by simp [h2], ?_, ?_⟩
    · intro j hj
      by_cases hjt : j = t + 1
      · subst hjt
        exact Array.getElem!_set!_self _ _ _ (by rw [h2]; exact hb)
      · have hne : bitRev (t + 1) L ≠ bitRev j L := by
          intro he
          exact hjt (bitRev_inj L j (t + 1) (by omega) (by omega) he.symm)
        rw [Array.getElem!_set!_ne _ _ _ _ hne]
        exact h3 j (by omega)
    · intro idx
      by_cases hi0 : idx = bitRev (t + 1) L
      · subst hi0; rw [Array.getElem!_set!_self _ _ _ (by rw [h2]; exact hb)]
        exact hstep _ (vseq_pred q qinv one psiMont P hone hstep t)
      · rw [Array.getElem!_set!_ne _ _ _ _ (Ne.symm hi0)]; exact h4 idx

theorem vseq_spec {q : ℕ} (qinv one psiMont : ℕ) (h2 : 2 * q ≤ W)
    (hm : MontConst q qinv) (hone : one < q) (hpsi : psiMont < q) :
    ∀ j, vseq q qinv one psiMont j < q
      ∧ ((vseq q qinv one psiMont j : ℕ) : ZMod q)
          = (one : ZMod q) * ((psiMont : ZMod q) * (W : ZMod q)⁻¹) ^ j
  | 0 => ⟨hone, by simp [vseq]⟩
  | j + 1 => by
    obtain ⟨h1, hc⟩ := vseq_spec qinv one psiMont h2 hm hone hpsi j
    have hxy : vseq q qinv one psiMont j * psiMont < q * W := mul_lt_qW (by omega) hpsi
    refine ⟨(MRed_spec _ _ q qinv h2 hm hxy).2, ?_⟩
    show ((MRed (vseq q qinv one psiMont j) psiMont q qinv : ℕ) : ZMod q) = _
    rw [MRed_cast _ _ qinv h2 hm hxy, hc, pow_succ]; ring

theorem genRoots_spec {q : ℕ} [Fact q.Prime] (qinv K psiMont : ℕ) (h2 : 2 * q ≤ W)
    (hm : MontConst q qinv) (hpsi : psiMont < q) :
    RootsLt (genRoots q qinv (brc q) (2 ^ (K + 1)) psiMont) q
    ∧ ∀ idx, idx < 2 ^ K →
        rho q (genRoots q qinv (brc q) (2 ^ (K + 1)) psiMont) idx
          = ((psiMont : ZMod q) * (W : ZMod q)⁻¹) ^ bitRev idx K := by
  have hq1 : 1 < q := (Fact.out : q.Prime).one_lt
  have hone : MForm 1 q (brc q) = (1 * W) % q := MForm_spec 1 q hq1 h2 (by decide)
  have hone_lt : MForm 1 q (brc q) < q := by rw [hone]; exact Nat.mod_lt _ (by omega)
  have hhalf : 2 ^ (K + 1) / 2 = 2 ^ K := by rw [Nat.pow_succ]; omega
  have hstep : ∀ x, x < q → MRed x psiMont q qinv < q := by
    intro x hx
    exact (MRed_spec x psiMont q qinv h2 hm
      (by rw [Nat.mul_comm q W]; exact Nat.mul_lt_mul'' (by omega) hpsi)).2
  obtain ⟨_, hsize, hget, hlt⟩ := genFold_spec q qinv K psiMont (MForm 1 q (brc q)) (· < q)
    hone_lt (by omega) hstep (2 ^ K - 1) (by have := Nat.two_pow_pos K; omega)
  have hlog : Nat.log2 (2 ^ K) = K := Nat.log2_two_pow
  rw [genRoots_eq, hhalf, hlog]
  refine ⟨hlt, ?_⟩
  intro idx hidx
  have hb := bitRev_lt K idx
  have h := hget (bitRev idx K) (by omega)
  rw [bitRev_invol K idx hidx] at h
  unfold rho
  rw [h, (vseq_spec qinv _ psiMont h2 hm hone_lt hpsi _).2, hone, ZMod.natCast_mod, Nat.one_mul]
  rw [mul_right_comm, W_mul_inv hm, one_mul]


theorem MForm_cast {q : ℕ} [Fact q.Prime] (a : ℕ) (h2 : 2 * q ≤ W) (ha : a < W) :
    MForm a q (brc q) < q ∧ ((MForm a q (brc q) : ℕ) : ZMod q) = (a : ZMod q) * (W : ZMod q) := by
  have hq1 : 1 < q := (Fact.out : q.Prime).one_lt
  rw [MForm_spec a q hq1 h2 ha]
  exact ⟨Nat.mod_lt _ (by omega), by rw [ZMod.natCast_mod, Nat.cast_mul]⟩

theorem MForm_modExp_cast {q qinv : ℕ} [Fact q.Prime] (x e : ℕ) (h2 : 2 * q ≤ W) (hm : MontConst q qinv)
    (he : e < 2 ^ 64) :
    MForm (modExp x e q) q (brc q) < q
    ∧ ((MForm (modExp x e q) q (brc q) : ℕ) : ZMod q) * (W : ZMod q)⁻¹ = (x : ZMod q) ^ e := by
  have hq0 : 0 < q := (Fact.out : q.Prime).pos
  have hlt : modExp x e q < W := by
    rw [modExp_spec x e q hq0 he]; exact Nat.lt_of_lt_of_le (Nat.mod_lt _ hq0) (by omega)
  obtain ⟨h1, hc⟩ := MForm_cast (q := q) (modExp x e q) h2 hlt
  refine ⟨h1, ?_⟩
  rw [hc, modExp_spec x e q hq0 he, ZMod.natCast_mod, Nat.cast_pow, mul_W_mul_inv hm]

section
variable {F : Type} [CommRing F]

/-- because `2·brv(2i) = brv(i)`, `2·brv(2i+1) = 2^K + brv(i)`, `brv(1) = 2^(K−1)` -/
theorem tableInv_of_pow (ρ : ℕ → F) (ψ : F) (K : ℕ) (hψ : ψ ^ 2 ^ K = -1)
    (hF : ∀ j, j < 2 ^ K → ρ j = ψ ^ bitRev j K) : TableInv ρ (2 ^ K) := by
  intro j hj1 hjM
  obtain ⟨L, rfl⟩ : ∃ L, K = L + 1 := by
    rcases K with _ | L
    · rw [Nat.pow_zero] at hjM; omega
    · exact ⟨L, rfl⟩
  rw [hF j hjM, ← pow_mul]
  rcases Nat.lt_or_ge 1 j with hj | hj
  · obtain ⟨i, rfl | rfl⟩ : ∃ i, j = 2 * i ∨ j = 2 * i + 1 := ⟨j / 2, by omega⟩
    · rw [cnode_even _ _ (by omega), hF i (by omega), Nat.mul_comm, bitRev_even L i hjM]
    · rw [cnode_odd _ _ (by omega), hF i (by omega), Nat.mul_comm, bitRev_odd L i hjM, pow_add, hψ,
        neg_one_mul]
  · obtain rfl : j = 1 := by omega
    rw [cnode_one, bitRev_one, ← Nat.pow_succ, hψ]

end

theorem two_pow_dvd_pred (K q : ℕ) (hq : q.Prime) (hdiv : 2 ^ (K + 1) ∣ q - 1) :
    q % 2 = 1 ∧ (q - 1) / 2 = 2 ^ K * ((q - 1) / 2 ^ (K + 1)) ∧ 0 < (q - 1) / 2 ^ (K + 1)
    ∧ (q - 1) / 2 ^ (K + 1) < q := by
  have hq2 := hq.two_le
  obtain ⟨m, hm⟩ := hdiv
  rw [hm, Nat.mul_div_cancel_left m (Nat.two_pow_pos _)]
  have hq1 : q - 1 = 2 * (2 ^ K * m) := by rw [hm, Nat.pow_succ]; ring
  have hmpos : 0 < m := by
    rcases Nat.eq_zero_or_pos m with h0 | h0
    · rw [h0, Nat.mul_zero] at hq1; omega
    · exact h0
  have hle : m ≤ 2 ^ K * m := Nat.le_mul_of_pos_left m (Nat.two_pow_pos K)
  rw [← hm]
  generalize 2 ^ K * m = P at hq1 hle
  omega

/-- tables that hold the powers of `ψ`, `ψ^(2^K) = −1`, in bit-reversed order and Montgomery form
(`rootsF[j] = ψ^{brv_K(j)}·W`, `rootsB[j]` its inverse), with `nInv = (2^K)⁻¹·W` -/
structure PowTables (q qinv : ℕ) (rootsF rootsB : Array ℕ) (nInv K : ℕ) (ψ : ZMod q) : Prop where
  mont : MontConst q qinv
  rootsF_lt : RootsLt rootsF q
  rootsB_lt : RootsLt rootsB q
  roots_inv : ∀ j, j < 2 ^ K → (rootsF[j]! * rootsB[j]!) % q = (W * W) % q
  nInv_lt : nInv < q
  nInv_eq : (nInv * 2 ^ K) % q = W % q
  psi_pow : ψ ^ 2 ^ K = -1
  rootsF_eq : ∀ idx, idx < 2 ^ K → rho q rootsF idx = ψ ^ bitRev idx K

theorem PowTables.tableInv {q qinv : ℕ} {rootsF rootsB : Array ℕ} {nInv K : ℕ} {ψ : ZMod q}
    (h : PowTables q qinv rootsF rootsB nInv K ψ) : TableInv (rho q rootsF) (2 ^ K) :=
  tableInv_of_pow _ _ K h.psi_pow h.rootsF_eq

/-- `hg`: `g` is a quadratic non-residue mod `q` (every primitive root is one).  `mkTables` is the model of
`generateNTTConstants`; `n` only fills the field `T.n`: `n = 2^K` for the standard ring, `n = 2^(K−1)` for the
conjugate-invariant ring. -/
theorem mkTables_pow (n K q g : ℕ) (hq : q.Prime) (h8 : 8 * q ≤ W) (hdiv : 2 ^ (K + 1) ∣ q - 1)
    (hg : g ^ ((q - 1) / 2) % q = q - 1) :
    PowTables q (GenMRedConstant q) (mkTables n q (2 ^ (K + 1)) g).rootsF (mkTables n q (2 ^ (K + 1)) g).rootsB
      (mkTables n q (2 ^ (K + 1)) g).nInv K (((g : ℕ) : ZMod q) ^ ((q - 1) / 2 ^ (K + 1))) := by
  have : Fact q.Prime := ⟨hq⟩
  have hq2 := hq.two_le
  obtain ⟨hodd, hhalfexp, hmpos, hmq⟩ := two_pow_dvd_pred K q hq hdiv
  have h2 : 2 * q ≤ W := by omega
  have hmont := (GenMRedConstant_spec q hodd (by omega)).1
  have hW64 : W = 2 ^ 64 := W_eq
  -- the table, with `m = (q−1)/2^(K+1)`
  have hhalf : 2 ^ (K + 1) / 2 = 2 ^ K := by rw [Nat.pow_succ]; omega
  have eq_F : (mkTables n q (2 ^ (K + 1)) g).rootsF
      = genRoots q (GenMRedConstant q) (brc q) (2 ^ (K + 1))
          (MForm (modExp g ((q - 1) / 2 ^ (K + 1)) q) q (brc q)) := rfl
  have eq_B : (mkTables n q (2 ^ (K + 1)) g).rootsB
      = genRoots q (GenMRedConstant q) (brc q) (2 ^ (K + 1))
          (MForm (modExp g (q - ((q - 1) / 2 ^ (K + 1)) - 1) q) q (brc q)) := rfl
  have eq_N : (mkTables n q (2 ^ (K + 1)) g).nInv
      = MForm (modExp (2 ^ (K + 1) / 2) (q - 2) q) q (brc q) := rfl
  rw [hhalf] at eq_N
  rw [eq_F, eq_B, eq_N]
  generalize (q - 1) / 2 ^ (K + 1) = m at *
  -- `ψ = g^m`, `ψ' = g^(q−1−m)`: `ψ^(2^K) = −1` and `ψ ψ' = 1`
  have hψhalf : (((g : ℕ) : ZMod q) ^ m) ^ 2 ^ K = -1 := by
    have h := congrArg (Nat.cast : ℕ → ZMod q) hg
    rwa [ZMod.natCast_mod, Nat.cast_pow, hhalfexp, Nat.cast_sub (by omega), ZMod.natCast_self,
      Nat.cast_one, zero_sub, Nat.mul_comm, pow_mul] at h
  have hg0 : ((g : ℕ) : ZMod q) ≠ 0 := by
    intro h0
    rw [h0, zero_pow (by omega), zero_pow (by positivity)] at hψhalf
    exact one_ne_zero (α := ZMod q) (neg_eq_zero.1 hψhalf.symm)
  have hψψ' : ((g : ℕ) : ZMod q) ^ m * (g : ZMod q) ^ (q - m - 1) = 1 := by
    rw [← pow_add, show m + (q - m - 1) = q - 1 by omega, ZMod.pow_card_sub_one_eq_one hg0]
  obtain ⟨hψlt, hψ⟩ := MForm_modExp_cast (q := q) g m h2 hmont (by omega)
  obtain ⟨hψ'lt, hψ'⟩ := MForm_modExp_cast (q := q) g (q - m - 1) h2 hmont (by omega)
  obtain ⟨hFlt, hF⟩ := genRoots_spec (q := q) (GenMRedConstant q) K _ h2 hmont hψlt
  obtain ⟨hBlt, hB⟩ := genRoots_spec (q := q) (GenMRedConstant q) K _ h2 hmont hψ'lt
  rw [hψ] at hF
  rw [hψ'] at hB
  -- `nInv = (2^K)⁻¹·W`
  obtain ⟨hNlt, hN⟩ := MForm_modExp_cast (q := q) (2 ^ K) (q - 2) h2 hmont (by omega)
  have h2K : (((2 ^ K : ℕ) : ZMod q)) ≠ 0 := by
    rw [Nat.cast_pow]
    apply pow_ne_zero
    rw [Ne, ZMod.natCast_eq_zero_iff]
    intro h
    have := Nat.le_of_dvd (by decide) h
    omega
  refine ⟨hmont, hFlt, hBlt, ?_, hNlt, ?_, hψhalf, hF⟩
  · intro j hj
    apply (rho_mul_eq_one_iff hodd _ _ j).1
    rw [hF j hj, hB j hj, ← mul_pow, hψψ', one_pow]
  · apply mod_of_cast
    rw [Nat.cast_mul]
    calc ((MForm (modExp (2 ^ K) (q - 2) q) q (brc q) : ℕ) : ZMod q) * ((2 ^ K : ℕ) : ZMod q)
        = (((MForm (modExp (2 ^ K) (q - 2) q) q (brc q) : ℕ) : ZMod q) * (W : ZMod q)⁻¹)
            * ((2 ^ K : ℕ) : ZMod q) * (W : ZMod q) := by
          rw [mul_right_comm _ _ (W : ZMod q), mul_right_comm _ _ (W : ZMod q), mul_W_mul_inv hmont]
      _ = (W : ZMod q) := by
          rw [hN, ← pow_succ, show q - 2 + 1 = q - 1 by omega, ZMod.pow_card_sub_one_eq_one h2K, one_mul]

/-- what the users of the generated tables of the standard ring take apart: `Valid`, the table invariant,
`ψ^(2^K) = −1` and the closed form `ρ_j = ψ^{brv_K(j)}`, `ψ = g^((q−1)/2^(K+1))` -/
theorem mkTables_all (K q g : ℕ) (hq : q.Prime) (h8 : 8 * q ≤ W) (hdiv : 2 ^ (K + 1) ∣ q - 1)
    (hg : g ^ ((q - 1) / 2) % q = q - 1) :
    Valid (mkTables (2 ^ K) q (2 ^ (K + 1)) g) K
    ∧ TableInv (rho q (mkTables (2 ^ K) q (2 ^ (K + 1)) g).rootsF) (2 ^ K)
    ∧ (((g : ℕ) : ZMod q) ^ ((q - 1) / 2 ^ (K + 1))) ^ 2 ^ K = -1
    ∧ ∀ idx, idx < 2 ^ K → rho q (mkTables (2 ^ K) q (2 ^ (K + 1)) g).rootsF idx
        = (((g : ℕ) : ZMod q) ^ ((q - 1) / 2 ^ (K + 1))) ^ bitRev idx K := by
  have h := mkTables_pow (2 ^ K) K q g hq h8 hdiv hg
  exact ⟨⟨rfl, hq, h8, h.mont, rfl, h.rootsF_lt, h.rootsB_lt, fun j _ hj => h.roots_inv j hj, h.nInv_lt, h.nInv_eq⟩,
    h.tableInv, h.psi_pow, h.rootsF_eq⟩

theorem bitRev_top (L i : ℕ) (hi : i < 2 ^ L) : bitRev (2 ^ L + i) (L + 1) = 2 * bitRev i L + 1 := by
  rw [bitRev_succ_last, ← bitRev_mod L (2 ^ L + i), Nat.add_mod_left, Nat.mod_eq_of_lt hi]
  have : (2 ^ L + i) / 2 ^ L = 1 := by
    rw [Nat.add_div_left _ (Nat.two_pow_pos L), Nat.div_eq_of_lt hi]
  rw [this]; omega

section
variable {F : Type} [CommRing F]

theorem pt_of_pow (ρ : ℕ → F) (ψ : F) (K : ℕ) (hK : 1 ≤ K) (hψ : ψ ^ 2 ^ K = -1)
    (hF : ∀ j, j < 2 ^ K → ρ j = ψ ^ bitRev j K) (t : ℕ) (ht : t < 2 ^ K) :
    pt ρ K 1 t = ψ ^ (2 * bitRev t K + 1) := by
  obtain ⟨L, rfl⟩ : ∃ L, K = L + 1 := ⟨K - 1, by omega⟩
  rw [pt_eq_cnode _ _ _ _ ht, Nat.one_mul]
  have hp : 2 ^ (L + 1) = 2 * 2 ^ L := by rw [Nat.pow_succ]; omega
  have ht2 : t / 2 < 2 ^ L := by omega
  have hbt := bitRev_succ_first L t
  have htop := bitRev_top L (t / 2) ht2
  rcases Nat.mod_two_eq_zero_or_one t with h0 | h1
  · have e : 2 ^ (L + 1) + t = 2 * (2 ^ L + t / 2) := by omega
    rw [e, cnode_even _ _ (by have := Nat.two_pow_pos L; omega), hF _ (by omega), htop, hbt, h0]
    congr 1; omega
  · have e : 2 ^ (L + 1) + t = 2 * (2 ^ L + t / 2) + 1 := by omega
    rw [e, cnode_odd _ _ (by have := Nat.two_pow_pos L; omega), hF _ (by omega), htop, hbt, h1,
      ← neg_one_mul, ← hψ, ← pow_add]
    congr 1
    rw [hp]; omega

end

theorem getD_map_cast {q : ℕ} (a : List ℕ) (i : ℕ) :
    (a.map (Nat.cast : ℕ → ZMod q)).getD i 0 = ((a.getD i 0 : ℕ) : ZMod q) :=
  ListLemmas.getD_map_of_eq _ 0 0 Nat.cast_zero a i

open Finset in
theorem nttStd_eval_pow {T : Tables} {K : ℕ} (hT : Valid T K) [Fact T.q.Prime] (ψ : ZMod T.q) (hK : 1 ≤ K)
    (hψ : ψ ^ 2 ^ K = -1) (hF : ∀ j, j < 2 ^ K → rho T.q T.rootsF j = ψ ^ bitRev j K)
    (a : List ℕ) (hlen : a.length = T.n) (ha : ∀ x ∈ a, x < T.q) :
    (nttStd T a).map (Nat.cast : ℕ → ZMod T.q)
      = (List.range (2 ^ K)).map (fun t => ∑ i ∈ range (2 ^ K), ((a.getD i 0 : ℕ) : ZMod T.q)
          * (ψ ^ (2 * bitRev t K + 1)) ^ i) := by
  rw [(nttStd_eval hT (tableInv_of_pow _ ψ K hψ hF) a hlen ha).1]
  apply List.map_congr_left
  intro t ht
  rw [pt_of_pow _ ψ K hK hψ hF t (List.mem_range.1 ht), evalL_eq_sum, List.length_map, hlen, hT.n_eq]
  simp only [getD_map_cast]

open Finset in
theorem nttStd_mkTables_eval (K q g : ℕ) (hK : 1 ≤ K) (hq : q.Prime) (h8 : 8 * q ≤ W)
    (hdiv : 2 ^ (K + 1) ∣ q - 1) (hg : g ^ ((q - 1) / 2) % q = q - 1)
    (a : List ℕ) (hlen : a.length = 2 ^ K) (ha : ∀ x ∈ a, x < q) :
    (nttStd (mkTables (2 ^ K) q (2 ^ (K + 1)) g) a).map (Nat.cast : ℕ → ZMod q)
      = (List.range (2 ^ K)).map (fun t => ∑ i ∈ range (2 ^ K), ((a.getD i 0 : ℕ) : ZMod q)
          * ((((g : ℕ) : ZMod q) ^ ((q - 1) / 2 ^ (K + 1))) ^ (2 * bitRev t K + 1)) ^ i) := by
  obtain ⟨hT, _, hψ, hF⟩ := mkTables_all K q g hq h8 hdiv hg
  have := hT.fact
  exact nttStd_eval_pow hT _ hK hψ hF a hlen ha

/-- `x^n` squares to `1` and is not `1` -/
theorem pow_eq_neg_one_of_orderOf {F : Type} [Field F] (x : F) (n : ℕ) (hn : 0 < n)
    (h : orderOf x = 2 * n) : x ^ n = -1 := by
  have hsq : x ^ n * x ^ n = 1 := by rw [← pow_add, ← two_mul, ← h, pow_orderOf_eq_one]
  refine (mul_self_eq_one_iff.1 hsq).resolve_left fun h1 => ?_
  have := Nat.le_of_dvd hn (orderOf_dvd_of_pow_eq_one h1)
  omega

/-- `ring/subring.go` takes a primitive root `g`; `mkTables_pow` needs only that `g` is a non-residue -/
theorem nonresidue_of_primitive (q g : ℕ) [Fact q.Prime] (hodd : q % 2 = 1)
    (hg : orderOf ((g : ℕ) : ZMod q) = q - 1) : g ^ ((q - 1) / 2) % q = q - 1 := by
  have hq2 := (Fact.out : q.Prime).two_le
  have hm1 := pow_eq_neg_one_of_orderOf ((g : ℕ) : ZMod q) ((q - 1) / 2) (by omega) (by rw [hg]; omega)
  have hc : ((g ^ ((q - 1) / 2) % q : ℕ) : ZMod q) = ((q - 1 : ℕ) : ZMod q) := by
    rw [ZMod.natCast_mod, Nat.cast_pow, hm1, Nat.cast_sub (by omega), ZMod.natCast_self,
      Nat.cast_one, zero_sub]
  have := (ZMod.natCast_eq_natCast_iff' _ _ q).1 hc
  rwa [Nat.mod_mod, Nat.mod_eq_of_lt (show q - 1 < q by omega)] at this

end Lattigo.NTT
