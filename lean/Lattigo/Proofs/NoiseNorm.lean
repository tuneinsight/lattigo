/-
  Norm toolkit for the noise bounds of C03 / C04 / C14 / C16 / C20, over `Lattigo.ZPoly` (`Z[X]/(X^N+1)` on coefficient
  lists `List Int`, operations of `Model/RLWE.lean`), on top of the three inequalities of `Proofs/RLWENorm.lean`:
  gadget sums `Σ d·e` (lists and ragged matrices of digits), `‖·‖₁` of ternary polynomials, division by `P` with centred
  remainders, automorphisms and monomials.  All bounds are worst-case (`ℓ∞`), with explicit constants, for every `N` and
  every list length.
-/
import Lattigo.Proofs.RLWENorm
import Lattigo.Proofs.ListLemmas
import Mathlib.Tactic.Ring
import Mathlib.Tactic.Linarith

namespace Lattigo.ZPoly

/-- the zero polynomial of degree `< N` -/
def zero (N : Nat) : List Int := List.replicate N 0

theorem normInf_zero (N : Nat) : normInf (zero N) = 0 := by
  apply Nat.le_zero.mp
  rw [normInf_le_iff]
  intro x hx
  simp only [zero, List.mem_replicate] at hx
  rw [hx.2]; rfl

theorem norm1_zero (N : Nat) : norm1 (zero N) = 0 := by
  induction N with
  | zero => rfl
  | succ n ih =>
    simp only [norm1, zero, List.replicate_succ, List.map_cons, List.sum_cons] at ih ⊢
    rw [ih]; rfl

theorem norm1_cons (x : Int) (xs : List Int) : norm1 (x :: xs) = x.natAbs + norm1 xs := by
  simp [norm1]

theorem normInf_cons (x : Int) (xs : List Int) : normInf (x :: xs) = max x.natAbs (normInf xs) := rfl

theorem norm1_le_of_forall (a : List Int) (B : Nat) (h : ∀ x ∈ a, x.natAbs ≤ B) :
    norm1 a ≤ a.length * B := by
  induction a with
  | nil => simp [norm1]
  | cons x xs ih =>
    rw [norm1_cons, List.length_cons, Nat.succ_mul]
    have h1 := h x List.mem_cons_self
    have h2 := ih (fun y hy => h y (List.mem_cons_of_mem _ hy))
    omega

theorem norm1_le_length_mul_normInf (a : List Int) : norm1 a ≤ a.length * normInf a :=
  norm1_le_of_forall a _ (fun _ hx => natAbs_le_normInf hx)

theorem norm1_le_mul (a : List Int) (N D : Nat) (hl : a.length ≤ N) (hD : normInf a ≤ D) :
    norm1 a ≤ N * D :=
  Nat.le_trans (norm1_le_length_mul_normInf a) (Nat.mul_le_mul hl hD)

/-- Hamming weight: number of non-zero coefficients -/
def hamming (a : List Int) : Nat := (a.filter (· ≠ 0)).length

/-- a polynomial with coefficients in `{−1, 0, 1}` -/
def Ternary (a : List Int) : Prop := ∀ x ∈ a, x = -1 ∨ x = 0 ∨ x = 1

theorem norm1_ternary (a : List Int) (h : Ternary a) : norm1 a = hamming a := by
  induction a with
  | nil => rfl
  | cons x xs ih =>
    rw [norm1_cons, ih (fun y hy => h y (List.mem_cons_of_mem _ hy)), hamming, hamming, List.filter_cons]
    -- the head is a literal: it passes the filter iff it is `±1`, and both sides evaluate
    rcases h x List.mem_cons_self with rfl | rfl | rfl
    · exact Nat.add_comm _ _
    · exact Nat.zero_add _
    · exact Nat.add_comm _ _

theorem hamming_le_length (a : List Int) : hamming a ≤ a.length := List.length_filter_le _ _

theorem normInf_ternary (a : List Int) (h : Ternary a) : normInf a ≤ 1 := by
  rw [normInf_le_iff]
  intro x hx
  rcases h x hx with rfl | rfl | rfl <;> decide

theorem norm1_add_le (a b : List Int) : norm1 (add a b) ≤ norm1 a + norm1 b := by
  induction a generalizing b with
  | nil => simp [add, norm1]
  | cons x xs ih =>
    cases b with
    | nil => simp [add, norm1]
    | cons y ys =>
      have h := ih ys
      simp only [add, List.zipWith_cons_cons] at h ⊢
      rw [norm1_cons, norm1_cons, norm1_cons]
      have := Int.natAbs_add_le x y
      omega

theorem normInf_map_le {β : Type} (f : β → Int) (l : List β) (D : Nat) (h : ∀ x ∈ l, (f x).natAbs ≤ D) :
    normInf (l.map f) ≤ D := by
  rw [normInf_le_iff]
  intro y hy
  obtain ⟨x, hx, rfl⟩ := List.mem_map.mp hy
  exact h x hx

/-- `Σ_k a_k` (right fold of `add` from the zero polynomial of length `N`) -/
def sumZ (N : Nat) (l : List (List Int)) : List Int := l.foldr add (zero N)

theorem sumZ_cons (N : Nat) (a : List Int) (l : List (List Int)) : sumZ N (a :: l) = add a (sumZ N l) := rfl

theorem normInf_sumZ_le (N : Nat) (l : List (List Int)) : normInf (sumZ N l) ≤ (l.map normInf).sum := by
  induction l with
  | nil => simp [sumZ, normInf_zero]
  | cons a as ih =>
    rw [sumZ_cons, List.map_cons, List.sum_cons]
    exact Nat.le_trans (normInf_add_le _ _) (Nat.add_le_add_left ih _)

theorem normInf_sumZ_le_of_forall (N : Nat) (l : List (List Int)) (B : Nat)
    (h : ∀ a ∈ l, normInf a ≤ B) : normInf (sumZ N l) ≤ l.length * B := by
  induction l with
  | nil => simp [sumZ, normInf_zero]
  | cons a as ih =>
    rw [sumZ_cons, List.length_cons, Nat.succ_mul]
    have h1 := h a List.mem_cons_self
    have h2 := ih (fun y hy => h y (List.mem_cons_of_mem _ hy))
    have := normInf_add_le a (sumZ N as)
    omega

theorem norm1_sumZ_le (N : Nat) (l : List (List Int)) : norm1 (sumZ N l) ≤ (l.map norm1).sum := by
  induction l with
  | nil => simp [sumZ, norm1_zero]
  | cons a as ih =>
    rw [sumZ_cons, List.map_cons, List.sum_cons]
    exact Nat.le_trans (norm1_add_le _ _) (Nat.add_le_add_left ih _)

/-- `Σ_k d_k·e_k` (negacyclic products), over the common prefix of the two lists -/
def dotZ (N : Nat) (ds es : List (List Int)) : List Int := sumZ N (List.zipWith mul ds es)

theorem dotZ_cons (N : Nat) (d e : List Int) (ds es : List (List Int)) :
    dotZ N (d :: ds) (e :: es) = add (mul d e) (dotZ N ds es) := rfl

theorem normInf_dotZ_le (N : Nat) (ds es : List (List Int)) :
    normInf (dotZ N ds es) ≤ (List.zipWith (fun d e => norm1 d * normInf e) ds es).sum := by
  induction ds generalizing es with
  | nil => simp [dotZ, sumZ, normInf_zero]
  | cons d ds ih =>
    cases es with
    | nil => simp [dotZ, sumZ, normInf_zero]
    | cons e es =>
      rw [dotZ_cons, List.zipWith_cons_cons, List.sum_cons]
      exact Nat.le_trans (normInf_add_le _ _) (Nat.add_le_add (normInf_mul_le d e) (ih es))

theorem normInf_dotZ_le_of_bounds (N B : Nat) (ds es : List (List Int)) (Ds : List Nat)
    (hd : List.Forall₂ (fun d D => d.length ≤ N ∧ normInf d ≤ D) ds Ds)
    (he : ∀ e ∈ es, normInf e ≤ B) : normInf (dotZ N ds es) ≤ N * B * Ds.sum := by
  induction hd generalizing es with
  | nil => simp [dotZ, sumZ, normInf_zero]
  | @cons d D ds Ds hdD _ ih =>
    cases es with
    | nil => simp [dotZ, sumZ, normInf_zero]
    | cons e es =>
      rw [dotZ_cons, List.sum_cons]
      have h1 := normInf_add_le (mul d e) (dotZ N ds es)
      have h2 := normInf_mul_le d e
      have h3 := ih es (fun y hy => he y (List.mem_cons_of_mem _ hy))
      have h4 : norm1 d * normInf e ≤ N * D * B :=
        Nat.mul_le_mul (norm1_le_mul d N D hdD.1 hdD.2) (he e List.mem_cons_self)
      have h5 : N * B * (D + Ds.sum) = N * D * B + N * B * Ds.sum := by ring
      omega

theorem forall₂_replicate {β : Type} (R : β → Nat → Prop) (l : List β) (D : Nat) (h : ∀ x ∈ l, R x D) :
    List.Forall₂ R l (List.replicate l.length D) := by
  induction l with
  | nil => exact List.Forall₂.nil
  | cons x xs ih =>
    exact List.Forall₂.cons (h x List.mem_cons_self) (ih fun y hy => h y (List.mem_cons_of_mem _ hy))

theorem normInf_dotZ_le_uniform (N B D : Nat) (ds es : List (List Int))
    (hd : ∀ d ∈ ds, d.length ≤ N ∧ normInf d ≤ D) (he : ∀ e ∈ es, normInf e ≤ B) :
    normInf (dotZ N ds es) ≤ ds.length * (N * D * B) := by
  have h := normInf_dotZ_le_of_bounds N B ds es (List.replicate ds.length D)
    (forall₂_replicate _ ds D hd) he
  have e : N * B * (List.replicate ds.length D).sum = ds.length * (N * D * B) := by
    rw [List.sum_replicate_nat]; ring
  omega

/-- `Σ_{i,j} d_ij·e_ij` over a (possibly ragged) digit matrix, the shape of `KS.wsumMat` -/
def dotMatZ (N : Nat) (ds es : List (List (List Int))) : List Int := sumZ N (List.zipWith (dotZ N) ds es)

theorem dotMatZ_cons (N : Nat) (d e : List (List Int)) (ds es : List (List (List Int))) :
    dotMatZ N (d :: ds) (e :: es) = add (dotZ N d e) (dotMatZ N ds es) := rfl

/-- the total digit bound `Σ_{i,j} D_ij` -/
def sumSum (Dss : List (List Nat)) : Nat := (Dss.map List.sum).sum

/-- the digit matrix `ds` respects the bound matrix `Dss` coefficient-wise, every digit has `≤ N` coefficients -/
def DigitsBounded (N : Nat) (ds : List (List (List Int))) (Dss : List (List Nat)) : Prop :=
  List.Forall₂ (List.Forall₂ (fun d D => d.length ≤ N ∧ normInf d ≤ D)) ds Dss

/-- every error polynomial of the matrix is bounded by `B` -/
def ErrBounded (B : Nat) (es : List (List (List Int))) : Prop := ∀ r ∈ es, ∀ e ∈ r, normInf e ≤ B

theorem normInf_dotMatZ_le_of_bounds (N B : Nat) (ds es : List (List (List Int))) (Dss : List (List Nat))
    (hd : DigitsBounded N ds Dss) (he : ErrBounded B es) :
    normInf (dotMatZ N ds es) ≤ N * B * sumSum Dss := by
  unfold DigitsBounded at hd
  induction hd generalizing es with
  | nil => simp [dotMatZ, sumZ, normInf_zero]
  | @cons d D ds Dss hdD _ ih =>
    cases es with
    | nil => simp [dotMatZ, sumZ, normInf_zero]
    | cons e es =>
      rw [dotMatZ_cons]
      have h1 := normInf_add_le (dotZ N d e) (dotMatZ N ds es)
      have h2 := normInf_dotZ_le_of_bounds N B d e D hdD (he e List.mem_cons_self)
      have h3 := ih es (fun r hr => he r (List.mem_cons_of_mem _ hr))
      have h5 : N * B * sumSum (D :: Dss) = N * B * D.sum + N * B * sumSum Dss := by
        simp only [sumSum, List.map_cons, List.sum_cons]; ring
      omega

/-- `noise_upper_pk_P` with any bound `Eb` on the numerator and any bound `h` on `‖s‖₁` (`ρ_i` the centred remainders
    modulo `P`); over the rationals: `‖ν‖∞ ≤ Eb/P + (1 + h)/2`. -/
theorem rounding_bound (P : Nat) (ν E ρ0 ρ1 s : List Int) (Eb h : Nat)
    (hrel : smul P ν = sub (sub E ρ0) (mul s ρ1))
    (h0 : 2 * normInf ρ0 ≤ P) (h1 : 2 * normInf ρ1 ≤ P) (hE : normInf E ≤ Eb) (hs : norm1 s ≤ h) :
    2 * (P * normInf ν) ≤ 2 * Eb + P * (1 + h) := by
  have hb := noise_upper_pk_P P ν E ρ0 ρ1 s hrel h0 h1
  have : P * (1 + norm1 s) ≤ P * (1 + h) := Nat.mul_le_mul_left _ (by omega)
  omega

theorem le_div_of_two_mul (P n Eb h : Nat) (hP : 0 < P) (hb : 2 * (P * n) ≤ 2 * Eb + P * (1 + h)) :
    n ≤ Eb / P + (1 + h) / 2 + 1 := by
  have h3 : Eb < P * (Eb / P + 1) := Nat.lt_mul_div_succ Eb hP
  have h5 : 1 + h < 2 * ((1 + h) / 2 + 1) := Nat.lt_mul_div_succ _ two_pos
  have h6 : P * (1 + h) ≤ P * (2 * ((1 + h) / 2 + 1)) := Nat.mul_le_mul_left _ h5.le
  refine Nat.lt_add_one_iff.1 (Nat.lt_of_mul_lt_mul_left (a := 2 * P) ?_)
  calc 2 * P * n = 2 * (P * n) := Nat.mul_assoc 2 P n
    _ < 2 * (P * (Eb / P + 1)) + P * (2 * ((1 + h) / 2 + 1)) := by omega
    _ = 2 * P * (Eb / P + (1 + h) / 2 + 1 + 1) := by ring

theorem rounding_bound_div (P : Nat) (ν E ρ0 ρ1 s : List Int) (Eb h : Nat) (hP : 0 < P)
    (hrel : smul P ν = sub (sub E ρ0) (mul s ρ1))
    (h0 : 2 * normInf ρ0 ≤ P) (h1 : 2 * normInf ρ1 ≤ P) (hE : normInf E ≤ Eb) (hs : norm1 s ≤ h) :
    normInf ν ≤ Eb / P + (1 + h) / 2 + 1 :=
  le_div_of_two_mul P _ Eb h hP (rounding_bound P ν E ρ0 ρ1 s Eb h hrel h0 h1 hE hs)

/-- ONE remainder: `ModDown` of a single polynomial, e.g. a key-switch share `P·x + e` -/
theorem rounding1_bound (P : Nat) (ν E ρ : List Int) (hrel : smul P ν = sub E ρ) (h0 : 2 * normInf ρ ≤ P) :
    2 * (P * normInf ν) ≤ 2 * normInf E + P := by
  have h := normInf_smul P ν
  rw [hrel] at h
  have a := normInf_sub_le E ρ
  simp only [Int.natAbs_natCast] at h
  omega

/-- one step of the scatter loop of `RPoly.rowAut`, on signed coefficients: coefficient `i` of `a` goes to
    position `i·g mod 2n`, negated when that exponent is `≥ n` -/
def autStep (g : Nat) (a : List Int) (acc : List Int) (i : Nat) : List Int :=
  if (i * g) % (2 * a.length) < a.length then acc.set ((i * g) % (2 * a.length)) (a.getD i 0)
  else acc.set ((i * g) % (2 * a.length) - a.length) (-(a.getD i 0))

/-- `σ_g : a ↦ a(X^g)` in `Z[X]/(X^N+1)`, the loop of `RPoly.rowAut` (`Model/RPoly.lean`) without the modulus -/
def autZ (g : Nat) (a : List Int) : List Int :=
  (List.range a.length).foldl (autStep g a) (List.replicate a.length 0)

theorem normInf_set_le (l : List Int) (e : Nat) (v : Int) (M : Nat) (hl : normInf l ≤ M) (hv : v.natAbs ≤ M) :
    normInf (l.set e v) ≤ M := by
  rw [normInf_le_iff] at hl ⊢
  intro x hx
  rcases List.mem_or_eq_of_mem_set hx with h | rfl
  · exact hl x h
  · exact hv

theorem norm1_set_le (l : List Int) (e : Nat) (v : Int) : norm1 (l.set e v) ≤ norm1 l + v.natAbs := by
  induction l generalizing e with
  | nil => simp [norm1]
  | cons x xs ih =>
    cases e with
    | zero => rw [List.set_cons_zero, norm1_cons, norm1_cons]; omega
    | succ k =>
      rw [List.set_cons_succ, norm1_cons, norm1_cons]
      have := ih k
      omega

theorem normInf_autFold_le (g : Nat) (a : List Int) (is : List Nat) (acc : List Int)
    (h : normInf acc ≤ normInf a) : normInf (is.foldl (autStep g a) acc) ≤ normInf a := by
  induction is generalizing acc with
  | nil => exact h
  | cons i is ih =>
    rw [List.foldl_cons]
    apply ih
    unfold autStep
    split
    · exact normInf_set_le _ _ _ _ h (coeff_natAbs_le a i)
    · exact normInf_set_le _ _ _ _ h (by rw [Int.natAbs_neg]; exact coeff_natAbs_le a i)

theorem normInf_autZ_le (g : Nat) (a : List Int) : normInf (autZ g a) ≤ normInf a :=
  normInf_autFold_le g a _ _ (by
    have := normInf_zero a.length
    unfold zero at this
    omega)

theorem norm1_autFold_le (g : Nat) (a : List Int) (is : List Nat) (acc : List Int) :
    norm1 (is.foldl (autStep g a) acc) ≤ norm1 acc + (is.map fun i => (a.getD i 0).natAbs).sum := by
  induction is generalizing acc with
  | nil => simp
  | cons i is ih =>
    rw [List.foldl_cons, List.map_cons, List.sum_cons]
    have h1 := ih (autStep g a acc i)
    have h2 : norm1 (autStep g a acc i) ≤ norm1 acc + (a.getD i 0).natAbs := by
      unfold autStep
      split
      · exact norm1_set_le _ _ _
      · have := norm1_set_le acc ((i * g) % (2 * a.length) - a.length) (-(a.getD i 0))
        rwa [Int.natAbs_neg] at this
    omega

theorem norm1_autZ_le (g : Nat) (a : List Int) : norm1 (autZ g a) ≤ norm1 a := by
  have h := norm1_autFold_le g a (List.range a.length) (List.replicate a.length 0)
  rw [ListLemmas.map_getD_range Int.natAbs] at h
  have hz := norm1_zero a.length
  unfold zero at hz
  unfold autZ
  rw [hz] at h
  simpa [norm1] using h

/-- `hinv` holds for `g` odd and `g·g' ≡ 1 (mod 2N)` -/
theorem normInf_autZ_eq (g g' : Nat) (a : List Int) (hinv : autZ g' (autZ g a) = a) :
    normInf (autZ g a) = normInf a := by
  apply Nat.le_antisymm (normInf_autZ_le g a)
  have := normInf_autZ_le g' (autZ g a)
  rwa [hinv] at this

theorem norm1_autZ_eq (g g' : Nat) (a : List Int) (hinv : autZ g' (autZ g a) = a) :
    norm1 (autZ g a) = norm1 a := by
  apply Nat.le_antisymm (norm1_autZ_le g a)
  have := norm1_autZ_le g' (autZ g a)
  rwa [hinv] at this

/-- `N = 4`, `g = 3` (inverse `3`: `9 ≡ 1 mod 8`): `σ_3(1 + 2X − 3X² + 4X³) = 1 + 4X + 3X² + 2X³` -/
example : autZ 3 [1, 2, -3, 4] = [1, 4, 3, 2] ∧ autZ 3 (autZ 3 [1, 2, -3, 4]) = [1, 2, -3, 4]
    ∧ normInf (autZ 3 [1, 2, -3, 4]) = 4 ∧ norm1 (autZ 3 [1, 2, -3, 4]) = 10 := by decide

/-- `X^k` reduced in `Z[X]/(X^N+1)`: `(−1)^⌊k/N⌋·X^(k mod N)` -/
def monomialZ (N k : Nat) : List Int :=
  (List.range N).map fun i => if i = k % N then (if (k / N) % 2 = 0 then 1 else -1) else 0

theorem sum_indicator_range (c : Nat) (v : Int) (N : Nat) :
    ((List.range N).map fun i => (if i = c then v else 0 : Int).natAbs).sum = if c < N then v.natAbs else 0 := by
  induction N with
  | zero => simp
  | succ n ih =>
    rw [List.range_succ, List.map_append, List.sum_append, ih]
    by_cases h1 : c < n
    · have : ¬ n = c := by omega
      simp [h1, this, Nat.lt_succ_of_lt h1]
    · by_cases h2 : n = c
      · subst h2; simp
      · have : ¬ c < n + 1 := by omega
        simp [h1, h2, this]

theorem norm1_monomialZ_le (N k : Nat) : norm1 (monomialZ N k) ≤ 1 := by
  unfold norm1 monomialZ
  rw [List.map_map]
  have h := sum_indicator_range (k % N) (if (k / N) % 2 = 0 then 1 else -1) N
  simp only [Function.comp_def]
  rw [h]
  split
  · split <;> decide
  · omega

theorem normInf_monomial_mul_le (N k : Nat) (a : List Int) : normInf (mul (monomialZ N k) a) ≤ normInf a := by
  have h := normInf_mul_le (monomialZ N k) a
  have h1 := norm1_monomialZ_le N k
  have : norm1 (monomialZ N k) * normInf a ≤ 1 * normInf a := Nat.mul_le_mul_right _ h1
  omega

/-- `X^5·(1 + 2X + 3X² + 4X³) = −X·(…) = 4 − X − 2X² − 3X³` in `Z[X]/(X⁴+1)` -/
example : mul (monomialZ 4 5) [1, 2, 3, 4] = [4, -1, -2, -3] := by decide

/-- two digits bounded by `D = 2` on `N = 2` coefficients, errors bounded by `B = 1`: `‖Σ d e‖∞ = 5 ≤ 2·(2·2·1)` -/
example : normInf (dotZ 2 [[2, -2], [1, 2]] [[1, -1], [-1, 1]]) = 5
    ∧ (∀ d ∈ [[2, -2], [1, 2]], d.length ≤ 2 ∧ normInf d ≤ 2) ∧ (∀ e ∈ [[1, -1], [-1, 1]], normInf e ≤ 1) := by
  decide

/-- rounding: `P = 5`, `ν = [1, -1]`, `s = [1, 0]`, `ρ₀ = [2, -2]`, `ρ₁ = [-1, 2]`, `E = P·ν + ρ₀ + s·ρ₁ = [6, -5]` -/
example : smul (5 : Nat) [1, -1] = sub (sub [6, -5] [2, -2]) (mul [1, 0] [-1, 2])
    ∧ 2 * normInf [2, -2] ≤ 5 ∧ 2 * normInf [-1, 2] ≤ 5 := by decide

example : Ternary [1, 0, -1, 0] ∧ hamming [1, 0, -1, 0] = 2 ∧ norm1 [1, 0, -1, 0] = 2 := by
  refine ⟨?_, by decide, by decide⟩
  unfold Ternary
  decide

end Lattigo.ZPoly

#print axioms Lattigo.ZPoly.normInf_sumZ_le
#print axioms Lattigo.ZPoly.norm1_le_length_mul_normInf
#print axioms Lattigo.ZPoly.norm1_ternary
#print axioms Lattigo.ZPoly.normInf_dotZ_le
#print axioms Lattigo.ZPoly.normInf_dotZ_le_of_bounds
#print axioms Lattigo.ZPoly.normInf_dotZ_le_uniform
#print axioms Lattigo.ZPoly.normInf_dotMatZ_le_of_bounds
#print axioms Lattigo.ZPoly.rounding_bound
#print axioms Lattigo.ZPoly.rounding_bound_div
#print axioms Lattigo.ZPoly.rounding1_bound
#print axioms Lattigo.ZPoly.normInf_autZ_le
#print axioms Lattigo.ZPoly.norm1_autZ_le
#print axioms Lattigo.ZPoly.normInf_autZ_eq
#print axioms Lattigo.ZPoly.norm1_autZ_eq
#print axioms Lattigo.ZPoly.normInf_monomial_mul_le
