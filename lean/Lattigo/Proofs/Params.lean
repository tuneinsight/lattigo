/-
  C19 — lemmas about the decision functions of `Lattigo.Model.Params`
  (size checks, CheckModuli, ring construction, NewParameters, NewParametersFromLiteral), each check as an equivalence;
  one iteration of each loop of the prime generator by cases, what `k` steps (`nextPrimes_run`) and the sizes of a
  request (`genAll_run`) make of their parts, and that nothing on the way panics; `bgv.NewParameters` read backwards
  (`bgvNew_ok_iff`).
-/
import Lattigo.Model.Params
import Lattigo.Proofs.BitLen
import Lattigo.Proofs.LazyAcc
import Mathlib.Data.Nat.Prime.Basic
import Mathlib.Tactic.Ring

namespace Lattigo.Params
open Lattigo

theorem firstIdx_eq_none_iff {α} (bad : α → Bool) (l : List α) (i : Nat) :
    firstIdx bad l i = none ↔ ∀ x ∈ l, bad x = false := by
  induction l generalizing i with
  | nil => simp [firstIdx]
  | cons y ys ih => cases hy : bad y <;> simp [firstIdx, hy, ih]

theorem firstSome_eq_none_iff {α β} (f : α → Option β) (l : List α) :
    firstSome f l = none ↔ ∀ x ∈ l, f x = none := by
  induction l with
  | nil => simp [firstSome]
  | cons y ys ih => cases hy : f y <;> simp [firstSome, hy, ih]

theorem allDistinct_iff (l : List Nat) : allDistinct l = true ↔ l.Nodup := by
  induction l with
  | nil => simp [allDistinct]
  | cons x xs ih => simp [allDistinct, ih]

theorem ite_some_eq_none_iff {α} {c : Prop} [Decidable c] {a : α} {x : Option α} :
    (if c then some a else x) = none ↔ ¬c ∧ x = none := by
  by_cases h : c <;> simp [h]

theorem tooManyBits_eq_false_iff {x : Nat} : tooManyBits x = false ↔ x < 2 ^ 61 := by
  unfold tooManyBits MaxModuliSize
  rw [decide_eq_false_iff_not, ← len64_le_iff]
  omega

theorem checkSizeParams_eq_none_iff {logN : Int} :
    checkSizeParams logN = none ↔ MinLogN ≤ logN ∧ logN ≤ MaxLogN := by
  simp only [checkSizeParams, ite_some_eq_none_iff, gt_iff_lt, not_lt, and_true]
  exact and_comm

theorem checkModuli_eq_none_iff {o : Oracle} {q p : List Nat} : checkModuli o q p = none ↔
    (∀ x ∈ q, x < 2 ^ 61) ∧ (∀ x ∈ q, o.isPrime x = true) ∧ (∀ x ∈ p, x < 2 ^ 61) ∧
    (∀ x ∈ p, o.isPrime x = true) ∧ (q ++ p).Nodup := by
  simp only [← tooManyBits_eq_false_iff, ← Bool.not_eq_false' (b := o.isPrime _), ← firstIdx_eq_none_iff _ _ 0,
    ← allDistinct_iff]
  unfold checkModuli
  cases firstIdx tooManyBits q 0 with
  | some i => simp
  | none =>
  cases firstIdx (fun x => !o.isPrime x) q 0 with
  | some i => simp
  | none =>
  cases firstIdx tooManyBits p 0 with
  | some i => simp
  | none =>
  cases firstIdx (fun x => !o.isPrime x) p 0 with
  | some i => simp
  | none => simp

theorem checkModuliLogSize_eq_none_iff {logQ logP : List Int} : checkModuliLogSize logQ logP = none ↔
    (∀ s ∈ logQ, 0 < s ∧ s ≤ 60) ∧ ∀ s ∈ logP, 0 < s ∧ s ≤ 61 := by
  have hq : ∀ s : Int, 0 < s ∧ s ≤ 60 ↔ (decide (s ≤ 0) || decide (s > (MaxModuliSize : Int))) = false := by
    intro s; simp [MaxModuliSize]
  have hp : ∀ s : Int, 0 < s ∧ s ≤ 61 ↔ (decide (s ≤ 0) || decide (s > (MaxModuliSize : Int) + 1)) = false := by
    intro s; simp [MaxModuliSize]
  simp only [hq, hp, ← firstIdx_eq_none_iff _ _ 0]
  unfold checkModuliLogSize
  cases firstIdx _ logQ 0 with
  | some i => simp
  | none =>
  cases firstIdx _ logP 0 with
  | some i => simp
  | none => simp

theorem checkSizesAboveRoot_eq_none_iff {l : Int} {logQ logP : List Int} :
    checkSizesAboveRoot l logQ logP = none ↔ ∀ s ∈ logQ ++ logP, l ≤ s := by
  have hb : ∀ s : Int, l ≤ s ↔ decide (s < l) = false := by intro s; simp
  simp only [List.forall_mem_append, hb, ← firstIdx_eq_none_iff _ _ 0]
  unfold checkSizesAboveRoot
  cases firstIdx _ logQ 0 with
  | some i => simp
  | none =>
  cases firstIdx _ logP 0 with
  | some i => simp
  | none => simp

theorem subRingCheck_none_iff {o : Oracle} {n r m : Nat} :
    subRingCheck o n r m = none ↔ n ≠ 0 ∧ m ≠ 0 ∧ o.isPrime m = true ∧ m &&& (r - 1) = 1 := by
  simp only [subRingCheck, ite_some_eq_none_iff, Bool.or_eq_true, decide_eq_true_eq, not_or, Bool.not_eq_true',
    Bool.not_eq_false, bne_iff_ne, ne_eq, Decidable.not_not, and_true, and_assoc]

theorem newRing_iff {o : Oracle} {n r : Nat} {ms : List Nat} :
    newRing o n ms r = none ↔
      MinRingDegree ≤ n ∧ isPow2 n = true ∧ ms ≠ [] ∧ ms.Nodup ∧
      ∀ m ∈ ms, m ≠ 0 ∧ o.isPrime m = true ∧ m &&& (r - 1) = 1 := by
  have hdeg : ¬ (decide (n < MinRingDegree) || (!isPow2 n && n != 0)) = true ↔
      MinRingDegree ≤ n ∧ isPow2 n = true := by
    unfold MinRingDegree
    cases isPow2 n <;> simp
    omega
  simp only [newRing, ite_some_eq_none_iff, hdeg, firstSome_eq_none_iff, subRingCheck_none_iff,
    List.isEmpty_iff, Bool.not_eq_true', Bool.not_eq_false, allDistinct_iff, and_assoc]
  constructor
  · rintro ⟨h1, h2, h3, h4, h5⟩
    exact ⟨h1, h2, h3, h4, fun m hm => (h5 m hm).2⟩
  · rintro ⟨h1, h2, h3, h4, h5⟩
    exact ⟨h1, h2, h3, h4, fun m hm => ⟨by unfold MinRingDegree at h1; omega, h5 m hm⟩⟩

theorem isPow2_two_pow (k : Nat) : isPow2 (2 ^ k) = true := by
  unfold isPow2
  simp only [decide_eq_true_eq]
  rw [Nat.and_two_pow_sub_one_eq_mod, Nat.mod_self]

/-- a ring of degree `2^k` whose root order is a power of two: `m & (NthRoot-1) = 1` is `m ≡ 1 (mod NthRoot)` -/
theorem newRing_pow_iff {o : Oracle} {k j : Nat} {ms : List Nat} :
    newRing o (2 ^ k) ms (2 ^ (k + j)) = none ↔
      3 ≤ k ∧ ms ≠ [] ∧ ms.Nodup ∧ ∀ m ∈ ms, o.isPrime m = true ∧ m % 2 ^ (k + j) = 1 := by
  have h8 : MinRingDegree ≤ 2 ^ k ↔ 3 ≤ k := Nat.pow_le_pow_iff_right (by decide : 1 < 2) (n := 3)
  simp only [newRing_iff, h8, isPow2_two_pow, true_and, Nat.and_two_pow_sub_one_eq_mod]
  refine and_congr_right fun _ => and_congr_right fun _ => and_congr_right fun _ => forall₂_congr fun m _ => ?_
  refine ⟨fun h => h.2, fun h => ⟨?_, h⟩⟩
  rintro rfl
  simp at h

theorem newRingFromType_iff {o : Oracle} {k rt : Nat} {ms : List Nat} :
    newRingFromType o (2 ^ k) ms rt = none ↔
      (rt = 0 ∨ rt = 1) ∧ 3 ≤ k ∧ ms ≠ [] ∧ ms.Nodup ∧
      ∀ m ∈ ms, o.isPrime m = true ∧ m % 2 ^ (k + 1 + rt) = 1 := by
  unfold newRingFromType
  by_cases h0 : rt = 0
  · subst h0
    rw [if_pos rfl, show 2 * 2 ^ k = 2 ^ (k + 1) by rw [Nat.pow_succ, Nat.mul_comm], newRing_pow_iff]
    simp
  by_cases h1 : rt = 1
  · subst h1
    rw [if_neg h0, if_pos rfl, show 4 * 2 ^ k = 2 ^ (k + 2) by rw [Nat.pow_add, Nat.mul_comm], newRing_pow_iff]
    simp
  · rw [if_neg h0, if_neg h1]
    simp [h0, h1]

theorem nthRoot_pow (a : Accepted) (h : a.ringType = 0 ∨ a.ringType = 1) :
    a.nthRoot = 2 ^ (a.logN + 1 + a.ringType) := by
  unfold Accepted.nthRoot Accepted.n
  rcases h with h | h <;> simp [h, Nat.pow_succ] <;> ring

/-- The requirements `NewParameters` really enforces (its exact acceptance condition, warnings aside). -/
structure Requirements (o : Oracle) (logN : Int) (q p : List Nat) (rt : Nat) : Prop where
  logN_ge : MinLogN ≤ logN
  logN_le : logN ≤ MaxLogN
  rt_ok : rt = 0 ∨ rt = 1
  q_ne : q ≠ []
  qp_nodup : (q ++ p).Nodup
  q_ok : ∀ m ∈ q, o.isPrime m = true ∧ m % 2 ^ (logN.toNat + 1 + rt) = 1 ∧ m < 2 ^ 61
  p_ok : ∀ m ∈ p, o.isPrime m = true ∧ m % 2 ^ (logN.toNat + 1 + rt) = 1 ∧ m < 2 ^ 61

theorem newParameters_ok_iff_checks {o : Oracle} {logN : Int} {q p : List Nat} {rt : Nat} {w0 s0 : Bool}
    {a : Accepted} : newParameters o logN q p rt w0 s0 = .ok a ↔
      checkSizeParams logN = none ∧ checkModuli o q p = none ∧
      newRingFromType o (2 ^ logN.toNat) q rt = none ∧
      (if p.isEmpty then none else newRingFromType o (2 ^ logN.toNat) p rt) = none ∧
      w0 = false ∧ s0 = false ∧ a = { logN := logN.toNat, q := q, p := p, ringType := rt } := by
  unfold newParameters
  cases checkSizeParams logN with
  | some c => simp
  | none =>
  cases checkModuli o q p with
  | some c => simp
  | none =>
  dsimp only
  cases newRingFromType o (2 ^ logN.toNat) q rt with
  | some c => simp
  | none =>
  cases (if p.isEmpty then none else newRingFromType o (2 ^ logN.toNat) p rt) with
  | some c => simp
  | none => cases w0 <;> cases s0 <;> simp [eq_comm]

theorem newParameters_ok_iff {o : Oracle} {logN : Int} {q p : List Nat} {rt : Nat} {w0 s0 : Bool}
    {a : Accepted} : newParameters o logN q p rt w0 s0 = .ok a ↔
      Requirements o logN q p rt ∧ w0 = false ∧ s0 = false ∧
      a = { logN := logN.toNat, q := q, p := p, ringType := rt } := by
  have hP : (if p.isEmpty then none else newRingFromType o (2 ^ logN.toNat) p rt) = none ↔
      p = [] ∨ newRingFromType o (2 ^ logN.toNat) p rt = none := by
    cases p <;> simp
  rw [newParameters_ok_iff_checks, checkSizeParams_eq_none_iff, checkModuli_eq_none_iff, hP, newRingFromType_iff,
    newRingFromType_iff]
  constructor
  · rintro ⟨⟨h1, h2⟩, ⟨qb, qp, pb, pp, nd⟩, ⟨hrt, -, qne, -, qn⟩, hp, hw, hs, ha⟩
    refine ⟨⟨h1, h2, hrt, qne, nd, fun m hm => ⟨qp m hm, (qn m hm).2, qb m hm⟩,
      fun m hm => ⟨pp m hm, ?_, pb m hm⟩⟩, hw, hs, ha⟩
    rcases hp with rfl | hp
    · cases hm
    · exact (hp.2.2.2.2 m hm).2
  · rintro ⟨⟨h1, h2, hrt, qne, nd, hq, hp⟩, hw, hs, ha⟩
    have hk : 3 ≤ logN.toNat := by unfold MinLogN at h1; omega
    obtain ⟨ndq, ndp, -⟩ := List.nodup_append.mp nd
    refine ⟨⟨h1, h2⟩, ⟨fun m hm => (hq m hm).2.2, fun m hm => (hq m hm).1, fun m hm => (hp m hm).2.2,
      fun m hm => (hp m hm).1, nd⟩, ⟨hrt, hk, qne, ndq, fun m hm => ⟨(hq m hm).1, (hq m hm).2.1⟩⟩, ?_, hw, hs, ha⟩
    by_cases hpe : p = []
    · exact .inl hpe
    · exact .inr ⟨hrt, hk, hpe, ndp, fun m hm => ⟨(hp m hm).1, (hp m hm).2.1⟩⟩

theorem requirements_of_ok {o : Oracle} {logN : Int} {q p : List Nat} {rt : Nat} {w0 s0 : Bool}
    {a : Accepted} (h : newParameters o logN q p rt w0 s0 = .ok a) : Requirements o logN q p rt :=
  (newParameters_ok_iff.mp h).1

theorem newParameters_complete {o : Oracle} {logN : Int} {q p : List Nat} {rt : Nat}
    (hreq : Requirements o logN q p rt) :
    newParameters o logN q p rt false false = .ok { logN := logN.toNat, q := q, p := p, ringType := rt } :=
  newParameters_ok_iff.mpr ⟨hreq, rfl, rfl, rfl⟩

theorem newParameters_total (o : Oracle) (logN : Int) (q p : List Nat) (rt : Nat) (w0 s0 : Bool) :
    (∃ a, newParameters o logN q p rt w0 s0 = .ok a) ∨
    (∃ c, newParameters o logN q p rt w0 s0 = .err c) := by
  unfold newParameters
  cases checkSizeParams logN with
  | some c => exact Or.inr ⟨_, rfl⟩
  | none =>
    cases checkModuli o q p with
    | some c => exact Or.inr ⟨_, rfl⟩
    | none =>
      simp only
      cases newRingFromType o (2 ^ logN.toNat) q rt with
      | some c => exact Or.inr ⟨_, rfl⟩
      | none =>
        cases (if p.isEmpty = true then none else newRingFromType o (2 ^ logN.toNat) p rt) with
        | some c => exact Or.inr ⟨_, rfl⟩
        | none =>
          cases w0 <;> cases s0
          · exact Or.inl ⟨_, rfl⟩
          · exact Or.inr ⟨_, rfl⟩
          · exact Or.inr ⟨_, rfl⟩
          · exact Or.inr ⟨_, rfl⟩

theorem newParametersFromLiteral_explicit (o : Oracle) (fuel : Nat) (lit : Literal)
    (hq : lit.logQ = none) (hp : lit.logP = none) :
    newParametersFromLiteral o fuel lit =
      if lit.q.isNone then .err "noQ"
      else newParameters o lit.logN (lit.q.getD []) (lit.p.getD []) lit.ringType lit.xsWeight0 lit.xeStd0 := by
  unfold newParametersFromLiteral
  simp only [hq, hp, Option.isNone_none, Option.isSome_none, Bool.and_true, Bool.and_false,
    Bool.or_self, Bool.false_eq_true, if_false]
  split
  · rfl
  · simp

/-- one iteration of `NextUpstreamPrime`: the exhaustion error (disabled, or stopped and then disabled), the
    candidate returned, or the next candidate -/
theorem upLoop_succ_cases {o : Oracle} {g : Gen} {fuel c : Nat} {res : Gen × Res Nat}
    (h : upLoop o g (fuel + 1) c = res) :
    (res = (g, .err "exhausted") ∨ res = ({ g with checkNext := false }, .err "exhausted")) ∨
    (o.stopUp g.size c = false ∧
      ((o.isPrime c = true ∧ res = ({ g with next := u64add c g.nthRoot }, .ok c)) ∨
       res = upLoop o g fuel (u64add c g.nthRoot))) := by
  unfold upLoop at h
  rcases ite_eq_iff.mp h with ⟨_, h⟩ | ⟨_, h⟩
  · exact .inl (.inl h.symm)
  rcases ite_eq_iff.mp h with ⟨_, h⟩ | ⟨hstop, h⟩
  · exact .inl (.inr h.symm)
  rw [Bool.not_eq_true] at hstop
  rcases ite_eq_iff.mp h with ⟨hp, h⟩ | ⟨_, h⟩
  · exact .inr ⟨hstop, .inl ⟨hp, h.symm⟩⟩
  · exact .inr ⟨hstop, .inr h.symm⟩

theorem upLoop_ne_panic (o : Oracle) (g : Gen) : ∀ fuel c, (upLoop o g fuel c).2 ≠ .panic := by
  intro fuel
  induction fuel with
  | zero => intro c; nofun
  | succ f ih =>
    intro c
    rcases upLoop_succ_cases (rfl : upLoop o g (f + 1) c = _) with (h | h) | ⟨-, ⟨-, h⟩ | h⟩
    · rw [h]; nofun
    · rw [h]; nofun
    · rw [h]; nofun
    · rw [h]; exact ih _

theorem downLoop_succ_cases {o : Oracle} {g : Gen} {fuel c : Nat} {res : Gen × Res Nat}
    (h : downLoop o g (fuel + 1) c = res) :
    (res = (g, .err "exhausted") ∨ res = ({ g with checkPrev := false }, .err "exhausted")) ∨
    (o.stopDown g.size c = false ∧ g.nthRoot ≤ c ∧
      ((o.isPrime c = true ∧ res = ({ g with prev := u64sub c g.nthRoot }, .ok c)) ∨
       res = downLoop o g fuel (u64sub c g.nthRoot))) := by
  unfold downLoop at h
  rcases ite_eq_iff.mp h with ⟨_, h⟩ | ⟨_, h⟩
  · exact .inl (.inl h.symm)
  rcases ite_eq_iff.mp h with ⟨_, h⟩ | ⟨hstop, h⟩
  · exact .inl (.inr h.symm)
  simp only [Bool.or_eq_true, decide_eq_true_eq, not_or, Bool.not_eq_true, not_lt] at hstop
  rcases ite_eq_iff.mp h with ⟨hp, h⟩ | ⟨_, h⟩
  · exact .inr ⟨hstop.1, hstop.2, .inl ⟨hp, h.symm⟩⟩
  · exact .inr ⟨hstop.1, hstop.2, .inr h.symm⟩

theorem downLoop_ne_panic (o : Oracle) (g : Gen) : ∀ fuel c, (downLoop o g fuel c).2 ≠ .panic := by
  intro fuel
  induction fuel with
  | zero => intro c; nofun
  | succ f ih =>
    intro c
    rcases downLoop_succ_cases (rfl : downLoop o g (f + 1) c = _) with (h | h) | ⟨-, -, ⟨-, h⟩ | h⟩
    · rw [h]; nofun
    · rw [h]; nofun
    · rw [h]; nofun
    · rw [h]; exact ih _

/-- the upstream half of `NextAlternatingPrime` is still enabled after its stop test on the candidate `np` -/
def altUp (o : Oracle) (g : Gen) (np : Nat) (cn : Bool) : Bool :=
  cn && !(o.stopUp g.size np || decide (np > W - 1 - g.nthRoot))

/-- the downstream half is still enabled after its stop test on the candidate `pp` -/
def altDown (o : Oracle) (g : Gen) (pp : Nat) (cp : Bool) : Bool :=
  cp && !(o.stopDown g.size pp || decide (pp < g.nthRoot))

theorem altUp_true {o : Oracle} {g : Gen} {np : Nat} {cn : Bool} (h : altUp o g np cn = true) :
    cn = true ∧ o.stopUp g.size np = false ∧ np ≤ W - 1 - g.nthRoot := by
  simpa only [altUp, Bool.and_eq_true, Bool.not_eq_true', Bool.or_eq_false_iff, decide_eq_false_iff_not,
    not_lt] using h

theorem altDown_true {o : Oracle} {g : Gen} {pp : Nat} {cp : Bool} (h : altDown o g pp cp = true) :
    cp = true ∧ o.stopDown g.size pp = false ∧ g.nthRoot ≤ pp := by
  simpa only [altDown, Bool.and_eq_true, Bool.not_eq_true', Bool.or_eq_false_iff, decide_eq_false_iff_not,
    not_lt] using h

/-- one iteration of `NextAlternatingPrime`: give up, return the upstream candidate, return the downstream
    candidate, or go on with both cursors advanced as far as their halves are still enabled -/
theorem altLoop_succ (o : Oracle) (g : Gen) (fuel np pp : Nat) (cn cp : Bool) :
    altLoop o g (fuel + 1) np pp cn cp =
      if !(cn || cp) then (g, .err "exhausted")
      else if altUp o g np cn && o.isPrime np then
        ({ g with next := u64add np g.nthRoot, prev := pp, checkNext := cn, checkPrev := cp }, .ok np)
      else if altDown o g pp cp && o.isPrime pp then
        ({ g with next := if altUp o g np cn then u64add np g.nthRoot else np, prev := u64sub pp g.nthRoot,
                  checkNext := altUp o g np cn, checkPrev := cp }, .ok pp)
      else altLoop o g fuel (if altUp o g np cn then u64add np g.nthRoot else np)
        (if altDown o g pp cp then u64sub pp g.nthRoot else pp) (altUp o g np cn) (altDown o g pp cp) := by
  rw [altLoop]
  cases cn <;> cases cp <;> rfl

theorem altLoop_ne_panic (o : Oracle) (g : Gen) :
    ∀ fuel np pp cn cp, (altLoop o g fuel np pp cn cp).2 ≠ .panic := by
  intro fuel
  induction fuel with
  | zero => intro np pp cn cp; nofun
  | succ f ih =>
    intro np pp cn cp
    generalize hr : altLoop o g (f + 1) np pp cn cp = r
    rw [altLoop_succ] at hr
    rcases ite_eq_iff.mp hr with ⟨_, rfl⟩ | ⟨_, hr⟩
    · nofun
    rcases ite_eq_iff.mp hr with ⟨_, rfl⟩ | ⟨_, hr⟩
    · nofun
    rcases ite_eq_iff.mp hr with ⟨_, rfl⟩ | ⟨_, hr⟩
    · nofun
    exact hr ▸ ih _ _ _ _

/-- `k` steps in a row from a state with `Inv`: every value of a success has the property `P` its step guarantees and
    lies on the `side` of the cursors that the step reports, which puts it in relation `R` to everything returned
    later; a panic or a hang of the whole is that of one of the steps, taken from a state with `Inv` -/
theorem nextPrimes_run {step : Gen → Gen × Res Nat} {Inv : Gen → Prop} {P : Nat → Prop}
    {side : Gen → Nat → Prop} {R : Nat → Nat → Prop}
    (hstep : ∀ g g' x, Inv g → step g = (g', .ok x) →
      Inv g' ∧ P x ∧ side g x ∧ ∀ y, side g' y → R x y ∧ side g y) :
    ∀ (k : Nat) (g g' : Gen) (r : Res (List Nat)), Inv g → nextPrimes step k g = (g', r) →
      (∀ ps, r = .ok ps → ps.length = k ∧ (∀ x ∈ ps, P x) ∧ ps.Pairwise R ∧ ∀ x ∈ ps, side g x) ∧
      (r = .panic → ∃ g₀, Inv g₀ ∧ (step g₀).2 = .panic) ∧
      (r = .hang → ∃ g₀, Inv g₀ ∧ (step g₀).2 = .hang) := by
  intro k
  induction k with
  | zero =>
    intro g g' r _ h
    cases h
    exact ⟨fun ps h => by cases h; simp, nofun, nofun⟩
  | succ k ih =>
    intro g g' r inv h
    unfold nextPrimes at h
    split at h
    · rename_i g1 x hst
      obtain ⟨inv1, hP, hs, hlater⟩ := hstep g g1 x inv hst
      split at h
      · rename_i g2 ps hrec
        obtain ⟨c1, c2, c3, c4⟩ := (ih g1 g2 _ inv1 hrec).1 ps rfl
        cases h
        refine ⟨fun ps' h => ?_, nofun, nofun⟩
        cases h
        exact ⟨by rw [List.length_cons, c1], List.forall_mem_cons.mpr ⟨hP, c2⟩,
          List.pairwise_cons.mpr ⟨fun y hy => (hlater y (c4 y hy)).1, c3⟩,
          List.forall_mem_cons.mpr ⟨hs, fun y hy => (hlater y (c4 y hy)).2⟩⟩
      · cases h; exact ⟨nofun, nofun, nofun⟩
      · rename_i g2 hrec
        have hp := (ih g1 g2 _ inv1 hrec).2.1 rfl
        cases h
        exact ⟨nofun, fun _ => hp, nofun⟩
      · rename_i g2 hrec
        have hh := (ih g1 g2 _ inv1 hrec).2.2 rfl
        cases h
        exact ⟨nofun, nofun, fun _ => hh⟩
    · cases h; exact ⟨nofun, nofun, nofun⟩
    · rename_i g1 hst
      cases h
      exact ⟨nofun, fun _ => ⟨g, inv, by rw [hst]⟩, nofun⟩
    · rename_i g1 hst
      cases h
      exact ⟨nofun, nofun, fun _ => ⟨g, inv, by rw [hst]⟩⟩

/-- the step function `genPrimes` runs for the direction `dir`:
    `genPrimes o fuel dir S r k` is `(nextPrimes (dirStep o fuel dir) k (newGen S r)).2` by definition -/
def dirStep (o : Oracle) (fuel dir : Nat) : Gen → Gen × Res Nat :=
  if dir = 0 then nextUp o fuel else if dir = 1 then nextDown o fuel else nextAlt o fuel

theorem dirStep_cases (o : Oracle) (fuel dir : Nat) :
    dir = 0 ∧ dirStep o fuel dir = nextUp o fuel ∨ dirStep o fuel dir = nextDown o fuel ∨
      dirStep o fuel dir = nextAlt o fuel := by
  unfold dirStep
  split
  · exact .inl ⟨‹_›, rfl⟩
  split
  · exact .inr (.inl rfl)
  · exact .inr (.inr rfl)

theorem dirStep_ne_panic (o : Oracle) (fuel dir : Nat) (g : Gen) : (dirStep o fuel dir g).2 ≠ .panic := by
  rcases dirStep_cases o fuel dir with ⟨-, h⟩ | h | h
  · rw [h]; exact upLoop_ne_panic o g fuel _
  · rw [h]; exact downLoop_ne_panic o g fuel _
  · rw [h]; exact altLoop_ne_panic o g fuel _ _ _ _

theorem genPrimes_ne_panic (o : Oracle) (fuel dir b r k : Nat) : genPrimes o fuel dir b r k ≠ .panic := fun h =>
  have ⟨g₀, _, h₀⟩ := (nextPrimes_run (Inv := fun _ => True) (P := fun _ => True) (side := fun _ _ => True)
    (R := fun _ _ => True) (fun _ _ _ _ _ => ⟨trivial, trivial, trivial, fun _ _ => ⟨trivial, trivial⟩⟩)
    k (newGen b r) _ _ trivial rfl).2.1 h
  dirStep_ne_panic o fuel dir g₀ h₀

theorem genAll_run (o : Oracle) (fuel r : Nat) (req : List Nat) :
    ∀ (sizes : List Nat) (res : Res (List (Nat × List Nat))), genAll o fuel r req sizes = res →
      (∀ tbl, res = .ok tbl →
        tbl.map Prod.fst = sizes ∧ ∀ e ∈ tbl, genForSize o fuel r e.1 (req.count e.1) = .ok e.2) ∧
      (res = .panic → ∃ s ∈ sizes, genForSize o fuel r s (req.count s) = .panic) ∧
      (res = .hang → ∃ s ∈ sizes, genForSize o fuel r s (req.count s) = .hang) := by
  intro sizes
  induction sizes with
  | nil =>
    intro res h
    cases h
    exact ⟨fun tbl h => by cases h; exact ⟨rfl, nofun⟩, nofun, nofun⟩
  | cons s rest ih =>
    intro res h
    unfold genAll at h
    split at h
    · rename_i ps hps
      obtain ⟨hok, hpanic, hhang⟩ := ih _ rfl
      split at h
      · rename_i tbl hrec
        cases h
        refine ⟨fun tbl' h => ?_, nofun, nofun⟩
        cases h
        obtain ⟨t1, t2⟩ := hok _ hrec
        exact ⟨by rw [List.map_cons, t1], List.forall_mem_cons.mpr ⟨hps, t2⟩⟩
      · cases h; exact ⟨nofun, nofun, nofun⟩
      · rename_i hrec
        cases h
        exact ⟨nofun, fun _ => (hpanic hrec).imp fun _ h => ⟨List.mem_cons_of_mem _ h.1, h.2⟩, nofun⟩
      · rename_i hrec
        cases h
        exact ⟨nofun, nofun, fun _ => (hhang hrec).imp fun _ h => ⟨List.mem_cons_of_mem _ h.1, h.2⟩⟩
    · cases h; exact ⟨nofun, nofun, nofun⟩
    · rename_i hps
      cases h
      exact ⟨nofun, fun _ => ⟨s, List.mem_cons_self .., hps⟩, nofun⟩
    · rename_i hps
      cases h
      exact ⟨nofun, nofun, fun _ => ⟨s, List.mem_cons_self .., hps⟩⟩

theorem genAll_ne_panic (o : Oracle) (fuel r : Nat) (req sizes : List Nat) : genAll o fuel r req sizes ≠ .panic :=
  fun h => have ⟨_, _, hs⟩ := (genAll_run o fuel r req sizes _ rfl).2.1 h; genPrimes_ne_panic _ _ _ _ _ _ hs

/-- The ways `GenModuli` can end: an error, or — the root order in range and both size checks passed — whatever the
    generation of the primes ends in, a success being followed by the assignment of the primes to the requests. -/
theorem genModuli_cases {o : Oracle} {fuel : Nat} {L : Int} {logQ logP : List Int}
    {res : Res (List Nat × List Nat)} (h : genModuli o fuel L logQ logP = res)
    (req : List Nat) (hreq : req = logQ.map Int.toNat ++ logP.map Int.toNat) :
    (∃ c, res = .err c) ∨
    (5 ≤ L ∧ L ≤ 22 ∧ checkModuliLogSize logQ logP = none ∧ checkSizesAboveRoot L logQ logP = none ∧
      ((genAll o fuel (2 ^ L.toNat) req req.eraseDups = .panic ∧ res = .panic) ∨
       (genAll o fuel (2 ^ L.toNat) req req.eraseDups = .hang ∧ res = .hang) ∨
       ∃ tbl, genAll o fuel (2 ^ L.toNat) req req.eraseDups = .ok tbl ∧
         res = .ok ((assign tbl [] req).take (logQ.map Int.toNat).length,
                    (assign tbl [] req).drop (logQ.map Int.toNat).length))) := by
  subst hreq
  unfold genModuli at h
  rcases ite_eq_iff.mp h with ⟨_, h⟩ | ⟨hrange, h⟩
  · exact .inl ⟨_, h.symm⟩
  have hL : 5 ≤ L ∧ L ≤ 22 := by
    simp [MinLogN, MaxLogN] at hrange
    have := of_decide_eq_false hrange.1
    omega
  cases hsz : checkModuliLogSize logQ logP with
  | some c =>
    rw [hsz] at h
    exact .inl ⟨_, h.symm⟩
  | none =>
  rw [hsz] at h
  cases hab : checkSizesAboveRoot L logQ logP with
  | some c =>
    rw [hab] at h
    exact .inl ⟨_, h.symm⟩
  | none =>
  rw [hab] at h
  dsimp only at h
  split at h
  · rename_i tbl hg
    exact .inr ⟨hL.1, hL.2, rfl, rfl, .inr (.inr ⟨tbl, hg, h.symm⟩)⟩
  · exact .inl ⟨_, h.symm⟩
  · rename_i hg
    exact .inr ⟨hL.1, hL.2, rfl, rfl, .inl ⟨hg, h.symm⟩⟩
  · rename_i hg
    exact .inr ⟨hL.1, hL.2, rfl, rfl, .inr (.inl ⟨hg, h.symm⟩)⟩

/-- `GenModuli` never panics (its root order is range-checked before it is used as a shift count) -/
theorem genModuli_ne_panic (o : Oracle) (fuel : Nat) (l : Int) (logQ logP : List Int) :
    genModuli o fuel l logQ logP ≠ .panic := by
  intro h
  rcases genModuli_cases h _ rfl with ⟨c, hc⟩ | ⟨-, -, -, -, ⟨hg, -⟩ | ⟨-, hc⟩ | ⟨tbl, -, hc⟩⟩
  · cases hc
  · exact genAll_ne_panic _ _ _ _ _ hg
  · cases hc
  · cases hc

/-- The ways the literal constructor can end: an error of its own or of a check, whatever `GenModuli` ends in when
    that is a panic or a hang, or else the outcome of `NewParameters` on some moduli. -/
theorem newParametersFromLiteral_cases {o : Oracle} {fuel : Nat} {lit : Literal} {r : Res Accepted}
    (h : newParametersFromLiteral o fuel lit = r) :
    (∃ c, r = .err c) ∨
    (∃ l, genModuli o fuel l (lit.logQ.getD []) (lit.logP.getD []) = .panic ∧ r = .panic) ∨
    (∃ l, genModuli o fuel l (lit.logQ.getD []) (lit.logP.getD []) = .hang ∧ r = .hang) ∨
    ∃ q p, r = newParameters o lit.logN q p lit.ringType lit.xsWeight0 lit.xeStd0 := by
  unfold newParametersFromLiteral at h
  by_cases hA : (lit.q.isNone && lit.logQ.isNone) = true
  · rw [if_pos hA] at h
    exact .inl ⟨_, h.symm⟩
  rw [if_neg hA] at h
  by_cases hB : (lit.q.isSome && lit.logQ.isSome) = true
  · rw [if_pos hB] at h
    exact .inl ⟨_, h.symm⟩
  rw [if_neg hB] at h
  by_cases hC : (lit.p.isSome && lit.logP.isSome) = true
  · rw [if_pos hC] at h
    exact .inl ⟨_, h.symm⟩
  rw [if_neg hC] at h
  dsimp only at h
  by_cases hS : (lit.logQ.isSome || lit.logP.isSome) = true
  swap
  · rw [if_neg hS] at h
    exact .inr (.inr (.inr ⟨_, _, h.symm⟩))
  rw [if_pos hS] at h
  cases hcs : checkSizeParams lit.logN with
  | some c =>
    rw [hcs] at h
    exact .inl ⟨_, h.symm⟩
  | none =>
    rw [hcs] at h
    by_cases hT : (decide (lit.ringType = 0) || decide (lit.ringType = 1)) = true
    swap
    · rw [if_neg hT] at h
      exact .inr (.inr (.inr ⟨_, _, h.symm⟩))
    rw [if_pos hT] at h
    cases hgm : genModuli o fuel (max (lit.logN + if lit.ringType = 0 then 1 else 2) lit.logNthRoot)
      (lit.logQ.getD []) (lit.logP.getD []) with
    | ok qp =>
      rw [hgm] at h
      exact .inr (.inr (.inr ⟨_, _, h.symm⟩))
    | err c =>
      rw [hgm] at h
      exact .inl ⟨_, h.symm⟩
    | panic =>
      rw [hgm] at h
      exact .inr (.inl ⟨_, hgm, h.symm⟩)
    | hang =>
      rw [hgm] at h
      exact .inr (.inr (.inl ⟨_, hgm, h.symm⟩))

theorem newParametersFromLiteral_ok {o : Oracle} {fuel : Nat} {lit : Literal} {a : Accepted}
    (h : newParametersFromLiteral o fuel lit = .ok a) :
    ∃ q p, newParameters o lit.logN q p lit.ringType lit.xsWeight0 lit.xeStd0 = .ok a := by
  rcases newParametersFromLiteral_cases h with ⟨_, hc⟩ | ⟨_, _, hc⟩ | ⟨_, _, hc⟩ | ⟨q, p, hc⟩
  · cases hc
  · cases hc
  · cases hc
  · exact ⟨q, p, hc.symm⟩

theorem newParametersFromLiteral_ne_panic (o : Oracle) (fuel : Nat) (lit : Literal) :
    newParametersFromLiteral o fuel lit ≠ .panic := by
  intro h
  rcases newParametersFromLiteral_cases h with ⟨_, hc⟩ | ⟨_, hg, _⟩ | ⟨_, _, hc⟩ | ⟨q, p, hc⟩
  · cases hc
  · exact genModuli_ne_panic _ _ _ _ _ hg
  · cases hc
  · rcases newParameters_total o lit.logN q p lit.ringType lit.xsWeight0 lit.xeStd0 with ⟨a, ha⟩ | ⟨c, ha⟩ <;>
      rw [ha] at hc <;> cases hc

/-- the auxiliary basis of `bgv.NewParameters` (`qmulLoop`: downstream 61-bit primes, those of `avoid` skipped) holds
    no element of `avoid` -/
theorem qmulLoop_avoid (o : Oracle) (fuel : Nat) (avoid : List Nat) :
    ∀ (outer need : Nat) (g : Gen) (ps : List Nat), qmulLoop o fuel avoid outer need g = .ok ps →
      ∀ m ∈ ps, m ∉ avoid := by
  intro outer
  induction outer with
  | zero => intro need g ps h; cases h
  | succ n ih =>
    intro need g ps h
    unfold qmulLoop at h
    rcases ite_eq_iff.mp h with ⟨_, h⟩ | ⟨_, h⟩
    · cases h; nofun
    rcases hst : nextDown o fuel g with ⟨g', p | c | _ | _⟩
    · -- a prime `p`: skipped if it is to be avoided, else put in front of what the rest of the loop returns
      simp only [hst] at h
      rcases ite_eq_iff.mp h with ⟨_, h⟩ | ⟨hnot, h⟩
      · exact ih _ _ _ h
      cases hrec : qmulLoop o fuel avoid n (need - 1) g' with
      | ok ps' =>
        simp only [hrec, Res.ok.injEq] at h
        subst h
        exact List.forall_mem_cons.mpr ⟨by simpa using hnot, ih _ _ _ hrec⟩
      | err c => simp [hrec] at h
      | panic => simp [hrec] at h
      | hang => simp [hrec] at h
    · simp [hst] at h
    · simp [hst] at h
    · simp [hst] at h

/-- `bgv.NewParameters(rlweParams, t)` read backwards, check by check: it returns `b` exactly when every test passes,
    the auxiliary-basis generator returns `b.qMul`, and `b.nT` is the plaintext ring degree -/
theorem bgvNew_ok_iff {o : Oracle} {fuel : Nat} {a : Accepted} {t : Nat} {b : BgvAccepted} :
    bgvNew o fuel a t = .ok b ↔
      t ≠ 0 ∧ t ∉ a.q ∧ t ≤ a.q.headD 0 ∧
      qmulLoop o fuel a.q ((len64 a.qProd + a.logN + 60) / 61 + a.q.length + 1)
        ((len64 a.qProd + a.logN + 60) / 61) (newGen 61 a.nthRoot) = .ok b.qMul ∧
      newRing o a.n b.qMul (2 * a.n) = none ∧
      16 ≤ cyclotomicOrder t ∧ b.nT = min a.n (cyclotomicOrder t / 2) ∧
      newRing o b.nT [t] (2 * b.nT) = none := by
  constructor
  · intro h
    unfold bgvNew at h
    rcases ite_eq_iff.mp h with ⟨_, h⟩ | ⟨ht0, h⟩
    · cases h
    rcases ite_eq_iff.mp h with ⟨_, h⟩ | ⟨htq, h⟩
    · cases h
    rcases ite_eq_iff.mp h with ⟨_, h⟩ | ⟨htb, h⟩
    · cases h
    dsimp only at h
    split at h
    · cases h
    · cases h
    · cases h
    · rename_i primes hgen
      cases hqm : newRing o a.n primes (2 * a.n) with
      | some c => rw [hqm] at h; cases h
      | none =>
        rw [hqm] at h
        rcases ite_eq_iff.mp h with ⟨_, h⟩ | ⟨hord, h⟩
        · cases h
        cases hrt : newRing o (min a.n (cyclotomicOrder t / 2)) [t] (2 * min a.n (cyclotomicOrder t / 2)) with
        | some c => rw [hrt] at h; cases h
        | none =>
          rw [hrt] at h
          cases h
          exact ⟨ht0, by simpa using htq, by omega, hgen, hqm, by omega, rfl, hrt⟩
  · intro ⟨h1, h2, h3, h4, h5, h6, h7, h8⟩
    unfold bgvNew
    have hc : a.q.contains t = false := by simpa using h2
    have hb : ¬ (t > a.q.headD 0) := by omega
    have ho : ¬ (cyclotomicOrder t < 16) := by omega
    rw [h7] at h8
    simp only [h1, if_false, hc, Bool.false_eq_true, hb]
    rw [h4]
    simp only [h5, ho, if_false, h8]
    cases b with
    | mk nT qMul =>
      simp only at h7
      rw [h7]

theorem maxList_ge {l : List Nat} {x : Nat} (h : x ∈ l) : x ≤ maxList l := LazyAcc.le_foldl_max l 0 x (Or.inr h)

theorem maxList_mem {l : List Nat} (hpos : ∀ x ∈ l, 0 < x) (hne : l ≠ []) : maxList l ∈ l :=
  LazyAcc.foldl_max_mem_of_pos hpos hne

end Lattigo.Params
