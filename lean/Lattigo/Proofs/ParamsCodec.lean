/-
  C19 — the parameter codecs as functions on field lists (`Lattigo.Model.Params`: `encodeDist`/`decodeDist`,
  `encodeRlweLit`/`decodeRlweLit`, `encodeBtp`/`decodeBtp`, `encodeBtpLit`/`decodeBtpLit`): what reading a key from
  an encoded object finds, and what each field decoder makes of it.
-/
import Lattigo.Proofs.Params

namespace Lattigo.Params
open Lattigo

@[simp] theorem Key.beq_eq (a b : Key) : (a == b) = decide (a = b) := rfl

/-- An object written field by field, each with its `omitempty` verdict. -/
def fieldsObj (fs : List (Bool × Key × JV)) : JObj := fs.flatMap fun f => omitIf f.1 f.2.1 f.2.2

theorem fieldsObj_cons_get (b : Bool) (k' : Key) (v : JV) (fs : List (Bool × Key × JV)) (k : Key) :
    (fieldsObj ((b, k', v) :: fs)).get k = if k = k' ∧ b = false then some v else (fieldsObj fs).get k := by
  by_cases h : k = k' <;> cases b <;> simp [fieldsObj, omitIf, JObj.get, List.lookup_cons, h]

theorem fieldsObj_get_none {fs : List (Bool × Key × JV)} {k : Key} (hk : k ∉ fs.map (·.2.1)) :
    (fieldsObj fs).get k = none := by
  induction fs with
  | nil => rfl
  | cons f fs ih =>
    rw [List.map_cons, List.mem_cons, not_or] at hk
    rw [fieldsObj_cons_get, if_neg (fun h => hk.1 h.1), ih hk.2]

theorem fieldsObj_get {fs : List (Bool × Key × JV)} (hk : (fs.map (·.2.1)).Nodup) {i : Nat} {b : Bool} {k : Key}
    {v : JV} (h : fs[i]? = some (b, k, v)) : (fieldsObj fs).get k = if b then none else some v := by
  induction fs generalizing i with
  | nil => simp at h
  | cons f fs ih =>
    rw [List.map_cons, List.nodup_cons] at hk
    rw [fieldsObj_cons_get]
    cases i with
    | zero =>
      cases h
      rw [fieldsObj_get_none hk.1]
      cases b <;> simp
    | succ i =>
      have hne : k ≠ f.2.1 := by
        rintro rfl
        exact hk.1 (List.mem_map.mpr ⟨_, List.mem_of_getElem? h, rfl⟩)
      rw [if_neg (fun h => hne h.1), ih hk.2 h]

theorem decode_encodeDist (d : Dist) :
    decodeDist (encodeDist d) = if d.codecOK then .ok d else .error "ternary: exactly one of P, H" := by
  cases d with
  | uniform => rfl
  | gaussian s b => rfl
  | ternary p h =>
    by_cases hp : p = 0 <;> by_cases hh : h = 0 <;>
      simp [encodeDist, decodeDist, Dist.codecOK, JObj.get, List.lookup, omitIf, hp, hh]

theorem decodeOptDist_enc (d : Option Dist) (h : ∀ x, d = some x → x.codecOK = true) :
    decodeOptDist (some ((d.map encodeDist).getD .null)) = .ok d := by
  cases d with
  | none => rfl
  | some x =>
    have hx : decodeOptDist (some (encodeDist x)) = (decodeDist (encodeDist x)).map some := by
      cases x <;> rfl
    rw [Option.map_some, Option.getD_some, hx, decode_encodeDist, if_pos (h x rfl)]
    rfl

theorem decodeOptDist_omit {o : JObj} {k : Key} {d : Option Dist} (hd : ∀ x, d = some x → x.codecOK = true)
    (h : o.get k = if d.isNone then none else some ((d.map encodeDist).getD .null)) :
    decodeOptDist (o.get k) = .ok d := by
  rw [h]
  cases d with
  | none => rfl
  | some x => exact decodeOptDist_enc _ hd

theorem getNum_enc {o : JObj} {k : Key} {n : Int} (h : o.get k = some (.num n)) : getNum o k = .ok n := by
  unfold getNum
  rw [h]

theorem getNum_omit {o : JObj} {k : Key} {n : Int} (h : o.get k = if n == 0 then none else some (.num n)) :
    getNum o k = .ok n := by
  unfold getNum
  rw [h]
  by_cases hn : n = 0 <;> simp [hn]

theorem getUNums_omit {o : JObj} {k : Key} {x : Option (List Nat)}
    (h : o.get k = if emptyOpt x then none else some (.unums (x.getD []))) : getUNums o k = .ok (normSlice x) := by
  unfold getUNums
  rw [h]
  rcases x with _ | _ | _ <;> rfl

theorem getNums_omit {o : JObj} {k : Key} {x : Option (List Int)}
    (h : o.get k = if emptyOpt x then none else some (.nums (x.getD []))) : getNums o k = .ok (normSlice x) := by
  unfold getNums
  rw [h]
  rcases x with _ | _ | _ <;> rfl

/-- the fields of `encodeRlweLit`, in its order -/
def rlweFields (l : RlweLit) : List (Bool × Key × JV) :=
  [(false, .LogN, .num l.logN), (l.logNthRoot == 0, .LogNthRoot, .num l.logNthRoot),
   (emptyOpt l.q, .Q, .unums (l.q.getD [])), (emptyOpt l.p, .P, .unums (l.p.getD [])),
   (emptyOpt l.logQ, .LogQ, .nums (l.logQ.getD [])), (emptyOpt l.logP, .LogP, .nums (l.logP.getD [])),
   (l.xe.isNone, .Xe, (l.xe.map encodeDist).getD .null), (l.xs.isNone, .Xs, (l.xs.map encodeDist).getD .null),
   (l.ringType == 0, .RingType, .ring l.ringType), (false, .DefaultScale, .blob l.defaultScale),
   (!l.nttFlag, .NTTFlag, .bool l.nttFlag)]

theorem encodeRlweLit_eq (l : RlweLit) : encodeRlweLit l = fieldsObj (rlweFields l) := by
  simp [encodeRlweLit, fieldsObj, rlweFields, omitIf]

theorem rlweFields_keys (l : RlweLit) : ((rlweFields l).map (·.2.1)).Nodup := by
  simp [rlweFields]

/-- what `normalize` is about: `Q = []` comes back as nil, everything else is kept, a custom `LogNthRoot` included -/
example : decodeRlweLit (encodeRlweLit ⟨6, 9, some [], none, some [40, 30], some [41], some (.gaussian 5 7),
      some (.ternary 0 8), 1, 3, true⟩)
    = .ok ⟨6, 9, none, none, some [40, 30], some [41], some (.gaussian 5 7), some (.ternary 0 8), 1, 3, true⟩ := by
  rfl

/-! ### bootstrapping.Parameters and bootstrapping.ParametersLiteral: no `omitempty`, so a lookup is `rfl` -/

theorem iter_roundtrip (it : Option Iter) : decodeIter (some (encodeIter it)) = .ok it := by
  rcases it with _ | ⟨_ | _, _⟩ <;> rfl

example : decodeBtp (encodeBtp ⟨1, 2, 3, 4, 5, none, 0, 0⟩) = .ok ⟨1, 2, 3, 4, 5, none, 0, 0⟩ := by rfl

theorem decPtr_enc {o : JObj} {k : Key} {x : Option Int} (h : o.get k = some (encPtr x)) : decPtr o k = .ok x := by
  unfold decPtr
  rw [h]
  cases x <;> rfl

theorem getNums_enc {o : JObj} {k : Key} {x : Option (List Int)}
    (h : o.get k = some (match x with | none => .null | some v => .nums v)) : getNums o k = .ok x := by
  unfold getNums
  rw [h]
  cases x <;> rfl

theorem getNumss_enc {o : JObj} {k : Key} {x : Option (List (List Int))}
    (h : o.get k = some (match x with | none => .null | some v => .numss v)) : getNumss o k = .ok x := by
  unfold getNumss
  rw [h]
  cases x <;> rfl

theorem roundMant_id (p n : Nat) (h : n < 2 ^ p) : roundMant p n = n := by
  unfold roundMant
  have hb : roundMant.len64' n ≤ p := by
    unfold roundMant.len64'
    by_cases h0 : n = 0
    · simp [h0]
    · simp only [h0, if_false]
      have := (Nat.log2_lt h0).mpr h
      omega
  simp [hb]

end Lattigo.Params
