/-
  C19 — the NTT-friendly prime generator (ring/primes.go): what the three loops return when they return, as one
  contract of a step (`StepSpec`) over one invariant of the generator state (`GInv`), and what `k` steps in a row
  (`genPrimes`) then return.  The contract speaks of the oracle's tests as they answered (`Found`); only the upstream
  loop, which has no overflow guard, and the reading of those answers as a window (`Found.good`) need `StopSound`.
  Termination is in `ParamsTerm.lean`, `GenModuli` in `ParamsModuli.lean`.
-/
import Lattigo.Proofs.Params
import Lattigo.Proofs.ModRed
import Mathlib.Tactic.Ring
import Mathlib.Data.List.Nodup

namespace Lattigo.Params
open Lattigo

/-- `x` is an acceptable output for the bit-size request `S` and root order `r`: the oracle calls it prime, it has the
    residue `ρ` of the generator's cursors modulo `r` (`ρ = 1` whenever `r ∣ 2^S`), and `|log2 x − S| < 1/2` (in exact
    arithmetic). -/
structure Good (o : Oracle) (S r ρ x : Nat) : Prop where
  prime : o.isPrime x = true
  res : x % r = ρ
  lo : 2 ^ (2 * S) < 2 * (x * x)
  hi : x * x < 2 ^ (2 * S + 1)

/-- the two float tests are read exactly (false ⇒ the candidate is inside the half-bit window) -/
structure StopSound (o : Oracle) : Prop where
  up : ∀ S c, o.stopUp S c = false → c * c < 2 ^ (2 * S + 1)
  down : ∀ S c, o.stopDown S c = false → 2 ^ (2 * S) < 2 * (c * c)

theorem exactOracle_stopSound : StopSound exactOracle := by
  constructor
  · intro S c h
    simp only [exactOracle, stopUpExact, decide_eq_false_iff_not, ge_iff_le, not_le] at h
    exact h
  · intro S c h
    simp only [exactOracle, stopDownExact, decide_eq_false_iff_not, not_le] at h
    exact h

/-- invariant of the two cursors of the generator; the residue `ρ` is a parameter, so that the invariant holds from
    `newGen` on for every root order (`newGen_inv`), not only for those dividing `2^S` -/
structure LInv (S r ρ np pp : Nat) : Prop where
  np_mod : np % r = ρ
  pp_mod : pp % r = ρ
  pp_le : pp ≤ 2 ^ S
  np_gt : 2 ^ S < np
  np_lt : np < W

theorem sq_bounds_up {S x : Nat} (h : 2 ^ S < x) : 2 ^ (2 * S) < 2 * (x * x) := by
  have h1 : 2 ^ S * 2 ^ S < x * x := Nat.mul_lt_mul'' h h
  have : 2 ^ (2 * S) = 2 ^ S * 2 ^ S := by rw [two_mul, Nat.pow_add]
  omega

theorem sq_bounds_down {S x : Nat} (h : x ≤ 2 ^ S) : x * x < 2 ^ (2 * S + 1) := by
  have h1 : x * x ≤ 2 ^ S * 2 ^ S := Nat.mul_le_mul h h
  have h2 : 2 ^ (2 * S) = 2 ^ S * 2 ^ S := by rw [two_mul, Nat.pow_add]
  have h3 : 2 ^ (2 * S + 1) = 2 * 2 ^ (2 * S) := by rw [Nat.pow_succ]; ring
  have : 0 < 2 ^ (2 * S) := Nat.two_pow_pos _
  omega

theorem lt_of_sq_lt {S c : Nat} (h : c * c < 2 ^ (2 * S + 1)) : c < 2 ^ (S + 1) := by
  by_contra hge
  have hge : 2 ^ (S + 1) ≤ c := Nat.le_of_not_lt hge
  have h1 : 2 ^ (S + 1) * 2 ^ (S + 1) ≤ c * c := Nat.mul_le_mul hge hge
  have h2 : 2 ^ (2 * S + 1) ≤ 2 ^ (S + 1) * 2 ^ (S + 1) := by
    rw [← Nat.pow_add]; exact Nat.pow_le_pow_right (by decide) (by omega)
  omega

/-- `x` as a loop of the generator returns it: prime for the oracle, with the residue of the cursors, and on its side of
    `2^S` the stop test had not fired -/
structure Found (o : Oracle) (S r ρ x : Nat) : Prop where
  prime : o.isPrime x = true
  res : x % r = ρ
  win : 2 ^ S < x ∧ o.stopUp S x = false ∨ x ≤ 2 ^ S ∧ o.stopDown S x = false

theorem Found.good {o : Oracle} {S r ρ x : Nat} (hs : StopSound o) (h : Found o S r ρ x) : Good o S r ρ x :=
  ⟨h.prime, h.res, h.win.elim (fun w => sq_bounds_up w.1) fun w => hs.down _ _ w.2,
    h.win.elim (fun w => hs.up _ _ w.2) fun w => sq_bounds_down w.1⟩

theorem LInv.up {S r ρ np pp : Nat} (inv : LInv S r ρ np pp) (h : np + r < W) : LInv S r ρ (np + r) pp :=
  ⟨by rw [Nat.add_mod_right]; exact inv.np_mod, inv.pp_mod, inv.pp_le, by have := inv.np_gt; omega, h⟩

theorem LInv.down {S r ρ np pp : Nat} (inv : LInv S r ρ np pp) (h : r ≤ pp) : LInv S r ρ np (pp - r) :=
  ⟨inv.np_mod, by rw [← Nat.mod_eq_sub_mod h]; exact inv.pp_mod, by have := inv.pp_le; omega, inv.np_gt, inv.np_lt⟩

theorem LInv.np_pos {S r ρ np pp : Nat} (inv : LInv S r ρ np pp) : 0 < np :=
  Nat.zero_lt_of_lt inv.np_gt

theorem LInv.pp_lt {S r ρ np pp : Nat} (inv : LInv S r ρ np pp) : pp < W := by
  have := inv.pp_le; have := inv.np_gt; have := inv.np_lt; omega

/-- the generator states that occur for the size `S`, the root order `r` and the residue `ρ` of the cursors -/
def GInv (S r ρ : Nat) (g : Gen) : Prop := g.size = S ∧ g.nthRoot = r ∧ LInv S r ρ g.next g.prev

/-- what one successful step of a generator guarantees; `side` says where the value lies relative to the cursors
    before the step (`above`, `below`, or `outside` for either) -/
def StepSpec (o : Oracle) (S r ρ : Nat) (side : Gen → Nat → Prop) (step : Gen → Gen × Res Nat) : Prop :=
  ∀ g g' x, GInv S r ρ g → step g = (g', .ok x) →
    GInv S r ρ g' ∧ Found o S r ρ x ∧ g'.prev ≤ g.prev ∧ g.next ≤ g'.next ∧ g'.prev < x ∧ x < g'.next ∧ side g x

def above (g : Gen) (x : Nat) : Prop := g.next ≤ x
def below (g : Gen) (x : Nat) : Prop := x ≤ g.prev
def outside (g : Gen) (x : Nat) : Prop := x ≤ g.prev ∨ g.next ≤ x

theorem StepSpec.mono {o : Oracle} {S r ρ : Nat} {side side' : Gen → Nat → Prop} {step : Gen → Gen × Res Nat}
    (h : StepSpec o S r ρ side step) (hs : ∀ g x, side g x → side' g x) : StepSpec o S r ρ side' step :=
  fun g g' x inv hst => let ⟨a, b, c, d, e, f, s⟩ := h g g' x inv hst; ⟨a, b, c, d, e, f, hs g x s⟩

theorem downLoop_ok (o : Oracle) (g : Gen) (ρ : Nat) (hr : 1 ≤ g.nthRoot) :
    ∀ (fuel c : Nat) (g' : Gen) (x : Nat), LInv g.size g.nthRoot ρ g.next c →
      downLoop o g fuel c = (g', .ok x) →
      GInv g.size g.nthRoot ρ g' ∧ Found o g.size g.nthRoot ρ x ∧ g'.next = g.next ∧
      g'.prev ≤ c ∧ g'.prev < x ∧ x ≤ c := by
  intro fuel
  induction fuel with
  | zero => intro c g' x _ h; simp [downLoop] at h
  | succ fuel ih =>
    intro c g' x inv h
    rcases downLoop_succ_cases h with (h' | h') | ⟨hst, hge, ⟨hprime, h'⟩ | h'⟩
    · cases h'
    · cases h'
    · cases h'
      simp only [u64sub_eq _ _ hge inv.pp_lt]
      exact ⟨⟨rfl, rfl, inv.down hge⟩, ⟨hprime, inv.pp_mod, .inr ⟨inv.pp_le, hst⟩⟩, trivial,
        by omega, by omega, Nat.le_refl _⟩
    · rw [u64sub_eq _ _ hge inv.pp_lt] at h'
      obtain ⟨a1, a2, a3, a4, a5, a6⟩ := ih _ g' x (inv.down hge) h'.symm
      exact ⟨a1, a2, a3, by omega, a5, by omega⟩

theorem nextDown_stepSpec (o : Oracle) (fuel S r ρ : Nat) (hr : 1 ≤ r) :
    StepSpec o S r ρ below (nextDown o fuel) := by
  rintro g g' x ⟨rfl, rfl, inv⟩ h
  obtain ⟨a1, a2, a3, a4, a5, a6⟩ := downLoop_ok o g ρ hr fuel _ g' x inv h
  refine ⟨a1, a2, a4, by omega, a5, ?_, a6⟩
  have := inv.pp_le; have := inv.np_gt; omega

/-- the candidate never wraps: a candidate that is not stopped is below `2^(S+1)` -/
theorem upLoop_ok (o : Oracle) (hs : StopSound o) (g : Gen) (ρ : Nat) (hr : 1 ≤ g.nthRoot)
    (hroom : 2 ^ (g.size + 1) + g.nthRoot ≤ W) :
    ∀ (fuel c : Nat) (g' : Gen) (x : Nat), LInv g.size g.nthRoot ρ c g.prev →
      upLoop o g fuel c = (g', .ok x) →
      GInv g.size g.nthRoot ρ g' ∧ Found o g.size g.nthRoot ρ x ∧ g'.prev = g.prev ∧
      c ≤ x ∧ g'.next = x + g.nthRoot := by
  intro fuel
  induction fuel with
  | zero => intro c g' x _ h; simp [upLoop] at h
  | succ fuel ih =>
    intro c g' x inv h
    rcases upLoop_succ_cases h with (h' | h') | ⟨hstop, ⟨hprime, h'⟩ | h'⟩
    · cases h'
    · cases h'
    all_goals
      have hlt : c < 2 ^ (g.size + 1) := lt_of_sq_lt (hs.up _ _ hstop)
      have hadd : c + g.nthRoot < W := by omega
    · cases h'
      simp only [u64add_eq _ _ hadd]
      exact ⟨⟨rfl, rfl, inv.up hadd⟩, ⟨hprime, inv.np_mod, .inl ⟨inv.np_gt, hstop⟩⟩, trivial,
        Nat.le_refl _, trivial⟩
    · rw [u64add_eq _ _ hadd] at h'
      obtain ⟨a1, a2, a3, a4, a5⟩ := ih _ g' x (inv.up hadd) h'.symm
      exact ⟨a1, a2, a3, by omega, a5⟩

theorem nextUp_stepSpec (o : Oracle) (hs : StopSound o) (fuel S r ρ : Nat) (hr : 1 ≤ r)
    (hroom : 2 ^ (S + 1) + r ≤ W) : StepSpec o S r ρ above (nextUp o fuel) := by
  rintro g g' x ⟨rfl, rfl, inv⟩ h
  obtain ⟨a1, a2, a3, a4, a5⟩ := upLoop_ok o hs g ρ hr hroom fuel _ g' x inv h
  have := inv.pp_le; have := inv.np_gt
  exact ⟨a1, a2, by omega, by omega, by omega, by omega, a4⟩

theorem altUp_step (o : Oracle) {g : Gen} {ρ np pp : Nat} (cn : Bool) (inv : LInv g.size g.nthRoot ρ np pp) :
    LInv g.size g.nthRoot ρ (if altUp o g np cn then u64add np g.nthRoot else np) pp ∧
      np ≤ if altUp o g np cn then u64add np g.nthRoot else np := by
  cases hU : altUp o g np cn with
  | false => exact ⟨inv, Nat.le_refl _⟩
  | true =>
    have hadd : np + g.nthRoot < W := by have := (altUp_true hU).2.2; have := inv.np_pos; omega
    rw [if_pos rfl, u64add_eq _ _ hadd]
    exact ⟨inv.up hadd, by omega⟩

theorem altDown_step (o : Oracle) {g : Gen} {ρ np pp : Nat} (cp : Bool) (inv : LInv g.size g.nthRoot ρ np pp) :
    LInv g.size g.nthRoot ρ np (if altDown o g pp cp then u64sub pp g.nthRoot else pp) ∧
      (if altDown o g pp cp then u64sub pp g.nthRoot else pp) ≤ pp := by
  cases hD : altDown o g pp cp with
  | false => exact ⟨inv, Nat.le_refl _⟩
  | true =>
    have hge := (altDown_true hD).2.2
    rw [if_pos rfl, u64sub_eq _ _ hge inv.pp_lt]
    exact ⟨inv.down hge, by omega⟩

theorem altLoop_ok (o : Oracle) (g : Gen) (ρ : Nat) (hr : 1 ≤ g.nthRoot) :
    ∀ (fuel np pp : Nat) (cn cp : Bool) (g' : Gen) (x : Nat), LInv g.size g.nthRoot ρ np pp →
      altLoop o g fuel np pp cn cp = (g', .ok x) →
      GInv g.size g.nthRoot ρ g' ∧ Found o g.size g.nthRoot ρ x ∧
      g'.prev ≤ pp ∧ np ≤ g'.next ∧ g'.prev < x ∧ x < g'.next ∧ (x ≤ pp ∨ np ≤ x) := by
  intro fuel
  induction fuel with
  | zero => intro np pp cn cp g' x _ h; cases h
  | succ fuel ih =>
    intro np pp cn cp g' x inv h
    obtain ⟨inv1, hle1⟩ := altUp_step o cn inv
    obtain ⟨inv2, hle2⟩ := altDown_step o cp inv1
    rw [altLoop_succ] at h
    rcases ite_eq_iff.mp h with ⟨_, h⟩ | ⟨_, h⟩
    · cases h
    rcases ite_eq_iff.mp h with ⟨hup, h⟩ | ⟨_, h⟩
    · -- returned upstream
      obtain ⟨hU, hprime⟩ := Bool.and_eq_true_iff.mp hup
      have hadd : np + g.nthRoot < W := by have := (altUp_true hU).2.2; have := inv.np_pos; omega
      cases h
      simp only [u64add_eq _ _ hadd]
      exact ⟨⟨rfl, rfl, inv.up hadd⟩,
        ⟨hprime, inv.np_mod, .inl ⟨inv.np_gt, (altUp_true hU).2.1⟩⟩, Nat.le_refl _, by omega,
        by have := inv.pp_le; have := inv.np_gt; omega, by omega, Or.inr (Nat.le_refl _)⟩
    rcases ite_eq_iff.mp h with ⟨hdown, h⟩ | ⟨_, h⟩
    · -- returned downstream
      obtain ⟨hD, hprime⟩ := Bool.and_eq_true_iff.mp hdown
      have hge := (altDown_true hD).2.2
      cases h
      simp only [u64sub_eq _ _ hge inv.pp_lt]
      exact ⟨⟨rfl, rfl, inv1.down hge⟩,
        ⟨hprime, inv.pp_mod, .inr ⟨inv.pp_le, (altDown_true hD).2.1⟩⟩, by omega, hle1, by omega,
        by have := inv.pp_le; have := inv1.np_gt; omega, Or.inl (Nat.le_refl _)⟩
    · -- next iteration
      obtain ⟨a1, a2, a3, a4, a5, a6, a7⟩ := ih _ _ _ _ g' x inv2 h
      exact ⟨a1, a2, by omega, by omega, a5, a6, a7.imp (by omega) (by omega)⟩

theorem nextAlt_stepSpec (o : Oracle) (fuel S r ρ : Nat) (hr : 1 ≤ r) :
    StepSpec o S r ρ outside (nextAlt o fuel) := by
  rintro g g' x ⟨rfl, rfl, inv⟩ h
  exact altLoop_ok o g ρ hr fuel _ _ _ _ g' x inv h

/-- only the upstream direction asks anything of the oracle -/
theorem dirStep_stepSpec (o : Oracle) (fuel dir S r ρ : Nat) (hs : dir = 0 → StopSound o) (hr : 1 ≤ r)
    (hroom : 2 ^ (S + 1) + r ≤ W) : StepSpec o S r ρ outside (dirStep o fuel dir) := by
  rcases dirStep_cases o fuel dir with ⟨h0, h⟩ | h | h
  · rw [h]; exact (nextUp_stepSpec o (hs h0) fuel S r ρ hr hroom).mono fun _ _ => .inr
  · rw [h]; exact (nextDown_stepSpec o fuel S r ρ hr).mono fun _ _ => .inl
  · rw [h]; exact nextAlt_stepSpec o fuel S r ρ hr

/-- `nextPrimes_run` on the invariant `GInv`: `hR` says how a returned value relates to what lies on the side of the
    cursors after its step, `hside` that the sides shrink as the cursors move apart -/
theorem StepSpec.run {o : Oracle} {S r ρ : Nat} {side : Gen → Nat → Prop} {step : Gen → Gen × Res Nat}
    {R : Nat → Nat → Prop} (hstep : StepSpec o S r ρ side step)
    (hR : ∀ g x y, g.prev < x → x < g.next → side g y → R x y)
    (hside : ∀ g g' y, g'.prev ≤ g.prev → g.next ≤ g'.next → side g' y → side g y)
    (k : Nat) (g : Gen) (hg : GInv S r ρ g) :
    (∀ ps, (nextPrimes step k g).2 = .ok ps →
      ps.length = k ∧ (∀ x ∈ ps, Found o S r ρ x) ∧ ps.Pairwise R ∧ ∀ x ∈ ps, side g x) ∧
    ((nextPrimes step k g).2 = .panic → ∃ g₀, GInv S r ρ g₀ ∧ (step g₀).2 = .panic) ∧
    ((nextPrimes step k g).2 = .hang → ∃ g₀, GInv S r ρ g₀ ∧ (step g₀).2 = .hang) :=
  nextPrimes_run (fun g g' x inv hst =>
    let ⟨a, b, c, d, e, f, s⟩ := hstep g g' x inv hst
    ⟨a, b, s, fun y hy => ⟨hR g' x y e f hy, hside g g' y c d hy⟩⟩) k g _ _ hg rfl

theorem outside_shrinks (g g' : Gen) (y : Nat) (h1 : g'.prev ≤ g.prev) (h2 : g.next ≤ g'.next)
    (hy : outside g' y) : outside g y := by
  unfold outside at hy ⊢; omega

theorem newGen_next {S : Nat} (r : Nat) (hS : S ≤ 61) : (newGen S r).next = 2 ^ S + 1 := by
  have hpow : 2 ^ S ≤ 2 ^ 61 := Nat.pow_le_pow_right (by decide) hS
  show u64add (u64shl 1 S) 1 = _
  rw [u64shl_one_left _ (by omega), u64add_eq _ _ (by unfold W; omega)]

theorem newGen_prev {S r : Nat} (hS : S ≤ 61) (hr : r ≤ 2 ^ S) : (newGen S r).prev = 2 ^ S + 1 - r := by
  have hpow : 2 ^ S ≤ 2 ^ 61 := Nat.pow_le_pow_right (by decide) hS
  show u64sub (newGen S r).next r = _
  rw [newGen_next r hS, u64sub_eq _ _ (by omega) (by unfold W; omega)]

theorem newGen_inv {S r : Nat} (hS : S ≤ 61) (hr : 1 ≤ r) (hrS : r ≤ 2 ^ S) :
    GInv S r ((2 ^ S + 1) % r) (newGen S r) := by
  have hpow : 2 ^ S ≤ 2 ^ 61 := Nat.pow_le_pow_right (by decide) hS
  refine ⟨rfl, rfl, ?_⟩
  rw [newGen_prev hS hrS, newGen_next r hS]
  exact ⟨rfl, (Nat.mod_eq_sub_mod (by omega)).symm, by omega, by omega, by unfold W; omega⟩

theorem residue_one {S r : Nat} (hr : 2 ≤ r) (hd : r ∣ 2 ^ S) : (2 ^ S + 1) % r = 1 := by
  rw [Nat.add_mod, Nat.mod_eq_zero_of_dvd hd, Nat.zero_add, Nat.mod_mod, Nat.mod_eq_of_lt (by omega)]

/-- room for one more step above the window -/
theorem room_of_le {S r : Nat} (hS : S ≤ 61) (hrS : r ≤ 2 ^ S) : 2 ^ (S + 1) + r ≤ W := by
  have hpow : 2 ^ S ≤ 2 ^ 61 := Nat.pow_le_pow_right (by decide) hS
  rw [Nat.pow_succ]; unfold W; omega

theorem genPrimes_ok (o : Oracle) (hs : StopSound o) (fuel dir S r k : Nat) (hS : S ≤ 61) (hr : 2 ≤ r)
    (hd : r ∣ 2 ^ S) (ps : List Nat) (h : genPrimes o fuel dir S r k = .ok ps) :
    ps.length = k ∧ (∀ x ∈ ps, Good o S r 1 x) ∧ ps.Nodup := by
  have hrS : r ≤ 2 ^ S := Nat.le_of_dvd (Nat.two_pow_pos S) hd
  have hg := newGen_inv hS (by omega) hrS
  rw [residue_one hr hd] at hg
  have := ((dirStep_stepSpec o fuel dir S r 1 (fun _ => hs) (by omega) (room_of_le hS hrS)).run (R := (· ≠ ·))
    (fun g x y h1 h2 hy => by unfold outside at hy; omega) outside_shrinks k _ hg).1 ps h
  exact ⟨this.1, fun x hx => (this.2.1 x hx).good hs, this.2.2.1⟩

end Lattigo.Params
