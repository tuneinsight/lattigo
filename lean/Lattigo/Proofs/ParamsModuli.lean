/-
  C19 — `GenModuli` (core/rlwe/params.go) on top of the prime generator: the table of primes per requested size
  (`genAll`), its assignment to the requests (`assign`), what `GenModuli` returns when it returns, and termination
  of `GenModuli` and of the literal constructors.
-/
import Lattigo.Proofs.ParamsTerm

namespace Lattigo.Params
open Lattigo

/-- windows of different sizes are disjoint -/
theorem Good.size_unique {o : Oracle} {s s' r ρ ρ' x : Nat} (h : Good o s r ρ x) (h' : Good o s' r ρ' x) :
    s = s' := by
  have a : 2 ^ (2 * s) < 2 ^ (2 * s' + 2) := by
    have := h.lo; have := h'.hi
    have e : 2 ^ (2 * s' + 2) = 2 * 2 ^ (2 * s' + 1) := by rw [Nat.pow_succ]; ring
    omega
  have b : 2 ^ (2 * s') < 2 ^ (2 * s + 2) := by
    have := h'.lo; have := h.hi
    have e : 2 ^ (2 * s + 2) = 2 * 2 ^ (2 * s + 1) := by rw [Nat.pow_succ]; ring
    omega
  have a' := (Nat.pow_lt_pow_iff_right (by decide : 1 < 2)).mp a
  have b' := (Nat.pow_lt_pow_iff_right (by decide : 1 < 2)).mp b
  omega

/-- every entry of the table holds, for its size, as many distinct good primes as were requested -/
def TblOK (o : Oracle) (r : Nat) (cnt : Nat → Nat) (tbl : List (Nat × List Nat)) : Prop :=
  ∀ e ∈ tbl, e.2.length = cnt e.1 ∧ (∀ x ∈ e.2, Good o e.1 r 1 x) ∧ e.2.Nodup

theorem genAll_ok (o : Oracle) (hs : StopSound o) (fuel r : Nat) (req : List Nat) (hr : 2 ≤ r)
    (sizes : List Nat) (tbl : List (Nat × List Nat)) (hsz : ∀ s ∈ sizes, s ≤ 61 ∧ r ∣ 2 ^ s)
    (h : genAll o fuel r req sizes = .ok tbl) :
    tbl.map Prod.fst = sizes ∧ TblOK o r (fun s => req.count s) tbl := by
  obtain ⟨t1, t2⟩ := (genAll_run o fuel r req sizes _ h).1 tbl rfl
  refine ⟨t1, fun e he => ?_⟩
  have hmem : e.1 ∈ sizes := t1 ▸ List.mem_map_of_mem he
  exact genPrimes_ok o hs fuel _ e.1 r _ (hsz _ hmem).1 hr (hsz _ hmem).2 e.2 (t2 e he)

theorem lookupSize_eq (tbl : List (Nat × List Nat)) (s : Nat) :
    (∃ e ∈ tbl, e.1 = s ∧ lookupSize tbl s = e.2) ∨ (s ∉ tbl.map Prod.fst ∧ lookupSize tbl s = []) := by
  unfold lookupSize
  cases hf : tbl.find? (fun e => e.1 == s) with
  | none =>
    refine .inr ⟨fun hmem => ?_, rfl⟩
    obtain ⟨e, he, hes⟩ := List.mem_map.mp hmem
    simpa [hes] using List.find?_eq_none.mp hf e he
  | some e => exact .inl ⟨e, List.mem_of_find?_eq_some hf, by simpa using List.find?_some hf, rfl⟩

theorem lookupSize_ok {o : Oracle} {r : Nat} {cnt : Nat → Nat} {tbl : List (Nat × List Nat)} {s : Nat}
    (hmem : s ∈ tbl.map Prod.fst) (htbl : TblOK o r cnt tbl) :
    (lookupSize tbl s).length = cnt s ∧ (∀ x ∈ lookupSize tbl s, Good o s r 1 x) ∧
    (lookupSize tbl s).Nodup := by
  rcases lookupSize_eq tbl s with ⟨e, he, rfl, h⟩ | ⟨hn, -⟩
  · rw [h]
    exact htbl e he
  · exact absurd hmem hn

/-- the requests receive good primes of their sizes, all distinct; the third part (every assigned value is an entry not
    yet used for its size) is what carries distinctness through the induction -/
theorem assign_spec (o : Oracle) (r : Nat) (cnt : Nat → Nat) (tbl : List (Nat × List Nat))
    (htbl : TblOK o r cnt tbl) :
    ∀ (rest seen : List Nat), (∀ s ∈ rest, s ∈ tbl.map Prod.fst) →
      (∀ s, seen.count s + rest.count s ≤ cnt s) →
      List.Forall₂ (fun s x => Good o s r 1 x) rest (assign tbl seen rest) ∧
      (assign tbl seen rest).Nodup ∧
      ∀ y ∈ assign tbl seen rest, ∃ s k, ∃ hk : k < (lookupSize tbl s).length,
        seen.count s ≤ k ∧ y = (lookupSize tbl s)[k] := by
  intro rest
  induction rest with
  | nil => intro seen _ _; simp [assign]
  | cons s rest ih =>
    intro seen hkeys hcnt
    obtain ⟨l1, l2, l3⟩ := lookupSize_ok (hkeys s (List.mem_cons_self ..)) htbl
    have hlt : seen.count s < (lookupSize tbl s).length := by
      have := hcnt s
      simp only [List.count_cons_self] at this
      omega
    have hcnt' : ∀ t, (s :: seen).count t + rest.count t ≤ cnt t := by
      intro t
      have := hcnt t
      simp only [List.count_cons] at this ⊢
      omega
    obtain ⟨i1, i2, i3⟩ := ih (s :: seen) (fun t ht => hkeys t (List.mem_cons_of_mem _ ht)) hcnt'
    unfold assign
    rw [← List.getElem_eq_getD (h := hlt) 0]
    refine ⟨List.Forall₂.cons (l2 _ (List.getElem_mem hlt)) i1, ?_, ?_⟩
    · refine List.nodup_cons.mpr ⟨?_, i2⟩
      intro hmem
      obtain ⟨s', k, hk, hle, hy⟩ := i3 _ hmem
      have hg1 : Good o s r 1 ((lookupSize tbl s)[seen.count s]) := l2 _ (List.getElem_mem hlt)
      have hs' : s' ∈ tbl.map Prod.fst := by
        rcases lookupSize_eq tbl s' with ⟨e, he, rfl, -⟩ | ⟨-, h0⟩
        · exact List.mem_map.mpr ⟨e, he, rfl⟩
        · rw [h0] at hk
          simp at hk
      obtain ⟨m1, m2, m3⟩ := lookupSize_ok hs' htbl
      have hg2 : Good o s' r 1 ((lookupSize tbl s)[seen.count s]) := by
        rw [hy]; exact m2 _ (List.getElem_mem hk)
      have hss : s = s' := hg1.size_unique hg2
      subst hss
      have hidx : seen.count s = k := (List.Nodup.getElem_inj_iff l3).mp hy
      simp only [List.count_cons_self] at hle
      omega
    · intro y hy
      rcases List.mem_cons.mp hy with rfl | hy
      · exact ⟨s, seen.count s, hlt, Nat.le_refl _, rfl⟩
      · obtain ⟨s', k, hk, hle, hy'⟩ := i3 y hy
        refine ⟨s', k, hk, ?_, hy'⟩
        have : seen.count s' ≤ (s :: seen).count s' := by
          simp only [List.count_cons]; omega
        omega

theorem requested_sizes {L : Int} {logQ logP : List Int} (hsz : checkModuliLogSize logQ logP = none)
    (hab : checkSizesAboveRoot L logQ logP = none) :
    ∀ t ∈ logQ.map Int.toNat ++ logP.map Int.toNat, t ≤ 61 ∧ L.toNat ≤ t := by
  obtain ⟨szQ, szP⟩ := checkModuliLogSize_eq_none_iff.mp hsz
  have hroot := checkSizesAboveRoot_eq_none_iff.mp hab
  intro t ht
  rw [← List.map_append] at ht
  obtain ⟨s, hs, rfl⟩ := List.mem_map.mp ht
  have := hroot s hs
  rcases List.mem_append.mp hs with hs | hs
  · have := szQ s hs; omega
  · have := szP s hs; omega

/-- `5`, `22` are `MinLogN + 1`, `MaxLogN + 2`; that no size lies below the root order (needed for the residue `1`) is
    enforced by the code (`requested_sizes`) -/
theorem genModuli_ok (o : Oracle) (hs : StopSound o) (fuel : Nat) (L : Int) (logQ logP : List Int)
    (q p : List Nat) (h : genModuli o fuel L logQ logP = .ok (q, p)) :
    5 ≤ L ∧ L ≤ 22 ∧
    List.Forall₂ (fun s x => Good o s.toNat (2 ^ L.toNat) 1 x) logQ q ∧
    List.Forall₂ (fun s x => Good o s.toNat (2 ^ L.toNat) 1 x) logP p ∧
    (q ++ p).Nodup := by
  rcases genModuli_cases h _ rfl with ⟨c, hc⟩ | ⟨hL5, hL22, hsz, habove, ⟨-, hc⟩ | ⟨-, hc⟩ | ⟨tbl, hgen, hc⟩⟩
  · cases hc
  · cases hc
  · cases hc
  · obtain ⟨hq, hp⟩ := Prod.mk.inj (Res.ok.inj hc.symm)
    have hr2 : 2 ≤ 2 ^ L.toNat := by
      have : 2 ^ 1 ≤ 2 ^ L.toNat := Nat.pow_le_pow_right (by decide) (by omega)
      simpa using this
    have hreq : ∀ t ∈ List.map Int.toNat logQ ++ List.map Int.toNat logP,
        t ≤ 61 ∧ 2 ^ L.toNat ∣ 2 ^ t :=
      fun t ht => ((requested_sizes hsz habove) t ht).imp_right (Nat.pow_dvd_pow 2)
    obtain ⟨t1, t2⟩ := genAll_ok o hs fuel _ _ hr2 _ tbl
      (fun s hs => hreq s (List.mem_eraseDups.mp hs)) hgen
    obtain ⟨a1, a2, _⟩ := assign_spec o _ _ tbl t2
      (List.map Int.toNat logQ ++ List.map Int.toNat logP) []
      (fun s hs => by rw [t1]; exact List.mem_eraseDups.mpr hs)
      (fun s => by simp)
    refine ⟨hL5, hL22, ?_, ?_, ?_⟩
    · rw [← hq]
      have := List.forall₂_take (List.map Int.toNat logQ).length a1
      rw [List.take_left'] at this
      · exact (List.forall₂_map_left_iff).mp this
      · rfl
    · rw [← hp]
      have := List.forall₂_drop (List.map Int.toNat logQ).length a1
      rw [List.drop_left'] at this
      · exact (List.forall₂_map_left_iff).mp this
      · rfl
    · rw [← hq, ← hp, List.take_append_drop]
      exact a2

/-- no size asks for the upstream direction (`genForSize`), so nothing is asked of the oracle -/
theorem genAll_ne_hang (o : Oracle) (fuel r : Nat) (req : List Nat)
    (hr : 1 ≤ r) (hf : 2 ^ 65 ≤ fuel) (sizes : List Nat) (hs : ∀ s ∈ sizes, s ≤ 61 ∧ r ≤ 2 ^ s) :
    genAll o fuel r req sizes ≠ .hang := fun h =>
  have ⟨s, hmem, hg⟩ := (genAll_run o fuel r req sizes _ rfl).2.2 h
  genPrimes_ne_hang o fuel _ s r _ (fun h0 => by split at h0 <;> cases h0) hr (hs s hmem).1 (hs s hmem).2 hf hg

theorem genModuli_ne_hang (o : Oracle) (fuel : Nat) (hf : 2 ^ 65 ≤ fuel)
    (l : Int) (logQ logP : List Int) : genModuli o fuel l logQ logP ≠ .hang := by
  intro h
  rcases genModuli_cases h _ rfl with ⟨c, hc'⟩ | ⟨hL, -, hsz, hab, ⟨-, hc'⟩ | ⟨hg, -⟩ | ⟨tbl, -, hc'⟩⟩
  · cases hc'
  · cases hc'
  · exact genAll_ne_hang o fuel _ _ (Nat.one_le_two_pow) hf _ (fun s hs =>
      ((requested_sizes hsz hab) s (List.mem_eraseDups.mp hs)).imp_right (Nat.pow_le_pow_right (by decide))) hg
  · cases hc'

theorem newParametersFromLiteral_ne_hang (o : Oracle) (fuel : Nat)
    (hf : 2 ^ 65 ≤ fuel) (lit : Literal) : newParametersFromLiteral o fuel lit ≠ .hang := by
  intro h
  rcases newParametersFromLiteral_cases h with ⟨_, hc'⟩ | ⟨_, _, hc'⟩ | ⟨_, hg, _⟩ | ⟨q, p, hc'⟩
  · cases hc'
  · cases hc'
  · exact genModuli_ne_hang o fuel hf _ _ _ hg
  · rcases newParameters_total o lit.logN q p lit.ringType lit.xsWeight0 lit.xeStd0 with ⟨a, ha⟩ | ⟨c, ha⟩ <;>
      rw [ha] at hc' <;> cases hc'

end Lattigo.Params
