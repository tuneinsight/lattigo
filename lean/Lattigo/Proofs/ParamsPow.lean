/-
  C19 — `powModFast` (the executable square-and-multiply behind `GaloisElement` and `ModInvGaloisElement` of the
  parameter model) is one more transcription of `ring.ModExp`: an instance of `SqMul`, hence `x^e mod m`.
-/
import Lattigo.Model.Params
import Lattigo.Proofs.SqMul

namespace Lattigo.Params
open Lattigo

theorem powModFast_sqMul (m : Nat) : SqMul m fun f e x r => powModFast.go m f x e r where
  out _ _ _ := rfl
  stop f _ _ := by cases f <;> simp [powModFast.go]
  step f e x r h := by simp [powModFast.go, h]

/-- `m = 0` included: nothing is reduced -/
theorem powModFast_eq (x e m : Nat) : powModFast x e m = powMod x e m := by
  have he : e < 2 ^ (e.log2 + 2) :=
    Nat.lt_of_lt_of_le Nat.lt_log2_self (Nat.pow_le_pow_right (by decide) (by omega))
  unfold powModFast powMod
  rcases Nat.eq_zero_or_pos m with rfl | hm
  · simpa using (powModFast_sqMul 0).mod_eq _ e x 1 he
  · exact (powModFast_sqMul m).eq_pow_mod hm _ e x he

end Lattigo.Params
