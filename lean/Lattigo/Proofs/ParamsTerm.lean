/-
  C19 — termination of the prime generator (fixes C19-3/C19-4): with enough fuel no loop of the generator and no
  direction of `genPrimes` ends in `hang`.  The downstream loop counts down to the root order and the alternating loop
  is bounded by its overflow guard, whatever the oracle answers; only the upstream loop relies on its stop test firing
  outside the half-bit window (`StopComplete`, which says the same as `StopSound`).  The loops are followed on the
  invariant `GInv` of `ParamsGen.lean`.  (`GenModuli` and the literal constructors: `ParamsModuli.lean`.)
-/
import Lattigo.Proofs.ParamsGen
import Lattigo.Proofs.Params

namespace Lattigo.Params
open Lattigo

theorem u64sub_lt (a b : Nat) : u64sub a b < W := Nat.mod_lt _ (by decide)

/-- the two float tests fire (at the latest) outside the half-bit window -/
structure StopComplete (o : Oracle) : Prop where
  up : ∀ S c, 2 ^ (2 * S + 1) ≤ c * c → o.stopUp S c = true
  down : ∀ S c, 2 * (c * c) ≤ 2 ^ (2 * S) → o.stopDown S c = true

/-- each field of `StopComplete` is the contrapositive of the same field of `StopSound` -/
theorem stopSound_iff_stopComplete (o : Oracle) : StopSound o ↔ StopComplete o := by
  constructor
  · intro h
    refine ⟨fun S c hc => ?_, fun S c hc => ?_⟩
    · cases hb : o.stopUp S c with
      | true => rfl
      | false => exact absurd (h.up S c hb) (Nat.not_lt.mpr hc)
    · cases hb : o.stopDown S c with
      | true => rfl
      | false => exact absurd (h.down S c hb) (Nat.not_lt.mpr hc)
  · intro h
    refine ⟨fun S c hb => Nat.lt_of_not_le fun hn => ?_, fun S c hb => Nat.lt_of_not_le fun hn => ?_⟩
    · rw [h.up S c hn] at hb; cases hb
    · rw [h.down S c hn] at hb; cases hb

theorem exactOracle_stopComplete : StopComplete exactOracle := by
  exact (stopSound_iff_stopComplete _).mp exactOracle_stopSound

/-- the termination measure of `NextAlternatingPrime`: the room of the upstream cursor below `2^64` (the overflow guard
    `np > 2^64 − 1 − r` disables that half before it wraps), the downstream cursor, and one for each half still enabled -/
def altMeasure (np pp : Nat) (cn cp : Bool) : Nat := (W - np) + pp + cn.toNat + cp.toNat

/-- one iteration lowers the upstream part of the measure by one if that half was enabled -/
theorem altUp_measure (o : Oracle) {g : Gen} (hr : 1 ≤ g.nthRoot) (hrW : g.nthRoot < W) (np : Nat) (cn : Bool) :
    (W - (if altUp o g np cn then u64add np g.nthRoot else np)) + (altUp o g np cn).toNat + cn.toNat
      ≤ (W - np) + cn.toNat := by
  cases hU : altUp o g np cn with
  | false => cases cn <;> simp
  | true =>
    obtain ⟨rfl, -, hle⟩ := altUp_true hU
    rw [if_pos rfl, u64add_eq _ _ (by omega)]
    simp only [Bool.toNat_true]
    omega

theorem altDown_measure (o : Oracle) {g : Gen} (hr : 1 ≤ g.nthRoot) {pp : Nat} (hpp : pp < W) (cp : Bool) :
    (if altDown o g pp cp then u64sub pp g.nthRoot else pp) + (altDown o g pp cp).toNat + cp.toNat
      ≤ pp + cp.toNat := by
  cases hD : altDown o g pp cp with
  | false => cases cp <;> simp
  | true =>
    obtain ⟨rfl, -, hge⟩ := altDown_true hD
    rw [if_pos rfl, u64sub_eq _ _ hge hpp]
    simp only [Bool.toNat_true]
    omega

theorem altLoop_ne_hang (o : Oracle) (g : Gen) (hr : 1 ≤ g.nthRoot) (hrW : g.nthRoot < W) :
    ∀ (fuel np pp : Nat) (cn cp : Bool), pp < W → altMeasure np pp cn cp < fuel →
      (altLoop o g fuel np pp cn cp).2 ≠ .hang := by
  intro fuel
  induction fuel with
  | zero => intro np pp cn cp _ h; omega
  | succ fuel ih =>
    intro np pp cn cp hpp hm
    generalize hres : altLoop o g (fuel + 1) np pp cn cp = res
    rw [altLoop_succ] at hres
    rcases ite_eq_iff.mp hres with ⟨_, rfl⟩ | ⟨hany, hres⟩
    · nofun
    rcases ite_eq_iff.mp hres with ⟨_, rfl⟩ | ⟨_, hres⟩
    · nofun
    rcases ite_eq_iff.mp hres with ⟨_, rfl⟩ | ⟨_, hres⟩
    · nofun
    rw [← hres]
    apply ih
    · split
      · exact u64sub_lt _ _
      · exact hpp
    · unfold altMeasure at hm ⊢
      have hU := altUp_measure o hr hrW np cn
      have hD := altDown_measure o hr hpp cp
      have hany' : 1 ≤ cn.toNat + cp.toNat := by
        cases cn <;> cases cp <;> simp at hany ⊢
      omega

/-- `NextAlternatingPrime` terminates, for every oracle: the measure starts below `2^64 + 2^61 + 2` -/
theorem nextAlt_ne_hang (o : Oracle) {S r ρ : Nat} {g : Gen} (hg : GInv S r ρ g) (hr : 1 ≤ r) (hS : S ≤ 61)
    (hrS : r ≤ 2 ^ S) (fuel : Nat) (hf : 2 ^ 65 ≤ fuel) : (nextAlt o fuel g).2 ≠ .hang := by
  obtain ⟨rfl, rfl, inv⟩ := hg
  have hpow : 2 ^ g.size ≤ 2 ^ 61 := Nat.pow_le_pow_right (by decide) hS
  have := inv.pp_le
  refine altLoop_ne_hang o g hr (by unfold W; omega) fuel _ _ _ _ inv.pp_lt ?_
  unfold altMeasure
  have := Bool.toNat_le g.checkNext
  have := Bool.toNat_le g.checkPrev
  unfold W at *
  omega

theorem downLoop_ne_hang (o : Oracle) (g : Gen) (hr : 1 ≤ g.nthRoot) :
    ∀ (fuel c : Nat), c < W → c + 1 < fuel → (downLoop o g fuel c).2 ≠ .hang := by
  intro fuel
  induction fuel with
  | zero => intro c _ h; omega
  | succ fuel ih =>
    intro c hc hm
    rcases downLoop_succ_cases (rfl : downLoop o g (fuel + 1) c = _) with (h | h) | ⟨-, hge, ⟨-, h⟩ | h⟩
    · rw [h]; nofun
    · rw [h]; nofun
    · rw [h]; nofun
    · rw [h, u64sub_eq _ _ hge hc]
      exact ih _ (by omega) (by omega)

theorem upLoop_ne_hang (o : Oracle) (hs : StopSound o) (g : Gen) (hr : 1 ≤ g.nthRoot)
    (hroom : 2 ^ (g.size + 1) + g.nthRoot ≤ W) :
    ∀ (fuel c : Nat), (2 ^ (g.size + 1) - c) + 1 < fuel → (upLoop o g fuel c).2 ≠ .hang := by
  intro fuel
  induction fuel with
  | zero => intro c hm; omega
  | succ fuel ih =>
    intro c hm
    rcases upLoop_succ_cases (rfl : upLoop o g (fuel + 1) c = _) with (h | h) | ⟨hstop, ⟨-, h⟩ | h⟩
    · rw [h]; nofun
    · rw [h]; nofun
    · rw [h]; nofun
    · have hlt := lt_of_sq_lt (hs.up _ _ hstop)
      rw [h, u64add_eq _ _ (by omega)]
      exact ih _ (by omega)

/-- only the upstream direction asks anything of the oracle -/
theorem dirStep_ne_hang (o : Oracle) (fuel dir S r ρ : Nat) (hs : dir = 0 → StopSound o) (hr : 1 ≤ r) (hS : S ≤ 61)
    (hrS : r ≤ 2 ^ S) (hf : 2 ^ 65 ≤ fuel) (g : Gen) (hg : GInv S r ρ g) : (dirStep o fuel dir g).2 ≠ .hang := by
  have hpow : 2 ^ S ≤ 2 ^ 61 := Nat.pow_le_pow_right (by decide) hS
  have hpow1 : 2 ^ (S + 1) = 2 * 2 ^ S := by rw [Nat.pow_succ]; omega
  rcases dirStep_cases o fuel dir with ⟨h0, h⟩ | h | h
  · obtain ⟨rfl, rfl, -⟩ := hg
    rw [h]; exact upLoop_ne_hang o (hs h0) g hr (room_of_le hS hrS) fuel _ (by omega)
  · obtain ⟨rfl, rfl, inv⟩ := hg
    have := inv.pp_le
    rw [h]; exact downLoop_ne_hang o g hr fuel _ inv.pp_lt (by omega)
  · rw [h]; exact nextAlt_ne_hang o hg hr hS hrS fuel hf

/-- every direction of the generator terminates: a hang of `genPrimes` would be that of a step taken from a state
    with the invariant (`StepSpec.run`), and there is none (`dirStep_ne_hang`) -/
theorem genPrimes_ne_hang (o : Oracle) (fuel dir S r k : Nat) (hc : dir = 0 → StopComplete o) (hr : 1 ≤ r)
    (hS : S ≤ 61) (hrS : r ≤ 2 ^ S) (hf : 2 ^ 65 ≤ fuel) : genPrimes o fuel dir S r k ≠ .hang := by
  have hs : dir = 0 → StopSound o := fun h0 => (stopSound_iff_stopComplete o).mpr (hc h0)
  intro h
  obtain ⟨g₀, hg₀, h₀⟩ := ((dirStep_stepSpec o fuel dir S r _ hs hr (room_of_le hS hrS)).run
    (R := fun _ _ => True) (fun _ _ _ _ _ _ => trivial) outside_shrinks k _ (newGen_inv hS hr hrS)).2.2 h
  exact dirStep_ne_hang o fuel dir S r _ hs hr hS hrS hf g₀ hg₀ h₀

end Lattigo.Params
