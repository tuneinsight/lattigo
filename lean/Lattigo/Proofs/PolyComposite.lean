/-
  C13 — bookkeeping of the composite circuits: the number of compression steps of
  `inverse.IntervalNormalization`, the Goldschmidt iteration.
-/
import Lattigo.Proofs.PolyEvalRun
import Mathlib.Tactic.Ring

namespace Lattigo.Model.PolyEval

/-- `n` compression steps by the factor 2.45 cover `2^(num/den)`: `2.45^n ≥ 2^(num/den)` -/
def Covers (num den n : Nat) : Prop := 245 ^ (n * den) ≥ 2 ^ num * 100 ^ (n * den)

instance (num den n : Nat) : Decidable (Covers num den n) := by unfold Covers; infer_instance

theorem normItersLoop_spec (num den : Nat) (fuel : Nat) : ∀ n, (∀ m < n, ¬ Covers num den m) →
    (∃ k, n ≤ k ∧ k ≤ n + fuel ∧ Covers num den k) →
    Covers num den (normItersLoop num den fuel n) ∧ ∀ m < normItersLoop num den fuel n, ¬ Covers num den m := by
  induction fuel with
  | zero =>
    intro n hmin ⟨k, hk1, hk2, hk⟩
    have : k = n := by omega
    subst this
    simp only [normItersLoop]
    exact ⟨hk, hmin⟩
  | succ fuel ih =>
    intro n hmin ⟨k, hk1, hk2, hk⟩
    rw [normItersLoop]
    by_cases hc : 245 ^ (n * den) ≥ 2 ^ num * 100 ^ (n * den)
    · rw [if_pos hc]; exact ⟨hc, hmin⟩
    · rw [if_neg hc]
      apply ih (n + 1)
      · intro m hm
        by_cases h : m = n
        · subst h; exact hc
        · exact hmin m (by omega)
      · refine ⟨k, ?_, by omega, hk⟩
        by_contra h
        have : k = n := by omega
        subst this
        exact hc hk

/-- `num` steps always cover (`2.45 > 2`) -/
theorem covers_num (num den : Nat) (hden : 1 ≤ den) : Covers num den num := by
  unfold Covers
  calc 2 ^ num * 100 ^ (num * den) ≤ 2 ^ (num * den) * 100 ^ (num * den) :=
        Nat.mul_le_mul_right _ (Nat.pow_le_pow_right (by decide) (Nat.le_mul_of_pos_right num hden))
    _ = 200 ^ (num * den) := by rw [← Nat.mul_pow]
    _ ≤ 245 ^ (num * den) := Nat.pow_le_pow_left (by decide) _

theorem goldschmidt_spec {R : Type} [CommRing R] (x : R) (k : Nat) :
    x * (goldschmidt (ringOps R) x k).1 = 1 - (1 - x) ^ (2 ^ (k + 1)) ∧
    (goldschmidt (ringOps R) x k).2 = (1 - x) ^ (2 ^ k) := by
  induction k with
  | zero =>
    simp only [goldschmidt, ringOps]
    constructor
    · push_cast; ring
    · push_cast; ring
  | succ k ih =>
    obtain ⟨h1, h2⟩ := ih
    have hb : (goldschmidt (ringOps R) x (k + 1)).2 = (1 - x) ^ (2 ^ (k + 1)) := by
      show (goldschmidt (ringOps R) x k).2 * (goldschmidt (ringOps R) x k).2 = _
      rw [h2, ← pow_add]; congr 1; ring
    refine ⟨?_, hb⟩
    have ha : (goldschmidt (ringOps R) x (k + 1)).1 =
        (goldschmidt (ringOps R) x k).1 + (goldschmidt (ringOps R) x k).1 * (goldschmidt (ringOps R) x (k + 1)).2 := rfl
    rw [ha, hb, mul_add, ← mul_assoc, h1]
    have : (1 - x) ^ (2 ^ (k + 1 + 1)) = ((1 - x) ^ (2 ^ (k + 1))) ^ 2 := by
      rw [← pow_mul]; congr 1
    rw [this]; ring

end Lattigo.Model.PolyEval
