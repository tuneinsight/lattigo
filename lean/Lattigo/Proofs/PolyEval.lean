/-
  C13 — lemmas about `Lattigo.Model.PolyEval`: SplitDegree, the power basis (monomial and Chebyshev),
  the monomial factorisation, the Paterson–Stockmeyer recursion, depth arithmetic.
-/
import Lattigo.Model.PolyEval
import Lattigo.Proofs.BitLen
import Lattigo.Proofs.ListLemmas
import Mathlib.RingTheory.Polynomial.Chebyshev
import Mathlib.Tactic.Ring
import Mathlib.Tactic.Linarith

namespace Lattigo.Model.PolyEval

def ringOps (R : Type) [CommRing R] : ValOps R :=
  { add := (· + ·), sub := (· - ·), mul := (· * ·), ofNat := fun n => (n : R) }

theorem intOps_eq : intOps = ringOps Int := rfl

theorem isPow2_iff (n : Nat) : isPow2 n = true ↔ n ≠ 0 ∧ 2 ^ Nat.log2 n = n := by
  simp [isPow2]

theorem bitLen_pos (d : Nat) (hd : 1 ≤ d) : bitLen d = Nat.log2 d + 1 := by
  simp [bitLen, Nat.ne_of_gt hd]

theorem splitDegree_between {k n : Nat} (h1 : 2 ^ k < n) (h2 : n < 2 ^ (k + 1)) :
    splitDegree n = (2 ^ k - 1, n + 1 - 2 ^ k) ∧ isPow2 n = false := by
  have hp : isPow2 n = false := by
    rw [Bool.eq_false_iff, Ne, isPow2_iff, (Nat.log2_eq_iff (by omega)).2 ⟨by omega, h2⟩]
    omega
  have hl : Nat.log2 (n - 1) = k := (Nat.log2_eq_iff (by omega)).2 ⟨by omega, by omega⟩
  unfold splitDegree
  rw [hp, if_neg Bool.false_ne_true, bitLen_pos _ (by omega), hl, Nat.add_sub_cancel]
  exact ⟨rfl, rfl⟩

theorem splitDegree_two_pow (k : Nat) : splitDegree (2 ^ (k + 1)) = (2 ^ k, 2 ^ k) := by
  have hp : isPow2 (2 ^ (k + 1)) = true := by
    rw [isPow2_iff, Nat.log2_two_pow]
    exact ⟨by positivity, rfl⟩
  unfold splitDegree
  rw [if_pos hp, pow_succ, Nat.mul_div_cancel _ (by decide : 0 < 2)]

theorem exists_pow_lt (n : Nat) (hn : 2 ≤ n) : ∃ k, 2 ^ k < n ∧ n ≤ 2 ^ (k + 1) := by
  obtain ⟨h1, h2⟩ := (Nat.log2_eq_iff (n := n - 1) (by omega)).1 rfl
  exact ⟨Nat.log2 (n - 1), by omega, by omega⟩

theorem splitDegree_spec (n : Nat) (hn : 2 ≤ n) :
    (splitDegree n).1 + (splitDegree n).2 = n ∧ 1 ≤ (splitDegree n).1 ∧ 1 ≤ (splitDegree n).2 := by
  obtain ⟨k, h1, h2⟩ := exists_pow_lt n hn
  have hk := Nat.one_le_two_pow (n := k)
  rcases Nat.lt_or_eq_of_le h2 with h | rfl
  · have h2k : 2 ≤ 2 ^ k := by
      rcases k with _ | k
      · norm_num at h1 h; omega
      · rw [pow_succ]; have := Nat.one_le_two_pow (n := k); omega
    rw [(splitDegree_between h1 h).1]
    rw [pow_succ] at h
    simp only
    omega
  · rw [splitDegree_two_pow, pow_succ]
    omega

section
variable {R : Type} [CommRing R]

/-- one induction for both bases: `P` is `x^·` resp. `T_·(x)`, `hrec` the recurrence by which `genPower` combines the
    two parts of `SplitDegree` -/
theorem powVal_eq (cheb : Bool) (x : R) (P : Nat → R) (h0 : P 0 = 1) (hx : P 1 = x)
    (hrec : ∀ a b, 1 ≤ a → 1 ≤ b → P (a + b) =
      if cheb then 2 * (P a * P b) - P (if a ≥ b then a - b else b - a) else P a * P b)
    (fuel n : Nat) (h : n ≤ fuel) (h1 : 1 ≤ fuel) : powVal (ringOps R) cheb x fuel n = P n := by
  induction fuel using Nat.strong_induction_on generalizing n with
  | _ fuel ih =>
    cases fuel with
    | zero => omega
    | succ f =>
      unfold powVal
      by_cases hn0 : n = 0
      · simp [hn0, ringOps, h0]
      · by_cases hone : n = 1
        · simp [hone, hx]
        · rw [if_neg hn0, if_neg hone]
          obtain ⟨hs, ha, hb⟩ := splitDegree_spec n (by omega)
          simp only []
          rw [ih f (by omega) _ (by omega) (by omega), ih f (by omega) _ (by omega) (by omega),
            ih f (by omega) _ (by split <;> omega) (by omega)]
          conv_rhs => rw [← hs, hrec _ _ ha hb]
          cases cheb <;> simp [ringOps]

theorem powVal_monomial (x : R) (fuel n : Nat) (h : n ≤ fuel) (h1 : 1 ≤ fuel) :
    powVal (ringOps R) false x fuel n = x ^ n :=
  powVal_eq false x (x ^ ·) (pow_zero x) (pow_one x) (fun a b _ _ => pow_add x a b) fuel n h h1

open Polynomial in
theorem eval_T_mul_T (x : R) {a b : ℕ} (h : b ≤ a) :
    2 * (Chebyshev.T R (a : ℤ)).eval x * (Chebyshev.T R (b : ℤ)).eval x
      = (Chebyshev.T R ((a + b : ℕ) : ℤ)).eval x + (Chebyshev.T R ((a - b : ℕ) : ℤ)).eval x := by
  have key := congrArg (Polynomial.eval x) (Chebyshev.T_mul_T R (a : ℤ) (b : ℤ))
  simpa [Nat.cast_sub h] using key

open Polynomial in
theorem powVal_chebyshev (x : R) (fuel n : Nat) (h : n ≤ fuel) (h1 : 1 ≤ fuel) :
    powVal (ringOps R) true x fuel n = (Chebyshev.T R (n : ℤ)).eval x := by
  refine powVal_eq true x (fun n => (Chebyshev.T R (n : ℤ)).eval x) (by simp) (by simp) ?_ fuel n h h1
  intro a b _ _
  simp only [if_true]
  split
  · rename_i hge
    linear_combination -(eval_T_mul_T x hge)
  · rename_i hlt
    rw [add_comm a b]
    linear_combination -(eval_T_mul_T x (a := b) (b := a) (by omega))

theorem evalFrom_append (cheb : Bool) (x : R) (k : Nat) (l1 l2 : List R) :
    evalFrom (ringOps R) cheb x k (l1 ++ l2)
      = evalFrom (ringOps R) cheb x k l1 + evalFrom (ringOps R) cheb x (k + l1.length) l2 := by
  induction l1 generalizing k with
  | nil => simp [evalFrom, ringOps]
  | cons c cs ih =>
    simp only [List.cons_append, evalFrom, List.length_cons]
    rw [ih (k + 1)]
    simp only [ringOps]
    have : k + 1 + cs.length = k + (cs.length + 1) := by omega
    rw [this]; ring

theorem evalFrom_shift_monomial (x : R) (k n : Nat) (l : List R) :
    evalFrom (ringOps R) false x (k + n) l = evalFrom (ringOps R) false x k l * x ^ n := by
  induction l generalizing k with
  | nil => simp [evalFrom, ringOps]
  | cons c cs ih =>
    simp only [evalFrom]
    have : k + n + 1 = (k + 1) + n := by omega
    rw [this, ih (k + 1)]
    rw [powVal_monomial x _ _ (by omega) (by omega), powVal_monomial x _ _ (by omega) (by omega)]
    simp only [ringOps]
    rw [pow_add]; ring

theorem factorize_monomial (x : R) (n : Nat) (p : List R) :
    evalBasis (ringOps R) false x p
      = evalBasis (ringOps R) false x (factorize (ringOps R) false n p).1 * x ^ n
        + evalBasis (ringOps R) false x (factorize (ringOps R) false n p).2
    ∧ (factorize (ringOps R) false n p).2.length ≤ n := by
  simp only [factorize, Bool.not_false, if_true, evalBasis]
  refine ⟨?_, by simp⟩
  conv_lhs => rw [← List.take_append_drop n p]
  rw [evalFrom_append]
  by_cases hn : n ≤ p.length
  · rw [List.length_take, Nat.min_eq_left hn]
    have := evalFrom_shift_monomial x 0 n (p.drop n)
    rw [this]; ring
  · have hd : p.drop n = [] := List.drop_eq_nil_of_le (by omega)
    rw [hd]
    simp [evalFrom, ringOps]

/-- Paterson–Stockmeyer reduced to the factorisation identity of the basis -/
theorem psRec_of_factorize (cheb : Bool) (logSplit : Nat) (x : R)
    (hfac : ∀ (p : List R), 2 ^ logSplit ≤ p.length - 1 →
      evalBasis (ringOps R) cheb x p
        = evalBasis (ringOps R) cheb x (factorize (ringOps R) cheb (nextPower logSplit (p.length - 1)) p).1
            * powVal (ringOps R) cheb x (nextPower logSplit (p.length - 1) + 1) (nextPower logSplit (p.length - 1))
          + evalBasis (ringOps R) cheb x (factorize (ringOps R) cheb (nextPower logSplit (p.length - 1)) p).2)
    (fuel : Nat) (p : List R) :
    psRec (ringOps R) cheb logSplit x fuel p = evalBasis (ringOps R) cheb x p := by
  induction fuel generalizing p with
  | zero => rfl
  | succ f ih =>
    unfold psRec
    simp only
    split
    · rfl
    · rename_i hlt
      rw [ih, ih]
      have := hfac p (by omega)
      simp only [ringOps] at this ⊢
      rw [this]

theorem psRec_monomial (logSplit : Nat) (x : R) (fuel : Nat) (p : List R) :
    psRec (ringOps R) false logSplit x fuel p = evalBasis (ringOps R) false x p := by
  refine psRec_of_factorize false logSplit x (fun p _ => ?_) fuel p
  rw [powVal_monomial x _ _ (by omega) (by omega)]
  exact (factorize_monomial x _ p).1

end

theorem useIdx_true_true (i : Nat) : useIdx true true i = true := by
  unfold useIdx
  rcases Nat.mod_two_eq_zero_or_one i with h | h <;> simp [h]

/-- `bitLen` is `len64`: the facts of `Proofs/BitLen` under the name of this copy -/
theorem bitLen_le_iff (n m : Nat) : bitLen n ≤ m ↔ n < 2 ^ m := len64_le_iff n m

theorem pow_le_of_bitLen (n : Nat) (hn : 1 ≤ n) : 2 ^ (bitLen n - 1) ≤ n := two_pow_len64_pred_le (by omega)

theorem bitLen_eq_succ (n : Nat) (hn : 1 ≤ n) : ∃ k, bitLen n = k + 1 ∧ 2 ^ k ≤ n ∧ n < 2 ^ (k + 1) :=
  ⟨Nat.log2 n, bitLen_pos n hn, Nat.log2_self_le (by omega), Nat.lt_log2_self⟩

theorem pow_bitLen_le (n : Nat) (hn : 1 ≤ n) : 2 ^ bitLen n ≤ 2 * n := by
  have h1 := pow_le_of_bitLen n hn
  have h2 : 0 < bitLen n := (lt_len64_iff n 0).2 hn
  rw [show bitLen n = bitLen n - 1 + 1 by omega, pow_succ]
  omega

theorem optimalSplit_le (n : Nat) (hn : 1 ≤ n) : optimalSplit n ≤ n := by
  unfold optimalSplit
  simp only []
  split_ifs <;> omega

/-- `bits.Len64(d) = ⌈log2(d+1)⌉`: both are the least `m` with `d < 2^m` -/
theorem bitLen_eq_clog (d : Nat) : bitLen d = Nat.clog 2 (d + 1) :=
  eq_of_forall_ge_iff fun m => by rw [bitLen_le_iff, Nat.clog_le_iff_le_pow (by decide)]; omega

theorem clog_splitDegree (n : Nat) (hn : 2 ≤ n) :
    Nat.clog 2 (splitDegree n).1 + 1 ≤ Nat.clog 2 n ∧ Nat.clog 2 (splitDegree n).2 + 1 ≤ Nat.clog 2 n := by
  obtain ⟨k, h1, h2⟩ := exists_pow_lt n hn
  have hc : k + 1 ≤ Nat.clog 2 n := by
    by_contra hc
    have := (Nat.clog_le_iff_le_pow (by decide : 1 < 2)).1 (show Nat.clog 2 n ≤ k by omega)
    omega
  have hkey : ∀ a, a ≤ 2 ^ k → Nat.clog 2 a + 1 ≤ Nat.clog 2 n := fun a ha => by
    have := Nat.clog_le_of_le_pow ha
    omega
  rcases Nat.lt_or_eq_of_le h2 with h | rfl
  · rw [(splitDegree_between h1 h).1]
    exact ⟨hkey _ (Nat.sub_le _ _), hkey _ (by rw [pow_succ] at h; omega)⟩
  · rw [splitDegree_two_pow]
    exact ⟨hkey _ (le_refl _), hkey _ (le_refl _)⟩

/-- levels consumed by the recursion as coded: `PolynomialDepth(d) = bits.Len64(d) - 1` rescalings inside
    `recursePS` plus the final `Rescale` — exactly `⌈log2(d+1)⌉` -/
theorem depth_arith (d : Nat) (hd : 1 ≤ d) : polynomialDepth d + 1 = Nat.clog 2 (d + 1) := by
  rw [← bitLen_eq_clog, polynomialDepth, bitLen_pos d hd, Nat.add_sub_cancel]

/-- the guard of `Evaluate` (`level < Depth()`, `Depth() = ⌈log2 d⌉`) is one short exactly on powers
    of two: for `d = 2^k`, `k ≥ 1`, it lets `level = k` through although `k + 1` levels are consumed -/
theorem depth_guard_gap (k : Nat) (hk : 1 ≤ k) :
    depthCheck (2 ^ k) = k ∧ polynomialDepth (2 ^ k) + 1 = k + 1 := by
  have hpos : 1 ≤ 2 ^ k := Nat.one_le_two_pow
  have h2 : 2 ≤ 2 ^ k := by
    calc 2 = 2 ^ 1 := rfl
      _ ≤ 2 ^ k := Nat.pow_le_pow_right (by norm_num) hk
  constructor
  · have := len64_two_pow_sub_one k
    unfold len64 at this
    rw [if_neg (by omega)] at this
    unfold depthCheck
    rw [if_neg (by omega)]
    exact this
  · unfold polynomialDepth
    rw [bitLen_pos _ hpos, Nat.log2_two_pow]
    omega

theorem foldl_contains_not_mem {β γ : Type} (g : β → γ) (j : Nat) (l : List (List Nat × β)) (acc : γ)
    (h : ∀ mi ∈ l, j ∉ mi.1) :
    l.foldl (fun acc mi => if mi.1.contains j then g mi.2 else acc) acc = acc := by
  induction l generalizing acc with
  | nil => rfl
  | cons mi l ih =>
    simp only [List.foldl_cons]
    have hj : mi.1.contains j = false := by
      simpa using h mi (by simp)
    rw [hj]
    exact ih acc (fun m hm => h m (by simp [hm]))

theorem coeffVec_unmapped (env : Env) (m : List (List Nat)) (coeffs : List (List Int)) (k j : Nat)
    (hun : ∀ l ∈ m, j ∉ l) : (coeffVec env (some m) coeffs k).getD j 0 = 0 := by
  by_cases hj : j < env.slots
  · simp only [coeffVec]
    rw [ListLemmas.getD_map_range _ _ _ hj]
    exact foldl_contains_not_mem (fun c => c.getD k 0) j (m.zip coeffs) 0 fun mc hmc => hun mc.1 (List.of_mem_zip hmc).1
  · rw [List.getD_eq_getElem?_getD, List.getElem?_eq_none]
    · rfl
    · simp only [coeffVec, List.length_map, List.length_range]
      exact Nat.le_of_not_lt hj

end Lattigo.Model.PolyEval
