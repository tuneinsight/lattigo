/-
  C13 — the baby steps and the final step of `EvaluatePatersonStockmeyerPolynomialVector` never fail on a basis that
  holds the powers they use (`run_evalFromPowerBasis`, `run_babySteps`, `run_finish`).
-/
import Lattigo.Proofs.PolyEvalRunSpec

namespace Lattigo.Model.PolyEval

theorem maxCtDeg_le {pb : List (Nat × Opd)} (hdeg : ∀ key o, look pb key = some o → o.deg ≤ 2) (deg : Nat) :
    maxCtDeg pb deg ≤ 2 := by
  unfold maxCtDeg
  generalize List.range (deg + 1) = l
  have : ∀ acc, acc ≤ 2 → l.foldl (fun acc i =>
      if i = 0 then acc else match pb.find? (·.1 == i) with
        | some (_, o) => max acc o.deg
        | none => acc) acc ≤ 2 := by
    induction l with
    | nil => intro acc h; exact h
    | cons i l ih =>
      intro acc h
      rw [List.foldl_cons]
      apply ih
      split
      · exact h
      · have hl := hdeg i
        unfold look at hl
        split
        · next o ho => rw [ho] at hl; exact Nat.max_le.2 ⟨h, hl o rfl⟩
        · exact h
  exact this 0 (by omega)

/-- what a baby step delivers: it leaves the basis alone; its level is the target level or that of a power it used,
    whichever is lower -/
def BabyOut (T : Int) (pb : List (Nat × Opd)) (deg : Nat) (o : Opd) : Prop :=
  o.deg ≤ 2 ∧ o.level ≤ T ∧
  ∀ ℓ : Int, ℓ ≤ T → (∀ key o', 1 ≤ key → key ≤ deg → look pb key = some o' → ℓ ≤ o'.level) → ℓ ≤ o.level

section flags
variable (e : Env) (ho : e.odd = true) (he : e.even = true) (mapping : Option (List (List Nat)))
include ho he

theorem run_evalFromPowerBasis (T : Int) (p : SubPoly) (sc : Nat) (st : St)
    (hst : ∀ key, 1 ≤ key → key ≤ p.degree → look st.pb key ≠ none)
    (hdeg : ∀ key o, look st.pb key = some o → o.deg ≤ 2) :
    Run (evalFromPowerBasis e mapping T p sc) st fun o s => s.pb = st.pb ∧ BabyOut T st.pb p.degree o := by
  unfold evalFromPowerBasis
  simp only [ho, he, useIdx_true_true, Bool.not_true, Bool.and_false, Bool.false_and, Bool.true_or,
    Bool.false_eq_true, if_true, if_false]
  apply Run.bind
  apply (run_get st).mono
  intro st' s ⟨h1, h2⟩
  subst h1; subst h2
  by_cases h0 : ((p.coeffs.headD []).length : Int) - 1 = 0
  · rw [if_pos h0]
    apply (run_addConst ..).mono
    intro o s' ⟨hs, hd, hl⟩
    exact ⟨hs, by rw [hd]; exact Nat.le_succ 1, by rw [hl], fun ℓ hℓ _ => by rw [hl]; exact hℓ⟩
  · rw [if_neg h0]
    apply Run.bind
    apply (run_addConst ..).mono
    intro res s1 ⟨hs1, hd1, hl1⟩
    apply run_foldlM _ (fun r s' => s'.pb = s.pb ∧ BabyOut T s.pb p.degree r) _ ?_ res s1
      ⟨hs1, by rw [hd1]; exact maxCtDeg_le hdeg _, by rw [hl1], fun ℓ hℓ _ => by rw [hl1]; exact hℓ⟩
    intro i hi r s2 ⟨hs2, hrd, hrT, hrl⟩
    have hi' := List.mem_range.1 hi
    obtain ⟨x, hx⟩ := Option.ne_none_iff_exists'.1 (hst (p.degree - i) (by omega) (by omega))
    apply run_getP (by rw [hs2]; exact hx)
    apply (run_mulThenAddConst ..).mono
    intro o s4 ⟨hs4, hd4, hl4⟩
    refine ⟨hs4.trans hs2, by rw [hd4]; exact Nat.max_le.2 ⟨hrd, hdeg _ _ hx⟩, by omega, ?_⟩
    intro ℓ hℓ hall
    have h1 := hrl ℓ hℓ hall
    have h2 := hall _ _ (by omega) (by omega) hx
    omega

/-- one entry per sub-polynomial, the LAST sub-polynomial first -/
theorem run_babySteps (subs : List SubPoly) (st : St)
    (hst : ∀ sp ∈ subs, ∀ key, 1 ≤ key → key ≤ sp.degree → look st.pb key ≠ none)
    (hdeg : ∀ key o, look st.pb key = some o → o.deg ≤ 2) (bs0 : List (Nat × Opd)) :
    Run (subs.foldlM (fun bs sp => do
        let v ← evalFromPowerBasis e mapping sp.level sp sp.scale
        pure ((sp.degree, v) :: bs)) bs0) st fun bs s => s.pb = st.pb ∧
      ∃ bs', bs = bs' ++ bs0 ∧
        List.Forall₂ (fun (sp : SubPoly) (x : Nat × Opd) => x.1 = sp.degree ∧ BabyOut sp.level st.pb sp.degree x.2)
          subs.reverse bs' := by
  induction subs generalizing st bs0 with
  | nil => exact Run.pure ⟨rfl, [], rfl, List.Forall₂.nil⟩
  | cons sp subs ih =>
    rw [List.foldlM_cons]
    apply Run.bind
    apply Run.bind
    apply (run_evalFromPowerBasis e ho he mapping sp.level sp sp.scale st (hst sp (List.mem_cons_self ..)) hdeg).mono
    intro v s1 ⟨hs1, hv⟩
    apply Run.pure
    rw [← hs1] at hst hdeg hv ⊢
    apply (ih s1 (fun sp' h => hst sp' (List.mem_cons_of_mem _ h)) hdeg _).mono
    intro bs s2 ⟨hs2, bs', hbs, hall⟩
    refine ⟨hs2, bs' ++ [(sp.degree, v)], by rw [hbs, List.append_assoc]; rfl, ?_⟩
    rw [List.reverse_cons]
    exact List.rel_append hall (List.Forall₂.cons ⟨rfl, hv⟩ List.Forall₂.nil)

end flags

theorem run_finish (e : Env) (d : Nat) (v : Opd) (st : St) (hl : e.inv = true ∨ 0 < v.level) :
    Run (finish e [(d, v)]) st fun o s => s.pb = st.pb ∧ o.level = v.level - rho e := by
  unfold finish
  apply Run.bind
  apply (run_relinDeg2 e v st).mono
  intro v1 s1 ⟨hs1, hl1, _⟩
  apply (run_rescaleOp e v1 s1 (by rw [hl1]; exact hl)).mono
  intro o s ⟨hs, _, hlo⟩
  exact ⟨hs.trans hs1, by rw [hlo, hl1]⟩

end Lattigo.Model.PolyEval
