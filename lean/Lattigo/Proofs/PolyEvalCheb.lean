/-
  C13 — Chebyshev factorisation `p = q·T_n + r` as computed by `bignum.Polynomial.Factorize`
  (model: `factorize … true`), and Paterson–Stockmeyer in the Chebyshev basis.
-/
import Lattigo.Proofs.PolyEval
import Mathlib.Algebra.BigOperators.Intervals

namespace Lattigo.Model.PolyEval

open Finset

section
variable {R : Type} [CommRing R]

/-- the identity behind `Factorize` in the Chebyshev basis, for any sequence `t` with the product rule of the `T_i` -/
theorem cheb_split (P t : ℕ → R) (n : ℕ) (ht0 : t 0 = 1)
    (ht : ∀ j, 1 ≤ j → j ≤ n → 2 * t j * t n = t (n + j) + t (n - j)) :
    ∑ i ∈ range (2 * n + 1), P i * t i
      = (P n * t 0 + ∑ j ∈ range n, (2 * P (n + 1 + j)) * t (1 + j)) * t n
        + ∑ i ∈ range n, (P i - P (2 * n - i)) * t i := by
  have h1 : ∑ i ∈ range (2 * n + 1), P i * t i
      = ∑ i ∈ range n, P i * t i + (∑ j ∈ range n, P (n + 1 + j) * t (n + 1 + j) + P n * t n) := by
    have : 2 * n + 1 = n + (n + 1) := by ring
    rw [this, Finset.sum_range_add, Finset.sum_range_succ']
    congr 2
    apply Finset.sum_congr rfl
    intro j _
    have : n + (j + 1) = n + 1 + j := by ring
    rw [this]
  have h2 : (∑ j ∈ range n, (2 * P (n + 1 + j)) * t (1 + j)) * t n
      = ∑ j ∈ range n, P (n + 1 + j) * t (n + 1 + j) + ∑ j ∈ range n, P (n + 1 + j) * t (n - (1 + j)) := by
    rw [Finset.sum_mul, ← Finset.sum_add_distrib]
    apply Finset.sum_congr rfl
    intro j hj
    have hj' := Finset.mem_range.1 hj
    have := ht (1 + j) (by omega) (by omega)
    have e : n + (1 + j) = n + 1 + j := by ring
    rw [e] at this
    linear_combination (P (n + 1 + j)) * this
  have h3 : ∑ j ∈ range n, P (n + 1 + j) * t (n - (1 + j)) = ∑ i ∈ range n, P (2 * n - i) * t i := by
    rw [← Finset.sum_range_reflect (fun i => P (2 * n - i) * t i) n]
    apply Finset.sum_congr rfl
    intro j hj
    have hj' := Finset.mem_range.1 hj
    have e2 : n - 1 - j = n - (1 + j) := by omega
    have e3 : 2 * n - (n - (1 + j)) = n + 1 + j := by omega
    simp only [e2, e3]
  have h4 : ∑ i ∈ range n, (P i - P (2 * n - i)) * t i
      = ∑ i ∈ range n, P i * t i - ∑ i ∈ range n, P (2 * n - i) * t i := by
    rw [← Finset.sum_sub_distrib]
    apply Finset.sum_congr rfl
    intro i _; ring
  rw [h1, add_mul, h2, h3, h4, ht0]
  ring

theorem evalFrom_eq_sum (cheb : Bool) (x : R) (k : ℕ) (l : List R) (N : ℕ) (hN : l.length ≤ N) :
    evalFrom (ringOps R) cheb x k l
      = ∑ i ∈ range N, l.getD i 0 * powVal (ringOps R) cheb x (k + i + 1) (k + i) := by
  induction l generalizing k N with
  | nil => simp [evalFrom, ringOps]
  | cons c cs ih =>
    obtain ⟨N', rfl⟩ : ∃ N', N = N' + 1 := ⟨N - 1, by simp at hN; omega⟩
    rw [Finset.sum_range_succ']
    simp only [evalFrom, List.getD_cons_zero, List.getD_cons_succ, Nat.add_zero]
    rw [ih (k + 1) N' (by simpa using hN)]
    simp only [ringOps]
    rw [add_comm]
    congr 1
    apply Finset.sum_congr rfl
    intro i _
    have : k + 1 + i = k + (i + 1) := by ring
    rw [this]

theorem factorize_cheb_q (n : ℕ) (p : List R) (j : ℕ) :
    (factorize (ringOps R) true n p).1.getD j 0
      = if j = 0 then p.getD n 0 else 2 * p.getD (n + j) 0 := by
  simp only [factorize, Bool.not_true, Bool.false_eq_true, if_false]
  have h0 := ListLemmas.getD_drop (d := 0) p n 0
  rw [Nat.add_zero] at h0
  rw [← h0, ← ListLemmas.getD_drop p n j]
  generalize p.drop n = l
  cases l with
  | nil => simp
  | cons c cs =>
    cases j with
    | zero => simp
    | succ j =>
      simp only [Nat.succ_ne_zero, if_false, List.getD_eq_getElem?_getD, List.getElem?_cons_succ,
        List.getElem?_map, ringOps, Nat.cast_ofNat]
      generalize cs[j]? = o
      cases o <;> simp

theorem factorize_cheb_q_length (n : ℕ) (p : List R) (hp : p.length ≤ 2 * n + 1) :
    (factorize (ringOps R) true n p).1.length ≤ n + 1 := by
  simp only [factorize, Bool.not_true, Bool.false_eq_true, if_false]
  have : (p.drop n).length ≤ n + 1 := by rw [List.length_drop]; omega
  cases hdr : p.drop n with
  | nil => simp
  | cons c cs => rw [hdr] at this; simpa using this

theorem factorize_cheb_r (n : ℕ) (p : List R) (i : ℕ) (hi : i < n) :
    (factorize (ringOps R) true n p).2.getD i 0 = p.getD i 0 - p.getD (2 * n - i) 0 := by
  simp only [factorize, Bool.not_true, Bool.false_eq_true, if_false]
  rw [ListLemmas.getD_map_range _ _ _ hi]
  simp only [ringOps, Nat.cast_zero]
  split
  · rfl
  · rename_i hc
    have hlen : p.length ≤ 2 * n - i := by omega
    have : p.getD (2 * n - i) 0 = 0 := by
      rw [List.getD_eq_getElem?_getD, List.getElem?_eq_none hlen]; rfl
    rw [this, sub_zero]

theorem factorize_cheb_r_length (n : ℕ) (p : List R) :
    (factorize (ringOps R) true n p).2.length = n := by
  simp [factorize]

open Polynomial in
/-- `hp`: the callers in the code guarantee `n ≥ ⌊deg/2⌋ + 1` (`nextPower_ge`) -/
theorem factorize_chebyshev (x : R) (n : ℕ) (p : List R) (hp : p.length ≤ 2 * n + 1) :
    evalBasis (ringOps R) true x p
      = evalBasis (ringOps R) true x (factorize (ringOps R) true n p).1 * (Chebyshev.T R (n : ℤ)).eval x
        + evalBasis (ringOps R) true x (factorize (ringOps R) true n p).2
    ∧ (factorize (ringOps R) true n p).2.length = n := by
  refine ⟨?_, factorize_cheb_r_length n p⟩
  let t : ℕ → R := fun m => (Chebyshev.T R (m : ℤ)).eval x
  have hB : ∀ m, powVal (ringOps R) true x (m + 1) m = t m :=
    fun m => powVal_chebyshev x (m + 1) m (by omega) (by omega)
  have hB0 : ∀ m, powVal (ringOps R) true x (0 + m + 1) (0 + m) = t m := by
    intro m; rw [Nat.zero_add]; exact hB m
  have ht0 : t 0 = 1 := by simp [t]
  have ht : ∀ j, 1 ≤ j → j ≤ n → 2 * t j * t n = t (n + j) + t (n - j) := fun j _ hj => by
    linear_combination eval_T_mul_T x hj
  simp only [evalBasis]
  rw [evalFrom_eq_sum true x 0 p (2 * n + 1) hp,
    evalFrom_eq_sum true x 0 _ (n + 1) (factorize_cheb_q_length n p hp),
    evalFrom_eq_sum true x 0 _ n (le_of_eq (factorize_cheb_r_length n p))]
  simp only [hB0]
  rw [cheb_split (fun i => p.getD i 0) t n ht0 ht]
  congr 1
  · congr 1
    rw [Finset.sum_range_succ']
    rw [factorize_cheb_q, if_pos rfl, add_comm]
    congr 1
    apply Finset.sum_congr rfl
    intro j _
    rw [factorize_cheb_q, if_neg (by omega)]
    have e1 : n + (j + 1) = n + 1 + j := by ring
    have e2 : j + 1 = 1 + j := by ring
    rw [e1, e2]
  · apply Finset.sum_congr rfl
    intro i hi
    rw [factorize_cheb_r n p i (Finset.mem_range.1 hi)]

theorem nextPowerLoop_spec (deg fuel : ℕ) : ∀ np, deg / 2 + 1 ≤ np * 2 ^ fuel →
    ∃ j, nextPowerLoop deg fuel np = np * 2 ^ j ∧ deg / 2 + 1 ≤ np * 2 ^ j ∧
      (j = 0 ∨ np * 2 ^ j < 2 * (deg / 2 + 1)) := by
  induction fuel with
  | zero => intro np hf; exact ⟨0, by simp [nextPowerLoop], by simpa using hf, Or.inl rfl⟩
  | succ f ih =>
    intro np hf
    rw [nextPowerLoop]
    split
    · rename_i hlt
      obtain ⟨j, h1, h2, h3⟩ := ih (2 * np) (by rw [pow_succ] at hf; linarith)
      have e : 2 * np * 2 ^ j = np * 2 ^ (j + 1) := by rw [pow_succ]; ring
      refine ⟨j + 1, by rw [h1, e], by rw [← e]; exact h2, Or.inr ?_⟩
      rw [← e]
      rcases h3 with rfl | h3
      · simp; omega
      · exact h3
    · exact ⟨0, by simp, by simp; omega, Or.inl rfl⟩

/-- `nextPower` is the least `2^(logSplit + j)` that is at least `⌊deg/2⌋ + 1` -/
theorem nextPower_spec (logSplit deg : ℕ) : ∃ j, nextPower logSplit deg = 2 ^ (logSplit + j) ∧
    deg / 2 + 1 ≤ 2 ^ (logSplit + j) ∧ (j = 0 ∨ 2 ^ (logSplit + j) < 2 * (deg / 2 + 1)) := by
  have h1 : deg + 1 < 2 ^ (deg + 1) := Nat.lt_two_pow_self
  have h2 : 1 ≤ 2 ^ logSplit := Nat.one_le_two_pow
  obtain ⟨j, hj⟩ := nextPowerLoop_spec deg (deg + 1) (2 ^ logSplit) (by
    calc deg / 2 + 1 ≤ 1 * 2 ^ (deg + 1) := by omega
      _ ≤ 2 ^ logSplit * 2 ^ (deg + 1) := Nat.mul_le_mul_right _ h2)
  rw [← pow_add] at hj
  exact ⟨j, hj⟩

theorem nextPower_ge (logSplit deg : ℕ) : deg / 2 + 1 ≤ nextPower logSplit deg := by
  obtain ⟨j, h, hge, _⟩ := nextPower_spec logSplit deg
  rw [h]; exact hge

theorem psRec_chebyshev (logSplit : ℕ) (x : R) (fuel : ℕ) (p : List R) :
    psRec (ringOps R) true logSplit x fuel p = evalBasis (ringOps R) true x p := by
  apply psRec_of_factorize true logSplit x
  intro p _
  have hge := nextPower_ge logSplit (p.length - 1)
  rw [powVal_chebyshev x _ _ (by omega) (by omega)]
  exact (factorize_chebyshev x _ p (by omega)).1

end

end Lattigo.Model.PolyEval
