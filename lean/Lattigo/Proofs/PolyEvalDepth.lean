/-
  C13 — the depth of the evaluation, for every degree `d ≥ 1`: the level-only run (`t = 0`, flags set) from any input
  level that passes the guard succeeds and ends `⌈log2(d+1)⌉` levels below it, resp. at it in the scale-invariant
  mode (`evaluate_level`: power generation, decomposition, baby and giant steps and the final step never fail, by
  `genPowers_run`, `recursePS_leaves`, `run_babySteps`, `giantLoop_run`, `run_finish`); hence EVERY run (any plaintext
  modulus, scales, coefficients, mapping, slot values) that does not stop with an error ends at that level
  (`run_levels_simulated`).
-/
import Lattigo.Proofs.PolyEvalSim
import Lattigo.Proofs.PolyEvalBaby
import Lattigo.Proofs.PolyEvalLeaves

namespace Lattigo.Model.PolyEval

theorem Leaves.degree_le {K : Nat} {lb B : Nat → Int} {pos a z : Nat} {x : Bool} {ls : List SubPoly}
    (h : Leaves K lb B pos a z x ls) : ∀ sp ∈ ls, sp.degree + 1 ≤ 2 ^ a := by
  induction h with
  | last _ _ hd => intro sp hsp; rw [List.mem_singleton.1 hsp]; exact hd
  | cons _ hd _ _ ha _ ih =>
    intro sp hsp
    rcases List.mem_cons.1 hsp with rfl | hsp
    · exact le_of_eq hd
    · exact le_trans (ih sp hsp) (Nat.pow_le_pow_right (by decide) ha)

/-- the baby steps of sub-polynomials laid out in blocks are laid out in blocks: no power lies below its bound `B`,
    which is not below the level of the sub-polynomial that uses it -/
theorem blocks_of_leaves {K : Nat} {lb B : Nat → Int} {pb : List (Nat × Opd)}
    (hpb : ∀ key o, look pb key = some o → B key ≤ o.level) {pos a z : Nat} {x : Bool} {ls : List SubPoly}
    (h : Leaves K lb B pos a z x ls) : ∀ {bs : List (Nat × Opd)},
      List.Forall₂ (fun (sp : SubPoly) (y : Nat × Opd) => y.1 = sp.degree ∧ BabyOut sp.level pb sp.degree y.2) ls bs →
      Blocks K lb pos a z x bs := by
  have hlvl : ∀ (sp : SubPoly) (v : Opd) (p : Nat), sp.level = lb p →
      (∀ key, 1 ≤ key → key ≤ sp.degree → lb p ≤ B key) → BabyOut sp.level pb sp.degree v → lb p ≤ v.level :=
    fun sp v p hl hB hv => hv.2.2 (lb p) (le_of_eq hl.symm)
      (fun key o' h1 h2 hlook => le_trans (hB key h1 h2) (hpb key o' hlook))
  induction h with
  | last hal hK hd hx hl hB =>
    intro bs hall
    cases hall with
    | cons hy hnil =>
      cases hnil
      rename_i y
      obtain ⟨d, v⟩ := y
      obtain ⟨rfl, hv⟩ := hy
      exact Blocks.last hal hK hd hx (hlvl _ v _ hl hB hv) hv.1
  | cons hal hd hl hB ha _ ih =>
    intro bs hall
    cases hall with
    | cons hy hrest =>
      rename_i y _
      obtain ⟨d, v⟩ := y
      obtain ⟨rfl, hv⟩ := hy
      rw [show _ = 2 ^ _ - 1 from Nat.eq_sub_of_add_eq hd]
      exact Blocks.cons hal (hlvl _ v _ hl hB hv) hv.1 ha (ih hrest)

section run
variable (e : Env) (ht : e.t = 0) (ho : e.odd = true) (he : e.even = true)
include ht ho he

/-- `EvaluatePatersonStockmeyerPolynomialVector` on sub-polynomials laid out in blocks, at least `K − z − 1` of them
    (the loop has `subs.length + 2` passes): the output level is that of the lowest sub-polynomial, rescaled once -/
theorem evalSubs_run {K S : Nat} {lb B : Nat → Int} (mapping : Option (List (List Nat))) (subs : List SubPoly)
    {a z : Nat} {x : Bool} (st : St) (hleaves : Leaves K lb B 0 a z x subs.reverse) (haS : a ≤ S)
    (hcount : K ≤ z + subs.length + 1) (hgi : GiantHyp e K lb st.pb)
    (hpb : ∀ key o, look st.pb key = some o → B key ≤ o.level ∧ o.deg ≤ 2)
    (hstored : ∀ i, 1 ≤ i → i < 2 ^ S → look st.pb i ≠ none) (hpos : e.inv = true ∨ 0 < lb 0) :
    Run (evalSubs e mapping subs) st fun o _ => o.level = lb 0 - rho e := by
  have hst : ∀ sp ∈ subs, ∀ key, 1 ≤ key → key ≤ sp.degree → look st.pb key ≠ none := by
    intro sp hsp key h1 h2
    have := hleaves.degree_le sp (List.mem_reverse.2 hsp)
    have := Nat.pow_le_pow_right (by decide : 1 ≤ 2) haS
    exact hstored key h1 (by omega)
  unfold evalSubs
  apply Run.bind
  apply (run_babySteps e ho he mapping subs st hst (fun key o h => (hpb key o h).2) []).mono
  intro bs s1 ⟨hs1, bs', hbs, hall⟩
  rw [List.append_nil] at hbs
  subst hbs
  have hb : Blocks K lb 0 a z x bs := blocks_of_leaves (fun key o h => (hpb key o h).1) hleaves hall
  -- the first entry is not above the level of the lowest sub-polynomial
  have hhead : ∀ d v r, bs = (d, v) :: r → v.level ≤ lb 0 := by
    intro d v r hbs
    subst hbs
    generalize subs.reverse = ls at hleaves hall
    cases hleaves with
    | last _ _ _ _ hl =>
      cases hall with
      | cons hy _ => rw [← hl]; exact hy.2.2.1
    | cons _ _ hl =>
      cases hall with
      | cons hy _ => rw [← hl]; exact hy.2.2.1
  apply Run.bind
  apply (giantLoop_run ht (hs1 ▸ hgi) (subs.length + 2) bs a z x s1 hs1 hb (by
    have : (if x = true then 0 else 1) ≤ 1 := by split <;> omega
    omega)).mono
  intro fin s2 ⟨hs2, hhl, d, v, hfin, hvl, _⟩
  subst hfin
  have hvu : v.level ≤ lb 0 := by
    obtain ⟨d0, v0, r0, hbs, -⟩ := hb.head_level
    exact le_trans (hhl _ _ _ _ _ _ hbs rfl) (hhead _ _ _ hbs)
  apply (run_finish e d v s2 (hpos.imp id fun h => by omega)).mono
  intro o s ⟨_, hlo⟩
  rw [hlo]
  omega

theorem evaluate_level (lazy : Bool) (d : Nat) (hd : 1 ≤ d) (Ln : Nat) (hguard : e.inv = true ∨ bitLen d ≤ Ln)
    (polys : List (List Int)) (hp : (polys.headD []).length = d + 1) (mapping : Option (List (List Nat)))
    (is ts : Nat) (x : List Int) :
    ∃ o st', ex (evaluate e polys mapping lazy Ln is ts x) {} = (.ok o, st') ∧
      o.level = (Ln : Int) - rho e * bitLen d := by
  have hdeg : (polys.headD []).length - 1 = d := by omega
  have hK : 1 ≤ bitLen d := by rw [bitLen_pos d hd]; omega
  rw [ex_evaluate e polys mapping lazy Ln is ts x hdeg (by omega) hguard]
  obtain ⟨hg0, hd0⟩ := fresh_basis (B := stdBound e Ln) lazy { level := Ln, scale := is, deg := 1, val := x } rfl
    (le_of_eq (stdBound_one _ _))
  have hpos : e.inv = true ∨ ∀ p, 0 < leafLevel e Ln d p := by
    by_cases hi : e.inv = true
    · exact Or.inl hi
    · exact Or.inr fun p => (leafLevel_pos e hguard hd p).resolve_left hi
  have hL : e.inv = true ∨ 0 ≤ stdBound e Ln (2 ^ bitLen d) := by
    rcases rho_cases e with ⟨hi, _⟩ | ⟨hi, hr⟩
    · exact Or.inl hi
    · right
      have := hguard.resolve_left hi
      refine le_trans ?_ (stdBound_ge e Ln (le_refl _))
      rw [hr]
      omega
  obtain ⟨subs, res, a, z, xl, hps, hleaves, haS, hcount⟩ := recursePS_leaves e ht d hd Ln is ts polys hp
  have hrun : Run (evaluateOn e polys mapping lazy ts (Ln - simDepth e d) (simPowers e d Ln is))
      { pb := [(1, { level := Ln, scale := is, deg := 1, val := x })] }
      fun o _ => o.level = leafLevel e Ln d 0 - rho e := by
    unfold evaluateOn
    simp only [hdeg, hps]
    apply Run.bind
    apply (genPowers_run e _ (stdBound_ok e Ln) lazy d hd hL ho he _ hg0 hd0).mono
    intro _ s ⟨hs, hpow, hsmall⟩
    refine evalSubs_run e ht ho he mapping subs s hleaves haS hcount
      ⟨fun a p h => leafLevel_add e Ln d h, ?_, hpos.imp id fun h p => le_of_lt (h p)⟩
      (fun key o h => ⟨hs.good.lvl key o h, (hs.good.deg key o h).2⟩) hsmall (hpos.imp id fun h => h 0)
    -- the power that shifts a block is a power of two: stored by `genPowers`, relinearised by `D1`
    intro a p hal hK
    have haK : a + 1 ≤ bitLen d :=
      (Nat.pow_le_pow_iff_right (by decide)).1 (le_trans (Nat.le_add_left _ _) hK)
    obtain ⟨o, ho'⟩ := Option.ne_none_iff_exists'.1 (hpow a (by omega))
    refine ⟨o, ho', ?_, le_trans (leafLevel_le_bound e Ln d (popCount_block hal hK).1 (le_refl _)) (hs.good.lvl _ o ho')⟩
    have := hs.d1 (2 ^ a) o Nat.one_le_two_pow (fun _ => ⟨a, rfl⟩) ho'
    have := Nat.one_le_two_pow (n := a)
    omega
  obtain ⟨o, s, hex, hlv⟩ := hrun
  refine ⟨o, s, hex, ?_⟩
  rw [hlv, leafLevel_zero e Ln hd]

end run

/-- the level-only instance: `t = 0` (scales and values untracked), no slots, flags set -/
def env0 (cheb inv : Bool) : Env := { t := 0, q := [], cheb := cheb, slots := 0, inv := inv }

/-- the level-only run of a degree-`d` polynomial at input level `L0` succeeds and ends at level `Lout` -/
def levelRunOK (cheb inv : Bool) (d : Nat) (lazy : Bool) (L0 : Nat) (Lout : Int) : Bool :=
  let r := run (env0 cheb inv) [List.replicate (d + 1) 0] none lazy L0 0 0 []
  r.2.1 == "ok" && r.2.2.map (·.level) == some Lout

theorem levelRunOK_all (cheb inv lazy : Bool) (d : Nat) (hd : 1 ≤ d) (L0 : Nat) (hg : inv = true ∨ bitLen d ≤ L0) :
    levelRunOK cheb inv d lazy L0 ((L0 : Int) - rho (env0 cheb inv) * bitLen d) = true := by
  obtain ⟨o, s, hex, hl⟩ := evaluate_level (env0 cheb inv) rfl rfl rfl lazy d hd L0 hg [List.replicate (d + 1) 0]
    (by simp) none 0 0 []
  unfold levelRunOK
  rw [run_eq, hex]
  simp [hl]

theorem levelRunOK_std (cheb lazy : Bool) (d : Nat) (hd : 1 ≤ d) : levelRunOK cheb false d lazy (bitLen d) 0 = true := by
  have := levelRunOK_all cheb false lazy d hd (bitLen d) (Or.inr (le_refl _))
  rw [show rho (env0 cheb false) = 1 from rfl, one_mul, sub_self] at this
  exact this

/-- monomial basis, standard mode: from `⌈log2(d+1)⌉ = bits.Len64(d)` levels down to 0 -/
def depthOK (d : Nat) (lazy : Bool) : Bool := levelRunOK false false d lazy (bitLen d) 0

theorem depthOK_all (d : Nat) (hd : 1 ≤ d) (lazy : Bool) : depthOK d lazy = true := levelRunOK_std false lazy d hd

theorem depthOK_below_64 : ∀ d, d < 63 → ∀ lazy : Bool, depthOK (d + 1) lazy = true :=
  fun d _ => depthOK_all (d + 1) (by omega)

/-- scale-invariant (BFV) mode: from input level 0 (every level is accepted), no level consumed -/
def bfvOK (d : Nat) (lazy : Bool) : Bool := levelRunOK false true d lazy 0 0

theorem bfvOK_all (d : Nat) (hd : 1 ≤ d) (lazy : Bool) : bfvOK d lazy = true := by
  have := levelRunOK_all false true lazy d hd 0 (Or.inl rfl)
  rw [show rho (env0 false true) = 0 from rfl, zero_mul, sub_zero] at this
  exact this

theorem bfvOK_below_64 : ∀ d, d < 63 → ∀ lazy : Bool, bfvOK (d + 1) lazy = true :=
  fun d _ => bfvOK_all (d + 1) (by omega)

/-- Chebyshev basis, standard mode: from `bits.Len64(d)` levels down to 0 -/
def chebOK (d : Nat) (lazy : Bool) : Bool := levelRunOK true false d lazy (bitLen d) 0

theorem chebOK_all (d : Nat) (hd : 1 ≤ d) (lazy : Bool) : chebOK d lazy = true := levelRunOK_std true lazy d hd

theorem chebOK_below_32 : ∀ d, d < 31 → ∀ lazy : Bool, chebOK (d + 1) lazy = true :=
  fun d _ => chebOK_all (d + 1) (by omega)

theorem absEnv_eq (e : Env) (ho : e.odd = true) (he : e.even = true) : absEnv e = env0 e.cheb e.inv := by
  cases e
  simp only [absEnv, env0] at *
  subst ho; subst he; rfl

theorem levels_of_levelRunOK (e : Env) (ho : e.odd = true) (he : e.even = true) (d : Nat) (lazy : Bool)
    (L0 : Nat) (Lout : Int) (hok : levelRunOK e.cheb e.inv d lazy L0 Lout = true)
    (polys : List (List Int)) (hp : (polys.headD []).length = d + 1)
    (mapping : Option (List (List Nat))) (kn : Nat) (is ts : Nat) (x : List Int) :
    (∃ tr o, run e polys mapping lazy (L0 + kn) is ts x = (tr, "ok", some o) ∧ o.level = Lout + kn) ∨
    (¬ e.t = 0 ∧ ∃ tr er, run e polys mapping lazy (L0 + kn) is ts x = (tr, er, none)) := by
  unfold levelRunOK at hok
  simp only [Bool.and_eq_true, beq_iff_eq] at hok
  obtain ⟨hst, hlv⟩ := hok
  rcases hr : run (env0 e.cheb e.inv) [List.replicate (d + 1) 0] none lazy L0 0 0 [] with ⟨tr', st', _ | o'⟩
  · rw [hr] at hlv; simp at hlv
  · rw [hr] at hst hlv
    simp only [Option.map_some, Option.some.injEq] at hst hlv
    subst hst
    have hne : polys ≠ [] := by
      intro h0; rw [h0] at hp; simp at hp
    rw [← absEnv_eq e ho he] at hr
    rcases run_levels_simulated e polys [List.replicate (d + 1) 0] hne (by simp) (by rw [hp]; simp)
        mapping none lazy L0 kn is 0 ts 0 x [] tr' o' hr with ⟨tr, o, h1, h2, _⟩ | h
    · left; exact ⟨tr, o, h1, by rw [h2, hlv]⟩
    · right; exact h

theorem levels_of_minimal (e : Env) (hi : e.inv = false) (ho : e.odd = true) (he : e.even = true) (d : Nat)
    (hd : 1 ≤ d) (lazy : Bool) (polys : List (List Int)) (hp : (polys.headD []).length = d + 1)
    (mapping : Option (List (List Nat))) (L : Nat) (hL : Nat.clog 2 (d + 1) ≤ L) (is ts : Nat) (x : List Int) :
    (∃ tr o, run e polys mapping lazy L is ts x = (tr, "ok", some o) ∧ o.level = (L : Int) - Nat.clog 2 (d + 1)) ∨
    (¬ e.t = 0 ∧ ∃ tr er, run e polys mapping lazy L is ts x = (tr, er, none)) := by
  have hb := bitLen_eq_clog d
  obtain ⟨kn, rfl⟩ : ∃ kn, L = bitLen d + kn := ⟨L - bitLen d, by omega⟩
  rcases levels_of_levelRunOK e ho he d lazy (bitLen d) 0 (hi ▸ levelRunOK_std e.cheb lazy d hd) polys hp mapping kn
    is ts x with ⟨tr, o, h1, h2⟩ | h
  · left; exact ⟨tr, o, h1, by rw [h2, ← hb]; push_cast; ring⟩
  · right; exact h

end Lattigo.Model.PolyEval
