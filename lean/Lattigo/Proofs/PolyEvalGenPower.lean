/-
  C13 — `PowerBasis.GenPower(n, lazy)` never fails from a good basis (`gen_run`, every `n`, every instance, both
  bases): no product is refused for its degree, no rescaling for its level, and the basis stays good.  Instances: the
  check `genPowerCheck` on a fresh basis (`genPowerCheck_all`) and the powers `Evaluate` generates (`genPowers_run`).
-/
import Lattigo.Proofs.PolyEvalRunSpec

namespace Lattigo.Model.PolyEval

theorem runGen_ok {env : Env} {n : Nat} {lazy : Bool} {L sc : Nat} {x : List Int} {st : St}
    (h : ex (setP 1 { level := L, scale := sc, deg := 1, val := x } >>= fun _ =>
      genPowerTop env (2 * n + 8) n lazy) {} = (.ok (), st)) :
    runGen env n lazy L sc x = (st.tr, "ok",
      (List.range (n + 1)).filterMap fun k => (st.pb.find? (·.1 == k)).map fun e => (k, e.2)) := by
  unfold ex at h
  unfold runGen
  simp only []
  erw [h]

/-! ## the invariant

`GoodBasis`: the basis holds the input; every stored power `m` has ciphertext degree 1 or 2 and a level of at least
`B m` (`stdBound`: `L − ⌈log2 m⌉`, resp. `L` in the scale-invariant mode; a LOWER bound: a power is used at a higher
level while its rescaling is pending, and `min` only helps); with a power it holds the two parts of its `SplitDegree`.  What makes the induction over `genPower` close:
* `T` is the mode of the outermost call.  In a non-lazy run every call is non-lazy; inside a lazy one a call is lazy,
  or non-lazy for a power of two (the parts of a power of two): `GenMode`.
* A non-lazy product needs factors of degree 1: all powers in a non-lazy run, the powers of two in a lazy one.  `D1 T x`
  says that these are relinearised, the power `x` excepted — the one a lazy call has just stored at degree 2, which its
  caller relinearises before use.
* The Chebyshev term `c = |a − b|` of a lazy call is stored lazily and stays at degree 2.  It is below `2^k`, where
  `a = 2^k − 1` is stored, and a basis closed under `SplitDegree` that holds `2^k − 1` holds every smaller power of two
  (`GoodBasis.pow_stored`): a NEW `c` is no power of two, and `D1` survives.
* `genPower` returns whether the power is new and waits for its rescaling; then its level is one rescaling (`rho`)
  above the bound (`RecSpec`).  `Keep` (what was stored keeps its level) carries that across the call for the second part.
-/

structure GoodBasis (B : Nat → Int) (pb : List (Nat × Opd)) : Prop where
  one : look pb 1 ≠ none
  deg : ∀ m o, look pb m = some o → 1 ≤ o.deg ∧ o.deg ≤ 2
  lvl : ∀ m o, look pb m = some o → B m ≤ o.level
  closed : ∀ m, 2 ≤ m → look pb m ≠ none →
    look pb (splitDegree m).1 ≠ none ∧ look pb (splitDegree m).2 ≠ none

def D1 (T : Bool) (x : Nat) (pb : List (Nat × Opd)) : Prop :=
  ∀ y o, 1 ≤ y → (T = true → ∃ i, 2 ^ i = y) → look pb y = some o → o.deg = 1 ∨ y = x

def Keep (pb pb' : List (Nat × Opd)) : Prop :=
  ∀ x o, look pb x = some o → ∃ o', look pb' x = some o' ∧ o'.level = o.level ∧ o'.deg ≤ o.deg

theorem Keep.refl (pb : List (Nat × Opd)) : Keep pb pb := fun _ o h => ⟨o, h, rfl, le_refl _⟩

theorem Keep.trans {p q r : List (Nat × Opd)} (h : Keep p q) (h' : Keep q r) : Keep p r := by
  intro x o hx
  obtain ⟨o1, h1, hl1, hd1⟩ := h x o hx
  obtain ⟨o2, h2, hl2, hd2⟩ := h' x o1 h1
  exact ⟨o2, h2, hl2.trans hl1, hd2.trans hd1⟩

theorem Keep.stored {p q : List (Nat × Opd)} (h : Keep p q) {x : Nat} (hx : look p x ≠ none) : look q x ≠ none := by
  obtain ⟨o, ho⟩ := Option.ne_none_iff_exists'.1 hx
  obtain ⟨o', h1, _⟩ := h x o ho
  rw [h1]
  simp

theorem D1.drop {T : Bool} {x : Nat} {s : List (Nat × Opd)} (h : D1 T x s) (hT : T = true)
    (hx : ¬ ∃ i, 2 ^ i = x) : D1 T 0 s := by
  intro z o hz1 hzS hz
  rcases h z o hz1 hzS hz with h1 | h1
  · left; exact h1
  · exact absurd (h1 ▸ hzS hT) hx

theorem D1.weaken {T : Bool} {x : Nat} {s : List (Nat × Opd)} (h : D1 T 0 s) : D1 T x s := by
  intro z o hz1 hzS hz
  rcases h z o hz1 hzS hz with h1 | h1
  · left; exact h1
  · omega

/-- the state of a call: the basis `s` is good, relinearised but for `x`, and keeps what the basis `p` at the start
    of the call held -/
structure CallInv (B : Nat → Int) (T : Bool) (x : Nat) (p s : List (Nat × Opd)) : Prop where
  good : GoodBasis B s
  d1 : D1 T x s
  keep : Keep p s

section inv
variable {B : Nat → Int} {T : Bool} {x y n : Nat} {p s s' : List (Nat × Opd)} {o o' : Opd}

/-- storing `o'` at `n`: a new power, whose parts are stored, or a stored one; the exception of `D1` moves from `x`
    to `y` -/
theorem CallInv.upd (h : CallInv B T x p s) (hu : Upd s s' n o') (hd : 1 ≤ o'.deg ∧ o'.deg ≤ 2)
    (hl : B n ≤ o'.level)
    (hc : look s n ≠ none ∨ (look s (splitDegree n).1 ≠ none ∧ look s (splitDegree n).2 ≠ none))
    (ho : 1 ≤ n → (T = true → ∃ i, 2 ^ i = n) → o'.deg = 1 ∨ n = y) (hx : x = 0 ∨ x = n ∨ x = y)
    (hk : look p n = none ∨ ∃ o, look s n = some o ∧ o'.level = o.level ∧ o'.deg ≤ o.deg) : CallInv B T y p s' := by
  refine ⟨⟨hu.stored h.good.one, ?_, ?_, ?_⟩, ?_, ?_⟩
  · intro m om hm
    rw [hu m] at hm
    split at hm
    · cases hm; exact hd
    · exact h.good.deg m om hm
  · intro m om hm
    rw [hu m] at hm
    split at hm
    · next hmn => cases hm; rw [hmn]; exact hl
    · exact h.good.lvl m om hm
  · intro m hm2 hm
    have : look s (splitDegree m).1 ≠ none ∧ look s (splitDegree m).2 ≠ none := by
      rw [hu m] at hm
      split at hm
      · next hmn =>
        subst hmn
        rcases hc with hc | hc
        · exact h.good.closed m hm2 hc
        · exact hc
      · exact h.good.closed m hm2 hm
    exact ⟨hu.stored this.1, hu.stored this.2⟩
  · intro z oz hz1 hzS hz
    rw [hu z] at hz
    split at hz
    · next hzn => cases hz; rw [hzn]; exact ho (hzn ▸ hz1) (hzn ▸ hzS)
    · next hzn =>
      rcases h.d1 z oz hz1 hzS hz with h1 | h1
      · left; exact h1
      · rcases hx with hx | hx | hx
        · omega
        · omega
        · right; omega
  · intro z oz hz
    obtain ⟨o1, h1, hl1, hd1⟩ := h.keep z oz hz
    rw [hu z]
    by_cases hzn : z = n
    · subst hzn
      rw [if_pos rfl]
      rcases hk with hk | ⟨o2, h2, hl2, hd2⟩
      · rw [hk] at hz; cases hz
      · rw [h1] at h2; cases h2
        exact ⟨o', rfl, hl2.trans hl1, hd2.trans hd1⟩
    · rw [if_neg hzn]; exact ⟨o1, h1, hl1, hd1⟩

/-- a stored power relinearised or rescaled: its degree is not raised; the level is kept, or the power was new -/
theorem CallInv.touch (h : CallInv B T x p s) (hu : Upd s s' n o') (hn : look s n = some o)
    (hd : 1 ≤ o'.deg ∧ o'.deg ≤ o.deg) (hl : B n ≤ o'.level)
    (hk : look p n = none ∨ o'.level = o.level) (hx : x = y ∨ (x = n ∧ o'.deg = 1)) : CallInv B T y p s' := by
  have hdo := h.good.deg n o hn
  refine h.upd hu ⟨hd.1, by omega⟩ hl (Or.inl (by rw [hn]; simp)) ?_ (by omega)
    (hk.imp id fun hk => ⟨o, hn, hk, hd.2⟩)
  intro h1 hS
  rcases h.d1 n o h1 hS hn with h2 | h2
  · left; omega
  · rcases hx with hx | hx
    · right; omega
    · left; exact hx.2

end inv

theorem pow2_children {m : Nat} (hm : 2 ≤ m) (h : ∃ j, 2 ^ j = m) :
    (splitDegree m).1 = (splitDegree m).2 ∧ ∃ i, 2 ^ i = (splitDegree m).1 := by
  obtain ⟨j, rfl⟩ := h
  rcases j with _ | j
  · omega
  · rw [splitDegree_two_pow]; exact ⟨rfl, j, rfl⟩

theorem isPow2_exists {m : Nat} : isPow2 m = true ↔ ∃ j, 2 ^ j = m := by
  rw [isPow2_iff]
  constructor
  · intro h; exact ⟨_, h.2⟩
  · rintro ⟨j, rfl⟩; exact ⟨by positivity, by rw [Nat.log2_two_pow]⟩

theorem pred_pow_not_pow {k : Nat} (hk : 2 ≤ k) : ¬ ∃ i, 2 ^ i = 2 ^ k - 1 := by
  rintro ⟨i, hi⟩
  obtain ⟨k, rfl⟩ : ∃ k', k = k' + 2 := ⟨k - 2, by omega⟩
  have h4 : 2 ^ (k + 2) = 4 * 2 ^ k := by rw [pow_add]; omega
  have hk1 := Nat.one_le_two_pow (n := k)
  rcases i with _ | i
  · omega
  · rw [pow_succ] at hi; omega

theorem split_not_pow2 {m : Nat} (hm : 2 ≤ m) (h : isPow2 m = false) :
    ∃ k, 1 ≤ k ∧ 2 ^ k < m ∧ m < 2 ^ (k + 1) ∧ splitDegree m = (2 ^ k - 1, m + 1 - 2 ^ k) := by
  obtain ⟨k, h1, h2⟩ := exists_pow_lt m hm
  rcases Nat.lt_or_eq_of_le h2 with h2 | h2
  · refine ⟨k, ?_, h1, h2, (splitDegree_between h1 h2).1⟩
    rcases k with _ | k
    · omega
    · omega
  · rw [Bool.eq_false_iff] at h
    exact absurd (isPow2_exists.2 ⟨_, h2.symm⟩) h

theorem GoodBasis.pow_stored {B : Nat → Int} {pb : List (Nat × Opd)} (h : GoodBasis B pb) :
    ∀ k, look pb (2 ^ k - 1) ≠ none → ∀ i, i < k → look pb (2 ^ i) ≠ none := by
  have hp : ∀ j, look pb (2 ^ j) ≠ none → ∀ i, i ≤ j → look pb (2 ^ i) ≠ none := by
    intro j
    induction j with
    | zero =>
      intro h0 i hi
      obtain rfl : i = 0 := by omega
      exact h0
    | succ j ih =>
      intro hj i hi
      rcases Nat.lt_or_eq_of_le hi with hi | rfl
      · have := (h.closed (2 ^ (j + 1)) (by rw [pow_succ]; have := Nat.one_le_two_pow (n := j); omega) hj).1
        rw [splitDegree_two_pow] at this
        exact ih this i (by omega)
      · exact hj
  intro k hk i hi
  rcases k with _ | _ | k
  · omega
  · obtain rfl : i = 0 := by omega
    exact h.one
  · have h4 : 2 ^ (k + 2) = 2 * 2 ^ (k + 1) := by rw [pow_succ]; omega
    have hk1 : 2 ≤ 2 ^ (k + 1) := by rw [pow_succ]; have := Nat.one_le_two_pow (n := k); omega
    have := (h.closed (2 ^ (k + 2) - 1) (by omega) hk).2
    rw [(splitDegree_between (k := k + 1) (by omega) (by omega)).1] at this
    simp only at this
    rw [show 2 ^ (k + 2) - 1 + 1 - 2 ^ (k + 1) = 2 ^ (k + 1) by omega] at this
    exact hp (k + 1) this i (by omega)

/-- a lower bound `B` for the levels of the stored powers: the parts of `SplitDegree` lie one rescaling above -/
structure LvlBound (e : Env) (B : Nat → Int) : Prop where
  split : ∀ m, 2 ≤ m → B m + rho e ≤ B (splitDegree m).1 ∧ B m + rho e ≤ B (splitDegree m).2
  mono : ∀ x y, x ≤ y → B y ≤ B x

def GenMode (T : Bool) (m : Nat) (lazy : Bool) : Prop :=
  (lazy = true → T = true) ∧ (lazy = false → T = false ∨ ∃ j, 2 ^ j = m)

/-- after `genPower(m, lazy)` with result `r`, from the basis `p` -/
structure GenPost (B : Nat → Int) (T : Bool) (m : Nat) (lazy r : Bool) (p s : List (Nat × Opd)) : Prop
    extends CallInv B T (if r && lazy then m else 0) p s where
  new : r = true → look p m = none
  stored : look s m ≠ none

theorem GenPost.d1_zero {B : Nat → Int} {T : Bool} {m : Nat} {lz r : Bool} {p s : List (Nat × Opd)}
    (h : GenPost B T m lz r p s) (hn : r = true → lz = true → T = true ∧ ¬ ∃ i, 2 ^ i = m) : D1 T 0 s := by
  have := h.d1
  by_cases hc : (r && lz) = true
  · rw [if_pos hc] at this
    simp only [Bool.and_eq_true] at hc
    exact this.drop (hn hc.1 hc.2).1 (hn hc.1 hc.2).2
  · rw [if_neg hc] at this; exact this

/-- a factor `a` of the product for `m`, generated by the call (`r`) or found in the basis -/
structure GenPart (e : Env) (B : Nat → Int) (p s : List (Nat × Opd)) (m a : Nat) (r : Bool) : Prop where
  stored : look s a ≠ none
  lvl : ∀ o, look s a = some o → B a + (if r then rho e else 0) ≤ o.level
  new : r = true → look p a = none
  below : B m + rho e ≤ B a

/-- between the calls for the parts `a`, `b` of `m` and the product -/
structure Ready (e : Env) (B : Nat → Int) (T : Bool) (p s : List (Nat × Opd)) (m a b : Nat) (rA rB : Bool) (x : Nat) :
    Prop where
  inv : CallInv B T x p s
  fa : GenPart e B p s m a rA
  fb : GenPart e B p s m b rB
  ne : rB = true → b ≠ a
  new : look p m = none
  split : splitDegree m = (a, b)
  room : e.inv = true ∨ 0 ≤ B m

/-- after the product: `m` is stored one rescaling above its bound, at degree 2 in a lazy call -/
structure Made (e : Env) (B : Nat → Int) (T : Bool) (p s : List (Nat × Opd)) (m : Nat) (lazy : Bool) : Prop where
  inv : CallInv B T (if lazy then m else 0) p s
  new : look p m = none
  out : ∃ o, look s m = some o ∧ B m + rho e ≤ o.level ∧ (lazy = false → o.deg = 1)

/-- the parts `a`, `b` of `SplitDegree(m)` and the Chebyshev index `|a − b|` of a call in mode `lazy` -/
structure Parts (e : Env) (B : Nat → Int) (T : Bool) (m a b : Nat) (lazy : Bool) : Prop where
  split : splitDegree m = (a, b)
  m2 : 2 ≤ m
  pos : 1 ≤ a ∧ 1 ≤ b ∧ a + b = m
  below : B m + rho e ≤ B a ∧ B m + rho e ≤ B b ∧ B m + rho e ≤ B (if a ≥ b then a - b else b - a)
  mode : GenMode T m lazy
  sub : ∀ x, x = a ∨ x = b → GenMode T x (lazy && !isPow2 m)
  pow2 : (∃ j, 2 ^ j = m) → (if a ≥ b then a - b else b - a) = 0
  room : e.inv = true ∨ 0 ≤ B m

theorem parts_of {e : Env} {B : Nat → Int} {T : Bool} {m : Nat} {lazy : Bool} (hB : LvlBound e B) (hm2 : 2 ≤ m)
    (hmode : GenMode T m lazy) (hL : e.inv = true ∨ 0 ≤ B m) :
    Parts e B T m (splitDegree m).1 (splitDegree m).2 lazy := by
  obtain ⟨hsum, ha1, hb1⟩ := splitDegree_spec m hm2
  obtain ⟨hca, hcb⟩ := hB.split m hm2
  have hpc := pow2_children hm2
  have hpx : ∀ x, x = (splitDegree m).1 ∨ x = (splitDegree m).2 → (∃ j, 2 ^ j = m) → ∃ i, 2 ^ i = x := by
    intro x hx hj
    obtain ⟨hab, i, hi⟩ := hpc hj
    rcases hx with rfl | rfl
    · exact ⟨i, hi⟩
    · exact ⟨i, hab ▸ hi⟩
  refine ⟨rfl, hm2, ⟨ha1, hb1, hsum⟩, ⟨hca, hcb, ?_⟩, hmode, fun x hx => ?_, fun hj => ?_, hL⟩
  · split
    · exact le_trans hca (hB.mono _ _ (Nat.sub_le _ _))
    · exact le_trans hcb (hB.mono _ _ (Nat.sub_le _ _))
  · refine ⟨fun h => hmode.1 (by simp only [Bool.and_eq_true] at h; exact h.1), fun h => ?_⟩
    cases hlz : lazy with
    | false => exact (hmode.2 hlz).imp id (hpx x hx)
    | true =>
      rw [hlz] at h
      simp only [Bool.true_and, Bool.not_eq_false'] at h
      exact Or.inr (hpx x hx (isPow2_exists.1 h))
  · rw [(hpc hj).1]
    simp

/-- in a good basis that holds `m`, not a power of two, the Chebyshev index `|a − b|` is stored if it is a power of
    two: it is below `2^k`, and `a = 2^k − 1` is stored -/
theorem cheb_idx_stored {B : Nat → Int} {pb : List (Nat × Opd)} {m i : Nat} (hg : GoodBasis B pb) (hm2 : 2 ≤ m)
    (hp2 : isPow2 m = false) (hm : look pb m ≠ none)
    (hi : 2 ^ i = if (splitDegree m).1 ≥ (splitDegree m).2 then (splitDegree m).1 - (splitDegree m).2
      else (splitDegree m).2 - (splitDegree m).1) : look pb (2 ^ i) ≠ none := by
  obtain ⟨k, hk1, hk2, hk3, hsd⟩ := split_not_pow2 hm2 hp2
  have ha := (hg.closed m hm2 hm).1
  rw [hsd] at hi ha
  simp only at hi ha
  have h2k : 2 ≤ 2 ^ k := by
    obtain ⟨k, rfl⟩ : ∃ k', k = k' + 1 := ⟨k - 1, by omega⟩
    rw [pow_succ]; have := Nat.one_le_two_pow (n := k); omega
  rw [pow_succ] at hk3
  refine hg.pow_stored k ha i ((Nat.pow_lt_pow_iff_right (by decide : 1 < 2)).1 ?_)
  rw [hi]
  split <;> omega

section body
variable (e : Env) (B : Nat → Int) (T : Bool)
variable {p : List (Nat × Opd)} {s : St} {m a b : Nat} {rA rB lazy : Bool}

/-- the end of both branches of `genPower`: the pending rescalings of the two relinearised factors, then the product -/
theorem mulSuffix_run (name : String) (R : Ready e B T p s.pb m a b rA rB 0)
    (hda : ∃ o, look s.pb a = some o ∧ o.deg = 1) (hdb : ∃ o, look s.pb b = some o ∧ o.deg = 1) :
    Run (do rescaleIf e rA a; rescaleIf e rB b; mulInto e name (!lazy) a b m) s fun _ s' =>
      Made e B T p s'.pb m lazy := by
  obtain ⟨oa, hoa, hoad⟩ := hda
  obtain ⟨ob, hob, hobd⟩ := hdb
  have hca := R.fa.below
  have hcb := R.fb.below
  have hla := R.fa.lvl oa hoa
  have hr0 := rho_nonneg e
  have hpos : ∀ x : Int, B m + rho e + rho e ≤ x → e.inv = true ∨ 0 < x := fun x hx =>
    pos_of_pending R.room (by omega)
  apply Run.bind
  apply (run_rescaleIf e rA hoa (fun hr => hpos _ (by rw [if_pos hr] at hla; omega))).mono
  intro _ s5 ⟨o5, hu5, hd5, hl5⟩
  have hl5' : B a ≤ o5.level := by rw [hl5]; omega
  have h5 : CallInv B T 0 p s5.pb := R.inv.touch hu5 hoa (by omega) hl5' (by
    cases rA with
    | true => exact Or.inl (R.fa.new rfl)
    | false => exact Or.inr (by simpa using hl5)) (Or.inl rfl)
  have hoa5 : look s5.pb a = some o5 := by rw [hu5 a, if_pos rfl]
  obtain ⟨ob5, hob5, hob5d, hob5l⟩ : ∃ o, look s5.pb b = some o ∧ o.deg = 1 ∧
      B b + (if rB then rho e else 0) ≤ o.level := by
    by_cases hba : b = a
    · subst hba
      refine ⟨o5, hoa5, by omega, ?_⟩
      cases rB with
      | true => exact absurd rfl (R.ne rfl)
      | false => simpa using hl5'
    · exact ⟨ob, by rw [hu5 b, if_neg hba]; exact hob, hobd, R.fb.lvl ob hob⟩
  apply Run.bind
  apply (run_rescaleIf e rB hob5 (fun hr => hpos _ (by rw [if_pos hr] at hob5l; omega))).mono
  intro _ s6 ⟨o6, hu6, hd6, hl6⟩
  have hl6' : B b ≤ o6.level := by rw [hl6]; omega
  have h6 : CallInv B T 0 p s6.pb := h5.touch hu6 hob5 (by omega) hl6' (by
    cases rB with
    | true => exact Or.inl (R.fb.new rfl)
    | false => exact Or.inr (by simpa using hl6)) (Or.inl rfl)
  have hob6 : look s6.pb b = some o6 := by rw [hu6 b, if_pos rfl]
  obtain ⟨oa6, hoa6, hoa6d⟩ := hu6.look_deg1 (hd6.trans hob5d) ⟨o5, hoa5, hd5.trans hoad⟩
  apply (run_mulInto e name (!lazy) m hoa6 hob6 (by omega) (by omega)).mono
  intro _ s7 ⟨o7, hu7, hl7, hd7⟩
  have hl7' : B m + rho e ≤ o7.level := by
    have h1 := h6.good.lvl a oa6 hoa6
    have h2 := h6.good.lvl b o6 hob6
    rw [hl7]; omega
  refine ⟨h6.upd hu7 (by rw [hd7]; split <;> omega) (by omega)
      (Or.inr (by rw [R.split]; exact ⟨hu6.stored (hu5.stored R.fa.stored), hu6.stored (hu5.stored R.fb.stored)⟩))
      (fun _ _ => by cases lazy <;> simp [hd7]) (Or.inl rfl) (Or.inl R.new), R.new, o7, ?_, hl7',
    fun hl => by rw [hd7, hl]; rfl⟩
  rw [hu7 m, if_pos rfl]

/-- not lazy: `D1` gives the factors at degree 1 -/
theorem mulRelin_run (R : Ready e B T p s.pb m a b rA rB 0)
    (hS : ∀ x, x = a ∨ x = b → 1 ≤ x ∧ (T = true → ∃ i, 2 ^ i = x)) :
    Run (do rescaleIf e rA a; rescaleIf e rB b; mulInto e "mulrelinnew" true a b m) s fun _ s' =>
      Made e B T p s'.pb m false := by
  obtain ⟨oa, hoa⟩ := Option.ne_none_iff_exists'.1 R.fa.stored
  obtain ⟨ob, hob⟩ := Option.ne_none_iff_exists'.1 R.fb.stored
  have hda : oa.deg = 1 := by
    have := R.inv.d1 a oa (hS a (Or.inl rfl)).1 (hS a (Or.inl rfl)).2 hoa
    have := (hS a (Or.inl rfl)).1
    omega
  have hdb : ob.deg = 1 := by
    have := R.inv.d1 b ob (hS b (Or.inr rfl)).1 (hS b (Or.inr rfl)).2 hob
    have := (hS b (Or.inr rfl)).1
    omega
  exact mulSuffix_run e B T (lazy := false) "mulrelinnew" R ⟨oa, hoa, hda⟩ ⟨ob, hob, hdb⟩

/-- lazy: the factors are relinearised first, which clears the exception `b` of `D1` -/
theorem mulNew_run (R : Ready e B T p s.pb m a b rA rB (if rB then b else 0)) :
    Run (do relinIf2 e a; relinIf2 e b; rescaleIf e rA a; rescaleIf e rB b; mulInto e "mulnew" false a b m) s
      fun _ s' => Made e B T p s'.pb m true := by
  obtain ⟨oa, hoa⟩ := Option.ne_none_iff_exists'.1 R.fa.stored
  have hga := R.inv.good.deg a oa hoa
  apply Run.bind
  apply (run_relinIf2 e hoa).mono
  intro _ s3 ⟨o3, hu3, hl3, hd3⟩
  have hdeg3 : o3.deg = 1 := by rw [hd3]; split <;> omega
  have h3 : CallInv B T (if rB then b else 0) p s3.pb :=
    R.inv.touch hu3 hoa (by omega) (by rw [hl3]; exact R.inv.good.lvl a oa hoa) (Or.inr hl3) (Or.inl rfl)
  obtain ⟨ob3, hob3⟩ := Option.ne_none_iff_exists'.1 (hu3.stored R.fb.stored)
  have hgb := h3.good.deg b ob3 hob3
  apply Run.bind
  apply (run_relinIf2 e hob3).mono
  intro _ s4 ⟨o4, hu4, hl4, hd4⟩
  have hdeg4 : o4.deg = 1 := by rw [hd4]; split <;> omega
  have h4 : CallInv B T 0 p s4.pb :=
    h3.touch hu4 hob3 (by omega) (by rw [hl4]; exact h3.good.lvl b ob3 hob3) (Or.inr hl4)
      (by cases rB <;> simp [hdeg4])
  have hob4 : look s4.pb b = some o4 := by rw [hu4 b, if_pos rfl]
  have hoa4 := hu4.look_deg1 hdeg4 ⟨o3, by rw [hu3 a, if_pos rfl], hdeg3⟩
  -- relinearisation keeps every level
  have hlv : ∀ x ox', look s4.pb x = some ox' → ∃ ox, look s.pb x = some ox ∧ ox'.level = ox.level := by
    intro x ox' hx
    obtain ⟨o', h', e1⟩ := hu4.lvl_same hob3 hl4 x ox' hx
    obtain ⟨o'', h'', e2⟩ := hu3.lvl_same hoa hl3 x o' h'
    exact ⟨o'', h'', e1.trans e2⟩
  have hpart : ∀ {x r}, GenPart e B p s.pb m x r → GenPart e B p s4.pb m x r := fun f =>
    ⟨hu4.stored (hu3.stored f.stored),
      fun o ho => by obtain ⟨o', h', e1⟩ := hlv _ o ho; rw [e1]; exact f.lvl o' h', f.new, f.below⟩
  exact mulSuffix_run e B T (lazy := true) "mulnew" ⟨h4, hpart R.fa, hpart R.fb, R.ne, R.new, R.split, R.room⟩
    hoa4 ⟨o4, hob4, hdeg4⟩

/-- what a call `genPower(x, lz)` delivers from a good basis; `r`: `x` is new and waits for its rescaling -/
def RecSpec (rec : Nat → Bool → M Bool) (x : Nat) : Prop :=
  ∀ lz (st : St), GenMode T x lz → GoodBasis B st.pb → D1 T 0 st.pb →
    Run (rec x lz) st fun r s => GenPost B T x lz r st.pb s.pb ∧
      (r = true → ∀ o, look s.pb x = some o → B x + rho e ≤ o.level)

def TopSpec (top : Nat → Bool → M Unit) (x : Nat) : Prop :=
  ∀ lz (st : St), GenMode T x lz → GoodBasis B st.pb → D1 T 0 st.pb →
    Run (top x lz) st fun _ s => ∃ r, GenPost B T x lz r st.pb s.pb

theorem Made.touch {s' : List (Nat × Opd)} {om o' : Opd} (h : Made e B T p s.pb m lazy) (hu : Upd s.pb s' m o')
    (hom : look s.pb m = some om) (hl : o'.level = om.level) (hd : o'.deg = om.deg) : Made e B T p s' m lazy := by
  obtain ⟨o, ho, hlm, hdm⟩ := h.out
  rw [hom] at ho
  cases ho
  have := h.inv.good.deg m om hom
  have := rho_nonneg e
  exact ⟨h.inv.touch hu hom (by omega) (by omega) (Or.inl h.new) (Or.inl rfl), h.new, o',
    (hu m).trans (if_pos rfl), by omega, fun hlz => by rw [hd]; exact hdm hlz⟩

/-- the Chebyshev correction starts with `2·C_a·C_b` -/
theorem chebDouble_run {β : Type} {k : M β} {Q : β → St → Prop} (h : Made e B T p s.pb m lazy)
    (hk : ∀ s', Made e B T p s'.pb m lazy → Run k s' Q) :
    Run (do let o ← getP m; let o2 ← addCt e "add" false o o; setP m o2; k) s Q := by
  obtain ⟨om, hom, -⟩ := h.out
  apply run_getP hom
  apply Run.bind
  apply (run_addCt e _ _ om om s).mono
  intro o8 s1 ⟨hs1, hl8, hd8⟩
  apply Run.bind
  apply (run_setP m o8 s1).mono
  intro _ s8 hu8
  exact hk s8 (h.touch e B T (hs1 ▸ hu8) hom (hl8.trans (min_self _)) (hd8.trans (max_self _)))

/-- `C_0 = 1`: the constant is subtracted in place -/
theorem chebConst_run (h : Made e B T p s.pb m lazy) :
    Run (do
      let o ← getP m
      log s!"add({showOpd e o},c)"
      setP m { o with val := o.val.map fun x => redV e (x - 1) }) s fun _ s' => Made e B T p s'.pb m lazy := by
  obtain ⟨om, hom, -⟩ := h.out
  apply run_getP hom
  apply Run.bind
  apply (run_log _ s).mono
  intro _ s2 hs2
  apply (run_setP m _ s2).mono
  intro _ s9 hu9
  rw [hs2] at hu9
  exact h.touch e B T hu9 hom rfl rfl

/-- `C_c`, `c = |a − b| ≠ 0`, is generated in the mode of the call and subtracted.  A new `c` of a lazy call is no power
    of two (`cheb_idx_stored`), so `D1` holds again without exception -/
theorem chebTerm_run {top : Nat → Bool → M Unit} (P : Parts e B T m a b lazy) (h : Made e B T p s.pb m lazy)
    (hc : (if a ≥ b then a - b else b - a) ≠ 0) (htop : ∀ x, 1 ≤ x → x + 2 ≤ m → TopSpec B T top x) :
    Run (do
      top (if a ≥ b then a - b else b - a) lazy
      let on ← getP m
      let oc ← getP (if a ≥ b then a - b else b - a)
      let o3 ← addCt e "sub" true on oc
      setP m o3) s fun _ s' => Made e B T p s'.pb m lazy := by
  obtain ⟨om, hom, hlm, hdm⟩ := h.out
  have hr0 := rho_nonneg e
  have hnp : ¬ ∃ i, 2 ^ i = m := fun hp => hc (P.pow2 hp)
  have hd0 : D1 T 0 s.pb := by
    have := h.inv.d1
    by_cases hlz : lazy = true
    · rw [if_pos hlz] at this; exact this.drop (P.mode.1 hlz) hnp
    · rw [if_neg hlz] at this; exact this
  apply Run.bind
  obtain ⟨ha1, hb1, hsum⟩ := P.pos
  apply (htop _ (by omega) (by split <;> omega) lazy s
    ⟨P.mode.1, fun hlz => (P.mode.2 hlz).imp id fun hp => absurd hp hnp⟩ h.inv.good hd0).mono
  intro _ s9 ⟨r, pc⟩
  have hd9 : D1 T 0 s9.pb := by
    refine pc.d1_zero fun hr hlz => ⟨P.mode.1 hlz, ?_⟩
    rintro ⟨i, hi⟩
    have hsa : (splitDegree m).1 = a := by rw [P.split]
    have hsb : (splitDegree m).2 = b := by rw [P.split]
    exact cheb_idx_stored h.inv.good P.m2 (by rw [Bool.eq_false_iff, Ne, isPow2_exists]; exact hnp)
      (by rw [hom]; simp) (by rw [hsa, hsb]; exact hi) (hi ▸ pc.new hr)
  obtain ⟨on, hon, hlon, hdon⟩ := pc.keep m om hom
  obtain ⟨oc, hoc⟩ := Option.ne_none_iff_exists'.1 pc.stored
  apply run_getP hon
  apply run_getP hoc
  apply Run.bind
  apply (run_addCt e _ _ on oc s9).mono
  intro o10 s3 ⟨hs3, hl10, hd10⟩
  apply (run_setP m o10 s3).mono
  intro _ s10 hu10
  rw [hs3] at hu10
  have hdy := pc.good.deg m on hon
  have hdz := pc.good.deg _ oc hoc
  have hlz := pc.good.lvl _ oc hoc
  have hcc := P.below.2.2
  have hdeg : lazy = false → o10.deg = 1 := by
    intro hlf
    have h1 : om.deg = 1 := hdm hlf
    have hT : T = false := (P.mode.2 hlf).elim id fun hp => absurd hp hnp
    have := hd9 _ oc (by omega) (fun hT' => by rw [hT] at hT'; cases hT') hoc
    rw [hd10]; omega
  refine ⟨(CallInv.mk pc.good hd9 (h.inv.keep.trans pc.keep)).upd hu10 (by rw [hd10]; omega) (by rw [hl10]; omega)
    (Or.inl (by rw [hon]; simp)) (fun _ _ => ?_) (Or.inl rfl) (Or.inl h.new), h.new, o10,
    by rw [hu10 m, if_pos rfl], by rw [hl10]; omega, hdeg⟩
  by_cases hlz' : lazy = true
  · right; rw [if_pos hlz']
  · left; exact hdeg (by simpa using hlz')

/-- the calls for the two parts.  The first part of a lazy call for `m`, no power of two, is `2^k − 1`: if new, `k ≥ 2`
    and it is no power of two either, so the second call starts without exception of `D1` -/
theorem parts_run {rec : Nat → Bool → M Bool} {β : Type} {k : Bool → Bool → M β} {Q : β → St → Prop} {st : St}
    (P : Parts e B T m a b lazy) (hrec : ∀ x, 1 ≤ x → x < m → RecSpec e B T rec x)
    (hg : GoodBasis B st.pb) (hd : D1 T 0 st.pb) (hn : look st.pb m = none)
    (hk : ∀ rA rB s2, Ready e B T st.pb s2.pb m a b rA rB (if rB && lazy then b else 0) → Run (k rA rB) s2 Q) :
    Run (rec a (lazy && !isPow2 m) >>= fun rA => rec b (lazy && !isPow2 m) >>= fun rB => k rA rB) st Q := by
  obtain ⟨ha1, hb1, hsum⟩ := P.pos
  apply Run.bind
  apply (hrec a ha1 (by omega) _ st (P.sub a (Or.inl rfl)) hg hd).mono
  intro rA s1 ⟨p1, pend1⟩
  have hd1 : D1 T 0 s1.pb := by
    refine p1.d1_zero fun hrA hl' => ?_
    simp only [Bool.and_eq_true, Bool.not_eq_true'] at hl'
    obtain ⟨k, hk1, _, _, hsd⟩ := split_not_pow2 P.m2 hl'.2
    have hak : a = 2 ^ k - 1 := by have := P.split; rw [hsd] at this; exact (Prod.mk.inj this).1.symm
    refine ⟨P.mode.1 hl'.1, ?_⟩
    rw [hak]
    apply pred_pow_not_pow
    by_contra hk2
    obtain rfl : k = 1 := by omega
    have := p1.new hrA
    rw [hak] at this
    exact hg.one this
  apply Run.bind
  apply (hrec b hb1 (by omega) _ s1 (P.sub b (Or.inr rfl)) p1.good hd1).mono
  intro rB s2 ⟨p2, pend2⟩
  have hnB : rB = true → look st.pb b = none ∧ b ≠ a := by
    intro hr
    have hb1' := p2.new hr
    constructor
    · by_contra hne; exact p1.keep.stored hne hb1'
    · intro hba; rw [hba] at hb1'; exact p1.stored hb1'
  refine hk rA rB s2 ⟨⟨p2.good, ?_, p1.keep.trans p2.keep⟩, ⟨p2.keep.stored p1.stored, fun o ho => ?_, p1.new, P.below.1⟩,
    ⟨p2.stored, fun o ho => ?_, fun hr => (hnB hr).1, P.below.2.1⟩, fun hr => (hnB hr).2, hn, P.split, P.room⟩
  · have := p2.d1
    by_cases hc : (rB && (lazy && !isPow2 m)) = true
    · rw [if_pos hc] at this
      simp only [Bool.and_eq_true] at hc
      rw [if_pos (by simp [hc.1, hc.2.1])]; exact this
    · rw [if_neg hc] at this; exact this.weaken
  · obtain ⟨o1, ho1⟩ := Option.ne_none_iff_exists'.1 p1.stored
    obtain ⟨o', h', hl, _⟩ := p2.keep a o1 ho1
    rw [ho] at h'; cases h'
    rw [hl]
    cases rA with
    | false => simpa using p1.good.lvl a o1 ho1
    | true => simpa using pend1 rfl o1 ho1
  · cases rB with
    | false => simpa using p2.good.lvl b o ho
    | true => simpa using pend2 rfl o ho

theorem genBody_run {top : Nat → Bool → M Unit} {rec : Nat → Bool → M Bool} {m : Nat} {lazy : Bool}
    (hB : LvlBound e B) (hm2 : 2 ≤ m) (hmode : GenMode T m lazy) (hL : e.inv = true ∨ 0 ≤ B m)
    (hrec : ∀ x, 1 ≤ x → x < m → RecSpec e B T rec x) (htop : ∀ x, 1 ≤ x → x + 2 ≤ m → TopSpec B T top x)
    (st : St) (hg : GoodBasis B st.pb) (hd : D1 T 0 st.pb) (hn : look st.pb m = none) :
    Run (genBody e top rec (splitDegree m).1 (splitDegree m).2 m (isPow2 m) lazy) st fun r s =>
      GenPost B T m lazy r st.pb s.pb ∧
      (r = true → ∀ o, look s.pb m = some o → B m + rho e ≤ o.level) := by
  have P := parts_of (T := T) hB hm2 hmode hL
  obtain ⟨ha1, hb1, hsum⟩ := P.pos
  unfold genBody
  apply parts_run e B T P hrec hg hd hn
  intro rA rB s2 R
  apply Run.bind
  apply Run.mono (Q := fun _ s' => Made e B T st.pb s'.pb m lazy)
  · cases lazy with
    | false =>
      simp only [Bool.false_eq_true, if_false, Bool.and_false] at R ⊢
      exact mulRelin_run e B T R fun x hx => ⟨by rcases hx with rfl | rfl <;> assumption, fun hT =>
        ((P.sub x hx).2 rfl).elim (fun h => by rw [h] at hT; cases hT) id⟩
    | true =>
      simp only [if_true, Bool.and_true] at R ⊢
      exact mulNew_run e B T R
  intro _ s7 h7
  apply Run.bind
  apply Run.mono (Q := fun _ s' => Made e B T st.pb s'.pb m lazy)
  · by_cases hch : e.cheb = true
    swap
    · rw [if_neg hch]; exact Run.pure h7
    rw [if_pos hch]
    apply chebDouble_run e B T h7
    intro s8 h8
    by_cases hcz : (if (splitDegree m).1 ≥ (splitDegree m).2 then (splitDegree m).1 - (splitDegree m).2
        else (splitDegree m).2 - (splitDegree m).1) = 0
    · rw [if_pos hcz]
      exact chebConst_run e B T h8
    · rw [if_neg hcz]
      exact chebTerm_run e B T P h8 hcz htop
  intro _ s10 h10
  obtain ⟨o, ho, hl, _⟩ := h10.out
  exact Run.pure ⟨⟨⟨h10.inv.good, by simpa using h10.inv.d1, h10.inv.keep⟩, fun _ => hn, by rw [ho]; simp⟩,
    fun _ o' ho' => by rw [ho] at ho'; cases ho'; exact hl⟩


theorem gen_run (hB : LvlBound e B) : ∀ fuel,
    (∀ m, 1 ≤ m → m + 1 < fuel → (e.inv = true ∨ 0 ≤ B m) → TopSpec B T (genPowerTop e fuel) m) ∧
    (∀ m, 1 ≤ m → m < fuel → (e.inv = true ∨ 0 ≤ B m) → RecSpec e B T (genPowerRec e fuel) m) := by
  intro fuel
  induction fuel with
  | zero => exact ⟨fun m _ h => by omega, fun m _ h => by omega⟩
  | succ fuel ih =>
    obtain ⟨ihT, ihR⟩ := ih
    constructor
    · intro m hm1 hf hL lz st hmode hg hd
      rw [genPowerTop]
      apply Run.bind
      apply (run_hasP m st).mono
      intro c s ⟨hc, hs⟩
      subst hs; subst hc
      cases hlk : look s.pb m with
      | some o =>
        simp only [Option.isSome_some, if_true]
        exact Run.pure ⟨false, ⟨hg, by simpa using hd, Keep.refl _⟩, fun h => Bool.noConfusion h, by rw [hlk]; simp⟩
      | none =>
        simp only [Option.isSome_none, Bool.false_eq_true, if_false]
        apply Run.bind
        apply (ihR m hm1 (by omega) hL lz s hmode hg hd).mono
        intro r s1 ⟨p, pend⟩
        obtain ⟨o, ho⟩ := Option.ne_none_iff_exists'.1 p.stored
        apply (run_rescaleIf e r ho (fun hr => pos_of_pending hL (pend hr o ho))).mono
        intro _ s2 ⟨o', hu, hd', hl'⟩
        refine ⟨r, p.toCallInv.touch hu ho (by have := p.good.deg m o ho; omega) ?_ (Or.inl hlk) (Or.inl rfl), p.new,
          hu.stored p.stored⟩
        cases r with
        | false => simp only [Bool.false_eq_true, if_false, sub_zero] at hl'; rw [hl']; exact p.good.lvl m o ho
        | true => simp only [if_true] at hl'; have := pend rfl o ho; omega
    · intro m hm1 hf hL lz st hmode hg hd
      rw [genPowerRec_succ]
      apply Run.bind
      apply (run_hasP m st).mono
      intro c s ⟨hc, hs⟩
      subst hs; subst hc
      cases hlk : look s.pb m with
      | some o =>
        simp only [Option.isSome_some, if_true]
        exact Run.pure ⟨⟨⟨hg, by simpa using hd, Keep.refl _⟩, fun h => Bool.noConfusion h, by rw [hlk]; simp⟩,
          fun h => Bool.noConfusion h⟩
      | none =>
        simp only [Option.isSome_none, Bool.false_eq_true, if_false]
        rw [if_neg (by omega)]
        have hm2 : 2 ≤ m := by
          by_contra hlt
          obtain rfl : m = 1 := by omega
          exact hg.one hlk
        have hL' : ∀ x, x ≤ m → e.inv = true ∨ 0 ≤ B x := fun x hx =>
          hL.imp id fun h => le_trans h (hB.mono x m hx)
        exact genBody_run e B T hB hm2 hmode hL (fun x h1 hx => ihR x h1 (by omega) (hL' x (by omega)))
          (fun x h1 hx => ihT x h1 (by omega) (hL' x (by omega))) s hg hd hlk

/-- `GenPower(n, lz)` inside a run in mode `T` keeps the call invariant, if a lazily generated `n` is no new power of
    two -/
theorem genTop_run (hB : LvlBound e B) {fuel n : Nat} {lz : Bool} {p : List (Nat × Opd)} {s : St}
    (hs : CallInv B T 0 p s.pb) (h1 : 1 ≤ n) (hf : n + 1 < fuel) (hroom : e.inv = true ∨ 0 ≤ B n)
    (hmode : GenMode T n lz) (hnp : lz = true → (∃ j, 2 ^ j = n) → look s.pb n ≠ none) :
    Run (genPowerTop e fuel n lz) s fun _ s' => CallInv B T 0 p s'.pb ∧ Keep s.pb s'.pb ∧ look s'.pb n ≠ none := by
  apply ((gen_run e B T hB fuel).1 n h1 hf hroom lz s hmode hs.good hs.d1).mono
  intro _ s' ⟨r, q⟩
  exact ⟨⟨q.good, q.d1_zero fun hr hlz => ⟨hmode.1 hlz, fun hj => hnp hlz hj (q.new hr)⟩, hs.keep.trans q.keep⟩,
    q.keep, q.stored⟩

theorem genPowers_run (hB : LvlBound e B) (lazy : Bool) (deg : Nat) (hdeg : 1 ≤ deg)
    (hL : e.inv = true ∨ 0 ≤ B (2 ^ bitLen deg))
    (ho : e.odd = true) (he : e.even = true) (st : St) (hg : GoodBasis B st.pb) (hd : D1 lazy 0 st.pb) :
    Run (genPowers e deg lazy) st fun _ s => CallInv B lazy 0 st.pb s.pb ∧
      (∀ j, j < bitLen deg → look s.pb (2 ^ j) ≠ none) ∧
      (∀ i, 1 ≤ i → i < 2 ^ optimalSplit (bitLen deg) → look s.pb i ≠ none) := by
  -- the model's fuel `2·deg + 8` is above every power generated: they are at most `2^bitLen deg ≤ 2·deg`
  have hf := pow_bitLen_le deg hdeg
  have hK1 : 1 ≤ bitLen deg := by rw [bitLen_pos deg hdeg]; omega
  have hos : 2 ^ optimalSplit (bitLen deg) ≤ 2 ^ bitLen deg :=
    Nat.pow_le_pow_right (by decide) (optimalSplit_le _ hK1)
  have hcl : ∀ m, m ≤ 2 ^ bitLen deg → e.inv = true ∨ 0 ≤ B m := fun m hm =>
    hL.imp id fun h => le_trans h (hB.mono m _ hm)
  have hpw : ∀ j, j < bitLen deg → 2 ^ j < 2 ^ bitLen deg := fun j hj => Nat.pow_lt_pow_right (by decide) hj
  unfold genPowers
  simp only []
  apply Run.bind
  apply (run_forM _ (fun s => CallInv B lazy 0 st.pb s.pb) (fun i s => look s.pb (2 ^ (i + 1)) ≠ none)
    (List.range (bitLen deg - 1)) ?_ st ⟨hg, hd, Keep.refl _⟩).mono
  swap
  · intro i hi s hs
    have hi' : i + 1 < bitLen deg := by have := List.mem_range.1 hi; omega
    apply (genTop_run e B lazy hB hs Nat.one_le_two_pow (by have := hpw _ hi'; omega) (hcl _ (le_of_lt (hpw _ hi')))
      ⟨fun h => Bool.noConfusion h, fun _ => Or.inr ⟨i + 1, rfl⟩⟩ (fun h => Bool.noConfusion h)).mono
    intro _ s' ⟨h', hk, hst⟩
    exact ⟨h', hst, fun j hj => hk.stored hj⟩
  intro _ s1 ⟨h1, hp1, _⟩
  have hpow1 : ∀ j, j < bitLen deg → look s1.pb (2 ^ j) ≠ none := by
    intro j hj
    rcases j with _ | j
    · exact h1.good.one
    · exact hp1 j (List.mem_range.2 (by omega))
  apply (run_forM _ (fun s => CallInv B lazy 0 st.pb s.pb ∧ ∀ j, j < bitLen deg → look s.pb (2 ^ j) ≠ none)
    (fun k s => 2 < 2 ^ optimalSplit (bitLen deg) - 1 - k → look s.pb (2 ^ optimalSplit (bitLen deg) - 1 - k) ≠ none)
    (List.range (2 ^ optimalSplit (bitLen deg))) ?_ s1 ⟨h1, hpow1⟩).mono
  swap
  · intro k _ s ⟨hs, hps⟩
    simp only [ho, he, useIdx_true_true, Bool.and_true, decide_eq_true_eq]
    split
    · next hi2 =>
      apply (genTop_run e B lazy hB hs (by omega) (by omega) (hcl _ (by omega)) ⟨id, fun h => Or.inl h⟩
        (fun _ ⟨j, hj⟩ => hj ▸ hps j ((Nat.pow_lt_pow_iff_right (by decide : 1 < 2)).1 (by omega)))).mono
      intro _ s' ⟨h', hk, hst⟩
      exact ⟨⟨h', fun j hj => hk.stored (hps j hj)⟩, fun _ => hst, fun j hj h => hk.stored (hj h)⟩
    · next hi2 => exact Run.pure ⟨⟨hs, hps⟩, fun h => absurd h hi2, fun _ h => h⟩
  intro _ s2 ⟨⟨h2, hps2⟩, hp2, _⟩
  refine ⟨h2, hps2, ?_⟩
  intro i hi1 hi
  by_cases hi2 : 2 < i
  · have := hp2 (2 ^ optimalSplit (bitLen deg) - 1 - i) (List.mem_range.2 (by omega))
    rw [show 2 ^ optimalSplit (bitLen deg) - 1 - (2 ^ optimalSplit (bitLen deg) - 1 - i) = i by omega] at this
    exact this hi2
  · -- `i = 1` is the input, `i = 2` a power of two
    have hK2 : i = 2 → 1 < bitLen deg := by
      intro h2
      by_contra hK
      obtain hK' : bitLen deg = 1 := by omega
      rw [hK', show optimalSplit 1 = 1 by decide] at hi
      omega
    rcases (by omega : i = 1 ∨ i = 2) with rfl | rfl
    · exact hps2 0 (by omega)
    · exact hps2 1 (hK2 rfl)

end body

/-- the bound of a run from input level `L`: `L − ⌈log2 m⌉`, and `L` in the scale-invariant mode -/
def stdBound (e : Env) (L : Int) (m : Nat) : Int := L - rho e * Nat.clog 2 m

theorem stdBound_ok (e : Env) (L : Int) : LvlBound e (stdBound e L) := by
  refine ⟨fun m hm => ?_, fun x y hxy => ?_⟩
  · have := clog_splitDegree m hm
    unfold stdBound
    rcases rho_cases e with ⟨_, h⟩ | ⟨_, h⟩
    · rw [h]; omega
    · rw [h]; omega
  · have := Nat.clog_mono_right 2 hxy
    unfold stdBound
    rcases rho_cases e with ⟨_, h⟩ | ⟨_, h⟩
    · rw [h]; omega
    · rw [h]; omega

theorem stdBound_one (e : Env) (L : Int) : stdBound e L 1 = L := by simp [stdBound]

theorem stdBound_ge (e : Env) (L : Int) {m c : Nat} (h : m ≤ 2 ^ c) : L - rho e * c ≤ stdBound e L m := by
  have := Nat.clog_le_of_le_pow h
  unfold stdBound
  rcases rho_cases e with ⟨_, h⟩ | ⟨_, h⟩
  · rw [h]; omega
  · rw [h]; omega

theorem fresh_basis {B : Nat → Int} (T : Bool) (o : Opd) (hd : o.deg = 1) (hl : B 1 ≤ o.level) :
    GoodBasis B [(1, o)] ∧ D1 T 0 [(1, o)] := by
  have hlook : ∀ m o', look [((1 : Nat), o)] m = some o' → m = 1 ∧ o' = o := by
    intro m o' h
    simp only [look, List.find?_cons, List.find?_nil] at h
    split at h
    · next hm => simp only [Option.map_some, Option.some.injEq] at h; exact ⟨(by simpa using hm : 1 = m).symm, h.symm⟩
    · cases h
  refine ⟨⟨by simp [look], ?_, ?_, ?_⟩, fun y o' _ _ h => Or.inl (by rw [(hlook y o' h).2, hd])⟩
  · intro m o' h; rw [(hlook m o' h).2, hd]; exact ⟨le_refl _, by decide⟩
  · intro m o' h; rw [(hlook m o' h).2, (hlook m o' h).1]; exact hl
  · intro m hm2 hm
    obtain ⟨o', ho'⟩ := Option.ne_none_iff_exists'.1 hm
    have := (hlook m o' ho').1
    omega

/-- 64 levels are enough for the `⌈log2 n⌉ ≤ 64` rescalings -/
theorem genPowerCheck_all (cheb lazy : Bool) (n : Nat) (h1 : 1 ≤ n) (h64 : n ≤ 2 ^ 64) :
    genPowerCheck cheb n lazy = true := by
  have hrho : rho { t := 0, q := [], cheb := cheb, slots := 0 } = 1 := rfl
  obtain ⟨hg0, hd0⟩ := fresh_basis (B := stdBound { t := 0, q := [], cheb := cheb, slots := 0 } 64) lazy
    { level := 64, scale := 0, deg := 1, val := [] } rfl (le_of_eq (stdBound_one _ _))
  obtain ⟨_, s, hex, r, p⟩ := (gen_run { t := 0, q := [], cheb := cheb, slots := 0 } _ lazy (stdBound_ok _ 64)
      (2 * n + 8)).1 n h1 (by omega) (Or.inr (le_trans (by rw [hrho]; decide) (stdBound_ge _ 64 h64))) lazy
    { pb := [(1, { level := 64, scale := 0, deg := 1, val := [] })] } ⟨id, fun h => Or.inl h⟩ hg0 hd0
  unfold genPowerCheck
  rw [runGen_ok (st := s) (by rw [ex_bind, ex_setP]; exact hex)]
  obtain ⟨o, ho⟩ := Option.ne_none_iff_exists'.1 p.stored
  simp only [beq_self_eq_true, true_and, Bool.and_eq_true, List.all_eq_true, List.mem_filterMap, List.mem_range,
    Option.map_eq_some_iff, decide_eq_true_eq, List.find?_isSome]
  constructor
  · rintro ⟨k, d⟩ ⟨k', _, q, hq, hkd⟩
    obtain ⟨rfl, rfl⟩ := Prod.mk.inj hkd
    exact (p.good.deg k' q.2 (by simp [look, hq])).2
  · unfold look at ho
    obtain ⟨q, hq, hqo⟩ := Option.map_eq_some_iff.1 ho
    exact ⟨(n, q.2), ⟨n, by omega, q, hq, rfl⟩, by simp⟩

end Lattigo.Model.PolyEval
