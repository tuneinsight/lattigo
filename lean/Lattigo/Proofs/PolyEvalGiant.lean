/-
  C13 — the giant-step loop of `EvaluatePatersonStockmeyerPolynomialVector` never fails and ends with one entry, on
  every list of baby steps laid out in blocks (`Blocks`, `giantPass_run`, `giantLoop_run`).
-/
import Lattigo.Proofs.PolyEvalRunSpec

namespace Lattigo.Model.PolyEval

theorem aligned_end {b p K : Nat} (hd : 2 ^ b ∣ p) (hb : b ≤ K) (hp : p < 2 ^ K) : p + 2 ^ b ≤ 2 ^ K := by
  obtain ⟨q, rfl⟩ := hd
  obtain ⟨j, rfl⟩ := Nat.exists_eq_add_of_le hb
  rw [Nat.pow_add] at hp ⊢
  rw [← Nat.mul_succ]
  exact Nat.mul_le_mul_left _ (Nat.lt_of_mul_lt_mul_left hp)

theorem bitLen_pred_pow (a : Nat) : bitLen (2 ^ a - 1) = a := len64_two_pow_sub_one a

theorem giantPass_nil (e : Env) (fuel : Nat) (prev : Option Nat) : giantPass e fuel prev [] = pure [] := by
  cases fuel with
  | zero => rfl
  | succ => rfl

section giant
variable (e : Env) (K : Nat) (lb : Nat → Int)

/-- The entries of the giant-step loop, lowest order first, as blocks of coefficients: the entry at position `pos`
    with exponent `a` stands for the coefficients `[pos, pos + 2^a)`, `2^a ∣ pos`; its label is `2^a − 1` (the last
    entry's may be smaller: `x` says that it is not), its level at least `lb pos`; the exponents do not increase, and
    everything lies below `2^K`.  `z` is the exponent of the last entry.
    A pass merges two neighbours of equal label when it meets them as a pair.  Since the exponents do not increase, a
    pair it meets starts at a multiple of `2^(a+1)` (`giantPass_run` carries this as its hypothesis), so the merged
    block is aligned again and, with `lb (pos + 2^a) = lb pos + rho`, the rescaled upper half is not below `lb pos`.
    An entry left alone at the end takes the label of its predecessor, i.e. a larger block at the same position. -/
inductive Blocks : Nat → Nat → Nat → Bool → List (Nat × Opd) → Prop
  | last {pos a d : Nat} {x : Bool} {v : Opd} (hal : 2 ^ a ∣ pos) (hK : pos + 2 ^ a ≤ 2 ^ K) (hd : d + 1 ≤ 2 ^ a)
      (hx : x = true → d + 1 = 2 ^ a) (hl : lb pos ≤ v.level) (hv : v.deg ≤ 2) : Blocks pos a a x [(d, v)]
  | cons {pos a a' z : Nat} {x : Bool} {v : Opd} {rest : List (Nat × Opd)} (hal : 2 ^ a ∣ pos)
      (hl : lb pos ≤ v.level) (hv : v.deg ≤ 2) (ha : a' ≤ a) (hr : Blocks (pos + 2 ^ a) a' z x rest) :
      Blocks pos a z x ((2 ^ a - 1, v) :: rest)

variable {K lb}

theorem Blocks.end_le {pos a z : Nat} {x : Bool} {l : List (Nat × Opd)} (h : Blocks K lb pos a z x l) :
    pos + 2 ^ a ≤ 2 ^ K := by
  induction h with
  | last _ hK => exact hK
  | cons hal hl hv ha hr ih => exact le_trans (Nat.le_add_right _ _) ih

theorem Blocks.z_le {pos a z : Nat} {x : Bool} {l : List (Nat × Opd)} (h : Blocks K lb pos a z x l) : z ≤ a := by
  induction h with
  | last => exact le_refl _
  | cons _ _ _ ha _ ih => omega

theorem Blocks.head_level {pos a z : Nat} {x : Bool} {l : List (Nat × Opd)} (h : Blocks K lb pos a z x l) :
    ∃ d v r, l = (d, v) :: r ∧ lb pos ≤ v.level ∧ v.deg ≤ 2 := by
  cases h with
  | last _ _ _ _ hl hv => exact ⟨_, _, _, rfl, hl, hv⟩
  | cons _ hl hv => exact ⟨_, _, _, rfl, hl, hv⟩

/-- the level of the first entry has not gone up -/
def HeadLe (l l' : List (Nat × Opd)) : Prop :=
  ∀ d v r d' v' r', l = (d, v) :: r → l' = (d', v') :: r' → v'.level ≤ v.level

theorem HeadLe.cons {d d' : Nat} {v v' : Opd} {r r' : List (Nat × Opd)} (h : v'.level ≤ v.level) :
    HeadLe ((d, v) :: r) ((d', v') :: r') := by
  intro _ _ _ _ _ _ hl1 hl2
  obtain ⟨⟨-, rfl⟩, -⟩ := List.cons.inj hl1
  obtain ⟨⟨-, rfl⟩, -⟩ := List.cons.inj hl2
  exact h

variable (K lb)

/-- what the loop needs of the level bound and of the basis: the upper half of an aligned block lies one rescaling
    higher; the power `X^(2^a)` that shifts it is stored, relinearised, and not below the level of the block -/
structure GiantHyp (pb : List (Nat × Opd)) : Prop where
  merge : ∀ a p, 2 ^ (a + 1) ∣ p → lb (p + 2 ^ a) = lb p + rho e
  pow : ∀ a p, 2 ^ (a + 1) ∣ p → p + 2 ^ (a + 1) ≤ 2 ^ K →
    ∃ x, look pb (2 ^ a) = some x ∧ x.deg = 1 ∧ lb p ≤ x.level
  pos : e.inv = true ∨ ∀ p, 0 ≤ lb p

variable {e K lb}

theorem Blocks.bump {pos a cap d : Nat} {x : Bool} {v : Opd} (h : Blocks K lb pos a a x [(d, v)])
    (hcp : 2 ^ cap ∣ pos) (hcp' : 2 ^ cap ≤ pos) : Blocks K lb pos cap cap true [(2 ^ cap - 1, v)] := by
  cases h with
  | last hal hK hd hx hl hv =>
    have hc1 := Nat.one_le_two_pow (n := cap)
    have ha0 := Nat.one_le_two_pow (n := a)
    have hcK : 2 ^ cap < 2 ^ K := by omega
    exact Blocks.last hcp (aligned_end hcp (le_of_lt ((Nat.pow_lt_pow_iff_right (a := 2) (by decide)).1 hcK))
      (by omega)) (by omega) (fun _ => by omega) hl hv
  | cons _ _ _ _ hr => cases hr

theorem Blocks.tail {pos a z d : Nat} {x : Bool} {v : Opd} {y : Nat × Opd} {r : List (Nat × Opd)}
    (h : Blocks K lb pos a z x ((d, v) :: y :: r)) :
    d = 2 ^ a - 1 ∧ 2 ^ a ∣ pos ∧ (lb pos ≤ v.level ∧ v.deg ≤ 2) ∧
      ∃ a', a' ≤ a ∧ Blocks K lb (pos + 2 ^ a) a' z x (y :: r) := by
  cases h with
  | cons hal hl hv ha hr => exact ⟨rfl, hal, ⟨hl, hv⟩, _, ha, hr⟩

/-- after a pass over `l`: the basis is untouched, the first level has not gone up, the result is laid out in blocks
    with an exact last label, whose exponent has grown — or not shrunk, if the label was not exact before -/
def PassPost (K : Nat) (lb : Nat → Int) (pb : List (Nat × Opd)) (pos z cap : Nat) (x : Bool)
    (l l' : List (Nat × Opd)) (s : St) : Prop :=
  s.pb = pb ∧ HeadLe l l' ∧ ∃ a₁ z', a₁ ≤ cap ∧ Blocks K lb pos a₁ z' true l' ∧ (z + 1 ≤ z' ∨ (x = false ∧ z ≤ z'))

/-- one pass with fuel `fuel`, on two entries or more, or on the entry left alone after its predecessor, whose
    label `2^cap − 1` it takes -/
def PassSpec (e : Env) (K : Nat) (lb : Nat → Int) (pb : List (Nat × Opd)) (fuel : Nat) : Prop :=
  ∀ (l : List (Nat × Opd)) (pos a z cap : Nat) (x : Bool) (prev : Option Nat) (st : St),
    st.pb = pb → l.length < fuel → Blocks K lb pos a z x l →
    (2 ≤ l.length → 2 ^ (a + 1) ∣ pos ∧ a + 1 ≤ cap) →
    (l.length = 1 → prev = some (2 ^ cap - 1) ∧ a ≤ cap ∧ 2 ^ cap ∣ pos ∧ 2 ^ cap ≤ pos ∧ (a < cap ∨ x = false)) →
    Run (giantPass e fuel prev l) st (PassPost K lb pb pos z cap x l)

section pass
variable (ht : e.t = 0) {pb : List (Nat × Opd)} (h : GiantHyp e K lb pb) {st : St} (hst : st.pb = pb)
include ht h hst

/-- a pair: `Rescale(Relin(v1))·X^(2^a) + v0` is not below `lb pos`, nor above `v0` -/
theorem merge_run {pos a : Nat} {v0 v1 : Opd} (hal2 : 2 ^ (a + 1) ∣ pos) (hK : pos + 2 ^ (a + 1) ≤ 2 ^ K)
    (h0 : lb pos ≤ v0.level ∧ v0.deg ≤ 2) (h1 : lb (pos + 2 ^ a) ≤ v1.level ∧ v1.deg ≤ 2) {β : Type} {k : Opd → M β}
    {Q : β → St → Prop}
    (hk : ∀ b s, s.pb = pb → lb pos ≤ b.level ∧ b.deg ≤ 2 → b.level ≤ v0.level → Run (k b) s Q) :
    Run (do let xp ← getP (2 ^ a); let b ← evalMonomial e v0 v1 xp; k b) st Q := by
  obtain ⟨xp, hxp, hxd, hxl⟩ := h.pow a pos hal2 hK
  have hr0 := rho_nonneg e
  have hl1 := h.merge a pos hal2
  apply run_getP (hst ▸ hxp)
  apply Run.bind
  apply (run_evalMonomial e ht v0 v1 xp st h0.2 h1.2 hxd
    (pos_of_pending (h.pos.imp id fun hp => hp pos) (hl1 ▸ h1.1))).mono
  intro b s1 ⟨hs1, hbd, hbl⟩
  exact hk b s1 (hs1.trans hst) ⟨by rw [hbl]; omega, hbd⟩ (by rw [hbl]; omega)

variable {fuel : Nat} (ih : PassSpec e K lb pb fuel) {pos a z cap : Nat} {x : Bool} {prev : Option Nat} {v0 v1 : Opd}
  {rest : List (Nat × Opd)}
include ih

/-- the scan meets a pair: the partner has the same exponent, the merged block is aligned, and the scan goes on
    behind it -/
theorem passPair {d1 : Nat} (hf : rest.length + 2 < fuel + 1)
    (hb : Blocks K lb pos a z x ((2 ^ a - 1, v0) :: (d1, v1) :: rest)) (heq : d1 = 2 ^ a - 1)
    (hal2 : 2 ^ (a + 1) ∣ pos) (hcap : a + 1 ≤ cap) :
    Run (giantPass e (fuel + 1) prev ((2 ^ a - 1, v0) :: (d1, v1) :: rest)) st
      (PassPost K lb pb pos z cap x ((2 ^ a - 1, v0) :: (d1, v1) :: rest)) := by
  have ha1 := Nat.one_le_two_pow (n := a)
  have hp2 : 2 * 2 ^ a = 2 ^ (a + 1) := by rw [pow_succ]; omega
  obtain ⟨-, hal, h0, a', ha, hr⟩ := hb.tail
  · have hend := hr.end_le
    have ha' : a' = a := by
      have : 2 ^ a ≤ 2 ^ a' := by
        cases hr with
        | last _ _ hd' => omega
        | cons => have := Nat.one_le_two_pow (n := a'); omega
      exact le_antisymm ha ((Nat.pow_le_pow_iff_right (by decide)).1 this)
    subst ha'
    rw [giantPass, if_pos (by simp [heq])]
    simp only [bitLen_pred_pow, hp2]
    obtain ⟨_, _, _, hh, h1⟩ := hr.head_level
    cases hh
    apply merge_run ht h hst hal2 (by omega) h0 h1
    intro b s1 hs1 hb1 hbU
    cases hr with
    | last hal' hK' hd' hx' hl' hv' =>
      rw [giantPass_nil]
      simp only [pure_bind]
      exact Run.pure ⟨hs1, HeadLe.cons hbU, _, _, hcap,
        Blocks.last hal2 (by omega) (by omega) (fun _ => by omega) hb1.1 hb1.2, Or.inl (le_refl _)⟩
    | @cons _ _ a'' _ _ _ _ hal' hl' hv' ha'' hr' =>
      rw [show pos + 2 ^ a' + 2 ^ a' = pos + 2 ^ (a' + 1) by omega] at hr'
      apply Run.bind
      apply (ih _ (pos + 2 ^ (a' + 1)) a'' z (a' + 1) x (some (2 ^ (a' + 1) - 1)) s1 hs1
        (by omega) hr'
        (fun _ => ⟨Dvd.dvd.add (dvd_trans (pow_dvd_pow 2 (by omega)) hal2) (pow_dvd_pow 2 (by omega)), by omega⟩)
        (fun _ => ⟨rfl, by omega, Dvd.dvd.add hal2 (dvd_refl _), by omega, Or.inl (by omega)⟩)).mono
      intro tl s2 ⟨hs2, _, a₁, z', ha₁, hbt, hprog⟩
      exact Run.pure ⟨hs2, HeadLe.cons hbU, a' + 1, z', hcap, Blocks.cons hal2 hb1.1 hb1.2 ha₁ hbt, hprog⟩

omit ht h in
/-- no pair: the first entry stays and the scan goes on behind it, where the next label, exact and different, has a
    smaller exponent — or the next entry is the last, and takes the label of the first -/
theorem passKeep {d1 : Nat} (hf : rest.length + 2 < fuel + 1)
    (hb : Blocks K lb pos a z x ((2 ^ a - 1, v0) :: (d1, v1) :: rest)) (hne : d1 ≠ 2 ^ a - 1) (hcap : a + 1 ≤ cap) :
    Run (giantPass e (fuel + 1) prev ((2 ^ a - 1, v0) :: (d1, v1) :: rest)) st
      (PassPost K lb pb pos z cap x ((2 ^ a - 1, v0) :: (d1, v1) :: rest)) := by
  have ha1 := Nat.one_le_two_pow (n := a)
  obtain ⟨-, hal, ⟨hl, hv⟩, a', ha, hr⟩ := hb.tail
  · rw [giantPass, if_neg (by simpa using Ne.symm hne)]
    apply Run.bind
    apply (ih _ (pos + 2 ^ a) a' z a x (some (2 ^ a - 1)) st hst
      (by simp only [List.length_cons] at *; omega) hr
      (fun h2' => by
        cases hr with
        | last => simp at h2'
        | @cons _ _ a'' _ _ _ _ hal' hl' hv' ha'' hr' =>
          have hlt : a' < a := by
            rcases Nat.lt_or_eq_of_le ha with h' | h'
            · exact h'
            · exact absurd (by rw [h']) hne
          exact ⟨Dvd.dvd.add (dvd_trans (pow_dvd_pow 2 (by omega)) hal) (pow_dvd_pow 2 (by omega)), by omega⟩)
      (fun h1' => by
        cases hr with
        | cons _ _ _ _ hr' =>
          obtain ⟨_, _, _, h', _⟩ := hr'.head_level
          rw [h'] at h1'; simp at h1'
        | last _ _ hd' hx' =>
          refine ⟨rfl, ha, Dvd.dvd.add hal (dvd_refl _), by omega, ?_⟩
          rcases Nat.lt_or_eq_of_le ha with h' | h'
          · exact Or.inl h'
          · right
            cases x with
            | false => rfl
            | true => exact absurd (by have := hx' rfl; rw [h'] at this; omega) hne)).mono
    intro tl s2 ⟨hs2, _, a₁, z', ha₁, hbt, hprog⟩
    exact Run.pure ⟨hs2, HeadLe.cons (le_refl _), a, z', by omega, Blocks.cons hal hl hv ha₁ hbt, hprog⟩

end pass

theorem giantPass_run (ht : e.t = 0) {pb : List (Nat × Opd)} (h : GiantHyp e K lb pb) :
    ∀ fuel, PassSpec e K lb pb fuel := by
  intro fuel
  induction fuel with
  | zero => intro l pos a z cap x prev st _ hf; omega
  | succ fuel ih =>
    intro l pos a z cap x prev st hst hf hb h2 h1
    cases hb with
    | last hal hK hd hx hl hv =>
      obtain ⟨rfl, hac, hcp, hcp', hprog⟩ := h1 rfl
      simp only [giantPass, Option.getD_some]
      exact Run.pure ⟨hst, HeadLe.cons (le_refl _), cap, cap, le_refl _,
        (Blocks.last hal hK hd hx hl hv).bump hcp hcp', hprog.imp (fun h => by omega) fun h => ⟨h, hac⟩⟩
    | @cons _ _ a' _ _ v0 rest hal hl hv ha hr =>
      obtain ⟨d1, v1, rest', rfl, _⟩ := hr.head_level
      obtain ⟨hal2, hcap⟩ := h2 (by simp)
      by_cases heq : d1 = 2 ^ a - 1
      · exact passPair ht h hst ih hf (Blocks.cons hal hl hv ha hr) heq hal2 hcap
      · exact passKeep hst ih hf (Blocks.cons hal hl hv ha hr) heq hcap

theorem HeadLe.trans {l l' l'' : List (Nat × Opd)} (h : HeadLe l l') (h' : HeadLe l' l'') (hne : l' ≠ []) :
    HeadLe l l'' := by
  intro d v r d'' v'' r'' hl hl''
  obtain ⟨⟨d', v'⟩, r', rfl⟩ := List.exists_cons_of_ne_nil hne
  exact le_trans (h' _ _ _ _ _ _ rfl hl'') (h _ _ _ _ _ _ hl rfl)

/-- the loop ends with one entry within `K − z` passes, one more if the last label is not exact: each pass raises
    the exponent `z ≤ K` of the last entry, or makes its label exact -/
theorem giantLoop_run (ht : e.t = 0) {pb : List (Nat × Opd)} (h : GiantHyp e K lb pb) :
    ∀ (fuel : Nat) (l : List (Nat × Opd)) (a z : Nat) (x : Bool) (st : St),
      st.pb = pb → Blocks K lb 0 a z x l → K - z + (if x then 0 else 1) ≤ fuel →
      Run (giantLoop e fuel l) st fun l' s => s.pb = pb ∧ HeadLe l l' ∧
        ∃ d v, l' = [(d, v)] ∧ lb 0 ≤ v.level ∧ v.deg ≤ 2 := by
  have hsingle : ∀ (l : List (Nat × Opd)) (a z : Nat) (x : Bool), Blocks K lb 0 a z x l → l.length ≤ 1 →
      HeadLe l l ∧ ∃ d v, l = [(d, v)] ∧ lb 0 ≤ v.level ∧ v.deg ≤ 2 := by
    intro l a z x hb hlen
    cases hb with
    | last _ _ _ _ hl hv =>
      exact ⟨HeadLe.cons (le_refl _), _, _, rfl, hl, hv⟩
    | cons _ _ _ _ hr =>
      obtain ⟨_, _, _, h', _⟩ := hr.head_level
      rw [h'] at hlen
      simp at hlen
  intro fuel
  induction fuel with
  | zero =>
    intro l a z x st hst hb hf
    rw [giantLoop]
    refine Run.pure ⟨hst, hsingle l a z x hb ?_⟩
    -- `z = K`: the last block fills everything, so it is the first
    have hz : K ≤ z := by
      have : K - z = 0 := by omega
      omega
    cases hb with
    | last => simp
    | @cons _ _ a' _ _ _ _ _ _ _ ha hr =>
      have h1 := hr.end_le
      have h2 := hr.z_le
      have : 2 ^ K ≤ 2 ^ a := Nat.pow_le_pow_right (by decide) (by omega)
      have := Nat.one_le_two_pow (n := a')
      omega
  | succ fuel ih =>
    intro l a z x st hst hb hf
    rw [giantLoop]
    by_cases hlen : l.length ≤ 1
    · rw [if_pos hlen]
      exact Run.pure ⟨hst, hsingle l a z x hb hlen⟩
    · rw [if_neg hlen]
      apply Run.bind
      apply (giantPass_run ht h (l.length + 1) l 0 a z (a + 1) x none st hst (by omega) hb
        (fun _ => ⟨dvd_zero _, le_refl _⟩) (fun h1 => absurd (by omega) hlen)).mono
      intro l' s ⟨hs, hhl, a₁, z', _, hb', hprog⟩
      have hne : l' ≠ [] := by
        obtain ⟨_, _, _, h', _⟩ := hb'.head_level
        rw [h']; simp
      apply (ih l' a₁ z' true s hs hb' (by
        simp only [if_true, Nat.add_zero]
        rcases hprog with h1 | ⟨h1, h2⟩
        · omega
        · rw [h1] at hf
          simp only [Bool.false_eq_true, if_false] at hf
          omega)).mono
      intro l'' s' ⟨hs', hhl', hfin⟩
      exact ⟨hs', hhl.trans hhl' hne, hfin⟩

end giant

end Lattigo.Model.PolyEval
