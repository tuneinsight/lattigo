/-
  C13 — the decomposition `recursePS` makes on the level-only instance, for every degree (`recursePS_leaves`): it
  succeeds on the simulated basis of `Evaluate`, and its sub-polynomials, lowest order first, tile the coefficients
  in blocks of non-increasing size (`Leaves`) at the level `leafLevel` of their position — the input level less the
  depth plus one rescaling per one in the binary expansion of the position (each one is a step into a quotient).
-/
import Lattigo.Proofs.PolyEvalGiant
import Lattigo.Proofs.PolyEvalGenPower
import Lattigo.Proofs.PolyEvalScale

namespace Lattigo.Model.PolyEval

/-- the simulated basis holds the power `x` -/
def Has (d : List (Nat × SimOpd)) (x : Nat) : Prop := (d.find? (·.1 == x)).isSome = true

theorem simGenPower_mono (e : Env) (fuel : Nat) : ∀ (n : Nat) (d : List (Nat × SimOpd)) (x : Nat),
    Has d x → Has (simGenPower e fuel n d) x := by
  induction fuel with
  | zero => intro n d x h; rw [simGenPower]; exact h
  | succ fuel ih =>
    intro n d x h
    rw [simGenPower]
    split
    · exact h
    · simp only []
      have h2 := ih (splitDegree n).2 _ x (ih (splitDegree n).1 d x h)
      generalize simGenPower e fuel (splitDegree n).2 (simGenPower e fuel (splitDegree n).1 d) = D at h2 ⊢
      split
      · unfold Has; rw [find?_cons_filter]; split
        · rfl
        · exact h2
      · exact h2

theorem simGenPower_pow (e : Env) : ∀ (K fuel : Nat) (d : List (Nat × SimOpd)), 2 ^ K ≤ fuel → Has d 1 →
    ∀ j, j ≤ K → Has (simGenPower e fuel (2 ^ K) d) (2 ^ j) := by
  intro K
  induction K with
  | zero =>
    intro fuel d _ h1 j hj
    obtain rfl : j = 0 := by omega
    cases fuel <;> simp [simGenPower, h1]
  | succ K ih =>
    intro fuel d hf h1 j hj
    have hK1 := Nat.one_le_two_pow (n := K)
    obtain ⟨fuel, rfl⟩ : ∃ f, fuel = f + 1 := ⟨fuel - 1, by omega⟩
    rw [pow_succ] at hf
    rw [simGenPower, if_neg (by rw [pow_succ]; omega), splitDegree_two_pow]
    simp only []
    have hD : ∀ i, i ≤ K → Has (simGenPower e fuel (2 ^ K) (simGenPower e fuel (2 ^ K) d)) (2 ^ i) :=
      fun i hi => simGenPower_mono e fuel _ _ _ (ih fuel d (by omega) h1 i hi)
    generalize simGenPower e fuel (2 ^ K) (simGenPower e fuel (2 ^ K) d) = D at hD ⊢
    obtain ⟨xa, hxa⟩ := Option.isSome_iff_exists.1 (hD K (le_refl _))
    rw [hxa]
    simp only []
    unfold Has
    rw [find?_cons_filter]
    split
    · rfl
    · next hne =>
      apply hD j
      rcases Nat.lt_or_eq_of_le hj with h | h
      · omega
      · exact absurd (by rw [h]) hne

theorem simPowers_pow (e : Env) (deg : Nat) (hd : 1 ≤ deg) (L : Int) (sc : Nat) (j : Nat) (hj : j ≤ bitLen deg) :
    Has (simPowers e deg L sc) (2 ^ j) :=
  simPowers_rel e e deg L L sc sc (Rel := fun d _ => Has d (2 ^ j))
    (simGenPower_pow e (bitLen deg) (2 * deg + 8) [(1, { level := L, scale := sc })]
      (by have := pow_bitLen_le deg hd; omega) rfl j hj)
    fun n d _ _ h => simGenPower_mono e _ n d _ h

/-- the number of ones in the binary expansion -/
def popCount : Nat → Nat
  | 0 => 0
  | n + 1 => (n + 1) % 2 + popCount ((n + 1) / 2)
decreasing_by omega

theorem popCount_zero : popCount 0 = 0 := by rw [popCount]

theorem popCount_of_pos {n : Nat} (h : 0 < n) : popCount n = n % 2 + popCount (n / 2) := by
  obtain ⟨m, rfl⟩ := Nat.exists_eq_succ_of_ne_zero h.ne'
  rw [popCount]

theorem popCount_two_mul (n : Nat) : popCount (2 * n) = popCount n := by
  rcases Nat.eq_zero_or_pos n with rfl | h
  · rfl
  · rw [popCount_of_pos (by omega), Nat.mul_mod_right, Nat.mul_div_cancel_left _ (by decide), Nat.zero_add]

theorem popCount_two_mul_add_one (n : Nat) : popCount (2 * n + 1) = popCount n + 1 := by
  rw [popCount_of_pos (Nat.succ_pos _), show (2 * n + 1) % 2 = 1 by omega, show (2 * n + 1) / 2 = n by omega,
    Nat.add_comm]

theorem popCount_pow_mul (k n : Nat) : popCount (2 ^ k * n) = popCount n := by
  induction k with
  | zero => rw [Nat.pow_zero, Nat.one_mul]
  | succ k ih => rw [Nat.pow_succ', Nat.mul_assoc, popCount_two_mul, ih]

/-- adding a bit that is clear -/
theorem popCount_add_pow {a p : Nat} (h : 2 ^ (a + 1) ∣ p) : popCount (p + 2 ^ a) = popCount p + 1 := by
  rw [Nat.pow_succ'] at h
  obtain ⟨q, rfl⟩ := dvd_of_mul_right_dvd h
  have hq := Nat.dvd_of_mul_dvd_mul_left (by decide) h
  induction a generalizing q with
  | zero => rw [Nat.pow_zero, popCount_two_mul_add_one, popCount_two_mul]
  | succ a ih =>
    rw [Nat.pow_succ'] at hq
    obtain ⟨r, rfl⟩ := dvd_of_mul_right_dvd hq
    rw [Nat.pow_succ', ← Nat.mul_add, popCount_two_mul, popCount_two_mul, ih _ hq (Nat.dvd_of_mul_dvd_mul_left (by decide) hq)]

theorem popCount_lt_pow {n m : Nat} (h : n < 2 ^ m) : popCount n ≤ m := by
  induction m generalizing n with
  | zero => rw [Nat.lt_one_iff.1 h, popCount_zero]
  | succ m ih =>
    rcases Nat.eq_zero_or_pos n with rfl | hn
    · rw [popCount_zero]
      omega
    · have := ih (n := n / 2) (by rw [Nat.pow_succ] at h; omega)
      rw [popCount_of_pos hn]
      omega

theorem popCount_succ_lt_pow {n m : Nat} (h : n + 1 < 2 ^ m) : popCount n + 1 ≤ m := by
  induction m generalizing n with
  | zero => rw [Nat.pow_zero] at h; omega
  | succ m ih =>
    rcases Nat.eq_zero_or_pos n with rfl | hn
    · rw [popCount_zero]; omega
    · rw [popCount_of_pos hn]
      rw [Nat.pow_succ] at h
      rcases Nat.mod_two_eq_zero_or_one n with h0 | h1
      · have := popCount_lt_pow (n := n / 2) (m := m) (by omega)
        omega
      · have := ih (n := n / 2) (by omega)
        omega

theorem popCount_block {b p K : Nat} (h : 2 ^ b ∣ p) (hK : p + 2 ^ b ≤ 2 ^ K) :
    popCount p + b ≤ K ∧ (p + 2 ^ b < 2 ^ K → popCount p + b + 1 ≤ K) := by
  obtain ⟨q, rfl⟩ := h
  have hbK : b ≤ K := (Nat.pow_le_pow_iff_right (by decide)).1 (le_trans (Nat.le_add_left _ _) hK)
  obtain ⟨j, rfl⟩ := Nat.exists_eq_add_of_le hbK
  rw [← Nat.mul_succ, Nat.pow_add 2 b j] at hK ⊢
  rw [popCount_pow_mul]
  refine ⟨?_, fun hlt => ?_⟩
  · have := popCount_lt_pow (Nat.le_of_mul_le_mul_left hK (Nat.pow_pos (by decide)))
    omega
  · have := popCount_succ_lt_pow (Nat.lt_of_mul_lt_mul_left hlt)
    omega

/-- The sub-polynomials `recursePS` returns, lowest order first, laid out like `Blocks`: the one at `pos` has degree
    `2^a − 1` (the last one at most that) and the level `lb pos` the simulator assigned to it, which no power it uses
    (levels at least `B key`) lies below. -/
inductive Leaves (K : Nat) (lb B : Nat → Int) : Nat → Nat → Nat → Bool → List SubPoly → Prop
  | last {pos a : Nat} {x : Bool} {sp : SubPoly} (hal : 2 ^ a ∣ pos) (hK : pos + 2 ^ a ≤ 2 ^ K)
      (hd : sp.degree + 1 ≤ 2 ^ a) (hx : x = true → sp.degree + 1 = 2 ^ a) (hl : sp.level = lb pos)
      (hB : ∀ key, 1 ≤ key → key ≤ sp.degree → lb pos ≤ B key) : Leaves K lb B pos a a x [sp]
  | cons {pos a a' z : Nat} {x : Bool} {sp : SubPoly} {rest : List SubPoly} (hal : 2 ^ a ∣ pos)
      (hd : sp.degree + 1 = 2 ^ a) (hl : sp.level = lb pos) (hB : ∀ key, 1 ≤ key → key ≤ sp.degree → lb pos ≤ B key)
      (ha : a' ≤ a) (hr : Leaves K lb B (pos + 2 ^ a) a' z x rest) : Leaves K lb B pos a z x (sp :: rest)

theorem giantLevelScale_fst (e : Env) (lead : Bool) (T : Int) (out sc : Nat) :
    (giantLevelScale e lead T out sc).1 = T + rho e := by
  unfold giantLevelScale rho
  cases e.inv <;> simp

theorem factorize_r_degree (e : Env) (p : SubPoly) (n : Nat) (h1 : 1 ≤ n) (hn : n ≤ p.degree) :
    (p.factorize e n).2.degree = n - 1 := by
  unfold SubPoly.degree at hn
  have hne : p.coeffs ≠ [] := by
    intro h
    rw [h] at hn
    simp at hn
    omega
  unfold SubPoly.degree SubPoly.factorize
  simp only
  rw [headD_mapIdx_ne _ _ [] [] hne, factorizeF_snd_length]
  split
  · rfl
  · rw [Nat.min_eq_left (by omega)]

theorem optimalSplit_lt (n : Nat) (hn : 2 ≤ n) : optimalSplit n < n := by
  rcases Nat.lt_or_eq_of_le hn with h | rfl
  · unfold optimalSplit
    simp only []
    split_ifs <;> omega
  · decide

section leaves
variable (e : Env) (ht : e.t = 0) (pb : List (Nat × SimOpd))

include ht in
/-- one giant step on the level-only instance: the split power is `2^(bitLen deg − 1)`, the quotient goes one
    rescaling up, and the scale check cannot fail -/
theorem recursePS_split {fuel s : Nat} {T : Int} {p : SubPoly} {out : Nat} (hs : 2 ^ s ≤ p.degree)
    (hkey : Has pb (2 ^ (bitLen p.degree - 1))) {Q R : List SubPoly → Prop}
    (hq : ∀ out', ∃ bq rq, recursePS e pb fuel s (T + rho e) (p.factorize e (2 ^ (bitLen p.degree - 1))).1 out'
      = some (bq, rq) ∧ Q bq)
    (hr : ∀ out', ∃ br rr, recursePS e pb fuel s T (p.factorize e (2 ^ (bitLen p.degree - 1))).2 out'
      = some (br, rr) ∧ R br) :
    ∃ bq br res, recursePS e pb (fuel + 1) s T p out = some (bq ++ br, res) ∧ Q bq ∧ R br := by
  obtain ⟨xp, hx⟩ := Option.isSome_iff_exists.1 hkey
  rw [recursePS, if_neg (by omega), nextPower_eq s _ hs]
  simp only []
  rw [hx]
  simp only []
  rw [giantLevelScale_fst]
  obtain ⟨bq, rq, hcq, hQ⟩ := hq (giantLevelScale e p.lead T out xp.2.scale).2
  rw [hcq]
  simp only []
  obtain ⟨br, rr, hcr, hR⟩ := hr (simMul e (simRescale e rq) xp.2).scale
  rw [hcr]
  simp only []
  rw [if_neg (recursePS_t0_check e ht rfl hcr)]
  exact ⟨bq, br, _, rfl, hQ, hR⟩

variable (K : Nat) (lb B : Nat → Int) (hpb : ∀ j, j < K → Has pb (2 ^ j))
  (hmerge : ∀ a p, 2 ^ (a + 1) ∣ p → lb (p + 2 ^ a) = lb p + rho e)
  (hbound : ∀ pos c key, popCount pos + c + 1 ≤ K → key ≤ 2 ^ c → lb pos ≤ B key)

/-- `l`, lowest order first, is a run of blocks of size `2^s` from `P` to `E`: it goes in front of what follows `E` -/
def Prepends (P E s : Nat) (l : List SubPoly) : Prop :=
  ∀ rest a z x, a ≤ s → Leaves K lb B E a z x rest → Leaves K lb B P s z x (l.reverse ++ rest)

include ht hpb hmerge hbound in
/-- a remainder: all `2^H` coefficients of an aligned block that is not the last one.  It is halved down to blocks
    of size `2^s`, which are put in front of whatever follows the block. -/
theorem recursePS_complete (fuel : Nat) : ∀ (H s P : Nat) (p : SubPoly) (out : Nat),
    p.lead = false → p.degree + 1 = 2 ^ H → s ≤ H → H - s < fuel → 2 ^ H ∣ P → P + 2 ^ H < 2 ^ K →
    ∃ subs res, recursePS e pb fuel s (lb P) p out = some (subs, res) ∧ subs.length = 2 ^ (H - s) ∧
      Prepends K lb B P (P + 2 ^ H) s subs := by
  induction fuel with
  | zero => intro H s P p out _ _ _ hf; omega
  | succ fuel ih =>
    intro H s P p out hl hdeg hsH hf hal hK
    rcases Nat.lt_or_eq_of_le hsH with hlt | rfl
    · obtain ⟨H, rfl⟩ : ∃ H', H = H' + 1 := ⟨H - 1, by omega⟩
      have hH1 := Nat.one_le_two_pow (n := H)
      rw [pow_succ] at hdeg hK
      have hbl : bitLen p.degree - 1 = H := by
        rw [show p.degree = 2 ^ (H + 1) - 1 by rw [pow_succ]; omega, bitLen_pred_pow, Nat.add_sub_cancel]
      have hsd : 2 ^ s ≤ p.degree := by
        have := Nat.pow_le_pow_right (by decide : 0 < 2) (show s ≤ H by omega)
        omega
      have halH : 2 ^ H ∣ P := dvd_trans (pow_dvd_pow 2 (by omega)) hal
      obtain ⟨bq, br, res, hc, ⟨hql, hQ⟩, hrl, hR⟩ := recursePS_split e ht pb (T := lb P) (out := out) hsd
        (hbl ▸ hpb H (by
          exact (Nat.pow_lt_pow_iff_right (a := 2) (by decide)).1 (by omega)))
        (Q := fun bq => bq.length = 2 ^ (H - s) ∧ Prepends K lb B (P + 2 ^ H) (P + 2 ^ H + 2 ^ H) s bq)
        (R := fun br => br.length = 2 ^ (H - s) ∧ Prepends K lb B P (P + 2 ^ H) s br)
        (fun out' => by
          rw [hbl, ← hmerge H P hal]
          exact ih H s (P + 2 ^ H) _ out' hl (by rw [factorize_q_degree]; omega) (by omega) (by omega)
            (Dvd.dvd.add halH (dvd_refl _)) (by omega))
        (fun out' => by
          rw [hbl]
          exact ih H s P _ out' rfl (by rw [factorize_r_degree e p _ hH1 (by omega)]; omega) (by omega) (by omega)
            halH (by omega))
      refine ⟨_, _, hc, ?_, fun rest a z x ha hrest => ?_⟩
      · rw [List.length_append, hql, hrl, show H + 1 - s = (H - s) + 1 by omega, pow_succ]
        omega
      · rw [List.reverse_append, List.append_assoc]
        refine hR _ s z x (le_refl _) (hQ rest a z x ha ?_)
        rw [pow_succ] at hrest
        rw [Nat.add_assoc, ← Nat.mul_two]
        exact hrest
    · rw [recursePS, if_pos (by omega), if_neg (by rw [hl]; simp)]
      refine ⟨_, _, rfl, by rw [Nat.sub_self]; rfl, fun rest a z x ha hrest => ?_⟩
      exact Leaves.cons hal hdeg rfl (fun key _ hk => hbound P s key ((popCount_block hal (le_of_lt hK)).2 hK)
        (le_trans hk (by omega : p.degree ≤ 2 ^ s))) ha hrest

include hbound in
/-- the last block is not above the powers it uses: with room behind it by `hbound`; if it ends at `2^K` it has one more
    one, and the re-split test not taken bounds its degree by half its size -/
theorem last_block_bound {s P deg key : Nat} (hals : 2 ^ (s + 1) ∣ P) (hPK : P + 2 ^ (s + 1) ≤ 2 ^ K)
    (hdeg : deg < 2 ^ (s + 1)) (hhalf : P + 2 ^ (s + 1) = 2 ^ K → deg ≤ 2 ^ s) (hk : key ≤ deg) :
    lb P ≤ B key := by
  by_cases hlt : P + 2 ^ (s + 1) < 2 ^ K
  · exact hbound P (s + 1) key ((popCount_block hals hPK).2 hlt) (by omega)
  · have := (popCount_block hals hPK).1
    exact hbound P s key (by omega) (le_trans hk (hhalf (by omega)))

include ht hpb hmerge hbound in
/-- the leading part: the coefficients from `P` to the top degree `d`.  A giant step cuts off the aligned block of
    half its size at `P`; what is left below `2^s` is the last block, unless it is re-split (it then fills more than
    half of the room `2^s` that is left below `2^K`, so the smaller split still divides `P`).
    The last two bounds count blocks: a remainder of `2^k` coefficients has `2^(k-s) > k − s` of them. -/
theorem recursePS_lead (d : Nat) (hK : bitLen d = K) (fuel : Nat) : ∀ (s P : Nat) (p : SubPoly) (out : Nat),
    p.lead = true → p.maxDeg = d → P + p.degree = d → 2 ^ bitLen p.degree ∣ P → 2 ^ s ∣ P → 1 ≤ s → s ≤ K →
    bitLen p.degree + s < fuel →
    ∃ subs res a z x, recursePS e pb fuel s (lb P) p out = some (subs, res) ∧ a ≤ s ∧
      Leaves K lb B P a z x subs.reverse ∧ bitLen p.degree ≤ z + subs.length + 1 ∧ s ≤ z + subs.length + 1 := by
  have hdK : d < 2 ^ K := hK ▸ (lt_two_pow_len64 d : d < 2 ^ bitLen d)
  induction fuel with
  | zero => intro s P p out _ _ _ _ _ _ _ hf; omega
  | succ fuel ih =>
    intro s P p out hl hm hP halb hals hs1 hsK hf
    by_cases hsd : 2 ^ s ≤ p.degree
    · obtain ⟨k, hk, hlo, hhi⟩ := bitLen_eq_succ p.degree (le_trans Nat.one_le_two_pow hsd)
      rw [hk] at halb hf
      have hsk : s ≤ k := Nat.lt_succ_iff.1 ((Nat.pow_lt_pow_iff_right (a := 2) (by decide)).1 (by omega))
      have hbl : bitLen p.degree - 1 = k := by omega
      have hk1 := Nat.one_le_two_pow (n := k)
      have halk : 2 ^ k ∣ P := dvd_trans (pow_dvd_pow 2 (by omega)) halb
      rw [pow_succ] at hhi
      have hkK : k < K := (Nat.pow_lt_pow_iff_right (a := 2) (by decide)).1 (by omega)
      obtain ⟨bq, br, res, hc, ⟨a, z, x, ha, hQ, hcnt⟩, hrl, hR⟩ := recursePS_split e ht pb (T := lb P) (out := out) hsd
        (hbl ▸ hpb k hkK)
        (Q := fun bq => ∃ a z x, a ≤ s ∧ Leaves K lb B (P + 2 ^ k) a z x bq.reverse ∧ s ≤ z + bq.length + 1)
        (R := fun br => br.length = 2 ^ (k - s) ∧ Prepends K lb B P (P + 2 ^ k) s br)
        (fun out' => by
          rw [hbl, ← hmerge k P halb]
          have hqd := factorize_q_degree e p (2 ^ k)
          have hqb : bitLen (p.factorize e (2 ^ k)).1.degree ≤ k := by rw [bitLen_le_iff]; omega
          obtain ⟨subs, res, a, z, x, hc, ha, hL, _, hcnt⟩ := ih s (P + 2 ^ k) (p.factorize e (2 ^ k)).1 out' hl hm
            (by omega) (Dvd.dvd.add (dvd_trans (pow_dvd_pow 2 (by omega)) halb) (pow_dvd_pow 2 hqb))
            (Dvd.dvd.add hals (pow_dvd_pow 2 hsk)) hs1 hsK (by omega)
          exact ⟨subs, res, hc, a, z, x, ha, hL, hcnt⟩)
        (fun out' => by
          rw [hbl]
          exact recursePS_complete e ht pb K lb B hpb hmerge hbound fuel k s P _ out' rfl
            (by rw [factorize_r_degree e p _ hk1 hlo]; omega) hsk (by omega) halk (by omega))
      refine ⟨_, _, s, z, x, hc, le_refl _, ?_, ?_⟩
      · rw [List.reverse_append]
        exact hR _ a z x ha hQ
      · rw [List.length_append, hrl, hk]
        have := Nat.lt_two_pow_self (n := k - s)
        omega
    · have hPK : P + 2 ^ s ≤ 2 ^ K := aligned_end hals hsK (by omega)
      obtain ⟨s, rfl⟩ : ∃ s', s = s' + 1 := ⟨s - 1, by omega⟩
      rw [pow_succ] at hsd hPK
      rw [recursePS, if_pos (by rw [pow_succ]; omega)]
      by_cases hc : (p.lead && decide (s + 1 > 1) && decide (p.maxDeg > 2 ^ bitLen p.maxDeg - 2 ^ (s + 1 - 1))) = true
      · rw [if_pos hc]
        simp only [hl, hm, hK, Bool.true_and, Bool.and_eq_true, decide_eq_true_eq, Nat.add_sub_cancel] at hc
        have hbl : bitLen p.degree = s + 1 :=
          len64_eq_of_bounds (by rw [Nat.add_sub_cancel]; omega) (by rw [pow_succ]; omega)
        rw [hbl] at hf ⊢
        have hos := optimalSplit_lt (s + 1) (by omega)
        obtain ⟨subs, res, a, z, x, hc', ha, hL, hc1, hc2⟩ := ih (optimalSplit (s + 1)) P p out hl hm hP halb
          (dvd_trans (pow_dvd_pow 2 (by omega)) hals) (optimalSplit_pos _) (by omega) (by omega)
        exact ⟨subs, res, a, z, x, hc', by omega, hL, hbl ▸ hc1, hbl ▸ hc1⟩
      · rw [if_neg hc]
        simp only [hl, hm, hK, Bool.true_and, Bool.and_eq_true, decide_eq_true_eq, Nat.add_sub_cancel, not_and] at hc
        have hbl : bitLen p.degree ≤ s + 1 := by rw [bitLen_le_iff, pow_succ]; omega
        refine ⟨_, _, s + 1, s + 1, false, rfl, le_refl _, ?_, by simp only [List.length_singleton]; omega,
          by simp only [List.length_singleton]; omega⟩
        refine Leaves.last hals (by rw [pow_succ]; exact hPK) (by rw [pow_succ]; exact (by omega : p.degree + 1 ≤ 2 ^ s * 2))
          (fun h => absurd h Bool.false_ne_true) rfl (fun key _ hk => ?_)
        rw [← pow_succ] at hPK hsd
        refine last_block_bound K lb B hbound hals hPK (by omega) (fun hend => ?_) (show key ≤ p.degree from hk)
        rw [pow_succ] at hsd hend
        rcases Nat.eq_zero_or_pos s with rfl | hs
        · rw [pow_zero] at hsd ⊢; omega
        · -- the test not taken: `d = P + p.degree` is not in the top half-block, and `P = 2^K − 2·2^s` here
          have hmax : ¬ d > 2 ^ K - 2 ^ s := hc (by omega)
          omega

end leaves

/-- the level the simulator gives the sub-polynomial at position `pos` of a degree-`d` evaluation from input level `L` -/
def leafLevel (e : Env) (L : Int) (d : Nat) (pos : Nat) : Int := L - simDepth e d + rho e * popCount pos

theorem leafLevel_add (e : Env) (L : Int) (d : Nat) {a p : Nat} (h : 2 ^ (a + 1) ∣ p) :
    leafLevel e L d (p + 2 ^ a) = leafLevel e L d p + rho e := by
  unfold leafLevel
  rw [popCount_add_pow h, Nat.cast_succ, mul_add, mul_one, add_assoc]

/-- a position with at most `bitLen d − 1 − c` ones lies `c` levels below the top, where the powers up to `2^c` are -/
theorem leafLevel_le_bound (e : Env) (L : Int) (d : Nat) {pos c key : Nat} (h : popCount pos + c + 1 ≤ bitLen d)
    (hk : key ≤ 2 ^ c) : leafLevel e L d pos ≤ stdBound e L key := by
  have hd := simDepth_add_rho e d (by
    by_contra h0
    obtain rfl : d = 0 := by omega
    simp [bitLen] at h)
  refine le_trans ?_ (stdBound_ge e L hk)
  unfold leafLevel
  rcases rho_cases e with ⟨_, hr⟩ | ⟨_, hr⟩
  · rw [hr] at hd ⊢; omega
  · rw [hr] at hd ⊢; omega

/-- the lowest sub-polynomial, rescaled once more, lies `bits.Len64(d)` levels below the input -/
theorem leafLevel_zero (e : Env) (L : Int) {d : Nat} (hd : 1 ≤ d) : leafLevel e L d 0 - rho e = L - rho e * bitLen d := by
  have := simDepth_add_rho e d hd
  unfold leafLevel
  rw [popCount_zero]
  simp only [Nat.cast_zero, mul_zero, add_zero]
  omega

theorem leafLevel_pos (e : Env) {Ln d : Nat} (hg : e.inv = true ∨ bitLen d ≤ Ln) (hd : 1 ≤ d) (p : Nat) :
    e.inv = true ∨ 0 < leafLevel e Ln d p := by
  have hsd := simDepth_add_rho e d hd
  unfold leafLevel
  rcases rho_cases e with ⟨hi, _⟩ | ⟨hi, hr⟩
  · exact Or.inl hi
  · right
    have := hg.resolve_left hi
    rw [hr] at hsd ⊢
    omega

/-- the last conjunct: there are enough sub-polynomials for the fuel `subs.length + 2` of the giant-step loop -/
theorem recursePS_leaves (e : Env) (ht : e.t = 0) (d : Nat) (hd : 1 ≤ d) (L : Int) (sc ts : Nat)
    (polys : List (List Int)) (hp : (polys.headD []).length = d + 1) :
    ∃ subs res a z x,
      recursePS e (simPowers e d L sc) (2 * d + 8) (optimalSplit (bitLen d)) (L - simDepth e d)
        { coeffs := polys, maxDeg := d, lead := true } ts = some (subs, res) ∧
      Leaves (bitLen d) (leafLevel e L d) (stdBound e L) 0 a z x subs.reverse ∧
      a ≤ optimalSplit (bitLen d) ∧ bitLen d ≤ z + subs.length + 1 := by
  have hdeg : SubPoly.degree { coeffs := polys, maxDeg := d, lead := true } = d := by
    show (polys.headD []).length - 1 = d
    omega
  -- the model's fuel `2·d + 8`: a step lowers `bitLen p.degree + s`, at most `2·bitLen d` at the start, and `bitLen d ≤ d`
  have hK1 : bitLen d - 1 < 2 ^ (bitLen d - 1) := Nat.lt_two_pow_self
  have hK2 := pow_le_of_bitLen d hd
  have hs := optimalSplit_le (bitLen d) (by rw [bitLen_pos d hd]; omega)
  have h0 : leafLevel e L d 0 = L - simDepth e d := by rw [leafLevel, popCount_zero, Nat.cast_zero, mul_zero, add_zero]
  obtain ⟨subs, res, a, z, x, hc, ha, hL, hcnt, _⟩ := recursePS_lead e ht (simPowers e d L sc) (bitLen d)
    (leafLevel e L d) (stdBound e L) (fun j hj => simPowers_pow e d hd L sc j (by omega))
    (fun _ _ => leafLevel_add e L d) (fun _ _ _ => leafLevel_le_bound e L d) d rfl (2 * d + 8)
    (optimalSplit (bitLen d)) 0 { coeffs := polys, maxDeg := d, lead := true } ts rfl rfl (by rw [hdeg, Nat.zero_add])
    (dvd_zero _) (dvd_zero _) (optimalSplit_pos _) hs (by rw [hdeg]; omega)
  exact ⟨subs, res, a, z, x, h0 ▸ hc, hL, ha, hdeg ▸ hcnt⟩

end Lattigo.Model.PolyEval
