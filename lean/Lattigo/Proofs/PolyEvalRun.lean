/-
  C13 — reasoning about the machine (layer (B) of `Lattigo.Model.PolyEval`): `ex m st` runs a
  computation of the monad `M = ExceptT String (StateM St)` from a state; `Post m Q` is partial correctness
  (whenever `m` succeeds, its result satisfies `Q`); `genBody` is `genPowerRec` past its guards, with its recursive
  calls as parameters.
-/
import Lattigo.Proofs.PolyEvalCheb

namespace Lattigo.Model.PolyEval

def ex {α : Type} (m : M α) (st : St) : Except String α × St := (ExceptT.run m).run st

@[simp] theorem ex_pure {α : Type} (a : α) (st : St) : ex (pure a : M α) st = (.ok a, st) := rfl

theorem ex_bind {α β : Type} (m : M α) (f : α → M β) (st : St) :
    ex (m >>= f) st = match ex m st with
      | (.ok a, s) => ex (f a) s
      | (.error e, s) => (.error e, s) := by
  simp only [ex, bind, ExceptT.bind, ExceptT.run, ExceptT.mk, StateT.bind, StateT.run]
  cases h : m st with
  | mk r s =>
    cases r with
    | ok a => simp [ExceptT.bindCont]
    | error e => simp [ExceptT.bindCont, pure, StateT.pure]

theorem ex_bind_ok {α β : Type} {m : M α} {f : α → M β} {st s2 : St} {b : β}
    (h : ex (m >>= f) st = (.ok b, s2)) : ∃ a s1, ex m st = (.ok a, s1) ∧ ex (f a) s1 = (.ok b, s2) := by
  rw [ex_bind] at h
  cases hm : ex m st with
  | mk r s1 =>
    rw [hm] at h
    cases r with
    | error e => simp at h
    | ok a => exact ⟨a, s1, rfl, h⟩

theorem ex_map {α β : Type} (f : α → β) (m : M α) (st : St) :
    ex (f <$> m) st = match ex m st with
      | (.ok a, s) => (.ok (f a), s)
      | (.error e, s) => (.error e, s) := by
  rw [map_eq_pure_bind, ex_bind]
  cases ex m st with
  | mk r s => cases r <;> rfl

@[simp] theorem ex_throw {α : Type} (e : String) (st : St) : ex (throw e : M α) st = (.error e, st) := rfl
@[simp] theorem ex_get (st : St) : ex (get : M St) st = (.ok st, st) := rfl
@[simp] theorem ex_modify (f : St → St) (st : St) : ex (modify f : M Unit) st = (.ok (), f st) := rfl
@[simp] theorem ex_log (s : String) (st : St) : ex (log s) st = (.ok (), { st with tr := st.tr ++ [s] }) := rfl
@[simp] theorem ex_setP (n : Nat) (o : Opd) (st : St) :
    ex (setP n o) st = (.ok (), { st with pb := (n, o) :: st.pb.filter (·.1 != n) }) := rfl
@[simp] theorem ex_hasP (n : Nat) (st : St) : ex (hasP n) st = (.ok ((st.pb.find? (·.1 == n)).isSome), st) := rfl

theorem ex_getP (n : Nat) (st : St) :
    ex (getP n) st = match st.pb.find? (·.1 == n) with
      | some (_, o) => (.ok o, st)
      | none => (.error "panic", st) := by
  unfold getP
  rw [ex_bind]
  simp only [ex_get]
  cases st.pb.find? (·.1 == n) with
  | none => rfl
  | some p => rfl

/-- looking a key up after `setP` -/
theorem find?_cons_filter {β : Type} (d : List (Nat × β)) (n m : Nat) (v : β) :
    ((n, v) :: d.filter (·.1 != n)).find? (·.1 == m) =
      if n = m then some (n, v) else d.find? (·.1 == m) := by
  simp only [List.find?_cons]
  by_cases h : n = m
  · simp [h]
  · have : (n == m) = false := by simpa using h
    simp only [this, if_neg h]
    induction d with
    | nil => rfl
    | cons p d ih =>
      simp only [List.filter_cons, List.find?_cons]
      by_cases hpn : p.1 = n
      · have h1 : (p.1 != n) = false := by simp [hpn]
        have h2 : (p.1 == m) = false := by rw [hpn]; simpa using h
        simp only [h1, h2]
        exact ih
      · have h1 : (p.1 != n) = true := by simpa using hpn
        simp only [h1, if_true, List.find?_cons]
        split
        · rfl
        · exact ih

theorem ex_ite {α : Type} (c : Prop) [Decidable c] (a b : M α) (st : St) :
    ex (if c then a else b) st = if c then ex a st else ex b st := by
  split <;> rfl

theorem run_eq (env : Env) (polys : List (List Int)) (mapping : Option (List (List Nat)))
    (lazy : Bool) (inLevel inScale tScale : Nat) (x : List Int) :
    run env polys mapping lazy inLevel inScale tScale x =
      match ex (evaluate env polys mapping lazy inLevel inScale tScale x) {} with
      | (.ok o, st) => (st.tr, "ok", some o)
      | (.error e, st) => (st.tr, e, none) := by
  unfold run ex
  cases h : (ExceptT.run (evaluate env polys mapping lazy inLevel inScale tScale x)).run ({} : St) with
  | mk r st => cases r <;> rfl

/-- `genPowerRec` for a power that is not stored, past its guards: the parts `a`, `b` of `SplitDegree(n)` and
    whether `n` is a power of two are parameters, and so are the two recursive calls -/
def genBody (env : Env) (top : Nat → Bool → M Unit) (rec : Nat → Bool → M Bool) (a b n : Nat) (p2 lazy : Bool) :
    M Bool := do
  let rA ← rec a (lazy && !p2)
  let rB ← rec b (lazy && !p2)
  (if lazy then do
    relinIf2 env a
    relinIf2 env b
    rescaleIf env rA a
    rescaleIf env rB b
    mulInto env "mulnew" false a b n
  else do
    rescaleIf env rA a
    rescaleIf env rB b
    mulInto env "mulrelinnew" true a b n)
  (if env.cheb then do
    let c := if a ≥ b then a - b else b - a
    let o ← getP n
    let o2 ← addCt env "add" false o o
    setP n o2
    (if c = 0 then do
      let o ← getP n
      log s!"add({showOpd env o},c)"
      setP n { o with val := o.val.map fun x => redV env (x - 1) }
    else do
      top c lazy
      let on ← getP n
      let oc ← getP c
      let o3 ← addCt env "sub" true on oc
      setP n o3)
  else pure ())
  pure true

theorem genPowerRec_succ (env : Env) (fuel n : Nat) (lazy : Bool) :
    genPowerRec env (fuel + 1) n lazy = hasP n >>= fun c =>
      if c then pure false
      else if n = 0 then throw "panic"
      else genBody env (genPowerTop env fuel) (genPowerRec env fuel) (splitDegree n).1 (splitDegree n).2 n
        (isPow2 n) lazy := by
  rw [genPowerRec]
  rfl

structure Post {α : Type} (m : M α) (Q : α → Prop) : Prop where
  out : ∀ st a st', ex m st = (.ok a, st') → Q a

theorem post_bind {α β : Type} {m : M α} {f : α → M β} {Qa : α → Prop} {Qb : β → Prop}
    (hm : Post m Qa) (hf : ∀ a, Qa a → Post (f a) Qb) : Post (m >>= f) Qb := by
  constructor
  intro st b s2 h
  obtain ⟨a, s1, h1, h2⟩ := ex_bind_ok h
  exact (hf a (hm.out st a s1 h1)).out s1 b s2 h2

theorem post_pure {α : Type} {Q : α → Prop} {a : α} (h : Q a) : Post (pure a : M α) Q := by
  constructor
  intro st b s' hex
  simp only [ex_pure, Prod.mk.injEq, Except.ok.injEq] at hex
  rw [← hex.1]; exact h

theorem post_throw {α : Type} {Q : α → Prop} (er : String) : Post (throw er : M α) Q := by
  constructor
  intro st b s' hex; simp at hex

theorem post_throw_bind {α β : Type} {Q : β → Prop} (er : String) (f : α → M β) : Post (throw er >>= f) Q := by
  constructor
  intro s o s' h
  rw [ex_bind] at h
  simp at h

theorem post_ite {α : Type} {Q : α → Prop} {c : Prop} [Decidable c] {a b : M α}
    (ha : c → Post a Q) (hb : ¬ c → Post b Q) : Post (if c then a else b) Q := by
  by_cases h : c
  · rw [if_pos h]; exact ha h
  · rw [if_neg h]; exact hb h

theorem post_true {α : Type} (m : M α) : Post m (fun _ => True) := ⟨fun _ _ _ _ => trivial⟩

theorem post_mono {α : Type} {m : M α} {Q Q' : α → Prop} (h : Post m Q) (hq : ∀ a, Q a → Q' a) : Post m Q' :=
  ⟨fun st a st' hex => hq a (h.out st a st' hex)⟩

theorem post_foldlM {β ι : Type} {Q : β → Prop} (f : β → ι → M β)
    (hf : ∀ b i, Q b → Post (f b i) Q) (l : List ι) : ∀ b, Q b → Post (l.foldlM f b) Q := by
  induction l with
  | nil => intro b hb; simp only [List.foldlM_nil]; exact post_pure hb
  | cons i l ih =>
    intro b hb
    simp only [List.foldlM_cons]
    exact post_bind (hf b i hb) (fun c hc => ih c hc)

theorem run_ok {env : Env} {polys : List (List Int)} {mapping : Option (List (List Nat))}
    {lazy : Bool} {inLevel inScale tScale : Nat} {x : List Int} {tr : List String} {o : Opd}
    (h : run env polys mapping lazy inLevel inScale tScale x = (tr, "ok", some o)) :
    ∃ st, ex (evaluate env polys mapping lazy inLevel inScale tScale x) {} = (.ok o, st) := by
  rw [run_eq] at h
  cases hex : ex (evaluate env polys mapping lazy inLevel inScale tScale x) {} with
  | mk r st =>
    rw [hex] at h
    cases r with
    | error er => exact absurd (Prod.mk.inj (Prod.mk.inj h).2).2 (by simp)
    | ok o' => exact ⟨st, by rw [Option.some.inj (Prod.mk.inj (Prod.mk.inj h).2).2]⟩

end Lattigo.Model.PolyEval
