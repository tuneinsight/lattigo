/-
  C13 — total correctness on the machine: `Run m st Q` (from `st` the computation `m` succeeds, and its result and
  final state satisfy `Q`), the power basis read as a function (`look`, `Upd`), and what each operation of the
  evaluator does to levels and ciphertext degrees (`run_*`).  Values, scales and the trace are not followed.
-/
import Lattigo.Proofs.PolyEvalRun

namespace Lattigo.Model.PolyEval

/-- what the basis holds at index `n` -/
def look (pb : List (Nat × Opd)) (n : Nat) : Option Opd := (pb.find? (·.1 == n)).map (·.2)

/-- `pb'` is `pb` with `o` stored at `n` -/
def Upd (pb pb' : List (Nat × Opd)) (n : Nat) (o : Opd) : Prop :=
  ∀ x, look pb' x = if x = n then some o else look pb x

theorem Upd.set (pb : List (Nat × Opd)) (n : Nat) (o : Opd) : Upd pb ((n, o) :: pb.filter (·.1 != n)) n o := by
  intro x
  unfold look
  rw [find?_cons_filter]
  by_cases h : n = x
  · rw [if_pos h, if_pos h.symm]; rfl
  · rw [if_neg h, if_neg (Ne.symm h)]

theorem Upd.self {pb : List (Nat × Opd)} {n : Nat} {o : Opd} (h : look pb n = some o) : Upd pb pb n o := by
  intro x
  split
  · next hx => rw [hx, h]
  · rfl

theorem Upd.stored {s s' : List (Nat × Opd)} {n : Nat} {o' : Opd} (hu : Upd s s' n o') {x : Nat}
    (hx : look s x ≠ none) : look s' x ≠ none := by
  rw [hu x]
  split
  · simp
  · exact hx

/-- an entry of degree 1 is still one after an update, at its own index or not, that stores degree 1 -/
theorem Upd.look_deg1 {s s' : List (Nat × Opd)} {a b : Nat} {o' : Opd} (hu : Upd s s' b o') (hd : o'.deg = 1)
    (ha : ∃ o, look s a = some o ∧ o.deg = 1) : ∃ o, look s' a = some o ∧ o.deg = 1 := by
  rw [hu a]
  split
  · exact ⟨o', rfl, hd⟩
  · exact ha

theorem Upd.lvl_same {s s' : List (Nat × Opd)} {n : Nat} {o o' : Opd} (hu : Upd s s' n o') (hn : look s n = some o)
    (hl : o'.level = o.level) : ∀ x ox', look s' x = some ox' → ∃ ox, look s x = some ox ∧ ox'.level = ox.level := by
  intro x ox' hx
  rw [hu x] at hx
  split at hx
  · next hxn => cases hx; exact ⟨o, hxn ▸ hn, hl⟩
  · exact ⟨ox', hx, rfl⟩

variable {α β : Type}

def Run (m : M α) (st : St) (Q : α → St → Prop) : Prop := ∃ a s, ex m st = (.ok a, s) ∧ Q a s

theorem Run.bind {m : M α} {f : α → M β} {st : St} {Q : β → St → Prop}
    (h : Run m st fun a s => Run (f a) s Q) : Run (m >>= f) st Q := by
  obtain ⟨a, s, h1, b, s2, h2, hq⟩ := h
  exact ⟨b, s2, by rw [ex_bind, h1]; exact h2, hq⟩

theorem Run.pure {a : α} {st : St} {Q : α → St → Prop} (h : Q a st) : Run (pure a : M α) st Q := ⟨a, st, rfl, h⟩

theorem Run.mono {m : M α} {st : St} {Q Q' : α → St → Prop} (h : Run m st Q) (hq : ∀ a s, Q a s → Q' a s) :
    Run m st Q' := by
  obtain ⟨a, s, h1, h2⟩ := h
  exact ⟨a, s, h1, hq a s h2⟩

/-- a loop whose every round keeps `I` and establishes a fact `P i` that later rounds keep -/
theorem run_forM {ι : Type} (f : ι → M Unit) (I : St → Prop) (P : ι → St → Prop) (l : List ι)
    (hf : ∀ i ∈ l, ∀ st, I st → Run (f i) st fun _ s => I s ∧ P i s ∧ ∀ j, P j st → P j s) :
    ∀ st, I st → Run (l.forM f) st fun _ s => I s ∧ (∀ i ∈ l, P i s) ∧ ∀ j, P j st → P j s := by
  induction l with
  | nil => intro st h; exact Run.pure ⟨h, by simp, fun _ h => h⟩
  | cons i l ih =>
    intro st h
    change Run (f i >>= fun _ => l.forM f) st _
    apply Run.bind
    apply (hf i (List.mem_cons_self ..) st h).mono
    intro _ s1 ⟨h1, hp1, hk1⟩
    apply (ih (fun j hj => hf j (List.mem_cons_of_mem _ hj)) s1 h1).mono
    intro _ s2 ⟨h2, hp2, hk2⟩
    refine ⟨h2, ?_, fun j hj => hk2 j (hk1 j hj)⟩
    intro j hj
    rcases List.mem_cons.1 hj with rfl | hj
    · exact hk2 _ hp1
    · exact hp2 j hj

theorem run_foldlM {ι β : Type} (f : β → ι → M β) (I : β → St → Prop) (l : List ι)
    (hf : ∀ i ∈ l, ∀ b st, I b st → Run (f b i) st I) : ∀ b st, I b st → Run (l.foldlM f b) st I := by
  induction l with
  | nil => intro b st h; exact Run.pure h
  | cons i l ih =>
    intro b st h
    rw [List.foldlM_cons]
    apply Run.bind
    apply (hf i (List.mem_cons_self ..) b st h).mono
    intro b1 s1 h1
    exact ih (fun j hj => hf j (List.mem_cons_of_mem _ hj)) b1 s1 h1

theorem run_getP {n : Nat} {st : St} {o : Opd} {f : Opd → M β} {Q : β → St → Prop} (h : look st.pb n = some o)
    (hf : Run (f o) st Q) : Run (getP n >>= f) st Q := by
  unfold look at h
  apply Run.bind
  refine ⟨o, st, ?_, hf⟩
  rw [ex_getP]
  cases hf : st.pb.find? (·.1 == n) with
  | none => rw [hf] at h; cases h
  | some p =>
    rw [hf] at h
    obtain ⟨k, o'⟩ := p
    simp only [Option.map_some, Option.some.injEq] at h
    subst h
    rfl

theorem run_hasP (n : Nat) (st : St) : Run (hasP n) st fun a s => a = (look st.pb n).isSome ∧ s = st :=
  ⟨_, st, ex_hasP n st, by simp [look], rfl⟩

theorem run_setP (n : Nat) (o : Opd) (st : St) : Run (setP n o) st fun _ s => Upd st.pb s.pb n o :=
  ⟨(), _, ex_setP n o st, Upd.set _ _ _⟩

theorem run_log (s : String) (st : St) : Run (log s) st fun _ s' => s'.pb = st.pb := ⟨(), _, ex_log s st, rfl⟩

theorem run_get (st : St) : Run (get : M St) st fun a s => a = st ∧ s = st := ⟨st, st, rfl, rfl, rfl⟩

theorem run_addConst (e : Env) (a : Opd) (c : List Int) (st : St) :
    Run (addConst e a c) st fun o s => s.pb = st.pb ∧ o.deg = a.deg ∧ o.level = a.level := by
  unfold addConst
  apply Run.bind
  apply (run_log _ st).mono
  intro _ s hs
  exact Run.pure ⟨hs, rfl, rfl⟩

theorem run_mulThenAddConst (e : Env) (x : Opd) (c : List Int) (res : Opd) (st : St) :
    Run (mulThenAddConst e x c res) st fun o s => s.pb = st.pb ∧ o.deg = max res.deg x.deg ∧
      o.level = min res.level x.level := by
  unfold mulThenAddConst
  apply Run.bind
  apply (run_log _ st).mono
  intro _ s hs
  exact Run.pure ⟨hs, rfl, rfl⟩

/-- the levels a rescaling takes: one, none in the scale-invariant mode -/
def rho (e : Env) : Int := if e.inv then 0 else 1

theorem rho_cases (e : Env) : (e.inv = true ∧ rho e = 0) ∨ (¬ e.inv = true ∧ rho e = 1) := by
  unfold rho
  by_cases h : e.inv = true
  · exact Or.inl ⟨h, if_pos h⟩
  · exact Or.inr ⟨h, if_neg h⟩

theorem rho_nonneg (e : Env) : 0 ≤ rho e := by
  rcases rho_cases e with ⟨_, h⟩ | ⟨_, h⟩
  · rw [h]
  · rw [h]; decide

/-- a rescaling that is still to come finds a level above 0: the level lies one `rho` above a bound that is not
    negative in the standard mode -/
theorem pos_of_pending {e : Env} {b x : Int} (h : e.inv = true ∨ 0 ≤ b) (hx : b + rho e ≤ x) : e.inv = true ∨ 0 < x := by
  rcases rho_cases e with ⟨hi, _⟩ | ⟨hi, hr⟩
  · exact Or.inl hi
  · right
    have := h.resolve_left hi
    omega

/-- `simDepth + 1` rescalings take `bits.Len64(d)` levels, none in the scale-invariant mode -/
theorem simDepth_add_rho (e : Env) (d : Nat) (hd : 1 ≤ d) : (simDepth e d : Int) + rho e = rho e * bitLen d := by
  have hK : 1 ≤ bitLen d := (lt_len64_iff d 0).2 hd
  unfold simDepth polynomialDepth
  rcases rho_cases e with ⟨hi, hr⟩ | ⟨hi, hr⟩
  · rw [hr, if_pos hi]; simp
  · rw [hr, if_neg hi]; omega

theorem run_rescaleOp (e : Env) (o : Opd) (st : St) (h : e.inv = true ∨ 0 < o.level) :
    Run (rescaleOp e o) st fun o' s => s.pb = st.pb ∧ o'.deg = o.deg ∧ o'.level = o.level - rho e := by
  unfold rescaleOp rho
  apply Run.bind
  apply (run_log _ st).mono
  intro _ s hs
  by_cases hi : e.inv = true
  · rw [if_pos hi, if_pos hi]; exact Run.pure ⟨hs, rfl, by omega⟩
  · rw [if_neg hi, if_neg hi]
    have hl : ¬ o.level ≤ 0 := by
      rcases h with h | h
      · exact absurd h hi
      · omega
    simp only [hl, if_false]
    exact Run.pure ⟨hs, rfl, rfl⟩

theorem run_relinOp (e : Env) (o : Opd) (st : St) :
    Run (relinOp e o) st fun o' s => s.pb = st.pb ∧ o'.deg = 1 ∧ o'.level = o.level := by
  unfold relinOp
  apply Run.bind
  apply (run_log _ st).mono
  intro _ s hs
  exact Run.pure ⟨hs, rfl, rfl⟩

theorem run_mulOp (e : Env) (name : String) (relin : Bool) (a b : Opd) (st : St) (ha : 1 ≤ a.deg ∨ e.t = 0)
    (hab : a.deg + b.deg ≤ 2) :
    Run (mulOp e name relin a b) st fun o' s => s.pb = st.pb ∧ o'.level = min a.level b.level ∧
      o'.deg = if relin then 1 else a.deg + b.deg := by
  unfold mulOp
  apply Run.bind
  apply (run_log _ st).mono
  intro _ s hs
  have h0 : (a.deg = 0 && e.t != 0) = false := by
    rw [Bool.and_eq_false_iff]
    rcases ha with ha | ha
    · left; simpa using (by omega : a.deg ≠ 0)
    · right; simp [ha]
  have h2 : ¬ a.deg + b.deg > 2 := by omega
  simp only [h0, h2, if_false, Bool.false_eq_true]
  exact Run.pure ⟨hs, rfl, rfl⟩

theorem run_addCt (e : Env) (name : String) (sub : Bool) (a b : Opd) (st : St) :
    Run (addCt e name sub a b) st fun o' s => s.pb = st.pb ∧ o'.level = min a.level b.level ∧
      o'.deg = max a.deg b.deg := by
  unfold addCt
  apply Run.bind
  apply (run_log _ st).mono
  intro _ s hs
  exact Run.pure ⟨hs, rfl, rfl⟩

theorem run_relinIf2 (e : Env) {n : Nat} {st : St} {o : Opd} (h : look st.pb n = some o) :
    Run (relinIf2 e n) st fun _ s => ∃ o', Upd st.pb s.pb n o' ∧ o'.level = o.level ∧
      o'.deg = if o.deg = 2 then 1 else o.deg := by
  unfold relinIf2
  apply run_getP h
  by_cases h2 : o.deg = 2
  · rw [if_pos (by simpa using h2)]
    apply Run.bind
    apply (run_relinOp e o st).mono
    intro o' s' ⟨hs, hd, hl⟩
    apply (run_setP n o' s').mono
    intro _ s'' hu
    exact ⟨o', hs ▸ hu, hl, by rw [if_pos h2, hd]⟩
  · rw [if_neg (by simpa using h2)]
    exact Run.pure ⟨o, Upd.self h, rfl, by rw [if_neg h2]⟩

theorem run_rescaleIf (e : Env) (r : Bool) {n : Nat} {st : St} {o : Opd} (h : look st.pb n = some o)
    (hl : r = true → e.inv = true ∨ 0 < o.level) :
    Run (rescaleIf e r n) st fun _ s => ∃ o', Upd st.pb s.pb n o' ∧ o'.deg = o.deg ∧
      o'.level = o.level - if r then rho e else 0 := by
  unfold rescaleIf
  cases r with
  | false => simp only [Bool.false_eq_true, if_false]; exact Run.pure ⟨o, Upd.self h, rfl, by omega⟩
  | true =>
    simp only [if_true]
    apply run_getP h
    apply Run.bind
    apply (run_rescaleOp e o st (hl rfl)).mono
    intro o' s' ⟨hs, hd, hlv⟩
    apply (run_setP n o' s').mono
    intro _ s'' hu
    exact ⟨o', hs ▸ hu, hd, hlv⟩

theorem run_mulInto (e : Env) (name : String) (relin : Bool) {a b : Nat} (n : Nat) {st : St} {oa ob : Opd}
    (ha : look st.pb a = some oa) (hb : look st.pb b = some ob) (h1 : 1 ≤ oa.deg) (h2 : oa.deg + ob.deg ≤ 2) :
    Run (mulInto e name relin a b n) st fun _ s => ∃ o', Upd st.pb s.pb n o' ∧ o'.level = min oa.level ob.level ∧
      o'.deg = if relin then 1 else oa.deg + ob.deg := by
  unfold mulInto
  apply run_getP ha
  apply run_getP hb
  apply Run.bind
  apply (run_mulOp e name relin _ _ _ (Or.inl h1) h2).mono
  intro o' s' ⟨hs, hl, hd⟩
  apply (run_setP n o' s').mono
  intro _ s'' hu
  exact ⟨o', hs ▸ hu, hl, hd⟩

theorem run_relinDeg2 (e : Env) (b : Opd) (st : St) :
    Run (if b.deg == 2 then relinOp e b else pure b) st fun b1 s =>
      s.pb = st.pb ∧ b1.level = b.level ∧ (b.deg ≤ 2 → b1.deg ≤ 1) := by
  by_cases h2 : b.deg = 2
  · rw [if_pos (by simpa using h2)]
    apply (run_relinOp e b st).mono
    intro o s ⟨hs, hd, hlv⟩
    exact ⟨hs, hlv, fun _ => le_of_eq hd⟩
  · rw [if_neg (by simpa using h2)]
    exact Run.pure ⟨rfl, rfl, fun h => by omega⟩

theorem run_evalMonomial (e : Env) (ht : e.t = 0) (a b x : Opd) (st : St) (ha : a.deg ≤ 2) (hb : b.deg ≤ 2)
    (hx : x.deg = 1) (hl : e.inv = true ∨ 0 < b.level) :
    Run (evalMonomial e a b x) st fun o s => s.pb = st.pb ∧ o.deg ≤ 2 ∧
      o.level = min (min (b.level - rho e) x.level) a.level := by
  unfold evalMonomial
  apply Run.bind
  apply (run_relinDeg2 e b st).mono
  intro b1 s1 ⟨hs1, hl1, hd1⟩
  have hd1 := hd1 hb
  apply Run.bind
  apply (run_rescaleOp e b1 s1 (by rw [hl1]; exact hl)).mono
  intro b2 s2 ⟨hs2, hd2, hl2⟩
  apply Run.bind
  apply (run_mulOp e "mul" false b2 x s2 (Or.inr ht) (by omega)).mono
  intro b3 s3 ⟨hs3, hl3, hd3⟩
  rw [if_neg (by simp [ht])]
  apply (run_addCt e "add" false b3 a s3).mono
  intro o s ⟨hs, hlo, hdo⟩
  refine ⟨by rw [hs, hs3, hs2, hs1], ?_, by rw [hlo, hl3, hl2, hl1]⟩
  rw [hdo, hd3]
  simp only [Bool.false_eq_true, if_false]
  omega

end Lattigo.Model.PolyEval
