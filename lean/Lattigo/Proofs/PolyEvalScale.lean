/-
  C13 — exact scales of the bgv instance (scales modulo the prime `t`): `ring.ModExp`-based inverses,
  the field algebra of `mulS`/`divS`, the simulator's back-propagation (`recursePS`) composed forwards,
  and the scale of the machine's output.
-/
import Lattigo.Proofs.PolyEvalSim
import Lattigo.Proofs.SqMul
import Mathlib.FieldTheory.Finite.Basic
import Lattigo.Proofs.ZModCast

namespace Lattigo.Model.PolyEval

/-- no early exit here: at exponent `0` a round only squares the base -/
theorem sqMul (t : Nat) : SqMul t fun f e x r => modExpLoop t f r x e where
  out _ _ _ := rfl
  stop f := by
    induction f with
    | zero => exact fun _ _ => rfl
    | succ f ih => exact fun x r => (ih (x * x % t) r :)
  step f e x r _ := rfl

theorem modExpLoop_spec (t : Nat) (fuel : Nat) : ∀ (r b k : Nat), k < 2 ^ fuel →
    modExpLoop t fuel r b k % t = r * b ^ k % t :=
  fun r b k hk => (sqMul t).mod_eq fuel k b r hk

theorem modExpLoop_lt (t : Nat) (fuel : Nat) : ∀ (r b k : Nat), r < t → modExpLoop t fuel r b k < t :=
  fun r b k hr => (sqMul t).lt fuel k b r hr

theorem modExp_spec (t x e : Nat) (ht : 0 < t) (he : e < 2 ^ 64) : modExp t x e = x ^ e % t :=
  (sqMul t).eq_pow_mod ht 64 e x he

theorem invMod_spec (t b : Nat) (ht : t.Prime) (h64 : t < 2 ^ 64) (hb : ¬ t ∣ b) :
    b * invMod t b % t = 1 := by
  rw [invMod, modExp_spec t b (t - 2) ht.pos (by omega)]
  exact mul_pow_sub_two_mod ht hb

section field
variable (e : Env) [hp : Fact e.t.Prime] (h64 : e.t < 2 ^ 64)

/-- `a` is invertible modulo the prime `t`: the scales and the `q_l mod t` the simulator divides by -/
def UnitS (a : Nat) : Prop := ((a : Nat) : ZMod e.t) ≠ 0

theorem UnitS.ne_zero {a : Nat} (h : UnitS e a) : ((a : Nat) : ZMod e.t) ≠ 0 := h

theorem t_ne_zero : e.t ≠ 0 := hp.out.ne_zero

theorem mulS_lt (a b : Nat) : mulS e a b < e.t := by
  unfold mulS; rw [if_neg (t_ne_zero e)]; exact Nat.mod_lt _ hp.out.pos

theorem divS_lt (a b : Nat) : divS e a b < e.t := by
  unfold divS; rw [if_neg (t_ne_zero e)]; exact Nat.mod_lt _ hp.out.pos

theorem cast_mulS (a b : Nat) : ((mulS e a b : Nat) : ZMod e.t) = (a : ZMod e.t) * (b : ZMod e.t) := by
  unfold mulS; rw [if_neg (t_ne_zero e)]
  rw [ZMod.natCast_mod, Nat.cast_mul]

include h64 in
theorem cast_invMod (b : Nat) (hb : UnitS e b) : ((invMod e.t b : Nat) : ZMod e.t) = ((b : Nat) : ZMod e.t)⁻¹ := by
  have hnd : ¬ e.t ∣ b := by
    intro hd; exact hb ((ZMod.natCast_eq_zero_iff b e.t).2 hd)
  have h1 := invMod_spec e.t b hp.out h64 hnd
  have h2 : ((b * invMod e.t b : Nat) : ZMod e.t) = 1 := by
    rw [← ZMod.natCast_mod, h1]; simp
  rw [Nat.cast_mul] at h2
  exact eq_inv_of_mul_eq_one_right h2

include h64 in
theorem cast_divS (a b : Nat) (hb : UnitS e b) :
    ((divS e a b : Nat) : ZMod e.t) = (a : ZMod e.t) * ((b : Nat) : ZMod e.t)⁻¹ := by
  unfold divS; rw [if_neg (t_ne_zero e)]
  rw [ZMod.natCast_mod, Nat.cast_mul, cast_invMod e h64 b hb]

theorem unit_mulS (a b : Nat) (ha : UnitS e a) (hb : UnitS e b) : UnitS e (mulS e a b) := by
  unfold UnitS at *; rw [cast_mulS]; exact mul_ne_zero ha hb

include h64 in
theorem unit_divS (a b : Nat) (ha : UnitS e a) (hb : UnitS e b) : UnitS e (divS e a b) := by
  unfold UnitS at *; rw [cast_divS e h64 a b hb]; exact mul_ne_zero ha (inv_ne_zero hb)

end field

theorem nextPower_eq (s deg : Nat) (hs : 2 ^ s ≤ deg) : nextPower s deg = 2 ^ (bitLen deg - 1) := by
  obtain ⟨k, hk, hlo, hhi⟩ := bitLen_eq_succ deg (le_trans Nat.one_le_two_pow hs)
  obtain ⟨j, hj, hge, hlt⟩ := nextPower_spec s deg
  rw [hj, hk, Nat.add_sub_cancel]
  -- `2^(s+j) < 2^(k+1)`: for `j = 0` by `2^s ≤ deg`, else by minimality
  have h1 : 2 ^ (s + j) < 2 ^ (k + 1) := by
    rw [pow_succ] at hhi ⊢
    rcases hlt with rfl | hlt
    · rw [Nat.add_zero]; omega
    · omega
  have h2 : 2 ^ k < 2 ^ (s + j + 1) := by rw [pow_succ]; omega
  have := (Nat.pow_lt_pow_iff_right (by decide : 1 < 2)).1 h1
  have := (Nat.pow_lt_pow_iff_right (by decide : 1 < 2)).1 h2
  rw [show s + j = k by omega]

theorem bitLen_sub_le (deg np : Nat) (hdeg : 1 ≤ deg) (hnp : deg / 2 + 1 ≤ np) :
    bitLen (deg - np) ≤ bitLen deg - 1 := by
  rw [bitLen_le_iff]
  have hlt : deg < 2 ^ bitLen deg := lt_two_pow_len64 deg
  have hB := bitLen_pos deg hdeg
  have h2 : 2 ^ bitLen deg = 2 * 2 ^ (bitLen deg - 1) := by
    conv_lhs => rw [show bitLen deg = (bitLen deg - 1) + 1 by omega, pow_succ]
    ring
  omega

theorem optimalSplit_pos (n : Nat) : 1 ≤ optimalSplit n := by
  by_cases h : 2 ≤ n
  · unfold optimalSplit
    simp only []
    have : 1 ≤ n / 2 := by omega
    split_ifs <;> omega
  · have : n = 0 ∨ n = 1 := by omega
    rcases this with rfl | rfl <;> decide

/-- every power the simulated basis holds has the property `P` (of its index and its entry) -/
def AllP (P : Nat → SimOpd → Prop) (d : List (Nat × SimOpd)) : Prop :=
  ∀ n xp, d.find? (·.1 == n) = some xp → P n xp.2

/-- `SimPowerBasis.GenPower` keeps `P` on every stored power if the product of two powers with `P`, rescaled, has
    `P`; `G` restricts the powers generated and passes to the parts of `SplitDegree` -/
theorem allP_simGenPower (e : Env) {P : Nat → SimOpd → Prop} {G : Nat → Prop}
    (hG : ∀ n, 2 ≤ n → G n → G (splitDegree n).1 ∧ G (splitDegree n).2)
    (hstep : ∀ n oa ob, 2 ≤ n → G n → P (splitDegree n).1 oa → P (splitDegree n).2 ob →
      P n (simRescale e (simMul e oa ob))) (fuel : Nat) :
    ∀ (n : Nat) (d : List (Nat × SimOpd)), G n → AllP P d → AllP P (simGenPower e fuel n d) := by
  induction fuel with
  | zero => intro n d _ h; rw [simGenPower]; exact h
  | succ fuel ih =>
    intro n d hn h
    rw [simGenPower]
    split
    · exact h
    · have hn2 : 2 ≤ n := by omega
      obtain ⟨hGa, hGb⟩ := hG n hn2 hn
      simp only []
      have h2 := ih (splitDegree n).2 _ hGb (ih (splitDegree n).1 d hGa h)
      generalize simGenPower e fuel (splitDegree n).2 (simGenPower e fuel (splitDegree n).1 d) = D at h2
      cases ha : D.find? (·.1 == (splitDegree n).1) with
      | none => simp only; exact h2
      | some oa =>
        cases hb : D.find? (·.1 == (splitDegree n).2) with
        | none => simp only; exact h2
        | some ob =>
          simp only
          intro m xp hm
          rw [find?_cons_filter] at hm
          by_cases hnm : n = m
          · rw [if_pos hnm] at hm
            simp only [Option.some.injEq] at hm
            subst hm; subst hnm
            exact hstep n _ _ hn2 hn (h2 _ _ ha) (h2 _ _ hb)
          · rw [if_neg hnm] at hm
            exact h2 m xp hm

/-- … and so does the basis `Evaluate` simulates, from an input with `P 1`: it generates powers up to `2^bitLen deg` -/
theorem allP_simPowers (e : Env) {P : Nat → SimOpd → Prop} {G : Nat → Prop}
    (hG : ∀ n, 2 ≤ n → G n → G (splitDegree n).1 ∧ G (splitDegree n).2)
    (hstep : ∀ n oa ob, 2 ≤ n → G n → P (splitDegree n).1 oa → P (splitDegree n).2 ob →
      P n (simRescale e (simMul e oa ob)))
    (deg : Nat) (hdeg : 1 ≤ deg) (hGd : ∀ n, n ≤ 2 ^ bitLen deg → G n) (L : Int) (sc : Nat)
    (h1 : P 1 { level := L, scale := sc }) : AllP P (simPowers e deg L sc) := by
  have h0 : AllP P [(1, { level := L, scale := sc })] := by
    intro n xp hf
    simp only [List.find?_cons, List.find?_nil] at hf
    split at hf
    · simp only [Option.some.injEq] at hf
      subst hf
      rename_i h
      rw [← (by simpa using h : 1 = n)]
      exact h1
    · cases hf
  have hos : 2 ^ optimalSplit (bitLen deg) ≤ 2 ^ bitLen deg :=
    Nat.pow_le_pow_right (by decide) (optimalSplit_le _ (by rw [bitLen_pos deg hdeg]; omega))
  exact simPowers_rel e e deg L L sc sc (Rel := fun d _ => AllP P d)
    (allP_simGenPower e hG hstep _ _ _ (hGd _ (le_refl _)) h0)
    fun n d _ hn hd => allP_simGenPower e hG hstep _ n d (hGd n (by omega)) hd

section sim
variable (e : Env) [hp : Fact e.t.Prime] (h64 : e.t < 2 ^ 64) (hinv : e.inv = false)
variable (L : Int) (hq : ∀ l : Int, 0 ≤ l → l ≤ L → UnitS e (qAt e l))

/-- every stored power `n` has a unit scale and a level in `[L - ⌈log2 n⌉, L]` -/
def SimInv (d : List (Nat × SimOpd)) : Prop :=
  ∀ n xp, d.find? (·.1 == n) = some xp → UnitS e xp.2.scale ∧ L - (Nat.clog 2 n : Int) ≤ xp.2.level ∧ xp.2.level ≤ L

include h64 hinv hq in
theorem simInv_simPowers (deg : Nat) (hdeg : 1 ≤ deg) (sc : Nat) (hsc : UnitS e sc) (hL : (bitLen deg : Int) ≤ L) :
    SimInv e L (simPowers e deg L sc) := by
  refine allP_simPowers e (P := fun n o => UnitS e o.scale ∧ L - (Nat.clog 2 n : Int) ≤ o.level ∧ o.level ≤ L)
    (G := fun n => (Nat.clog 2 n : Int) ≤ L) ?_ ?_ deg hdeg ?_ L sc ⟨hsc, by simp, le_refl _⟩
  · intro n hn hc
    have := clog_splitDegree n hn
    constructor <;> omega
  · intro n oa ob hn hc ⟨hua, hla, hla'⟩ ⟨hub, hlb, hlb'⟩
    have := clog_splitDegree n hn
    simp only [simRescale, simMul, mulScale, hinv, Bool.false_eq_true, if_false]
    refine ⟨unit_divS e h64 _ _ (unit_mulS e _ _ hua hub) (hq _ (by omega) (by omega)), by omega, by omega⟩
  · intro n hn
    have := Nat.clog_le_of_le_pow hn
    omega

omit hp in
theorem factorize_q_degree (p : SubPoly) (n : Nat) : (p.factorize e n).1.degree = p.degree - n := by
  unfold SubPoly.degree SubPoly.factorize
  simp only
  by_cases h : p.coeffs = []
  · simp [h]
  · rw [headD_mapIdx_ne _ _ [] [] h, factorizeF_fst_length]; omega

include h64 hinv hq in
/-- the scales the simulator assigns backwards from the target compose forwards to the target: with `L − T` levels of
    budget the evaluation comes back with `out·q_T` for a leading sub-polynomial (one `Rescale` is still to come),
    `out` otherwise -/
theorem recursePS_scale (pb : List (Nat × SimOpd)) (hpb : SimInv e L pb) (fuel : Nat) :
    ∀ (s : Nat) (T : Int) (p : SubPoly) (out : Nat) (subs : List SubPoly) (res : SimOpd),
      1 ≤ s → 0 ≤ T → ((bitLen p.degree - 1 : Nat) : Int) ≤ L - T → out < e.t →
      recursePS e pb fuel s T p out = some (subs, res) →
      res.level = T ∧ res.scale = (if p.lead then mulS e out (qAt e T) else out) := by
  induction fuel with
  | zero => intro s T p out subs res _ _ _ _ h; rw [recursePS] at h; cases h
  | succ fuel ih =>
    intro s T p out subs res hs hT hbud hout h
    rcases recursePS_some h with ⟨_, ⟨_, h⟩ | ⟨_, _, rfl⟩⟩ | ⟨hbaby, xp, bq, rq, br, tmp, hx, hq', _, _, _, rfl⟩
    · exact ih _ T p out subs res (optimalSplit_pos _) hT hbud hout h
    · exact ⟨rfl, by simp only [babyScale, hinv, Bool.not_false, Bool.true_and]⟩
    · have hs2 : 2 ^ s ≤ p.degree := by omega
      have hdeg2 : 2 ≤ p.degree := le_trans (by
        calc 2 = 2 ^ 1 := rfl
          _ ≤ 2 ^ s := Nat.pow_le_pow_right (by decide) hs) hs2
      have hB2 : 2 ≤ bitLen p.degree := by
        by_contra hc
        have := (bitLen_le_iff p.degree 1).1 (by omega)
        omega
      obtain ⟨hux, hlx, _⟩ := hpb _ _ hx
      have hcl := Nat.clog_le_of_le_pow (nextPower_eq s p.degree hs2).le
      have hnp := nextPower_ge s p.degree
      have hgl : giantLevelScale e p.lead T out xp.2.scale =
          (T + 1, mulS e (divS e out xp.2.scale) (if p.lead then qAt e T else qAt e (T + 1))) := by
        simp [giantLevelScale, hinv]
      rw [hgl] at hq'
      have hbq : ((bitLen (p.factorize e (nextPower s p.degree)).1.degree - 1 : Nat) : Int) ≤ L - (T + 1) := by
        rw [factorize_q_degree]
        have := bitLen_sub_le p.degree (nextPower s p.degree) (by omega) hnp
        omega
      obtain ⟨hlq, hsq⟩ := ih s (T + 1) _ _ bq rq hs (by omega) hbq (mulS_lt e _ _) hq'
      have hql : (p.factorize e (nextPower s p.degree)).1.lead = p.lead := rfl
      rw [hql] at hsq
      have huq1 : UnitS e (qAt e (T + 1)) := hq _ (by omega) (by omega)
      constructor
      · simp only [simMul, simRescale, hinv, Bool.false_eq_true, if_false, hlq]
        omega
      · simp only [simMul, simRescale, mulScale, hinv, Bool.false_eq_true, if_false, hlq, hsq]
        by_cases hl : p.lead = true
        · simp only [hl, if_true]
          -- in `ZMod t`, with `x` the scale of the split power: `(out/x · q_T · q_{T+1}) / q_{T+1} · x = out · q_T`
          apply eq_of_cast_eq (mulS_lt e _ _) (mulS_lt e _ _)
          simp only [cast_mulS, cast_divS e h64 _ _ huq1, cast_divS e h64 _ _ hux]
          have := UnitS.ne_zero e hux
          have := UnitS.ne_zero e huq1
          field_simp
        · simp only [hl, Bool.false_eq_true, if_false]
          -- `(out/x · q_{T+1}) / q_{T+1} · x = out`
          apply eq_of_cast_eq (mulS_lt e _ _) hout
          simp only [cast_mulS, cast_divS e h64 _ _ huq1, cast_divS e h64 _ _ hux]
          have := UnitS.ne_zero e hux
          have := UnitS.ne_zero e huq1
          field_simp

omit hp in
/-- the LAST sub-polynomial of the decomposition (the lowest-order baby step) carries the level and
    the scale the simulation returns (no hypothesis: the simulator's own check enforces it) -/
theorem recursePS_last (pb : List (Nat × SimOpd)) (fuel : Nat) :
    ∀ (s : Nat) (T : Int) (p : SubPoly) (out : Nat) (subs : List SubPoly) (res : SimOpd),
      recursePS e pb fuel s T p out = some (subs, res) →
      ∃ sp, subs.getLast? = some sp ∧ sp.scale = res.scale ∧ sp.level = T := by
  induction fuel with
  | zero => intro s T p out subs res h; rw [recursePS] at h; cases h
  | succ fuel ih =>
    intro s T p out subs res h
    rcases recursePS_some h with ⟨_, ⟨_, h⟩ | ⟨_, rfl, rfl⟩⟩ | ⟨_, xp, bq, rq, br, tmp, _, _, hr', hchk, rfl, rfl⟩
    · exact ih _ T p out subs res h
    · exact ⟨_, rfl, rfl, rfl⟩
    · obtain ⟨sp, h1, h2, h3⟩ := ih _ _ _ _ _ _ hr'
      exact ⟨sp, by rw [List.getLast?_append, h1]; rfl, by rw [h2, hchk], h3⟩

end sim

section machine
variable (e : Env)

theorem post_addConst (a : Opd) (c : List Int) : Post (addConst e a c) (fun o => o.scale = a.scale ∧ o.level = a.level) := by
  unfold addConst
  exact post_bind (post_true _) (fun _ _ => post_pure ⟨rfl, rfl⟩)

theorem post_mulThenAddConst (x : Opd) (c : List Int) (r : Opd) :
    Post (mulThenAddConst e x c r) (fun o => o.scale = r.scale ∧ o.level ≤ r.level) := by
  unfold mulThenAddConst
  exact post_bind (post_true _) (fun _ _ => post_pure ⟨rfl, min_le_left _ _⟩)

/-- a baby step keeps `I`, if the fresh accumulator has it and adding a coefficient (times a power) keeps it -/
theorem post_evalFromPowerBasis_of {I : Opd → Prop} (mapping : Option (List (List Nat))) (T : Int) (p : SubPoly)
    (sc : Nat) (h0 : ∀ dg, I { level := T, scale := sc, deg := dg, val := List.replicate e.slots 0 })
    (hadd : ∀ a k, I a → Post (addConst e a (coeffVec e mapping p.coeffs k)) I)
    (hmul : ∀ x k r, I r → Post (mulThenAddConst e x (coeffVec e mapping p.coeffs k) r) I) :
    Post (evalFromPowerBasis e mapping T p sc) I := by
  unfold evalFromPowerBasis
  apply post_bind (post_true _); intro st _
  apply post_ite
  · intro _
    apply post_ite
    · intro _; exact hadd _ _ (h0 _)
    · intro _; exact post_pure (h0 _)
  · intro _
    apply post_bind (Qa := I)
    · apply post_ite
      · intro _; exact hadd _ _ (h0 _)
      · intro _; exact post_pure (h0 _)
    · intro r hr
      apply post_foldlM _ _ _ r hr
      intro b i hb
      apply post_ite
      · intro _
        apply post_bind (post_true _); intro x _
        exact hmul _ _ _ hb
      · intro _; exact post_pure hb

theorem post_evalFromPowerBasis (mapping : Option (List (List Nat))) (T : Int) (p : SubPoly) (sc : Nat) :
    Post (evalFromPowerBasis e mapping T p sc) (fun o => o.scale = sc ∧ o.level ≤ T) :=
  post_evalFromPowerBasis_of e mapping T p sc (fun _ => ⟨rfl, le_refl _⟩)
    (fun _ _ ha => post_mono (post_addConst e _ _) (fun _ h => ⟨h.1.trans ha.1, h.2.trans_le ha.2⟩))
    (fun _ _ _ hr => post_mono (post_mulThenAddConst e _ _ _) (fun _ h => ⟨h.1.trans hr.1, h.2.trans hr.2⟩))

theorem post_addCt (name : String) (sub : Bool) (a b : Opd) :
    Post (addCt e name sub a b) (fun o => o.scale = a.scale ∧ o.level ≤ b.level) := by
  unfold addCt
  exact post_bind (post_true _) (fun _ _ => post_pure ⟨rfl, min_le_right _ _⟩)

/-- the result has the scale of `a` by the evaluator's scale check -/
theorem post_evalMonomial (ht : e.t ≠ 0) (a b x : Opd) :
    Post (evalMonomial e a b x) (fun o => o.scale = a.scale ∧ o.level ≤ a.level) := by
  unfold evalMonomial
  apply post_bind (post_true _); intro b1 _
  apply post_bind (post_true _); intro b2 _
  apply post_bind (post_true _); intro b3 _
  apply post_ite
  · intro _; exact post_throw _
  · intro hc
    apply post_mono (post_addCt e _ _ _ _)
    intro o this
    refine ⟨?_, this.2⟩
    rw [this.1]
    have hc' : ¬ (a.scale != b3.scale) = true := by
      intro h2; apply hc; simp [ht, h2]
    exact (by simpa using hc' : a.scale = b3.scale).symm

/-- the FIRST (lowest-order) entry of the list has scale `sc` and a level not above `lv` -/
def HeadIs (sc : Nat) (lv : Int) (l : List (Nat × Opd)) : Prop :=
  ∃ d v rest, l = (d, v) :: rest ∧ v.scale = sc ∧ v.level ≤ lv

theorem post_giantPass (ht : e.t ≠ 0) (sc : Nat) (lv : Int) (fuel : Nat) :
    ∀ (prev : Option Nat) (l : List (Nat × Opd)), HeadIs sc lv l → Post (giantPass e fuel prev l) (HeadIs sc lv) := by
  induction fuel with
  | zero => intro prev l hl; rw [giantPass]; exact post_pure hl
  | succ fuel ih =>
    intro prev l ⟨d0, v0, rest, hl, hs, hlv⟩
    subst hl
    match rest with
    | [] => simp only [giantPass]; exact post_pure ⟨_, v0, [], rfl, hs, hlv⟩
    | (d1, v1) :: rest =>
      rw [giantPass]
      apply post_ite
      · intro _
        simp only []
        apply post_bind (post_true _); intro xp _
        apply post_bind (post_evalMonomial e ht v0 v1 xp); intro b hb
        apply post_bind (post_true _); intro tl _
        exact post_pure ⟨_, b, tl, rfl, hb.1.trans hs, hb.2.trans hlv⟩
      · intro _
        apply post_bind (post_true _); intro tl _
        exact post_pure ⟨_, v0, tl, rfl, hs, hlv⟩

theorem post_giantLoop_of {I : List (Nat × Opd) → Prop}
    (hpass : ∀ fuel l, I l → Post (giantPass e fuel none l) I) (fuel : Nat) :
    ∀ (l : List (Nat × Opd)), I l → Post (giantLoop e fuel l) I := by
  induction fuel with
  | zero => intro l hl; rw [giantLoop]; exact post_pure hl
  | succ fuel ih =>
    intro l hl
    rw [giantLoop]
    apply post_ite
    · intro _; exact post_pure hl
    · intro _
      apply post_bind (hpass _ l hl); intro l2 h2
      exact ih l2 h2

theorem post_finish (fin : List (Nat × Opd)) :
    Post (finish e fin) (fun o => ∃ d v, fin = [(d, v)] ∧
      o.scale = (if e.inv then v.scale else divS e v.scale (qAt e v.level)) ∧
      o.level = (if e.inv then v.level else v.level - 1)) := by
  match fin with
  | [] => unfold finish; exact post_throw _
  | [(d, v)] =>
    unfold finish
    simp only
    apply post_bind (Qa := fun o => o.scale = v.scale ∧ o.level = v.level)
    · apply post_ite
      · intro _; unfold relinOp; exact post_bind (post_true _) (fun _ _ => post_pure ⟨rfl, rfl⟩)
      · intro _; exact post_pure ⟨rfl, rfl⟩
    · intro v1 hv1
      unfold rescaleOp
      apply post_bind (post_true _); intro _ _
      apply post_ite
      · intro hi; exact post_pure ⟨d, v, rfl, by rw [if_pos hi, hv1.1], by rw [if_pos hi, hv1.2]⟩
      · intro hi
        apply post_ite
        · intro _; exact post_throw_bind _ _
        · intro _
          exact post_pure ⟨d, v, rfl, by simp only [if_neg hi]; rw [hv1.1, hv1.2], by simp only [if_neg hi]; rw [hv1.2]⟩
  | _ :: _ :: _ => unfold finish; exact post_throw _

/-- the baby steps: the list ends up headed by the value of the LAST sub-polynomial, at its scale -/
theorem post_babySteps (mapping : Option (List (List Nat))) (subs : List SubPoly) (sp : SubPoly)
    (hsp : subs.getLast? = some sp) : ∀ bs0 : List (Nat × Opd),
    Post (subs.foldlM (fun bs sp => do
        let v ← evalFromPowerBasis e mapping sp.level sp sp.scale
        pure ((sp.degree, v) :: bs)) bs0) (HeadIs sp.scale sp.level) := by
  induction subs with
  | nil => cases hsp
  | cons sp0 subs ih =>
    intro bs0
    simp only [List.foldlM_cons]
    apply post_bind (Qa := HeadIs sp0.scale sp0.level)
    · apply post_bind (post_evalFromPowerBasis e mapping sp0.level sp0 sp0.scale); intro v hv
      exact post_pure ⟨_, v, bs0, rfl, hv.1, hv.2⟩
    · intro bs1 hbs1
      rcases subs with _ | ⟨sp1, subs⟩
      · obtain rfl : sp0 = sp := by simpa using hsp
        exact post_pure hbs1
      · exact ih (by simpa using hsp) _

theorem post_evalSubs (ht : e.t ≠ 0) (mapping : Option (List (List Nat))) (subs : List SubPoly) :
    Post (evalSubs e mapping subs) (fun o => ∀ sp, subs.getLast? = some sp →
      ∃ lv : Int, lv ≤ sp.level ∧ o.level = (if e.inv then lv else lv - 1) ∧
        o.scale = (if e.inv then sp.scale else divS e sp.scale (qAt e lv))) := by
  rcases hl : subs.getLast? with _ | sp
  · exact ⟨fun _ _ _ _ _ h => by cases h⟩
  unfold evalSubs
  apply post_bind (post_babySteps e mapping subs sp hl []); intro bs hbs
  apply post_bind (post_giantLoop_of e (fun fuel l => post_giantPass e ht _ _ fuel none l) _ bs hbs); intro fin ⟨d', v', rest, hfin, hs, hlv⟩
  apply post_mono (post_finish e fin)
  intro o ⟨d, v, hf, hsc, hlvl⟩ sp' hsp'
  obtain rfl : sp = sp' := Option.some.inj hsp'
  obtain ⟨⟨-, rfl⟩, rfl⟩ : (d' = d ∧ v' = v) ∧ rest = [] := by
    rw [hf] at hfin; simpa [eq_comm] using hfin
  exact ⟨v'.level, hlv, hlvl, by rw [hsc, hs]⟩

end machine

theorem run_out {e : Env} {polys : List (List Int)} {mapping : Option (List (List Nat))} {lazy : Bool}
    {L is ts : Nat} {x : List Int} {tr : List String} {o : Opd} {d : Nat} (ht : e.t ≠ 0)
    (hdeg : (polys.headD []).length - 1 = d) (hd : d ≠ 0) (hg : e.inv = true ∨ bitLen d ≤ L)
    (h : run e polys mapping lazy L is ts x = (tr, "ok", some o)) :
    ∃ subs res lv, recursePS e (simPowers e d L is) (2 * d + 8) (optimalSplit (bitLen d)) (L - simDepth e d)
        { coeffs := polys, maxDeg := d, lead := true } ts = some (subs, res) ∧ lv ≤ (L : Int) - simDepth e d ∧
      o.level = (if e.inv then lv else lv - 1) ∧
      o.scale = (if e.inv then res.scale else divS e res.scale (qAt e lv)) := by
  obtain ⟨st, hex⟩ := run_ok h
  rw [ex_evaluate e polys mapping lazy L is ts x hdeg hd hg] at hex
  unfold evaluateOn at hex
  rw [hdeg] at hex
  obtain ⟨_, s2, _, h3⟩ := ex_bind_ok hex
  cases hr : recursePS e (simPowers e d L is) (2 * d + 8) (optimalSplit (bitLen d)) (L - simDepth e d)
      { coeffs := polys, maxDeg := d, lead := true } ts with
  | none => rw [hr] at h3; simp at h3
  | some r =>
    rw [hr] at h3
    obtain ⟨sp, hlast, hssc, hslv⟩ := recursePS_last e _ _ _ _ _ _ r.1 r.2 hr
    obtain ⟨lv, hlv1, hlv2, hlv3⟩ := (post_evalSubs e ht mapping r.1).out s2 o st h3 sp hlast
    exact ⟨r.1, r.2, lv, rfl, hslv ▸ hlv1, hlv2, hssc ▸ hlv3⟩

theorem target_scale_of_level (e : Env) [hp : Fact e.t.Prime] (h64 : e.t < 2 ^ 64) (hinv : e.inv = false)
    (d : Nat) (hd1 : 1 ≤ d) (polys : List (List Int)) (hpl : (polys.headD []).length = d + 1)
    (mapping : Option (List (List Nat))) (lazy : Bool) (L : Nat) (hL : bitLen d ≤ L)
    (hq : ∀ l : Int, 0 ≤ l → l ≤ (L : Int) → UnitS e (qAt e l))
    (is : Nat) (his : UnitS e is) (ts : Nat) (hts : ts < e.t) (x : List Int) (tr : List String) (o : Opd)
    (hrun : run e polys mapping lazy L is ts x = (tr, "ok", some o))
    (hlev : o.level = (L : Int) - bitLen d) : o.scale = ts := by
  have ht : e.t ≠ 0 := t_ne_zero e
  have hdeg : (polys.headD []).length - 1 = d := by omega
  have hB1 := bitLen_pos d hd1
  obtain ⟨subs, res, lv, hr, hlv1, hlv2, hlv3⟩ := run_out ht hdeg (by omega) (Or.inr hL) hrun
  simp only [hinv, Bool.false_eq_true, if_false] at hlv2 hlv3
  have hsd : simDepth e d = bitLen d - 1 := by simp [simDepth, hinv, polynomialDepth]
  rw [hsd] at hr hlv1
  have hpb := simInv_simPowers e h64 hinv (L : Int) hq d hd1 is his (by exact_mod_cast hL)
  have hT0 : (0 : Int) ≤ (L : Int) - ((bitLen d - 1 : Nat) : Int) := by omega
  obtain ⟨hrl, hrs⟩ := recursePS_scale e h64 hinv (L : Int) hq _ hpb _ _ _ _ _ subs res
    (optimalSplit_pos _) hT0 (by simp only [SubPoly.degree, hdeg]; omega) hts hr
  have hlvT : lv = (L : Int) - ((bitLen d - 1 : Nat) : Int) := by omega
  rw [hlv3, hrs, hlvT]
  simp only [if_true]
  have huq : UnitS e (qAt e ((L : Int) - ((bitLen d - 1 : Nat) : Int))) := hq _ hT0 (by omega)
  -- the final `Rescale` undoes the factor of the leading sub-polynomial: `(ts · q) / q = ts` in `ZMod t`
  apply eq_of_cast_eq (divS_lt e _ _) hts
  rw [cast_divS e h64 _ _ huq, cast_mulS]
  have := UnitS.ne_zero e huq
  field_simp

section bfv
variable (e : Env) [hp : Fact e.t.Prime] (h64 : e.t < 2 ^ 64) (hinv : e.inv = true)
variable (L : Int) (hnq : UnitS e (negQ e L))

/-- scale-invariant mode: every simulated power sits at the input level `L` with a unit scale -/
def SimInvB (d : List (Nat × SimOpd)) : Prop :=
  ∀ n xp, d.find? (·.1 == n) = some xp → UnitS e xp.2.scale ∧ xp.2.level = L

include h64 hinv hnq in
theorem simInvB_simPowers (deg : Nat) (hdeg : 1 ≤ deg) (sc : Nat) (hsc : UnitS e sc) :
    SimInvB e L (simPowers e deg L sc) := by
  refine allP_simPowers e (P := fun _ o => UnitS e o.scale ∧ o.level = L) (G := fun _ => True)
    (fun _ _ _ => ⟨trivial, trivial⟩) ?_ deg hdeg (fun _ _ => trivial) L sc ⟨hsc, rfl⟩
  intro n oa ob _ _ ⟨hua, hla⟩ ⟨hub, hlb⟩
  simp only [simRescale, simMul, mulScale, hinv, if_true, hla, hlb, min_self]
  exact ⟨unit_divS e h64 _ _ (unit_mulS e _ _ hua hub) hnq, trivial⟩

include h64 hinv hnq in
theorem recursePS_scale_bfv (pb : List (Nat × SimOpd)) (hpb : SimInvB e L pb) (fuel : Nat) :
    ∀ (s : Nat) (p : SubPoly) (out : Nat) (subs : List SubPoly) (res : SimOpd), out < e.t →
      recursePS e pb fuel s L p out = some (subs, res) → res.level = L ∧ res.scale = out := by
  induction fuel with
  | zero => intro s p out subs res _ h; rw [recursePS] at h; cases h
  | succ fuel ih =>
    intro s p out subs res hout h
    rcases recursePS_some h with ⟨_, ⟨_, h⟩ | ⟨_, _, rfl⟩⟩ | ⟨_, xp, bq, rq, br, tmp, hx, hq', _, _, _, rfl⟩
    · exact ih _ p out subs res hout h
    · exact ⟨rfl, by simp [babyScale, hinv]⟩
    · obtain ⟨hux, hlx⟩ := hpb _ _ hx
      have hgl : giantLevelScale e p.lead L out xp.2.scale = (L, mulS e (divS e out xp.2.scale) (negQ e L)) := by
        simp [giantLevelScale, hinv]
      rw [hgl] at hq'
      obtain ⟨hlq, hsq⟩ := ih s _ _ bq rq (mulS_lt e _ _) hq'
      constructor
      · simp only [simMul, simRescale, hinv, if_true, hlq, hlx, min_self]
      · simp only [simMul, simRescale, mulScale, hinv, if_true, hlq, hlx, min_self, hsq]
        -- `(out/x · (−Q_L)) · x / (−Q_L) = out` in `ZMod t`
        apply eq_of_cast_eq (divS_lt e _ _) hout
        rw [cast_divS e h64 _ _ hnq, cast_mulS, cast_mulS, cast_divS e h64 _ _ hux]
        have := UnitS.ne_zero e hux
        have := UnitS.ne_zero e hnq
        field_simp

end bfv

theorem target_scale_bfv (e : Env) [hp : Fact e.t.Prime] (h64 : e.t < 2 ^ 64) (hinv : e.inv = true)
    (d : Nat) (hd1 : 1 ≤ d) (polys : List (List Int)) (hpl : (polys.headD []).length = d + 1)
    (mapping : Option (List (List Nat))) (lazy : Bool) (L : Nat)
    (hnq : UnitS e (negQ e (L : Int)))
    (is : Nat) (his : UnitS e is) (ts : Nat) (hts : ts < e.t) (x : List Int) (tr : List String) (o : Opd)
    (hrun : run e polys mapping lazy L is ts x = (tr, "ok", some o)) : o.scale = ts ∧ o.level ≤ (L : Int) := by
  have ht : e.t ≠ 0 := t_ne_zero e
  have hdeg : (polys.headD []).length - 1 = d := by omega
  obtain ⟨subs, res, lv, hr, hlv1, hlv2, hlv3⟩ := run_out ht hdeg (by omega) (Or.inl hinv) hrun
  simp only [hinv, if_true] at hlv2 hlv3
  have hsd : simDepth e d = 0 := by simp [simDepth, hinv]
  rw [hsd] at hr hlv1
  simp only [Nat.cast_zero, sub_zero] at hr hlv1
  have hpb := simInvB_simPowers e h64 hinv (L : Int) hnq d hd1 is his
  obtain ⟨hrl, hrs⟩ := recursePS_scale_bfv e h64 hinv (L : Int) hnq _ hpb _ _ _ _ subs res hts hr
  exact ⟨by rw [hlv3, hrs], by rw [hlv2]; exact hlv1⟩

end Lattigo.Model.PolyEval
