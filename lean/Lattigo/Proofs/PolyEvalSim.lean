/-
  C13 — the levels (and ciphertext degrees, and the control flow) of the machine do not depend on the
  plaintext modulus, the scales, the coefficient VALUES, the slot values, the mapping, and shift with
  the input level: a run of the level-only instance (`t = 0`) at input level `L0` is simulated by every
  run at input level `L0 + k`, `k ≥ 0`, on polynomials of the same length — which then succeeds with
  the same ciphertext degree and the level shifted by `k`, unless (`t ≠ 0` only) it stops on a scale
  check or on the bgv-only degree-0 check.
-/
import Lattigo.Proofs.PolyEvalRun

namespace Lattigo.Model.PolyEval

/-- related operands: the level shifted by `k`, the same ciphertext degree (scales and values are free) -/
structure RO (k : Int) (o o' : Opd) : Prop where
  lvl : o.level = o'.level + k
  deg : o.deg = o'.deg

/-- related power bases, POSITION by position (`Forall₂`): the same keys in the same order.  This holds, and is
    what `find?`/`filter` need, because the two machines do the same `setP`s in the same order. -/
def RPB (k : Int) (pb pb' : List (Nat × Opd)) : Prop :=
  List.Forall₂ (fun p p' => p.1 = p'.1 ∧ RO k p.2 p'.2) pb pb'

/-- related states: related power bases (the traces are free) -/
def RS (k : Int) (st st' : St) : Prop := RPB k st.pb st'.pb

/-- `Sim tz k Ra m m'`: whenever the abstract computation `m'` succeeds from a related state, the
    concrete one `m` succeeds with a related result and state — or, if `tz` (`t = 0`) does not hold,
    stops with an error -/
def Sim (tz : Prop) (k : Int) {α : Type} (Ra : α → α → Prop) (m m' : M α) : Prop :=
  ∀ st st', RS k st st' → ∀ a' s', ex m' st' = (.ok a', s') →
    (∃ a s, ex m st = (.ok a, s) ∧ Ra a a' ∧ RS k s s') ∨ (¬ tz ∧ ∃ e s, ex m st = (.error e, s))

variable {tz : Prop} {k : Int}

theorem sim_bind {α β : Type} {Ra : α → α → Prop} {Rb : β → β → Prop} {m m' : M α} {f f' : α → M β}
    (hm : Sim tz k Ra m m') (hf : ∀ a a', Ra a a' → Sim tz k Rb (f a) (f' a')) :
    Sim tz k Rb (m >>= f) (m' >>= f') := by
  intro st st' hst b' s2' hex
  rw [ex_bind] at hex
  cases hm' : ex m' st' with
  | mk r s1' =>
    rw [hm'] at hex
    cases r with
    | error e => simp at hex
    | ok a' =>
      simp only at hex
      rcases hm st st' hst a' s1' hm' with ⟨a, s1, h1, hra, hs1⟩ | ⟨hz, e, s, he⟩
      · rcases hf a a' hra s1 s1' hs1 b' s2' hex with ⟨b, s2, h2, hrb, hs2⟩ | ⟨hz, e, s, he⟩
        · left; exact ⟨b, s2, by rw [ex_bind, h1]; exact h2, hrb, hs2⟩
        · right; exact ⟨hz, e, s, by rw [ex_bind, h1]; exact he⟩
      · right; exact ⟨hz, e, s, by rw [ex_bind, he]⟩

theorem sim_pure {α : Type} {Ra : α → α → Prop} {a a' : α} (h : Ra a a') :
    Sim tz k Ra (pure a : M α) (pure a') := by
  intro st st' hst b' s' hex
  simp only [ex_pure, Prod.mk.injEq, Except.ok.injEq] at hex
  obtain ⟨rfl, rfl⟩ := hex
  left; exact ⟨a, st, rfl, h, hst⟩

/-- the abstract side never succeeds by throwing -/
theorem sim_throw {α : Type} {Ra : α → α → Prop} (m : M α) (e : String) : Sim tz k Ra m (throw e) := by
  intro st st' _ b' s' hex
  simp at hex

theorem sim_ite {α : Type} {Ra : α → α → Prop} {c c' : Prop} [Decidable c] [Decidable c'] (hc : c ↔ c')
    {a b a' b' : M α} (ha : c → Sim tz k Ra a a') (hb : ¬ c → Sim tz k Ra b b') :
    Sim tz k Ra (if c then a else b) (if c' then a' else b') := by
  by_cases h : c
  · rw [if_pos h, if_pos (hc.1 h)]; exact ha h
  · rw [if_neg h, if_neg (fun h' => h (hc.2 h'))]; exact hb h

theorem sim_log (s s' : String) : Sim tz k (fun _ _ => True) (log s) (log s') := by
  intro st st' hst b' s2 hex
  left
  exact ⟨(), _, rfl, trivial, by simp only [ex_log, Prod.mk.injEq] at hex; rw [← hex.2]; exact hst⟩

theorem forall₂_find {α β : Type} {R : Nat × α → Nat × β → Prop} (hR : ∀ p p', R p p' → p.1 = p'.1)
    {l : List (Nat × α)} {l' : List (Nat × β)} (h : List.Forall₂ R l l') (n : Nat) :
    Option.Rel R (l.find? (·.1 == n)) (l'.find? (·.1 == n)) := by
  induction h with
  | nil => exact Option.Rel.none
  | cons hp _ ih =>
    simp only [List.find?_cons]
    rw [← hR _ _ hp]
    split
    · exact Option.Rel.some hp
    · exact ih

theorem forall₂_filter {α β : Type} {R : Nat × α → Nat × β → Prop} (hR : ∀ p p', R p p' → p.1 = p'.1)
    {l : List (Nat × α)} {l' : List (Nat × β)} (h : List.Forall₂ R l l') (n : Nat) :
    List.Forall₂ R (l.filter (·.1 != n)) (l'.filter (·.1 != n)) := by
  induction h with
  | nil => exact List.Forall₂.nil
  | cons hp _ ih =>
    simp only [List.filter_cons]
    rw [← hR _ _ hp]
    split
    · exact List.Forall₂.cons hp ih
    · exact ih

theorem rpb_find {pb pb' : List (Nat × Opd)} (h : RPB k pb pb') (n : Nat) :
    Option.Rel (fun p p' => p.1 = p'.1 ∧ RO k p.2 p'.2) (pb.find? (·.1 == n)) (pb'.find? (·.1 == n)) :=
  forall₂_find (fun _ _ hp => hp.1) h n

theorem sim_getP (n : Nat) : Sim tz k (RO k) (getP n) (getP n) := by
  intro st st' hst o' s' hex
  have hrel := rpb_find hst n
  left
  rw [ex_getP] at hex ⊢
  generalize st.pb.find? (·.1 == n) = x at hrel ⊢
  generalize st'.pb.find? (·.1 == n) = x' at hrel hex
  cases hrel with
  | none => simp at hex
  | some hp =>
    simp only [Prod.mk.injEq, Except.ok.injEq] at hex
    exact ⟨_, st, rfl, hex.1 ▸ hp.2, hex.2 ▸ hst⟩

theorem sim_hasP (n : Nat) : Sim tz k (· = ·) (hasP n) (hasP n) := by
  intro st st' hst b' s' hex
  simp only [ex_hasP, Prod.mk.injEq, Except.ok.injEq] at hex
  have hrel := rpb_find hst n
  left
  refine ⟨_, st, rfl, ?_, by rw [← hex.2]; exact hst⟩
  rw [← hex.1]
  generalize st.pb.find? (·.1 == n) = x at hrel
  generalize st'.pb.find? (·.1 == n) = x' at hrel
  cases hrel <;> rfl

theorem sim_setP (n : Nat) {o o' : Opd} (h : RO k o o') : Sim tz k (fun _ _ => True) (setP n o) (setP n o') := by
  intro st st' hst b' s' hex
  simp only [ex_setP, Prod.mk.injEq] at hex
  left
  refine ⟨(), _, rfl, trivial, ?_⟩
  rw [← hex.2]
  exact List.Forall₂.cons ⟨rfl, h⟩ (forall₂_filter (fun _ _ hp => hp.1) hst n)

theorem sim_guard {α : Type} {Ra : α → α → Prop} {c c' : Prop} [Decidable c] [Decidable c'] (er er' : String)
    {m m' : M α} (hc : c → c' ∨ ¬ tz) (hm : Sim tz k Ra m m') :
    Sim tz k Ra (if c then throw er else m) (if c' then throw er' else m') := by
  intro st st' hst a' s' hex
  by_cases h' : c'
  · rw [if_pos h'] at hex; simp at hex
  · rw [if_neg h'] at hex
    by_cases h : c
    · rcases hc h with h1 | h1
      · exact absurd h1 h'
      · right; exact ⟨h1, er, st, by rw [if_pos h]; rfl⟩
    · rw [if_neg h]; exact hm st st' hst a' s' hex

/-- the abstract environment of `e`: the level-only instance with the same basis, mode and flags -/
def absEnv (e : Env) : Env := { e with t := 0, q := [], slots := 0, pflags := [] }

section ops
variable (e : Env) (hk : 0 ≤ k)
include hk

theorem sim_rescaleOp {o o' : Opd} (h : RO k o o') :
    Sim (e.t = 0) k (RO k) (rescaleOp e o) (rescaleOp (absEnv e) o') := by
  unfold rescaleOp
  apply sim_bind (sim_log _ _)
  intro _ _ _
  simp only [absEnv]
  apply sim_ite (Iff.rfl)
  · intro _; exact sim_pure h
  · intro _
    simp only [ExceptT.bind_throw]
    apply sim_guard
    · intro hc; left; have := h.lvl; omega
    · exact sim_pure ⟨by simp only; have := h.lvl; omega, h.deg⟩

omit hk in
theorem sim_relinOp {o o' : Opd} (h : RO k o o') :
    Sim (e.t = 0) k (RO k) (relinOp e o) (relinOp (absEnv e) o') := by
  unfold relinOp
  apply sim_bind (sim_log _ _)
  intro _ _ _
  exact sim_pure ⟨h.lvl, rfl⟩

omit hk in
theorem sim_mulOp (name : String) (relin : Bool) {a a' b b' : Opd} (ha : RO k a a') (hb : RO k b b') :
    Sim (e.t = 0) k (RO k) (mulOp e name relin a b) (mulOp (absEnv e) name relin a' b') := by
  unfold mulOp
  apply sim_bind (sim_log _ _)
  intro _ _ _
  simp only [absEnv, ExceptT.bind_throw]
  apply sim_guard
  · intro hc
    right
    intro ht
    simp [ht] at hc
  · apply sim_guard
    · intro hc; left; rw [← ha.deg, ← hb.deg]; exact hc
    · refine sim_pure ⟨?_, ?_⟩
      · simp only; rw [ha.lvl, hb.lvl]; omega
      · simp only; rw [ha.deg, hb.deg]

omit hk in
theorem sim_addCt (name : String) (sub : Bool) {a a' b b' : Opd} (ha : RO k a a') (hb : RO k b b') :
    Sim (e.t = 0) k (RO k) (addCt e name sub a b) (addCt (absEnv e) name sub a' b') := by
  unfold addCt
  apply sim_bind (sim_log _ _)
  intro _ _ _
  refine sim_pure ⟨?_, ?_⟩
  · simp only; rw [ha.lvl, hb.lvl]; omega
  · simp only; rw [ha.deg, hb.deg]

omit hk in
theorem sim_addConst {a a' : Opd} (c c' : List Int) (ha : RO k a a') :
    Sim (e.t = 0) k (RO k) (addConst e a c) (addConst (absEnv e) a' c') := by
  unfold addConst
  apply sim_bind (sim_log _ _)
  intro _ _ _
  exact sim_pure ⟨ha.lvl, ha.deg⟩

omit hk in
theorem sim_mulThenAddConst {x x' r r' : Opd} (c c' : List Int) (hx : RO k x x') (hr : RO k r r') :
    Sim (e.t = 0) k (RO k) (mulThenAddConst e x c r) (mulThenAddConst (absEnv e) x' c' r') := by
  unfold mulThenAddConst
  apply sim_bind (sim_log _ _)
  intro _ _ _
  refine sim_pure ⟨?_, ?_⟩
  · simp only; rw [hx.lvl, hr.lvl]; omega
  · simp only; rw [hx.deg, hr.deg]

end ops

section gen
variable (e : Env) (hk : 0 ≤ k)

theorem sim_relinIf2 (n : Nat) :
    Sim (e.t = 0) k (fun _ _ => True) (relinIf2 e n) (relinIf2 (absEnv e) n) := by
  unfold relinIf2
  apply sim_bind (sim_getP n); intro o o' ho
  apply sim_ite (by rw [ho.deg])
  · intro _; apply sim_bind (sim_relinOp e ho); intro o2 o2' h2; exact sim_setP n h2
  · intro _; exact sim_pure trivial

include hk in
theorem sim_rescaleIf (r : Bool) (n : Nat) :
    Sim (e.t = 0) k (fun _ _ => True) (rescaleIf e r n) (rescaleIf (absEnv e) r n) := by
  unfold rescaleIf
  apply sim_ite Iff.rfl
  · intro _
    apply sim_bind (sim_getP n); intro o o' ho
    apply sim_bind (sim_rescaleOp e hk ho); intro o2 o2' h2
    exact sim_setP n h2
  · intro _; exact sim_pure trivial

theorem sim_mulInto (name : String) (relin : Bool) (a b n : Nat) :
    Sim (e.t = 0) k (fun _ _ => True) (mulInto e name relin a b n) (mulInto (absEnv e) name relin a b n) := by
  unfold mulInto
  apply sim_bind (sim_getP a); intro oa oa' ha
  apply sim_bind (sim_getP b); intro ob ob' hb
  apply sim_bind (sim_mulOp e name relin ha hb); intro o o' ho
  exact sim_setP n ho

include hk in
theorem sim_genBody {top top' : Nat → Bool → M Unit} {rec rec' : Nat → Bool → M Bool}
    (hT : ∀ n lazy, Sim (e.t = 0) k (fun _ _ => True) (top n lazy) (top' n lazy))
    (hR : ∀ n lazy, Sim (e.t = 0) k (· = ·) (rec n lazy) (rec' n lazy)) (a b n : Nat) (p2 lazy : Bool) :
    Sim (e.t = 0) k (· = ·) (genBody e top rec a b n p2 lazy) (genBody (absEnv e) top' rec' a b n p2 lazy) := by
  unfold genBody
  apply sim_bind (hR _ _); intro rA rA' hA; subst hA
  apply sim_bind (hR _ _); intro rB rB' hB; subst hB
  apply sim_bind (Ra := fun _ _ => True)
  · apply sim_ite Iff.rfl
    · intro _
      apply sim_bind (sim_relinIf2 e _); intro _ _ _
      apply sim_bind (sim_relinIf2 e _); intro _ _ _
      apply sim_bind (sim_rescaleIf e hk _ _); intro _ _ _
      apply sim_bind (sim_rescaleIf e hk _ _); intro _ _ _
      exact sim_mulInto e _ _ _ _ _
    · intro _
      apply sim_bind (sim_rescaleIf e hk _ _); intro _ _ _
      apply sim_bind (sim_rescaleIf e hk _ _); intro _ _ _
      exact sim_mulInto e _ _ _ _ _
  · intro _ _ _
    apply sim_bind (Ra := fun _ _ => True)
    · simp only [absEnv]
      apply sim_ite Iff.rfl
      · intro _
        apply sim_bind (sim_getP n); intro o o' ho
        apply sim_bind (sim_addCt e _ _ ho ho); intro o2 o2' h2
        apply sim_bind (sim_setP n h2); intro _ _ _
        apply sim_ite Iff.rfl
        · intro _
          apply sim_bind (sim_getP n); intro o3 o3' h3
          apply sim_bind (sim_log _ _); intro _ _ _
          exact sim_setP n ⟨h3.lvl, h3.deg⟩
        · intro _
          apply sim_bind (hT _ _); intro _ _ _
          apply sim_bind (sim_getP n); intro on on' hn
          apply sim_bind (sim_getP _); intro oc oc' hc
          apply sim_bind (sim_addCt e _ _ hn hc); intro o3 o3' h3
          exact sim_setP n h3
      · intro _; exact sim_pure trivial
    · intro _ _ _; exact sim_pure rfl

include hk in
theorem sim_genPower : ∀ fuel,
    (∀ n lazy, Sim (e.t = 0) k (fun _ _ => True) (genPowerTop e fuel n lazy) (genPowerTop (absEnv e) fuel n lazy)) ∧
    (∀ n lazy, Sim (e.t = 0) k (· = ·) (genPowerRec e fuel n lazy) (genPowerRec (absEnv e) fuel n lazy)) := by
  intro fuel
  induction fuel with
  | zero =>
    constructor
    · intro n lazy; rw [genPowerTop.eq_1 (absEnv e)]; exact sim_throw _ _
    · intro n lazy; rw [genPowerRec.eq_1 (absEnv e)]; exact sim_throw _ _
  | succ fuel ih =>
    obtain ⟨ihT, ihR⟩ := ih
    constructor
    · intro n lazy
      rw [genPowerTop, genPowerTop]
      apply sim_bind (sim_hasP n); intro c c' hc; subst hc
      apply sim_ite Iff.rfl
      · intro _; exact sim_pure trivial
      · intro _
        apply sim_bind (ihR n lazy); intro r r' hr; subst hr
        exact sim_rescaleIf e hk r n
    · intro n lazy
      rw [genPowerRec_succ, genPowerRec_succ]
      apply sim_bind (sim_hasP n); intro c c' hc; subst hc
      apply sim_ite Iff.rfl
      · intro _; exact sim_pure rfl
      · intro _
        apply sim_ite Iff.rfl
        · intro _; exact sim_throw _ _
        · intro _; exact sim_genBody e hk ihT ihR _ _ _ _ _

end gen

theorem sim_foldlM₂ {β ι ι' : Type} {Rb : β → β → Prop} {Ri : ι → ι' → Prop}
    (f : β → ι → M β) (f' : β → ι' → M β)
    (hf : ∀ b b' i i', Rb b b' → Ri i i' → Sim tz k Rb (f b i) (f' b' i'))
    {l : List ι} {l' : List ι'} (hl : List.Forall₂ Ri l l') :
    ∀ b b', Rb b b' → Sim tz k Rb (l.foldlM f b) (l'.foldlM f' b') := by
  induction hl with
  | nil => intro b b' hb; simp only [List.foldlM_nil]; exact sim_pure hb
  | cons hi _ ih =>
    intro b b' hb
    simp only [List.foldlM_cons]
    exact sim_bind (hf _ _ _ _ hb hi) (fun c c' hc => ih c c' hc)

theorem sim_forM {ι : Type} (f f' : ι → M Unit)
    (hf : ∀ i, Sim tz k (fun _ _ => True) (f i) (f' i)) (l : List ι) :
    Sim tz k (fun _ _ => True) (l.forM f) (l.forM f') := by
  induction l with
  | nil => exact sim_pure (a := ()) (a' := ()) trivial
  | cons i l ih =>
    change Sim tz k _ (f i >>= fun _ => l.forM f) (f' i >>= fun _ => l.forM f')
    exact sim_bind (hf i) (fun _ _ _ => ih)

theorem sim_get : Sim tz k (RS k) (get : M St) get := by
  intro st st' hst a' s' hex
  simp only [ex_get, Prod.mk.injEq, Except.ok.injEq] at hex
  left; exact ⟨st, st, rfl, by rw [← hex.1]; exact hst, by rw [← hex.2]; exact hst⟩

theorem rpb_maxCtDeg {pb pb' : List (Nat × Opd)} (h : RPB k pb pb') (deg : Nat) :
    maxCtDeg pb deg = maxCtDeg pb' deg := by
  unfold maxCtDeg
  congr 1
  funext acc i
  split
  · rfl
  · have hrel := rpb_find h i
    generalize pb.find? (·.1 == i) = x at hrel
    generalize pb'.find? (·.1 == i) = x' at hrel
    cases hrel with
    | none => rfl
    | some hp => simp only; rw [hp.2.deg]

/-- sub-polynomials related: same number of coefficients (so: same degree), same bookkeeping -/
structure RSub (p p' : SubPoly) : Prop where
  ne : p.coeffs ≠ []
  ne' : p'.coeffs ≠ []
  len : (p.coeffs.headD []).length = (p'.coeffs.headD []).length
  maxDeg : p.maxDeg = p'.maxDeg
  lead : p.lead = p'.lead

theorem RSub.degree {p p' : SubPoly} (h : RSub p p') : p.degree = p'.degree := by
  unfold SubPoly.degree; rw [h.len]

section steps
variable (e : Env) (hk : 0 ≤ k)

theorem sim_evalFromPowerBasis (mapping mapping' : Option (List (List Nat))) {T T' : Int} (hT : T = T' + k)
    {p p' : SubPoly} (hp : RSub p p') (sc sc' : Nat) :
    Sim (e.t = 0) k (RO k) (evalFromPowerBasis e mapping T p sc) (evalFromPowerBasis (absEnv e) mapping' T' p' sc') := by
  unfold evalFromPowerBasis
  simp only [absEnv, ← hp.degree, ← hp.len]
  apply sim_bind sim_get; intro st st' hst
  apply sim_ite Iff.rfl
  · intro _
    apply sim_ite Iff.rfl
    · intro _; exact sim_addConst e _ _ ⟨hT, rfl⟩
    · intro _; exact sim_pure ⟨hT, rfl⟩
  · intro _
    apply sim_bind (Ra := RO k)
    · apply sim_ite Iff.rfl
      · intro _; exact sim_addConst e _ _ ⟨hT, rpb_maxCtDeg hst _⟩
      · intro _; exact sim_pure ⟨hT, rpb_maxCtDeg hst _⟩
    · intro r r' hr
      apply sim_foldlM₂ (Ri := (· = ·)) _ _ _ (List.forall₂_same.2 fun _ _ => rfl) r r' hr
      intro b b' i _ hb hi
      subst hi
      apply sim_ite Iff.rfl
      · intro _
        apply sim_bind (sim_getP _); intro x x' hx
        exact sim_mulThenAddConst e _ _ hx hb
      · intro _; exact sim_pure hb

include hk in
theorem sim_evalMonomial {a a' b b' x x' : Opd} (ha : RO k a a') (hb : RO k b b') (hx : RO k x x') :
    Sim (e.t = 0) k (RO k) (evalMonomial e a b x) (evalMonomial (absEnv e) a' b' x') := by
  unfold evalMonomial
  apply sim_bind (Ra := RO k)
  · apply sim_ite (by rw [hb.deg])
    · intro _; exact sim_relinOp e hb
    · intro _; exact sim_pure hb
  · intro b1 b1' h1
    apply sim_bind (sim_rescaleOp e hk h1); intro b2 b2' h2
    apply sim_bind (sim_mulOp e _ _ h2 hx); intro b3 b3' h3
    -- the scale check is only taken for `t ≠ 0`
    apply sim_guard
    · intro hc; right; intro ht; simp [ht] at hc
    · exact sim_addCt e _ _ h3 ha

include hk in
theorem sim_giantPass (fuel : Nat) : ∀ (prev : Option Nat) (l l' : List (Nat × Opd)), RPB k l l' →
    Sim (e.t = 0) k (RPB k) (giantPass e fuel prev l) (giantPass (absEnv e) fuel prev l') := by
  induction fuel with
  | zero =>
    intro prev l l' hl
    rw [giantPass, giantPass]; exact sim_pure hl
  | succ fuel ih =>
    intro prev l l' hl
    match l, l', hl with
    | [], [], _ => simp only [giantPass]; exact sim_pure List.Forall₂.nil
    | [(d0, v0)], [(_, v0')], .cons ⟨rfl, hv⟩ .nil =>
      simp only [giantPass]
      exact sim_pure (List.Forall₂.cons ⟨rfl, hv⟩ List.Forall₂.nil)
    | (d0, v0) :: (d1, v1) :: rest, (_, v0') :: (_, v1') :: rest', .cons ⟨rfl, hv⟩ (.cons ⟨rfl, hv1⟩ hrest) =>
      rw [giantPass, giantPass]
      apply sim_ite Iff.rfl
      · intro _
        simp only []
        apply sim_bind (sim_getP _); intro xp xp' hxp
        apply sim_bind (sim_evalMonomial e hk hv hv1 hxp); intro b b' hb
        apply sim_bind (ih _ _ _ hrest); intro t t' ht
        exact sim_pure (List.Forall₂.cons ⟨rfl, hb⟩ ht)
      · intro _
        apply sim_bind (ih (some d0) ((d1, v1) :: rest) ((d1, v1') :: rest')
          (List.Forall₂.cons ⟨rfl, hv1⟩ hrest)); intro t t' ht
        exact sim_pure (List.Forall₂.cons ⟨rfl, hv⟩ ht)

include hk in
theorem sim_giantLoop (fuel : Nat) : ∀ (l l' : List (Nat × Opd)), RPB k l l' →
    Sim (e.t = 0) k (RPB k) (giantLoop e fuel l) (giantLoop (absEnv e) fuel l') := by
  induction fuel with
  | zero => intro l l' hl; rw [giantLoop, giantLoop]; exact sim_pure hl
  | succ fuel ih =>
    intro l l' hl
    rw [giantLoop, giantLoop]
    have hlen : l.length = l'.length := List.Forall₂.length_eq hl
    apply sim_ite (by rw [hlen])
    · intro _; exact sim_pure hl
    · intro _
      rw [hlen]
      apply sim_bind (sim_giantPass e hk _ _ _ _ hl); intro l2 l2' h2
      exact ih _ _ h2

include hk in
theorem sim_finish {l l' : List (Nat × Opd)} (hl : RPB k l l') :
    Sim (e.t = 0) k (RO k) (finish e l) (finish (absEnv e) l') := by
  match l, l', hl with
  | [], [], _ => unfold finish; exact sim_throw _ _
  | [(d, v)], [(_, v')], .cons ⟨_, hv⟩ .nil =>
    unfold finish
    simp only
    apply sim_bind (Ra := RO k)
    · apply sim_ite (by rw [hv.deg])
      · intro _; exact sim_relinOp e hv
      · intro _; exact sim_pure hv
    · intro v1 v1' h1; exact sim_rescaleOp e hk h1
  | _ :: _ :: _, _ :: _ :: _, _ => unfold finish; exact sim_throw _ _

end steps

/-! ## the simulated evaluation (pure): same keys, same decomposition, levels shifted -/

theorem factorizeF_fst_length {R : Type} (O : ValOps R) (cheb odd even : Bool) (n : Nat) (p : List R) :
    (factorizeF O cheb odd even n p).1.length = p.length - n := by
  have hdrop : (p.drop n).length = p.length - n := List.length_drop
  unfold factorizeF factorize
  by_cases h : (odd == even) = true
  · simp only [h, if_true]
    cases cheb
    · simp [hdrop]
    · simp only [Bool.not_true, Bool.false_eq_true, if_false]
      cases hh : p.drop n with
      | nil => rw [hh] at hdrop; simpa using hdrop
      | cons c cs => rw [hh] at hdrop; simpa using hdrop
  · simp only [h]
    cases hh : p.drop n with
    | nil => rw [hh] at hdrop; simpa using hdrop
    | cons c cs => rw [hh] at hdrop; simpa using hdrop

theorem factorizeF_snd_length {R : Type} (O : ValOps R) (cheb odd even : Bool) (n : Nat) (p : List R) :
    (factorizeF O cheb odd even n p).2.length = if cheb then n else min n p.length := by
  unfold factorizeF factorize
  by_cases h : (odd == even) = true
  · simp only [h, if_true]
    cases cheb <;> simp
  · simp only [h]
    cases cheb <;> simp

theorem headD_map_ne {α β : Type} (f : α → β) (l : List α) (a : α) (b : β) (h : l ≠ []) :
    (l.map f).headD b = f (l.headD a) := by
  cases l with
  | nil => exact absurd rfl h
  | cons x xs => rfl

theorem headD_mapIdx_ne {α β : Type} (f : Nat → α → β) (l : List α) (a : α) (b : β) (h : l ≠ []) :
    (l.mapIdx f).headD b = f 0 (l.headD a) := by
  cases l with
  | nil => exact absurd rfl h
  | cons x xs => simp [List.mapIdx_cons]

theorem rsub_factorize (e : Env) {p p' : SubPoly} (h : RSub p p') (n : Nat) :
    RSub (p.factorize e n).1 (p'.factorize (absEnv e) n).1 ∧
    RSub (p.factorize e n).2 (p'.factorize (absEnv e) n).2 ∧
    (p.factorize e n).2.lead = false := by
  have hd := h.degree
  simp only [SubPoly.factorize]
  refine ⟨⟨List.mapIdx_ne_nil_iff.2 h.ne, List.mapIdx_ne_nil_iff.2 h.ne', ?_, h.maxDeg, h.lead⟩,
    ⟨List.mapIdx_ne_nil_iff.2 h.ne, List.mapIdx_ne_nil_iff.2 h.ne', ?_, ?_, rfl⟩, trivial⟩
  · simp only []
    rw [headD_mapIdx_ne _ _ [] [] h.ne, headD_mapIdx_ne _ _ [] [] h.ne', factorizeF_fst_length, factorizeF_fst_length, h.len]
  · simp only []
    rw [headD_mapIdx_ne _ _ [] [] h.ne, headD_mapIdx_ne _ _ [] [] h.ne', factorizeF_snd_length, factorizeF_snd_length, h.len]
    rfl
  · simp only []; rw [h.maxDeg, hd]

/-- simulated bases with the same keys, position by position like `RPB` (levels and scales are free): all that
    `recursePS` asks of its basis is which powers it holds -/
def RK (d d' : List (Nat × SimOpd)) : Prop := List.Forall₂ (fun p p' => p.1 = p'.1) d d'

theorem rk_find {d d' : List (Nat × SimOpd)} (h : RK d d') (n : Nat) :
    Option.Rel (fun p p' => p.1 = p'.1) (d.find? (·.1 == n)) (d'.find? (·.1 == n)) :=
  forall₂_find (fun _ _ hp => hp) h n

theorem rk_simGenPower (e e' : Env) (fuel : Nat) : ∀ (n : Nat) (d d' : List (Nat × SimOpd)),
    RK d d' → RK (simGenPower e fuel n d) (simGenPower e' fuel n d') := by
  induction fuel with
  | zero => intro n d d' h; rw [simGenPower, simGenPower]; exact h
  | succ fuel ih =>
    intro n d d' h
    rw [simGenPower, simGenPower]
    by_cases h2 : n < 2
    · rw [if_pos h2, if_pos h2]; exact h
    rw [if_neg h2, if_neg h2]
    simp only []
    have h2 := ih (splitDegree n).2 _ _ (ih (splitDegree n).1 d d' h)
    have ha := rk_find h2 (splitDegree n).1
    have hb := rk_find h2 (splitDegree n).2
    generalize simGenPower e fuel (splitDegree n).2 (simGenPower e fuel (splitDegree n).1 d) = D at *
    generalize simGenPower e' fuel (splitDegree n).2 (simGenPower e' fuel (splitDegree n).1 d') = D' at *
    generalize D.find? (·.1 == (splitDegree n).1) = fa at ha
    generalize D'.find? (·.1 == (splitDegree n).1) = fa' at ha
    generalize D.find? (·.1 == (splitDegree n).2) = fb at hb
    generalize D'.find? (·.1 == (splitDegree n).2) = fb' at hb
    cases ha with
    | none => exact h2
    | some _ =>
      cases hb with
      | none => exact h2
      | some _ => exact List.Forall₂.cons rfl (forall₂_filter (fun _ _ hp => hp) h2 n)

theorem simPowers_rel (e e' : Env) (deg : Nat) (L L' : Int) (sc sc' : Nat)
    {Rel : List (Nat × SimOpd) → List (Nat × SimOpd) → Prop}
    (h0 : Rel (simGenPower e (2 * deg + 8) (2 ^ bitLen deg) [(1, { level := L, scale := sc })])
      (simGenPower e' (2 * deg + 8) (2 ^ bitLen deg) [(1, { level := L', scale := sc' })]))
    (hstep : ∀ n d d', n < 2 ^ optimalSplit (bitLen deg) → Rel d d' →
      Rel (simGenPower e (2 * deg + 8) n d) (simGenPower e' (2 * deg + 8) n d')) :
    Rel (simPowers e deg L sc) (simPowers e' deg L' sc') := by
  unfold simPowers
  simp only []
  generalize simGenPower e (2 * deg + 8) (2 ^ bitLen deg) [(1, { level := L, scale := sc })] = D at h0
  generalize simGenPower e' (2 * deg + 8) (2 ^ bitLen deg) [(1, { level := L', scale := sc' })] = D' at h0
  induction List.range (2 ^ optimalSplit (bitLen deg)) generalizing D D' with
  | nil => exact h0
  | cons i l ih =>
    simp only [List.foldl_cons]
    apply ih
    split
    · exact hstep _ _ _ (by omega) h0
    · exact h0

theorem rk_simPowers (e e' : Env) (deg : Nat) (L L' : Int) (sc sc' : Nat) :
    RK (simPowers e deg L sc) (simPowers e' deg L' sc') :=
  simPowers_rel e e' deg L L' sc sc' (rk_simGenPower e e' _ _ _ _ (List.Forall₂.cons rfl List.Forall₂.nil))
    fun n d d' _ h => rk_simGenPower e e' _ n d d' h

theorem mulScale_t0 (e : Env) (ht : e.t = 0) (a b : Nat) (l : Int) : mulScale e a b l = 0 := by
  unfold mulScale mulS divS; simp [ht]

/-- the three ways `recursePS` succeeds: a baby step re-split with the optimal split of its own degree; a baby
    step; a giant step, whose quotient and remainder succeed and pass the scale check -/
theorem recursePS_some {e : Env} {pb : List (Nat × SimOpd)} {fuel s : Nat} {T : Int} {p : SubPoly} {out : Nat}
    {subs : List SubPoly} {res : SimOpd} (h : recursePS e pb (fuel + 1) s T p out = some (subs, res)) :
    (p.degree < 2 ^ s ∧
      (((p.lead && decide (s > 1) && decide (p.maxDeg > 2 ^ bitLen p.maxDeg - 2 ^ (s - 1))) = true ∧
        recursePS e pb fuel (optimalSplit (bitLen p.degree)) T p out = some (subs, res)) ∨
       (¬ (p.lead && decide (s > 1) && decide (p.maxDeg > 2 ^ bitLen p.maxDeg - 2 ^ (s - 1))) = true ∧
        subs = [{ p with level := T, scale := babyScale e p.lead T out }] ∧
        res = { level := T, scale := babyScale e p.lead T out }))) ∨
    (¬ p.degree < 2 ^ s ∧ ∃ xp bq rq br tmp,
      pb.find? (·.1 == nextPower s p.degree) = some xp ∧
      recursePS e pb fuel s (giantLevelScale e p.lead T out xp.2.scale).1 (p.factorize e (nextPower s p.degree)).1
        (giantLevelScale e p.lead T out xp.2.scale).2 = some (bq, rq) ∧
      recursePS e pb fuel s T (p.factorize e (nextPower s p.degree)).2
        (simMul e (simRescale e rq) xp.2).scale = some (br, tmp) ∧
      tmp.scale = (simMul e (simRescale e rq) xp.2).scale ∧
      subs = bq ++ br ∧ res = simMul e (simRescale e rq) xp.2) := by
  rw [recursePS] at h
  split at h
  · rename_i hb
    refine Or.inl ⟨hb, ?_⟩
    split at h
    · rename_i hc
      exact Or.inl ⟨hc, h⟩
    · rename_i hc
      simp only [Option.some.injEq, Prod.mk.injEq] at h
      exact Or.inr ⟨hc, h.1.symm, h.2.symm⟩
  · rename_i hb
    refine Or.inr ⟨hb, ?_⟩
    simp only [] at h
    split at h
    · cases h
    · rename_i xp hx
      split at h
      · cases h
      · rename_i bq rq hq'
        split at h
        · cases h
        · rename_i br tmp hr'
          split at h
          · cases h
          · rename_i hchk
            simp only [Option.some.injEq, Prod.mk.injEq] at h
            exact ⟨_, bq, rq, br, tmp, hx, hq', hr', by simpa using hchk, h.1.symm, h.2.symm⟩

/-- level-only instance: a non-leading sub-polynomial comes back with the scale it was given, or 0 -/
theorem recursePS_t0_scale (e : Env) (ht : e.t = 0) (pb : List (Nat × SimOpd)) (fuel : Nat) :
    ∀ (s : Nat) (T : Int) (p : SubPoly) (out : Nat) (subs : List SubPoly) (res : SimOpd),
      p.lead = false → recursePS e pb fuel s T p out = some (subs, res) → res.scale = out ∨ res.scale = 0 := by
  induction fuel with
  | zero => intro s T p out subs res _ h; rw [recursePS] at h; cases h
  | succ fuel ih =>
    intro s T p out subs res hl h
    rcases recursePS_some h with ⟨_, ⟨_, h⟩ | ⟨_, _, rfl⟩⟩ | ⟨_, xp, bq, rq, br, tmp, _, _, _, _, _, rfl⟩
    · exact ih _ T p out subs res hl h
    · left; simp [babyScale, hl]
    · right; exact mulScale_t0 e ht _ _ _

/-- level-only instance: the scale check of a giant step cannot fail -/
theorem recursePS_t0_check (e : Env) (ht : e.t = 0) {pb : List (Nat × SimOpd)} {fuel s : Nat} {T : Int} {p : SubPoly}
    {r x : SimOpd} {br : List SubPoly} {tmp : SimOpd} (hl : p.lead = false)
    (h : recursePS e pb fuel s T p (simMul e (simRescale e r) x).scale = some (br, tmp)) :
    ¬ (tmp.scale != (simMul e (simRescale e r) x).scale) = true := by
  have h0 : (simMul e (simRescale e r) x).scale = 0 := mulScale_t0 e ht _ _ _
  rcases recursePS_t0_scale e ht pb fuel s T _ _ br tmp hl h with h1 | h1
  · rw [h1]; simp
  · rw [h1, h0]; simp

section sim
variable (e : Env)

theorem rel_recursePS (spb spb' : List (Nat × SimOpd)) (hK : RK spb spb') (fuel : Nat) :
    ∀ (s : Nat) (T T' : Int) (p p' : SubPoly) (out out' : Nat), T = T' + k → RSub p p' →
      ∀ subs' res', recursePS (absEnv e) spb' fuel s T' p' out' = some (subs', res') →
        (∃ subs res, recursePS e spb fuel s T p out = some (subs, res) ∧
          List.Forall₂ (fun q q' => RSub q q' ∧ q.level = q'.level + k) subs subs') ∨
        (¬ e.t = 0 ∧ recursePS e spb fuel s T p out = none) := by
  induction fuel with
  | zero => intro s T T' p p' out out' _ _ subs' res' h; rw [recursePS] at h; cases h
  | succ fuel ih =>
    intro s T T' p p' out out' hT hp subs' res' h
    have hd := hp.degree
    rw [recursePS]
    rcases recursePS_some h with ⟨hb, ⟨hc, h⟩ | ⟨hc, rfl, rfl⟩⟩ |
      ⟨hb, xp', bq', rq', br', tmp', hx', hq', hr', _, rfl, rfl⟩
    · rw [← hd] at hb h
      rw [← hp.lead, ← hp.maxDeg] at hc
      rw [if_pos hb, if_pos hc]
      exact ih _ T T' p p' out out' hT hp subs' res' h
    · rw [← hd] at hb
      rw [← hp.lead, ← hp.maxDeg] at hc
      rw [if_pos hb, if_neg hc]
      left
      exact ⟨_, _, rfl, List.Forall₂.cons ⟨⟨hp.ne, hp.ne', hp.len, hp.maxDeg, hp.lead⟩, hT⟩ List.Forall₂.nil⟩
    · rw [← hd] at hb hx' hq' hr'
      rw [← hp.lead] at hq'
      rw [if_neg hb]
      simp only []
      have hf := rk_find hK (nextPower s p.degree)
      rw [hx'] at hf
      cases hx : spb.find? (·.1 == nextPower s p.degree) with
      | none => rw [hx] at hf; cases hf
      | some xp =>
        simp only []
        obtain ⟨hq, hr, hrl⟩ := rsub_factorize e hp (nextPower s p.degree)
        have hT1 : (giantLevelScale e p.lead T out xp.2.scale).1
            = (giantLevelScale (absEnv e) p.lead T' out' xp'.2.scale).1 + k := by
          unfold giantLevelScale
          simp only [absEnv]
          by_cases hi : e.inv = true
          · simp only [hi, if_true]; exact hT
          · simp only [hi, Bool.false_eq_true, if_false]; omega
        rcases ih s _ _ _ _ (giantLevelScale e p.lead T out xp.2.scale).2 _ hT1 hq bq' rq' hq' with
          ⟨bq, res, hcq, hfq⟩ | ⟨hz, hcq⟩
        · rw [hcq]
          simp only []
          rcases ih s T T' _ _ (simMul e (simRescale e res) xp.2).scale _ hT hr br' tmp' hr' with
            ⟨br, tmp, hcr, hfr⟩ | ⟨hz, hcr⟩
          · rw [hcr]
            simp only []
            by_cases hchk : (tmp.scale != (simMul e (simRescale e res) xp.2).scale) = true
            · rw [if_pos hchk]
              right
              refine ⟨?_, rfl⟩
              exact fun ht => recursePS_t0_check e ht hrl hcr hchk
            · rw [if_neg hchk]
              left
              exact ⟨_, _, rfl, List.rel_append hfq hfr⟩
          · right; rw [hcr]; exact ⟨hz, rfl⟩
        · right; rw [hcq]; exact ⟨hz, rfl⟩

end sim

/-- `evaluateFrom` past its guards, on a given simulated basis -/
def evaluateOn (env : Env) (polys : List (List Int)) (mapping : Option (List (List Nat)))
    (lazy : Bool) (targetScale : Nat) (T : Int) (spb : List (Nat × SimOpd)) : M Opd := do
  let deg := (polys.headD []).length - 1
  genPowers env deg lazy
  match recursePS env spb (2 * deg + 8) (optimalSplit (bitLen deg)) T
      { coeffs := polys, maxDeg := deg, lead := true } targetScale with
  | none => throw "panic"
  | some r => evalSubs env mapping r.1

theorem ex_evaluate (e : Env) (polys : List (List Int)) (mapping : Option (List (List Nat))) (lazy : Bool)
    (L is ts : Nat) (x : List Int) {d : Nat} (hdeg : (polys.headD []).length - 1 = d) (hd : d ≠ 0)
    (hg : e.inv = true ∨ bitLen d ≤ L) :
    ex (evaluate e polys mapping lazy L is ts x) {} =
      ex (evaluateOn e polys mapping lazy ts (L - simDepth e d) (simPowers e d L is))
        { pb := [(1, { level := L, scale := is, deg := 1, val := x })] } := by
  subst hdeg
  have hg' : ¬ ((!e.inv && decide ((L : Int) < bitLen ((polys.headD []).length - 1))) = true) := by
    rcases hg with h | h
    · rw [h]; exact Bool.false_ne_true
    · simp only [Bool.and_eq_true, decide_eq_true_eq, not_and]; intro _; omega
  unfold evaluate evaluateFrom
  rw [ex_bind, ex_setP]
  dsimp only []
  rw [ex_bind, ex_getP]
  simp only [List.filter_nil, List.find?_cons, beq_self_eq_true]
  rw [if_neg hd, if_neg hg']
  rfl

section top
variable (e : Env) (hk : 0 ≤ k)
include hk

theorem sim_genPowers (deg : Nat) (lazy : Bool) :
    Sim (e.t = 0) k (fun _ _ => True) (genPowers e deg lazy) (genPowers (absEnv e) deg lazy) := by
  have hT := fun n lz => (sim_genPower e hk (2 * deg + 8)).1 n lz
  unfold genPowers
  simp only [absEnv]
  apply sim_bind (Ra := fun _ _ => True)
  · apply sim_forM
    intro i
    exact hT _ _
  intro _ _ _
  apply sim_forM
  intro i
  apply sim_ite Iff.rfl
  · intro _; exact hT _ _
  · intro _; exact sim_pure trivial

theorem sim_evalSubs (mapping mapping' : Option (List (List Nat))) {subs subs' : List SubPoly}
    (h : List.Forall₂ (fun q q' => RSub q q' ∧ q.level = q'.level + k) subs subs') :
    Sim (e.t = 0) k (RO k) (evalSubs e mapping subs) (evalSubs (absEnv e) mapping' subs') := by
  unfold evalSubs
  apply sim_bind (Ra := RPB k)
  · apply sim_foldlM₂ _ _ _ h [] [] List.Forall₂.nil
    intro bs bs' sp sp' hbs hsp
    apply sim_bind (sim_evalFromPowerBasis e mapping mapping' hsp.2 hsp.1 _ _); intro v v' hv
    exact sim_pure (List.Forall₂.cons ⟨hsp.1.degree, hv⟩ hbs)
  · intro bs bs' hbs
    rw [List.Forall₂.length_eq h]
    apply sim_bind (sim_giantLoop e hk _ _ _ hbs); intro fin fin' hfin
    exact sim_finish e hk hfin

theorem sim_evaluateOn (polys polys' : List (List Int)) (hne : polys ≠ []) (hne' : polys' ≠ [])
    (hlen : (polys.headD []).length = (polys'.headD []).length)
    (mapping mapping' : Option (List (List Nat))) (lazy : Bool) (ts ts' : Nat)
    {T T' : Int} (hT : T = T' + k) {spb spb' : List (Nat × SimOpd)} (hK : RK spb spb') :
    Sim (e.t = 0) k (RO k) (evaluateOn e polys mapping lazy ts T spb)
      (evaluateOn (absEnv e) polys' mapping' lazy ts' T' spb') := by
  unfold evaluateOn
  simp only [← hlen]
  apply sim_bind (sim_genPowers e hk _ lazy)
  intro _ _ _ st st' hst o' s' hex
  have hsub : RSub { coeffs := polys, maxDeg := (polys.headD []).length - 1, lead := true }
      { coeffs := polys', maxDeg := (polys.headD []).length - 1, lead := true } := ⟨hne, hne', hlen, rfl, rfl⟩
  cases hr' : recursePS (absEnv e) spb' (2 * ((polys.headD []).length - 1) + 8)
      (optimalSplit (bitLen ((polys.headD []).length - 1))) T'
      { coeffs := polys', maxDeg := (polys.headD []).length - 1, lead := true } ts' with
  | none => rw [hr'] at hex; simp at hex
  | some r' =>
    rw [hr'] at hex
    simp only [] at hex
    rcases rel_recursePS e _ _ hK _ _ _ _ _ _ ts ts' hT hsub r'.1 r'.2 hr' with ⟨subs, res, hc, hf⟩ | ⟨hz, hc⟩
    · rw [hc]
      exact sim_evalSubs e hk mapping mapping' hf st st' hst o' s' hex
    · right
      rw [hc]
      exact ⟨hz, "panic", st, rfl⟩

theorem sim_evaluateFrom (polys polys' : List (List Int)) (hne : polys ≠ []) (hne' : polys' ≠ [])
    (hlen : (polys.headD []).length = (polys'.headD []).length)
    (mapping mapping' : Option (List (List Nat))) (lazy : Bool) (ts ts' : Nat) :
    Sim (e.t = 0) k (RO k) (evaluateFrom e polys mapping lazy ts) (evaluateFrom (absEnv e) polys' mapping' lazy ts') := by
  unfold evaluateFrom
  simp only [← hlen]
  apply sim_bind (sim_getP 1); intro x1 x1' hx
  apply sim_ite Iff.rfl
  · intro _
    exact sim_evalFromPowerBasis e mapping mapping' hx.lvl
      (p := { coeffs := polys, maxDeg := 0, lead := true }) (p' := { coeffs := polys', maxDeg := 0, lead := true })
      ⟨hne, hne', hlen, rfl, rfl⟩ _ _
  · intro hd
    apply sim_guard
    · intro hc; left
      simp only [absEnv, Bool.and_eq_true, Bool.not_eq_eq_eq_not, Bool.not_true, decide_eq_true_eq] at hc ⊢
      refine ⟨hc.1, ?_⟩
      have := hx.lvl; omega
    · have hT : x1.level - (simDepth e ((polys.headD []).length - 1) : Int)
          = (x1'.level - (simDepth (absEnv e) ((polys.headD []).length - 1) : Int)) + k := by
        have := hx.lvl
        have hsd : simDepth (absEnv e) ((polys.headD []).length - 1) = simDepth e ((polys.headD []).length - 1) := rfl
        omega
      have := sim_evaluateOn e hk polys polys' hne hne' hlen mapping mapping' lazy ts ts' hT
        (rk_simPowers e (absEnv e) ((polys.headD []).length - 1) x1.level x1'.level x1.scale x1'.scale)
      unfold evaluateOn at this
      simp only [← hlen] at this
      exact this

end top

/-- a successful run of the level-only instance at input level `L0` is simulated by the run of `e` at level `L0 + k` on
    ANY polynomials with the same number of coefficients, any mapping, scales and slot values: same ciphertext degree,
    level shifted by `k` — or (`e.t ≠ 0` only) that run stops with an error -/
theorem run_levels_simulated (e : Env) (polys polys' : List (List Int)) (hne : polys ≠ []) (hne' : polys' ≠ [])
    (hlen : (polys.headD []).length = (polys'.headD []).length)
    (mapping mapping' : Option (List (List Nat))) (lazy : Bool) (L0 kn : Nat) (is is' ts ts' : Nat)
    (x x' : List Int) (tr' : List String) (o' : Opd)
    (habs : run (absEnv e) polys' mapping' lazy L0 is' ts' x' = (tr', "ok", some o')) :
    (∃ tr o, run e polys mapping lazy (L0 + kn) is ts x = (tr, "ok", some o) ∧
        o.level = o'.level + kn ∧ o.deg = o'.deg) ∨
    (¬ e.t = 0 ∧ ∃ tr er, run e polys mapping lazy (L0 + kn) is ts x = (tr, er, none)) := by
  obtain ⟨s', hex'⟩ := run_ok habs
  have hsim : Sim (e.t = 0) (kn : Int) (RO (kn : Int))
      (evaluate e polys mapping lazy (L0 + kn) is ts x) (evaluate (absEnv e) polys' mapping' lazy L0 is' ts' x') := by
    unfold evaluate
    have hro : RO (kn : Int) ({ level := ((L0 + kn : Nat) : Int), scale := is, deg := 1, val := x } : Opd)
        { level := (L0 : Int), scale := is', deg := 1, val := x' } := ⟨by push_cast; ring, rfl⟩
    apply sim_bind (sim_setP 1 hro); intro _ _ _
    exact sim_evaluateFrom e (Int.natCast_nonneg kn) polys polys' hne hne' hlen mapping mapping' lazy ts ts'
  rcases hsim {} {} List.Forall₂.nil o' s' hex' with ⟨a, s, hc, hr, _⟩ | ⟨hz, er, s, hc⟩
  · left; exact ⟨s.tr, a, by rw [run_eq, hc], hr.lvl, hr.deg⟩
  · right; exact ⟨hz, s.tr, er, by rw [run_eq, hc]⟩

end Lattigo.Model.PolyEval
