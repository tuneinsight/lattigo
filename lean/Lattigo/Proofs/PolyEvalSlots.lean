/-
  C13 — slots outside every mapping evaluate to zero: machine level.  For a vector of polynomials under a
  slot mapping, every value the evaluator builds (baby steps, giant steps, the result) is 0 in a slot that
  no mapping list contains — whatever the powers of the input hold there.
-/
import Lattigo.Proofs.PolyEvalScale

namespace Lattigo.Model.PolyEval

theorem getD_zipV (f : Int → Int → Int) (a b : List Int) (j : Nat) :
    (zipV f a b).getD j 0 = match a[j]?, b[j]? with
      | some x, some y => f x y
      | _, _ => 0 := by
  unfold zipV
  rw [List.getD_eq_getElem?_getD, List.getElem?_zipWith]
  cases a[j]? <;> cases b[j]? <;> rfl

theorem getD_zero_cases (a : List Int) (j : Nat) (h : a.getD j 0 = 0) : a[j]? = none ∨ a[j]? = some 0 := by
  rw [List.getD_eq_getElem?_getD] at h
  cases ha : a[j]? with
  | none => left; rfl
  | some v => right; rw [ha] at h; simp at h; rw [h]

theorem redV_zero (e : Env) : redV e 0 = 0 := by unfold redV; split <;> simp

/-- slot `j` of the operand holds 0 (or does not exist) -/
def ZeroAt (j : Nat) (o : Opd) : Prop := o.val.getD j 0 = 0

section slots
variable (e : Env) (j : Nat)

theorem zeroAt_add (f : Int → Int → Int) (hf : f 0 0 = 0) (a b : List Int)
    (ha : a.getD j 0 = 0) (hb : b.getD j 0 = 0) : (zipV f a b).getD j 0 = 0 := by
  rw [getD_zipV]
  rcases getD_zero_cases a j ha with h1 | h1 <;> rcases getD_zero_cases b j hb with h2 | h2 <;> simp [h1, h2, hf]

theorem zeroAt_mul_left (f : Int → Int → Int) (hf : ∀ y, f 0 y = 0) (a b : List Int)
    (ha : a.getD j 0 = 0) : (zipV f a b).getD j 0 = 0 := by
  rw [getD_zipV]
  rcases getD_zero_cases a j ha with h1 | h1
  · simp [h1]
  · cases hb : b[j]? <;> simp [h1, hf]

theorem zeroAt_mul_right (f : Int → Int → Int) (hf : ∀ x, f x 0 = 0) (a b : List Int)
    (hb : b.getD j 0 = 0) : (zipV f a b).getD j 0 = 0 := by
  rw [getD_zipV]
  rcases getD_zero_cases b j hb with h1 | h1
  · cases ha : a[j]? <;> simp [h1]
  · cases ha : a[j]? <;> simp [h1, hf]

theorem post_addConst_Z (a : Opd) (c : List Int) (ha : ZeroAt j a) (hc : c.getD j 0 = 0) :
    Post (addConst e a c) (ZeroAt j) := by
  unfold addConst
  apply post_bind (post_true _); intro _ _
  exact post_pure (zeroAt_add j _ (by simp [redV_zero]) _ _ ha hc)

theorem post_mulThenAddConst_Z (x : Opd) (c : List Int) (r : Opd) (hr : ZeroAt j r) (hc : c.getD j 0 = 0) :
    Post (mulThenAddConst e x c r) (ZeroAt j) := by
  unfold mulThenAddConst
  apply post_bind (post_true _); intro _ _
  exact post_pure (zeroAt_add j _ (by simp [redV_zero]) _ _ hr (zeroAt_mul_right j _ (by simp) _ _ hc))

variable (m : List (List Nat)) (hun : ∀ l ∈ m, j ∉ l)
include hun

theorem post_evalFromPowerBasis_Z (T : Int) (p : SubPoly) (sc : Nat) :
    Post (evalFromPowerBasis e (some m) T p sc) (ZeroAt j) := by
  have hz : (List.replicate e.slots (0 : Int)).getD j 0 = 0 := by
    rw [List.getD_eq_getElem?_getD]
    by_cases h : j < e.slots
    · rw [List.getElem?_replicate, if_pos h]; rfl
    · rw [List.getElem?_eq_none (by simp; omega)]; rfl
  exact post_evalFromPowerBasis_of e (some m) T p sc (fun _ => hz)
    (fun _ _ ha => post_addConst_Z e j _ _ ha (coeffVec_unmapped e m _ _ j hun))
    (fun _ _ _ hr => post_mulThenAddConst_Z e j _ _ _ hr (coeffVec_unmapped e m _ _ j hun))

omit hun in
theorem post_relinOp_Z (o : Opd) (h : ZeroAt j o) : Post (relinOp e o) (ZeroAt j) := by
  unfold relinOp
  exact post_bind (post_true _) (fun _ _ => post_pure h)

omit hun in
theorem post_rescaleOp_Z (o : Opd) (h : ZeroAt j o) : Post (rescaleOp e o) (ZeroAt j) := by
  unfold rescaleOp
  apply post_bind (post_true _); intro _ _
  apply post_ite
  · intro _; exact post_pure h
  · intro _
    apply post_ite
    · intro _; exact post_throw_bind _ _
    · intro _; exact post_pure h

omit hun in
theorem post_mulOp_Z (name : String) (relin : Bool) (a b : Opd) (ha : ZeroAt j a) :
    Post (mulOp e name relin a b) (ZeroAt j) := by
  unfold mulOp
  apply post_bind (post_true _); intro _ _
  apply post_ite
  · intro _; exact post_throw_bind _ _
  · intro _
    apply post_ite
    · intro _; exact post_throw_bind _ _
    · intro _
      exact post_pure (zeroAt_mul_left j _ (by simp [redV_zero]) _ _ ha)

omit hun in
theorem post_addCt_Z (name : String) (sub : Bool) (a b : Opd) (ha : ZeroAt j a) (hb : ZeroAt j b) :
    Post (addCt e name sub a b) (ZeroAt j) := by
  unfold addCt
  apply post_bind (post_true _); intro _ _
  exact post_pure (zeroAt_add j _ (by cases sub <;> simp [redV_zero]) _ _ ha hb)

omit hun in
theorem post_evalMonomial_Z (a b x : Opd) (ha : ZeroAt j a) (hb : ZeroAt j b) :
    Post (evalMonomial e a b x) (ZeroAt j) := by
  unfold evalMonomial
  apply post_bind (Qa := ZeroAt j)
  · apply post_ite
    · intro _; exact post_relinOp_Z e j b hb
    · intro _; exact post_pure hb
  · intro b1 h1
    apply post_bind (post_rescaleOp_Z e j b1 h1); intro b2 h2
    apply post_bind (post_mulOp_Z e j _ _ b2 x h2); intro b3 h3
    apply post_ite
    · intro _; exact post_throw _
    · intro _; exact post_addCt_Z e j _ _ b3 a h3 ha

omit hun in
theorem post_giantPass_Z (fuel : Nat) : ∀ (prev : Option Nat) (l : List (Nat × Opd)), (∀ p ∈ l, ZeroAt j p.2) →
    Post (giantPass e fuel prev l) (fun l' => ∀ p ∈ l', ZeroAt j p.2) := by
  induction fuel with
  | zero => intro prev l hl; rw [giantPass]; exact post_pure hl
  | succ fuel ih =>
    intro prev l hl
    match l with
    | [] => simp only [giantPass]; exact post_pure (by simp)
    | [(d, v)] =>
      simp only [giantPass]
      exact post_pure (by intro p hp; simp at hp; rw [hp]; exact hl (d, v) (by simp))
    | (d0, v0) :: (d1, v1) :: rest =>
      rw [giantPass]
      apply post_ite
      · intro _
        simp only []
        apply post_bind (post_true _); intro xp _
        apply post_bind (post_evalMonomial_Z e j v0 v1 xp (hl (d0, v0) (by simp)) (hl (d1, v1) (by simp))); intro b hb
        apply post_bind (ih _ rest (fun p hp => hl p (by simp [hp]))); intro tl htl
        exact post_pure (List.forall_mem_cons.2 ⟨hb, htl⟩)
      · intro _
        apply post_bind (ih _ ((d1, v1) :: rest) (fun p hp => hl p (List.mem_cons_of_mem _ hp))); intro tl htl
        exact post_pure (List.forall_mem_cons.2 ⟨hl (d0, v0) (by simp), htl⟩)

omit hun in
theorem post_finish_Z (fin : List (Nat × Opd)) (h : ∀ p ∈ fin, ZeroAt j p.2) : Post (finish e fin) (ZeroAt j) := by
  match fin with
  | [] => unfold finish; exact post_throw _
  | [(d, v)] =>
    unfold finish
    simp only
    apply post_bind (Qa := ZeroAt j)
    · apply post_ite
      · intro _; exact post_relinOp_Z e j v (h (d, v) (by simp))
      · intro _; exact post_pure (h (d, v) (by simp))
    · intro v1 hv1; exact post_rescaleOp_Z e j v1 hv1
  | _ :: _ :: _ => unfold finish; exact post_throw _

theorem post_evalSubs_Z (subs : List SubPoly) : Post (evalSubs e (some m) subs) (ZeroAt j) := by
  unfold evalSubs
  apply post_bind (Qa := fun (bs : List (Nat × Opd)) => ∀ p ∈ bs, ZeroAt j p.2)
  · apply post_foldlM (Q := fun (bs : List (Nat × Opd)) => ∀ p ∈ bs, ZeroAt j p.2) _ _ subs [] (by simp)
    intro bs sp hbs
    apply post_bind (post_evalFromPowerBasis_Z e j m hun sp.level sp sp.scale); intro v hv
    exact post_pure (List.forall_mem_cons.2 ⟨hv, hbs⟩)
  · intro bs hbs
    apply post_bind (post_giantLoop_of e (fun fuel l => post_giantPass_Z e j fuel none l) _ bs hbs); intro fin hfin
    exact post_finish_Z e j fin hfin

theorem post_evaluateFrom_Z (polys : List (List Int)) (lazy : Bool) (ts : Nat) :
    Post (evaluateFrom e polys (some m) lazy ts) (ZeroAt j) := by
  unfold evaluateFrom
  simp only []
  apply post_bind (post_true _); intro x1 _
  apply post_ite
  · intro _; exact post_evalFromPowerBasis_Z e j m hun _ _ _
  · intro _
    apply post_ite
    · intro _; exact post_throw _
    · intro _
      apply post_bind (post_true _); intro _ _
      split
      · exact post_throw _
      · exact post_evalSubs_Z e j m hun _

end slots

end Lattigo.Model.PolyEval
