/-
  C20 — lemmas about the generic RGSW layer (`Lattigo/Model/RGSW.lean`), for every commutative ring: the weighted sum
  `wsum` (= `KS.wsumRow 0`), both gadget ciphertexts of `encrypt` as one `zipWith` over the gadget vector with the message
  added by `am` (`addMsg0` or `addMsg1`; `zipRows_phase/_add/_mul/_addPlain`), the phase of the inner product (`dot_phase`)
  and of the external product before the division by `P` (`extProdLazy_phase`).
-/
import Lattigo.Model.RGSW
import Lattigo.Model.KeySwitch
import Lattigo.Proofs.ListLemmas
import Mathlib.Tactic.Ring
import Mathlib.Algebra.Ring.Hom.Defs

namespace Lattigo.RGSW

variable {α : Type} [CommRing α]

/-- `Σ_k d_k · x_k` over two lists (truncated to the shorter one) -/
def wsum : List α → List α → α
  | d :: ds, x :: xs => d * x + wsum ds xs
  | _, _ => 0

@[simp] theorem wsum_nil_left (xs : List α) : wsum ([] : List α) xs = 0 := by
  cases xs <;> rfl
@[simp] theorem wsum_nil_right (ds : List α) : wsum ds ([] : List α) = 0 := by
  cases ds <;> rfl
@[simp] theorem wsum_cons (d x : α) (ds xs : List α) :
    wsum (d :: ds) (x :: xs) = d * x + wsum ds xs := rfl

theorem wsum_eq_wsumRow : ∀ ds xs : List α, wsum ds xs = KS.wsumRow 0 ds xs
  | [], xs => by cases xs <;> rfl
  | _ :: _, [] => rfl
  | d :: ds, x :: xs => congrArg (d * x + ·) (wsum_eq_wsumRow ds xs)

theorem phase_encZero (a e s : α) : phase (encZero a e s) s = e := by
  simp only [phase, encZero]; ring

theorem phase_addMsg0 (z : α × α) (m s : α) : phase (addMsg0 z m) s = phase z s + m := by
  simp only [phase, addMsg0]; ring

theorem phase_addMsg1 (z : α × α) (m s : α) : phase (addMsg1 z m) s = phase z s + m * s := by
  simp only [phase, addMsg1]; ring

theorem encZero_add (s a e a' e' : α) :
    encZero (a + a') (e + e') s = padd (encZero a e s) (encZero a' e' s) :=
  Prod.ext (by simp only [encZero, padd]; ring) rfl

theorem encZero_mul (s x a e : α) : encZero (a * x) (e * x) s = pscale x (encZero a e s) :=
  Prod.ext (by simp only [encZero, pscale]; ring) rfl

theorem padd_addMsg0 (z z' : α × α) (m m' : α) :
    padd (addMsg0 z m) (addMsg0 z' m') = addMsg0 (padd z z') (m + m') :=
  Prod.ext (by simp only [padd, addMsg0]; ring) rfl

theorem padd_addMsg1 (z z' : α × α) (m m' : α) :
    padd (addMsg1 z m) (addMsg1 z' m') = addMsg1 (padd z z') (m + m') :=
  Prod.ext rfl (by simp only [padd, addMsg1]; ring)

theorem pscale_addMsg0 (x : α) (z : α × α) (m : α) :
    pscale x (addMsg0 z m) = addMsg0 (pscale x z) (m * x) :=
  Prod.ext (add_mul _ _ _) rfl

theorem pscale_addMsg1 (x : α) (z : α × α) (m : α) :
    pscale x (addMsg1 z m) = addMsg1 (pscale x z) (m * x) :=
  Prod.ext rfl (add_mul _ _ _)

theorem addMsg0_addMsg0 (z : α × α) (m m' : α) : addMsg0 (addMsg0 z m) m' = addMsg0 z (m + m') :=
  Prod.ext (add_assoc _ _ _) rfl

theorem addMsg1_addMsg1 (z : α × α) (m m' : α) : addMsg1 (addMsg1 z m) m' = addMsg1 z (m + m') :=
  Prod.ext rfl (add_assoc _ _ _)

section zipWith
variable {A B C D E F G : Type}

theorem zipWith_zipWith_map (h : D → E → F) (f : A → B → D) (m : A → E) (k : A → B → F)
    (H : ∀ x b, h (f x b) (m x) = k x b) (l : List A) (bs : List B) :
    List.zipWith h (List.zipWith f l bs) (l.map m) = List.zipWith k l bs := by
  induction l generalizing bs with
  | nil => rfl
  | cons x l ih =>
    cases bs with
    | nil => rfl
    | cons b bs => simp only [List.zipWith_cons_cons, List.map_cons, H, ih]

end zipWith

/-! Both gadget ciphertexts are `zipWith` over the gadget vector; `am` below is `addMsg0` or `addMsg1`. -/

theorem rows0_eq_zipWith (ez : α → α → α → α × α) (s g : α) (pgs : List α) (smp : List (α × α)) :
    rows0 ez s g pgs smp = List.zipWith (fun pg ae => addMsg0 (ez ae.1 ae.2 s) (pg * g)) pgs smp := by
  induction pgs generalizing smp with
  | nil => rfl
  | cons pg pgs ih =>
    cases smp with
    | nil => rfl
    | cons ae rest => rw [rows0, List.zipWith_cons_cons, ih]

theorem rows1_eq_zipWith (ez : α → α → α → α × α) (s g : α) (pgs : List α) (smp : List (α × α)) :
    rows1 ez s g pgs smp = List.zipWith (fun pg ae => addMsg1 (ez ae.1 ae.2 s) (pg * g)) pgs smp := by
  induction pgs generalizing smp with
  | nil => rfl
  | cons pg pgs ih =>
    cases smp with
    | nil => rfl
    | cons ae rest => rw [rows1, List.zipWith_cons_cons, ih]

section rows
variable (am : α × α → α → α × α) (s : α)

/-- `k m`: what `am z m` adds to the phase (`m` for `addMsg0`, `m·s` for `addMsg1`) -/
theorem zipRows_phase (k : α → α) (hph : ∀ z m, phase (am z m) s = phase z s + k m) (g : α) (pgs : List α)
    (smp : List (α × α)) :
    (List.zipWith (fun pg ae => am (encZero ae.1 ae.2 s) (pg * g)) pgs smp).map (fun r => phase r s)
      = List.zipWith (fun pg e => e + k (pg * g)) pgs (smp.map Prod.snd) := by
  rw [List.map_zipWith, List.zipWith_map_right]
  simp only [hph, phase_encZero]

theorem zipRows_add (ham : ∀ z z' m m', padd (am z m) (am z' m') = am (padd z z') (m + m')) (g1 g2 : α)
    (pgs : List α) (A B : List (α × α)) :
    List.zipWith padd (List.zipWith (fun pg ae => am (encZero ae.1 ae.2 s) (pg * g1)) pgs A)
        (List.zipWith (fun pg ae => am (encZero ae.1 ae.2 s) (pg * g2)) pgs B)
      = List.zipWith (fun pg ae => am (encZero ae.1 ae.2 s) (pg * (g1 + g2))) pgs (List.zipWith padd A B) := by
  refine ListLemmas.zipWith_zipWith_zipWith _ _ _ _ _ (fun pg ae ae' => ?_) pgs A B
  rw [ham, mul_add]
  exact congrArg (am · _) (encZero_add s _ _ _ _).symm

theorem zipRows_mul (ham : ∀ x z m, pscale x (am z m) = am (pscale x z) (m * x)) (g x : α) (pgs : List α)
    (A : List (α × α)) :
    (List.zipWith (fun pg ae => am (encZero ae.1 ae.2 s) (pg * g)) pgs A).map (pscale x)
      = List.zipWith (fun pg ae => am (encZero ae.1 ae.2 s) (pg * (g * x))) pgs
          (A.map fun ae => (ae.1 * x, ae.2 * x)) := by
  rw [List.map_zipWith, List.zipWith_map_right]
  simp only [ham, encZero_mul, mul_assoc]

theorem zipRows_addPlain (ham : ∀ z m m', am (am z m) m' = am z (m + m')) (g m : α) (pgs : List α)
    (A : List (α × α)) :
    List.zipWith am (List.zipWith (fun pg ae => am (encZero ae.1 ae.2 s) (pg * g)) pgs A) (pgs.map (· * m))
      = List.zipWith (fun pg ae => am (encZero ae.1 ae.2 s) (pg * (g + m))) pgs A :=
  zipWith_zipWith_map _ _ _ _ (fun pg ae => by rw [ham, mul_add]) pgs A

end rows

theorem dot_phase (s : α) (ds : List α) (rows : List (α × α)) (z : α × α) :
    phase (dot z ds rows) s = phase z s + wsum ds (rows.map fun r => phase r s) := by
  induction ds generalizing rows z with
  | nil => rw [wsum_nil_left, add_zero]; rfl
  | cons d ds ih =>
    cases rows with
    | nil => rw [List.map_nil, wsum_nil_right, add_zero]; rfl
    | cons r rs =>
      rw [dot, ih, List.map_cons, wsum_cons]
      simp only [phase]; ring

theorem wsum_zipWith_add_mul (g : α) (ds pgs ns : List α) (h : pgs.length = ns.length) :
    wsum ds (List.zipWith (fun pg n => n + pg * g) pgs ns) = wsum ds ns + g * wsum ds pgs := by
  induction ds generalizing pgs ns with
  | nil => rw [wsum_nil_left, wsum_nil_left, wsum_nil_left, mul_zero, add_zero]
  | cons d ds ih =>
    match pgs, ns, h with
    | [], [], _ => rw [List.zipWith_nil_left, wsum_nil_right, mul_zero, add_zero]
    | pg :: pgs, n :: ns, h =>
      rw [List.zipWith_cons_cons, wsum_cons, wsum_cons, wsum_cons, ih pgs ns (Nat.succ.inj h)]
      ring

theorem extProdLazy_phase (s g : α) (pgs : List α) (smp0 smp1 : List (α × α)) (d0 d1 : List α)
    (h0 : pgs.length = smp0.length) (h1 : pgs.length = smp1.length) :
    phase (extProdLazy 0 d0 d1 (encrypt encZero s g pgs smp0 smp1)) s =
      g * (wsum d0 pgs + wsum d1 pgs * s)
        + (wsum d0 (smp0.map Prod.snd) + wsum d1 (smp1.map Prod.snd)) := by
  rw [extProdLazy, encrypt, dot_phase, dot_phase, rows0_eq_zipWith, rows1_eq_zipWith,
    zipRows_phase addMsg0 s (fun m => m) (fun z m => phase_addMsg0 z m s),
    zipRows_phase addMsg1 s (fun m => m * s) (fun z m => phase_addMsg1 z m s),
    wsum_zipWith_add_mul g d0 pgs _ (by rw [List.length_map, h0])]
  simp only [mul_assoc _ g s]
  rw [wsum_zipWith_add_mul (g * s) d1 pgs _ (by rw [List.length_map, h1])]
  simp only [phase]; ring

end Lattigo.RGSW
