/-
  C20 — the 64-bit accumulator of `externalProduct32Bit` (`acc32`, `slot32` of Model/RGSW.lean):
  it is the exact sum modulo 2^64, hence the exact sum when that is below 2^64 (`Props.C20.path_eq` then applies
  `IMForm`), and the guard `acc32Fits` of the code keeps it below 2^64.
-/
import Lattigo.Model.RGSW
import Lattigo.Proofs.ModRed
import Mathlib.Data.Nat.ModEq

namespace Lattigo.RGSW
open Lattigo

theorem foldl_acc (rs cs : List Nat) (a0 : Nat) (h : a0 < W) :
    (List.zip rs cs).foldl (fun a (x, y) => u64add a (u64mul x y)) a0 = (a0 + sum32 rs cs) % W := by
  induction rs generalizing cs a0 with
  | nil => exact (Nat.mod_eq_of_lt h).symm
  | cons r rs ih =>
    cases cs with
    | nil => exact (Nat.mod_eq_of_lt h).symm
    | cons c cs =>
      rw [List.zip_cons_cons, List.foldl_cons, sum32, ih cs (u64add a0 (u64mul r c)) (Nat.mod_lt _ (by decide))]
      show ((a0 + r * c % W) % W + sum32 rs cs) % W = (a0 + (r * c + sum32 rs cs)) % W
      rw [Nat.mod_add_mod, Nat.add_right_comm, Nat.add_mod_mod, Nat.add_right_comm, Nat.add_assoc]

theorem acc32_eq : ∀ (rs cs : List Nat), acc32 rs cs = sum32 rs cs % W
  | [], _ => rfl
  | _ :: _, [] => rfl
  | r :: rs, c :: cs => by
      rw [acc32, sum32, foldl_acc rs cs (u64mul r c) (Nat.mod_lt _ (by decide)), u64mul, Nat.mod_add_mod]

theorem acc32_of_lt (rs cs : List Nat) (h : sum32 rs cs < W) : acc32 rs cs = sum32 rs cs := by
  rw [acc32_eq, Nat.mod_eq_of_lt h]

theorem sum32_le (R C : Nat) (rs cs : List Nat) (hr : ∀ r ∈ rs, r ≤ R) (hc : ∀ c ∈ cs, c ≤ C) :
    sum32 rs cs ≤ rs.length * (R * C) := by
  induction rs generalizing cs with
  | nil => exact Nat.zero_le _
  | cons r rs ih =>
    cases cs with
    | nil => exact Nat.zero_le _
    | cons c cs =>
      have h1 : r * c ≤ R * C := Nat.mul_le_mul (hr r List.mem_cons_self) (hc c List.mem_cons_self)
      rw [sum32, List.length_cons, Nat.add_mul, Nat.one_mul, Nat.add_comm (r * c)]
      exact Nat.add_le_add (ih cs (fun x hx => hr x (List.mem_cons_of_mem _ hx))
        (fun x hx => hc x (List.mem_cons_of_mem _ hx))) h1

theorem acc32Fits_no_wrap (q d : Nat) (hfit : acc32Fits q d = true) (rs cs : List Nat)
    (hlen : rs.length ≤ 2 * d) (hr : ∀ r ∈ rs, r ≤ q - 1) (hc : ∀ c ∈ cs, c ≤ 6 * q - 2) :
    sum32 rs cs < W := by
  simp only [acc32Fits, Bool.and_eq_true, beq_iff_eq, decide_eq_true_eq] at hfit
  have hle := sum32_le (q - 1) (6 * q - 2) rs cs hr hc
  generalize (q - 1) * (6 * q - 2) = K at hfit hle
  calc sum32 rs cs ≤ rs.length * K := hle
    _ ≤ 2 * d * K := Nat.mul_le_mul_right K hlen
    _ ≤ (W - 1) / K * K := Nat.mul_le_mul_right K hfit.2
    _ ≤ W - 1 := Nat.div_mul_le_self _ _
    _ < W := by decide

end Lattigo.RGSW
