/-
  C20 — the lazy accumulators of `externalProductInPlaceMultipleP` (`accSched`, `lazySlot`, `lazyMargin` of
  Model/RGSW.lean): the NO-WRAP condition of the unreduced 64-bit accumulation, per limb family, and that the
  code's schedules (`QiOverflowMargin >> 1`, `PiOverflowMargin >> 1`, each for its own family) satisfy it.  The bound
  on one lazy product and the window arithmetic are those of `Proofs/LazyAcc`; the slot lemmas take digit words below
  `c·p`, `c ≤ 6`, so that the gadget product (`Proofs/KeySwitchLazy`, `c = 6`) is an instance beside the external product.
-/
import Lattigo.Model.RGSW
import Lattigo.Proofs.LazyAcc
import Lattigo.Proofs.ListLemmas
import Mathlib.Tactic.Ring
import Mathlib.Tactic.Linarith

namespace Lattigo.RGSW
open Lattigo Lattigo.LazyAcc

/-- `h0`: the first term is stored, which is the addition to the initial `0` -/
theorem accSchedFrom_cons (p F acc cnt t : Nat) (ts : List Nat) (h0 : cnt = 0 → acc = 0) (hlt : acc + t < W) :
    accSchedFrom p F acc cnt (t :: ts) =
      accSchedFrom p F (if cnt % F = F - 1 then (acc + t) % p else acc + t) (cnt + 1) ts := by
  have ha : (if cnt = 0 then t else u64add acc t) = acc + t := by
    by_cases hc : cnt = 0
    · rw [if_pos hc, h0 hc, Nat.zero_add]
    · rw [if_neg hc, u64add, Nat.mod_eq_of_lt hlt]
  rw [accSchedFrom, ha]

/-- invariant of the schedule: `cnt % F` terms since the last reduction -/
theorem accSchedFrom_eq (p F B : Nat) (hp : 0 < p) (hF : 1 ≤ F) (hB : (p - 1) + F * B < W)
    (ts : List Nat) (acc cnt : Nat) (hts : ∀ t ∈ ts, t ≤ B)
    (hacc : acc ≤ (p - 1) + (cnt % F) * B) (h0 : cnt = 0 → acc = 0) :
    accSchedFrom p F acc cnt ts = (acc + ts.sum) % p := by
  induction ts generalizing acc cnt with
  | nil =>
    rw [accSchedFrom, List.sum_nil, Nat.add_zero]
    by_cases hc : cnt % F = 0
    · rw [if_neg (not_not_intro hc)]
      rw [hc, Nat.zero_mul, Nat.add_zero] at hacc
      exact (Nat.mod_eq_of_lt (Nat.lt_of_le_pred hp hacc)).symm
    · rw [if_pos hc]
  | cons t ts ih =>
    have hts' : ∀ t' ∈ ts, t' ≤ B := fun t' h => hts t' (List.mem_cons_of_mem _ h)
    have hsucc (a : Nat) : cnt + 1 = 0 → a = 0 := fun h => absurd h (Nat.succ_ne_zero cnt)
    have hnext : acc + t ≤ (p - 1) + (cnt % F + 1) * B := by
      rw [Nat.add_mul, Nat.one_mul, ← Nat.add_assoc]; exact Nat.add_le_add hacc (hts t List.mem_cons_self)
    have hW : acc + t < W := Nat.lt_of_le_of_lt
      (Nat.le_trans hnext (Nat.add_le_add_left (Nat.mul_le_mul_right B (Nat.mod_lt cnt hF)) _)) hB
    rw [accSchedFrom_cons p F acc cnt t ts h0 hW, List.sum_cons, ← Nat.add_assoc]
    by_cases hc : cnt % F = F - 1
    · rw [if_pos hc, ih _ _ hts' ?_ (hsucc _), Nat.mod_add_mod]
      rw [succ_mod_of_eq hF hc, Nat.zero_mul, Nat.add_zero]
      exact Nat.le_sub_one_of_lt (Nat.mod_lt _ hp)
    · rw [if_neg hc]
      apply ih _ _ hts' ?_ (hsucc _)
      rw [succ_mod_of_ne hF hc]
      exact hnext

theorem accSched_eq (p F B : Nat) (hp : 0 < p) (hF : 1 ≤ F) (hB : (p - 1) + F * B < W)
    (ts : List Nat) (hts : ∀ t ∈ ts, t ≤ B) : accSched p F ts = ts.sum % p := by
  rw [accSched, accSchedFrom_eq p F B hp hF hB ts 0 0 hts (Nat.zero_le _) (fun _ => rfl), Nat.zero_add]

set_option linter.unusedVariables false in
/-- `hx`, `hy`, `hq` (the range the code documents for its inputs) are not needed: the bound holds for all words
    (`LazyAcc.mredLazy_le_hi`) -/
theorem mredLazy_le (x y q mrc : Nat) (hx : x < q) (hy : y < q) (hq : q ≤ 2 ^ 62) (hq0 : 0 < q) :
    Gen.MRedLazy x y q mrc ≤ q + x * y / W :=
  mredLazy_le_hi x y q mrc hq0

theorem lazyMargin_okc (c p pmax : Nat) (hc : c ≤ 6) (hp : 0 < p) (hle : p ≤ pmax) (hmax : 8 * pmax ≤ W) :
    1 ≤ (W - 1) / pmax / 2 ∧ (p - 1) + ((W - 1) / pmax / 2) * (p + c * (p * p) / W) < W :=
  ⟨one_le_margin (by omega) hmax,
    window c p pmax _ hp hle (le_trans (Nat.mul_le_mul_right _ (by omega)) hmax) (margin_le pmax)⟩

theorem lazyMargin_ok (p pmax : Nat) (hp : 0 < p) (hle : p ≤ pmax) (hmax : 8 * pmax ≤ W) :
    1 ≤ (W - 1) / pmax / 2 ∧ (p - 1) + ((W - 1) / pmax / 2) * (p + p * p / W) < W := by
  have h := lazyMargin_okc 1 p pmax (by decide) hp hle hmax
  rwa [Nat.one_mul] at h

theorem lazyMargin_famc (c p : Nat) (fam : List Nat) (hc : c ≤ 6) (hp : 0 < p) (hmem : p ∈ fam)
    (hfam : ∀ q ∈ fam, 8 * q ≤ W) :
    1 ≤ lazyMargin fam ∧ (p - 1) + lazyMargin fam * (p + c * (p * p) / W) < W := by
  have hmax : 8 * fam.foldl max 0 ≤ W :=
    (foldl_max_mem fam 0).elim (fun e => e.symm ▸ (by decide : 8 * 0 ≤ W)) (hfam _)
  unfold lazyMargin
  exact lazyMargin_okc c p _ hc hp (le_foldl_max fam 0 p (Or.inr hmem)) hmax

theorem lazySlot_exact_bound (p mrc Y F : Nat) (hp : 0 < p) (hF : 1 ≤ F) (hB : (p - 1) + F * (p + p * Y / W) < W)
    (rs cs : List Nat) (hr : ∀ r ∈ rs, r < p) (hc : ∀ c ∈ cs, c < Y) :
    lazySlot p mrc F rs cs = (List.zipWith (fun r c => Gen.MRedLazy r c p mrc) rs cs).sum % p :=
  accSched_eq p F _ hp hF hB _ (ListLemmas.forall_zipWith _ _ _ _ fun r hr' c hc' =>
    (mredLazy_le_hi r c p mrc hp).trans (Nat.add_le_add_left
      (Nat.div_le_div_right (Nat.mul_le_mul (Nat.le_of_lt (hr r hr')) (Nat.le_of_lt (hc c hc')))) p))

/-- `c = 1`: reduced digits of the external product with several auxiliary primes; `c = 6`: `NTTLazy` outputs of the gadget
    product.  `lazyMargin fam` is the family's OWN margin. -/
theorem lazySlot_exact_fam (c p mrc : Nat) (fam : List Nat) (hc6 : c ≤ 6) (hp : 0 < p) (hmem : p ∈ fam)
    (hfam : ∀ q ∈ fam, 8 * q ≤ W) (rs cs : List Nat) (hr : ∀ r ∈ rs, r < p) (hc : ∀ x ∈ cs, x < c * p) :
    lazySlot p mrc (lazyMargin fam) rs cs = (List.zipWith (fun r c => Gen.MRedLazy r c p mrc) rs cs).sum % p := by
  obtain ⟨hF, hB⟩ := lazyMargin_famc c p fam hc6 hp hmem hfam
  rw [← Nat.mul_left_comm] at hB
  exact lazySlot_exact_bound p mrc (c * p) _ hp hF hB rs cs hr hc

end Lattigo.RGSW
