/-
  C20 — the CLOSED noise bound of the external product (`Props/C20.extprod_noise_closed`): the signed coefficient lists
  behind `RGSW.digitsOf` (`digitsZ`, `digitsOf_eq_ofInts`), their lengths and magnitudes (`digitBoundsR`,
  `digitsZ_bounded`), the vanishing of the gadget vector on the `P` rows (`partP_pgElt`), and the bound itself, first for
  arbitrary integer digit lists and gadget vectors (`extprod_noise_digits`), then for the model's (`extprod_noise_closed`).
-/
import Lattigo.Props.C20Stack
import Lattigo.Props.C20Noise
import Lattigo.Props.C04Stack
import Lattigo.Proofs.StackKSNoise
import Lattigo.Proofs.RGSWShape

set_option linter.unusedSectionVars false

namespace Lattigo.RGSWNoise
open Lattigo Lattigo.RGSW Lattigo.RPolyRing Lattigo.Transport Lattigo.Props.C20Ring Lattigo.StackKS Lattigo.ZPoly
open Lattigo.Scaling (prodN)

/-- the flat list of integer digits, in the order of `RGSW.digitsOf` -/
def digitsZ (p : Par) (c : RPoly) : List (List ℤ) :=
  ((List.range p.rnsSize).map fun i => (List.range (p.rowLen i)).map fun j => dgtZ p c i j).flatten

theorem digitsOf_eq_ofInts (p : Par) (c : RPoly) :
    digitsOf p c = (digitsZ p c).map (RPoly.ofInts p.qsQP) := by
  rw [digitsOf_eq, digitsZ, List.map_flatten, List.map_map]
  congr 1
  apply List.map_congr_left
  intro i _
  simp only [Function.comp, List.map_map]
  apply List.map_congr_left
  intro j _
  rfl

/-- the magnitude allotted to digit `(i, j)`: `2^w − 1` (base two), `q_i − 1` (`w = 0`, the whole coefficient),
    `⌊Q_i/2⌋ + 1` (centred digit of the group `Q_i`).  Larger than `StackKS.digitBounds` (`⌈q_i/2⌉`, `⌊Q_i/2⌋`) because
    `digitsBit` does NOT centre its digits, and because `centredDigit` is bounded here without the parity of `Q_i`
    (its single-modulus branch sends `x ≥ ⌊q/2⌋` to `x − q`, of magnitude up to `⌈q/2⌉ ≤ ⌊q/2⌋ + 1`). -/
def dgtBound (p : Par) (i : ℕ) : ℕ :=
  if p.nP ≤ 1 then (if p.w = 0 then p.qsQ.getD i 1 - 1 else 2 ^ p.w - 1)
  else RPoly.prod ((p.group i).map fun k => p.qsQ.getD k 1) / 2 + 1

def digitBoundsR (p : Par) : List ℕ :=
  ((List.range p.rnsSize).map fun i => (List.range (p.rowLen i)).map fun _ => dgtBound p i).flatten

theorem centredDigit_natAbs_le (ms col : List ℕ) (hpos : 0 < RPoly.prod ms)
    (hsingle : List.Forall₂ (fun q x => x < q) ms col) :
    (centredDigit ms col).natAbs ≤ RPoly.prod ms / 2 + 1 := by
  unfold centredDigit
  split
  · rename_i q x
    have hx : x < q := by
      cases hsingle with
      | cons h _ => exact h
    have hp : RPoly.prod [q] = q := by simp [RPoly.prod]
    rw [hp]
    split <;> omega
  · have hlt := Nat.mod_lt (RPoly.crt ms col + RPoly.prod ms / 2) hpos
    dsimp only
    generalize (RPoly.crt ms col + RPoly.prod ms / 2) % RPoly.prod ms = r at *
    omega

section bounds
variable {qs ps : List ℕ} {n : ℕ} [hgq : Good qs n] [hg : Good (qs ++ ps) n]

theorem dgtZ_bits_bound (hqs : qs ≠ []) (w : ℕ) {c : RPoly} (hc : WFq qs n c) (i j : ℕ)
    (h : (⟨qs, ps, n, w⟩ : Par).nP ≤ 1) (hi : i < (⟨qs, ps, n, w⟩ : Par).rnsSize) :
    normInf (dgtZ ⟨qs, ps, n, w⟩ c i j) ≤ if w = 0 then qs.getD i 1 - 1 else 2 ^ w - 1 := by
  have hiq : i < qs.length := by rw [Par.rnsSize_of_le_one _ hqs h] at hi; exact hi
  rw [dgtZ_bits h]
  apply normInf_map_le
  intro x hx
  rw [Int.natAbs_natCast]
  by_cases hw0 : w = 0
  · rw [maskDigit_zero hw0] at hx
    rw [if_pos hw0]
    have := row_lt hc i hiq x hx
    rw [hc.1] at this
    omega
  · rw [maskDigit_pos hw0] at hx
    rw [if_neg hw0]
    obtain ⟨y, _, rfl⟩ := List.mem_map.mp hx
    have : y / 2 ^ (j * w) % 2 ^ w < 2 ^ w := Nat.mod_lt _ (Nat.pow_pos (by norm_num))
    omega

theorem dgtZ_group_bound (w : ℕ) {c : RPoly} (hc : WFq qs n c) (i j : ℕ) (h : ¬ (⟨qs, ps, n, w⟩ : Par).nP ≤ 1) :
    normInf (dgtZ ⟨qs, ps, n, w⟩ c i j)
      ≤ RPoly.prod (((⟨qs, ps, n, w⟩ : Par).group i).map fun k => qs.getD k 1) / 2 + 1 := by
  set p : Par := ⟨qs, ps, n, w⟩ with hp
  rw [dgtZ_group h]
  apply normInf_map_le
  intro col hcol
  rw [transpose_eq] at hcol
  simp only [List.mem_map, List.mem_range] at hcol
  obtain ⟨t, ht, rfl⟩ := hcol
  have hmem : ∀ k ∈ p.group i, k < qs.length := fun k hk => ((p.mem_group_iff i k).mp hk).1
  have hq0 : ∀ k ∈ p.group i, 0 < qs.getD k 1 := fun k hk => by
    rw [← List.getElem_eq_getD (h := hmem k hk) 1]
    have := hgq.q_ge _ (List.getElem_mem (hmem k hk)); omega
  apply centredDigit_natAbs_le
  · rw [prod_eq_prodN]
    apply Scaling.prodN_pos
    intro m hm
    obtain ⟨k, hk, rfl⟩ := List.mem_map.mp hm
    exact hq0 k hk
  · unfold KS.colOf
    rw [List.map_map]
    apply forall₂_map_map
    intro k hk
    have hk' := hmem k hk
    show (c.c.getD k []).getD t 0 < qs.getD k 1
    by_cases htk : t < n
    · have := (wf_entry_lt hc k hk' t htk).2
      rwa [← List.getElem_eq_getD (h := hk') 0, List.getElem_eq_getD (h := hk') 1] at this
    · -- beyond the last coefficient `getD` returns `0`
      rw [List.getD_eq_getElem?_getD, List.getElem?_eq_none (by
        rw [(hc.2.2 k (by rw [hc.1]; exact hk')).len]; omega)]
      exact hq0 k hk

theorem dgtZ_bound (hqs : qs ≠ []) (w : ℕ) {c : RPoly} (hc : WFq qs n c) (i j : ℕ)
    (hi : i < (⟨qs, ps, n, w⟩ : Par).rnsSize) :
    normInf (dgtZ ⟨qs, ps, n, w⟩ c i j) ≤ dgtBound ⟨qs, ps, n, w⟩ i := by
  unfold dgtBound
  by_cases h : (⟨qs, ps, n, w⟩ : Par).nP ≤ 1
  · rw [if_pos h]
    exact dgtZ_bits_bound hqs w hc i j h hi
  · rw [if_neg h]
    exact dgtZ_group_bound w hc i j h

theorem digitsZ_bounded (hqs : qs ≠ []) (w : ℕ) {c : RPoly} (hc : WFq qs n c) :
    Lattigo.Props.C20.RowBounded n (digitsZ ⟨qs, ps, n, w⟩ c) (digitBoundsR ⟨qs, ps, n, w⟩)
      ∧ ∀ d ∈ digitsZ ⟨qs, ps, n, w⟩ c, d.length = n := by
  constructor
  · unfold digitsZ digitBoundsR Lattigo.Props.C20.RowBounded
    refine List.rel_flatten (forall₂_map_map _ _ _ fun i hi => ?_)
    apply forall₂_map_map
    intro j _
    have hi' := List.mem_range.mp hi
    exact ⟨Nat.le_of_eq (dgtZ_length hqs w hc i j hi'), dgtZ_bound hqs w hc i j hi'⟩
  · intro d hd
    simp only [digitsZ, List.mem_flatten, List.mem_map, List.mem_range] at hd
    obtain ⟨l, ⟨i, hi, rfl⟩, hd⟩ := hd
    simp only [List.mem_map, List.mem_range] at hd
    obtain ⟨j, _, rfl⟩ := hd
    exact dgtZ_length hqs w hc i j hi

end bounds

section prow
variable {qs ps : List ℕ} {n : ℕ} [hgq : Good qs n] [hg : Good (qs ++ ps) n]

theorem partP_pgElt (w i j : ℕ) : KS.partP qs.length (pgElt ⟨qs, ps, n, w⟩ i j) = RPoly.zero ps n := by
  have hn : 1 ≤ n := hg.n_pos
  unfold pgElt constPoly KS.partP RPoly.zero
  simp only [Par.qsQP]
  congr 1
  · simp
  · rw [List.zip_append (by simp), List.map_append, List.drop_left' (by simp), ListLemmas.zip_map_self]
    simp only [Nat.zero_mod, ← List.replicate_succ, Nat.sub_add_cancel hn]

theorem partP_wsumZ_eq_zero : ∀ (ds xs : List RPoly), WFlist (qs ++ ps) n ds →
    (∀ x ∈ xs, KS.partP qs.length x = RPoly.zero ps n) →
    KS.partP qs.length (wsumZ (RPoly.zero (qs ++ ps) n) ds xs) = RPoly.zero ps n
  | [], xs, _, _ => by cases xs <;> exact partP_zero
  | _ :: _, [], _, _ => partP_zero
  | d :: ds, x :: xs, hd, hx => by
      have := good_right hg
      obtain ⟨d', hd'⟩ := exists_lift _ (partP_wf (hd d (by simp)))
      show KS.partP qs.length (d * x + wsumZ _ ds xs) = _
      rw [(partP_hom qs.length).add, (partP_hom qs.length).mul, hx x (by simp), ← hd',
        partP_wsumZ_eq_zero ds xs (fun y h => hd y (by simp [h])) (fun y h => hx y (by simp [h]))]
      show val (d' * 0 + 0) = val (0 : WFPoly ps n)
      rw [mul_zero, add_zero]

theorem wsumZ_wf {L : List ℕ} [Good L n] (ds xs : List RPoly) (hd : WFlist L n ds) (hx : WFlist L n xs) :
    WFq L n (wsumZ (RPoly.zero L n) ds xs) := by
  lift ds to List (WFPoly L n) using hd
  lift xs to List (WFPoly L n) using hx
  rw [wsumZ_eq_wsumRow, ← val_zero, ← KS.wsumRow_push val_hom]
  exact val_wf _

/-- The setting of `C20Stack.extprod_phase_closed`, for ANY integer digit lists and gadget vector.  The exact division by `P` is
`StackKS.exact_div_pair` on the phase identity over `QP` (`C20Ring.extprod_phase_rpoly`): on the `P` rows the gadget vector
vanishes and `remC u ≡ u`. -/
theorem extprod_noise_digits (hps : ps ≠ []) (hco : (qs ++ ps).Pairwise Nat.Coprime)
    (sZ : List ℤ) (g : RPoly) (pgs : List RPoly) (smp0 smp1 : List (RPoly × RPoly))
    (dZ0 dZ1 eZ0 eZ1 : List (List ℤ)) (D0 D1 : List ℕ) (c0 c1 : RPoly) (B h : ℕ)
    (hsZ : sZ.length = n) (hgw : WFq (qs ++ ps) n g) (hpgs : WFlist (qs ++ ps) n pgs)
    (hpgP : ∀ x ∈ pgs, KS.partP qs.length x = RPoly.zero ps n)
    (hw0 : WFplist (qs ++ ps) n smp0) (hw1 : WFplist (qs ++ ps) n smp1)
    (hc0w : WFq qs n c0) (hc1w : WFq qs n c1) (h0 : pgs.length = smp0.length) (h1 : pgs.length = smp1.length)
    (hdl0 : ∀ d ∈ dZ0, d.length = n) (hdl1 : ∀ d ∈ dZ1, d.length = n)
    (hdb0 : Lattigo.Props.C20.RowBounded n dZ0 D0) (hdb1 : Lattigo.Props.C20.RowBounded n dZ1 D1)
    (hc0 : takeRows qs.length (wsumZ (RPoly.zero (qs ++ ps) n) (dZ0.map (RPoly.ofInts (qs ++ ps))) pgs)
      = constQ qs n (RPoly.prod ps) * c0)
    (hc1 : takeRows qs.length (wsumZ (RPoly.zero (qs ++ ps) n) (dZ1.map (RPoly.ofInts (qs ++ ps))) pgs)
      = constQ qs n (RPoly.prod ps) * c1)
    (he0 : smp0.map Prod.snd = eZ0.map (RPoly.ofInts (qs ++ ps)))
    (he1 : smp1.map Prod.snd = eZ1.map (RPoly.ofInts (qs ++ ps)))
    (hel0 : ∀ e ∈ eZ0, e.length = n) (hel1 : ∀ e ∈ eZ1, e.length = n)
    (heB0 : ∀ e ∈ eZ0, normInf e ≤ B) (heB1 : ∀ e ∈ eZ1, normInf e ≤ B) (hsn : norm1 sZ ≤ h) :
    ∃ νZ : List ℤ, νZ.length = n
      ∧ phase (extProd (RGSW.modDown qs ps) (RPoly.zero (qs ++ ps) n) (dZ0.map (RPoly.ofInts (qs ++ ps)))
            (dZ1.map (RPoly.ofInts (qs ++ ps))) (encrypt encZero (RPoly.ofInts (qs ++ ps) sZ) g pgs smp0 smp1))
          (takeRows qs.length (RPoly.ofInts (qs ++ ps) sZ))
          = takeRows qs.length g * phase (c0, c1) (takeRows qs.length (RPoly.ofInts (qs ++ ps) sZ))
            + RPoly.ofInts qs νZ
      ∧ 2 * (prodN ps * normInf νZ) ≤ 2 * (n * B * (D0.sum + D1.sum)) + prodN ps * (1 + h) := by
  have hgp : Good ps n := good_right hg
  have hs : WFq (qs ++ ps) n (RPoly.ofInts (qs ++ ps) sZ) := ofInts_wf _ hsZ
  have hd0 : WFlist (qs ++ ps) n (dZ0.map (RPoly.ofInts (qs ++ ps))) := fun x hx => by
    obtain ⟨v, hv, rfl⟩ := List.mem_map.mp hx
    exact ofInts_wf _ (hdl0 v hv)
  have hd1 : WFlist (qs ++ ps) n (dZ1.map (RPoly.ofInts (qs ++ ps))) := fun x hx => by
    obtain ⟨v, hv, rfl⟩ := List.mem_map.mp hx
    exact ofInts_wf _ (hdl1 v hv)
  obtain ⟨hphase, hp0, hp1, hb0, hb1⟩ := Lattigo.Props.C20Stack.extprod_phase_closed hps hco _ g pgs smp0 smp1
    _ _ c0 c1 hs hgw hpgs hw0 hw1 hd0 hd1 hc0w hc1w h0 h1 hc0 hc1
  obtain ⟨hu1, hu2⟩ := Lattigo.Props.C20Stack.extProdLazy_wf _ g pgs smp0 smp1 _ _ hs hgw hpgs hw0 hw1 hd0 hd1
  have hQP := extprod_phase_rpoly (qs := qs ++ ps) (n := n) _ g pgs smp0 smp1 _ _ _ _ hs hgw hpgs hw0 hw1 hd0 hd1
    h0 h1 rfl rfl
  -- the accumulator, its remainders and the error sum; from here on only their properties are used
  generalize extProdLazy (RPoly.zero (qs ++ ps) n) (dZ0.map (RPoly.ofInts (qs ++ ps)))
    (dZ1.map (RPoly.ofInts (qs ++ ps))) (encrypt encZero (RPoly.ofInts (qs ++ ps) sZ) g pgs smp0 smp1) = u
    at hphase hp0 hp1 hb0 hb1 hu1 hu2 hQP
  obtain ⟨hE0, hE0l⟩ := wsumRow_ofInts (qs := qs ++ ps) (n := n) dZ0 eZ0 hdl0 hel0
  obtain ⟨hE1, hE1l⟩ := wsumRow_ofInts (qs := qs ++ ps) (n := n) dZ1 eZ1 hdl1 hel1
  rw [← wsumZ_eq_wsumRow, ← he0] at hE0
  rw [← wsumZ_eq_wsumRow, ← he1] at hE1
  rw [hE0, hE1, ← ofInts_add _ _ hE0l hE1l] at hphase hQP
  have hρ0l : (cenZ (KS.partP qs.length u.1)).length = n := cenZ_length (partP_wf hu1) hps
  have hρ1l : (cenZ (KS.partP qs.length u.2)).length = n := cenZ_length (partP_wf hu2) hps
  have hEl := add_length _ _ hE0l hE1l
  have hEρl := sub_length _ _ hEl hρ0l
  have hsρl : (ZPoly.mul sZ (cenZ (KS.partP qs.length u.2))).length = n := by rw [mul_length, hsZ]
  have hh := partP_hom qs.length
  have hTP : KS.partP qs.length (g * (wsumZ (RPoly.zero (qs ++ ps) n) (dZ0.map (RPoly.ofInts (qs ++ ps))) pgs
      + wsumZ (RPoly.zero (qs ++ ps) n) (dZ1.map (RPoly.ofInts (qs ++ ps))) pgs * RPoly.ofInts (qs ++ ps) sZ))
      = RPoly.zero ps n := by
    rw [hh.mul, hh.add, hh.mul, partP_wsumZ_eq_zero _ _ hd0 hpgP, partP_wsumZ_eq_zero _ _ hd1 hpgP]
    exact congrArg val (show lift _ (partP_wf (qs := qs) hgw) * (0 + 0 * lift _ (partP_wf (qs := qs) hs))
      = (0 : WFPoly ps n) by ring)
  obtain ⟨hrel, hν⟩ := exact_div_pair (qs := qs) hco hEl hρ0l hρ1l hsZ hu1 hu2
    (hgw.mul ((wsumZ_wf _ _ hd0 hpgs).add ((wsumZ_wf _ _ hd1 hpgs).mul hs))) hp0 hp1 hTP hQP
  refine ⟨_, ?_, ?_, Lattigo.Props.C20.extprod_noise_bound n (prodN ps) B h dZ0 dZ1 eZ0 eZ1 D0 D1 _ _ _ sZ hdb0 hdb1
    heB0 heB1 hrel (two_normInf_le_of hb0) (two_normInf_le_of hb1) hsn⟩
  · rw [List.length_map]
    exact sub_length _ _ hEρl hsρl
  · rw [hphase, ← hν]
    simp only [remC, takeRows_ofInts]

set_option linter.unusedVariables false in  -- `hPodd` is not needed: 2|centeredRep M x| ≤ M for every M > 0
/-- `extprod_noise_digits` for the model's own digits and gadget vector: the recombination is `C20Stack.digitsOf_recombine`, the
digit bounds `digitsZ_bounded`, the `P` rows of the gadget vector `partP_pgElt`.  No IEEE hypothesis (the model's `modDown` and
`digitsGroup` reconstruct with `RPoly.crt`). -/
theorem extprod_noise_closed (hqs : qs ≠ []) (hps : ps ≠ []) (hco : (qs ++ ps).Pairwise Nat.Coprime)
    (hPodd : prodN ps % 2 = 1) (w : ℕ) (sZ : List ℤ) (g : RPoly) (smp0 smp1 : List (RPoly × RPoly))
    (eZ0 eZ1 : List (List ℤ)) (c0 c1 : RPoly) (B h : ℕ)
    (hsZ : sZ.length = n) (hgw : WFq (qs ++ ps) n g)
    (hw0 : WFplist (qs ++ ps) n smp0) (hw1 : WFplist (qs ++ ps) n smp1)
    (hc0w : WFq qs n c0) (hc1w : WFq qs n c1)
    (h0 : (pgList ⟨qs, ps, n, w⟩).length = smp0.length) (h1 : (pgList ⟨qs, ps, n, w⟩).length = smp1.length)
    (he0 : smp0.map Prod.snd = eZ0.map (RPoly.ofInts (qs ++ ps)))
    (he1 : smp1.map Prod.snd = eZ1.map (RPoly.ofInts (qs ++ ps)))
    (hel0 : ∀ e ∈ eZ0, e.length = n) (hel1 : ∀ e ∈ eZ1, e.length = n)
    (heB0 : ∀ e ∈ eZ0, normInf e ≤ B) (heB1 : ∀ e ∈ eZ1, normInf e ≤ B) (hsn : norm1 sZ ≤ h) :
    let p : Par := ⟨qs, ps, n, w⟩
    let s := RPoly.ofInts (qs ++ ps) sZ
    ∃ νZ : List ℤ, νZ.length = n
      ∧ phase (extProdR p (c0, c1) (encryptR p s g smp0 smp1)) (takeRows qs.length s)
          = takeRows qs.length g * phase (c0, c1) (takeRows qs.length s) + RPoly.ofInts qs νZ
      ∧ 2 * (prodN ps * normInf νZ)
          ≤ 2 * (n * B * ((digitBoundsR p).sum + (digitBoundsR p).sum)) + prodN ps * (1 + h) := by
  intro p s
  obtain ⟨hdb0, hdl0⟩ := digitsZ_bounded (ps := ps) hqs w hc0w
  obtain ⟨hdb1, hdl1⟩ := digitsZ_bounded (ps := ps) hqs w hc1w
  obtain ⟨_, hc0⟩ := Lattigo.Props.C20Stack.digitsOf_recombine (ps := ps) hqs (List.pairwise_append.1 hco).1 w hc0w
  obtain ⟨_, hc1⟩ := Lattigo.Props.C20Stack.digitsOf_recombine (ps := ps) hqs (List.pairwise_append.1 hco).1 w hc1w
  have hpgP : ∀ x ∈ pgList p, KS.partP qs.length x = RPoly.zero ps n := by
    intro x hx
    obtain ⟨⟨i, j⟩, _, rfl⟩ := List.mem_map.mp hx
    exact partP_pgElt w i j
  rw [Lattigo.Props.C20Stack.extProdR_modDown hps]
  rw [digitsOf_eq_ofInts] at hc0 hc1 ⊢
  rw [digitsOf_eq_ofInts]
  exact extprod_noise_digits hps hco sZ g (pgList p) smp0 smp1 _ _ eZ0 eZ1 _ _ c0 c1 B h hsZ hgw
    (pgList_wf p (hg := hg)) hpgP hw0 hw1 hc0w hc1w h0 h1 hdl0 hdl1 hdb0 hdb1 hc0 hc1 he0 he1 hel0 hel1 heB0 heB1 hsn

end prow

end Lattigo.RGSWNoise
