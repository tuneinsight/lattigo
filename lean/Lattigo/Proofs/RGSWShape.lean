/-
  C20 — the partition of the Q primes into RNS digits (`Par.group` of Model/RGSW.lean) is the greedy one:
  row `k` belongs to digit `k / gw` and to no other, and that digit exists; `gw`, `rowLen`, `rnsSize` in the two regimes
  (`#P ≤ 1`, `#P ≥ 2`); what `maskDigit` is in its two cases.
-/
import Lattigo.Model.RGSW
import Lattigo.Proofs.ListLemmas
import Mathlib.Tactic.Ring
import Mathlib.Tactic.Linarith

namespace Lattigo.RGSW

theorem Par.gw_pos (p : Par) : 0 < p.gw := by
  unfold Par.gw
  split
  · exact Nat.one_pos
  · next h => exact Nat.pos_of_ne_zero h

theorem Par.group_eq (p : Par) (i : Nat) :
    p.group i = List.range' (i * p.gw) (min p.gw (p.qsQ.length - i * p.gw)) := by
  unfold Par.group
  rw [← List.range'_eq_map_range, ListLemmas.range'_filter_lt]

theorem Par.mem_group_iff (p : Par) (i k : Nat) :
    k ∈ p.group i ↔ k < p.qsQ.length ∧ k / p.gw = i := by
  rw [p.group_eq, ListLemmas.mem_range'_block p.gw_pos]

theorem Par.gw_of_ne_zero (p : Par) (h : p.nP ≠ 0) : p.gw = p.nP := if_neg h

theorem Par.gw_of_le_one (p : Par) (h : p.nP ≤ 1) : p.gw = 1 := by
  unfold Par.gw; split <;> omega

theorem Par.rowLen_ge2 (p : Par) (h : ¬ p.nP ≤ 1) (i : Nat) : p.rowLen i = 1 := by
  unfold Par.rowLen; rw [if_pos (Or.inr (by omega))]

theorem Par.rnsSize_of_le_one (p : Par) (hq : p.qsQ ≠ []) (h : p.nP ≤ 1) : p.rnsSize = p.qsQ.length := by
  have := List.length_pos_iff.mpr hq
  unfold Par.rnsSize
  split
  · rfl
  · rw [(by omega : p.nP = 1), Nat.div_one]; omega

theorem Par.start_lt_of_lt_rnsSize (p : Par) (h : p.nP ≠ 0) (hq : p.qsQ ≠ []) {i : Nat} (hi : i < p.rnsSize) :
    i * p.nP < p.qsQ.length := by
  have := List.length_pos_iff.mpr hq
  unfold Par.rnsSize at hi
  rw [if_neg h] at hi
  have := (Nat.le_div_iff_mul_le (Nat.pos_of_ne_zero h)).mp (Nat.succ_le_of_lt hi)
  rw [Nat.succ_mul] at this
  omega

theorem Par.group_partition (p : Par) (k : Nat) (hk : k < p.qsQ.length) :
    k ∈ p.group (k / p.gw) ∧ k / p.gw < p.rnsSize ∧ ∀ i, k ∈ p.group i → i = k / p.gw := by
  refine ⟨(p.mem_group_iff _ _).mpr ⟨hk, rfl⟩, ?_, fun i hi => ((p.mem_group_iff _ _).mp hi).2.symm⟩
  unfold Par.rnsSize Par.gw
  by_cases h0 : p.nP = 0
  · rw [if_pos h0, if_pos h0, Nat.div_one]; exact hk
  · rw [if_neg h0, if_neg h0]
    have hp : 0 < p.nP := Nat.pos_of_ne_zero h0
    calc k / p.nP < k / p.nP + 1 := Nat.lt_succ_self _
      _ = (k + p.nP) / p.nP := (Nat.add_div_right k hp).symm
      _ ≤ (p.qsQ.length - 1 + p.nP) / p.nP := Nat.div_le_div_right (by omega)

/-- the shapes where greedy and balanced differ (tests) -/
example : (Par.group { qsQ := [3, 5, 7, 11], qsP := [13, 17, 19], n := 2, w := 0 } 0 = [0, 1, 2]) ∧
    (Par.group { qsQ := [3, 5, 7, 11], qsP := [13, 17, 19], n := 2, w := 0 } 1 = [3]) ∧
    (Par.rnsSize { qsQ := [3, 5, 7, 11], qsP := [13, 17, 19], n := 2, w := 0 } = 2) ∧
    (Par.group { qsQ := [3, 5, 7, 11, 23, 29, 31], qsP := [13, 17, 19, 37, 41], n := 2, w := 0 } 1 = [5, 6]) := by
  decide

theorem maskDigit_zero {w : Nat} (hw : w = 0) (j : Nat) (row : List Nat) : maskDigit w j row = row := if_pos hw

theorem maskDigit_pos {w : Nat} (hw : w ≠ 0) (j : Nat) (row : List Nat) :
    maskDigit w j row = row.map fun x => (x / 2 ^ (j * w)) % 2 ^ w := if_neg hw

theorem maskDigit_length (w j : Nat) (row : List Nat) : (maskDigit w j row).length = row.length := by
  unfold maskDigit
  split
  · rfl
  · exact List.length_map _

end Lattigo.RGSW
