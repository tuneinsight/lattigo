/-
  C03 — algebra of the RLWE encryption model (`Model/RLWE.lean`) over an arbitrary commutative ring: decryption is the
  phase `Σ c_i s^i`, each `EncryptZero` variant writes a list whose phase is its noise, and `Decrypt ∘ Encrypt` per key
  kind follows from one lemma (`encrypt_decrypt`).  The `…_gen` theorems are the statements of `Props/C03`
  (`dec_enc_pk_P`: `dec_enc_pk_P_gen` with `pk_P_noise`); `Props/C03Ring`
  instantiates them on the executable carriers.  At the end: `RQ.extSmall` is exact on small integer polynomials, and
  the acceptance rule `RQ.acceptsBounds` guarantees smallness.
-/
import Lattigo.Model.RLWE
import Mathlib.Tactic.Ring
import Mathlib.Algebra.Ring.Hom.Defs

set_option linter.unusedSectionVars false

namespace Lattigo.RLWE

variable {α : Type} [CommRing α]

/-- `M` really is the Montgomery conversion by the unit `R` -/
structure IsMont (M : Mont α) (R Rinv : α) : Prop where
  inv : R * Rinv = 1
  toM : ∀ x, M.toM x = x * R
  ofM : ∀ x, M.ofM x = x * Rinv

/-- the specification of decryption: `Σ c_i s^i` -/
def phase (s : α) : List α → α
  | [] => 0
  | c :: cs => c + s * phase s cs

/-- the polynomial a stored value denotes under the metadata: Montgomery factor removed iff flagged -/
def denote {μ : Type} (M : Mont α) (md : MetaData μ) (x : α) : α := if md.isMont then M.ofM x else x

theorem mulMont_toM {M : Mont α} {R Rinv : α} (h : IsMont M R Rinv) (x s : α) :
    mulMont M x (M.toM s) = x * s := by
  unfold mulMont
  rw [h.ofM, h.toM]
  calc x * (s * R) * Rinv = x * s * (R * Rinv) := by ring
    _ = x * s := by rw [h.inv, mul_one]

theorem ofM_toM {M : Mont α} {R Rinv : α} (h : IsMont M R Rinv) (x : α) : M.ofM (M.toM x) = x := by
  rw [h.ofM, h.toM, mul_assoc, h.inv, mul_one]

theorem toM_ofM {M : Mont α} {R Rinv : α} (h : IsMont M R Rinv) (x : α) : M.toM (M.ofM x) = x := by
  rw [h.toM, h.ofM, mul_assoc, mul_comm Rinv R, h.inv, mul_one]

theorem toM_add {M : Mont α} {R Rinv : α} (h : IsMont M R Rinv) (x y : α) :
    M.toM (x + y) = M.toM x + M.toM y := by simp only [h.toM]; ring

theorem ofM_add {M : Mont α} {R Rinv : α} (h : IsMont M R Rinv) (x y : α) :
    M.ofM (x + y) = M.ofM x + M.ofM y := by simp only [h.ofM]; ring

theorem montIf_add {M : Mont α} {R Rinv : α} (h : IsMont M R Rinv) (b : Bool) (x y : α) :
    montIf M b (x + y) = montIf M b x + montIf M b y := by
  cases b <;> simp [montIf, toM_add h]

theorem denote_montIf {μ : Type} {M : Mont α} {R Rinv : α} (h : IsMont M R Rinv) (md : MetaData μ) (x : α) :
    denote M md (montIf M md.isMont x) = x := by
  unfold denote montIf
  cases md.isMont <;> simp [ofM_toM h]

theorem denote_add {μ : Type} {M : Mont α} {R Rinv : α} (h : IsMont M R Rinv) (md : MetaData μ) (x y : α) :
    denote M md (x + y) = denote M md x + denote M md y := by
  unfold denote
  cases md.isMont <;> simp [ofM_add h]

theorem phase_clear (s : α) (l : List α) : phase s (l.map fun o => o - o) = 0 := by
  induction l with
  | nil => rfl
  | cons x xs ih =>
    show (x - x) + s * phase s (xs.map fun o => o - o) = 0
    rw [ih, sub_self, mul_zero, add_zero]

theorem phase_snoc_step (s x c : α) (l : List α) :
    phase s (l ++ [x * s + c]) = phase s (l ++ [c, x]) := by
  induction l with
  | nil => simp [phase]; ring
  | cons d l ih => simp [phase, ih]

theorem foldl_horner {M : Mont α} {R Rinv : α} (h : IsMont M R Rinv) (s : α) (rest : List α) (top : α) :
    rest.foldl (fun acc c => mulMont M acc (M.toM s) + c) top = phase s (rest.reverse ++ [top]) := by
  induction rest generalizing top with
  | nil => simp [phase]
  | cons c r ih =>
    simp only [List.foldl_cons, List.reverse_cons, List.append_assoc, List.cons_append, List.nil_append]
    rw [ih, mulMont_toM h, phase_snoc_step]

/-- `Decryptor.Decrypt` computes `Σ c_i s^i` on the stored values (whatever the flags say) -/
theorem hornerMont_eq_phase {M : Mont α} {R Rinv : α} (h : IsMont M R Rinv) (s : α) (ct : List α)
    (hne : ct ≠ []) : hornerMont M (M.toM s) ct.reverse = some (phase s ct) := by
  cases hrev : ct.reverse with
  | nil => simp at hrev; exact absurd hrev hne
  | cons top rest =>
    have : ct = rest.reverse ++ [top] := by
      have := congrArg List.reverse hrev; simpa using this
    simp [hornerMont, foldl_horner h, this]

theorem decrypt_eq {μ : Type} {M : Mont α} {R Rinv : α} (h : IsMont M R Rinv) (s : α) (ct : Ct α μ)
    (hne : ct.value ≠ []) :
    decrypt M ct (M.toM s) = some { value := phase s ct.value, md := ct.md } := by
  simp [decrypt, hornerMont_eq_phase h s ct.value hne]

theorem decrypt_none {μ : Type} (M : Mont α) (sM : α) (md : MetaData μ) :
    decrypt M ({ value := [], md := md } : Ct α μ) sM = none := by
  simp [decrypt, hornerMont]

theorem encryptZeroSk_deg0 {M : Mont α} {R Rinv : α} (h : IsMont M R Rinv) (isMont : Bool) (o0 a e s : α) :
    encryptZeroSk M isMont [o0] a e (M.toM s) = some [-(a * s) + montIf M isMont e] := by
  simp [encryptZeroSk, mulMont_toM h]

theorem encryptZeroSk_degGe1 {M : Mont α} {R Rinv : α} (h : IsMont M R Rinv) (isMont : Bool)
    (o0 o1 a e s : α) (rest : List α) :
    encryptZeroSk M isMont (o0 :: o1 :: rest) a e (M.toM s)
      = some ((-(a * s) + montIf M isMont e) :: a :: rest) := by
  simp [encryptZeroSk, mulMont_toM h]

theorem ezSk_degGe1 {μ : Type} {M : Mont α} {R Rinv : α} (h : IsMont M R Rinv) (md : MetaData μ)
    (o0 o1 a e s : α) (rest : List α) :
    ezSk M a e (M.toM s) md (o0 :: o1 :: rest)
      = some ((-(a * s) + montIf M md.isMont e) :: a :: rest.map (fun o => o - o)) := by
  simp [ezSk, clearTail, encryptZeroSk_degGe1 h]

theorem ezSk_deg0 {μ : Type} {M : Mont α} {R Rinv : α} (h : IsMont M R Rinv) (md : MetaData μ) (o0 a e s : α) :
    ezSk M a e (M.toM s) md [o0] = some [-(a * s) + montIf M md.isMont e] := by
  simp [ezSk, clearTail, encryptZeroSk_deg0 h]

theorem phase_encSk_tail (a e s m : α) (rest : List α) :
    phase s ((-(a * s) + e + m) :: a :: rest.map (fun o => o - o)) = m + e := by
  simp only [phase, phase_clear]; ring

theorem phase_encSk_wrong_key_tail (a e s s' m : α) (rest : List α) :
    phase s' ((-(a * s) + e + m) :: a :: rest.map (fun o => o - o)) - m = e + a * (s' - s) := by
  simp only [phase, phase_clear]; ring

theorem phase_encSk (a e s m : α) : phase s [-(a * s) + e + m, a] = m + e :=
  phase_encSk_tail a e s m []

theorem phase_encSk_wrong_key (a e s s' m : α) :
    phase s' [-(a * s) + e + m, a] - m = e + a * (s' - s) :=
  phase_encSk_wrong_key_tail a e s s' m []

/-- `GenPublicKey`: the stored key is the Montgomery form of `(−a'·s + e, a')`, `a' = a·R⁻¹` -/
theorem genPublicKey_eq {γ β : Type} [CommRing β] {M : Mont β} {R Rinv : β} (h : IsMont M R Rinv)
    (ext : γ → β) (a : β) (e : γ) (s : β) :
    genPublicKey M ext a e (M.toM s) = (M.toM (-(M.ofM a * s) + ext e), M.toM (M.ofM a)) := by
  unfold genPublicKey encryptZeroSkQP
  have h1 : mulMont M a (M.toM s) = a * s := mulMont_toM h a s
  rw [h1]
  rw [toM_ofM h]
  congr 1
  rw [h.toM, h.toM, h.ofM]
  calc ext e * R - a * s = ext e * R - a * s * (R * Rinv) := by rw [h.inv, mul_one]
    _ = (-(a * Rinv * s) + ext e) * R := by ring

theorem genPublicKey_relation {γ β : Type} [CommRing β] {M : Mont β} {R Rinv : β} (h : IsMont M R Rinv)
    (ext : γ → β) (a : β) (e : γ) (s : β) :
    let pk := genPublicKey M ext a e (M.toM s)
    M.ofM pk.1 + M.ofM pk.2 * s = ext e := by
  intro pk
  have : pk = (M.toM (-(M.ofM a * s) + ext e), M.toM (M.ofM a)) := genPublicKey_eq h ext a e s
  rw [this]
  simp only [ofM_toM h]
  ring

theorem encryptZeroPkNoP_degGe1 {M : Mont α} {R Rinv : α} (h : IsMont M R Rinv) (isMont : Bool)
    (o0 o1 u e0 e1 pk0 pk1 : α) (rest : List α) :
    encryptZeroPkNoP M isMont (o0 :: o1 :: rest) u e0 e1 (M.toM pk0) (M.toM pk1)
      = some (montIf M isMont (u * pk0 + e0) :: montIf M isMont (u * pk1 + e1) :: rest) := by
  simp [encryptZeroPkNoP, mulMont_toM h]

theorem ezPkNoP_degGe1 {μ : Type} {M : Mont α} {R Rinv : α} (h : IsMont M R Rinv) (md : MetaData μ)
    (o0 o1 u e0 e1 pk0 pk1 : α) (rest : List α) :
    ezPkNoP M u e0 e1 (M.toM pk0) (M.toM pk1) md (o0 :: o1 :: rest)
      = some (montIf M md.isMont (u * pk0 + e0) :: montIf M md.isMont (u * pk1 + e1) ::
              rest.map (fun o => o - o)) := by
  simp [ezPkNoP, clearTail, encryptZeroPkNoP_degGe1 h]

theorem encryptZeroPkNoP_deg0 (M : Mont α) (isMont : Bool) (o : List α) (ho : o.length ≤ 1)
    (u e0 e1 pk0M pk1M : α) :
    encryptZeroPkNoP M isMont o u e0 e1 pk0M pk1M = none := by
  match o, ho with
  | [], _ => rfl
  | [_], _ => rfl

theorem phase_montIf_pair {M : Mont α} {R Rinv : α} (h : IsMont M R Rinv) (b : Bool) (d0 d1 s m : α)
    (rest : List α) :
    phase s ((montIf M b d0 + m) :: montIf M b d1 :: rest.map (fun o => o - o)) = m + montIf M b (d0 + s * d1) := by
  simp only [phase, phase_clear]
  cases b
  · simp only [montIf, Bool.false_eq_true, if_false]; ring
  · simp only [montIf, if_true, h.toM]; ring

theorem phase_encPk_tail {M : Mont α} {R Rinv : α} (h : IsMont M R Rinv) (b : Bool)
    (u e0 e1 pk0 pk1 s epk m : α) (rest : List α) (hpk : pk0 + pk1 * s = epk) :
    phase s ((montIf M b (u * pk0 + e0) + m) :: montIf M b (u * pk1 + e1) :: rest.map (fun o => o - o))
      = m + montIf M b (u * epk + e0 + e1 * s) := by
  subst hpk
  rw [phase_montIf_pair h]
  congr 2
  ring

theorem phase_encPk (u e0 e1 pk0 pk1 s epk m : α) (hpk : pk0 + pk1 * s = epk) :
    phase s [u * pk0 + e0 + m, u * pk1 + e1] = m + u * epk + e0 + e1 * s := by
  subst hpk; simp [phase]; ring

section withP
variable {β : Type} [CommRing β]

theorem encryptZeroPk_degGe1 {MQ : Mont α} {MQP : Mont β} {R' Rinv' : β} (h' : IsMont MQP R' Rinv')
    (ext : α → β) (down : β → α) (isMont : Bool) (o0 o1 u e0 e1 : α) (rest : List α) (pk0 pk1 : β) :
    encryptZeroPk MQ MQP ext down isMont (o0 :: o1 :: rest) u e0 e1 (MQP.toM pk0) (MQP.toM pk1)
      = some (montIf MQ isMont (down (ext u * pk0 + ext e0)) ::
              montIf MQ isMont (down (ext u * pk1 + ext e1)) :: rest) := by
  simp [encryptZeroPk, mulMont_toM h']

theorem encryptZeroPk_deg0 (MQ : Mont α) (MQP : Mont β) (ext : α → β) (down : β → α) (isMont : Bool)
    (o : List α) (ho : o.length ≤ 1) (u e0 e1 : α) (pk0M pk1M : β) :
    encryptZeroPk MQ MQP ext down isMont o u e0 e1 pk0M pk1M = none := by
  match o, ho with
  | [], _ => rfl
  | [_], _ => rfl

theorem ezPk_degGe1 {μ : Type} {MQ : Mont α} {MQP : Mont β} {R' Rinv' : β} (h' : IsMont MQP R' Rinv')
    (ext : α → β) (down : β → α) (md : MetaData μ) (o0 o1 u e0 e1 : α) (rest : List α) (pk0 pk1 : β) :
    ezPk MQ MQP ext down u e0 e1 (MQP.toM pk0) (MQP.toM pk1) md (o0 :: o1 :: rest)
      = some (montIf MQ md.isMont (down (ext u * pk0 + ext e0)) ::
              montIf MQ md.isMont (down (ext u * pk1 + ext e1)) :: rest.map (fun o => o - o)) := by
  simp only [ezPk, clearTail]
  exact encryptZeroPk_degGe1 h' ext down md.isMont o0 o1 u e0 e1 _ pk0 pk1

/-- `hdown` is the rounded division (`rem x` the centred residue of `x` mod `P`).  Then `P` times the decryption
    error `down c0 + s·down c1` is the QP-noise minus the two residues. -/
theorem pk_P_noise (π : β →+* α) (P : α) (down : β → α) (rem : β → β)
    (hdown : ∀ x, P * down x = π x - π (rem x))
    (U E0 E1 pk0 pk1 sQP epk : β) (hpk : pk0 + pk1 * sQP = epk) :
    P * (down (U * pk0 + E0) + π sQP * down (U * pk1 + E1))
      = π (U * epk + E0 + E1 * sQP) - π (rem (U * pk0 + E0)) - π (rem (U * pk1 + E1)) * π sQP := by
  subst hpk
  calc P * (down (U * pk0 + E0) + π sQP * down (U * pk1 + E1))
      = P * down (U * pk0 + E0) + π sQP * (P * down (U * pk1 + E1)) := by ring
    _ = (π (U * pk0 + E0) - π (rem (U * pk0 + E0)))
          + π sQP * (π (U * pk1 + E1) - π (rem (U * pk1 + E1))) := by rw [hdown, hdown]
    _ = _ := by simp only [map_add, map_mul]; ring

end withP

theorem addPtToCt_same {ntt intt : α → α} (b : Bool) (m c0 : α) (rest : List α) :
    addPtToCt ntt intt b b m (c0 :: rest) = (c0 + m) :: rest := by
  cases b <;> simp [addPtToCt]

/-- `Encrypt` copies the plaintext's metadata before `addPtToCt`, so the two flags agree there and the
    mixed (wrong-direction) branches are never taken: the result does not depend on `ntt`/`intt`. -/
theorem encrypt_flags_agree {μ : Type} (ez : MetaData μ → List α → Option (List α)) (ntt intt ntt' intt' : α → α)
    (pt : Option (Pt α μ)) (ct : Ct α μ) : encrypt ez ntt intt pt ct = encrypt ez ntt' intt' pt ct := by
  cases pt with
  | none => rfl
  | some pt =>
    simp only [encrypt]
    cases ez pt.md ct.value with
    | none => rfl
    | some v =>
      cases hb : pt.md.isNTT <;> cases v <;> simp [addPtToCt]

/-- what the mixed branch would do: an NTT-domain plaintext added to a coefficient-domain ciphertext is
    transformed by `ntt` once more (the correct transform is `intt`). -/
theorem addPtToCt_mixed (ntt intt : α → α) (m c0 : α) (rest : List α) :
    addPtToCt ntt intt true false m (c0 :: rest) = (c0 + ntt m) :: rest := by
  simp [addPtToCt]

theorem encrypt_md {μ : Type} (ez : MetaData μ → List α → Option (List α)) (ntt intt : α → α)
    (pt : Pt α μ) (ct ct' : Ct α μ) (h : encrypt ez ntt intt (some pt) ct = some ct') : ct'.md = pt.md := by
  simp only [encrypt, Option.map_eq_some_iff] at h
  obtain ⟨v, _, hv⟩ := h
  rw [← hv]

theorem encrypt_value {μ : Type} (ez : MetaData μ → List α → Option (List α)) (ntt intt : α → α)
    (pt : Pt α μ) (ct : Ct α μ) (c0 : α) (rest : List α) (h : ez pt.md ct.value = some (c0 :: rest)) :
    encrypt ez ntt intt (some pt) ct = some { value := (c0 + pt.value) :: rest, md := pt.md } := by
  simp [encrypt, h, addPtToCt_same]

theorem decrypt_md {μ : Type} (M : Mont α) (ct : Ct α μ) (sM : α) (pt : Pt α μ)
    (h : decrypt M ct sM = some pt) : pt.md = ct.md := by
  simp only [decrypt, Option.map_eq_some_iff] at h
  obtain ⟨v, _, hv⟩ := h
  rw [← hv]

section encdec
variable {μ : Type} {M : Mont α} {R Rinv : α}

/-- The statements per key kind below are this one with the variant's output (`ezSk_degGe1`, …) and its phase
(`phase_encSk_tail`, …) put in. -/
theorem encrypt_decrypt (h : IsMont M R Rinv) (ez : MetaData μ → List α → Option (List α)) (ntt intt : α → α)
    (pt : Pt α μ) (ct : Ct α μ) (c0 : α) (rest : List α) (hz : ez pt.md ct.value = some (c0 :: rest)) (s : α) :
    (encrypt ez ntt intt (some pt) ct).bind (fun ct' => decrypt M ct' (M.toM s))
      = some { value := phase s ((c0 + pt.value) :: rest), md := pt.md } := by
  rw [encrypt_value _ ntt intt pt ct _ _ hz, Option.bind_some, decrypt_eq h s _ (List.cons_ne_nil _ _)]

/-! every target of degree ≥ 1, fresh or re-used (`o0`, `o1`, `rest` arbitrary) -/
variable (h : IsMont M R Rinv) (ntt intt : α → α) (pt : Pt α μ) (ct : Ct α μ) (o0 o1 : α) (rest : List α)
  (hct : ct.value = o0 :: o1 :: rest)
include h hct

theorem dec_enc_sk_gen (a e s : α) :
    (encrypt (ezSk M a e (M.toM s)) ntt intt (some pt) ct).bind (fun ct' => decrypt M ct' (M.toM s))
      = some { value := pt.value + montIf M pt.md.isMont e, md := pt.md } := by
  rw [encrypt_decrypt h _ ntt intt pt ct _ _ (hct ▸ ezSk_degGe1 h pt.md o0 o1 a e s rest), phase_encSk_tail]

theorem wrong_key_gen (a e s s' : α) :
    ∃ out, (encrypt (ezSk M a e (M.toM s)) ntt intt (some pt) ct).bind (fun ct' => decrypt M ct' (M.toM s'))
        = some out ∧ out.value - pt.value = montIf M pt.md.isMont e + a * (s' - s) ∧ out.md = pt.md :=
  ⟨_, encrypt_decrypt h _ ntt intt pt ct _ _ (hct ▸ ezSk_degGe1 h pt.md o0 o1 a e s rest) s',
    phase_encSk_wrong_key_tail a _ s s' pt.value rest, rfl⟩

theorem dec_enc_pk_noP_gen (u e0 e1 pk0 pk1 epk s : α) (hpk : pk0 + pk1 * s = epk) :
    (encrypt (ezPkNoP M u e0 e1 (M.toM pk0) (M.toM pk1)) ntt intt (some pt) ct).bind
        (fun ct' => decrypt M ct' (M.toM s))
      = some { value := pt.value + montIf M pt.md.isMont (u * epk + e0 + e1 * s), md := pt.md } := by
  rw [encrypt_decrypt h _ ntt intt pt ct _ _ (hct ▸ ezPkNoP_degGe1 h pt.md o0 o1 u e0 e1 pk0 pk1 rest),
    phase_encPk_tail h _ u e0 e1 pk0 pk1 s epk pt.value rest hpk]

theorem dec_enc_pk_P_gen {β : Type} [CommRing β] {MQP : Mont β} {R' Rinv' : β} (h' : IsMont MQP R' Rinv')
    (ext : α → β) (down : β → α) (u e0 e1 s : α) (pk0 pk1 : β) :
    (encrypt (ezPk M MQP ext down u e0 e1 (MQP.toM pk0) (MQP.toM pk1)) ntt intt (some pt) ct).bind
        (fun ct' => decrypt M ct' (M.toM s))
      = some { value := pt.value + montIf M pt.md.isMont
                 (down (ext u * pk0 + ext e0) + s * down (ext u * pk1 + ext e1)),
               md := pt.md } := by
  rw [encrypt_decrypt h _ ntt intt pt ct _ _ (hct ▸ ezPk_degGe1 h' ext down pt.md o0 o1 u e0 e1 rest pk0 pk1),
    phase_montIf_pair h]

end encdec

/-! ### `ExtendBasisSmallNormAndCenter` is exact on small values; the acceptance rule guarantees smallness -/

/-- one coefficient: a value with `2|x| < q₀`, stored as its residue modulo `q₀`, is re-centred and reduced
    modulo `p` to its residue modulo `p` — for EVERY `p > 0` (the code reduces the magnitude modulo `p`, so `|x|`
    may exceed `p`) -/
theorem ext_coeff (q0 p : ℕ) (x : ℤ) (hp : 0 < p) (h1 : 2 * x.natAbs < q0) :
    (if (x % (q0 : ℤ)).toNat > q0 / 2 then (p - (q0 - (x % (q0 : ℤ)).toNat) % p) % p
      else (x % (q0 : ℤ)).toNat % p) = (x % (p : ℤ)).toNat := by
  obtain ⟨m, rfl | rfl⟩ := x.eq_nat_or_neg
  · rw [Int.natAbs_natCast] at h1
    rw [Int.emod_eq_of_lt (Int.natCast_nonneg m) (by omega), Int.toNat_natCast, if_neg (by omega), ← Int.natCast_mod,
      Int.toNat_natCast]
  · rw [Int.natAbs_neg, Int.natAbs_natCast] at h1
    rcases Nat.eq_zero_or_pos m with rfl | hm
    · simp
    · -- the residue of `−m` modulo `q₀` is `q₀ − m > q₀/2`; modulo `p` it is `p − m mod p` unless `p ∣ m`
      have e1 : (-(m : ℤ)) % q0 = ((q0 - m : ℕ) : ℤ) := by
        rw [Int.neg_emod_eq_sub_emod, Int.emod_eq_of_lt (by omega) (by omega)]; omega
      have hlt := Nat.mod_lt m hp
      rw [e1, Int.toNat_natCast, if_pos (by omega), show q0 - (q0 - m) = m by omega, Int.neg_emod, ← Int.natCast_mod,
        Int.natAbs_natCast]
      split
      · next h0 =>
        rw [Nat.mod_eq_zero_of_dvd (Int.natCast_dvd_natCast.1 h0), Nat.sub_zero, Nat.mod_self]; rfl
      · next h0 =>
        have : m % p ≠ 0 := fun h => h0 (Int.natCast_dvd_natCast.2 (Nat.dvd_of_mod_eq_zero h))
        rw [Nat.mod_eq_of_lt (by omega)]; omega

/-- `ExtendBasisSmallNormAndCenter` of the reduction modulo `Q` of an integer vector with `2|x| < q₀` is its reduction
    modulo `Q ++ P`: all limbs, Q and P, are limbs of ONE integer polynomial. -/
theorem RQ.extSmall_ofInts (ci : Bool) (q0 : ℕ) (qs ps : List ℕ) (hps : ∀ p ∈ ps, 0 < p) (v : List ℤ)
    (h1 : ∀ x ∈ v, 2 * x.natAbs < q0) :
    RQ.extSmall ps ⟨ci, RPoly.ofInts (q0 :: qs) v⟩ = ⟨ci, RPoly.ofInts ((q0 :: qs) ++ ps) v⟩ := by
  show (⟨ci, { qs := (q0 :: qs) ++ ps, c := (RPoly.ofInts (q0 :: qs) v).c ++ ps.map _ }⟩ : RQ) = _
  show _ = (⟨ci, { qs := (q0 :: qs) ++ ps, c := ((q0 :: qs) ++ ps).map _ }⟩ : RQ)
  congr 2
  rw [List.map_append]
  congr 1
  apply List.map_congr_left
  intro p hp
  show ((RPoly.ofInts (q0 :: qs) v).c.headD []).map _ = _
  show (v.map fun (x : ℤ) => (x % (q0 : ℤ)).toNat).map _ = _
  rw [List.map_map]
  apply List.map_congr_left
  intro x hx
  exact ext_coeff q0 p x (hps p hp) (h1 x hx)

/-- If `NewParameters` accepts the distribution bounds on a chain with an auxiliary modulus, then every error
    polynomial within the error bound and every secret / ephemeral-secret polynomial within the secret bound is
    extended to `P` EXACTLY by `extSmall` — at every level (limb 0 belongs to every level) and for both ring types. -/
theorem RQ.accepted_ext_exact (q0 : ℕ) (qs ps : List ℕ) (hps : ∀ p ∈ ps, 0 < p) (be2 bs2 : ℕ)
    (hacc : RQ.acceptsBounds q0 true be2 bs2 = true) (ci : Bool) (v : List ℤ)
    (hv : (∀ x ∈ v, 2 * x.natAbs ≤ be2) ∨ (∀ x ∈ v, 2 * x.natAbs ≤ bs2)) :
    RQ.extSmall ps ⟨ci, RPoly.ofInts (q0 :: qs) v⟩ = ⟨ci, RPoly.ofInts ((q0 :: qs) ++ ps) v⟩ := by
  simp only [RQ.acceptsBounds, Bool.not_true, Bool.false_or, Bool.and_eq_true, decide_eq_true_eq] at hacc
  apply RQ.extSmall_ofInts ci q0 qs ps hps v
  intro x hx
  rcases hv with h | h
  · exact Nat.lt_of_le_of_lt (h x hx) hacc.1
  · exact Nat.lt_of_le_of_lt (h x hx) hacc.2

/-- the rule is sharp: a bound that reaches `q₀/2` admits a value whose extension is WRONG
    (`q₀ = 5`, `p = 7`, `x = 3`: limb 0 holds 3 ≡ −2, the extension writes −2 mod 7 = 5 ≠ 3). -/
theorem RQ.rejected_ext_wrong :
    RQ.acceptsBounds 5 true 6 2 = false ∧
    RQ.extSmall [7] ⟨false, RPoly.ofInts [5] [3]⟩ ≠ ⟨false, RPoly.ofInts ([5] ++ [7]) [3]⟩ := by
  decide

end Lattigo.RLWE
