/-
  C03 — the conjugate-invariant carrier (`RQ` with `ci = true`).

  `Z_q[X + X⁻¹]/(X^{2n}+1)`: a row of `n` coefficients `c` stands for `c_0 + Σ_{i≥1} c_i (X^i + X^{-i})`,
  i.e. for the row `E c = (c_0, …, c_{n-1}, 0, −c_{n-1}, …, −c_1)` of `Z_q[X]/(X^{2n}+1)` (`RQ.ciRowEmbed`), and the
  product of the model is `take n (E a · E b)` (`RQ.ciRowMul`).  Proved here, for every odd `q ≥ 3` and `n ≥ 1`:

  * the rows `E c` are exactly the rows fixed by the conjugation `X ↦ X⁻¹ = X^{4n−1}` (`emb_fixed`,
    `shape_of_fixed`); hence the fixed rows are closed under the ring operations and `E (ciRowMul a b) = E a · E b`;
  * the well-formed conjugate-invariant values are the image of the SUBRING `Fix` of `WFPoly qs (2n)` fixed by
    `autRingHom (4n−1)` under an operation-preserving map `foldC` (`foldC_hom`, `foldC_montHom`, `exists_foldC`), so
    every identity of `Proofs/RLWE.lean` (a commutative ring is all they need) holds on this carrier.
-/
import Lattigo.Proofs.RPolyTransport
import Lattigo.Proofs.RLWE
import Mathlib.Data.List.GetD

set_option linter.unusedSectionVars false

namespace Lattigo.RLWECI
open Lattigo Lattigo.RLWE Lattigo.RPolyRing Lattigo.Transport Polynomial Finset

/-- `−c mod q` as the model writes it -/
def ng (q c : ℕ) : ℕ := (q - c % q) % q

/-- `E c` by index -/
def emb (q n : ℕ) (x : List ℕ) : List ℕ :=
  (List.range (2 * n)).map fun k => if k < n then x.getD k 0 else if k = n then 0 else ng q (x.getD (2 * n - k) 0)

/-- the conjugate of a row of length `m`: `(w_0, −w_{m−1}, …, −w_1)` -/
def conj (q m : ℕ) (w : List ℕ) : List ℕ :=
  (List.range m).map fun k => if k = 0 then w.getD 0 0 else ng q (w.getD (m - k) 0)

theorem emb_length (q n : ℕ) (x : List ℕ) : (emb q n x).length = 2 * n := by
  rw [emb, List.length_map, List.length_range]
theorem conj_length (q m : ℕ) (w : List ℕ) : (conj q m w).length = m := by
  rw [conj, List.length_map, List.length_range]

theorem ng_lt {q : ℕ} (hq : 0 < q) (c : ℕ) : ng q c < q := Nat.mod_lt _ hq

theorem ng_ng {q c : ℕ} (hc : c < q) : ng q (ng q c) = c := by
  unfold ng
  rw [Nat.mod_eq_of_lt hc]
  by_cases h0 : c = 0
  · subst h0; simp
  · rw [Nat.mod_eq_of_lt (by omega : q - c < q), Nat.mod_eq_of_lt (by omega : q - c < q)]
    rw [Nat.mod_eq_of_lt (by omega)]; omega

theorem ng_zero (q : ℕ) : ng q 0 = 0 := by simp [ng]

theorem ng_self_zero {q c : ℕ} (hodd : q % 2 = 1) (hc : c < q) (h : ng q c = c) : c = 0 := by
  unfold ng at h
  rw [Nat.mod_eq_of_lt hc] at h
  by_cases h0 : c = 0
  · exact h0
  · rw [Nat.mod_eq_of_lt (by omega)] at h; omega

/-- `ciRowEmbed q (a :: tl) = (a :: tl) ++ 0 :: (tl.reverse).map (−·)` and `emb` agree index by index: the three
zones `k < n`, `k = n`, `k > n` of `emb` are the left part, the head and the tail of the right part of the append -/
theorem ciRowEmbed_eq (q : ℕ) (x : List ℕ) : RQ.ciRowEmbed q x = emb q x.length x := by
  cases x with
  | nil => rfl
  | cons a tl =>
    have hlen : (RQ.ciRowEmbed q (a :: tl)).length = 2 * (tl.length + 1) := by
      show ((a :: tl) ++ (0 :: (tl.reverse.map fun c => (q - c % q) % q))).length = _
      rw [List.length_append, List.length_cons, List.length_cons, List.length_map, List.length_reverse]
      omega
    refine ListLemmas.ext_getD 0 (hlen.trans (emb_length q _ _).symm) fun k hk => ?_
    rw [hlen] at hk
    rw [List.length_cons, emb, ListLemmas.getD_map_range _ _ _ hk]
    show ((a :: tl) ++ (0 :: (tl.reverse.map fun c => (q - c % q) % q))).getD k 0 = _
    by_cases h1 : k < tl.length + 1
    · rw [if_pos h1, List.getD_append _ _ _ _ (show k < (a :: tl).length from h1)]
    · rw [if_neg h1, List.getD_append_right _ _ _ _ (show (a :: tl).length ≤ k from Nat.le_of_not_lt h1),
        List.length_cons]
      by_cases h2 : k = tl.length + 1
      · rw [if_pos h2, h2, Nat.sub_self, List.getD_cons_zero]
      · obtain ⟨j, hj⟩ : ∃ j, k - (tl.length + 1) = j + 1 := ⟨k - (tl.length + 1) - 1, by omega⟩
        have hjl : j < tl.length := by omega
        rw [if_neg h2, hj, List.getD_cons_succ, ListLemmas.getD_map_of_lt _ _ _ 0 (by rw [List.length_reverse]; exact hjl),
          List.getD_reverse _ (by exact hjl),
          show 2 * (tl.length + 1) - k = (tl.length - 1 - j) + 1 by omega, List.getD_cons_succ]
        rfl

section rows
variable {q n : ℕ}

theorem emb_wf (hq : 0 < q) {x : List ℕ} (hx : RowWF q n x) : RowWF q (2 * n) (emb q n x) :=
  RowWF.range_map _ fun k => by
    split
    · next h => exact hx.lt _ (ListLemmas.getD_mem (hx.len ▸ h))
    · split
      · exact hq
      · exact ng_lt hq _

theorem conj_wf (hq : 0 < q) {m : ℕ} {w : List ℕ} (hw : RowWF q m w) (hm : 0 < m) : RowWF q m (conj q m w) :=
  RowWF.range_map _ fun k => by
    split
    · exact hw.lt _ (ListLemmas.getD_mem (hw.len ▸ hm))
    · exact ng_lt hq _

theorem take_emb {x : List ℕ} (hx : x.length = n) : (emb q n x).take n = x := by
  rw [emb, ← List.map_take, List.take_range, Nat.min_eq_left (Nat.le_mul_of_pos_left n two_pos)]
  refine ListLemmas.ext_getD 0 (by rw [List.length_map, List.length_range, hx]) fun k hk => ?_
  rw [List.length_map, List.length_range] at hk
  rw [ListLemmas.getD_map_range _ _ _ hk, if_pos hk]

theorem conj_emb {x : List ℕ} (hx : RowWF q n x) : conj q (2 * n) (emb q n x) = emb q n x := by
  refine ListLemmas.ext_getD 0 ((conj_length _ _ _).trans (emb_length _ _ _).symm) fun k hk => ?_
  rw [conj_length] at hk
  rw [conj, ListLemmas.getD_map_range _ _ _ hk]
  by_cases h0 : k = 0
  · subst h0; rw [if_pos rfl]
  · rw [if_neg h0, emb, ListLemmas.getD_map_range _ _ _ (by omega : 2 * n - k < 2 * n), ListLemmas.getD_map_range _ _ _ hk]
    by_cases h1 : k < n
    · rw [if_pos h1, if_neg (by omega), if_neg (by omega), show 2 * n - (2 * n - k) = k by omega,
        ng_ng (hx.lt _ (ListLemmas.getD_mem (by rw [hx.len]; exact h1)))]
    · rw [if_neg h1]
      by_cases h2 : k = n
      · rw [if_pos h2, if_neg (by omega), if_pos (by omega), ng_zero q]
      · rw [if_neg h2, if_pos (by omega)]

theorem fixed_shape_mid {w : List ℕ} (hw : RowWF q (2 * n) w) (hfix : conj q (2 * n) w = w)
    (hmid : w.getD n 0 = 0) : w = emb q n (w.take n) := by
  have hget : ∀ k, 0 < k → k < 2 * n → w.getD k 0 = ng q (w.getD (2 * n - k) 0) := by
    intro k h0 hk
    have := congrArg (fun l => l.getD k 0) hfix
    rw [conj, ListLemmas.getD_map_range _ _ _ hk, if_neg (by omega)] at this
    exact this.symm
  have htake : ∀ j, j < n → (w.take n).getD j 0 = w.getD j 0 := fun j hj => by
    rw [List.getD_eq_getElem?_getD, List.getElem?_take_of_lt hj, ← List.getD_eq_getElem?_getD]
  refine ListLemmas.ext_getD 0 (hw.len.trans (emb_length _ _ _).symm) fun k hk => ?_
  rw [hw.len] at hk
  rw [emb, ListLemmas.getD_map_range _ _ _ hk]
  by_cases h1 : k < n
  · rw [if_pos h1, htake k h1]
  · rw [if_neg h1]
    by_cases h2 : k = n
    · rw [if_pos h2, h2]; exact hmid
    · rw [if_neg h2, htake _ (by omega)]
      exact hget k (by omega) hk

/-- for odd `q` the middle coefficient of a fixed row is its own opposite, hence `0` -/
theorem fixed_shape (hodd : q % 2 = 1) (hn : 1 ≤ n) {w : List ℕ} (hw : RowWF q (2 * n) w)
    (hfix : conj q (2 * n) w = w) : w = emb q n (w.take n) := by
  refine fixed_shape_mid hw hfix (ng_self_zero hodd (hw.lt _ (ListLemmas.getD_mem (by rw [hw.len]; omega))) ?_)
  have := congrArg (fun l => l.getD n 0) hfix
  rw [conj, ListLemmas.getD_map_range _ _ _ (by omega), if_neg (by omega), show 2 * n - n = n by omega] at this
  exact this

end rows

/-! ## the conjugation `X ↦ X^{2m−1} = X⁻¹` of `Z_q[X]/(X^m+1)` acts on rows as `conj` -/

section alg
variable {q m : ℕ}

theorem odd_conjExp (hm : 1 ≤ m) : Odd (2 * m - 1) := ⟨m - 1, by omega⟩

section generic
variable {F : Type} [CommRing F]

theorem cast_ng (hq : 0 < q) (hqF : ((q : ℕ) : F) = 0) (c : ℕ) : ((ng q c : ℕ) : F) = -(c : F) := by
  unfold ng
  rw [cast_mod_eq hqF, Nat.cast_sub (le_of_lt (Nat.mod_lt _ hq)), hqF, zero_sub, cast_mod_eq hqF]

theorem pow_conjExp {r : F} (hr : r ^ m = -1) (i : ℕ) (h1 : 1 ≤ i) (hi : i < m) :
    r ^ (i * (2 * m - 1)) = -r ^ (m - i) := by
  have e : i * (2 * m - 1) = m * (2 * (i - 1)) + m + (m - i) := by
    have h2 : 1 ≤ 2 * m := by omega
    zify [h1, hi.le, h2]; ring
  rw [e, pow_add, pow_add, pow_mul, hr, pow_mul, neg_one_sq, one_pow, one_mul, neg_one_mul]

/-- at a root `r` of `X^m + 1`, substituting `r^{2m−1} = r⁻¹` conjugates the row -/
theorem evalRow_conj (hq : 0 < q) (hqF : ((q : ℕ) : F) = 0) (hm : 1 ≤ m) {r : F} (hr : r ^ m = -1) (w : List ℕ) :
    ∑ i ∈ range m, ((w.getD i 0 : ℕ) : F) * r ^ (i * (2 * m - 1)) = evalRow m (conj q m w) r := by
  unfold evalRow
  obtain ⟨m', rfl⟩ : ∃ m', m = m' + 1 := ⟨m - 1, by omega⟩
  rw [sum_range_succ', sum_range_succ']
  refine congrArg₂ (· + ·) ?_ ?_
  · rw [← sum_range_reflect (fun k => (((conj q (m' + 1) w).getD (k + 1) 0 : ℕ) : F) * r ^ (k + 1)) m']
    apply sum_congr rfl
    intro j hj
    have hj' := mem_range.1 hj
    have hk : m' - 1 - j + 1 < m' + 1 := by omega
    rw [conj, ListLemmas.getD_map_range _ _ _ hk, if_neg (by omega), cast_ng hq hqF,
      pow_conjExp hr (j + 1) (by omega) (by omega)]
    have e1 : m' + 1 - (m' - 1 - j + 1) = j + 1 := by omega
    have e2 : m' + 1 - (j + 1) = m' - 1 - j + 1 := by omega
    rw [e1, e2]; ring
  · rw [conj, ListLemmas.getD_map_range _ _ _ (by omega), if_pos rfl, zero_mul]

end generic

theorem conj_toQuot (hq : 0 < q) (hm : 1 ≤ m) (w : List ℕ) :
    autHom q m (2 * m - 1) (odd_conjExp hm) (toQuot q m w) = toQuot q m (conj q m w) := by
  simp only [toQuot_eq_evalRow]
  rw [map_evalRow, autHom_root, ← evalRow_conj hq natCast_q_Rq hm root_pow_n w]
  exact sum_congr rfl fun i _ => by rw [← pow_mul, mul_comm (2 * m - 1) i]

end alg

section rowops
variable {q n : ℕ}

theorem shape_of_fixed (hq2 : 2 ≤ q) (hodd : q % 2 = 1) (hn : 1 ≤ n) {w : List ℕ} (hw : RowWF q (2 * n) w)
    (hfix : autHom q (2 * n) (2 * (2 * n) - 1) (odd_conjExp (by omega)) (toQuot q (2 * n) w) = toQuot q (2 * n) w) :
    w = emb q n (w.take n) := by
  rw [conj_toQuot (by omega) (by omega)] at hfix
  exact fixed_shape hodd hn hw (toQuot_inj hq2 (by omega) (conj_wf (by omega) hw (by omega)) hw hfix)

theorem emb_fixed (hq : 0 < q) (hn : 1 ≤ n) {x : List ℕ} (hx : RowWF q n x) :
    autHom q (2 * n) (2 * (2 * n) - 1) (odd_conjExp (by omega)) (toQuot q (2 * n) (emb q n x))
      = toQuot q (2 * n) (emb q n x) := by
  rw [conj_toQuot hq (by omega), conj_emb hx]

/-- the Galois maps commute, so `σ_g` maps the rows fixed by the conjugation to such rows -/
theorem conj_rowAut (hq : 2 ≤ q) (hn : 1 ≤ n) (g : ℕ) (hg : Odd g) (hc : Nat.Coprime g (2 * n))
    {u : List ℕ} (hu : RowWF q (2 * n) u) (hfix : conj q (2 * n) u = u) :
    conj q (2 * n) (RPoly.rowAut g q u) = RPoly.rowAut g q u := by
  have hq0 : 0 < q := by omega
  have hm : 1 ≤ 2 * n := by omega
  have hw := hu.aut hq0 hm g hc
  have e1 : (autHom q (2 * n) (2 * (2 * n) - 1) (odd_conjExp hm)).comp (autHom q (2 * n) g hg)
      = (autHom q (2 * n) g hg).comp (autHom q (2 * n) (2 * (2 * n) - 1) (odd_conjExp hm)) := by
    rw [autHom_comp, autHom_comp]
    exact autHom_congr _ _ (by rw [Nat.mul_comm])
  apply toQuot_inj hq hm (conj_wf hq0 hw (by omega)) hw
  rw [← conj_toQuot hq0 hm, toQuot_rowAut hq0 hm g hg hc u hu.len, ← RingHom.comp_apply, e1,
    RingHom.comp_apply, conj_toQuot hq0 hm, hfix]

theorem ciRowMul_eq (q : ℕ) {a b : List ℕ} (ha : a.length = n) (hb : b.length = n) :
    RQ.ciRowMul q a b = (RPoly.rowMul q (emb q n a) (emb q n b)).take n := by
  unfold RQ.ciRowMul
  rw [ciRowEmbed_eq, ciRowEmbed_eq, ha, hb]

/-- the product of two fixed rows is fixed (`emb_fixed`), hence the embedding of its first half (`shape_of_fixed`), and
that half is `ciRowMul a b` -/
theorem emb_ciRowMul (hq2 : 2 ≤ q) (hodd : q % 2 = 1) (hn : 1 ≤ n) {a b : List ℕ} (ha : RowWF q n a) (hb : RowWF q n b) :
    emb q n (RQ.ciRowMul q a b) = RPoly.rowMul q (emb q n a) (emb q n b) := by
  have hq : 0 < q := by omega
  have hea := emb_wf hq ha
  have heb := emb_wf hq hb
  have hw : RowWF q (2 * n) (RPoly.rowMul q (emb q n a) (emb q n b)) := hea.mul _ hq
  have hfix : autHom q (2 * n) (2 * (2 * n) - 1) (odd_conjExp (by omega))
      (toQuot q (2 * n) (RPoly.rowMul q (emb q n a) (emb q n b)))
        = toQuot q (2 * n) (RPoly.rowMul q (emb q n a) (emb q n b)) := by
    rw [toQuot_rowMul hq _ _ hea.len, map_mul, emb_fixed hq hn ha, emb_fixed hq hn hb]
  have := shape_of_fixed hq2 hodd hn hw hfix
  rw [this]
  rw [ciRowMul_eq q ha.len hb.len]

theorem ciRowMul_wf (hq : 0 < q) {a b : List ℕ} (ha : RowWF q n a) (hb : RowWF q n b) :
    RowWF q n (RQ.ciRowMul q a b) := by
  have hw : RowWF q (2 * n) (RPoly.rowMul q (emb q n a) (emb q n b)) := (emb_wf hq ha).mul _ hq
  rw [ciRowMul_eq q ha.len hb.len]
  refine ⟨by rw [List.length_take, hw.len]; omega, fun v hv => hw.lt v (List.mem_of_mem_take hv)⟩

end rowops

/-! ## the carrier: conjugate-invariant values = image of the fixed subring of `WFPoly qs (2n)` -/

section carrier
-- the second instance follows from the first (`Good.two_mul`); it is an argument of its own so that the statements
-- below do not depend on how it is found
variable {qs : List ℕ} {n : ℕ} [hg : Good qs n] [hg2 : Good qs (2 * n)]

theorem coprime_conjExp (m : ℕ) (hm : 1 ≤ m) : Nat.Coprime (2 * m - 1) m := by
  have h1 := Nat.gcd_dvd_left (2 * m - 1) m
  have h2 := Nat.gcd_dvd_right (2 * m - 1) m
  have h3 : Nat.gcd (2 * m - 1) m ∣ 2 * m := Dvd.dvd.mul_left h2 2
  have h4 := Nat.dvd_sub h3 h1
  rw [show 2 * m - (2 * m - 1) = 1 by omega] at h4
  exact Nat.dvd_one.mp h4

/-- the conjugation `X ↦ X⁻¹` as a ring endomorphism of `WFPoly qs (2n)` -/
noncomputable def conjHom : WFPoly qs (2 * n) →+* WFPoly qs (2 * n) :=
  WFPoly.autRingHom (2 * (2 * n) - 1) (odd_conjExp (by have := hg.n_pos; omega))
    (coprime_conjExp (2 * n) (by have := hg.n_pos; omega))

noncomputable def Fix : Subring (WFPoly qs (2 * n)) := RingHom.eqLocus (conjHom (qs := qs) (n := n)) (RingHom.id _)

theorem mem_Fix (z : WFPoly qs (2 * n)) : z ∈ Fix (qs := qs) (n := n) ↔ conjHom (qs := qs) (n := n) z = z := Iff.rfl

theorem toProd_conjHom (z : WFPoly qs (2 * n)) (i : Fin qs.length) :
    WFPoly.toProd (conjHom (qs := qs) (n := n) z) i
      = autHom (qs.get i) (2 * n) (2 * (2 * n) - 1) (odd_conjExp (by have := hg.n_pos; omega)) (WFPoly.toProd z i) :=
  WFPoly.toProd_aut _ _ (coprime_conjExp (2 * n) (by have := hg.n_pos; omega)) z i

theorem fix_row (hodd : ∀ q ∈ qs, q % 2 = 1) {z : WFPoly qs (2 * n)} (hz : z ∈ Fix (qs := qs) (n := n))
    (i : ℕ) (hi : i < z.1.qs.length) :
    z.1.c.getD i [] = emb z.1.qs[i] n ((z.1.c.getD i []).take n) := by
  have hi' : i < qs.length := z.2.1 ▸ hi
  have h' : WFPoly.toProd (conjHom (qs := qs) (n := n) z) ⟨i, hi'⟩ = WFPoly.toProd z ⟨i, hi'⟩ :=
    congrArg (fun w => WFPoly.toProd w ⟨i, hi'⟩) ((mem_Fix z).1 hz)
  rw [toProd_conjHom] at h'
  have e : z.1.qs[i] = qs.get ⟨i, hi'⟩ := by simp only [z.2.1, List.get_eq_getElem]
  rw [e]
  exact shape_of_fixed (hg.q_ge _ (List.get_mem _ _)) (hodd _ (List.get_mem _ _)) hg.n_pos (z.row_wf' ⟨i, hi'⟩) h'

theorem mapRows_zipRows (t : ℕ → List ℕ → List ℕ) (f f' : ℕ → List ℕ → List ℕ → List ℕ) (a b : RPoly)
    (ha : a.c.length = a.qs.length) (hb : b.c.length = a.qs.length) (hqs : b.qs = a.qs)
    (h : ∀ i (hi : i < a.qs.length), t a.qs[i] (f a.qs[i] (a.c.getD i []) (b.c.getD i []))
      = f' a.qs[i] (t a.qs[i] (a.c.getD i [])) (t a.qs[i] (b.c.getD i []))) :
    RPoly.mapRows t (RPoly.zipRows f a b) = RPoly.zipRows f' (RPoly.mapRows t a) (RPoly.mapRows t b) := by
  have hz := zipRows_length f a b ha hb
  have hma := mapRows_length t a ha
  have hb' : b.c.length = b.qs.length := by rw [hb, hqs]
  have hmb : (RPoly.mapRows t b).c.length = a.qs.length := (mapRows_length t b hb').trans (congrArg _ hqs)
  refine rpoly_ext rfl ((mapRows_length t _ hz).trans (zipRows_length f' _ _ hma hmb).symm) fun i hi => ?_
  have hi' : i < a.qs.length := (mapRows_length t _ hz) ▸ hi
  rw [mapRows_getD t _ hz i hi', zipRows_getD f a b ha hb i hi', zipRows_getD f' _ _ hma hmb i hi',
    mapRows_getD t a ha i hi', mapRows_getD t b hb' i (hqs ▸ hi')]
  simp only [hqs]
  exact h i hi'

theorem mapRows_mapRows (t s t' s' : ℕ → List ℕ → List ℕ) (a : RPoly) (ha : a.c.length = a.qs.length)
    (h : ∀ i (hi : i < a.qs.length), t a.qs[i] (s a.qs[i] (a.c.getD i [])) = s' a.qs[i] (t' a.qs[i] (a.c.getD i []))) :
    RPoly.mapRows t (RPoly.mapRows s a) = RPoly.mapRows s' (RPoly.mapRows t' a) := by
  have h1 := mapRows_length s a ha
  have h2 := mapRows_length t' a ha
  refine rpoly_ext rfl ((mapRows_length t _ h1).trans (mapRows_length s' _ h2).symm) fun i hi => ?_
  have hi' : i < a.qs.length := (mapRows_length t _ h1) ▸ hi
  rw [mapRows_getD t _ h1 i hi', mapRows_getD s a ha i hi', mapRows_getD s' _ h2 i hi', mapRows_getD t' a ha i hi']
  exact h i hi'

/-- first halves of the rows, tagged conjugate-invariant -/
def fold (z : WFPoly qs (2 * n)) : RQ := ⟨true, RPoly.mapRows (fun _ r => r.take n) z.1⟩

/-- the embedding of a well-formed conjugate-invariant value -/
def unfoldP (p : RPoly) : RPoly := RPoly.mapRows (fun q r => emb q n r) p

theorem unfoldP_wf {p : RPoly} (hp : WFq qs n p) : WFq qs (2 * n) (unfoldP (n := n) p) := by
  refine ⟨hp.qs_eq, mapRows_length _ _ hp.c_length, fun i hi => ?_⟩
  have hi' : i < p.qs.length := hi
  show RowWF _ _ ((RPoly.mapRows (fun q r => emb q n r) p).c.getD i [])
  rw [mapRows_getD _ _ hp.c_length i hi']
  have hq : 2 ≤ p.qs[i] := hg.q_ge_of_eq _ hp.qs_eq i hi'
  exact emb_wf (Nat.lt_of_lt_of_le (by decide) hq) (hp.row i hi')

theorem c_len (z z' : WFPoly qs (2 * n)) : z'.1.c.length = z.1.qs.length := by rw [z'.c_length, z'.2.1, z.2.1]
theorem qs_eq (z z' : WFPoly qs (2 * n)) : z'.1.qs = z.1.qs := by rw [z'.2.1, z.2.1]

theorem fold_add (z z' : WFPoly qs (2 * n)) : fold (n := n) (z + z') = fold z + fold z' :=
  congrArg (RQ.mk true) (mapRows_zipRows _ RPoly.rowAdd RPoly.rowAdd z.1 z'.1 z.c_length (c_len z z') (qs_eq z z')
    fun _ _ => List.take_zipWith)

theorem fold_sub (z z' : WFPoly qs (2 * n)) : fold (n := n) (z - z') = fold z - fold z' :=
  congrArg (RQ.mk true) (mapRows_zipRows _ RPoly.rowSub RPoly.rowSub z.1 z'.1 z.c_length (c_len z z') (qs_eq z z')
    fun _ _ => List.take_zipWith)

theorem mapRows_take_comm (s : ℕ → List ℕ → List ℕ) (hs : ∀ q r, (s q r).take n = s q (r.take n)) (a : RPoly)
    (ha : a.c.length = a.qs.length) :
    RPoly.mapRows (fun _ r => r.take n) (RPoly.mapRows s a) = RPoly.mapRows s (RPoly.mapRows (fun _ r => r.take n) a) :=
  mapRows_mapRows _ s _ s a ha fun _ _ => hs _ _

theorem fold_neg (z : WFPoly qs (2 * n)) : fold (n := n) (-z) = -fold z :=
  congrArg (RQ.mk true) (mapRows_take_comm RPoly.rowNeg (fun _ _ => List.map_take.symm) z.1 z.c_length)

/-- the rows of fixed elements are the embeddings of their first halves (`fix_row`), so the first half of the product of
two rows is `ciRowMul` of the halves -/
theorem fold_mul (hodd : ∀ q ∈ qs, q % 2 = 1) {z z' : WFPoly qs (2 * n)} (hz : z ∈ Fix (qs := qs) (n := n))
    (hz' : z' ∈ Fix (qs := qs) (n := n)) : fold (n := n) (z * z') = fold z * fold z' := by
  refine congrArg (RQ.mk true)
    (mapRows_zipRows _ RPoly.rowMul RQ.ciRowMul z.1 z'.1 z.c_length (c_len z z') (qs_eq z z') fun i hi => ?_)
  have hi2 : i < z'.1.qs.length := by rw [qs_eq z z']; exact hi
  have hx := fix_row hodd hz i hi
  have hy := fix_row hodd hz' i hi2
  have e : z'.1.qs[i] = z.1.qs[i] := by simp only [qs_eq z z']
  rw [e] at hy
  have lx : ((z.1.c.getD i []).take n).length = n := by rw [List.length_take, (z.row_wf i hi).len]; omega
  have ly : ((z'.1.c.getD i []).take n).length = n := by rw [List.length_take, (z'.row_wf i hi2).len]; omega
  rw [ciRowMul_eq _ lx ly, ← hx, ← hy]

theorem fold_scaleBy (k : ℕ → ℕ) (z : WFPoly qs (2 * n)) :
    fold (n := n) (WFPoly.scaleBy k z)
      = ⟨true, RPoly.mapRows (fun q x => RPoly.rowScale (k q) q x) (fold (n := n) z).p⟩ :=
  congrArg (RQ.mk true)
    (mapRows_take_comm (fun q x => RPoly.rowScale (k q) q x) (fun _ _ => List.map_take.symm) z.1 z.c_length)

theorem conj_constNat (k : ℕ → ℕ) :
    conjHom (qs := qs) (n := n) (WFPoly.constNat k) = WFPoly.constNat k := by
  apply WFPoly.toProd_injective
  funext i
  rw [toProd_conjHom, WFPoly.toProd_constNat, map_natCast]

theorem scaleBy_mem (k : ℕ → ℕ) {z : WFPoly qs (2 * n)} (hz : z ∈ Fix (qs := qs) (n := n)) :
    WFPoly.scaleBy k z ∈ Fix (qs := qs) (n := n) := by
  rw [mem_Fix, WFPoly.scaleBy_eq_mul, map_mul, (mem_Fix z).1 hz, conj_constNat]

theorem constNat_mem (k : ℕ → ℕ) : WFPoly.constNat k ∈ Fix (qs := qs) (n := n) := conj_constNat k

theorem unfold_mem {p : RPoly} (hp : WFq qs n p) :
    (lift (unfoldP (n := n) p) (unfoldP_wf hp) : WFPoly qs (2 * n)) ∈ Fix (qs := qs) (n := n) := by
  refine (mem_Fix _).2 (WFPoly.toProd_injective (funext fun i => ?_))
  rw [toProd_conjHom]
  obtain ⟨pq, pc⟩ := p
  obtain ⟨rfl, hl, hrows⟩ := hp
  show autHom _ _ _ _ (toQuot _ _ ((unfoldP (n := n) ⟨pq, pc⟩).c.getD i []))
    = toQuot _ _ ((unfoldP (n := n) ⟨pq, pc⟩).c.getD i [])
  rw [unfoldP, mapRows_getD _ _ hl i i.2]
  exact emb_fixed (lt_of_lt_of_le two_pos (hg.q_ge _ (List.getElem_mem i.2))) hg.n_pos (hrows i i.2)

theorem fold_unfold {p : RPoly} (hp : WFq qs n p) :
    fold (n := n) (lift (unfoldP (n := n) p) (unfoldP_wf hp) : WFPoly qs (2 * n)) = ⟨true, p⟩ := by
  have h1 : (unfoldP (n := n) p).c.length = p.qs.length := mapRows_length _ p hp.c_length
  refine congrArg (RQ.mk true) (rpoly_ext rfl ((mapRows_length _ _ h1).trans hp.c_length.symm) fun i hi => ?_)
  have hi' : i < p.qs.length := (mapRows_length _ (unfoldP (n := n) p) h1) ▸ hi
  show (RPoly.mapRows _ (unfoldP (n := n) p)).c.getD i [] = _
  rw [mapRows_getD _ (unfoldP (n := n) p) h1 i hi', unfoldP, mapRows_getD _ p hp.c_length i hi',
    take_emb (hp.row i hi').len]

end carrier

section ring
variable {qs : List ℕ} {n : ℕ} [hg : Good qs n] [hg2 : Good qs (2 * n)]

abbrev CI (qs : List ℕ) (n : ℕ) [Good qs n] [Good qs (2 * n)] : Type := ↥(Fix (qs := qs) (n := n))

/-- an element of the ring as a conjugate-invariant `RQ` value -/
def foldC (z : CI qs n) : RQ := fold (n := n) z.1

theorem foldC_hom (hodd : ∀ q ∈ qs, q % 2 = 1) : OpsHom (foldC (qs := qs) (n := n)) :=
  ⟨fun x y => fold_add x.1 y.1, fun x y => fold_mul hodd x.2 y.2, fun x => fold_neg x.1, fun x y => fold_sub x.1 y.1⟩

noncomputable def montC : Mont (CI qs n) where
  toM := fun z => ⟨WFPoly.mont.toM z.1, scaleBy_mem _ z.2⟩
  ofM := fun z => ⟨WFPoly.mont.ofM z.1, scaleBy_mem _ z.2⟩

theorem foldC_montHom : MontHom (foldC (qs := qs) (n := n)) montC RQ.mont :=
  ⟨fun z => fold_scaleBy _ z.1, fun z => fold_scaleBy _ z.1⟩

theorem isMont_montC (hodd : ∀ q ∈ qs, q % 2 = 1) :
    IsMont (montC (qs := qs) (n := n)) ⟨WFPoly.constNat fun q => RQ.Rword % q, constNat_mem _⟩
      ⟨WFPoly.constNat fun q => RPoly.modInv (RQ.Rword % q) q, constNat_mem _⟩ := by
  have h := WFPoly.isMont_mont_of_odd (qs := qs) (n := 2 * n) hodd
  exact ⟨Subtype.ext h.inv, fun x => Subtype.ext (h.toM x.1), fun x => Subtype.ext (h.ofM x.1)⟩

theorem exists_foldC (p : RPoly) (hp : WFq qs n p) : ∃ z : CI qs n, foldC z = ⟨true, p⟩ :=
  ⟨⟨lift (unfoldP (n := n) p) (unfoldP_wf hp), unfold_mem hp⟩, fold_unfold hp⟩

end ring

end Lattigo.RLWECI
