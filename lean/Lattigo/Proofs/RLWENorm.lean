/-
  C03 — norm bounds in `Z[X]/(X^N+1)` (`Lattigo.ZPoly`, coefficient lists over `Int`):
  `‖a·b‖∞ ≤ ‖a‖₁·‖b‖∞` for the negacyclic product, and the resulting bounds on the fresh noise.
-/
import Lattigo.Model.RLWE
import Mathlib.Tactic.Ring
import Mathlib.Tactic.Linarith
import Mathlib.Algebra.Order.Group.Int

namespace Lattigo.ZPoly

theorem normInf_le_iff {b : List Int} {B : Nat} : normInf b ≤ B ↔ ∀ x ∈ b, x.natAbs ≤ B := by
  induction b with
  | nil => simp [normInf]
  | cons y ys ih =>
    simp only [normInf, List.foldr_cons, List.mem_cons, forall_eq_or_imp, Nat.max_le]
    exact and_congr Iff.rfl ih

theorem natAbs_le_normInf {b : List Int} {x : Int} (h : x ∈ b) : x.natAbs ≤ normInf b :=
  normInf_le_iff.1 (Nat.le_refl _) x h

theorem coeff_natAbs_le (b : List Int) (j : Nat) : (coeff b j).natAbs ≤ normInf b := by
  unfold coeff
  by_cases h : j < b.length
  · have : b.getD j 0 = b[j] := by simp [List.getD, h]
    rw [this]
    exact natAbs_le_normInf (List.getElem_mem h)
  · have : b.getD j 0 = 0 := by simp [List.getD, h]
    rw [this]
    simp

theorem natAbs_sum_le (l : List Int) : l.sum.natAbs ≤ (l.map Int.natAbs).sum := by
  induction l with
  | nil => simp
  | cons x xs ih =>
    simp only [List.sum_cons, List.map_cons]
    exact Nat.le_trans (Int.natAbs_add_le _ _) (Nat.add_le_add_left ih _)

theorem mulTerm_natAbs_le (b : List Int) (n k : Nat) (xi : Int × Nat) :
    (mulTerm b n k xi).natAbs ≤ xi.1.natAbs * normInf b := by
  unfold mulTerm
  split
  · rw [Int.natAbs_mul]; exact Nat.mul_le_mul_left _ (coeff_natAbs_le _ _)
  · rw [Int.natAbs_neg, Int.natAbs_mul]; exact Nat.mul_le_mul_left _ (coeff_natAbs_le _ _)

theorem sum_terms_le (g : Int × Nat → Int) (B : Nat) (hg : ∀ xi, (g xi).natAbs ≤ xi.1.natAbs * B)
    (l : List Int) (n : Nat) : (((l.zipIdx n).map g).sum).natAbs ≤ norm1 l * B := by
  induction l generalizing n with
  | nil => simp [norm1]
  | cons x xs ih =>
    simp only [List.zipIdx_cons, List.map_cons, List.sum_cons, norm1]
    calc (g (x, n) + ((xs.zipIdx (n + 1)).map g).sum).natAbs
        ≤ (g (x, n)).natAbs + (((xs.zipIdx (n + 1)).map g).sum).natAbs := Int.natAbs_add_le _ _
      _ ≤ x.natAbs * B + norm1 xs * B := Nat.add_le_add (hg (x, n)) (ih (n + 1))
      _ = (x.natAbs + (xs.map Int.natAbs).sum) * B := by simp [norm1, Nat.add_mul]

theorem mulCoeff_natAbs_le (a b : List Int) (k : Nat) : (mulCoeff a b k).natAbs ≤ norm1 a * normInf b :=
  sum_terms_le _ _ (mulTerm_natAbs_le b a.length k) a 0

theorem normInf_mul_le (a b : List Int) : normInf (mul a b) ≤ norm1 a * normInf b := by
  rw [normInf_le_iff]
  intro x hx
  simp only [mul, List.mem_map] at hx
  obtain ⟨k, _, rfl⟩ := hx
  exact mulCoeff_natAbs_le a b k

theorem normInf_zipWith_le (f : Int → Int → Int) (hf : ∀ x y, (f x y).natAbs ≤ x.natAbs + y.natAbs) (a b : List Int) :
    normInf (List.zipWith f a b) ≤ normInf a + normInf b := by
  rw [normInf_le_iff]
  intro x hx
  obtain ⟨i, hi, rfl⟩ := List.mem_iff_getElem.mp hx
  rw [List.length_zipWith] at hi
  rw [List.getElem_zipWith]
  exact Nat.le_trans (hf _ _) (Nat.add_le_add
    (natAbs_le_normInf (List.getElem_mem (Nat.lt_of_lt_of_le hi (Nat.min_le_left _ _))))
    (natAbs_le_normInf (List.getElem_mem (Nat.lt_of_lt_of_le hi (Nat.min_le_right _ _)))))

theorem normInf_add_le (a b : List Int) : normInf (add a b) ≤ normInf a + normInf b :=
  normInf_zipWith_le _ Int.natAbs_add_le a b

theorem normInf_sub_le (a b : List Int) : normInf (sub a b) ≤ normInf a + normInf b :=
  normInf_zipWith_le _ Int.natAbs_sub_le a b

theorem normInf_smul (k : Int) (a : List Int) : normInf (smul k a) = k.natAbs * normInf a := by
  induction a with
  | nil => simp [smul, normInf]
  | cons x xs ih =>
    simp only [smul, List.map_cons, normInf, List.foldr_cons] at ih ⊢
    rw [ih, Int.natAbs_mul, Nat.mul_max_mul_left]

/-- Secret key: the decryption error IS the drawn error `e` (`dec_enc_sk`).  The statement is the identity on its
    hypothesis: it only holds the place of the sk case beside the two below. -/
theorem noise_upper_sk (e : List Int) (B : Nat) (he : normInf e ≤ B) : normInf e ≤ B := he

/-- public key, no auxiliary modulus: noise `u·e_pk + e0 + s·e1` (Props: `dec_enc_pk_noP`). -/
theorem noise_upper_pk_noP (u epk e0 e1 s : List Int) (B : Nat)
    (hpk : normInf epk ≤ B) (h0 : normInf e0 ≤ B) (h1 : normInf e1 ≤ B) :
    normInf (add (add (mul u epk) e0) (mul s e1)) ≤ B * (norm1 u + 1 + norm1 s) := by
  have a1 := normInf_add_le (add (mul u epk) e0) (mul s e1)
  have a2 := normInf_add_le (mul u epk) e0
  have m1 := Nat.le_trans (normInf_mul_le u epk) (Nat.mul_le_mul_left _ hpk)
  have m2 := Nat.le_trans (normInf_mul_le s e1) (Nat.mul_le_mul_left _ h1)
  calc normInf (add (add (mul u epk) e0) (mul s e1))
      ≤ norm1 u * B + B + norm1 s * B := by omega
    _ = B * (norm1 u + 1 + norm1 s) := by ring

/-- public key with auxiliary modulus `P`: `hrel` is the conclusion of `dec_enc_pk_P` read over the integers, `d0`, `d1`
    the centred residues.  Over ℚ the bound reads `‖n‖∞ ≤ ‖E‖∞/P + (1 + ‖s‖₁)/2`. -/
theorem noise_upper_pk_P (P : Nat) (n E d0 d1 s : List Int)
    (hrel : smul P n = sub (sub E d0) (mul s d1))
    (hd0 : 2 * normInf d0 ≤ P) (hd1 : 2 * normInf d1 ≤ P) :
    2 * (P * normInf n) ≤ 2 * normInf E + P * (1 + norm1 s) := by
  have h := normInf_smul P n
  rw [hrel] at h
  have a1 := normInf_sub_le (sub E d0) (mul s d1)
  have a2 := normInf_sub_le E d0
  have m := normInf_mul_le s d1
  have m' : 2 * (norm1 s * normInf d1) ≤ norm1 s * P := by
    calc 2 * (norm1 s * normInf d1) = norm1 s * (2 * normInf d1) := by ring
      _ ≤ norm1 s * P := Nat.mul_le_mul_left _ hd1
  simp only [Int.natAbs_natCast] at h
  have e : P * (1 + norm1 s) = P + norm1 s * P := by ring
  omega

end Lattigo.ZPoly
