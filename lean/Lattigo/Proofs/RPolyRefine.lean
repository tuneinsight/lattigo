import Lattigo.Proofs.NTTTables
import Lattigo.Proofs.Kernels
import Mathlib.Tactic.NormNum.Prime

/-!
  # The word-level RNS/NTT/Montgomery code implements the abstract rows of `RPoly` (C01)

  "Commuting squares" between the stored representation of a row (flags `IsNTT`, `IsMontgomery`)
  and the abstract row operations `RPoly.rowAdd/rowSub/rowNeg/rowMul` of `Model/RPoly.lean`.

  * `reprRow T f g` stores an abstract row, `absRow T f g` reads stored limbs; mutually inverse on reduced rows `Red T`
    (`absRow_reprRow`, `reprRow_absRow`; the second needs the other inverse direction `nttStd_inttStd`, from `fwdZ_invZ`).
  * squares on representations: `refine_mul_ntt`/`refine_mul` (NTT-domain product), and `refine_lin` for every `LinOp`
    (a coefficient-wise operation that reads in `Z_q` as one commuting with the butterflies: `linAdd`, `linSub`, `linNeg`),
    whence `nttStd_add/sub/neg`; `refine_mform`, `refine_imform` change the flag.
  * the same squares on abstractions, for ALL reduced limb vectors (conjugation by the two inverse maps): `refine_lin_all`
    for every kernel that is a `LinOp` modulo `q` (`Add`, `Sub`, `Neg`), `refine_mul_all`; `refine_mform_all`,
    `refine_imform_all`, `refine_ntt_all`, `refine_intt_all` change the flags.
  * whole RNS polynomials: `absPoly`, `ringOp1/2`, and `absPoly_ringOp1/2`, which lift a square on rows to one on polynomials.
-/
namespace Lattigo.RPolyRefine
open Lattigo Lattigo.Gen Lattigo.NTT

/-- `a` is a reduced row of the ring of `T`: `n` coefficients, each `< q` -/
structure Red (T : Tables) (a : List ℕ) : Prop where
  len : a.length = T.n
  lt : ∀ x ∈ a, x < T.q

/-- how the library stores the abstract row `a` under the flags (IsNTT, IsMontgomery) -/
def reprRow (T : Tables) (isNTT isMont : Bool) (a : List ℕ) : List ℕ :=
  (if isMont then List.map (fun x => MForm x T.q T.bred) else id) ((if isNTT then nttStd T else id) a)

/-- the abstraction function: stored limbs ↦ abstract row -/
def absRow (T : Tables) (isNTT isMont : Bool) (limbs : List ℕ) : List ℕ :=
  (if isNTT then inttStd T else id)
    ((if isMont then List.map (fun x => IMForm x T.q T.qinv) else id) (limbs.map (· % T.q)))

section scalar
variable {T : Tables} {K : ℕ}

theorem q_lt_W (hT : Valid T K) : T.q < W := by
  have := hT.h8; have := hT.q_pos; unfold W at *; omega

theorem two_q_le (hT : Valid T K) : 2 * T.q ≤ W := by
  have := hT.h8; unfold W at *; omega

theorem lt_W (hT : Valid T K) {x : ℕ} (hx : x < T.q) : x < W := by
  have := (q_lt_W hT); omega

theorem mform_cast (hT : Valid T K) [Fact T.q.Prime] (x : ℕ) (hx : x < W) :
    MForm x T.q T.bred < T.q
    ∧ ((MForm x T.q T.bred : ℕ) : ZMod T.q) = (x : ZMod T.q) * (W : ZMod T.q) := by
  rw [hT.bred]; exact MForm_cast x (two_q_le hT) hx

theorem imform_cast (hT : Valid T K) [Fact T.q.Prime] (x : ℕ) (hx : x < W) :
    IMForm x T.q T.qinv < T.q
    ∧ ((IMForm x T.q T.qinv : ℕ) : ZMod T.q) = (x : ZMod T.q) * (W : ZMod T.q)⁻¹ := by
  exact ⟨(IMForm_spec x T.q T.qinv (q_lt_W hT) hT.mont hx).2,
    IMForm_cast x T.q T.qinv (q_lt_W hT) hT.mont hx⟩

theorem imform_mform (hT : Valid T K) (x : ℕ) (hx : x < T.q) :
    IMForm (MForm x T.q T.bred) T.q T.qinv = x := by
  have := hT.fact
  obtain ⟨m1, m2⟩ := mform_cast hT x (lt_W hT hx)
  obtain ⟨i1, i2⟩ := imform_cast hT _ (lt_W hT m1)
  apply eq_of_cast_eq i1 hx
  rw [i2, m2, mul_W_mul_inv hT.mont]

theorem mform_imform (hT : Valid T K) (x : ℕ) (hx : x < T.q) :
    MForm (IMForm x T.q T.qinv) T.q T.bred = x := by
  have := hT.fact
  obtain ⟨i1, i2⟩ := imform_cast hT x (lt_W hT hx)
  obtain ⟨m1, m2⟩ := mform_cast hT _ (lt_W hT i1)
  apply eq_of_cast_eq m1 hx
  rw [m2, i2, mul_right_comm, mul_W_mul_inv hT.mont]

theorem mred_mform (hT : Valid T K) (x y : ℕ) (hx : x < T.q) (hy : y < T.q) :
    MRed x (MForm y T.q T.bred) T.q T.qinv = (x * y) % T.q := by
  have := hT.fact
  obtain ⟨m1, m2⟩ := mform_cast hT y (lt_W hT hy)
  exact MRed_mul_W x y _ _ (two_q_le hT) hT.mont hx m1 m2

end scalar

theorem map_mod_of_lt {q : ℕ} (l : List ℕ) (h : ∀ x ∈ l, x < q) : l.map (· % q) = l := by
  conv_rhs => rw [← List.map_id l]
  exact List.map_congr_left (fun x hx => Nat.mod_eq_of_lt (h x hx))

section linear
variable {F : Type} [CommRing F]

theorem fwdZ_add (ρ : ℕ → F) (k j : ℕ) (a b : List F) (ha : a.length = 2 ^ k)
    (hb : b.length = 2 ^ k) :
    fwdZ ρ k j (List.zipWith (fun x y => x + y) a b)
      = List.zipWith (fun x y => x + y) (fwdZ ρ k j a) (fwdZ ρ k j b) :=
  fwdZ_zipWith ρ _ (fun _ _ _ _ _ => by ring) (fun _ _ _ _ _ => by ring) k j a b ha hb

theorem fwdZ_sub (ρ : ℕ → F) (k j : ℕ) (a b : List F) (ha : a.length = 2 ^ k)
    (hb : b.length = 2 ^ k) :
    fwdZ ρ k j (List.zipWith (fun x y => x - y) a b)
      = List.zipWith (fun x y => x - y) (fwdZ ρ k j a) (fwdZ ρ k j b) :=
  fwdZ_zipWith ρ _ (fun _ _ _ _ _ => by ring) (fun _ _ _ _ _ => by ring) k j a b ha hb

theorem fwdZ_map (ρ : ℕ → F) (m : F → F)
    (hp : ∀ r u v, m u + r * m v = m (u + r * v))
    (hm : ∀ r u v, m u - r * m v = m (u - r * v))
    (k j : ℕ) (a : List F) (ha : a.length = 2 ^ k) :
    fwdZ ρ k j (a.map m) = (fwdZ ρ k j a).map m := by
  have := fwdZ_zipWith ρ (fun x _ => m x) (fun r u _ v _ => hp r u v) (fun r u _ v _ => hm r u v)
    k j a a ha ha
  rwa [List.zipWith_self, List.zipWith_self] at this

theorem fwdZ_neg (ρ : ℕ → F) (k j : ℕ) (a : List F) (ha : a.length = 2 ^ k) :
    fwdZ ρ k j (a.map (fun x => -x)) = (fwdZ ρ k j a).map (fun x => -x) :=
  fwdZ_map ρ _ (fun _ _ _ => by ring) (fun _ _ _ => by ring) k j a ha

theorem fwdZ_smul (ρ : ℕ → F) (c : F) (k j : ℕ) (a : List F) (ha : a.length = 2 ^ k) :
    fwdZ ρ k j (a.map (fun x => c * x)) = (fwdZ ρ k j a).map (fun x => c * x) :=
  fwdZ_map ρ _ (fun _ _ _ => by ring) (fun _ _ _ => by ring) k j a ha

end linear

section mulAndRepr
variable {T : Tables} {K : ℕ}

theorem nttStd_length (hT : Valid T K) (a : List ℕ) (hlen : a.length = T.n) :
    (nttStd T a).length = T.n := by
  unfold nttStd nttCoreLazy
  rw [List.length_map, hT.n_eq, log2n_two_pow]
  exact fwdRec_length _ _ _ _ K 0 1 a (by rw [hlen, hT.n_eq])

theorem Red.ntt (hT : Valid T K) {a : List ℕ} (ha : Red T a) : Red T (nttStd T a) := by
  exact ⟨nttStd_length hT a ha.len, (nttStd_cast hT a ha.lt).2⟩

theorem Red.rowMul (hT : Valid T K) {a : List ℕ} (ha : Red T a) (b : List ℕ) :
    Red T (RPoly.rowMul T.q a b) :=
  ⟨by rw [rowMul_length, ha.len], rowMul_lt hT.q_pos a b⟩

theorem refine_mul_ntt (hT : Valid T K) (hinv : TableInv (rho T.q T.rootsF) (2 ^ K))
    (a b : List ℕ) (ha : Red T a) (hb : Red T b) :
    List.zipWith (fun x y => MRed x y T.q T.qinv) (nttStd T a)
        ((nttStd T b).map (fun y => MForm y T.q T.bred))
      = nttStd T (RPoly.rowMul T.q a b) := by
  rw [nttStd_mul hT hinv a b ha.len hb.len ha.lt hb.lt, List.zipWith_map_right]
  exact zipWith_congr_mem _ _ _ _
    (fun u hu v hv => mred_mform hT u v ((ha.ntt hT).lt u hu) ((hb.ntt hT).lt v hv))

theorem refine_mul (hT : Valid T K) (hinv : TableInv (rho T.q T.rootsF) (2 ^ K))
    (a b : List ℕ) (ha : Red T a) (hb : Red T b) :
    inttStd T (List.zipWith (fun x y => MRed x y T.q T.qinv) (nttStd T a)
        ((nttStd T b).map (fun y => MForm y T.q T.bred)))
      = RPoly.rowMul T.q a b := by
  rw [refine_mul_ntt hT hinv a b ha hb]
  exact inttStd_nttStd hT _ (ha.rowMul hT b).len (ha.rowMul hT b).lt

/-- `refine_mul` with the generated lane function of `mulcoeffsmontgomeryvec` -/
theorem refine_mul_lane (hT : Valid T K) (hinv : TableInv (rho T.q T.rootsF) (2 ^ K))
    (a b : List ℕ) (ha : Red T a) (hb : Red T b) :
    inttStd T (List.zipWith (fun x y => mulcoeffsmontgomeryvec_lane x y 0 T.q T.qinv) (nttStd T a)
        ((nttStd T b).map (fun y => mformvec_lane y 0 T.q T.bred)))
      = RPoly.rowMul T.q a b := refine_mul hT hinv a b ha hb

theorem Red.nttPart (hT : Valid T K) (f : Bool) {a : List ℕ} (ha : Red T a) :
    Red T ((if f then nttStd T else id) a) := by
  cases f
  · exact ha
  · exact ha.ntt hT

theorem montPart_lt (hT : Valid T K) (g : Bool) (x : List ℕ) (hx : ∀ u ∈ x, u < T.q) :
    ∀ u ∈ (if g then List.map (fun x => MForm x T.q T.bred) else id) x, u < T.q := by
  have := hT.fact
  cases g
  · exact hx
  · intro u hu
    simp only [if_true, List.mem_map] at hu
    obtain ⟨v, hv, rfl⟩ := hu
    exact (mform_cast hT v (lt_W hT (hx v hv))).1

theorem Red.repr (hT : Valid T K) (f g : Bool) {a : List ℕ} (ha : Red T a) :
    Red T (reprRow T f g a) := by
  unfold reprRow
  refine ⟨?_, montPart_lt hT g _ (ha.nttPart hT f).lt⟩
  cases g
  · exact (ha.nttPart hT f).len
  · simp only [if_true, List.length_map]; exact (ha.nttPart hT f).len

theorem unmont_mont (hT : Valid T K) (g : Bool) (x : List ℕ) (hx : ∀ u ∈ x, u < T.q) :
    (if g then List.map (fun x => IMForm x T.q T.qinv) else id)
      ((if g then List.map (fun x => MForm x T.q T.bred) else id) x) = x := by
  cases g
  · rfl
  · simp only [if_true, List.map_map]
    conv_rhs => rw [← List.map_id x]
    exact List.map_congr_left (fun u hu => imform_mform hT u (hx u hu))

theorem unntt_ntt (hT : Valid T K) (f : Bool) {a : List ℕ} (ha : Red T a) :
    (if f then inttStd T else id) ((if f then nttStd T else id) a) = a := by
  cases f
  · rfl
  · exact inttStd_nttStd hT a ha.len ha.lt

theorem absRow_reprRow (hT : Valid T K) (f g : Bool) (a : List ℕ) (ha : Red T a) :
    absRow T f g (reprRow T f g a) = a := by
  unfold absRow
  rw [map_mod_of_lt _ (ha.repr hT f g).lt]
  unfold reprRow
  rw [unmont_mont hT g _ (ha.nttPart hT f).lt, unntt_ntt hT f ha]

end mulAndRepr

/-- a coefficient-wise binary operation `op` on reduced words which, read in `Z_q`, is an operation
`opZ` commuting with the butterflies and with scaling (`+`, `−`, `−·`) -/
structure LinOp (q : ℕ) (op : ℕ → ℕ → ℕ) (opZ : ZMod q → ZMod q → ZMod q) : Prop where
  cast : ∀ u v, ((op u v : ℕ) : ZMod q) = opZ (u : ZMod q) (v : ZMod q)
  lt : ∀ u v, op u v < q
  hp : ∀ r u u' v v', opZ u u' + r * opZ v v' = opZ (u + r * v) (u' + r * v')
  hm : ∀ r u u' v v', opZ u u' - r * opZ v v' = opZ (u - r * v) (u' - r * v')
  hs : ∀ c u v, opZ (u * c) (v * c) = opZ u v * c

theorem linAdd {q : ℕ} (hq : 0 < q) :
    LinOp q (fun a b => (a + b) % q) (fun x y => x + y) where
  cast u v := by rw [ZMod.natCast_mod, Nat.cast_add]
  lt u v := Nat.mod_lt _ hq
  hp _ _ _ _ _ := by ring
  hm _ _ _ _ _ := by ring
  hs _ _ _ := by ring

theorem linSub {q : ℕ} (hq : 0 < q) :
    LinOp q (fun a b => (a + q - b % q) % q) (fun x y => x - y) where
  cast u v := by
    have := Nat.mod_lt v hq
    rw [ZMod.natCast_mod, Nat.cast_sub (by omega), Nat.cast_add, ZMod.natCast_self, add_zero,
      ZMod.natCast_mod]
  lt u v := Nat.mod_lt _ hq
  hp _ _ _ _ _ := by ring
  hm _ _ _ _ _ := by ring
  hs _ _ _ := by ring

theorem linNeg {q : ℕ} (hq : 0 < q) :
    LinOp q (fun a _ => (q - a % q) % q) (fun x _ => -x) where
  cast u v := by
    have := Nat.mod_lt u hq
    rw [ZMod.natCast_mod, Nat.cast_sub (by omega), ZMod.natCast_self, zero_sub, ZMod.natCast_mod]
  lt u v := Nat.mod_lt _ hq
  hp _ _ _ _ _ := by ring
  hm _ _ _ _ _ := by ring
  hs _ _ _ := by ring

section additive
variable {T : Tables} {K : ℕ} {op : ℕ → ℕ → ℕ} {opZ : ZMod T.q → ZMod T.q → ZMod T.q}

theorem Red.zipWith (L : LinOp T.q op opZ) {a b : List ℕ} (ha : Red T a) (hb : Red T b) :
    Red T (List.zipWith op a b) :=
  ⟨by rw [List.length_zipWith, ha.len, hb.len, Nat.min_self],
   ListLemmas.forall_zipWith _ (fun z => z < T.q) _ _ (fun u _ v _ => L.lt u v)⟩

theorem nttStd_zipWith (hT : Valid T K) (L : LinOp T.q op opZ) (a b : List ℕ)
    (ha : Red T a) (hb : Red T b) :
    nttStd T (List.zipWith op a b) = List.zipWith op (nttStd T a) (nttStd T b) := by
  have hz := ha.zipWith L hb
  have e0 : ∀ l1 l2 : List ℕ, (List.zipWith op l1 l2).map (Nat.cast : ℕ → ZMod T.q)
      = List.zipWith opZ (l1.map Nat.cast) (l2.map Nat.cast) := fun l1 l2 =>
    map_zipWith_mem op (Nat.cast : ℕ → ZMod T.q) (Nat.cast : ℕ → ZMod T.q) opZ l1 l2
      (fun u _ v _ => L.cast u v)
  apply map_cast_inj (q := T.q) _ _ (nttStd_cast hT _ hz.lt).2 ((ha.ntt hT).zipWith L (hb.ntt hT)).lt
  rw [(nttStd_cast hT _ hz.lt).1, e0, e0, (nttStd_cast hT a ha.lt).1, (nttStd_cast hT b hb.lt).1]
  exact fwdZ_zipWith _ opZ L.hp L.hm K 1 _ _ (by rw [List.length_map, ha.len, hT.n_eq])
    (by rw [List.length_map, hb.len, hT.n_eq])

theorem nttStd_add (hT : Valid T K) (a b : List ℕ) (ha : Red T a) (hb : Red T b) :
    nttStd T (RPoly.rowAdd T.q a b) = RPoly.rowAdd T.q (nttStd T a) (nttStd T b) :=
  nttStd_zipWith hT (linAdd hT.q_pos) a b ha hb

theorem nttStd_sub (hT : Valid T K) (a b : List ℕ) (ha : Red T a) (hb : Red T b) :
    nttStd T (RPoly.rowSub T.q a b) = RPoly.rowSub T.q (nttStd T a) (nttStd T b) :=
  nttStd_zipWith hT (linSub hT.q_pos) a b ha hb

theorem rowNeg_eq_zipWith (q : ℕ) (a : List ℕ) :
    RPoly.rowNeg q a = List.zipWith (fun a _ => (q - a % q) % q) a a := by
  rw [List.zipWith_self]; rfl

theorem nttStd_neg (hT : Valid T K) (a : List ℕ) (ha : Red T a) :
    nttStd T (RPoly.rowNeg T.q a) = RPoly.rowNeg T.q (nttStd T a) := by
  rw [rowNeg_eq_zipWith, rowNeg_eq_zipWith]
  exact nttStd_zipWith hT (linNeg hT.q_pos) a a ha ha

theorem nttPart_zipWith (hT : Valid T K) (L : LinOp T.q op opZ) (f : Bool) (a b : List ℕ)
    (ha : Red T a) (hb : Red T b) :
    (if f then nttStd T else id) (List.zipWith op a b)
      = List.zipWith op ((if f then nttStd T else id) a) ((if f then nttStd T else id) b) := by
  cases f
  · rfl
  · exact nttStd_zipWith hT L a b ha hb

theorem mform_op (hT : Valid T K) (L : LinOp T.q op opZ) (u v : ℕ) (hu : u < T.q) (hv : v < T.q) :
    op (MForm u T.q T.bred) (MForm v T.q T.bred) = MForm (op u v) T.q T.bred := by
  have := hT.fact
  obtain ⟨_, cu⟩ := mform_cast hT u (lt_W hT hu)
  obtain ⟨_, cv⟩ := mform_cast hT v (lt_W hT hv)
  obtain ⟨lo, co⟩ := mform_cast hT (op u v) (lt_W hT (L.lt u v))
  apply eq_of_cast_eq (L.lt _ _) lo
  rw [L.cast, cu, cv, co, L.cast, L.hs]

theorem montPart_zipWith (hT : Valid T K) (L : LinOp T.q op opZ) (g : Bool) (x y : List ℕ)
    (hx : ∀ u ∈ x, u < T.q) (hy : ∀ u ∈ y, u < T.q) :
    List.zipWith op ((if g then List.map (fun x => MForm x T.q T.bred) else id) x)
        ((if g then List.map (fun x => MForm x T.q T.bred) else id) y)
      = (if g then List.map (fun x => MForm x T.q T.bred) else id) (List.zipWith op x y) := by
  cases g
  · rfl
  · simp only [if_true, List.zipWith_map, List.map_zipWith]
    exact zipWith_congr_mem _ _ _ _ (fun u hu v hv => mform_op hT L u v (hx u hu) (hy v hv))

theorem refine_lin (hT : Valid T K) (L : LinOp T.q op opZ) (f g : Bool) (a b : List ℕ)
    (ha : Red T a) (hb : Red T b) :
    List.zipWith op (reprRow T f g a) (reprRow T f g b) = reprRow T f g (List.zipWith op a b) := by
  unfold reprRow
  rw [nttPart_zipWith hT L f a b ha hb]
  exact montPart_zipWith hT L g _ _ (ha.nttPart hT f).lt (hb.nttPart hT f).lt

theorem addvec_lane_red (hT : Valid T K) (u v : ℕ) (hu : u < T.q) (hv : v < T.q) :
    addvec_lane u v 0 T.q = (u + v) % T.q := by
  have := q_lt_W hT; have := hT.h8
  exact addvec_lane_spec u v 0 T.q hT.q_pos (by omega) (by unfold W at *; omega)

theorem subvec_lane_red (hT : Valid T K) (u v : ℕ) (hu : u < T.q) (hv : v < T.q) :
    subvec_lane u v 0 T.q = (u + T.q - v % T.q) % T.q := by
  have := q_lt_W hT; have := hT.h8
  rw [Nat.mod_eq_of_lt hv]
  exact (subvec_lane_spec u v 0 T.q hT.q_pos (by omega) (by omega) (by unfold W at *; omega)).1

theorem negvec_lane_red (hT : Valid T K) (u : ℕ) (hu : u < T.q) :
    negvec_lane u 0 T.q % T.q = (T.q - u % T.q) % T.q := by
  rw [Nat.mod_eq_of_lt hu, (negvec_lane_spec u 0 T.q (by omega) (q_lt_W hT)).1]

theorem Red.rowAdd (hT : Valid T K) {a b : List ℕ} (ha : Red T a) (hb : Red T b) :
    Red T (RPoly.rowAdd T.q a b) := ha.zipWith (linAdd hT.q_pos) hb
theorem Red.rowSub (hT : Valid T K) {a b : List ℕ} (ha : Red T a) (hb : Red T b) :
    Red T (RPoly.rowSub T.q a b) := ha.zipWith (linSub hT.q_pos) hb
theorem Red.rowNeg (hT : Valid T K) {a : List ℕ} (ha : Red T a) :
    Red T (RPoly.rowNeg T.q a) := by
  rw [rowNeg_eq_zipWith]; exact ha.zipWith (linNeg hT.q_pos) ha

theorem absRow_mod (T : Tables) (f g : Bool) (l : List ℕ) :
    absRow T f g (l.map (· % T.q)) = absRow T f g l := by
  have e : (l.map (· % T.q)).map (· % T.q) = l.map (· % T.q) := by
    rw [List.map_map]
    exact List.map_congr_left (fun x _ => Nat.mod_mod _ _)
  unfold absRow
  rw [e]

theorem refine_mform (T : Tables) (f : Bool) (a : List ℕ) :
    List.map (fun x => mformvec_lane x 0 T.q T.bred) (reprRow T f false a) = reprRow T f true a :=
  rfl

theorem refine_imform (hT : Valid T K) (f : Bool) (a : List ℕ) (ha : Red T a) :
    List.map (fun x => imformvec_lane x 0 T.q T.qinv) (reprRow T f true a) = reprRow T f false a :=
  unmont_mont hT true _ (ha.nttPart hT f).lt

end additive

section inverse
variable {F : Type} [CommRing F]

theorem invZ_length (ρ' : ℕ → F) : ∀ (k j : ℕ) (a : List F), a.length = 2 ^ k →
    (invZ ρ' k j a).length = 2 ^ k
  | 0, _, _, h => h
  | k + 1, j, a, h => by
    obtain ⟨h2, hl, hr⟩ := halves_length h
    simp only [invZ, List.length_append, List.length_zipWith]
    rw [invZ_length ρ' k _ _ hl, invZ_length ρ' k _ _ hr, Nat.min_self, Nat.pow_succ, Nat.mul_two]

/-- one forward stage applied to the output of one inverse stage doubles both halves -/
theorem fwdZ_stage_inv (ρ : ℕ → F) {j : ℕ} (r r' : F) (hr : r = ρ j) (hρ : r * r' = 1) (k : ℕ)
    (L R : List F) (hL : L.length = 2 ^ k) (hR : R.length = 2 ^ k) :
    fwdZ ρ (k + 1) j
        (List.zipWith (fun u v => u + v) L R ++ List.zipWith (fun u v => (u - v) * r') L R)
      = fwdZ ρ k (2 * j) (L.map (fun x => 2 * x)) ++ fwdZ ρ k (2 * j + 1) (R.map (fun x => 2 * x)) := by
  subst hr
  have hLR : L.length = R.length := by rw [hL, hR]
  have hS := zipWith_length_eq (fun u v : F => u + v) hL hR
  have hD := zipWith_length_eq (fun u v : F => (u - v) * r') hL hR
  have hlen : (List.zipWith (fun u v => u + v) L R
      ++ List.zipWith (fun u v => (u - v) * r') L R).length / 2 = 2 ^ k := by
    rw [List.length_append, hS, hD]; omega
  simp only [fwdZ]
  rw [hlen, List.take_left' hS, List.drop_left' hS,
    zipWith_recombine_left (fun u v => u + v) (fun u v => (u - v) * r')
      (fun s d => s + ρ j * d) (fun x => 2 * x)
      (fun u v => by linear_combination (u - v) * hρ) L R hLR,
    zipWith_recombine_right (fun u v => u + v) (fun u v => (u - v) * r')
      (fun s d => s - ρ j * d) (fun x => 2 * x)
      (fun u v => by linear_combination (v - u) * hρ) L R hLR]

/-- the mirror image of `invZ_fwdZ` -/
theorem fwdZ_invZ (ρ ρ' : ℕ → F) (M : ℕ) (hinv : ∀ i, 1 ≤ i → i < M → ρ i * ρ' i = 1) :
    ∀ (k j : ℕ) (a : List F), a.length = 2 ^ k → 1 ≤ j → (j + 1) * 2 ^ k ≤ 2 * M →
      fwdZ ρ k j (invZ ρ' k j a) = a.map (fun x => 2 ^ k * x)
  | 0, _, a, _, _, _ => by simp [invZ, fwdZ]
  | k + 1, j, a, h, hj0, hj => by
    obtain ⟨hjM, hj1, hj2⟩ := node_bounds hj
    have hρ := hinv j hj0 hjM
    obtain ⟨h2, hl, hr⟩ := halves_length h
    have hL := invZ_length ρ' k (2 * j) _ hl
    have hR := invZ_length ρ' k (2 * j + 1) _ hr
    have ihL := fwdZ_invZ ρ ρ' M hinv k (2 * j) _ hl (by omega) hj1
    have ihR := fwdZ_invZ ρ ρ' M hinv k (2 * j + 1) _ hr (by omega) hj2
    rw [invZ]
    rw [fwdZ_stage_inv ρ (ρ j) (ρ' j) rfl hρ k _ _ hL hR,
      fwdZ_smul ρ 2 k _ _ hL, fwdZ_smul ρ 2 k _ _ hR, ihL, ihR, List.map_map, List.map_map,
      ← List.map_append, List.take_append_drop]
    apply List.map_congr_left
    intro x _
    simp only [Function.comp, pow_succ]
    ring

end inverse

section otherInverse
variable {T : Tables} {K : ℕ}

theorem inttStd_cast (hT : Valid T K) (x : List ℕ) (hx : ∀ u ∈ x, u < 2 * T.q) :
    (inttStd T x).map (Nat.cast : ℕ → ZMod T.q)
      = (invZ (rho T.q T.rootsB) K 1 (x.map (Nat.cast : ℕ → ZMod T.q))).map
          (fun z => z * (T.nInv : ZMod T.q) * (W : ZMod T.q)⁻¹)
    ∧ ∀ y ∈ inttStd T x, y < T.q := by
  have h8 := hT.h8
  have h6 : 6 * T.q ≤ W := by omega
  have e : inttCoreLazy T x = invRec T.rootsB T.q T.qinv K 1 x := by
    unfold inttCoreLazy; rw [hT.n_eq, log2n_two_pow]
  obtain ⟨_, hilt⟩ := invRec_ok T.rootsB T.q T.qinv h6 hT.mont hT.rootsB_lt K 1 _ hx
  have hic := invRec_cast T.rootsB T.qinv h6 hT.mont hT.rootsB_lt K 1 _ hx
  have hmul : ∀ u ∈ invRec T.rootsB T.q T.qinv K 1 x, u * T.nInv < T.q * W := by
    intro u hu
    exact mul_lt_qW (by have := hilt u hu; omega) hT.nInv_lt
  constructor
  · unfold inttStd
    rw [e, List.map_map, ← hic, List.map_map]
    apply List.map_congr_left
    intro u hu
    exact MRed_cast u T.nInv T.qinv (by omega) hT.mont (hmul u hu)
  · intro y hy
    unfold inttStd at hy
    rw [List.mem_map] at hy
    obtain ⟨u, hu, rfl⟩ := hy
    rw [e] at hu
    exact (MRed_spec u T.nInv T.q T.qinv (by omega) hT.mont (hmul u hu)).2

theorem Red.intt (hT : Valid T K) {x : List ℕ} (hx : Red T x) : Red T (inttStd T x) := by
  obtain ⟨hc, hlt⟩ := inttStd_cast hT x (fun u hu => by have := hx.lt u hu; omega)
  have h := congrArg List.length hc
  rw [List.length_map, List.length_map,
    invZ_length _ K 1 _ (by rw [List.length_map, hx.len, hT.n_eq])] at h
  exact ⟨by rw [h, hT.n_eq], hlt⟩

/-- the other inverse direction; no table invariant beyond `Valid` is needed -/
theorem nttStd_inttStd (hT : Valid T K) (x : List ℕ) (hx : Red T x) :
    nttStd T (inttStd T x) = x := by
  have := hT.fact
  have h2 : ∀ u ∈ x, u < 2 * T.q := fun u hu => by have := hx.lt u hu; omega
  obtain ⟨hic, hilt⟩ := inttStd_cast hT x h2
  obtain ⟨hfc, hflt⟩ := nttStd_cast hT (inttStd T x) hilt
  have hlen : (x.map (Nat.cast : ℕ → ZMod T.q)).length = 2 ^ K := by
    rw [List.length_map, hx.len, hT.n_eq]
  apply map_cast_inj (q := T.q) _ _ hflt hx.lt
  rw [hfc, hic,
    fwdZ_map _ (fun z => z * (T.nInv : ZMod T.q) * (W : ZMod T.q)⁻¹) (fun _ _ _ => by ring)
      (fun _ _ _ => by ring) K 1 _ (invZ_length _ K 1 _ hlen),
    fwdZ_invZ (rho T.q T.rootsF) (rho T.q T.rootsB) (2 ^ K) (fun i h1 h2 => hT.rho_inv i h1 h2)
      K 1 _ hlen (by omega) (by omega), List.map_map]
  conv_rhs => rw [← List.map_id (x.map (Nat.cast : ℕ → ZMod T.q))]
  apply List.map_congr_left
  intro z _
  simp only [Function.comp, id]
  calc (2 : ZMod T.q) ^ K * z * (T.nInv : ZMod T.q) * (W : ZMod T.q)⁻¹
      = z * ((T.nInv : ZMod T.q) * (2 : ZMod T.q) ^ K * (W : ZMod T.q)⁻¹) := by ring
    _ = z := by rw [hT.nInv_cast, mul_one]

end otherInverse

section allRows
variable {T : Tables} {K : ℕ}

theorem Red.unmontPart (hT : Valid T K) (g : Bool) {x : List ℕ} (hx : Red T x) :
    Red T ((if g then List.map (fun x => IMForm x T.q T.qinv) else id) x) := by
  have := hT.fact
  cases g
  · exact hx
  · refine ⟨by simp only [if_true, List.length_map]; exact hx.len, ?_⟩
    intro u hu
    simp only [if_true, List.mem_map] at hu
    obtain ⟨v, hv, rfl⟩ := hu
    exact (imform_cast hT v (lt_W hT (hx.lt v hv))).1

theorem Red.unnttPart (hT : Valid T K) (f : Bool) {x : List ℕ} (hx : Red T x) :
    Red T ((if f then inttStd T else id) x) := by
  cases f
  · exact hx
  · exact hx.intt hT

theorem absRow_of_red (f g : Bool) {x : List ℕ} (hx : Red T x) :
    absRow T f g x = (if f then inttStd T else id)
      ((if g then List.map (fun x => IMForm x T.q T.qinv) else id) x) := by
  unfold absRow; rw [map_mod_of_lt _ hx.lt]

theorem Red.abs (hT : Valid T K) (f g : Bool) {x : List ℕ} (hx : Red T x) :
    Red T (absRow T f g x) := by
  rw [absRow_of_red f g hx]; exact (hx.unmontPart hT g).unnttPart hT f

theorem mont_unmont (hT : Valid T K) (g : Bool) (x : List ℕ) (hx : ∀ u ∈ x, u < T.q) :
    (if g then List.map (fun x => MForm x T.q T.bred) else id)
      ((if g then List.map (fun x => IMForm x T.q T.qinv) else id) x) = x := by
  cases g
  · rfl
  · simp only [if_true, List.map_map]
    conv_rhs => rw [← List.map_id x]
    exact List.map_congr_left (fun u hu => mform_imform hT u (hx u hu))

theorem ntt_unntt (hT : Valid T K) (f : Bool) {x : List ℕ} (hx : Red T x) :
    (if f then nttStd T else id) ((if f then inttStd T else id) x) = x := by
  cases f
  · rfl
  · exact nttStd_inttStd hT x hx

theorem reprRow_absRow (hT : Valid T K) (f g : Bool) (x : List ℕ) (hx : Red T x) :
    reprRow T f g (absRow T f g x) = x := by
  rw [absRow_of_red f g hx]
  unfold reprRow
  rw [ntt_unntt hT f (hx.unmontPart hT g), mont_unmont hT g x hx.lt]

/-- A kernel `kop` that is a `LinOp` modulo `q` on reduced words acts as `op` on the abstract rows, whatever the flags.
`% T.q` because the Go `Neg` kernel maps the word `0` to `q` (`Lattigo.negvec_lane_zero`), so its stored words are in
`[0, q]`: harmless, since `absRow` reduces the stored words first. -/
theorem refine_lin_all {op : ℕ → ℕ → ℕ} {opZ : ZMod T.q → ZMod T.q → ZMod T.q} (hT : Valid T K)
    (L : LinOp T.q op opZ) (kop : ℕ → ℕ → ℕ) (h0 : ∀ u v, u < T.q → v < T.q → kop u v % T.q = op u v)
    (f g : Bool) (x y : List ℕ) (hx : Red T x) (hy : Red T y) :
    absRow T f g (List.zipWith kop x y) = List.zipWith op (absRow T f g x) (absRow T f g y) := by
  rw [← absRow_mod, List.map_zipWith,
    zipWith_congr_mem _ _ _ _ (fun u hu v hv => h0 u v (hx.lt u hu) (hy.lt v hv))]
  conv_lhs => rw [← reprRow_absRow hT f g x hx, ← reprRow_absRow hT f g y hy]
  rw [refine_lin hT L f g _ _ (hx.abs hT f g) (hy.abs hT f g),
    absRow_reprRow hT f g _ ((hx.abs hT f g).zipWith L (hy.abs hT f g))]

theorem refine_mul_all (hT : Valid T K) (hinv : TableInv (rho T.q T.rootsF) (2 ^ K))
    (x y : List ℕ) (hx : Red T x) (hy : Red T y) :
    absRow T true false
        (List.zipWith (fun u v => mulcoeffsmontgomeryvec_lane u v 0 T.q T.qinv) x y)
      = RPoly.rowMul T.q (absRow T true false x) (absRow T true true y) := by
  conv_lhs => rw [← reprRow_absRow hT true false x hx, ← reprRow_absRow hT true true y hy]
  exact (congrArg (absRow T true false)
    (refine_mul_ntt hT hinv _ _ (hx.abs hT true false) (hy.abs hT true true))).trans
    (absRow_reprRow hT true false _ ((hx.abs hT true false).rowMul hT _))

theorem refine_mform_all (hT : Valid T K) (f : Bool) (x : List ℕ) (hx : Red T x) :
    absRow T f true (List.map (fun u => mformvec_lane u 0 T.q T.bred) x) = absRow T f false x := by
  conv_lhs => rw [← reprRow_absRow hT f false x hx, refine_mform]
  exact absRow_reprRow hT f true _ (hx.abs hT f false)

theorem refine_imform_all (hT : Valid T K) (f : Bool) (x : List ℕ) (hx : Red T x) :
    absRow T f false (List.map (fun u => imformvec_lane u 0 T.q T.qinv) x) = absRow T f true x := by
  conv_lhs => rw [← reprRow_absRow hT f true x hx, refine_imform hT f _ (hx.abs hT f true)]
  exact absRow_reprRow hT f false _ (hx.abs hT f true)

theorem refine_ntt_all (hT : Valid T K) (x : List ℕ) (hx : Red T x) :
    absRow T true false (nttStd T x) = absRow T false false x := by
  rw [absRow_of_red true false (hx.ntt hT), absRow_of_red false false hx]
  exact inttStd_nttStd hT x hx.len hx.lt

theorem refine_intt_all (hT : Valid T K) (x : List ℕ) (hx : Red T x) :
    absRow T false false (inttStd T x) = absRow T true false x := by
  rw [absRow_of_red false false (hx.intt hT), absRow_of_red true false hx]
  rfl

end allRows

section nonvacuity

/-- the hypotheses `Valid T K`, `TableInv …` hold for the real table of `N = 16`, `q = 65537` -/
theorem T16_valid : Valid (mkTables (2 ^ 4) 65537 (2 ^ 5) 3) 4
    ∧ TableInv (rho 65537 (mkTables (2 ^ 4) 65537 (2 ^ 5) 3).rootsF) (2 ^ 4) :=
  have h := mkTables_all 4 65537 3 (by norm_num) (by decide) (by decide) (by decide +kernel)
  ⟨h.1, h.2.1⟩

example : Red (mkTables (2 ^ 4) 65537 (2 ^ 5) 3) ((List.range 16).map (fun i => 65536 - 4000 * i))
    ∧ Red (mkTables (2 ^ 4) 65537 (2 ^ 5) 3) ((List.range 16).map (fun i => i * i + 1)) :=
  ⟨⟨by decide, by decide⟩, ⟨by decide, by decide⟩⟩

/-- an instance of `refine_mul` obtained from the theorem (not by evaluation) -/
example :
    let T := mkTables (2 ^ 4) 65537 (2 ^ 5) 3
    let a := (List.range 16).map (fun i => 65536 - 4000 * i)
    let b := (List.range 16).map (fun i => i * i + 1)
    inttStd T (List.zipWith (fun x y => MRed x y T.q T.qinv) (nttStd T a)
        ((nttStd T b).map (fun y => MForm y T.q T.bred))) = RPoly.rowMul T.q a b :=
  refine_mul T16_valid.1 T16_valid.2 _ _ ⟨by decide, by decide⟩ ⟨by decide, by decide⟩

end nonvacuity

section poly

/-- the abstract RNS polynomial denoted by stored limbs (one limb vector per sub-ring `T ∈ Ts`) -/
def absPoly (Ts : List Tables) (f g : Bool) (limbs : List (List ℕ)) : RPoly :=
  { qs := Ts.map (·.q), c := List.zipWith (fun T l => absRow T f g l) Ts limbs }

/-- `ring.Ring.<Op>(p1, p2, p3)`: `for i, s := range r.SubRings[:level+1] { s.<Op>(p1.Coeffs[i], p2.Coeffs[i], p3.Coeffs[i]) }` -/
def ringOp2 (k : Tables → List ℕ → List ℕ → List ℕ) (Ts : List Tables) (x y : List (List ℕ)) :
    List (List ℕ) :=
  List.zipWith (fun T (xy : List ℕ × List ℕ) => k T xy.1 xy.2) Ts (x.zip y)

/-- `ring.Ring.<Op>(p1, p2)` -/
def ringOp1 (k : Tables → List ℕ → List ℕ) (Ts : List Tables) (x : List (List ℕ)) : List (List ℕ) :=
  List.zipWith k Ts x

abbrev RedPoly (Ts : List Tables) (x : List (List ℕ)) : Prop := List.Forall₂ Red Ts x

theorem absPoly_ringOp2 (k : Tables → List ℕ → List ℕ → List ℕ) (op : ℕ → List ℕ → List ℕ → List ℕ)
    (f g f1 g1 f2 g2 : Bool) : ∀ (Ts : List Tables) (x y : List (List ℕ)),
    (∀ T ∈ Ts, ∀ u v, Red T u → Red T v →
      absRow T f g (k T u v) = op T.q (absRow T f1 g1 u) (absRow T f2 g2 v)) →
    RedPoly Ts x → RedPoly Ts y →
    absPoly Ts f g (ringOp2 k Ts x y) = RPoly.zipRows op (absPoly Ts f1 g1 x) (absPoly Ts f2 g2 y) := by
  intro Ts x y h hx hy
  unfold absPoly RPoly.zipRows ringOp2
  simp only [RPoly.mk.injEq, true_and]
  induction hx generalizing y with
  | nil => simp
  | @cons T u Ts x' hu hx' ih =>
    cases hy with
    | @cons _ v _ y' hv hy' =>
      simp only [List.zip_cons_cons, List.zipWith_cons_cons, List.map_cons, List.cons.injEq]
      exact ⟨h T (List.mem_cons_self ..) u v hu hv,
        ih y' (fun T' hT' => h T' (List.mem_cons_of_mem _ hT')) hy'⟩

theorem absPoly_ringOp1 (k : Tables → List ℕ → List ℕ) (op : ℕ → List ℕ → List ℕ)
    (f g f1 g1 : Bool) : ∀ (Ts : List Tables) (x : List (List ℕ)),
    (∀ T ∈ Ts, ∀ u, Red T u → absRow T f g (k T u) = op T.q (absRow T f1 g1 u)) →
    RedPoly Ts x →
    absPoly Ts f g (ringOp1 k Ts x) = RPoly.mapRows op (absPoly Ts f1 g1 x) := by
  intro Ts x h hx
  unfold absPoly RPoly.mapRows ringOp1
  simp only [RPoly.mk.injEq, true_and]
  induction hx with
  | nil => simp
  | @cons T u Ts x' hu hx' ih =>
    simp only [List.zip_cons_cons, List.zipWith_cons_cons, List.map_cons, List.cons.injEq]
    exact ⟨h T (List.mem_cons_self ..) u hu, ih (fun T' hT' => h T' (List.mem_cons_of_mem _ hT'))⟩

end poly

/-
  What is NOT covered here (by design of the statements, not an open proof obligation):
  * rows whose words are not reduced (`≥ q`): lazy kernels (`AddLazy`, `MulCoeffsMontgomeryLazy`, …)
    keep words in `[0, 2q)` or more; `absRow` reduces them first, but `reprRow ∘ absRow = id` and the
    `_all` squares are stated for reduced words only;
  * `Neg`: the Go kernel returns `q` (not `0`) on the word `0` (`Lattigo.negvec_lane_zero`), so the
    output of `Neg` is in `[0, q]`; `refine_lin_all` therefore asks of the kernel only that it is the `LinOp`
    modulo `q`, and speaks through `absRow` (which reduces first);
  * the multi-limb layer is treated for `Add/Sub/Neg/MulCoeffsMontgomery` (`Props.C01Ring.words_poly_ring`);
    `rowScale`, `rowAut`, `rowMonomial` have no word-level counterpart in this file: `MulScalar*` are lane statements of
    `Proofs/Kernels.lean`; `AutomorphismNTT` with its index table is the per-row statement `NTT.nttStd_rowAut`
    (`Proofs/Aut.lean`), not lifted to `absRow`/`absPoly`.
-/

end Lattigo.RPolyRefine

#print axioms Lattigo.RPolyRefine.refine_mul
#print axioms Lattigo.RPolyRefine.refine_mul_lane
#print axioms Lattigo.RPolyRefine.refine_mul_ntt
#print axioms Lattigo.RPolyRefine.absRow_reprRow
#print axioms Lattigo.RPolyRefine.reprRow_absRow
#print axioms Lattigo.RPolyRefine.nttStd_add
#print axioms Lattigo.RPolyRefine.nttStd_sub
#print axioms Lattigo.RPolyRefine.nttStd_neg
#print axioms Lattigo.RPolyRefine.nttStd_inttStd
#print axioms Lattigo.RPolyRefine.refine_mform
#print axioms Lattigo.RPolyRefine.refine_imform
#print axioms Lattigo.RPolyRefine.refine_lin_all
#print axioms Lattigo.RPolyRefine.refine_mul_all
#print axioms Lattigo.RPolyRefine.refine_mform_all
#print axioms Lattigo.RPolyRefine.refine_imform_all
#print axioms Lattigo.RPolyRefine.refine_ntt_all
#print axioms Lattigo.RPolyRefine.refine_intt_all
#print axioms Lattigo.RPolyRefine.T16_valid
