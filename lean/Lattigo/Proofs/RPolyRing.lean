import Lattigo.Proofs.NTTMul
import Lattigo.Proofs.RowEval
import Lattigo.Proofs.RLWE
import Mathlib.RingTheory.AdjoinRoot

/-!
  # `RPoly` is the ring `Π_i Z_{q_i}[X]/(X^n+1)` (property C01, abstract ring layer)

  About the executable definitions of `Model/RPoly.lean` (the carrier on which the driver runs the generic scheme-level
  models).  A row is sent to its class `toQuot` in `Rq q n = AdjoinRoot (X^n + 1)`, which is `evalRow` at the root `X`, so
  the row operations are the ring operations by the `evalRow_*` lemmas of `Proofs/RowEval.lean`; `toQuot` is injective on
  well-formed rows and surjective (`q ≥ 2`, `n ≥ 1`, no primality).  Hence the well-formed `RPoly`s over `qs` form a
  commutative ring `WFPoly qs n` whose data fields are the model's operations (`val_add … : rfl`) and whose laws are pulled
  back along the injective `toProd`; `ringEquiv : WFPoly qs n ≃+* Π_i Rq q_i n`.  On it: the Galois maps (`rowAut g` is the
  lift `autHom` of `X ↦ X^g`, which depends on `g` modulo `2n` only), monomials (`X` is a unit), scalars, and the driver's
  Montgomery pair, for which the executable extended Euclid `RPoly.modInv` is shown to invert (`modInv_spec`: the fuel
  `2(log2 m + 2)` suffices).
-/
namespace Lattigo.RPolyRing
open Lattigo Lattigo.NTT Polynomial Finset

/-- `Z_q[X]/(X^n+1)` -/
abbrev Rq (q n : ℕ) : Type := AdjoinRoot (X ^ n + 1 : (ZMod q)[X])

/-- the polynomial `Σ_{i<n} row_i X^i ∈ Z_q[X]` -/
noncomputable def toPoly (q n : ℕ) (row : List ℕ) : (ZMod q)[X] :=
  ∑ i ∈ range n, C ((row.getD i 0 : ℕ) : ZMod q) * X ^ i

/-- the class of `Σ_{i<n} row_i X^i` in `Z_q[X]/(X^n+1)` -/
noncomputable def toQuot (q n : ℕ) (row : List ℕ) : Rq q n := AdjoinRoot.mk _ (toPoly q n row)

/-! ## `toQuot` is evaluation at the root; the row operations are the ring operations -/
section quot
variable {q n : ℕ}

theorem natCast_q_Rq : ((q : ℕ) : Rq q n) = 0 := by
  rw [← map_natCast (AdjoinRoot.of (X ^ n + 1 : (ZMod q)[X])) q, ZMod.natCast_self, map_zero]

theorem root_pow_n : (AdjoinRoot.root (X ^ n + 1 : (ZMod q)[X])) ^ n = -1 := by
  have h := AdjoinRoot.eval₂_root (X ^ n + 1 : (ZMod q)[X])
  simp only [eval₂_add, eval₂_pow, eval₂_X, eval₂_one] at h
  exact eq_neg_of_add_eq_zero_left h

theorem root_pow_two_n : (AdjoinRoot.root (X ^ n + 1 : (ZMod q)[X])) ^ (2 * n) = 1 := by
  rw [mul_comm, pow_mul, root_pow_n, neg_one_sq]

theorem toQuot_eq_evalRow (row : List ℕ) :
    toQuot q n row = evalRow n row (AdjoinRoot.root (X ^ n + 1 : (ZMod q)[X])) := by
  unfold toQuot toPoly evalRow
  rw [map_sum]
  apply sum_congr rfl
  intro i _
  rw [RingHom.map_mul, RingHom.map_pow, AdjoinRoot.mk_X, AdjoinRoot.mk_C, map_natCast]

theorem toQuot_rowAdd (a b : List ℕ) (ha : a.length = n) (hb : b.length = n) :
    toQuot q n (RPoly.rowAdd q a b) = toQuot q n a + toQuot q n b := by
  simp only [toQuot_eq_evalRow]; exact evalRow_rowAdd natCast_q_Rq n a b ha hb _

theorem toQuot_rowSub (hq : 0 < q) (a b : List ℕ) (ha : a.length = n) (hb : b.length = n) :
    toQuot q n (RPoly.rowSub q a b) = toQuot q n a - toQuot q n b := by
  simp only [toQuot_eq_evalRow]; exact evalRow_rowSub hq natCast_q_Rq n a b ha hb _

theorem toQuot_rowNeg (hq : 0 < q) (a : List ℕ) (ha : a.length = n) :
    toQuot q n (RPoly.rowNeg q a) = -toQuot q n a := by
  simp only [toQuot_eq_evalRow]; exact evalRow_rowNeg hq natCast_q_Rq n a ha _

theorem toQuot_rowScale (k : ℕ) (a : List ℕ) (ha : a.length = n) :
    toQuot q n (RPoly.rowScale k q a) = (k : Rq q n) * toQuot q n a := by
  simp only [toQuot_eq_evalRow]; exact evalRow_rowScale natCast_q_Rq n k a ha _

theorem toQuot_rowMul (hq : 0 < q) (a b : List ℕ) (ha : a.length = n) :
    toQuot q n (RPoly.rowMul q a b) = toQuot q n a * toQuot q n b := by
  subst ha
  simp only [toQuot_eq_evalRow]
  exact evalRow_rowMul hq natCast_q_Rq a b _ root_pow_n

end quot

/-! ## `toQuot` is injective on well-formed rows: the modulus is monic and the difference of two rows has smaller degree -/
section inj
variable {q n : ℕ}

theorem toPoly_coeff (row : List ℕ) (i : ℕ) (hi : i < n) :
    (toPoly q n row).coeff i = ((row.getD i 0 : ℕ) : ZMod q) := by
  unfold toPoly
  rw [finsetSum_coeff]
  simp only [coeff_C_mul_X_pow]
  rw [sum_eq_single i]
  · simp
  · intro j _ hj; rw [if_neg (Ne.symm hj)]
  · intro h; exact absurd (mem_range.2 hi) h

theorem toPoly_degree_lt (row : List ℕ) : (toPoly q n row).degree < n := by
  unfold toPoly
  rw [Finset.sum_range (fun i => C ((row.getD i 0 : ℕ) : ZMod q) * X ^ i)]
  exact degree_sum_fin_lt (fun i : Fin n => ((row.getD i 0 : ℕ) : ZMod q))

theorem monic_modulus (hn : 1 ≤ n) : (X ^ n + 1 : (ZMod q)[X]).Monic := by
  have := monic_X_pow_add_C (1 : ZMod q) (n := n) (by omega)
  rwa [map_one] at this

theorem degree_modulus (hq : 2 ≤ q) (hn : 1 ≤ n) : (X ^ n + 1 : (ZMod q)[X]).degree = n := by
  have : Fact (1 < q) := ⟨by omega⟩
  have := degree_X_pow_add_C (R := ZMod q) (n := n) (by omega) 1
  rwa [map_one] at this

theorem toPoly_eq_of_toQuot_eq (hq : 2 ≤ q) (hn : 1 ≤ n) (a b : List ℕ)
    (h : toQuot q n a = toQuot q n b) : toPoly q n a = toPoly q n b := by
  unfold toQuot at h
  rw [AdjoinRoot.mk_eq_mk] at h
  by_contra hne
  have h0 : toPoly q n a - toPoly q n b ≠ 0 := sub_ne_zero.2 hne
  have hd : (toPoly q n a - toPoly q n b).degree < (X ^ n + 1 : (ZMod q)[X]).degree := by
    rw [degree_modulus hq hn]
    exact lt_of_le_of_lt (degree_sub_le _ _) (max_lt (toPoly_degree_lt a) (toPoly_degree_lt b))
  exact (monic_modulus hn).not_dvd_of_degree_lt h0 hd h

theorem toQuot_inj (hq : 2 ≤ q) (hn : 1 ≤ n) {a b : List ℕ} (ha : RowWF q n a) (hb : RowWF q n b)
    (h : toQuot q n a = toQuot q n b) : a = b := by
  have hp := toPoly_eq_of_toQuot_eq hq hn a b h
  apply List.ext_getElem (by rw [ha.len, hb.len])
  intro i h1 h2
  have hi : i < n := by rw [← ha.len]; exact h1
  have hc := congrArg (fun p => p.coeff i) hp
  simp only [toPoly_coeff _ _ hi] at hc
  have := (ZMod.natCast_eq_natCast_iff' _ _ q).1 hc
  rw [Nat.mod_eq_of_lt (ha.lt _ (ListLemmas.getD_mem h1)), Nat.mod_eq_of_lt (hb.lt _ (ListLemmas.getD_mem h2))] at this
  simpa [List.getD_eq_getElem?_getD, h1, h2] using this

end inj

section surj
variable {q n : ℕ}

/-- canonical row of a polynomial: the residues of its first `n` coefficients -/
noncomputable def rowOfPoly (q n : ℕ) (p : (ZMod q)[X]) : List ℕ :=
  (List.range n).map fun i => (p.coeff i).val

theorem rowOfPoly_wf (hq : 2 ≤ q) (p : (ZMod q)[X]) : RowWF q n (rowOfPoly q n p) :=
  have : NeZero q := ⟨by omega⟩
  RowWF.range_map _ fun _ => ZMod.val_lt _

theorem toPoly_rowOfPoly (hq : 2 ≤ q) (p : (ZMod q)[X]) (hp : p.degree < n) :
    toPoly q n (rowOfPoly q n p) = p := by
  have : NeZero q := ⟨by omega⟩
  ext i
  by_cases hi : i < n
  · rw [toPoly_coeff _ _ hi]
    unfold rowOfPoly
    rw [ListLemmas.getD_map_range _ _ _ hi, ZMod.natCast_zmod_val]
  · have h1 : (toPoly q n (rowOfPoly q n p)).coeff i = 0 :=
      coeff_eq_zero_of_degree_lt (lt_of_lt_of_le (toPoly_degree_lt _) (by exact_mod_cast (not_lt.1 hi)))
    have h2 : p.coeff i = 0 :=
      coeff_eq_zero_of_degree_lt (lt_of_lt_of_le hp (by exact_mod_cast (not_lt.1 hi)))
    rw [h1, h2]

theorem toQuot_surj (hq : 2 ≤ q) (hn : 1 ≤ n) (x : Rq q n) : ∃ row, RowWF q n row ∧ toQuot q n row = x := by
  have : Fact (1 < q) := ⟨by omega⟩
  obtain ⟨p, rfl⟩ := AdjoinRoot.mk_surjective x
  have hm := monic_modulus (q := q) hn
  refine ⟨rowOfPoly q n (p %ₘ (X ^ n + 1)), rowOfPoly_wf hq _, ?_⟩
  unfold toQuot
  rw [toPoly_rowOfPoly hq _ (by rw [← degree_modulus hq hn]; exact degree_modByMonic_lt p hm),
    AdjoinRoot.mk_eq_mk]
  refine ⟨-(p /ₘ (X ^ n + 1)), ?_⟩
  have := modByMonic_add_div p (X ^ n + 1 : (ZMod q)[X])
  linear_combination this

end surj

section closure
variable {q n : ℕ}

/-- the zero row (`RPoly.zero` uses it) -/
def zeroRow (n : ℕ) : List ℕ := List.replicate n 0
/-- the unit row `1 = [1, 0, …, 0]` -/
def oneRow (n : ℕ) : List ℕ := (List.range n).map fun i => if i = 0 then 1 else 0

theorem RowWF.zero (hq : 0 < q) : RowWF q n (zeroRow n) :=
  ⟨by simp [zeroRow], fun x hx => by rw [(List.mem_replicate.1 hx).2]; exact hq⟩

theorem RowWF.one (hq : 2 ≤ q) : RowWF q n (oneRow n) :=
  RowWF.range_map _ fun i => by split <;> omega

theorem RowWF.zipWith {a b : List ℕ} (f : ℕ → ℕ → ℕ) (hf : ∀ x y, f x y < q) (ha : RowWF q n a)
    (hb : RowWF q n b) : RowWF q n (List.zipWith f a b) :=
  ⟨by rw [List.length_zipWith, ha.len, hb.len, Nat.min_self],
   ListLemmas.forall_zipWith f (fun z => z < q) _ _ fun _ _ _ _ => hf _ _⟩

theorem RowWF.map {a : List ℕ} (f : ℕ → ℕ) (hf : ∀ x, f x < q) (ha : a.length = n) : RowWF q n (a.map f) :=
  ⟨by rw [List.length_map, ha], fun x hx => by
    obtain ⟨i, _, rfl⟩ := List.mem_map.1 hx
    exact hf i⟩

theorem RowWF.add {a b : List ℕ} (hq : 0 < q) (ha : RowWF q n a) (hb : RowWF q n b) :
    RowWF q n (RPoly.rowAdd q a b) := ha.zipWith _ (fun _ _ => Nat.mod_lt _ hq) hb

theorem RowWF.sub {a b : List ℕ} (hq : 0 < q) (ha : RowWF q n a) (hb : RowWF q n b) :
    RowWF q n (RPoly.rowSub q a b) := ha.zipWith _ (fun _ _ => Nat.mod_lt _ hq) hb

theorem RowWF.neg {a : List ℕ} (hq : 0 < q) (ha : RowWF q n a) : RowWF q n (RPoly.rowNeg q a) :=
  RowWF.map _ (fun _ => Nat.mod_lt _ hq) ha.len

theorem RowWF.scale {a : List ℕ} (k : ℕ) (hq : 0 < q) (ha : RowWF q n a) :
    RowWF q n (RPoly.rowScale k q a) := RowWF.map _ (fun _ => Nat.mod_lt _ hq) ha.len

theorem RowWF.mul {a : List ℕ} (b : List ℕ) (hq : 0 < q) (ha : RowWF q n a) :
    RowWF q n (RPoly.rowMul q a b) :=
  ⟨by rw [rowMul_length, ha.len], rowMul_lt hq a b⟩

theorem toQuot_zeroRow : toQuot q n (zeroRow n) = 0 := by
  rw [toQuot_eq_evalRow]; unfold evalRow zeroRow
  apply sum_eq_zero
  intro i hi
  have : (List.replicate n 0).getD i 0 = 0 := by
    simp [List.getD_eq_getElem?_getD, mem_range.1 hi]
  rw [this, Nat.cast_zero, zero_mul]

theorem toQuot_oneRow (hn : 1 ≤ n) : toQuot q n (oneRow n) = 1 := by
  rw [toQuot_eq_evalRow, oneRow, evalRow_const hn, Nat.cast_one]

end closure

section aut
variable {q n : ℕ}

/-- the Galois endomorphism `X ↦ X^g` of `Z_q[X]/(X^n+1)`, `g` odd -/
noncomputable def autHom (q n g : ℕ) (hg : Odd g) : Rq q n →+* Rq q n :=
  AdjoinRoot.lift (AdjoinRoot.of _) ((AdjoinRoot.root (X ^ n + 1 : (ZMod q)[X])) ^ g) (by
    simp only [eval₂_add, eval₂_pow, eval₂_X, eval₂_one]
    rw [← pow_mul, mul_comm, pow_mul, root_pow_n, hg.neg_one_pow, neg_add_cancel])

theorem autHom_root (g : ℕ) (hg : Odd g) :
    autHom q n g hg (AdjoinRoot.root _) = (AdjoinRoot.root (X ^ n + 1 : (ZMod q)[X])) ^ g := by
  unfold autHom; rw [AdjoinRoot.lift_root]

theorem toQuot_rowAut (hq : 0 < q) (hn : 1 ≤ n) (g : ℕ) (hg : Odd g) (hc : Nat.Coprime g n)
    (a : List ℕ) (ha : a.length = n) :
    toQuot q n (RPoly.rowAut g q a) = autHom q n g hg (toQuot q n a) := by
  simp only [toQuot_eq_evalRow]
  rw [map_evalRow, autHom_root]
  exact evalRow_rowAut hq natCast_q_Rq hn root_pow_n g hc a ha

theorem toQuot_rowMonomial_pow (hq : 0 < q) (hn : 1 ≤ n) (k : ℤ) (a : List ℕ) (ha : a.length = n) :
    toQuot q n (RPoly.rowMonomial k q a)
      = (AdjoinRoot.root (X ^ n + 1 : (ZMod q)[X])) ^ (k % (2 * n : ℤ)).toNat * toQuot q n a := by
  simp only [toQuot_eq_evalRow]
  exact evalRow_rowMonomial hq natCast_q_Rq hn root_pow_n k a ha

/-- `X` is a unit of `Z_q[X]/(X^n+1)`: `X · (−X^{n−1}) = 1` -/
noncomputable def rootUnit (q n : ℕ) (hn : 1 ≤ n) : (Rq q n)ˣ where
  val := AdjoinRoot.root _
  inv := -(AdjoinRoot.root (X ^ n + 1 : (ZMod q)[X])) ^ (n - 1)
  val_inv := by
    have : (AdjoinRoot.root (X ^ n + 1 : (ZMod q)[X])) * (AdjoinRoot.root _) ^ (n - 1) = -1 := by
      rw [← pow_succ', Nat.sub_add_cancel hn, root_pow_n]
    rw [mul_neg, this, neg_neg]
  inv_val := by
    have : (AdjoinRoot.root (X ^ n + 1 : (ZMod q)[X])) ^ (n - 1) * (AdjoinRoot.root _) = -1 := by
      rw [← pow_succ, Nat.sub_add_cancel hn, root_pow_n]
    rw [neg_mul, this, neg_neg]

theorem rootUnit_pow_two_n (hn : 1 ≤ n) : rootUnit q n hn ^ (2 * n) = 1 :=
  Units.ext (by rw [Units.val_pow_eq_pow_val, Units.val_one]; exact root_pow_two_n)

/-- `k` is any integer: `X` is a unit (`rootUnit`) -/
theorem toQuot_rowMonomial (hq : 0 < q) (hn : 1 ≤ n) (k : ℤ) (a : List ℕ) (ha : a.length = n) :
    toQuot q n (RPoly.rowMonomial k q a) = ((rootUnit q n hn ^ k : (Rq q n)ˣ) : Rq q n) * toQuot q n a := by
  have h1 : rootUnit q n hn ^ (2 * n : ℤ) = 1 := by exact_mod_cast rootUnit_pow_two_n (q := q) hn
  rw [toQuot_rowMonomial_pow hq hn k a ha, zpow_eq_zpow_emod k h1]
  conv_rhs => rw [← Int.toNat_of_nonneg (Int.emod_nonneg k (by omega : (2 * n : ℤ) ≠ 0))]
  rw [zpow_natCast, Units.val_pow_eq_pow_val]
  rfl

theorem autHom_of (g : ℕ) (hg : Odd g) (c : ZMod q) :
    autHom q n g hg (AdjoinRoot.of _ c) = AdjoinRoot.of _ c := by
  unfold autHom; rw [AdjoinRoot.lift_of]

theorem root_pow_mod (a : ℕ) :
    (AdjoinRoot.root (X ^ n + 1 : (ZMod q)[X])) ^ a = (AdjoinRoot.root (X ^ n + 1 : (ZMod q)[X])) ^ (a % (2 * n)) :=
  pow_eq_pow_mod a root_pow_two_n

theorem autHom_congr {g g' : ℕ} (hg : Odd g) (hg' : Odd g') (h : g % (2 * n) = g' % (2 * n)) :
    autHom q n g hg = autHom q n g' hg' := by
  apply AdjoinRoot.ringHom_ext
  · ext c
    simp only [RingHom.comp_apply, autHom_of]
  · rw [autHom_root, autHom_root, root_pow_mod g, root_pow_mod g', h]

theorem autHom_comp (g g' : ℕ) (hg : Odd g) (hg' : Odd g') :
    (autHom q n g' hg').comp (autHom q n g hg) = autHom q n (g * g') (hg.mul hg') := by
  apply AdjoinRoot.ringHom_ext
  · ext c
    simp only [RingHom.comp_apply, autHom_of]
  · simp only [RingHom.comp_apply, autHom_root, map_pow, pow_mul]
    rw [← pow_mul, ← pow_mul, mul_comm]

theorem autHom_eq_id (g : ℕ) (hg : Odd g) (h1 : g % (2 * n) = 1) : autHom q n g hg = RingHom.id _ := by
  apply AdjoinRoot.ringHom_ext
  · ext c
    simp only [RingHom.comp_apply, autHom_of, RingHom.id_apply]
  · rw [autHom_root, RingHom.id_apply, pow_eq_pow_mod g root_pow_two_n, h1, pow_one]

theorem autHom_bijective (hn : 1 ≤ n) (g : ℕ) (hg : Odd g) (hc : Nat.Coprime g n) :
    Function.Bijective (autHom q n g hg) := by
  have hc2 : Nat.Coprime g (2 * n) := Nat.Coprime.mul_right (Nat.coprime_two_right.2 hg) hc
  obtain ⟨g', _, hgg⟩ := Nat.exists_mul_mod_eq_one_of_coprime hc2 (by omega)
  have hg' : Odd g' := by
    by_contra h
    rw [Nat.not_odd_iff_even] at h
    have he : Even (g * g') := h.mul_left g
    have he2 : Even (g * g' % (2 * n)) := he.mod_even (even_two_mul n)
    rw [hgg] at he2
    exact absurd he2 (by decide)
  have h1 : (autHom q n g' hg').comp (autHom q n g hg) = RingHom.id _ := by
    rw [autHom_comp, autHom_eq_id _ _ hgg]
  have h2 : (autHom q n g hg).comp (autHom q n g' hg') = RingHom.id _ := by
    rw [autHom_comp, autHom_eq_id _ _ (by rw [mul_comm]; exact hgg)]
  rw [Function.bijective_iff_has_inverse]
  exact ⟨autHom q n g' hg', fun x => by simpa using congrArg (fun f => f x) h1,
    fun x => by simpa using congrArg (fun f => f x) h2⟩

theorem odd_coprime_mod_iff (n g : ℕ) :
    Odd (g % (2 * n)) ∧ Nat.Coprime (g % (2 * n)) n ↔ Odd g ∧ Nat.Coprime g n := by
  rw [Nat.odd_iff, Nat.odd_iff, Nat.mod_mod_of_dvd g (dvd_mul_right 2 n), ← ZMod.coprime_mod_iff_coprime (g % (2 * n)),
    ← ZMod.coprime_mod_iff_coprime g, Nat.mod_mod_of_dvd g (dvd_mul_left n 2)]

theorem RowWF.eq_of_one {a b : List ℕ} (ha : RowWF 1 n a) (hb : RowWF 1 n b) : a = b := by
  apply List.ext_getElem (by rw [ha.len, hb.len])
  intro i h1 h2
  have := ha.lt _ (List.getElem_mem h1)
  have := hb.lt _ (List.getElem_mem h2)
  omega

/-- `autHom_comp`, read back through the injective `toQuot` (for `q = 1` there is one well-formed row only) -/
theorem rowAut_comp (hq : 0 < q) (hn : 1 ≤ n) (g h : ℕ) (hg : Odd g) (hh : Odd h)
    (hcg : Nat.Coprime g n) (hch : Nat.Coprime h n) {x : List ℕ} (hx : RowWF q n x) :
    RPoly.rowAut g q (RPoly.rowAut h q x) = RPoly.rowAut (g * h % (2 * n)) q x := by
  obtain ⟨hgh, hcgh⟩ := (odd_coprime_mod_iff n (g * h)).2 ⟨hg.mul hh, Nat.Coprime.mul_left hcg hch⟩
  have w1 := hx.aut hq hn h hch
  have w2 := w1.aut hq hn g hcg
  have w3 := hx.aut hq hn _ hcgh
  rcases Nat.lt_or_ge q 2 with h1 | h2
  · obtain rfl : q = 1 := by omega
    exact RowWF.eq_of_one w2 w3
  · apply toQuot_inj h2 hn w2 w3
    rw [toQuot_rowAut hq hn g hg hcg _ w1.len, toQuot_rowAut hq hn h hh hch _ hx.len,
      toQuot_rowAut hq hn _ hgh hcgh _ hx.len, ← RingHom.comp_apply, autHom_comp,
      autHom_congr (hh.mul hg) hgh (by rw [Nat.mod_mod, Nat.mul_comm])]

end aut

/-- well-formed RNS polynomial of degree `n`: one well-formed row per modulus -/
def _root_.Lattigo.RPoly.WF (n : ℕ) (p : RPoly) : Prop :=
  p.c.length = p.qs.length ∧ ∀ i (h : i < p.qs.length), RowWF (p.qs[i]) n (p.c.getD i [])

theorem rpoly_ext {a b : RPoly} (hq : a.qs = b.qs) (hl : a.c.length = b.c.length)
    (h : ∀ i, i < a.c.length → a.c.getD i [] = b.c.getD i []) : a = b := by
  obtain ⟨aq, ac⟩ := a
  obtain ⟨bq, bc⟩ := b
  simp only at hq hl h
  subst hq
  congr 1
  apply List.ext_getElem hl
  intro i h1 h2
  have := h i h1
  simpa [List.getD_eq_getElem?_getD, h1, h2] using this

theorem zipRows_qs (f : ℕ → List ℕ → List ℕ → List ℕ) (a b : RPoly) : (RPoly.zipRows f a b).qs = a.qs := rfl
theorem mapRows_qs (f : ℕ → List ℕ → List ℕ) (a : RPoly) : (RPoly.mapRows f a).qs = a.qs := rfl

theorem zipRows_length (f : ℕ → List ℕ → List ℕ → List ℕ) (a b : RPoly) (ha : a.c.length = a.qs.length)
    (hb : b.c.length = a.qs.length) : (RPoly.zipRows f a b).c.length = a.qs.length := by
  simp [RPoly.zipRows, ha, hb]

theorem zipRows_getD (f : ℕ → List ℕ → List ℕ → List ℕ) (a b : RPoly) (ha : a.c.length = a.qs.length)
    (hb : b.c.length = a.qs.length) (i : ℕ) (hi : i < a.qs.length) :
    (RPoly.zipRows f a b).c.getD i [] = f (a.qs[i]) (a.c.getD i []) (b.c.getD i []) := by
  have h1 : i < a.c.length := by omega
  have h2 : i < b.c.length := by omega
  simp [RPoly.zipRows, List.getD_eq_getElem?_getD, hi, h1, h2]

theorem mapRows_length (f : ℕ → List ℕ → List ℕ) (a : RPoly) (ha : a.c.length = a.qs.length) :
    (RPoly.mapRows f a).c.length = a.qs.length := by
  simp [RPoly.mapRows, ha]

theorem mapRows_getD (f : ℕ → List ℕ → List ℕ) (a : RPoly) (ha : a.c.length = a.qs.length)
    (i : ℕ) (hi : i < a.qs.length) :
    (RPoly.mapRows f a).c.getD i [] = f (a.qs[i]) (a.c.getD i []) := by
  have h1 : i < a.c.length := by omega
  simp [RPoly.mapRows, List.getD_eq_getElem?_getD, hi, h1]

/-- admissible parameters: degree `≥ 1`, every modulus `≥ 2` (primality NOT needed) -/
class Good (qs : List ℕ) (n : ℕ) : Prop where
  n_pos : 1 ≤ n
  q_ge : ∀ q ∈ qs, 2 ≤ q

theorem Good.two_mul {qs : List ℕ} {n : ℕ} (h : Good qs n) : Good qs (2 * n) :=
  ⟨Nat.le_trans h.n_pos (Nat.le_mul_of_pos_left n two_pos), h.q_ge⟩

theorem Good.q_ge_get {qs : List ℕ} {n : ℕ} (h : Good qs n) (i : ℕ) (hi : i < qs.length) : 2 ≤ qs[i] :=
  h.q_ge _ (List.getElem_mem hi)

theorem Good.q_ge_of_eq {qs : List ℕ} {n : ℕ} (h : Good qs n) (l : List ℕ) (e : l = qs) (i : ℕ)
    (hi : i < l.length) : 2 ≤ l[i] := by
  subst e; exact h.q_ge _ (List.getElem_mem hi)

/-- the carrier: well-formed RNS polynomials over the moduli `qs`, degree `n` -/
def WFPoly (qs : List ℕ) (n : ℕ) : Type := {p : RPoly // p.qs = qs ∧ p.WF n}

namespace WFPoly
variable {qs : List ℕ} {n : ℕ}

theorem c_length (a : WFPoly qs n) : a.1.c.length = a.1.qs.length := a.2.2.1
theorem row_wf (a : WFPoly qs n) (i : ℕ) (hi : i < a.1.qs.length) : RowWF (a.1.qs[i]) n (a.1.c.getD i []) :=
  a.2.2.2 i hi

/-- closure under a row-wise binary operation that preserves `RowWF` -/
def zip (f : ℕ → List ℕ → List ℕ → List ℕ)
    (hf : ∀ q x y, 2 ≤ q → RowWF q n x → RowWF q n y → RowWF q n (f q x y)) [hg : Good qs n]
    (a b : WFPoly qs n) : WFPoly qs n :=
  ⟨RPoly.zipRows f a.1 b.1, a.2.1, by
    have hb : b.1.c.length = a.1.qs.length := by rw [b.c_length, b.2.1, a.2.1]
    refine ⟨zipRows_length f _ _ a.c_length hb, fun i hi => ?_⟩
    have hi' : i < a.1.qs.length := hi
    rw [zipRows_getD f _ _ a.c_length hb i hi']
    have hq : 2 ≤ a.1.qs[i] := hg.q_ge_of_eq _ a.2.1 i hi'
    have hbi : i < b.1.qs.length := by rw [b.2.1, ← a.2.1]; exact hi'
    have e : b.1.qs[i] = a.1.qs[i] := by simp only [b.2.1, a.2.1]
    have := b.row_wf i hbi
    rw [e] at this
    exact hf _ _ _ hq (a.row_wf i hi') this⟩

def map (f : ℕ → List ℕ → List ℕ)
    (hf : ∀ q x, 2 ≤ q → RowWF q n x → RowWF q n (f q x)) [hg : Good qs n]
    (a : WFPoly qs n) : WFPoly qs n :=
  ⟨RPoly.mapRows f a.1, a.2.1, by
    refine ⟨mapRows_length f _ a.c_length, fun i hi => ?_⟩
    have hi' : i < a.1.qs.length := hi
    rw [mapRows_getD f _ a.c_length i hi']
    have hq : 2 ≤ a.1.qs[i] := hg.q_ge_of_eq _ a.2.1 i hi'
    exact hf _ _ hq (a.row_wf i hi')⟩

/-- the polynomial whose row for the modulus `q` is `row q` -/
def const (row : ℕ → List ℕ) (hrow : ∀ q, 2 ≤ q → RowWF q n (row q)) [hg : Good qs n] : WFPoly qs n :=
  ⟨{ qs := qs, c := qs.map row }, rfl, by
    refine ⟨by simp, fun i hi => ?_⟩
    have hi' : i < qs.length := hi
    have : (List.map row qs).getD i [] = row qs[i] := by simp [List.getD_eq_getElem?_getD, hi']
    simp only [this]
    exact hrow _ (hg.q_ge _ (List.getElem_mem hi'))⟩

variable [hg : Good qs n]

instance : Add (WFPoly qs n) := ⟨zip RPoly.rowAdd fun _ _ _ hq hx hy => hx.add (by omega) hy⟩
instance : Sub (WFPoly qs n) := ⟨zip RPoly.rowSub fun _ _ _ hq hx hy => hx.sub (by omega) hy⟩
instance : Mul (WFPoly qs n) := ⟨zip RPoly.rowMul fun _ _ y hq hx _ => hx.mul y (by omega)⟩
instance : Neg (WFPoly qs n) := ⟨map RPoly.rowNeg fun _ _ hq hx => hx.neg (by omega)⟩
instance : Zero (WFPoly qs n) := ⟨const (fun _ => zeroRow n) fun _ hq => RowWF.zero (by omega)⟩
instance : One (WFPoly qs n) := ⟨const (fun _ => oneRow n) fun _ hq => RowWF.one hq⟩

theorem val_add (a b : WFPoly qs n) : (a + b).1 = a.1 + b.1 := rfl
theorem val_sub (a b : WFPoly qs n) : (a - b).1 = a.1 - b.1 := rfl
theorem val_mul (a b : WFPoly qs n) : (a * b).1 = a.1 * b.1 := rfl
theorem val_neg (a : WFPoly qs n) : (-a).1 = -a.1 := rfl
theorem val_zero : (0 : WFPoly qs n).1 = RPoly.zero qs n := rfl

/-- `Π_i Z_{q_i}[X]/(X^n+1)` -/
abbrev Prod (qs : List ℕ) (n : ℕ) : Type := ∀ i : Fin qs.length, Rq (qs.get i) n

/-- component `i` of a well-formed polynomial, as an element of `Z_{q_i}[X]/(X^n+1)` -/
noncomputable def toProd (a : WFPoly qs n) : Prod qs n := fun i => toQuot (qs.get i) n (a.1.c.getD i [])

omit hg in
theorem row_wf' (a : WFPoly qs n) (i : Fin qs.length) : RowWF (qs.get i) n (a.1.c.getD i []) := by
  obtain ⟨⟨aqs, ac⟩, rfl, h⟩ := a
  exact h.2 i i.2

omit hg in
theorem c_length' (a : WFPoly qs n) : a.1.c.length = qs.length := by rw [a.c_length, a.2.1]

theorem zip_getD (f hf) (a b : WFPoly qs n) (i : Fin qs.length) :
    (zip f hf a b).1.c.getD i [] = f (qs.get i) (a.1.c.getD i []) (b.1.c.getD i []) := by
  obtain ⟨⟨aqs, ac⟩, rfl, ha⟩ := a
  exact zipRows_getD f _ _ ha.1 (by rw [b.c_length']) i i.2

theorem map_getD (f hf) (a : WFPoly qs n) (i : Fin qs.length) :
    (map f hf a).1.c.getD i [] = f (qs.get i) (a.1.c.getD i []) := by
  obtain ⟨⟨aqs, ac⟩, rfl, ha⟩ := a
  exact mapRows_getD f _ ha.1 i i.2

theorem const_getD (row hrow) (i : Fin qs.length) :
    (const (qs := qs) (n := n) row hrow).1.c.getD i [] = row (qs.get i) := by
  simp [const, List.getD_eq_getElem?_getD]

theorem toProd_add (a b : WFPoly qs n) : toProd (a + b) = toProd a + toProd b := by
  funext i
  show toQuot _ _ ((zip _ _ a b).1.c.getD i []) = _
  rw [zip_getD, toQuot_rowAdd _ _ (a.row_wf' i).len (b.row_wf' i).len]; rfl

theorem toProd_sub (a b : WFPoly qs n) : toProd (a - b) = toProd a - toProd b := by
  funext i
  show toQuot _ _ ((zip _ _ a b).1.c.getD i []) = _
  have hq : 2 ≤ qs.get i := hg.q_ge_get i i.2
  rw [zip_getD, toQuot_rowSub (by omega) _ _ (a.row_wf' i).len (b.row_wf' i).len]; rfl

theorem toProd_mul (a b : WFPoly qs n) : toProd (a * b) = toProd a * toProd b := by
  funext i
  show toQuot _ _ ((zip _ _ a b).1.c.getD i []) = _
  have hq : 2 ≤ qs.get i := hg.q_ge_get i i.2
  rw [zip_getD, toQuot_rowMul (by omega) _ _ (a.row_wf' i).len]; rfl

theorem toProd_neg (a : WFPoly qs n) : toProd (-a) = -toProd a := by
  funext i
  show toQuot _ _ ((map _ _ a).1.c.getD i []) = _
  have hq : 2 ≤ qs.get i := hg.q_ge_get i i.2
  rw [map_getD, toQuot_rowNeg (by omega) _ (a.row_wf' i).len]; rfl

theorem toProd_zero : toProd (0 : WFPoly qs n) = 0 := by
  funext i
  show toQuot _ _ ((const _ _).1.c.getD i []) = _
  rw [const_getD, toQuot_zeroRow]; rfl

theorem toProd_one : toProd (1 : WFPoly qs n) = 1 := by
  funext i
  show toQuot _ _ ((const _ _).1.c.getD i []) = _
  rw [const_getD, toQuot_oneRow hg.n_pos]; rfl

theorem toProd_injective : Function.Injective (toProd (qs := qs) (n := n)) := fun a b h =>
  Subtype.ext (rpoly_ext (a.2.1.trans b.2.1.symm) (a.c_length'.trans b.c_length'.symm) fun i hi =>
    have hi' : i < qs.length := a.c_length' ▸ hi
    toQuot_inj (hg.q_ge_get i hi') hg.n_pos (a.row_wf' ⟨i, hi'⟩) (b.row_wf' ⟨i, hi'⟩)
      (congrFun h ⟨i, hi'⟩))

/-- **`WFPoly qs n` is a commutative ring** whose `+ − * neg 0` are the model's `RPoly` operations -/
noncomputable instance instCommRing : CommRing (WFPoly qs n) where
  add := (· + ·)
  add_assoc a b c := toProd_injective (by simp only [toProd_add, add_assoc])
  zero := 0
  zero_add a := toProd_injective (by simp only [toProd_add, toProd_zero, zero_add])
  add_zero a := toProd_injective (by simp only [toProd_add, toProd_zero, add_zero])
  nsmul := nsmulRec
  neg := Neg.neg
  sub := (· - ·)
  sub_eq_add_neg a b := toProd_injective (by simp only [toProd_sub, toProd_add, toProd_neg, sub_eq_add_neg])
  zsmul := zsmulRec
  neg_add_cancel a := toProd_injective (by simp only [toProd_add, toProd_neg, toProd_zero, neg_add_cancel])
  add_comm a b := toProd_injective (by simp only [toProd_add, add_comm])
  mul := (· * ·)
  left_distrib a b c := toProd_injective (by simp only [toProd_add, toProd_mul, mul_add])
  right_distrib a b c := toProd_injective (by simp only [toProd_add, toProd_mul, add_mul])
  zero_mul a := toProd_injective (by simp only [toProd_mul, toProd_zero, zero_mul])
  mul_zero a := toProd_injective (by simp only [toProd_mul, toProd_zero, mul_zero])
  mul_assoc a b c := toProd_injective (by simp only [toProd_mul, mul_assoc])
  one := 1
  one_mul a := toProd_injective (by simp only [toProd_mul, toProd_one, one_mul])
  mul_one a := toProd_injective (by simp only [toProd_mul, toProd_one, mul_one])
  mul_comm a b := toProd_injective (by simp only [toProd_mul, mul_comm])

/-- the embedding as a ring homomorphism -/
noncomputable def toProdHom : WFPoly qs n →+* Prod qs n where
  toFun := toProd
  map_one' := toProd_one
  map_mul' := toProd_mul
  map_zero' := toProd_zero
  map_add' := toProd_add

end WFPoly

/-! ## the commutative-ring laws on well-formed rows: those of `WFPoly [q] n`, read off its one row -/
section laws
variable {q n : ℕ} {a b c : List ℕ}

theorem good_single (hq : 2 ≤ q) (hn : 1 ≤ n) : Good [q] n :=
  ⟨hn, fun x hx => by rw [List.mem_singleton.1 hx]; exact hq⟩

/-- a well-formed row as the polynomial over the single modulus `q` -/
def WFPoly.ofRow (ha : RowWF q n a) : WFPoly [q] n :=
  ⟨⟨[q], [a]⟩, rfl, rfl, fun i hi => by obtain rfl := Nat.lt_one_iff.1 hi; exact ha⟩

/-- the row of a polynomial over a single modulus -/
def WFPoly.row (p : WFPoly [q] n) : List ℕ := p.1.c.headD []

theorem one_rowMul (hq : 2 ≤ q) (hn : 1 ≤ n) (ha : RowWF q n a) : RPoly.rowMul q (oneRow n) a = a :=
  have := good_single hq hn
  congrArg WFPoly.row (one_mul (WFPoly.ofRow ha))

variable (hq : 2 ≤ q) (hn : 1 ≤ n) (ha : RowWF q n a) (hb : RowWF q n b) (hc : RowWF q n c)
include hq hn ha

theorem rowAdd_zero : RPoly.rowAdd q a (zeroRow n) = a :=
  have := good_single hq hn
  congrArg WFPoly.row (add_zero (WFPoly.ofRow ha))

theorem rowAdd_neg : RPoly.rowAdd q a (RPoly.rowNeg q a) = zeroRow n :=
  have := good_single hq hn
  congrArg WFPoly.row (add_neg_cancel (WFPoly.ofRow ha))

theorem rowMul_one : RPoly.rowMul q a (oneRow n) = a :=
  have := good_single hq hn
  congrArg WFPoly.row (mul_one (WFPoly.ofRow ha))

theorem rowMul_zero : RPoly.rowMul q a (zeroRow n) = zeroRow n :=
  have := good_single hq hn
  congrArg WFPoly.row (mul_zero (WFPoly.ofRow ha))

include hb

theorem rowAdd_comm : RPoly.rowAdd q a b = RPoly.rowAdd q b a :=
  have := good_single hq hn
  congrArg WFPoly.row (add_comm (WFPoly.ofRow ha) (WFPoly.ofRow hb))

theorem rowSub_eq_add_neg : RPoly.rowSub q a b = RPoly.rowAdd q a (RPoly.rowNeg q b) :=
  have := good_single hq hn
  congrArg WFPoly.row (sub_eq_add_neg (WFPoly.ofRow ha) (WFPoly.ofRow hb))

theorem rowMul_comm : RPoly.rowMul q a b = RPoly.rowMul q b a :=
  have := good_single hq hn
  congrArg WFPoly.row (mul_comm (WFPoly.ofRow ha) (WFPoly.ofRow hb))

/-- no hypothesis on `c`: `toQuot_rowMul` only needs the length of its left factor -/
theorem rowMul_assoc : RPoly.rowMul q (RPoly.rowMul q a b) c = RPoly.rowMul q a (RPoly.rowMul q b c) := by
  have hq0 : 0 < q := by omega
  exact toQuot_inj hq hn ((ha.mul b hq0).mul c hq0) (ha.mul _ hq0)
    (by rw [toQuot_rowMul hq0 _ _ (ha.mul b hq0).len, toQuot_rowMul hq0 _ _ ha.len,
      toQuot_rowMul hq0 _ _ ha.len, toQuot_rowMul hq0 _ _ hb.len, mul_assoc])

include hc

theorem rowAdd_assoc : RPoly.rowAdd q (RPoly.rowAdd q a b) c = RPoly.rowAdd q a (RPoly.rowAdd q b c) :=
  have := good_single hq hn
  congrArg WFPoly.row (add_assoc (WFPoly.ofRow ha) (WFPoly.ofRow hb) (WFPoly.ofRow hc))

theorem rowMul_add :
    RPoly.rowMul q a (RPoly.rowAdd q b c) = RPoly.rowAdd q (RPoly.rowMul q a b) (RPoly.rowMul q a c) :=
  have := good_single hq hn
  congrArg WFPoly.row (mul_add (WFPoly.ofRow ha) (WFPoly.ofRow hb) (WFPoly.ofRow hc))

theorem rowAdd_mul :
    RPoly.rowMul q (RPoly.rowAdd q a b) c = RPoly.rowAdd q (RPoly.rowMul q a c) (RPoly.rowMul q b c) :=
  have := good_single hq hn
  congrArg WFPoly.row (add_mul (WFPoly.ofRow ha) (WFPoly.ofRow hb) (WFPoly.ofRow hc))

end laws

/-! ## `RPoly.modInv` (extended Euclid with fuel) is the modular inverse -/
section modinv
open RPoly

theorem egcd_zero_fuel (r0 s0 t0 r1 s1 t1 : ℤ) : egcd 0 r0 s0 t0 r1 s1 t1 = (r0, s0, t0) := rfl

theorem egcd_succ_zero (f : ℕ) (r0 s0 t0 s1 t1 : ℤ) : egcd (f + 1) r0 s0 t0 0 s1 t1 = (r0, s0, t0) := by
  simp [egcd]

theorem egcd_succ_ne (f : ℕ) (r0 s0 t0 r1 s1 t1 : ℤ) (h : r1 ≠ 0) :
    egcd (f + 1) r0 s0 t0 r1 s1 t1
      = egcd f r1 s1 t1 (r0 - r0 / r1 * r1) (s0 - r0 / r1 * s1) (t0 - r0 / r1 * t1) := by
  simp [egcd, h]

theorem egcd_bezout (a m : ℤ) : ∀ (f : ℕ) (r0 s0 t0 r1 s1 t1 : ℤ),
    r0 = s0 * a + t0 * m → r1 = s1 * a + t1 * m →
    (egcd f r0 s0 t0 r1 s1 t1).1 = (egcd f r0 s0 t0 r1 s1 t1).2.1 * a + (egcd f r0 s0 t0 r1 s1 t1).2.2 * m
  | 0, _, _, _, _, _, _, h0, _ => by rw [egcd_zero_fuel]; exact h0
  | f + 1, r0, s0, t0, r1, s1, t1, h0, h1 => by
    by_cases h : r1 = 0
    · subst h; rw [egcd_succ_zero]; exact h0
    · rw [egcd_succ_ne _ _ _ _ _ _ _ h]
      apply egcd_bezout a m f _ _ _ _ _ _ h1
      rw [h0, h1]; ring

/-- two Euclid steps at least halve the remainder (`n1 % (n0 % n1) + n0 % n1 ≤ n1`), so a remainder `< 2^k` is
exhausted by `2k + 1` units of fuel -/
theorem egcd_gcd : ∀ (k n0 n1 : ℕ), n1 < 2 ^ k → ∀ (f : ℕ), 2 * k + 1 ≤ f → ∀ (s0 t0 s1 t1 : ℤ),
    (egcd f (n0 : ℤ) s0 t0 (n1 : ℤ) s1 t1).1 = (Nat.gcd n0 n1 : ℤ)
  | 0, n0, n1, hn, f, hf, s0, t0, s1, t1 => by
    have : n1 = 0 := by simpa using hn
    subst this
    obtain ⟨f', rfl⟩ : ∃ f', f = f' + 1 := ⟨f - 1, by omega⟩
    rw [Nat.cast_zero, egcd_succ_zero, Nat.gcd_zero_right]
  | k + 1, n0, n1, hn, f, hf, s0, t0, s1, t1 => by
    obtain ⟨f', rfl⟩ : ∃ f', f = f' + 1 + 1 := ⟨f - 2, by omega⟩
    by_cases h1 : n1 = 0
    · subst h1; rw [Nat.cast_zero, egcd_succ_zero, Nat.gcd_zero_right]
    · have h1' : (n1 : ℤ) ≠ 0 := by exact_mod_cast h1
      have e1 : (n0 : ℤ) - (n0 : ℤ) / (n1 : ℤ) * (n1 : ℤ) = ((n0 % n1 : ℕ) : ℤ) := by
        rw [Int.natCast_mod, Int.emod_def]; ring
      rw [egcd_succ_ne _ _ _ _ _ _ _ h1', e1]
      have hx : n0 % n1 < n1 := Nat.mod_lt _ (by omega)
      by_cases h2 : n0 % n1 = 0
      · rw [h2, Nat.cast_zero, egcd_succ_zero]
        have : Nat.gcd n0 n1 = n1 := by
          rw [Nat.gcd_comm, Nat.gcd_rec, h2, Nat.gcd_zero_left]
        rw [this]
      · have h2' : ((n0 % n1 : ℕ) : ℤ) ≠ 0 := by exact_mod_cast h2
        have e2 : (n1 : ℤ) - (n1 : ℤ) / ((n0 % n1 : ℕ) : ℤ) * ((n0 % n1 : ℕ) : ℤ)
            = ((n1 % (n0 % n1) : ℕ) : ℤ) := by
          rw [Int.natCast_mod n1, Int.emod_def]; ring
        rw [egcd_succ_ne _ _ _ _ _ _ _ h2', e2]
        have hy : n1 % (n0 % n1) < n0 % n1 := Nat.mod_lt _ (by omega)
        have hy2 : n1 % (n0 % n1) + (n0 % n1) ≤ n1 := by
          have := Nat.div_add_mod n1 (n0 % n1)
          have hd : 1 ≤ n1 / (n0 % n1) := Nat.div_pos (by omega) (by omega)
          have : (n0 % n1) * 1 ≤ (n0 % n1) * (n1 / (n0 % n1)) := Nat.mul_le_mul_left _ hd
          omega
        have hlt : n1 % (n0 % n1) < 2 ^ k := by
          have : 2 ^ (k + 1) = 2 * 2 ^ k := by rw [Nat.pow_succ]; ring
          omega
        rw [egcd_gcd k (n0 % n1) (n1 % (n0 % n1)) hlt f' (by omega)]
        congr 1
        rw [Nat.gcd_comm (n0 % n1), ← Nat.gcd_rec (n0 % n1) n1, ← Nat.gcd_rec n1 n0, Nat.gcd_comm]

theorem modInv_spec (a m : ℕ) (hm : 2 ≤ m) (hc : Nat.Coprime a m) : (a * modInv a m) % m = 1 := by
  have hfuel : 2 * (Nat.log2 m + 1) + 1 ≤ 2 * (Nat.log2 m + 2) := by omega
  have hg := egcd_gcd (Nat.log2 m + 1) (a % m) m Nat.lt_log2_self _ hfuel 1 0 0 1
  have hb := egcd_bezout ((a % m : ℕ) : ℤ) (m : ℤ) (2 * (Nat.log2 m + 2)) ((a % m : ℕ) : ℤ) 1 0 (m : ℤ) 0 1
    (by ring) (by ring)
  have hgcd : Nat.gcd (a % m) m = 1 := by
    rw [← Nat.gcd_rec, Nat.gcd_comm]; exact hc
  unfold modInv
  generalize egcd (2 * (Nat.log2 m + 2)) ((a % m : ℕ) : ℤ) 1 0 (m : ℤ) 0 1 = res at hg hb
  obtain ⟨g, s, t⟩ := res
  simp only at hg hb ⊢
  rw [hgcd] at hg
  subst hg
  simp only [Nat.cast_one, beq_self_eq_true, if_true]
  -- 1 = s * (a % m) + t * m
  have hm0 : (m : ℤ) ≠ 0 := by omega
  have hnn : 0 ≤ s % (m : ℤ) := Int.emod_nonneg _ hm0
  apply Int.ofNat_inj.1
  rw [Int.natCast_mod, Nat.cast_mul, Int.toNat_of_nonneg hnn, Nat.cast_one]
  have h1 : ((a : ℤ) * (s % (m : ℤ))) % (m : ℤ) = (s * ((a % m : ℕ) : ℤ) + t * (m : ℤ)) % (m : ℤ) := by
    rw [Int.natCast_mod, Int.add_mul_emod_self_right]
    conv_lhs => rw [Int.mul_emod, Int.emod_emod]
    conv_rhs => rw [Int.mul_emod, Int.emod_emod]
    rw [mul_comm]
  rw [h1, ← hb]
  exact Int.emod_eq_of_lt (by omega) (by omega)

theorem rword_modInv (q : ℕ) (hq : 2 ≤ q) (hodd : q % 2 = 1) :
    (RLWE.RQ.Rword % q * modInv (RLWE.RQ.Rword % q) q) % q = 1 := by
  apply modInv_spec _ _ hq
  have hR : RLWE.RQ.Rword = 2 ^ 64 := by norm_num [RLWE.RQ.Rword]
  have h1 : Nat.Coprime (2 ^ 64) q :=
    Nat.Coprime.pow_left 64 (Nat.coprime_two_left.2 (Nat.odd_iff.2 hodd))
  unfold Nat.Coprime at *
  rw [← Nat.gcd_rec, Nat.gcd_comm, hR]; exact h1

end modinv

section scalarRow
variable {q n : ℕ}

/-- the constant polynomial `k` as a row -/
def scalarRow (q n k : ℕ) : List ℕ := (List.range n).map fun i => if i = 0 then k % q else 0

theorem RowWF.scalar (hq : 0 < q) (k : ℕ) : RowWF q n (scalarRow q n k) :=
  RowWF.range_map _ fun i => by
    split
    · exact Nat.mod_lt _ hq
    · exact hq

theorem toQuot_scalarRow (hn : 1 ≤ n) (k : ℕ) : toQuot q n (scalarRow q n k) = (k : Rq q n) := by
  rw [toQuot_eq_evalRow, scalarRow, evalRow_const hn, cast_mod_eq natCast_q_Rq]

end scalarRow

namespace WFPoly
variable {qs : List ℕ} {n : ℕ} [hg : Good qs n]

def scale (a : WFPoly qs n) (k : ℕ) : WFPoly qs n :=
  map (RPoly.rowScale k) (fun _ _ hq hx => hx.scale k (by omega)) a

theorem val_scale (a : WFPoly qs n) (k : ℕ) : (a.scale k).1 = a.1.scale k := rfl

/-- multiply the row of modulus `q` by the residue `k q` (shape of `MForm` / `IMForm` on canonical rows) -/
def scaleBy (k : ℕ → ℕ) (a : WFPoly qs n) : WFPoly qs n :=
  map (fun q x => RPoly.rowScale (k q) q x) (fun _ _ hq hx => hx.scale _ (by omega)) a

/-- the constant polynomial with residue `k q` modulo `q` -/
def constNat (k : ℕ → ℕ) : WFPoly qs n :=
  const (fun q => scalarRow q n (k q)) (fun _ hq => RowWF.scalar (by omega) _)

theorem toProd_scaleBy (k : ℕ → ℕ) (a : WFPoly qs n) (i : Fin qs.length) :
    toProd (scaleBy k a) i = (k (qs.get i) : Rq (qs.get i) n) * toProd a i := by
  show toQuot _ _ ((map _ _ a).1.c.getD i []) = _
  rw [map_getD, toQuot_rowScale _ _ (a.row_wf' i).len]; rfl

theorem toProd_constNat (k : ℕ → ℕ) (i : Fin qs.length) :
    toProd (constNat (qs := qs) (n := n) k) i = (k (qs.get i) : Rq (qs.get i) n) := by
  show toQuot _ _ ((const _ _).1.c.getD i []) = _
  rw [const_getD, toQuot_scalarRow hg.n_pos]

theorem scaleBy_eq_mul (k : ℕ → ℕ) (a : WFPoly qs n) : scaleBy k a = a * constNat k :=
  toProd_injective (by
    funext i
    rw [toProd_mul, Pi.mul_apply, toProd_scaleBy, toProd_constNat, mul_comm])

theorem scale_eq_mul_natCast (a : WFPoly qs n) (k : ℕ) : a.scale k = a * (k : WFPoly qs n) :=
  toProd_injective (by
    funext i
    have h1 : toProd (a.scale k) i = (k : Rq (qs.get i) n) * toProd a i := toProd_scaleBy (fun _ => k) a i
    have h2 : toProd (k : WFPoly qs n) = (k : Prod qs n) := map_natCast toProdHom k
    rw [toProd_mul, Pi.mul_apply, h1, h2, mul_comm]; rfl)

theorem constNat_mul_eq_one (k k' : ℕ → ℕ) (h : ∀ q ∈ qs, (k q * k' q) % q = 1) :
    constNat (qs := qs) (n := n) k * constNat k' = 1 :=
  toProd_injective (by
    funext i
    rw [toProd_mul, Pi.mul_apply, toProd_constNat, toProd_constNat, toProd_one, Pi.one_apply,
      ← Nat.cast_mul, ← cast_mod_eq natCast_q_Rq, h _ (List.get_mem _ _), Nat.cast_one])

/-- the Montgomery conversions the driver executes (`RLWE.RQ.mont`, standard ring) -/
def mont : RLWE.Mont (WFPoly qs n) where
  toM := scaleBy fun q => RLWE.RQ.Rword % q
  ofM := scaleBy fun q => RPoly.modInv (RLWE.RQ.Rword % q) q

theorem val_mont_toM (a : WFPoly qs n) : (mont.toM a).1 = (RLWE.RQ.mont.toM ⟨false, a.1⟩).p := rfl
theorem val_mont_ofM (a : WFPoly qs n) : (mont.ofM a).1 = (RLWE.RQ.mont.ofM ⟨false, a.1⟩).p := rfl

/-- the executable `modInv` inverts `2^64` modulo every modulus (decidable; holds for odd moduli) -/
def MontInvOK (qs : List ℕ) : Prop :=
  ∀ q ∈ qs, (RLWE.RQ.Rword % q * RPoly.modInv (RLWE.RQ.Rword % q) q) % q = 1

instance (qs : List ℕ) : Decidable (MontInvOK qs) := by unfold MontInvOK; infer_instance

theorem isMont_mont (h : MontInvOK qs) :
    RLWE.IsMont (mont (qs := qs) (n := n)) (constNat fun q => RLWE.RQ.Rword % q)
      (constNat fun q => RPoly.modInv (RLWE.RQ.Rword % q) q) :=
  ⟨constNat_mul_eq_one _ _ h, fun x => scaleBy_eq_mul _ x, fun x => scaleBy_eq_mul _ x⟩

omit hg in
theorem montInvOK_of_odd (h2 : ∀ q ∈ qs, 2 ≤ q) (hodd : ∀ q ∈ qs, q % 2 = 1) : MontInvOK qs :=
  fun q hq => rword_modInv q (h2 q hq) (hodd q hq)

theorem isMont_mont_of_odd (hodd : ∀ q ∈ qs, q % 2 = 1) :
    RLWE.IsMont (mont (qs := qs) (n := n)) (constNat fun q => RLWE.RQ.Rword % q)
      (constNat fun q => RPoly.modInv (RLWE.RQ.Rword % q) q) :=
  isMont_mont (montInvOK_of_odd hg.q_ge hodd)

def aut (g : ℕ) (hc : Nat.Coprime g n) (a : WFPoly qs n) : WFPoly qs n :=
  map (RPoly.rowAut g) (fun _ _ hq hx => hx.aut (by omega) hg.n_pos g hc) a

theorem val_aut (g : ℕ) (hc : Nat.Coprime g n) (a : WFPoly qs n) : (aut g hc a).1 = a.1.aut g := rfl

theorem toProd_aut (g : ℕ) (hodd : Odd g) (hc : Nat.Coprime g n) (a : WFPoly qs n) (i : Fin qs.length) :
    toProd (aut g hc a) i = autHom (qs.get i) n g hodd (toProd a i) := by
  show toQuot _ _ ((map _ _ a).1.c.getD i []) = _
  have hq : 2 ≤ qs.get i := hg.q_ge_get i i.2
  rw [map_getD, toQuot_rowAut (by omega) hg.n_pos g hodd hc _ (a.row_wf' i).len]; rfl

/-- **`RPoly.aut g` is a ring endomorphism of `WFPoly`** (`g` odd, coprime to `n`) -/
noncomputable def autRingHom (g : ℕ) (hodd : Odd g) (hc : Nat.Coprime g n) : WFPoly qs n →+* WFPoly qs n where
  toFun := aut g hc
  map_one' := toProd_injective (by funext i; rw [toProd_aut g hodd, toProd_one, Pi.one_apply, map_one])
  map_mul' a b := toProd_injective (by
    funext i; rw [toProd_aut g hodd, toProd_mul, toProd_mul, Pi.mul_apply, Pi.mul_apply, map_mul,
      toProd_aut g hodd, toProd_aut g hodd])
  map_zero' := toProd_injective (by funext i; rw [toProd_aut g hodd, toProd_zero, Pi.zero_apply, map_zero])
  map_add' a b := toProd_injective (by
    funext i; rw [toProd_aut g hodd, toProd_add, toProd_add, Pi.add_apply, Pi.add_apply, map_add,
      toProd_aut g hodd, toProd_aut g hodd])

theorem autRingHom_apply (g : ℕ) (hodd : Odd g) (hc : Nat.Coprime g n) (a : WFPoly qs n) :
    (autRingHom g hodd hc a).1 = a.1.aut g := rfl

theorem aut_congr {g g' : ℕ} (hg : Odd g) (hg' : Odd g') (hc : Nat.Coprime g n) (hc' : Nat.Coprime g' n)
    (h : g % (2 * n) = g' % (2 * n)) (x : WFPoly qs n) : aut g hc x = aut g' hc' x :=
  toProd_injective (by funext i; rw [toProd_aut _ hg, toProd_aut _ hg', autHom_congr hg hg' h])

theorem aut_aut {g h : ℕ} (hg : Odd g) (hh : Odd h) (hcg : Nat.Coprime g n) (hch : Nat.Coprime h n)
    (x : WFPoly qs n) : aut g hcg (aut h hch x) = aut (g * h) (Nat.Coprime.mul_left hcg hch) x :=
  toProd_injective (by
    funext i
    rw [toProd_aut _ hg, toProd_aut _ hh, toProd_aut _ (hg.mul hh)]
    exact (RingHom.congr_fun (autHom_comp h g hh hg) _).trans
      (RingHom.congr_fun (autHom_congr _ _ (by rw [mul_comm])) _))

theorem aut_id {g : ℕ} (hg : Odd g) (hc : Nat.Coprime g n) (h1 : g % (2 * n) = 1) (x : WFPoly qs n) :
    aut g hc x = x :=
  toProd_injective (by funext i; rw [toProd_aut _ hg, autHom_eq_id _ hg h1]; rfl)

def mulMonomial (a : WFPoly qs n) (k : ℤ) : WFPoly qs n :=
  map (RPoly.rowMonomial k) (fun _ _ hq hx => hx.monomial (by omega) hg.n_pos k) a

theorem val_mulMonomial (a : WFPoly qs n) (k : ℤ) : (a.mulMonomial k).1 = a.1.mulMonomial k := rfl

theorem toProd_mulMonomial (a : WFPoly qs n) (k : ℤ) (i : Fin qs.length) :
    toProd (a.mulMonomial k) i
      = ((rootUnit (qs.get i) n hg.n_pos ^ k : (Rq (qs.get i) n)ˣ) : Rq (qs.get i) n) * toProd a i := by
  show toQuot _ _ ((map _ _ a).1.c.getD i []) = _
  have hq : 2 ≤ qs.get i := hg.q_ge_get i i.2
  rw [map_getD, toQuot_rowMonomial (by omega) hg.n_pos k _ (a.row_wf' i).len]; rfl

theorem mulMonomial_eq_mul (a : WFPoly qs n) (k : ℤ) : a.mulMonomial k = a * (1 : WFPoly qs n).mulMonomial k :=
  toProd_injective (by
    funext i
    rw [toProd_mul, Pi.mul_apply, toProd_mulMonomial, toProd_mulMonomial, toProd_one, Pi.one_apply,
      mul_one, mul_comm])

theorem toProd_surjective : Function.Surjective (toProd (qs := qs) (n := n)) := by
  intro x
  choose row hrow using fun i : Fin qs.length => toQuot_surj (hg.q_ge_get i i.2) hg.n_pos (x i)
  let c : List (List ℕ) := List.ofFn row
  have hc : ∀ i : Fin qs.length, c.getD i [] = row i := by
    intro i
    simp [c, List.getD_eq_getElem?_getD]
  refine ⟨⟨{ qs := qs, c := c }, rfl, by simp [c], fun i hi => ?_⟩, ?_⟩
  · have := (hrow ⟨i, hi⟩).1
    rw [← hc ⟨i, hi⟩] at this
    exact this
  · funext i
    show toQuot _ _ (c.getD i []) = _
    rw [hc i]; exact (hrow i).2

/-- **`WFPoly qs n ≃+* Π_i Z_{q_i}[X]/(X^n+1)`** -/
noncomputable def ringEquiv : WFPoly qs n ≃+* Prod qs n :=
  RingEquiv.ofBijective toProdHom ⟨toProd_injective, toProd_surjective⟩

end WFPoly
end Lattigo.RPolyRing
