/-
  Transport of the generic scheme-level theorems to the executable carrier.

  The scheme-level models (`Model/RLWE.lean`, `Model/Gadget.lean`, …) are written over a carrier `α` that only has
  `+ * − neg`; their theorems are proved for `[CommRing α]`.  The driver executes them on `RPoly`, and
  `Proofs/RPolyRing.lean` shows that the well-formed `RPoly`s over moduli `qs`, degree `n`, form a commutative ring
  `WFPoly qs n` whose operations are the model's.  This file turns a theorem about `WFPoly qs n` into a statement about
  plain `RPoly` values with well-formedness HYPOTHESES ON THE INPUTS (`WFq qs n p`, decidable).  Maps that preserve
  `+ * − neg` (`OpsHom`) and a Montgomery pair (`MontHom`) need no ring structure on either side: `val` (the underlying
  `RPoly`), `std p = ⟨false, p⟩ : RQ` (the driver's tagged carrier), `takeRows k` (the reduction `R_{QP} → R_Q`; on
  `WFPoly` the ring homomorphism `projQ`).  Well-formed values lift through a `CanLift` instance, so that `lift x to …`
  also lifts lists, matrices, pairs and functions of them (Mathlib's `List.canLift`, `Prod.instCanLift`, `Pi.canLift`).

  A naturality lemma is needed only for a model function that recurses on an argument of variable shape (a list, an
  aggregation tree).  Every other model function commutes with `val` by unfolding: name it in the `simp only`
  beside `val_add`, `val_mul`, `val_sub`, `val_neg`; where no list is involved, `congrArg val` of the generic theorem
  at `lift a ha` IS the statement about `a`.  `Props/C03Ring` is the exception: its statements are wanted along four maps
  (`val`, `std`, `valQ = std ∘ val`, and `RLWECI.foldC` onto the conjugate-invariant values), so every function of
  `Model/RLWE.lean` has a `_nat` lemma there for an arbitrary `OpsHom`/`MontHom` map `φ`, recursive or not.

  The naturality lemmas for the individual model functions are in the `Props/CxxRing.lean` files.
-/
import Lattigo.Proofs.RPolyRing
import Lattigo.Model.MPShare
import Lattigo.Proofs.MPLists
import Lattigo.Proofs.MPTree

set_option linter.unusedSectionVars false

namespace Lattigo.Transport
open Lattigo Lattigo.RPolyRing

/-- `φ` preserves the four operations the scheme-level models use -/
structure OpsHom {α β : Type} [Add α] [Mul α] [Neg α] [Sub α] [Add β] [Mul β] [Neg β] [Sub β]
    (φ : α → β) : Prop where
  add : ∀ x y, φ (x + y) = φ x + φ y
  mul : ∀ x y, φ (x * y) = φ x * φ y
  neg : ∀ x, φ (-x) = -φ x
  sub : ∀ x y, φ (x - y) = φ x - φ y

theorem OpsHom.comp {α β γ : Type} [Add α] [Mul α] [Neg α] [Sub α] [Add β] [Mul β] [Neg β] [Sub β]
    [Add γ] [Mul γ] [Neg γ] [Sub γ] {φ : α → β} {ψ : β → γ} (hψ : OpsHom ψ) (hφ : OpsHom φ) :
    OpsHom (fun x => ψ (φ x)) :=
  ⟨fun x y => by rw [hφ.add, hψ.add], fun x y => by rw [hφ.mul, hψ.mul],
   fun x => by rw [hφ.neg, hψ.neg], fun x y => by rw [hφ.sub, hψ.sub]⟩

theorem OpsHom.ofRingHom {α β : Type} [CommRing α] [CommRing β] (f : α →+* β) : OpsHom f :=
  ⟨f.map_add, f.map_mul, f.map_neg, f.map_sub⟩

/-- `p` is a well-formed polynomial over the moduli `qs`, degree `n`: the hypothesis of every
`…_rpoly` theorem on its inputs -/
def WFq (qs : List ℕ) (n : ℕ) (p : RPoly) : Prop := p.qs = qs ∧ p.WF n

theorem WFq.qs_eq {qs : List ℕ} {n : ℕ} {p : RPoly} (h : WFq qs n p) : p.qs = qs := h.1

theorem WFq.c_length {qs : List ℕ} {n : ℕ} {p : RPoly} (h : WFq qs n p) : p.c.length = p.qs.length := h.2.1

theorem WFq.row {qs : List ℕ} {n : ℕ} {p : RPoly} (h : WFq qs n p) (i : ℕ) (hi : i < p.qs.length) :
    RowWF p.qs[i] n (p.c.getD i []) := h.2.2 i hi

theorem WFq_iff (qs : List ℕ) (n : ℕ) (p : RPoly) : WFq qs n p ↔ p.qs = qs ∧ p.WF n := Iff.rfl

/-- executable well-formedness test -/
def wfb (qs : List ℕ) (n : ℕ) (p : RPoly) : Bool :=
  decide (p.qs = qs) && decide (p.c.length = p.qs.length) &&
    (List.range p.qs.length).all fun i =>
      decide ((p.c.getD i []).length = n) && (p.c.getD i []).all fun x => decide (x < p.qs.getD i 0)

theorem wfb_iff {qs : List ℕ} {n : ℕ} {p : RPoly} : wfb qs n p = true ↔ WFq qs n p := by
  simp only [wfb, Bool.and_eq_true, decide_eq_true_eq, List.all_eq_true, List.mem_range, WFq, RPoly.WF, and_assoc]
  refine and_congr_right fun _ => and_congr_right fun _ => forall₂_congr fun i hi => ?_
  rw [show p.qs.getD i 0 = p.qs[i] by simp [List.getD_eq_getElem?_getD, hi]]
  exact ⟨fun h => ⟨h.1, h.2⟩, fun h => ⟨h.len, h.lt⟩⟩

theorem wfq_of_wfb {qs : List ℕ} {n : ℕ} {p : RPoly} (h : wfb qs n p = true) : WFq qs n p := wfb_iff.1 h

theorem wfb_of_wfq {qs : List ℕ} {n : ℕ} {p : RPoly} (h : WFq qs n p) : wfb qs n p = true := wfb_iff.2 h

instance (qs : List ℕ) (n : ℕ) (p : RPoly) : Decidable (WFq qs n p) :=
  decidable_of_iff (wfb qs n p = true) ⟨wfq_of_wfb, wfb_of_wfq⟩

section val
variable {qs : List ℕ} {n : ℕ}

/-- the underlying executable value -/
def val (x : WFPoly qs n) : RPoly := x.1

theorem val_wf (x : WFPoly qs n) : WFq qs n (val x) := x.2

theorem val_injective : Function.Injective (val (qs := qs) (n := n)) := fun _ _ h => Subtype.ext h

/-- a well-formed value as an element of the ring -/
def lift (p : RPoly) (h : WFq qs n p) : WFPoly qs n := ⟨p, h⟩

@[simp] theorem val_lift (p : RPoly) (h : WFq qs n p) : val (lift p h) = p := rfl

theorem exists_lift (p : RPoly) (h : WFq qs n p) : ∃ x : WFPoly qs n, val x = p := ⟨lift p h, rfl⟩

instance : CanLift RPoly (WFPoly qs n) val (WFq qs n) := ⟨exists_lift⟩

theorem exists_map_eq {α β : Type} {f : α → β} :
    ∀ {l : List β}, (∀ p ∈ l, ∃ x, f x = p) → ∃ l' : List α, l'.map f = l
  | [], _ => ⟨[], rfl⟩
  | p :: l, h => by
    obtain ⟨x, rfl⟩ := h p List.mem_cons_self
    obtain ⟨l', rfl⟩ := exists_map_eq fun q hq => h q (List.mem_cons_of_mem _ hq)
    exact ⟨x :: l', rfl⟩

variable [Good qs n]

theorem val_hom : OpsHom (val (qs := qs) (n := n)) := ⟨fun _ _ => rfl, fun _ _ => rfl, fun _ => rfl, fun _ _ => rfl⟩

@[simp] theorem val_zero : val (0 : WFPoly qs n) = RPoly.zero qs n := WFPoly.val_zero

/-- the constant polynomial `1` over the moduli `qs` -/
def rpOne (qs : List ℕ) (n : ℕ) : RPoly := { qs := qs, c := qs.map fun _ => oneRow n }

@[simp] theorem val_one : val (1 : WFPoly qs n) = rpOne qs n := rfl

theorem val_add (x y : WFPoly qs n) : val (x + y) = val x + val y := WFPoly.val_add x y
theorem val_sub (x y : WFPoly qs n) : val (x - y) = val x - val y := WFPoly.val_sub x y
theorem val_mul (x y : WFPoly qs n) : val (x * y) = val x * val y := WFPoly.val_mul x y
theorem val_neg (x : WFPoly qs n) : val (-x) = -val x := WFPoly.val_neg x

/-- the components of a pair of ring elements, read through `Prod.map val val`: the form in which the naturality
lemmas for pair-valued model functions apply -/
theorem val_fst (p : WFPoly qs n × WFPoly qs n) : val p.1 = (Prod.map val val p).1 := rfl
theorem val_snd (p : WFPoly qs n × WFPoly qs n) : val p.2 = (Prod.map val val p).2 := rfl

theorem WFq.add {a b : RPoly} (ha : WFq qs n a) (hb : WFq qs n b) : WFq qs n (a + b) :=
  val_wf (lift a ha + lift b hb)
theorem WFq.sub {a b : RPoly} (ha : WFq qs n a) (hb : WFq qs n b) : WFq qs n (a - b) :=
  val_wf (lift a ha - lift b hb)
theorem WFq.mul {a b : RPoly} (ha : WFq qs n a) (hb : WFq qs n b) : WFq qs n (a * b) :=
  val_wf (lift a ha * lift b hb)
theorem WFq.neg {a : RPoly} (ha : WFq qs n a) : WFq qs n (-a) := val_wf (-lift a ha)
theorem WFq.zero : WFq qs n (RPoly.zero qs n) := val_wf (0 : WFPoly qs n)
theorem WFq.one : WFq qs n (rpOne qs n) := val_wf (1 : WFPoly qs n)
theorem WFq.aut {a : RPoly} (ha : WFq qs n a) (g : ℕ) (hc : Nat.Coprime g n) : WFq qs n (a.aut g) :=
  val_wf (WFPoly.aut g hc (lift a ha))
theorem WFq.mulMonomial {a : RPoly} (ha : WFq qs n a) (k : ℤ) : WFq qs n (a.mulMonomial k) :=
  val_wf ((lift a ha).mulMonomial k)
theorem WFq.scale {a : RPoly} (ha : WFq qs n a) (k : ℕ) : WFq qs n (a.scale k) :=
  val_wf ((lift a ha).scale k)

end val

/-- a standard-ring (`ci = false`) element of the driver's carrier `RLWE.RQ` -/
def std (p : RPoly) : RLWE.RQ := ⟨false, p⟩

theorem std_injective : Function.Injective std := fun a b h => by
  simpa [std] using congrArg RLWE.RQ.p h

theorem std_hom : OpsHom std := ⟨fun _ _ => rfl, fun _ _ => rfl, fun _ => rfl, fun _ _ => rfl⟩

/-- the `RPoly` part of the driver's Montgomery pair `RLWE.RQ.mont` -/
def rpMont : RLWE.Mont RPoly where
  toM := fun a => (RLWE.RQ.mont.toM (std a)).p
  ofM := fun a => (RLWE.RQ.mont.ofM (std a)).p

theorem std_toM (a : RPoly) : RLWE.RQ.mont.toM (std a) = std (rpMont.toM a) := rfl
theorem std_ofM (a : RPoly) : RLWE.RQ.mont.ofM (std a) = std (rpMont.ofM a) := rfl

theorem val_toM {qs : List ℕ} {n : ℕ} [Good qs n] (x : WFPoly qs n) :
    val (WFPoly.mont.toM x) = rpMont.toM (val x) := rfl
theorem val_ofM {qs : List ℕ} {n : ℕ} [Good qs n] (x : WFPoly qs n) :
    val (WFPoly.mont.ofM x) = rpMont.ofM (val x) := rfl

/-- compatibility of a map with two Montgomery pairs -/
structure MontHom {α β : Type} (φ : α → β) (M : RLWE.Mont α) (M' : RLWE.Mont β) : Prop where
  toM : ∀ x, φ (M.toM x) = M'.toM (φ x)
  ofM : ∀ x, φ (M.ofM x) = M'.ofM (φ x)

theorem val_montHom {qs : List ℕ} {n : ℕ} [Good qs n] :
    MontHom (val (qs := qs) (n := n)) WFPoly.mont rpMont := ⟨fun _ => rfl, fun _ => rfl⟩

theorem std_montHom : MontHom std rpMont RLWE.RQ.mont := ⟨fun _ => rfl, fun _ => rfl⟩

theorem MontHom.comp {α β γ : Type} {φ : α → β} {ψ : β → γ} {M : RLWE.Mont α} {M' : RLWE.Mont β}
    {M'' : RLWE.Mont γ} (hψ : MontHom ψ M' M'') (hφ : MontHom φ M M') :
    MontHom (fun x => ψ (φ x)) M M'' :=
  ⟨fun x => by rw [hφ.toM, hψ.toM], fun x => by rw [hφ.ofM, hψ.ofM]⟩

/-- keep the first `k` rows (`KS.partQ`, `RPoly.atLevel (k-1)`) -/
def takeRows (k : ℕ) (p : RPoly) : RPoly := { qs := p.qs.take k, c := p.c.take k }

theorem takeRows_zipRows (f : ℕ → List ℕ → List ℕ → List ℕ) (k : ℕ) (a b : RPoly) :
    takeRows k (RPoly.zipRows f a b) = RPoly.zipRows f (takeRows k a) (takeRows k b) := by
  simp only [takeRows, RPoly.zipRows, ← List.map_take, List.zip_eq_zipWith, List.take_zipWith]

theorem takeRows_mapRows (f : ℕ → List ℕ → List ℕ) (k : ℕ) (a : RPoly) :
    takeRows k (RPoly.mapRows f a) = RPoly.mapRows f (takeRows k a) := by
  simp only [takeRows, RPoly.mapRows, ← List.map_take, List.zip_eq_zipWith, List.take_zipWith]

theorem takeRows_hom (k : ℕ) : OpsHom (takeRows k) :=
  ⟨takeRows_zipRows _ k, takeRows_zipRows _ k, takeRows_mapRows _ k, takeRows_zipRows _ k⟩

theorem takeRows_take_wf {Q : List ℕ} {n : ℕ} {p : RPoly} (h : WFq Q n p) (k : ℕ) :
    WFq (Q.take k) n (takeRows k p) := by
  obtain ⟨h1, h2, h3⟩ := h
  refine ⟨congrArg (List.take k) h1, ?_, fun i hi => ?_⟩
  · show (p.c.take k).length = (p.qs.take k).length
    rw [List.length_take, List.length_take, h2]
  · replace hi : i < (p.qs.take k).length := hi
    have hi' : i < k ∧ i < p.qs.length := by rwa [List.length_take, Nat.lt_min] at hi
    show RowWF ((p.qs.take k)[i]) n ((p.c.take k).getD i [])
    rw [List.getElem_take, List.getD_eq_getElem?_getD, List.getElem?_take_of_lt hi'.1, ← List.getD_eq_getElem?_getD]
    exact h3 i hi'.2

theorem takeRows_wf {qs ps : List ℕ} {n : ℕ} {p : RPoly} (h : WFq (qs ++ ps) n p) :
    WFq qs n (takeRows qs.length p) := by
  have := takeRows_take_wf h qs.length
  rwa [List.take_left] at this

theorem takeRows_mont (k : ℕ) : MontHom (takeRows k) rpMont rpMont :=
  ⟨fun x => takeRows_mapRows _ k x, fun x => takeRows_mapRows _ k x⟩

section projQ
variable {qs ps : List ℕ} {n : ℕ} [Good qs n] [Good (qs ++ ps) n]

/-- the reduction modulo `Q` of an element of `R_{QP}` -/
def projQfun (x : WFPoly (qs ++ ps) n) : WFPoly qs n := lift (takeRows qs.length (val x)) (takeRows_wf (val_wf x))

theorem val_projQfun (x : WFPoly (qs ++ ps) n) : val (projQfun (qs := qs) x) = takeRows qs.length (val x) := rfl

/-- **`R_{QP} → R_Q` is a ring homomorphism** -/
noncomputable def projQ : WFPoly (qs ++ ps) n →+* WFPoly qs n where
  toFun := projQfun
  map_one' := val_injective (by
    show takeRows qs.length (val (1 : WFPoly (qs ++ ps) n)) = val (1 : WFPoly qs n)
    show takeRows qs.length { qs := qs ++ ps, c := (qs ++ ps).map fun _ => oneRow n } = { qs := qs, c := qs.map fun _ => oneRow n }
    simp [takeRows])
  map_mul' a b := val_injective ((takeRows_hom qs.length).mul (val a) (val b))
  map_zero' := val_injective (by
    show takeRows qs.length { qs := qs ++ ps, c := (qs ++ ps).map fun _ => zeroRow n } = { qs := qs, c := qs.map fun _ => zeroRow n }
    simp [takeRows])
  map_add' a b := val_injective ((takeRows_hom qs.length).add (val a) (val b))

theorem val_projQ (x : WFPoly (qs ++ ps) n) : val (projQ (qs := qs) x) = takeRows qs.length (val x) := rfl

end projQ

theorem ofInts_wf {qs : List ℕ} {n : ℕ} [hg : Good qs n] (v : List ℤ) (hv : v.length = n) :
    WFq qs n (RPoly.ofInts qs v) := by
  refine ⟨rfl, by simp [RPoly.ofInts], fun i hi => ?_⟩
  have hi' : i < qs.length := hi
  have e : (RPoly.ofInts qs v).c.getD i [] = v.map fun (x : ℤ) => (x % (qs[i] : ℤ)).toNat := by
    simp [RPoly.ofInts, List.getD_eq_getElem?_getD, hi']
  rw [e]
  show RowWF qs[i] n _
  have hq : 2 ≤ qs[i] := hg.q_ge _ (List.getElem_mem hi')
  refine ⟨by simp [hv], fun x hx => ?_⟩
  obtain ⟨y, _, rfl⟩ := List.mem_map.1 hx
  have h1 : 0 ≤ y % (qs[i] : ℤ) := Int.emod_nonneg _ (by omega)
  have h2 : y % (qs[i] : ℤ) < qs[i] := Int.emod_lt_of_pos _ (by omega)
  omega

section trees
open Lattigo.MP

theorem eval_congr {β : Type} (op : β → β → β) (t : AggTree) (f g : Nat → β)
    (h : ∀ i ∈ t.leaves, f i = g i) : t.eval op f = t.eval op g := by
  induction t with
  | leaf i => exact h i (by simp [AggTree.leaves])
  | node l r ihl ihr =>
    simp only [AggTree.eval]
    rw [ihl (fun i hi => h i (by simp [AggTree.leaves, hi])), ihr (fun i hi => h i (by simp [AggTree.leaves, hi]))]

theorem eval_induction {β : Type} (p : β → Prop) (op : β → β → β) (hop : ∀ x y, p x → p y → p (op x y))
    (t : AggTree) (f : Nat → β) (h : ∀ i ∈ t.leaves, p (f i)) : p (t.eval op f) := by
  induction t with
  | leaf i => exact h i (by simp [AggTree.leaves])
  | node l r ihl ihr =>
    exact hop _ _ (ihl (fun i hi => h i (by simp [AggTree.leaves, hi])))
      (ihr (fun i hi => h i (by simp [AggTree.leaves, hi])))

variable {qs : List ℕ} {n : ℕ} [Good qs n]

/-- indices that are not leaves are irrelevant (`eval_congr`), so they get `0` -/
theorem exists_lift_leaves (t : AggTree) (f : Nat → RPoly) (h : ∀ i ∈ t.leaves, WFq qs n (f i)) :
    ∃ f' : Nat → WFPoly qs n, ∀ i ∈ t.leaves, val (f' i) = f i :=
  ⟨fun i => if hi : WFq qs n (f i) then lift (f i) hi else 0, fun i hi => by simp [h i hi]⟩

theorem exists_lift_leaves_pair (t : AggTree) (f : Nat → RPoly × RPoly)
    (h : ∀ i ∈ t.leaves, WFq qs n (f i).1 ∧ WFq qs n (f i).2) :
    ∃ f' : Nat → WFPoly qs n × WFPoly qs n, ∀ i ∈ t.leaves, Prod.map val val (f' i) = f i :=
  ⟨fun i => if hi : WFq qs n (f i).1 ∧ WFq qs n (f i).2 then (lift (f i).1 hi.1, lift (f i).2 hi.2) else (0, 0),
   fun i hi => by simp [h i hi]⟩

theorem exists_lift_leaves_mat (t : AggTree) (f : Nat → List (List RPoly))
    (h : ∀ i ∈ t.leaves, ∀ r ∈ f i, ∀ p ∈ r, WFq qs n p) :
    ∃ f' : Nat → List (List (WFPoly qs n)), ∀ i ∈ t.leaves, (f' i).map (List.map val) = f i := by
  classical
  have hl : ∀ i, (∀ r ∈ f i, ∀ p ∈ r, WFq qs n p) → ∃ m : List (List (WFPoly qs n)), m.map (List.map val) = f i :=
    fun i hi => CanLift.prf (f i) hi
  refine ⟨fun i => if hi : ∀ r ∈ f i, ∀ p ∈ r, WFq qs n p then (hl i hi).choose else [], fun i hi => ?_⟩
  show List.map (List.map val) (if hi : ∀ r ∈ f i, ∀ p ∈ r, WFq qs n p then _ else []) = f i
  rw [dif_pos (h i hi)]
  exact (hl i (h i hi)).choose_spec

theorem eval_add_val (t : AggTree) (f : Nat → WFPoly qs n) :
    t.eval (· + ·) (fun i => val (f i)) = val (t.eval (· + ·) f) :=
  AggTree.eval_map val (fun _ _ => rfl) t f

theorem eval_add_wf (t : AggTree) (f : Nat → RPoly) (h : ∀ i ∈ t.leaves, WFq qs n (f i)) :
    WFq qs n (t.eval (· + ·) f) :=
  eval_induction (WFq qs n) (· + ·) (fun _ _ hx hy => hx.add hy) t f h

end trees

end Lattigo.Transport
