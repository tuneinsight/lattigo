/-
  C01: proofs about `Model/RingQP.lean`.
  * `mulRNSRows_montScalar`: the rows of `ringqp.Ring.MulRNSScalarMontgomery` with the Montgomery-form RNS scalar
    of `v` are the canonical residues of `x·v` (the statement for a whole view is `C01QP.qp_mulRNSScalar_view`).
  * `rowAutCI_eq_take`: the coefficient-domain automorphism of the conjugate-invariant ring (the loop of
    `ring.Automorphism` over the `2N` exponents) is the restriction to the first `N` coefficients of the
    automorphism `RPoly.rowAut` of `Z_q[X]/(X^2N+1)` applied to the unfolded polynomial (the same scatter loop,
    the writes beyond `N` dropped).
  * `rowAut_unfoldCI`: `σ_g` of the unfolded polynomial is the unfolding of that restriction, because `σ_g` commutes
    with the conjugation `X ↦ X⁻¹` (`RLWECI.conj_rowAut`) and the unfolded polynomials are the rows it fixes.
-/
import Lattigo.Model.RingQP
import Lattigo.Proofs.Aut
import Lattigo.Proofs.NTTInv
import Lattigo.Proofs.RLWECI

namespace Lattigo.RingQP
open Lattigo Lattigo.Gen Lattigo.NTT Lattigo.RPolyRing Lattigo.RLWECI

theorem mulRNSRows_montScalar (qs : List ℕ) (rows v : ℕ) (p : List (List ℕ)) (hrows : rows ≤ qs.length)
    (hqs : ∀ q ∈ qs, q.Prime ∧ q % 2 = 1 ∧ 2 * q ≤ W)
    (hp : ∀ i, i < rows → ∀ x ∈ p.getD i [], x < qs.getD i 0) :
    mulRNSRows qs rows p (qs.map fun q => v * W % q)
      = (List.range rows).map fun i => (p.getD i []).map fun x => (x * v) % qs.getD i 0 := by
  unfold mulRNSRows
  apply List.map_congr_left
  intro i hi
  have hi' : i < qs.length := by have := List.mem_range.1 hi; omega
  apply List.map_congr_left
  intro x hx
  rw [ListLemmas.getD_map_of_lt _ qs i 0 hi']
  obtain ⟨h1, h2, h3⟩ := hqs _ (ListLemmas.getD_mem hi')
  exact MRed_mul_W x v _ _ h3 (GenMRedConstant_spec _ h2 (by omega)).1 (hp i (List.mem_range.1 hi) x hx)
    (Nat.mod_lt _ h1.pos) (by rw [ZMod.natCast_mod, Nat.cast_mul])

/-- value written by the conjugate-invariant loop for the exponent `i` -/
def valCI (n g q : ℕ) (x : List ℕ) (i : ℕ) : ℕ :=
  let tmp := (i * g) % (4 * n) / (2 * n)
  let v := x.getD (if n ≤ i then 2 * n - i else i) 0
  if (if n ≤ i then tmp = 0 else tmp = 1) then ng q v else v

theorem rowAutCI_eq (g q : ℕ) (x : List ℕ) :
    rowAutCI g q x
      = ((List.range (2 * x.length)).foldl
          (fun (acc : Array ℕ) i =>
            if foldPos (2 * x.length) (i * g) < x.length
              then acc.set! (foldPos (2 * x.length) (i * g)) (valCI x.length g q x i)
            else acc)
          (Array.replicate x.length 0)).toList := by
  unfold rowAutCI
  simp only []
  congr 1
  apply List.foldl_ext
  intro acc i hi
  have hn : 0 < 2 * x.length := Nat.lt_of_le_of_lt (Nat.zero_le i) (List.mem_range.1 hi)
  rw [foldPos_eq_mod hn, show 2 * (2 * x.length) = 4 * x.length by ring]
  split
  · unfold valCI ng
    simp only []
    have hx : ∀ k, x[k]! = x.getD k 0 := by intro k; simp [List.getD_eq_getElem?_getD]
    rw [hx]
  · rfl

theorem unfoldCI_length (q : ℕ) (x : List ℕ) : (unfoldCI q x).length = 2 * x.length := by
  simp [unfoldCI]

theorem unfoldCI_getD (q : ℕ) (x : List ℕ) (i : ℕ) (hi : i < 2 * x.length) :
    (unfoldCI q x).getD i 0
      = if i < x.length then x.getD i 0 else if i = x.length then 0 else ng q (x.getD (2 * x.length - i) 0) := by
  simp [unfoldCI, List.getD, hi, ng]

/-- the middle coefficient stays in the middle: `n·g ≡ n (mod 2n)` for odd `g` -/
theorem foldPos_half (n g : ℕ) (hn : 1 ≤ n) (hg : g % 2 = 1) : foldPos (2 * n) (n * g) = n := by
  have hm : (n * g) % (2 * n) = n % (2 * n) := by
    obtain ⟨k, rfl⟩ : ∃ k, g = 2 * k + 1 := ⟨g / 2, by omega⟩
    rw [show n * (2 * k + 1) = n + 2 * n * k by ring, Nat.add_mul_mod_self_left]
  have h := foldPos_modEq (n := 2 * n) (n * g)
  unfold Nat.ModEq at h
  rwa [Nat.mod_eq_of_lt (foldPos_lt (by omega) _), hm, Nat.mod_eq_of_lt (by omega)] at h

theorem valCI_eq_foldVal (n g q : ℕ) (x : List ℕ) (hlen : x.length = n) (hx : ∀ v ∈ x, v < q)
    (i : ℕ) (hi : i < 2 * n) (hin : i ≠ n) :
    valCI n g q x i = foldVal q (2 * n) (i * g) ((unfoldCI q x).getD i 0) := by
  have hn : 0 < n := by omega
  have he : (i * g) % (4 * n) < 4 * n := Nat.mod_lt _ (by omega)
  have h4 : 2 * (2 * n) = 4 * n := by ring
  unfold valCI foldVal
  rw [h4, unfoldCI_getD q x i (by rw [hlen]; exact hi), hlen]
  simp only []
  have hdiv : (i * g) % (4 * n) / (2 * n) = if (i * g) % (4 * n) < 2 * n then 0 else 1 := by
    by_cases h : (i * g) % (4 * n) < 2 * n
    · rw [if_pos h, Nat.div_eq_of_lt h]
    · rw [if_neg h]; exact Nat.div_eq_of_lt_le (by omega) (by omega)
  rw [hdiv]
  by_cases hlt : i < n
  · have hnle : ¬ n ≤ i := by omega
    simp only [hnle, if_false, hlt, if_true]
    by_cases hs : (i * g) % (4 * n) < 2 * n
    · simp [hs]
    · simp [hs, ng]
  · have hge : n ≤ i := by omega
    have hmem : x.getD (2 * n - i) 0 < q := by
      have : 2 * n - i < x.length := by omega
      exact hx _ (ListLemmas.getD_mem this)
    simp only [hge, if_true, hlt, if_false, hin]
    by_cases hs : (i * g) % (4 * n) < 2 * n
    · simp [hs]
    · simp only [hs, if_false]
      exact (ng_ng hmem).symm

/-- a scatter loop into an array of size `n` that skips the positions `≥ n` leaves the first `n` entries of the same
loop into a larger array -/
theorem take_foldl_set (n : ℕ) (p v v' : ℕ → ℕ) : ∀ (l : List ℕ) (A B : Array ℕ),
    B.toList = A.toList.take n → n ≤ A.size → (∀ i ∈ l, p i < n → v i = v' i) →
    (l.foldl (fun (acc : Array ℕ) i => if p i < n then acc.set! (p i) (v i) else acc) B).toList
      = ((l.foldl (fun (acc : Array ℕ) i => acc.set! (p i) (v' i)) A).toList).take n
  | [], _, _, h, _, _ => h
  | i :: l, A, B, h, hA, hv => by
    rw [List.foldl_cons, List.foldl_cons]
    apply take_foldl_set n p v v' l _ _ _ (by simpa using hA)
      (fun j hj => hv j (List.mem_cons_of_mem _ hj))
    have hB : B.toList.length = n := by rw [h, List.length_take, Array.length_toList]; omega
    simp only [Array.set!_eq_setIfInBounds]
    rw [Array.toList_setIfInBounds, List.take_set, ← h]
    split
    · rename_i hp
      rw [Array.toList_setIfInBounds, hv i (List.mem_cons_self ..) hp]
    · rename_i hp
      rw [List.set_eq_of_length_le (by omega)]

theorem rowAutCI_eq_take (K g q : ℕ) (x : List ℕ) (hlen : x.length = 2 ^ K) (hg : g % 2 = 1)
    (hx : ∀ v ∈ x, v < q) :
    rowAutCI g q x = (RPoly.rowAut g q (unfoldCI q x)).take (2 ^ K) := by
  have hpos : 0 < 2 ^ K := Nat.two_pow_pos K
  rw [rowAutCI_eq, rowAut_eq_scat, scatRow, scat, unfoldCI_length, hlen]
  refine take_foldl_set (2 ^ K) (fun i => foldPos (2 * 2 ^ K) (i * g)) _ _ _ _ _ (by simp) (by simp) ?_
  intro i hi hp
  refine valCI_eq_foldVal (2 ^ K) g q x hlen hx i (List.mem_range.1 hi) fun h => ?_
  rw [h, foldPos_half _ g hpos hg] at hp
  exact Nat.lt_irrefl _ hp

theorem rowAut_unfoldCI (K g q : ℕ) (x : List ℕ) (hlen : x.length = 2 ^ K) (hg : g % 2 = 1)
    (hx : ∀ v ∈ x, v < q) (hq : 0 < q) :
    RPoly.rowAut g q (unfoldCI q x) = unfoldCI q (rowAutCI g q x) := by
  have hn : 1 ≤ 2 ^ K := Nat.one_le_two_pow
  have h2 : 2 * 2 ^ K = 2 ^ (K + 1) := by rw [Nat.pow_succ]; ring
  have hc : Nat.Coprime g (2 * 2 ^ K) := h2 ▸ odd_coprime_two_pow hg (K + 1)
  have eU : unfoldCI q x = emb q (2 ^ K) x := by rw [← hlen]; rfl
  have hU : RowWF q (2 * 2 ^ K) (emb q (2 ^ K) x) := emb_wf hq ⟨hlen, hx⟩
  have hw := hU.aut hq (by omega) g hc
  have hR := rowAutCI_eq_take K g q x hlen hg hx
  have hRl : (rowAutCI g q x).length = 2 ^ K := by rw [hR, eU, List.length_take, hw.len]; omega
  have eR : unfoldCI q (rowAutCI g q x) = emb q (2 ^ K) (rowAutCI g q x) := by rw [← hRl]; rfl
  rw [eR, hR, eU]
  rcases Nat.lt_or_ge q 2 with h1 | hq2
  · obtain rfl : q = 1 := by omega
    exact RowWF.eq_of_one hw (emb_wf hq ⟨by rw [List.length_take, hw.len]; omega,
      fun v hv => hw.lt v (List.mem_of_mem_take hv)⟩)
  · -- the middle coefficient of `σ_g(unfold x)` is `± (unfold x)_N = 0`
    have hmid : (RPoly.rowAut g q (emb q (2 ^ K) x)).getD (2 ^ K) 0 = 0 := by
      have hv := rowAut_getD (q := q) (by omega) g hc _ hU.len (2 ^ K) (by omega)
      have hUn : (emb q (2 ^ K) x).getD (2 ^ K) 0 = 0 := by
        rw [emb, ListLemmas.getD_map_range _ _ _ (by omega), if_neg (by omega), if_pos rfl]
      rwa [foldPos_half _ g hn hg, hUn, foldVal_zero] at hv
    exact fixed_shape_mid hw
      (conj_rowAut hq2 hn g (Nat.odd_iff.2 hg) hc hU (conj_emb ⟨hlen, hx⟩)) hmid

#print axioms rowAutCI_eq_take
#print axioms rowAut_unfoldCI

end Lattigo.RingQP
