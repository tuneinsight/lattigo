/-
  C11 proofs: `rotate_slots` — the automorphism `X ↦ X^g` acts on the *slots* of a
  polynomial (its values at the odd powers of a `2N`-th root of `-1`) by multiplying the exponent
  by `g`; for `g = GaloisElement(k) = 5^k` this is the cyclic rotation by `k` of each slot row, for
  `g = 2N-1` it swaps the two rows (BGV) / conjugates (CKKS).

  * Abstract, over any commutative ring `R` and any `ζ` with `ζ^N = -1`: `sigma N g a` is the coefficient list of
    `a(X^g) mod X^N+1`, `E ζ M a u = a(ζ^u)` for `u : ZMod M` (`M = 2N`), and `E (σ_g a) u = E a (u·g)` (`E_sigma`).
  * The executable `RPoly.rowAut g q` (the model of `ring.Automorphism` on one RNS row in the
    coefficient domain) *is* `sigma` after reading the coefficients in any ring where `q = 0`.
  * BGV layout: with the model's `permuteMatrix` indexing and the model's NTT over `Z_p`,
    `decodeRingTU` is `toSlots` (`Proofs/SlotLawful.lean`) of the evaluation vector `u ↦ (a(ψ^u), a(ψ^(-u)))`
    of the plaintext, and `rowAut g p` acts on that vector as `aut g`; hence `decodeRingTU` after `rowAut g p`
    is `slotAut .bgv g` of `decodeRingTU` (`decode_rowAut`), for `g = GaloisElement(k)` (rotation of both rows
    by `k`) and `g = 2N-1` (row swap).
  * `ring.AutomorphismNTT` (index table `AutomorphismNTTIndex`, applied in the NTT domain) is
    `NTT ∘ rowAut g ∘ NTT⁻¹` (`automorphismNTT_spec`).
  * Ciphertext level in the evaluation domain: C04's `automorphism_phase` instantiated with the
    slot permutation (`automorphism_slots`).
-/
import Lattigo.Model.RPoly
import Lattigo.Model.EncoderT
import Lattigo.Model.InnerSum
import Lattigo.Proofs.GaloisDlog
import Lattigo.Proofs.GaloisNTTIndex
import Lattigo.Proofs.SlotLawful
import Lattigo.Proofs.NTTTables
import Lattigo.Proofs.EncoderT
import Lattigo.Proofs.EncoderTPerm
import Lattigo.Proofs.Aut
import Lattigo.Proofs.KeySwitch
import Mathlib.Algebra.BigOperators.Ring.Finset
import Mathlib.Algebra.BigOperators.Intervals

namespace Lattigo.Proofs.RotateSlots
open Lattigo Lattigo.Model.Galois Lattigo.Proofs.Galois Lattigo.Proofs.SlotLawful
open Finset

section Abstract
variable {R : Type} [CommRing R]

/-- value at `x` of the polynomial with coefficient list `a`: `Σ_i a_i x^i`. -/
def evalP (a : List R) (x : R) : R := ∑ i ∈ range a.length, a.getD i 0 * x ^ i

/-- coefficient `e` of `a(X^g) mod X^N+1`: `X^(i·g) = ± X^(i·g mod N)`, the sign being `-` iff
    `i·g mod 2N ≥ N`. -/
def sigmaCoeff (N g : ℕ) (a : List R) (e : ℕ) : R :=
  ∑ i ∈ range N,
    if i * g % (2 * N) = e then a.getD i 0
    else if i * g % (2 * N) = e + N then - a.getD i 0 else 0

/-- `σ_g a = a(X^g) mod X^N+1` on coefficient lists of length `N`. -/
def sigma (N g : ℕ) (a : List R) : List R := (List.range N).map (sigmaCoeff N g a)

@[simp] theorem sigma_length (N g : ℕ) (a : List R) : (sigma N g a).length = N := by
  simp [sigma]

theorem sq_of_neg_one {x : R} {N : ℕ} (h : x ^ N = -1) : x ^ (2 * N) = 1 := by
  rw [mul_comm, pow_mul, h]; simp

/-- one monomial: `Σ_e c(i,e) x^e = x^(i·g)`. -/
theorem monomial_fold {x : R} {N : ℕ} (hN : 0 < N) (hx : x ^ N = -1) (c : R) (r : ℕ) (hr : r < 2 * N) :
    (∑ e ∈ range N, (if r = e then c else if r = e + N then -c else 0) * x ^ e) = c * x ^ r := by
  by_cases hlt : r < N
  · rw [Finset.sum_eq_single_of_mem r (mem_range.mpr hlt) fun e _ hne => by
        rw [if_neg (Ne.symm hne), if_neg (by omega), zero_mul],
      if_pos rfl]
  · rw [Finset.sum_eq_single_of_mem (r - N) (mem_range.mpr (by omega)) fun e he hne => by
        rw [if_neg (by have := mem_range.mp he; omega), if_neg (by omega), zero_mul],
      if_neg (by omega), if_pos (by omega)]
    conv_rhs => rw [show r = r - N + N by omega, pow_add, hx]
    ring

/-- no condition on `g` -/
theorem evalP_sigma {N : ℕ} (g : ℕ) (a : List R) (ha : a.length = N) (x : R) (hx : x ^ N = -1) :
    evalP (sigma N g a) x = evalP a (x ^ g) := by
  rcases Nat.eq_zero_or_pos N with h0 | hN
  · subst h0; simp [evalP, sigma, ha]
  unfold evalP
  rw [sigma_length, ha]
  have hget : ∀ e ∈ range N, (sigma N g a).getD e 0 * x ^ e = sigmaCoeff N g a e * x ^ e := by
    intro e he
    have he' := Finset.mem_range.mp he
    simp [sigma, List.getD_eq_getElem?_getD, he']
  rw [Finset.sum_congr rfl hget]
  unfold sigmaCoeff
  simp only [Finset.sum_mul]
  rw [Finset.sum_comm]
  apply Finset.sum_congr rfl
  intro i _
  have hr : i * g % (2 * N) < 2 * N := Nat.mod_lt _ (by omega)
  rw [monomial_fold hN hx (a.getD i 0) _ hr, ← pow_eq_pow_mod _ (sq_of_neg_one hx), ← pow_mul,
    mul_comm g i]

/-- the slot function: `E ζ M a u = a(ζ^u)`, `u ∈ ZMod M` (`M = 2N`; only odd `u` are roots of
    `X^N+1`). -/
def E (ζ : R) (M : ℕ) (a : List R) (u : ZMod M) : R := evalP a (ζ ^ u.val)

theorem E_sigma {N M : ℕ} [NeZero M] (hM : M = 2 * N) (ζ : R) (hζ : ζ ^ N = -1) (g : ℕ) (a : List R)
    (ha : a.length = N) (u : ZMod M) (hu : u.val % 2 = 1) :
    E ζ M (sigma N g a) u = E ζ M a (u * (g : ZMod M)) := by
  subst hM
  unfold E
  have hx : (ζ ^ u.val) ^ N = -1 := by
    rw [← pow_mul, mul_comm, pow_mul, hζ, Odd.neg_one_pow (Nat.odd_iff.mpr hu)]
  rw [evalP_sigma g a ha _ hx, ← pow_mul, ZMod.val_mul, ZMod.val_natCast, Nat.mul_mod_mod,
    ← pow_eq_pow_mod _ (sq_of_neg_one hζ)]

theorem unit_val_odd (m : ℕ) (hm : 1 ≤ m) (u : (ZMod (2 ^ m))ˣ) : (u : ZMod (2 ^ m)).val % 2 = 1 :=
  Nat.odd_iff.mp (Nat.coprime_two_right.mp
    ((ZMod.val_coe_unit_coprime u).coprime_dvd_right (dvd_pow_self 2 (by omega))))

variable {t : ℕ} (ζ : R)

/-- `nthRoot = 2^(t+3) = 2N`, `N = 2^(t+2)`, `N/2 = 2^(t+1)` slots per row. -/
theorem nthRoot_eq (t : ℕ) : 2 ^ (t + 3) = 2 * 2 ^ (t + 2) := pow_succ' 2 (t + 2)

theorem E_sigma_unit (hζ : ζ ^ 2 ^ (t + 2) = -1) (g : ℕ) (a : List R) (ha : a.length = 2 ^ (t + 2))
    (u : (ZMod (2 ^ (t + 3)))ˣ) :
    E ζ (2 ^ (t + 3)) (sigma (2 ^ (t + 2)) g a) u
      = E ζ (2 ^ (t + 3)) a ((u : ZMod (2 ^ (t + 3))) * (g : ZMod (2 ^ (t + 3)))) :=
  E_sigma (nthRoot_eq t) ζ hζ g a ha _ (unit_val_odd _ (by omega) u)

/-- first slot row: `slot0 a j = a(ζ^(5^j))`; second row: `slot1 a j = a(ζ^(-5^j))`. -/
def slot0 (ζ : R) (M : ℕ) (a : List R) (j : ℕ) : R := E ζ M a ((5 : ZMod M) ^ j)
def slot1 (ζ : R) (M : ℕ) (a : List R) (j : ℕ) : R := E ζ M a (-(5 : ZMod M) ^ j)

/-- `C11.rotate_slots`: slot `j` receives slot `(j + k) mod N/2` -/
theorem rotate_slots (ht : t + 3 ≤ 64) (hζ : ζ ^ 2 ^ (t + 2) = -1) (a : List R)
    (ha : a.length = 2 ^ (t + 2)) (k : ℤ) (j : ℕ) :
    slot0 ζ (2 ^ (t + 3)) (sigma (2 ^ (t + 2)) (galEl (2 ^ (t + 3)) k) a) j
      = slot0 ζ (2 ^ (t + 3)) a (((j : ℤ) + k) % ((2 ^ (t + 1) : ℕ) : ℤ)).toNat := by
  unfold slot0
  have h := E_sigma_unit ζ hζ (galEl (2 ^ (t + 3)) k) a ha (five (t + 3) ^ j)
  rw [galEl_cast _ (by omega) ht, ← Units.val_mul, five_pow_mul_zpow] at h
  simpa using h

/-- `C11.rotate_slots_row1` -/
theorem rotate_slots_neg (ht : t + 3 ≤ 64) (hζ : ζ ^ 2 ^ (t + 2) = -1) (a : List R)
    (ha : a.length = 2 ^ (t + 2)) (k : ℤ) (j : ℕ) :
    slot1 ζ (2 ^ (t + 3)) (sigma (2 ^ (t + 2)) (galEl (2 ^ (t + 3)) k) a) j
      = slot1 ζ (2 ^ (t + 3)) a (((j : ℤ) + k) % ((2 ^ (t + 1) : ℕ) : ℤ)).toNat := by
  unfold slot1
  have h := E_sigma_unit ζ hζ (galEl (2 ^ (t + 3)) k) a ha (-(five (t + 3) ^ j))
  rw [galEl_cast _ (by omega) ht, ← Units.val_mul, neg_mul, five_pow_mul_zpow] at h
  simpa using h

theorem swap_slots_unit (hζ : ζ ^ 2 ^ (t + 2) = -1) (a : List R) (ha : a.length = 2 ^ (t + 2))
    (u : (ZMod (2 ^ (t + 3)))ˣ) :
    E ζ (2 ^ (t + 3)) (sigma (2 ^ (t + 2)) (2 ^ (t + 3) - 1) a) u
      = E ζ (2 ^ (t + 3)) a (-(u : ZMod (2 ^ (t + 3)))) := by
  rw [E_sigma_unit ζ hζ _ a ha u, orderTwo_cast]; simp

/-- `C11.orderTwo_swaps_rows` (BGV `RotateRows`) -/
theorem swap_slots (hζ : ζ ^ 2 ^ (t + 2) = -1) (a : List R) (ha : a.length = 2 ^ (t + 2)) (j : ℕ) :
    slot0 ζ (2 ^ (t + 3)) (sigma (2 ^ (t + 2)) (2 ^ (t + 3) - 1) a) j = slot1 ζ (2 ^ (t + 3)) a j
    ∧ slot1 ζ (2 ^ (t + 3)) (sigma (2 ^ (t + 2)) (2 ^ (t + 3) - 1) a) j = slot0 ζ (2 ^ (t + 3)) a j := by
  unfold slot0 slot1
  constructor
  · have h := swap_slots_unit ζ hζ a ha (five (t + 3) ^ j)
    simpa using h
  · have h := swap_slots_unit ζ hζ a ha (-(five (t + 3) ^ j))
    simpa using h

/-- `C11.orderTwo_conjugates` (CKKS `Conjugate`): `c` is meant to be complex conjugation, with real `a` and
    `ζ = e^{iπ/N}`, `ζ⁻¹ = ζ^(2N-1)` -/
theorem conj_slots (hζ : ζ ^ 2 ^ (t + 2) = -1) (a : List R) (ha : a.length = 2 ^ (t + 2))
    (c : R →+* R) (hc : ∀ i, c (a.getD i 0) = a.getD i 0) (hcζ : c ζ = ζ ^ (2 ^ (t + 3) - 1))
    (u : (ZMod (2 ^ (t + 3)))ˣ) :
    E ζ (2 ^ (t + 3)) (sigma (2 ^ (t + 2)) (2 ^ (t + 3) - 1) a) u = c (E ζ (2 ^ (t + 3)) a u) := by
  rw [E_sigma_unit ζ hζ _ a ha u]
  have h1 : ζ ^ (2 ^ (t + 3)) = 1 := by rw [nthRoot_eq]; exact sq_of_neg_one hζ
  unfold E evalP
  rw [map_sum]
  apply Finset.sum_congr rfl
  intro i _
  rw [map_mul, hc, map_pow, map_pow, hcζ, ZMod.val_mul, ZMod.val_natCast, Nat.mul_mod_mod,
    ← pow_eq_pow_mod _ h1, ← pow_mul, ← pow_mul, ← pow_mul]
  congr 2
  ring

end Abstract

section RowAut
open Lattigo.RPolyRing
variable {R : Type} [CommRing R]

/-- one term of `sigmaCoeff N g _ e`, for a coefficient `v` sent to the exponent `t`: what the scatter loop of
    `rowAut` (`Proofs/RowEval.lean`) writes at `foldPos N t`, if that is `e`, and `0` otherwise. -/
theorem sigma_term {N : ℕ} (q : ℕ) (hq : 0 < q) (hqR : (q : R) = 0) (t v : ℕ) {e : ℕ} (he : e < N) :
    (if t % (2 * N) = e then (v : R) else if t % (2 * N) = e + N then -(v : R) else 0)
      = if foldPos N t = e then ((foldVal q N t v : ℕ) : R) else 0 := by
  have hr : t % (2 * N) < 2 * N := Nat.mod_lt _ (by omega)
  have hv : v % q < q := Nat.mod_lt _ hq
  unfold foldPos foldVal
  by_cases hlt : t % (2 * N) < N
  · rw [if_pos hlt, if_pos hlt, if_neg (show ¬ t % (2 * N) = e + N by omega)]
  · rw [if_neg hlt, if_neg hlt, if_neg (show ¬ t % (2 * N) = e by omega), cast_mod_eq hqR,
      Nat.cast_sub hv.le, hqR, zero_sub, cast_mod_eq hqR]
    by_cases h2 : t % (2 * N) = e + N
    · rw [if_pos h2, if_pos (by omega)]
    · rw [if_neg h2, if_neg (by omega)]

/-- `C11.rowAut_is_sigma`; `R` is e.g. `ZMod q` -/
theorem rowAut_cast (q : ℕ) (hq : 0 < q) (hqR : (q : R) = 0) (g : ℕ) (x : List ℕ)
    (hg : Nat.Coprime g (2 * x.length)) :
    (RPoly.rowAut g q x).map (Nat.cast : ℕ → R) = sigma x.length g (x.map (Nat.cast : ℕ → R)) := by
  have hinj := foldPos_mul_inj g (hg.coprime_dvd_right ⟨2, by ring⟩)
  apply List.ext_getElem
  · rw [List.length_map, rowAut_length, sigma_length]
  intro e he1 he2
  rw [sigma_length] at he2
  have hN : 1 ≤ x.length := by omega
  -- the positions `foldPos N (i·g)`, `i < N`, are pairwise distinct, so one of them is `e`
  obtain ⟨i₀, hi₀, hpos⟩ := Finset.surj_on_of_inj_on_of_card_le (s := range x.length) (t := range x.length)
    (fun i _ => foldPos x.length (i * g)) (fun i _ => mem_range.mpr (foldPos_lt hN _))
    (fun i j hi hj h => hinj i (mem_range.mp hi) j (mem_range.mp hj) h) le_rfl e (mem_range.mpr he2)
  have hL := rowAut_getD (q := q) hN g (hg.coprime_dvd_right ⟨2, by ring⟩) x rfl i₀ (mem_range.mp hi₀)
  rw [← hpos, List.getD_eq_getElem _ 0 (by rw [rowAut_length]; exact he2)] at hL
  rw [List.getElem_map, hL]
  simp only [sigma, List.getElem_map, List.getElem_range]
  have hx : ∀ i, (x.map (Nat.cast : ℕ → R)).getD i 0 = ((x.getD i 0 : ℕ) : R) := by
    intro i
    cases h : x[i]? <;> simp [List.getD_eq_getElem?_getD, h]
  unfold sigmaCoeff
  simp only [hx, sigma_term q hq hqR _ _ he2]
  rw [Finset.sum_eq_single_of_mem i₀ hi₀, if_pos hpos.symm]
  intro i hi hne
  exact if_neg fun h => hne (hinj i (mem_range.mp hi) i₀ (mem_range.mp hi₀) (h.trans hpos))

end RowAut

section BGV
open Lattigo.NTT Lattigo.EncoderT Lattigo.Model.InnerSum

theorem permuteMatrix_closed (e : ℕ) :
    permuteMatrix (e + 2)
      = (List.range (2 ^ (e + 1))).map (fun j => NTT.bitRev (5 ^ j % 2 ^ (e + 3) / 2) (e + 2))
        ++ (List.range (2 ^ (e + 1))).map
            (fun j => 2 ^ (e + 2) - NTT.bitRev (5 ^ j % 2 ^ (e + 3) / 2) (e + 2) - 1) := by
  rw [permuteMatrix_eq (e + 1), row0, List.map_map]
  rfl

variable (e p g₀ : ℕ)

/-- the `2N`-th root of unity of the generated plaintext tables, `ψ = g₀^((p-1)/2N)`. -/
noncomputable def psi : ZMod p := ((g₀ : ℕ) : ZMod p) ^ ((p - 1) / 2 ^ (e + 3))

/-- the polynomial actually transformed by `decodeRingTU`, read in `Z_p`. -/
noncomputable def scaled (scale : ℕ) (pT : List ℕ) : List (ZMod p) :=
  (mulScalar p (EncoderT.scaleInv p scale) pT).map (Nat.cast : ℕ → ZMod p)

theorem evalP_map_mul {R : Type} [CommRing R] (B : List R) (s x : R) :
    evalP (B.map (· * s)) x = evalP B x * s := by
  unfold evalP
  rw [List.length_map, Finset.sum_mul]
  apply Finset.sum_congr rfl
  intro i hi
  have hi' := Finset.mem_range.mp hi
  simp only [List.getD_eq_getElem?_getD, List.getElem?_map, List.getElem?_eq_getElem hi',
    Option.map_some, Option.getD_some]
  ring

variable {e p g₀}

/-- hypotheses on the plaintext modulus: prime, `8p ≤ 2^64`, `p ≡ 1 (mod 2N)`, `g₀` a non-residue
    (what `tables_invariant` needs; `g₀` is the primitive root the code found). -/
structure PlainOK (e p g₀ : ℕ) : Prop where
  prime : p.Prime
  h8 : 8 * p ≤ W
  hdiv : 2 ^ (e + 3) ∣ p - 1
  hg : g₀ ^ ((p - 1) / 2) % p = p - 1

theorem psi_pow (h : PlainOK e p g₀) : (psi e p g₀) ^ 2 ^ (e + 2) = -1 :=
  (mkTables_all (e + 2) p g₀ h.prime h.h8 h.hdiv h.hg).2.2.1

theorem mulScalar_wf {p : ℕ} (hp : 0 < p) (s : ℕ) {pT : List ℕ} {N : ℕ} (hlen : pT.length = N) :
    (mulScalar p s pT).length = N ∧ ∀ x ∈ mulScalar p s pT, x < p := by
  refine ⟨by simp [mulScalar, hlen], fun x hx => ?_⟩
  obtain ⟨y, _, rfl⟩ := List.mem_map.mp hx
  exact Nat.mod_lt _ hp

/-- entry `idx` of the NTT inside `decodeRingTU` is the slot at `2·brv(idx)+1`. -/
theorem ntt_entry (h : PlainOK e p g₀) (scale : ℕ) (pT : List ℕ) (hlen : pT.length = 2 ^ (e + 2))
    (idx : ℕ) (hidx : idx < 2 ^ (e + 2)) :
    (((nttStd (mkTables (2 ^ (e + 2)) p (2 ^ (e + 3)) g₀)
        (mulScalar p (EncoderT.scaleInv p scale) pT)).getD idx 0 : ℕ) : ZMod p)
      = E (psi e p g₀) (2 ^ (e + 3)) (scaled p scale pT)
          ((2 * NTT.bitRev idx (e + 2) + 1 : ℕ) : ZMod (2 ^ (e + 3))) := by
  obtain ⟨hlen', hlt⟩ := mulScalar_wf h.prime.pos (EncoderT.scaleInv p scale) hlen
  rw [← getD_map_cast, nttStd_mkTables_eval (e + 2) p g₀ (by omega) h.prime h.h8 h.hdiv h.hg _ hlen' hlt,
    ListLemmas.getD_map_range _ _ _ hidx]
  have hval : (((2 * NTT.bitRev idx (e + 2) + 1 : ℕ)) : ZMod (2 ^ (e + 3))).val
      = 2 * NTT.bitRev idx (e + 2) + 1 := by
    rw [ZMod.val_natCast, Nat.mod_eq_of_lt]
    have := NTT.bitRev_lt (e + 2) idx
    have := nthRoot_eq e
    omega
  unfold E evalP scaled psi
  rw [hval, List.length_map, hlen']
  apply Finset.sum_congr rfl
  intro i _
  rw [getD_map_cast]

/-- the two halves of `decodeRingTU` (full length `N`): row 0 reads the NTT at `brv(5^j >> 1)`,
    row 1 at `N - 1 -` that. -/
def dec0 (e p g₀ scale : ℕ) (pT : List ℕ) (j : ℕ) : ℕ :=
  (nttStd (mkTables (2 ^ (e + 2)) p (2 ^ (e + 3)) g₀) (mulScalar p (EncoderT.scaleInv p scale) pT)).getD
    (NTT.bitRev (5 ^ j % 2 ^ (e + 3) / 2) (e + 2)) 0
def dec1 (e p g₀ scale : ℕ) (pT : List ℕ) (j : ℕ) : ℕ :=
  (nttStd (mkTables (2 ^ (e + 2)) p (2 ^ (e + 3)) g₀) (mulScalar p (EncoderT.scaleInv p scale) pT)).getD
    (2 ^ (e + 2) - NTT.bitRev (5 ^ j % 2 ^ (e + 3) / 2) (e + 2) - 1) 0

theorem decode_int (e p g₀ scale : ℕ) (pT : List ℕ) :
    (decodeRingTU (mkTables (2 ^ (e + 2)) p (2 ^ (e + 3)) g₀) (permuteMatrix (e + 2)) scale pT
        (2 ^ (e + 2))).map Int.ofNat
      = (List.range (2 ^ (e + 1))).map (fun j => Int.ofNat (dec0 e p g₀ scale pT j))
        ++ (List.range (2 ^ (e + 1))).map (fun j => Int.ofNat (dec1 e p g₀ scale pT j)) := by
  have hlen : (permuteMatrix (e + 2)).length = 2 ^ (e + 2) := by
    rw [permuteMatrix_closed]; simp; ring
  unfold decodeRingTU
  simp only
  rw [List.take_of_length_le (le_of_eq hlen), permuteMatrix_closed, List.map_append, List.map_append,
    List.map_map, List.map_map, List.map_map, List.map_map]
  rfl

theorem five_mod_odd (e j : ℕ) : 5 ^ j % 2 ^ (e + 3) % 2 = 1 := by
  rw [Nat.mod_mod_of_dvd _ ⟨2 ^ (e + 2), by ring⟩, Nat.pow_mod]; norm_num

theorem odd_half {P N : ℕ} (hodd : P % 2 = 1) (hP : P < 2 * N) :
    P / 2 < N ∧ 2 * (P / 2) + 1 = P ∧ 2 * (N - 1 - P / 2) + 1 = 2 * N - P := by
  omega

/-- the decoded BGV slots are the two slot rows `slot0`, `slot1` of the scaled plaintext polynomial read in `Z_p` -/
theorem dec_slots (h : PlainOK e p g₀) (scale : ℕ) (pT : List ℕ) (hlen : pT.length = 2 ^ (e + 2)) (j : ℕ) :
    ((dec0 e p g₀ scale pT j : ℕ) : ZMod p) = slot0 (psi e p g₀) (2 ^ (e + 3)) (scaled p scale pT) j
    ∧ ((dec1 e p g₀ scale pT j : ℕ) : ZMod p) = slot1 (psi e p g₀) (2 ^ (e + 3)) (scaled p scale pT) j := by
  set P := 5 ^ j % 2 ^ (e + 3) with hP
  have hM := nthRoot_eq e
  have hPlt : P < 2 * 2 ^ (e + 2) := hM ▸ Nat.mod_lt _ (by positivity)
  obtain ⟨hhalf, h0, h1⟩ := odd_half (five_mod_odd e j) hPlt
  have hb := NTT.bitRev_lt (e + 2) (P / 2)
  have hPcast : ((P : ℕ) : ZMod (2 ^ (e + 3))) = (5 : ZMod (2 ^ (e + 3))) ^ j := by
    rw [hP, ZMod.natCast_mod]; push_cast; rfl
  constructor
  · unfold dec0 slot0
    rw [ntt_entry h scale pT hlen _ hb, NTT.bitRev_invol _ _ hhalf, h0, hPcast]
  · unfold dec1 slot1
    rw [Nat.sub_right_comm, ntt_entry h scale pT hlen _ (by omega), bitRev_compl _ _ hb,
      NTT.bitRev_invol _ _ hhalf, h1, ← hM, Nat.cast_sub (hM ▸ hPlt).le, ZMod.natCast_self, zero_sub, hPcast]

theorem dec_lt (h : PlainOK e p g₀) (scale : ℕ) (pT : List ℕ) (j : ℕ) :
    dec0 e p g₀ scale pT j < p ∧ dec1 e p g₀ scale pT j < p := by
  have : Fact (mkTables (2 ^ (e + 2)) p (2 ^ (e + 2 + 1)) g₀).q.Prime := ⟨h.prime⟩
  have hall := (nttStd_cast (mkTables_all (e + 2) p g₀ h.prime h.h8 h.hdiv h.hg).1 _
    (mulScalar_wf h.prime.pos (EncoderT.scaleInv p scale) (rfl : pT.length = _)).2).2
  exact ⟨ListLemmas.getD_forall (p := (· < p)) h.prime.pos hall _,
    ListLemmas.getD_forall (p := (· < p)) h.prime.pos hall _⟩

theorem scaled_rowAut (h : PlainOK e p g₀) (scale g : ℕ) (hg : g % 2 = 1) (pT : List ℕ)
    (hlen : pT.length = 2 ^ (e + 2)) (u : (ZMod (2 ^ (e + 3)))ˣ) :
    E (psi e p g₀) (2 ^ (e + 3)) (scaled p scale (RPoly.rowAut g p pT)) u
      = E (psi e p g₀) (2 ^ (e + 3)) (scaled p scale pT)
          ((u : ZMod (2 ^ (e + 3))) * (g : ZMod (2 ^ (e + 3)))) := by
  have hcop : Nat.Coprime g (2 * pT.length) := by
    rw [hlen, ← nthRoot_eq]; exact RPolyRing.odd_coprime_two_pow hg _
  unfold scaled E
  rw [mulScalar_cast, mulScalar_cast, evalP_map_mul, evalP_map_mul,
    rowAut_cast p h.prime.pos (ZMod.natCast_self p) g pT hcop, hlen]
  have := E_sigma_unit (psi e p g₀) (psi_pow h) g (pT.map (Nat.cast : ℕ → ZMod p)) (by simp [hlen]) u
  unfold E at this
  rw [this]

/-- the evaluation vector of a BGV plaintext polynomial: `u ↦ (a(ψ^u), a(ψ^(-u)))`, `a` = the scaled polynomial
    read in `Z_p`. -/
noncomputable def slotFn (e p g₀ scale : ℕ) (pT : List ℕ) : EV .bgv e p :=
  ⟨fun u => (E (psi e p g₀) (2 ^ (e + 3)) (scaled p scale pT) u,
             E (psi e p g₀) (2 ^ (e + 3)) (scaled p scale pT) (-u)),
   fun u => by simp only [tauF, neg_neg]⟩

theorem decode_eq_toSlots (h : PlainOK e p g₀) (scale : ℕ) (pT : List ℕ) (hlen : pT.length = 2 ^ (e + 2)) :
    (decodeRingTU (mkTables (2 ^ (e + 2)) p (2 ^ (e + 3)) g₀) (permuteMatrix (e + 2)) scale pT
        (2 ^ (e + 2))).map Int.ofNat
      = toSlots .bgv e p (slotFn e p g₀ scale pT) := by
  have hc : ∀ n : ℕ, n < p → Int.ofNat n = (((n : ℕ) : ZMod p).cast : ℤ) := fun n hn => by
    rw [← Int.cast_natCast (R := ZMod p),
      cast_intCast_of_valid p _ fun _ => ⟨Int.natCast_nonneg n, by exact_mod_cast hn⟩]
    rfl
  rw [decode_int, toSlots, if_neg (by decide)]
  congr 1
  · refine List.map_congr_left fun j _ => ?_
    rw [hc _ (dec_lt h scale pT j).1, (dec_slots h scale pT hlen j).1]
    rfl
  · refine List.map_congr_left fun j _ => ?_
    rw [hc _ (dec_lt h scale pT j).2, (dec_slots h scale pT hlen j).2]
    rfl

/-- only at the points `5^j` where `toSlots` reads the vector: the even residues are no roots of `X^N+1` -/
theorem slotFn_rowAut (h : PlainOK e p g₀) (scale g : ℕ) (hg : g % 2 = 1) (pT : List ℕ)
    (hlen : pT.length = 2 ^ (e + 2)) (j : ℕ) :
    (slotFn e p g₀ scale (RPoly.rowAut g p pT)).1 ((5 : ZMod (2 ^ (e + 3))) ^ j)
      = ((evOps .bgv e p).aut g (slotFn e p g₀ scale pT)).1 ((5 : ZMod (2 ^ (e + 3))) ^ j) := by
  have h0 := scaled_rowAut h scale g hg pT hlen (five (e + 3) ^ j)
  have h1 := scaled_rowAut h scale g hg pT hlen (-(five (e + 3) ^ j))
  simp only [Units.val_neg, Units.val_pow_eq_pow_val, val_five] at h0 h1
  simp only [evOps_aut_apply, slotFn, h0, h1, neg_mul]

theorem goodG_odd {lay : Layout} {g : ℕ} (he : e + 3 ≤ 64) (hg : GoodG lay e g) : g % 2 = 1 := by
  have h4 : g % 4 = 1 ∨ g % 4 = 3 := by
    rcases hg with ⟨k, rfl⟩ | ⟨-, rfl⟩
    · exact Or.inl (galEl_mod_four (e + 3) (by omega) he k)
    · exact Or.inr (orderTwo_mod_four e)
  omega

/-- `C11.rotate_slots_bgv` (`g = GaloisElement(k)`: `goodG_galEl`) and `C11.rotateRows_bgv` (`g = 2N-1`:
    `goodG_orderTwo`); an instance of `toSlots_aut` -/
theorem decode_rowAut (h : PlainOK e p g₀) (he : e + 3 ≤ 64) (scale : ℕ) (pT : List ℕ)
    (hlen : pT.length = 2 ^ (e + 2)) {g : ℕ} (hg : GoodG .bgv e g) :
    (decodeRingTU (mkTables (2 ^ (e + 2)) p (2 ^ (e + 3)) g₀) (permuteMatrix (e + 2)) scale
        (RPoly.rowAut g p pT) (2 ^ (e + 2))).map Int.ofNat
      = slotAut .bgv (2 ^ (e + 3)) g
          ((decodeRingTU (mkTables (2 ^ (e + 2)) p (2 ^ (e + 3)) g₀) (permuteMatrix (e + 2)) scale pT
            (2 ^ (e + 2))).map Int.ofNat) := by
  have hodd := goodG_odd he hg
  rw [decode_eq_toSlots h scale _ ((RPolyRing.rowAut_length g p pT).trans hlen), decode_eq_toSlots h scale pT hlen,
    ← toSlots_aut he (fun hc => by cases hc) hg]
  exact toSlots_congr (slotFn_rowAut h scale g hodd pT hlen)

/-- `C11.rotate_decode` -/
theorem rotate_decode (h : PlainOK e p g₀) (he : e + 3 ≤ 64) (scale : ℕ) (pT : List ℕ)
    (hlen : pT.length = 2 ^ (e + 2)) (k : ℤ) :
    rotate (slotOps .bgv (2 ^ (e + 3)) p) (2 ^ (e + 3))
        ((decodeRingTU (mkTables (2 ^ (e + 2)) p (2 ^ (e + 3)) g₀) (permuteMatrix (e + 2)) scale pT
          (2 ^ (e + 2))).map Int.ofNat) k
      = .ok ((decodeRingTU (mkTables (2 ^ (e + 2)) p (2 ^ (e + 3)) g₀) (permuteMatrix (e + 2)) scale
              (RPoly.rowAut (galEl (2 ^ (e + 3)) k) p pT) (2 ^ (e + 2))).map Int.ofNat)
            (request false (galEl (2 ^ (e + 3)) k) [])
    ∧ (decodeRingTU (mkTables (2 ^ (e + 2)) p (2 ^ (e + 3)) g₀) (permuteMatrix (e + 2)) scale
          (RPoly.rowAut (galEl (2 ^ (e + 3)) k) p pT) (2 ^ (e + 2))).map Int.ofNat
        = rotL (kmod e k) ((List.range (2 ^ (e + 1))).map (fun j => Int.ofNat (dec0 e p g₀ scale pT j)))
          ++ rotL (kmod e k) ((List.range (2 ^ (e + 1))).map (fun j => Int.ofNat (dec1 e p g₀ scale pT j))) := by
  constructor
  · rw [decode_rowAut h he scale pT hlen (goodG_galEl k)]; rfl
  · rw [decode_rowAut h he scale pT hlen (goodG_galEl k), decode_int,
      slotAut_galEl_rows .bgv (by decide) e he k _ _ (by simp)]

end BGV

section AutNTT
open Lattigo.NTT

/-- `C11.automorphismNTT_spec`: `ring.AutomorphismNTTWithIndex` computes `out[i] = in[index[i]]`; the index
    permutation of the evaluation domain is the automorphism `X ↦ X^g` (`NTT.nttStd_rowAut`, C01) -/
theorem automorphismNTT_spec (K q g₀ : ℕ) (hK : 1 ≤ K) (hK64 : K + 1 ≤ 64) (hq : q.Prime) (h8 : 8 * q ≤ W)
    (hdiv : 2 ^ (K + 1) ∣ q - 1) (hg₀ : g₀ ^ ((q - 1) / 2) % q = q - 1)
    (a : List ℕ) (hlen : a.length = 2 ^ K) (ha : ∀ x ∈ a, x < q) (g : ℕ) (hg : g % 2 = 1) :
    ∃ idx, automorphismNTTIndex (2 ^ K) (2 ^ (K + 1)) g = some idx ∧
      nttStd (mkTables (2 ^ K) q (2 ^ (K + 1)) g₀) (RPoly.rowAut g q a)
        = idx.map (fun j => (nttStd (mkTables (2 ^ K) q (2 ^ (K + 1)) g₀) a).getD j 0) := by
  refine ⟨_, automorphismNTTIndex_pow K (K + 1) g, ?_⟩
  obtain ⟨hT, _, hψ, hF⟩ := mkTables_all K q g₀ hq h8 hdiv hg₀
  have := hT.fact
  refine (NTT.nttStd_rowAut hT _ hK hψ hF g hg a hlen ha).trans ?_
  rw [List.map_map]
  apply List.map_congr_left
  intro i _
  rw [Function.comp, nttIndexAt_eq_autIdx (K + 1) (by omega) hK64 g i hg]

end AutNTT

/-! ## ciphertext level, evaluation domain

  Ciphertext components live in the NTT (= slot) domain, where the automorphism is the index
  permutation of `automorphismNTT_spec`.  In the ring of slot vectors `(ZMod 2N)ˣ → R` (pointwise operations)
  `σ_g f = f(· g)` is a ring endomorphism, so C04's `automorphism_phase` applies: under the
  key-switch hypothesis (the gadget product of `c1` with the Galois key of `g` is a pair `ks` whose phase
  under `σ_g⁻¹(s)` is `c1·s + ν` — C04/C08), the phase of `Automorphism(ct, g)` is the phase of `ct`
  with slots moved by `g`, plus the moved noise. -/

section Ciphertext
open Lattigo.KS

variable {R : Type} [CommRing R] {M : ℕ}

/-- `σ_g` on slot vectors: `f ↦ f(· g)`, a ring endomorphism. -/
def slotPerm (g : (ZMod M)ˣ) : ((ZMod M)ˣ → R) →+* ((ZMod M)ˣ → R) :=
  RingHom.pi (fun u => Pi.evalRingHom (fun _ => R) (u * g))

@[simp] theorem slotPerm_apply (g : (ZMod M)ˣ) (f : (ZMod M)ˣ → R) (u : (ZMod M)ˣ) :
    slotPerm g f u = f (u * g) := rfl

/-- `C11.automorphism_slots_ciphertext`: `ks` = the (ModDown-ed) gadget product of `c1` with the Galois key of `g`;
    `hks` is the hypothesis of C04's `automorphism_phase` -/
theorem automorphism_slots (g : (ZMod M)ˣ) (ks ct : ((ZMod M)ˣ → R) × ((ZMod M)ˣ → R))
    (s ν : (ZMod M)ˣ → R) (hks : phase ks (slotPerm g⁻¹ s) = ct.2 * s + ν) (u : (ZMod M)ˣ) :
    phase (automorphism (slotPerm g) ks ct) s u = phase ct s (u * g) + ν (u * g) := by
  have hinv : slotPerm g (slotPerm g⁻¹ s) = s := by
    funext v; simp
  have := automorphism_phase (slotPerm g) (slotPerm g⁻¹) ks ct s ν hinv hks
  rw [this]; rfl

end Ciphertext

end Lattigo.Proofs.RotateSlots
