/-
  C11 proofs: the NTT-domain automorphism of the CONJUGATE-INVARIANT transform.

  Ring `Z[X+X⁻¹]/(X^{2N}+1)`, `N = 2^K`, `nthRoot = 4N = 2^(K+2)`.  `ring.NTT` (conjugate-invariant branch,
  model `NTT.nttCI`, generated tables) puts at position `t` the value of
  `a_0 + Σ_{m≥1} a_m (X^m + X^{-m})` at `x_t = ψ^(2·brv_{K+1}(t)+1)`, `ψ` a primitive `4N`-th root of unity
  (`mkTables_ptCI`, `nttCI_entry`).  `ring.AutomorphismNTTWithIndex` with the table
  `AutomorphismNTTIndex(N, 4N, g)` (`nttIndexAt (2^(K+2)) g`) reads position `index[i]`; for every `g ≡ 1 (mod 4)`
  (all rotations `GaloisElement(k) = 5^k`) that position is `< N` and holds the value at `x_i^g`
  (`automorphismNTT_ci`): the index permutation is the automorphism `X ↦ X^g` of the conjugate-invariant ring,
  in the evaluation domain; the table is a permutation of `[0, N)` (`nttIndex_perm_ci`).
-/
import Lattigo.Proofs.RotateSlots
import Lattigo.Proofs.NTTCI

namespace Lattigo.Proofs.RotateSlots
open Lattigo Lattigo.Model.Galois Lattigo.Proofs.Galois Lattigo.NTT
open Finset

theorem bitRev_even_of_lt (b i : ℕ) (hi : i < 2 ^ b) : NTT.bitRev i (b + 1) % 2 = 0 := by
  rw [NTT.bitRev_succ_last]
  have : i / 2 ^ b = 0 := Nat.div_eq_of_lt hi
  rw [this]; omega

theorem bitRev_lt_of_even (b x : ℕ) (hx : x % 2 = 0) : NTT.bitRev x (b + 1) < 2 ^ b := by
  rw [NTT.bitRev_succ_first, hx, Nat.zero_mul, Nat.zero_add]
  exact NTT.bitRev_lt b _

/-- for `g ≡ 1 (mod 4)` and even `r` the exponent `g·(2r+1) mod M` is `≡ 1 (mod 4)`, so its half is even. -/
theorem half_exponent_even {g r M : ℕ} (hg : g % 4 = 1) (hr : r % 2 = 0) (hM : 4 ∣ M) :
    (g * (2 * r + 1) % M - 1) / 2 % 2 = 0 := by
  have : g * (2 * r + 1) % M % 4 = 1 := by
    rw [Nat.mod_mod_of_dvd _ hM, Nat.mul_mod, hg]
    omega
  omega

/-- the entry `index[i]` of `AutomorphismNTTIndex(N, 4N, g)` is `< N`, and the exponent of its evaluation point is
    `g` times the exponent of the point of `i`, modulo `4N` -/
theorem nttIndexAt_ci (K : ℕ) (hK : K + 2 ≤ 64) (g i : ℕ) (hg : g % 4 = 1) (hi : i < 2 ^ K) :
    nttIndexAt (2 ^ (K + 2)) g i < 2 ^ K ∧
    2 * NTT.bitRev (nttIndexAt (2 ^ (K + 2)) g i) (K + 1) + 1
      = g * (2 * NTT.bitRev i (K + 1) + 1) % 2 ^ (K + 2) := by
  have hg2 : g % 2 = 1 := by omega
  have hexp := autIdx_exponent (K + 2) g i (by omega) hg2
  rw [nttIndexAt_eq_autIdx (K + 2) (by omega) hK g i hg2]
  unfold autIdx at hexp ⊢
  rw [show K + 2 - 1 = K + 1 from rfl] at hexp ⊢
  refine ⟨?_, hexp⟩
  exact bitRev_lt_of_even K _ (half_exponent_even hg (bitRev_even_of_lt K i hi) (Nat.pow_dvd_pow 2 (Nat.le_add_left 2 K)))

/-- `C11.nttIndex_perm_ci` -/
theorem nttIndex_perm_ci (K : ℕ) (hK : K + 2 ≤ 64) (g : ℕ) (hg : g % 4 = 1) :
    ∃ l, automorphismNTTIndex (2 ^ K) (2 ^ (K + 2)) g = some l ∧ l.length = 2 ^ K ∧
      l.Nodup ∧ ∀ x ∈ l, x < 2 ^ K := by
  refine ⟨_, automorphismNTTIndex_pow K (K + 2) g, by simp, ?_, ?_⟩
  · -- the first half of the table for `N' = 2N`, which has no repetition (`nttIndex_perm`)
    obtain ⟨l, hl, -, hnd, -⟩ := nttIndex_perm (K + 2) (by omega) hK g (by omega)
    rw [show K + 2 - 1 = K + 1 from rfl, automorphismNTTIndex_pow] at hl
    cases hl
    exact hnd.sublist ((List.range_sublist.mpr (Nat.pow_le_pow_right two_pos K.le_succ)).map _)
  · intro x hx
    obtain ⟨i, hi, rfl⟩ := List.mem_map.mp hx
    exact (nttIndexAt_ci K hK g i hg (List.mem_range.mp hi)).1

/-- `mkTables_pow` at `NthRoot = 4N`.  It speaks of `2^(K+1+1)`; the conversion to `2^(K+2)` is spelt out
    (left to unification it is slow to check). -/
theorem mkTables_powCI (K q g₀ : ℕ) (hq : q.Prime) (h8 : 8 * q ≤ W) (hdiv : 2 ^ (K + 2) ∣ q - 1)
    (hg₀ : g₀ ^ ((q - 1) / 2) % q = q - 1) :
    (((g₀ : ℕ) : ZMod q) ^ ((q - 1) / 2 ^ (K + 2))) ^ 2 ^ (K + 1) = -1 ∧
    ∀ idx, idx < 2 ^ (K + 1) → rho q (mkTables (2 ^ K) q (2 ^ (K + 2)) g₀).rootsF idx
      = (((g₀ : ℕ) : ZMod q) ^ ((q - 1) / 2 ^ (K + 2))) ^ NTT.bitRev idx (K + 1) := by
  have hK : K + 1 + 1 = K + 2 := rfl
  have hP := mkTables_pow (2 ^ K) (K + 1) q g₀ hq h8 (hK ▸ hdiv) hg₀
  have h1 := hP.psi_pow
  have h2 := hP.rootsF_eq
  rw [hK] at h1 h2
  exact ⟨h1, h2⟩

/-- evaluation points of `nttCI` with generated tables: `x_t = ψ^(2·brv_{K+1}(t)+1)`, `ψ = g₀^((q−1)/4N)` -/
theorem mkTables_ptCI (K q g₀ : ℕ) (hq : q.Prime) (h8 : 8 * q ≤ W) (hdiv : 2 ^ (K + 2) ∣ q - 1)
    (hg₀ : g₀ ^ ((q - 1) / 2) % q = q - 1) (t : ℕ) (ht : t < 2 ^ K) :
    pt (rho q (mkTables (2 ^ K) q (2 ^ (K + 2)) g₀).rootsF) K 2 t
      = (((g₀ : ℕ) : ZMod q) ^ ((q - 1) / 2 ^ (K + 2))) ^ (2 * NTT.bitRev t (K + 1) + 1) := by
  have hP := mkTables_powCI K q g₀ hq h8 hdiv hg₀
  -- leaf `t < 2^K` below node `2` at depth `K` is leaf `t` below the root at depth `K + 1`
  have h := pt_of_pow _ _ (K + 1) (by omega) hP.1 hP.2 t (by rw [pow_succ]; omega)
  rwa [pt, if_pos ht, Nat.mul_one] at h

/-- value of the conjugate-invariant polynomial `a_0 + Σ_{m≥1} a_m (X^m + X^{-m})` at `x` -/
def evalCI {F : Type} [Field F] (a : List F) (x : F) : F :=
  ∑ j ∈ range a.length, a.getD j 0 * x ^ j + ∑ m ∈ range (a.length - 1), a.getD (m + 1) 0 * x⁻¹ ^ (m + 1)

theorem nttCI_entry (K q g₀ : ℕ) (hq : q.Prime) (h8 : 8 * q ≤ W) (hdiv : 2 ^ (K + 2) ∣ q - 1)
    (hg₀ : g₀ ^ ((q - 1) / 2) % q = q - 1) (a : List ℕ) (hlen : a.length = 2 ^ K) (ha : ∀ x ∈ a, x < q)
    (t : ℕ) (ht : t < 2 ^ K) :
    haveI : Fact q.Prime := ⟨hq⟩
    (((nttCI (mkTables (2 ^ K) q (2 ^ (K + 2)) g₀) a).getD t 0 : ℕ) : ZMod q)
      = evalCI (a.map (Nat.cast : ℕ → ZMod q))
          ((((g₀ : ℕ) : ZMod q) ^ ((q - 1) / 2 ^ (K + 2))) ^ (2 * NTT.bitRev t (K + 1) + 1)) := by
  have : Fact q.Prime := ⟨hq⟩
  have : Fact (mkTables (2 ^ K) q (2 ^ (K + 2)) g₀).q.Prime := ⟨hq⟩
  have hP := mkTables_pow (2 ^ K) (K + 1) q g₀ hq h8 hdiv hg₀
  have hT : ValidCI (mkTables (2 ^ K) q (2 ^ (K + 2)) g₀) K := hP.validCI rfl hq h8 rfl
  have hev : (nttCI (mkTables (2 ^ K) q (2 ^ (K + 2)) g₀) a).map (Nat.cast : ℕ → ZMod q) = _ :=
    nttCI_eval hT hP.tableInv a (by rw [hlen]; exact hT.n_eq.symm) ha
  have hpt : pt (rho (mkTables (2 ^ K) q (2 ^ (K + 2)) g₀).q (mkTables (2 ^ K) q (2 ^ (K + 2)) g₀).rootsF) K 2 t
      = _ := mkTables_ptCI K q g₀ hq h8 hdiv hg₀ t ht
  rw [← getD_map_cast, hev]
  refine (ListLemmas.getD_map_range _ _ _ ht).trans ?_
  simp only [hpt]
  unfold evalCI
  rw [List.length_map, hlen]
  simp only [getD_map_cast]
  rfl

/-- `C11.automorphismNTT_ci`: the evaluation-domain form of `X ↦ X^g` on `Z[X+X⁻¹]/(X^{2N}+1)` -/
theorem automorphismNTT_ci (K q g₀ : ℕ) (hK : K + 2 ≤ 64) (hq : q.Prime) (h8 : 8 * q ≤ W)
    (hdiv : 2 ^ (K + 2) ∣ q - 1) (hg₀ : g₀ ^ ((q - 1) / 2) % q = q - 1) (a : List ℕ) (hlen : a.length = 2 ^ K)
    (ha : ∀ x ∈ a, x < q) (g : ℕ) (hg : g % 4 = 1) (i : ℕ) (hi : i < 2 ^ K) :
    haveI : Fact q.Prime := ⟨hq⟩
    nttIndexAt (2 ^ (K + 2)) g i < 2 ^ K ∧
    (((nttCI (mkTables (2 ^ K) q (2 ^ (K + 2)) g₀) a).getD (nttIndexAt (2 ^ (K + 2)) g i) 0 : ℕ) : ZMod q)
      = evalCI (a.map (Nat.cast : ℕ → ZMod q))
          (((((g₀ : ℕ) : ZMod q) ^ ((q - 1) / 2 ^ (K + 2))) ^ (2 * NTT.bitRev i (K + 1) + 1)) ^ g) := by
  have : Fact q.Prime := ⟨hq⟩
  obtain ⟨hlt, hexp⟩ := nttIndexAt_ci K hK g i hg hi
  refine ⟨hlt, ?_⟩
  rw [nttCI_entry K q g₀ hq h8 hdiv hg₀ a hlen ha _ hlt, hexp]
  have hhalf := (mkTables_powCI K q g₀ hq h8 hdiv hg₀).1
  generalize (((g₀ : ℕ) : ZMod q) ^ ((q - 1) / 2 ^ (K + 2))) = ψ at hhalf ⊢
  have hψ1 : ψ ^ 2 ^ (K + 2) = 1 := by
    have h := sq_of_neg_one hhalf
    rwa [show 2 * 2 ^ (K + 1) = 2 ^ (K + 2) by ring] at h
  rw [← pow_eq_pow_mod _ hψ1, ← pow_mul, mul_comm g]

end Lattigo.Proofs.RotateSlots
