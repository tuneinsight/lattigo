/-
  C11 proofs: what the CKKS instance of `conj_slots` (`Props/C11.lean`, `orderTwo_conjugates_complex`) needs over `ℂ`:
  `ζ = e^{iπ/N}` is a root of `X^N + 1` (`zetaC_pow`) and complex conjugation sends it to `ζ^(2N-1)` (`zetaC_conj`).
-/
import Lattigo.Proofs.RotateSlots
import Mathlib.Analysis.SpecialFunctions.Trigonometric.Basic

namespace Lattigo.Proofs.RotateSlots
open Complex

/-- the primitive `2N`-th root of unity `e^{iπ/N}`, `N = 2^(t+2)` -/
noncomputable def zetaC (t : ℕ) : ℂ := Complex.exp ((Real.pi : ℂ) * I / ((2 ^ (t + 2) : ℕ) : ℂ))

theorem zetaC_pow (t : ℕ) : zetaC t ^ 2 ^ (t + 2) = -1 := by
  unfold zetaC
  rw [← Complex.exp_nat_mul]
  have h : ((2 ^ (t + 2) : ℕ) : ℂ) ≠ 0 := by exact_mod_cast (by positivity : (2 ^ (t + 2) : ℕ) ≠ 0)
  rw [mul_div_cancel₀ _ h, Complex.exp_pi_mul_I]

theorem zetaC_conj (t : ℕ) : (starRingEnd ℂ) (zetaC t) = zetaC t ^ (2 ^ (t + 3) - 1) := by
  have h1 : zetaC t ^ 2 ^ (t + 3) = 1 := by
    rw [nthRoot_eq]; exact sq_of_neg_one (zetaC_pow t)
  -- `conj ζ = e^{-iπ/N}` is the inverse of `ζ`, and so is `ζ^(2N-1)`
  have hz : zetaC t * (starRingEnd ℂ) (zetaC t) = 1 := by
    unfold zetaC
    rw [← Complex.exp_conj, ← Complex.exp_add, map_div₀, map_mul, Complex.conj_ofReal, Complex.conj_I,
      map_natCast, mul_neg, neg_div, add_neg_cancel, Complex.exp_zero]
  have hne : zetaC t ≠ 0 := Complex.exp_ne_zero _
  rw [← mul_right_inj' hne, hz, ← pow_succ',
    Nat.sub_add_cancel Nat.one_le_two_pow, h1]

end Lattigo.Proofs.RotateSlots
