import Lattigo.Model.RPoly
import Lattigo.Proofs.ListLemmas
import Mathlib.Data.ZMod.Basic
import Mathlib.Tactic.Ring
import Mathlib.Tactic.Linarith
import Mathlib.Algebra.BigOperators.Ring.Finset
import Mathlib.Algebra.BigOperators.Group.Finset.Sigma

/-!
  # The executable rows of `Model/RPoly.lean`, evaluated in a commutative ring (property C01)

  `RowWF q n row` (length `n`, entries `< q`) and `evalRow n row x = Σ_{i<n} row_i x^i` in any commutative ring `F` in
  which `q = 0`.  At a root `r` of `X^n + 1` the row operations are the ring operations on the values (`rowMul` through
  `NTT.negacyclic_eval`; `rowAut g` is `r ↦ r^g`, `rowMonomial k` is `· r^k`).  `rowAut` and `rowMonomial` are the two
  instances of one scatter loop `scatRow q t` over an exponent map `t`.
  `Z_q[X]/(X^n+1)` itself (`Proofs/RPolyRing.lean`) and `ZMod q` (`Proofs/NTTMul.lean`, `Proofs/Aut.lean`) are
  instances of `F`.
-/
namespace Lattigo.NTT
open Lattigo

section
variable {F : Type} [CommRing F]

open Finset in
/-- if `x^n = −1` then `Σ_k (Σ_{i≤k} X_i Y_{k−i} − Σ_{i>k} X_i Y_{n+k−i}) x^k = (Σ X_i x^i)(Σ Y_j x^j)` -/
theorem negacyclic_eval (X Y : ℕ → F) (n : ℕ) (x : F) (hx : x ^ n = -1) :
    ∑ k ∈ range n, (∑ i ∈ range (k + 1), X i * Y (k - i)
        - ∑ j ∈ range (n - 1 - k), X (k + 1 + j) * Y (n + k - (k + 1 + j))) * x ^ k
      = (∑ i ∈ range n, X i * x ^ i) * (∑ j ∈ range n, Y j * x ^ j) := by
  -- Write the summand uniformly in `(i,k)` as `T i k`, swap the two sums, and fix `i`: the row `k ↦ T i k x^k` splits at
  -- `k = i` into `X_i x^i · Y_m x^m` for `m = k − i < n − i` and, with `x^n = −1`, for `m = n + k − i ≥ n − i`.
  let T : ℕ → ℕ → F := fun i k => if i ≤ k then X i * Y (k - i) else -(X i * Y (n + k - i))
  have h1 : ∀ k ∈ range n, (∑ i ∈ range (k + 1), X i * Y (k - i)
        - ∑ j ∈ range (n - 1 - k), X (k + 1 + j) * Y (n + k - (k + 1 + j))) * x ^ k
      = ∑ i ∈ range n, T i k * x ^ k := by
    intro k hk
    have hk' : k < n := mem_range.1 hk
    have e : n = (k + 1) + (n - 1 - k) := by omega
    rw [← sum_mul]
    congr 1
    conv_rhs => rw [e, sum_range_add]
    rw [sub_eq_add_neg, ← sum_neg_distrib]
    congr 1
    · apply sum_congr rfl
      intro i hi
      have : i ≤ k := by have := mem_range.1 hi; omega
      simp only [T, this, if_true]
    · apply sum_congr rfl
      intro j _
      have : ¬ k + 1 + j ≤ k := by omega
      simp only [T, this, if_false]
  rw [sum_congr rfl h1, sum_comm, sum_mul]
  apply sum_congr rfl
  intro i hi
  have hi' : i < n := mem_range.1 hi
  have e : n = i + (n - i) := by omega
  have e' : n = (n - i) + i := by omega
  rw [mul_sum]
  conv_lhs => rw [e, sum_range_add]
  conv_rhs => rw [e', sum_range_add]
  rw [add_comm]
  congr 1
  · apply sum_congr rfl
    intro m _
    have h1 : i ≤ i + m := by omega
    have h2 : i + m - i = m := by omega
    simp only [T, h1, if_true, h2, pow_add]
    ring
  · apply sum_congr rfl
    intro k hk
    have hk' : k < i := mem_range.1 hk
    have h1 : ¬ i ≤ k := by omega
    have h2 : n - i + k = n + k - i := by omega
    have h3 : x ^ i * x ^ (n + k - i) = x ^ n * x ^ k := by
      rw [← pow_add, ← pow_add]; congr 1; omega
    simp only [T, h1, if_false, h2]
    calc -(X i * Y (n + k - i)) * x ^ k = X i * Y (n + k - i) * (x ^ n * x ^ k) := by rw [hx]; ring
      _ = X i * x ^ i * (Y (n + k - i) * x ^ (n + k - i)) := by rw [← h3]; ring

end

section
variable {q : ℕ}

open Finset in
theorem foldl_mod_eq (q : ℕ) (g : ℕ → ℕ) : ∀ m : ℕ,
    (List.range m).foldl (fun acc i => (acc + g i) % q) 0 = (∑ i ∈ range m, g i) % q
  | 0 => by simp
  | m + 1 => by
    rw [List.range_succ, List.foldl_append, sum_range_succ, foldl_mod_eq q g m]
    simp only [List.foldl_cons, List.foldl_nil]
    rw [Nat.mod_add_mod]

theorem foldl_mod_lt (hq : 0 < q) (g : ℕ → ℕ) (m : ℕ) :
    (List.range m).foldl (fun acc i => (acc + g i) % q) 0 < q := by
  rw [foldl_mod_eq]
  exact Nat.mod_lt _ hq

theorem rowMul_length (x y : List ℕ) : (RPoly.rowMul q x y).length = x.length := by
  unfold RPoly.rowMul
  rw [List.length_map, List.length_range]

theorem rowMul_lt (hq : 0 < q) (x y : List ℕ) : ∀ z ∈ RPoly.rowMul q x y, z < q := by
  intro z hz
  simp only [RPoly.rowMul, List.mem_map] at hz
  obtain ⟨k, _, rfl⟩ := hz
  exact Nat.mod_lt _ hq

end
end Lattigo.NTT

namespace Lattigo.RPolyRing
open Lattigo Lattigo.NTT Finset

/-- a well-formed row: `n` coefficients, each reduced modulo `q` -/
structure RowWF (q n : ℕ) (row : List ℕ) : Prop where
  len : row.length = n
  lt : ∀ x ∈ row, x < q

theorem RowWF.range_map {q n : ℕ} (g : ℕ → ℕ) (hg : ∀ i, g i < q) : RowWF q n ((List.range n).map g) :=
  ⟨by rw [List.length_map, List.length_range], fun x hx => by
    obtain ⟨i, _, rfl⟩ := List.mem_map.1 hx
    exact hg i⟩

section generic
variable {F : Type} [CommRing F] {q : ℕ}

theorem cast_mod_eq (hq : ((q : ℕ) : F) = 0) (a : ℕ) : ((a % q : ℕ) : F) = (a : F) := by
  conv_rhs => rw [← Nat.div_add_mod a q]
  rw [Nat.cast_add, Nat.cast_mul, hq, zero_mul, zero_add]

theorem foldl_mod_castF (hq : ((q : ℕ) : F) = 0) (g : ℕ → ℕ) (m : ℕ) :
    (((List.range m).foldl (fun acc i => (acc + g i) % q) 0 : ℕ) : F) = ∑ i ∈ range m, (g i : F) := by
  rw [foldl_mod_eq, cast_mod_eq hq, Nat.cast_sum]

/-- value of a row at `x`: `Σ_{i<n} row_i x^i` -/
def evalRow (n : ℕ) (row : List ℕ) (x : F) : F := ∑ i ∈ range n, ((row.getD i 0 : ℕ) : F) * x ^ i

theorem evalRow_rowMul (hq0 : 0 < q) (hq : ((q : ℕ) : F) = 0) (a b : List ℕ) (x : F)
    (hx : x ^ a.length = -1) :
    evalRow a.length (RPoly.rowMul q a b) x = evalRow a.length a x * evalRow a.length b x := by
  unfold evalRow
  rw [← negacyclic_eval (fun i => ((a.getD i 0 : ℕ) : F)) (fun j => ((b.getD j 0 : ℕ) : F)) _ x hx]
  apply sum_congr rfl
  intro k hk
  have hk' : k < a.length := mem_range.1 hk
  congr 1
  unfold RPoly.rowMul
  simp only []
  rw [ListLemmas.getD_map_range _ _ _ hk']
  have hneg := foldl_mod_lt hq0 (fun j => a.toArray[k + 1 + j]! * b.toArray[a.length + k - (k + 1 + j)]!)
    (a.length - 1 - k)
  have hc1 := foldl_mod_castF (F := F) hq (fun i => a.toArray[i]! * b.toArray[k - i]!) (k + 1)
  have hc2 := foldl_mod_castF (F := F) hq
    (fun j => a.toArray[k + 1 + j]! * b.toArray[a.length + k - (k + 1 + j)]!) (a.length - 1 - k)
  simp only [Nat.cast_mul] at hc1 hc2
  simp only [ListLemmas.toArray_get!] at hc1 hc2 hneg ⊢
  rw [cast_mod_eq hq, Nat.cast_sub (by omega), Nat.cast_add, hq, add_zero, hc1, hc2]

theorem evalRow_rowAdd (hq : ((q : ℕ) : F) = 0) (n : ℕ) (a b : List ℕ) (ha : a.length = n)
    (hb : b.length = n) (x : F) :
    evalRow n (RPoly.rowAdd q a b) x = evalRow n a x + evalRow n b x := by
  unfold evalRow RPoly.rowAdd
  rw [← sum_add_distrib]
  apply sum_congr rfl
  intro i hi
  have hi' := mem_range.1 hi
  rw [ListLemmas.getD_zipWith _ _ _ _ 0 0 (by omega) (by omega), cast_mod_eq hq, Nat.cast_add, add_mul]

theorem evalRow_rowSub (hq0 : 0 < q) (hq : ((q : ℕ) : F) = 0) (n : ℕ) (a b : List ℕ) (ha : a.length = n)
    (hb : b.length = n) (x : F) :
    evalRow n (RPoly.rowSub q a b) x = evalRow n a x - evalRow n b x := by
  unfold evalRow RPoly.rowSub
  rw [← sum_sub_distrib]
  apply sum_congr rfl
  intro i hi
  have hi' := mem_range.1 hi
  have hlt : b.getD i 0 % q < q := Nat.mod_lt _ hq0
  rw [ListLemmas.getD_zipWith _ _ _ _ 0 0 (by omega) (by omega), cast_mod_eq hq, Nat.cast_sub (by omega), Nat.cast_add,
    hq, add_zero, cast_mod_eq hq, sub_mul]

theorem evalRow_rowNeg (hq0 : 0 < q) (hq : ((q : ℕ) : F) = 0) (n : ℕ) (a : List ℕ) (ha : a.length = n)
    (x : F) : evalRow n (RPoly.rowNeg q a) x = -evalRow n a x := by
  unfold evalRow RPoly.rowNeg
  rw [← sum_neg_distrib]
  apply sum_congr rfl
  intro i hi
  have hi' := mem_range.1 hi
  have hlt : a.getD i 0 % q < q := Nat.mod_lt _ hq0
  rw [ListLemmas.getD_map_of_lt _ _ _ 0 (by omega), cast_mod_eq hq, Nat.cast_sub (by omega), hq, zero_sub,
    cast_mod_eq hq, neg_mul]

theorem evalRow_rowScale (hq : ((q : ℕ) : F) = 0) (n k : ℕ) (a : List ℕ) (ha : a.length = n)
    (x : F) : evalRow n (RPoly.rowScale k q a) x = (k : F) * evalRow n a x := by
  unfold evalRow RPoly.rowScale
  rw [mul_sum]
  apply sum_congr rfl
  intro i hi
  have hi' := mem_range.1 hi
  rw [ListLemmas.getD_map_of_lt _ _ _ 0 (by omega), cast_mod_eq hq, Nat.cast_mul]; ring

theorem evalRow_const {n : ℕ} (hn : 1 ≤ n) (c : ℕ) (x : F) :
    evalRow n ((List.range n).map fun i => if i = 0 then c else 0) x = (c : F) := by
  unfold evalRow
  rw [sum_eq_single_of_mem 0 (mem_range.2 hn)]
  · rw [ListLemmas.getD_map_range _ _ _ hn, if_pos rfl, pow_zero, mul_one]
  · intro i hi hne
    rw [ListLemmas.getD_map_range _ _ _ (mem_range.1 hi), if_neg hne, Nat.cast_zero, zero_mul]

theorem map_evalRow {G : Type} [CommRing G] (f : F →+* G) (n : ℕ) (row : List ℕ) (x : F) :
    f (evalRow n row x) = evalRow n row (f x) := by
  unfold evalRow
  rw [map_sum]
  exact sum_congr rfl fun i _ => by rw [map_mul, map_natCast, map_pow]

end generic

section scatter
variable {F : Type} [CommRing F]

/-- `Σ_{k<n} r[k] x^k` -/
def evalArr (n : ℕ) (r : Array ℕ) (x : F) : F := ∑ k ∈ range n, ((r[k]! : ℕ) : F) * x ^ k

theorem evalRow_toList (n : ℕ) (r : Array ℕ) (x : F) : evalRow n r.toList x = evalArr n r x := by
  unfold evalRow evalArr
  apply sum_congr rfl
  intro k _
  congr 2
  simp [List.getD_eq_getElem?_getD, Array.getElem!_eq_getD, Array.getD_eq_getD_getElem?]

theorem evalArr_set (n : ℕ) (r : Array ℕ) (e v : ℕ) (hs : r.size = n) (he : e < n) (x : F) :
    evalArr n (r.set! e v) x = evalArr n r x + ((v : F) - (r[e]! : F)) * x ^ e := by
  unfold evalArr
  have h : ∀ k ∈ range n, (((r.set! e v)[k]! : ℕ) : F) * x ^ k
      = (r[k]! : F) * x ^ k + (if k = e then ((v : F) - (r[e]! : F)) * x ^ e else 0) := by
    intro k _
    by_cases hk : k = e
    · subst hk
      rw [Array.getElem!_set!_self _ _ _ (by omega), if_pos rfl]; ring
    · rw [Array.getElem!_set!_ne _ _ _ _ (Ne.symm hk), if_neg hk, add_zero]
  rw [sum_congr rfl h, sum_add_distrib, sum_ite_eq' (range n) e, if_pos (mem_range.2 he)]

/-- the scatter loop of `rowAut` / `rowMonomial`, first `m` iterations -/
def scat (n : ℕ) (e v : ℕ → ℕ) (m : ℕ) : Array ℕ :=
  (List.range m).foldl (fun (acc : Array ℕ) i => acc.set! (e i) (v i)) (Array.replicate n 0)

theorem scat_succ (n : ℕ) (e v : ℕ → ℕ) (m : ℕ) :
    scat n e v (m + 1) = (scat n e v m).set! (e m) (v m) := by
  unfold scat; rw [List.range_succ, List.foldl_append]; rfl

theorem scat_size (n : ℕ) (e v : ℕ → ℕ) : ∀ m, (scat n e v m).size = n
  | 0 => by simp [scat]
  | m + 1 => by rw [scat_succ, Array.size_set!, scat_size n e v m]

theorem scat_zero (n : ℕ) (e v : ℕ → ℕ) (k : ℕ) : ∀ m, (∀ i < m, e i ≠ k) → (scat n e v m)[k]! = 0
  | 0, _ => by
    show (Array.replicate n 0 : Array ℕ)[k]! = 0
    by_cases hk : k < n <;> simp [hk]
  | m + 1, hk => by
    rw [scat_succ, Array.getElem!_set!_ne _ _ _ _ (hk m (by omega))]
    exact scat_zero n e v k m fun i hi => hk i (by omega)

theorem scat_forall (n : ℕ) (e v : ℕ → ℕ) (P : ℕ → Prop) (h0 : P 0) (k : ℕ) :
    ∀ m, (∀ i < m, e i < n) → (∀ i < m, P (v i)) → P (scat n e v m)[k]!
  | 0, _, _ => by rw [scat_zero n e v k 0 fun i hi => absurd hi (Nat.not_lt_zero _)]; exact h0
  | m + 1, he, hv => by
    rw [scat_succ]
    by_cases hk : e m = k
    · subst hk
      rw [Array.getElem!_set!_self _ _ _ (by rw [scat_size]; exact he m (by omega))]
      exact hv m (by omega)
    · rw [Array.getElem!_set!_ne _ _ _ _ hk]
      exact scat_forall n e v P h0 k m (fun i hi => he i (by omega)) (fun i hi => hv i (by omega))

/-- each turn adds its term, because its position still held `0` (the positions are pairwise distinct) -/
theorem evalArr_scat (n : ℕ) (e v : ℕ → ℕ) (he : ∀ i < n, e i < n)
    (hinj : ∀ i < n, ∀ j < n, e i = e j → i = j) (x : F) :
    ∀ m ≤ n, evalArr n (scat n e v m) x = ∑ i ∈ range m, (v i : F) * x ^ (e i)
  | 0, _ => by
    rw [range_zero, sum_empty]
    unfold evalArr
    refine sum_eq_zero fun k _ => ?_
    rw [scat_zero n e v k 0 fun i hi => absurd hi (Nat.not_lt_zero _), Nat.cast_zero, zero_mul]
  | m + 1, hm => by
    have hrz : (scat n e v m)[e m]! = 0 :=
      scat_zero n e v (e m) m fun i hi h => by have := hinj i (by omega) m (by omega) h; omega
    rw [scat_succ, evalArr_set n _ _ _ (scat_size n e v m) (he m (by omega)), evalArr_scat n e v he hinj x m (by omega),
      hrz, Nat.cast_zero, sub_zero, sum_range_succ]

theorem scatter_get (n : ℕ) (e v : ℕ → ℕ) (he : ∀ i < n, e i < n)
    (hinj : ∀ i < n, ∀ j < n, e i = e j → i = j) : ∀ m ≤ n, ∀ i < m, (scat n e v m)[e i]! = v i
  | 0, _, _, hi => absurd hi (Nat.not_lt_zero _)
  | m + 1, hm, i, hi => by
    rw [scat_succ]
    by_cases him : i = m
    · subst him
      exact Array.getElem!_set!_self _ _ _ (by rw [scat_size]; exact he i (by omega))
    · rw [Array.getElem!_set!_ne _ _ _ _ (fun h => him (hinj m (by omega) i (by omega) h).symm)]
      exact scatter_get n e v he hinj m (by omega) i (by omega)

end scatter

section rows
variable {q n : ℕ}

/-- target position of coefficient `i` under a shift/scaling exponent `t` (`X^t`, `t` taken mod `2n`) -/
def foldPos (n t : ℕ) : ℕ := if t % (2 * n) < n then t % (2 * n) else t % (2 * n) - n
/-- the (possibly negated) coefficient written at that position -/
def foldVal (q n t : ℕ) (v : ℕ) : ℕ := if t % (2 * n) < n then v else (q - v % q) % q

theorem foldPos_lt (hn : 1 ≤ n) (t : ℕ) : foldPos n t < n := by
  unfold foldPos
  have := Nat.mod_lt t (show 0 < 2 * n by omega)
  split <;> omega

theorem foldPos_eq_mod (hn : 0 < n) (t : ℕ) : foldPos n t = t % (2 * n) % n := by
  unfold foldPos
  have := Nat.mod_lt t (show 0 < 2 * n by omega)
  generalize t % (2 * n) = r at this
  split
  · rename_i h
    rw [Nat.mod_eq_of_lt h]
  · rw [Nat.mod_eq_sub_mod (by omega), Nat.mod_eq_of_lt (by omega)]

theorem foldPos_modEq (t : ℕ) : foldPos n t ≡ t [MOD n] := by
  unfold foldPos
  have h1 : t % (2 * n) ≡ t [MOD n] := (Nat.mod_modEq t (2 * n)).of_mul_left 2
  split
  · exact h1
  · rename_i h
    have h2 : t % (2 * n) - n + n = t % (2 * n) := by omega
    have h3 : t % (2 * n) - n + n ≡ t % (2 * n) - n [MOD n] := by
      unfold Nat.ModEq; rw [Nat.add_mod_right]
    exact (h3.symm.trans (by rw [h2])).trans h1

theorem foldVal_mul_pow {F : Type} [CommRing F] (hq0 : 0 < q) (hq : ((q : ℕ) : F) = 0) {r : F} (hr : r ^ n = -1)
    (t v : ℕ) : ((foldVal q n t v : ℕ) : F) * r ^ foldPos n t = (v : F) * r ^ t := by
  have hr2 : r ^ (2 * n) = 1 := by rw [mul_comm, pow_mul, hr, neg_one_sq]
  rw [pow_eq_pow_mod t hr2]
  unfold foldVal foldPos
  split
  · rfl
  · have hlt : v % q < q := Nat.mod_lt _ hq0
    rw [cast_mod_eq hq, Nat.cast_sub hlt.le, hq, zero_sub, cast_mod_eq hq]
    conv_rhs => rw [show t % (2 * n) = n + (t % (2 * n) - n) by omega, pow_add, hr]
    ring

/-- coefficient `i` of `x` goes to the exponent `t i`, folded into `[0, n)` with the sign of `X^n = −1`: the loop of
`RPoly.rowAut` (`t i = i·g`) and of `RPoly.rowMonomial` (`t i = i + k`) -/
def scatRow (q : ℕ) (t : ℕ → ℕ) (x : List ℕ) : List ℕ :=
  (scat x.length (fun i => foldPos x.length (t i)) (fun i => foldVal q x.length (t i) (x.getD i 0)) x.length).toList

theorem rowAut_eq_scat (g : ℕ) (x : List ℕ) : RPoly.rowAut g q x = scatRow q (· * g) x := by
  unfold RPoly.rowAut scatRow scat foldPos foldVal
  simp only [ListLemmas.get!_eq_getD]
  congr 2
  funext acc i
  split <;> rfl

theorem rowMonomial_eq_scat (k : ℤ) (x : List ℕ) :
    RPoly.rowMonomial k q x = scatRow q (· + (k % (2 * x.length : ℤ)).toNat) x := by
  unfold RPoly.rowMonomial scatRow scat foldPos foldVal
  simp only [ListLemmas.get!_eq_getD]
  congr 2
  funext acc i
  split <;> rfl

/-- distinct coefficients go to distinct positions -/
def ExpInj (n : ℕ) (t : ℕ → ℕ) : Prop := ∀ i < n, ∀ j < n, foldPos n (t i) = foldPos n (t j) → i = j

theorem foldPos_mul_inj (g : ℕ) (hc : Nat.Coprime g n) : ExpInj n (· * g) := by
  intro i hi j hj h
  have h1 : i * g ≡ j * g [MOD n] :=
    (foldPos_modEq (n := n) (i * g)).symm.trans (h ▸ foldPos_modEq (n := n) (j * g))
  have h2 : i ≡ j [MOD n] := Nat.ModEq.cancel_right_of_coprime (by rwa [Nat.coprime_comm] at hc) h1
  exact Nat.ModEq.eq_of_lt_of_lt h2 hi hj

theorem odd_coprime_two_pow {g : ℕ} (hg : g % 2 = 1) (K : ℕ) : Nat.Coprime g (2 ^ K) :=
  (Nat.coprime_two_right.2 (Nat.odd_iff.2 hg)).pow_right K

theorem foldPos_add_inj (t : ℕ) : ExpInj n (· + t) := by
  intro i hi j hj h
  have h1 : i + t ≡ j + t [MOD n] :=
    (foldPos_modEq (n := n) (i + t)).symm.trans (h ▸ foldPos_modEq (n := n) (j + t))
  exact Nat.ModEq.eq_of_lt_of_lt (Nat.ModEq.add_right_cancel' t h1) hi hj

theorem foldVal_lt (hq : 0 < q) (t v : ℕ) (hv : v < q) : foldVal q n t v < q := by
  unfold foldVal; split
  · exact hv
  · exact Nat.mod_lt _ hq

theorem foldVal_zero (q n t : ℕ) : foldVal q n t 0 = 0 := by
  unfold foldVal
  split
  · rfl
  · simp

theorem toList_wf (r : Array ℕ) (hs : r.size = n) (hP : ∀ k : ℕ, r[k]! < q) : RowWF q n r.toList := by
  refine ⟨by simp [hs], fun x hx => ?_⟩
  obtain ⟨k, hk, rfl⟩ := List.getElem_of_mem hx
  have hk' : k < r.size := by simpa using hk
  have := hP k
  simpa [hk'] using this

theorem scatRow_length (t : ℕ → ℕ) (x : List ℕ) : (scatRow q t x).length = x.length := by
  rw [scatRow, Array.length_toList, scat_size]

/-- also when turns collide: an entry written twice is still `< q` -/
theorem scatRow_wf (hq : 0 < q) (hn : 1 ≤ n) (t : ℕ → ℕ) {a : List ℕ} (ha : RowWF q n a) :
    RowWF q n (scatRow q t a) := by
  rw [scatRow, ha.len]
  exact toList_wf _ (scat_size n _ _ n) fun k => scat_forall n _ _ (· < q) hq k n (fun i _ => foldPos_lt hn _)
    fun i hi => foldVal_lt hq _ _ (ha.lt _ (ListLemmas.getD_mem (ha.len ▸ hi)))

theorem scatRow_getD (hn : 1 ≤ n) {t : ℕ → ℕ} (ht : ExpInj n t) (a : List ℕ) (ha : a.length = n) (i : ℕ)
    (hi : i < n) : (scatRow q t a).getD (foldPos n (t i)) 0 = foldVal q n (t i) (a.getD i 0) := by
  have h := scatter_get n (fun i => foldPos n (t i)) (fun i => foldVal q n (t i) (a.getD i 0))
    (fun i _ => foldPos_lt hn _) ht n le_rfl i hi
  rw [scatRow, ha]
  simpa [List.getD_eq_getElem?_getD, Array.getElem!_eq_getD, Array.getD_eq_getD_getElem?] using h

theorem evalRow_scatRow {F : Type} [CommRing F] (hq0 : 0 < q) (hq : ((q : ℕ) : F) = 0) (hn : 1 ≤ n) {r : F}
    (hr : r ^ n = -1) {t : ℕ → ℕ} (ht : ExpInj n t) (a : List ℕ) (ha : a.length = n) :
    evalRow n (scatRow q t a) r = ∑ i ∈ range n, ((a.getD i 0 : ℕ) : F) * r ^ t i := by
  rw [scatRow, ha, evalRow_toList, evalArr_scat n _ _ (fun i _ => foldPos_lt hn _) ht r n le_rfl]
  exact sum_congr rfl fun i _ => foldVal_mul_pow hq0 hq hr _ _

theorem rowAut_length (g q : ℕ) (x : List ℕ) : (RPoly.rowAut g q x).length = x.length := by
  rw [rowAut_eq_scat, scatRow_length]

-- `hc` is not needed for well-formedness; the argument stays because the fixed definition `WFPoly.aut` passes it
set_option linter.unusedVariables false in
theorem RowWF.aut {a : List ℕ} (hq : 0 < q) (hn : 1 ≤ n) (g : ℕ) (hc : Nat.Coprime g n)
    (ha : RowWF q n a) : RowWF q n (RPoly.rowAut g q a) :=
  rowAut_eq_scat g a ▸ scatRow_wf hq hn _ ha

theorem RowWF.monomial {a : List ℕ} (hq : 0 < q) (hn : 1 ≤ n) (k : ℤ)
    (ha : RowWF q n a) : RowWF q n (RPoly.rowMonomial k q a) :=
  rowMonomial_eq_scat k a ▸ scatRow_wf hq hn _ ha

theorem rowAut_getD (hn : 1 ≤ n) (g : ℕ) (hc : Nat.Coprime g n) (a : List ℕ) (ha : a.length = n) (i : ℕ)
    (hi : i < n) : (RPoly.rowAut g q a).getD (foldPos n (i * g)) 0 = foldVal q n (i * g) (a.getD i 0) := by
  rw [rowAut_eq_scat]
  exact scatRow_getD hn (foldPos_mul_inj g hc) a ha i hi

theorem evalRow_rowAut {F : Type} [CommRing F] (hq0 : 0 < q) (hq : ((q : ℕ) : F) = 0) (hn : 1 ≤ n) {r : F}
    (hr : r ^ n = -1) (g : ℕ) (hc : Nat.Coprime g n) (a : List ℕ) (ha : a.length = n) :
    evalRow n (RPoly.rowAut g q a) r = evalRow n a (r ^ g) := by
  rw [rowAut_eq_scat, evalRow_scatRow hq0 hq hn hr (foldPos_mul_inj g hc) a ha]
  exact sum_congr rfl fun i _ => by rw [← pow_mul, mul_comm g i]

theorem evalRow_rowMonomial {F : Type} [CommRing F] (hq0 : 0 < q) (hq : ((q : ℕ) : F) = 0) (hn : 1 ≤ n) {r : F}
    (hr : r ^ n = -1) (k : ℤ) (a : List ℕ) (ha : a.length = n) :
    evalRow n (RPoly.rowMonomial k q a) r = r ^ (k % (2 * n : ℤ)).toNat * evalRow n a r := by
  rw [rowMonomial_eq_scat, ha, evalRow_scatRow hq0 hq hn hr (foldPos_add_inj _) a ha, evalRow, mul_sum]
  exact sum_congr rfl fun i _ => by rw [pow_add]; ring

end rows

end Lattigo.RPolyRing
