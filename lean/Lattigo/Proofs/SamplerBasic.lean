/-
  C17 — basic lemmas about the `Res` monad (what a call that returns satisfies: `Res.All`), `prngRead`,
  byte strings and words.
-/
import Lattigo.Model.SamplerUniform
import Lattigo.Proofs.ModRed
import Lattigo.Proofs.ListLemmas
import Mathlib.Tactic.Ring
import Mathlib.Tactic.Linarith
namespace Lattigo.Sampler
open Lattigo Lattigo.Gen

theorem Res.bind_eq_ok {α β} {x : Res α} {f : α → Res β} {v : β} (h : (x >>= f) = .ok v) :
    ∃ a, x = .ok a ∧ f a = .ok v := by
  cases x with
  | ok a => exact ⟨a, rfl, h⟩
  | exhausted => cases h
  | panic => cases h

/-- `x.All P`: if the call returns (`ok v`) then `P v`.  `exhausted` and `panic` are terminal, so what
    is known about a sampler has this form; proofs go through the rules below and never unfold it. -/
def Res.All {α : Type} (P : α → Prop) (x : Res α) : Prop := ∀ v, x = .ok v → P v

namespace Res.All
variable {α β : Type} {P P' : α → Prop} {Q : β → Prop} {x : Res α} {f : α → Res β} {v : α}

theorem of_ok (h : x.All P) (e : x = .ok v) : P v := h v e

theorem ok (h : P v) : (Res.ok v).All P := fun _ e => by
  cases e
  exact h

theorem exhausted : (Res.exhausted : Res α).All P := fun _ e => nomatch e

theorem panic : (Res.panic : Res α).All P := fun _ e => nomatch e

theorem mono (hx : x.All P) (h : ∀ a, P a → P' a) : x.All P' := fun v e => h v (hx v e)

theorem bind (hx : x.All P) (hf : ∀ a, P a → (f a).All Q) : (x >>= f).All Q := by
  cases x with
  | ok a => exact hf a (hx a rfl)
  | exhausted => exact exhausted
  | panic => exact panic

theorem ite {c : Prop} [Decidable c] {x y : Res α} (hx : c → x.All P) (hy : ¬ c → y.All P) :
    (if c then x else y).All P := by
  by_cases h : c
  · rw [if_pos h]
    exact hx h
  · rw [if_neg h]
    exact hy h

/-- a step about whose value nothing is needed -/
theorem bind' (hf : ∀ a, (f a).All Q) : (x >>= f).All Q :=
  bind (P := fun _ => True) (fun _ _ => trivial) fun a _ => hf a

end Res.All

theorem prngRead_ok {s : Bytes} {n : Nat} :
    (prngRead s n).All fun r => s = r.1 ++ r.2 ∧ r.1.length = n := by
  unfold prngRead
  exact .ite (fun _ => .exhausted) fun hl =>
    .ok ⟨(List.take_append_drop n s).symm, List.length_take_of_le (Nat.le_of_not_lt hl)⟩

def BufInv (b : Buf) : Prop := b.data.length = bufLen ∧ b.ptr ≤ bufLen ∧ 8 ∣ b.ptr

theorem BufInv.new : BufInv Buf.new :=
  ⟨List.length_replicate .., Nat.zero_le _, Nat.dvd_zero 8⟩

theorem refill_ok {s : Bytes} :
    (refill s).All fun r => s = r.2.data ++ r.1 ∧ r.2.ptr = 0 ∧ BufInv r.2 :=
  prngRead_ok.bind fun _ h => .ok ⟨h.1, rfl, h.2, Nat.zero_le _, Nat.dvd_zero 8⟩

end Lattigo.Sampler
