/-
  C17 — the counting statement behind rejection sampling under a power-of-two mask: every
  residue has the same number of 64-bit preimages under `w ↦ w & mask`, so conditioning on
  acceptance (`w & mask < q`) maps uniform words to uniform residues.  No probability theory.
-/
import Lattigo.Proofs.SamplerBasic
import Lattigo.Proofs.BitLen
import Mathlib.Data.Finset.Card
import Mathlib.Data.Finset.Image
import Mathlib.Data.Finset.Range
import Mathlib.Tactic.Ring
import Mathlib.Tactic.Linarith
namespace Lattigo.Sampler
open Lattigo Finset

theorem card_filter_mod (d m r : Nat) (hr : r < d) :
    ((range (d * m)).filter (fun w => w % d = r)).card = m := by
  have hd : 0 < d := by omega
  have himg : (range (d * m)).filter (fun w => w % d = r) = (range m).image (fun t => r + d * t) := by
    ext w
    simp only [mem_filter, mem_range, mem_image]
    constructor
    · rintro ⟨hw, hm⟩
      refine ⟨w / d, ?_, ?_⟩
      · exact (Nat.div_lt_iff_lt_mul hd).mpr (by rw [Nat.mul_comm]; exact hw)
      · have := Nat.div_add_mod w d
        rw [hm] at this
        omega
    · rintro ⟨t, ht, rfl⟩
      constructor
      · calc r + d * t < d + d * t := by omega
          _ = d * (t + 1) := by ring
          _ ≤ d * m := Nat.mul_le_mul_left d ht
      · rw [Nat.add_mul_mod_self_left, Nat.mod_eq_of_lt hr]
  rw [himg, card_image_of_injective, card_range]
  intro a b hab
  simp only at hab
  have : d * a = d * b := by omega
  exact Nat.eq_of_mul_eq_mul_left hd this

theorem maskOf_eq (q : Nat) (hq : 0 < q) (hq' : q ≤ 2 ^ 63) :
    maskOf q = 2 ^ len64 (q - 1) - 1 ∧ q ≤ 2 ^ len64 (q - 1) ∧ len64 (q - 1) ≤ 63 := by
  have hk : len64 (q - 1) ≤ 63 := (len64_le_iff _ 63).mpr (Nat.lt_of_lt_of_le (Nat.sub_lt hq Nat.one_pos) hq')
  have hp : 2 ^ len64 (q - 1) < W := W_eq ▸ Nat.pow_lt_pow_right (by decide) (Nat.lt_succ_of_le hk)
  have hqW : q < W := W_eq ▸ Nat.lt_of_le_of_lt hq' (by decide)
  refine ⟨?_, Nat.le_of_pred_lt (lt_two_pow_len64 (q - 1)), hk⟩
  unfold maskOf u64shl
  rw [u64sub_eq _ _ hq hqW, Nat.one_mul, Nat.mod_eq_of_lt hp, u64sub_eq _ _ (Nat.two_pow_pos _) hp]

/-- `r ≤ mask` covers every residue `r < q` (`maskOf_eq`) -/
theorem accept_fibre_card_le_mask (q : Nat) (hq : 0 < q) (hq' : q ≤ 2 ^ 63) (r : Nat) (hr : r ≤ maskOf q) :
    ((range W).filter (fun w => u64and w (maskOf q) = r)).card = W / (maskOf q + 1) := by
  obtain ⟨hm, hqk, hk⟩ := maskOf_eq q hq hq'
  have hp1 : 0 < 2 ^ len64 (q - 1) := Nat.two_pow_pos _
  have hm1 : maskOf q + 1 = 2 ^ len64 (q - 1) := by omega
  have hpt : ∀ w, (u64and w (maskOf q) = r) ↔ (w % 2 ^ len64 (q - 1) = r) := by
    intro w
    unfold u64and
    rw [hm, Nat.and_two_pow_sub_one_eq_mod]
  have hWd : W = 2 ^ len64 (q - 1) * 2 ^ (64 - len64 (q - 1)) := by
    have e : len64 (q - 1) + (64 - len64 (q - 1)) = 64 := by omega
    rw [W_eq, ← Nat.pow_add, e]
  have hrange : range W = range (2 ^ len64 (q - 1) * 2 ^ (64 - len64 (q - 1))) := congrArg range hWd
  have hdiv : W / (maskOf q + 1) = 2 ^ (64 - len64 (q - 1)) := by
    rw [hm1]
    exact Nat.div_eq_of_eq_mul_right hp1 hWd
  rw [hdiv, hrange, filter_congr (fun w _ => hpt w)]
  exact card_filter_mod _ _ _ (by omega)

end Lattigo.Sampler
