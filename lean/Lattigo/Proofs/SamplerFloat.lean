/-
  C17 — the rounding `rne53` (round to 53 significant bits, ties to even) is monotone; hence the
  float64 operations of SamplerFloat.lean (`add`, `mul` by a fixed factor, `trunc`) are monotone.
-/
import Lattigo.Model.SamplerFloat
import Lattigo.Proofs.BitLen
import Mathlib.Tactic.Ring
import Mathlib.Tactic.Linarith
namespace Lattigo.Sampler.SF

theorem bitLen_spec (n : Nat) (hn : n ≠ 0) : 2 ^ (bitLen n - 1) ≤ n ∧ n < 2 ^ bitLen n ∧ 1 ≤ bitLen n :=
  ⟨two_pow_len64_pred_le hn, lt_two_pow_len64 n, (lt_len64_iff n 0).mpr (Nat.pos_of_ne_zero hn)⟩

/-- the quotient `q` of a value with remainder `r`, rounded to nearest with ties (`r = half`) to even -/
def roundQ (q r half : Nat) : Nat :=
  if r < half then q else if r = half then (if q % 2 = 0 then q else q + 1) else q + 1

theorem roundQ_bounds (q r half : Nat) : q ≤ roundQ q r half ∧ roundQ q r half ≤ q + 1 := by
  unfold roundQ
  split_ifs <;> omega

theorem roundQ_mono {q r r' : Nat} (half : Nat) (h : r ≤ r') : roundQ q r half ≤ roundQ q r' half := by
  rcases Nat.lt_or_ge r half with h1 | h1
  · -- `r` rounds down
    rw [roundQ, if_pos h1]
    exact (roundQ_bounds q r' half).1
  rcases h.eq_or_lt with rfl | h2
  · exact Nat.le_refl _
  · -- `r'` is above the half and rounds up
    have e : roundQ q r' half = q + 1 := by rw [roundQ, if_neg (by omega), if_neg (by omega)]
    rw [e]
    exact (roundQ_bounds q r half).2

/-- above 53 bits `rne53` rounds the quotient by `2^s`, `s` the number of excess bits -/
theorem rne53_eq {n : Nat} (hb : ¬ bitLen n ≤ 53) :
    rne53 n = roundQ (n / 2 ^ (bitLen n - 53)) (n % 2 ^ (bitLen n - 53)) (2 ^ (bitLen n - 53 - 1))
      * 2 ^ (bitLen n - 53) := by
  simp only [rne53, roundQ, if_neg hb, ite_mul]

/-- the two bounds of a rounded value: it stays inside the binade of its argument (closed above) -/
theorem rne53_bounds (n : Nat) (hn : n ≠ 0) :
    2 ^ (bitLen n - 1) ≤ rne53 n ∧ rne53 n ≤ 2 ^ bitLen n := by
  obtain ⟨hl, hu, h1⟩ := bitLen_spec n hn
  by_cases hb : bitLen n ≤ 53
  · rw [rne53, if_pos hb]
    exact ⟨hl, Nat.le_of_lt hu⟩
  · rw [rne53_eq hb]
    obtain ⟨hq, hq'⟩ := roundQ_bounds (n / 2 ^ (bitLen n - 53)) (n % 2 ^ (bitLen n - 53)) (2 ^ (bitLen n - 53 - 1))
    have hP : 0 < 2 ^ (bitLen n - 53) := Nat.two_pow_pos _
    -- q = n / 2^s lies in [2^52, 2^53)
    have hbl : 2 ^ bitLen n = 2 ^ 53 * 2 ^ (bitLen n - 53) := by rw [← Nat.pow_add]; congr 1; omega
    have hbl1 : 2 ^ (bitLen n - 1) = 2 ^ 52 * 2 ^ (bitLen n - 53) := by rw [← Nat.pow_add]; congr 1; omega
    rw [hbl] at hu ⊢
    rw [hbl1] at hl ⊢
    have hq_hi : n / 2 ^ (bitLen n - 53) < 2 ^ 53 := (Nat.div_lt_iff_lt_mul hP).mpr hu
    have hq_lo : 2 ^ 52 ≤ n / 2 ^ (bitLen n - 53) := (Nat.le_div_iff_mul_le hP).mpr hl
    exact ⟨Nat.mul_le_mul_right _ (hq_lo.trans hq), Nat.mul_le_mul_right _ (Nat.le_trans hq' hq_hi)⟩

/-- monotone inside one binade -/
theorem rne53_mono_same {n m : Nat} (h : n ≤ m) (hb : bitLen n = bitLen m) : rne53 n ≤ rne53 m := by
  by_cases hb53 : bitLen m ≤ 53
  · rw [rne53, rne53, hb, if_pos hb53, if_pos hb53]
    exact h
  · rw [rne53_eq hb53, rne53_eq (hb ▸ hb53), hb]
    apply Nat.mul_le_mul_right
    generalize bitLen m - 53 = s
    have hP : 0 < 2 ^ s := Nat.two_pow_pos s
    rcases (Nat.div_le_div_right (c := 2 ^ s) h).eq_or_lt with hq | hq
    · -- same quotient: the remainders are ordered
      rw [hq]
      apply roundQ_mono
      have hn := Nat.div_add_mod n (2 ^ s)
      have hm := Nat.div_add_mod m (2 ^ s)
      rw [hq] at hn
      omega
    · -- lhs ≤ q + 1 ≤ q' ≤ rhs
      exact (roundQ_bounds _ _ _).2.trans (hq.trans_le (roundQ_bounds _ _ _).1)

theorem rne53_mono {n m : Nat} (h : n ≤ m) : rne53 n ≤ rne53 m := by
  by_cases hn : n = 0
  · subst hn
    have : rne53 0 = 0 := by simp [rne53, bitLen]
    exact this ▸ Nat.zero_le _
  · have hm : m ≠ 0 := fun hm => hn (Nat.le_zero.mp (hm ▸ h))
    by_cases hb : bitLen n = bitLen m
    · exact rne53_mono_same h hb
    · -- a lower binade: `rne53 n ≤ 2^bn ≤ 2^(bm-1) ≤ rne53 m`
      have hlt : bitLen n ≤ bitLen m - 1 := Nat.le_pred_of_lt (Nat.lt_of_le_of_ne (len64_mono h) hb)
      exact ((rne53_bounds n hn).2.trans (Nat.pow_le_pow_right (by decide) hlt)).trans
        (rne53_bounds m hm).1

theorem add_mono {a b c : Nat} (h : a ≤ b) : add a c ≤ add b c := by
  unfold add; exact rne53_mono (by omega)

theorem mul_mono {a b c : Nat} (h : a ≤ b) : mul a c ≤ mul b c := by
  unfold mul
  exact Nat.div_le_div_right (rne53_mono (Nat.mul_le_mul_right c h))

theorem trunc_mono {a b : Nat} (h : a ≤ b) : trunc a ≤ trunc b := by
  unfold trunc; exact Nat.div_le_div_right h

end Lattigo.Sampler.SF
