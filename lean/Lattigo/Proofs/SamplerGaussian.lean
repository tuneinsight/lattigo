/-
  C17 — lemmas about the Gaussian sampler: buffer invariant, sign, truncation at the bound,
  reduced limbs that represent one signed integer.
-/
import Lattigo.Proofs.SamplerTernaryCalls
import Lattigo.Proofs.SamplerFloat
import Lattigo.Model.SamplerGaussian
namespace Lattigo.Sampler
open Lattigo Lattigo.Gen

theorem gRefill_ok {s : Bytes} {b : Buf} (hb : BufInv b) :
    (gRefillIfFull s b).All fun r => BufInv r.2 ∧ r.2.ptr < bufLen :=
  (refillIfFull_ok hb).mono fun _ h => ⟨h.1, h.2.1⟩

theorem bump_inv {b : Buf} (hb : BufInv b) (hlt : b.ptr < bufLen) : BufInv { b with ptr := b.ptr + 8 } :=
  (pending_step (s := []) hb hlt).2

theorem randU32_ok {s : Bytes} {b : Buf} (hb : BufInv b) :
    (randU32 s b).All fun r => BufInv r.2.2 ∧ r.1 < 4294967296 :=
  (gRefill_ok hb).bind fun _ h => .ok ⟨bump_inv h.1 h.2, Nat.mod_lt _ (by decide)⟩

theorem randU53_ok {s : Bytes} {b : Buf} (hb : BufInv b) : (randU53 s b).All fun r => BufInv r.2.2 :=
  (gRefill_ok hb).bind fun _ h => .ok (bump_inv h.1 h.2)

theorem baseLoop_ok {orc : Slow} {fuel : Nat} {s : Bytes} {b : Buf} (hb : BufInv b) :
    (baseLoop orc fuel s b).All fun r => BufInv r.2.2 := by
  induction fuel generalizing s b with
  | zero => exact .exhausted
  | succ n ih =>
    unfold baseLoop
    refine (randU53_ok hb).bind fun ⟨u1, s1, b1⟩ hb1 => (randU53_ok hb1).bind fun ⟨u2, s2, b2⟩ hb2 => ?_
    dsimp only
    split
    · exact .ok hb2
    · exact ih hb2

theorem zigHead_sign (ju : Nat) (h : ju < 4294967296) : (zigHead ju).2.1 ≤ 1 := by
  show u64shr ju 31 ≤ 1
  unfold u64shr
  have : ju / 2 ^ 31 < 2 := (Nat.div_lt_iff_lt_mul (by decide)).mpr (by omega)
  omega

theorem normF_ok {orc : Slow} {fuel : Nat} {sl : Bool} {s : Bytes} {b : Buf} (hb : BufInv b) :
    (normF orc fuel sl s b).All fun r => BufInv r.2.2.2.2 ∧ r.2.1 ≤ 1 := by
  induction fuel generalizing sl s b with
  | zero => exact .exhausted
  | succ n ih =>
    unfold normF
    refine (randU32_ok hb).bind fun ⟨ju, s2, b2⟩ ⟨hb2, hju⟩ => ?_
    have hsign := zigHead_sign ju hju
    dsimp only
    generalize zigHead ju = z at hsign
    -- fast path / base strip / wedge accepted / wedge rejected
    refine .ite (fun _ => .ok ⟨hb2, hsign⟩) fun _ => ?_
    refine .ite (fun _ => (baseLoop_ok hb2).bind fun _ h => .ok ⟨h, hsign⟩) fun _ => ?_
    exact (randU53_ok hb2).bind fun _ hb3 => .ite (fun _ => .ok ⟨hb3, hsign⟩) fun _ => ih hb3

theorem retry_ok {α : Type} {step : Bool → Bytes → Buf → Res (Option α × Bool × Bytes × Buf)}
    (P : α → Prop)
    (hstep : ∀ {sl s b}, BufInv b → (step sl s b).All fun r => BufInv r.2.2.2 ∧ ∀ a, r.1 = some a → P a)
    {fuel : Nat} {sl : Bool} {s : Bytes} {b : Buf} (hb : BufInv b) :
    (retry step fuel sl s b).All fun r => BufInv r.2.2.2 ∧ P r.1 := by
  induction fuel generalizing sl s b with
  | zero => exact .exhausted
  | succ n ih =>
    unfold retry
    refine (hstep hb).bind fun ⟨r, sl2, s2, b2⟩ h => ?_
    dsimp only
    split
    · exact .ok ⟨h.1, h.2 _ rfl⟩
    · exact ih h.1

/-- `round(bound)`: `uint64(bound + 0.5)` as the sampler rounds -/
def roundBound (bound : Nat) : Nat := SF.trunc (SF.add bound SF.half)

theorem gaussCoeff_ok {orc : Slow} {sigma bound fuel : Nat} {sl : Bool} {s : Bytes} {b : Buf}
    (hb : BufInv b) :
    (gaussCoeff orc sigma bound fuel sl s b).All fun r =>
      BufInv r.2.2.2 ∧ (r.1.2 ≤ 1 ∧ r.1.1 ≤ roundBound bound) := by
  refine retry_ok (fun cs : Nat × Nat => cs.2 ≤ 1 ∧ cs.1 ≤ roundBound bound) (fun hb => ?_) hb
  refine (normF_ok hb).bind fun r h => .ok ⟨h.1, fun a ha => ?_⟩
  rcases ite_eq_iff.mp ha with ⟨hv, ha⟩ | ⟨_, ha⟩
  · cases ha
    -- the accepted value is `≤ bound` before rounding, and rounding is monotone
    exact ⟨h.2, (Nat.mod_le _ _).trans (SF.trunc_mono (SF.add_mono hv))⟩
  · cases ha

theorem gaussCoeffBig_ok {orc : Slow} {sigma : Nat} {boundInt : Int} {fuel : Nat} {sl : Bool}
    {s : Bytes} {b : Buf} (hb : BufInv b) :
    (gaussCoeffBig orc sigma boundInt fuel sl s b).All fun r =>
      BufInv r.2.2.2 ∧ (r.1.natAbs : Int) ≤ boundInt := by
  refine retry_ok (fun x : Int => (x.natAbs : Int) ≤ boundInt) (fun hb => ?_) hb
  refine (normF_ok hb).bind fun r h => .bind' fun c => .ok ⟨h.1, fun a ha => ?_⟩
  rcases ite_eq_iff.mp ha with ⟨hle, ha⟩ | ⟨_, ha⟩
  · cases ha
    exact hle
  · cases ha

theorem gaussVec_ok {α : Type} {step : Bool → Bytes → Buf → Res (α × Bool × Bytes × Buf)}
    (P : α → Prop)
    (hstep : ∀ {sl s b}, BufInv b → (step sl s b).All fun r => BufInv r.2.2.2 ∧ P r.1)
    {n : Nat} {sl : Bool} {s : Bytes} {b : Buf} (hb : BufInv b) :
    (gaussVec step n sl s b).All fun r => BufInv r.2.2.2 ∧ r.1.length = n ∧ ∀ a ∈ r.1, P a := by
  induction n generalizing sl s b with
  | zero => exact .ok ⟨hb, rfl, fun _ h => absurd h List.not_mem_nil⟩
  | succ n ih =>
    simp only [gaussVec]
    exact (hstep hb).bind fun ⟨a, sl2, s2, b2⟩ h => (ih h.1).bind fun ⟨t, sl3, s3, b3⟩ ht =>
      .ok ⟨ht.1, congrArg (· + 1) ht.2.1, List.forall_mem_cons.mpr ⟨h.2, ht.2.2⟩⟩

theorem gaussSmall_ok {orc : Slow} {fuel sigma bound n : Nat} {s : Bytes} {b : Buf} (hb : BufInv b) :
    (gaussSmall orc fuel sigma bound n s b).All fun r =>
      BufInv r.2.2.2 ∧ r.1.length = n ∧ ∀ c ∈ r.1, c.2 ≤ 1 ∧ c.1 ≤ roundBound bound :=
  gaussVec_ok _ gaussCoeff_ok hb

theorem gaussBig_ok {orc : Slow} {fuel sigma bound n : Nat} {s : Bytes} {b : Buf} (hb : BufInv b) :
    (gaussBig orc fuel sigma bound n s b).All fun r =>
      BufInv r.2.2.2 ∧ r.1.length = n ∧ ∀ x ∈ r.1, (x.natAbs : Int) ≤ (SF.trunc bound : Int) :=
  gaussVec_ok _ gaussCoeffBig_ok hb

/-- the signed integer a `(coeffInt, sign)` pair stands for: `sign = 1` is `+`, `sign = 0` is `−` -/
def gaussVal (cs : Nat × Nat) : Int := if cs.2 = 1 then (cs.1 : Int) else -(cs.1 : Int)

theorem gaussLimb_pos (q c0 : Nat) (hq : 0 < q) (hqW : q < W) : gaussLimb q (c0, 1) = c0 % q := by
  have hc : c0 % q < q := Nat.mod_lt _ hq
  unfold gaussLimb
  simp only [u64xor, u64or, u64mul]
  have : (1 : Nat) ^^^ 1 = 0 := by decide
  rw [this, Nat.mul_zero, Nat.zero_mod, Nat.or_zero, Nat.mul_one]
  exact Nat.mod_eq_of_lt (by omega)

theorem gaussLimb_neg (q c0 : Nat) (hq : 0 < q) (hqW : q < W) :
    gaussLimb q (c0, 0) = if c0 % q = 0 then 0 else q - c0 % q := by
  have hc : c0 % q < q := Nat.mod_lt _ hq
  unfold gaussLimb
  simp only
  have hx : u64xor 0 1 = 1 := by decide
  rw [hx, u64mul_zero_right, u64or_zero_left]
  by_cases h0 : c0 % q = 0
  · rw [if_pos h0, h0]
    have : u64shr (u64or 0 (u64neg 0)) 63 = 0 := by decide
    rw [this, u64mul_zero_right, u64mul_zero_left]
  · rw [if_neg h0, nonzero_bit _ (by omega), if_neg (by omega)]
    have hlt : q - c0 % q < W := by omega
    rw [u64sub_eq _ _ (Nat.le_of_lt hc) hqW, u64mul_one_right, u64mul_one_right, Nat.mod_mod, Nat.mod_eq_of_lt hlt]

/-- so the limb is `< q`, and `−0 ↦ 0` -/
theorem gaussLimb_spec (q : Nat) (cs : Nat × Nat) (hq : 0 < q) (hqW : q < W) (hs : cs.2 ≤ 1) :
    gaussLimb q cs = resOf q (gaussVal cs) := by
  obtain ⟨c0, sg⟩ := cs
  obtain rfl | rfl : sg = 0 ∨ sg = 1 := by simp at hs; omega
  · rw [gaussLimb_neg q c0 hq hqW]
    exact (resOf_neg_natCast q c0 hq).symm
  · rw [gaussLimb_pos q c0 hq hqW]
    exact (resOf_natCast q c0).symm

theorem refillKeepPtr_inv {b : Buf} {d : Bytes} (hb : BufInv b) (hd : d.length = bufLen) :
    BufInv { data := d, ptr := b.ptr } := ⟨hd, hb.2.1, hb.2.2⟩

section
variable {orc : Slow} {fuel : Nat} {m : Mode} {sigma bound N : Nat} {qs : List Nat} {pol r : Poly}
  {s s' : Bytes} {b b' : Buf} {slow : Bool}

/-- a successful `read`: refill (the pointer is kept), sample a vector on the path chosen by
    `isBigPath`, write it; the mode only changes what is written.  (The paths are a disjunction and
    not an `if isBigPath …`: against a goal of that form Lean evaluates `isBigPath`, i.e. `2 ^ 1074`.) -/
theorem gaussReadPlain_ok_iff :
    gaussReadPlain orc fuel m sigma bound N qs pol s b = .ok (r, slow, s', b') ↔
      ∃ d s1, prngRead s bufLen = .ok (d, s1) ∧
        ((isBigPath sigma bound = true ∧ ∃ xs,
            gaussBig orc fuel sigma bound N s1 { data := d, ptr := b.ptr } = .ok (xs, slow, s', b') ∧
            mapRowsLvl (fun q row => List.zipWith (fun a x => m.f a (gaussLimbBig q x) q) row xs) qs pol
              = .ok r) ∨
         (isBigPath sigma bound = false ∧ ∃ cs,
            gaussSmall orc fuel sigma bound N s1 { data := d, ptr := b.ptr } = .ok (cs, slow, s', b') ∧
            mapRowsLvl (fun q row => List.zipWith (fun a c => m.f a (gaussLimb q c) q) row cs) qs pol
              = .ok r)) := by
  unfold gaussReadPlain
  constructor
  · intro h
    obtain ⟨⟨d, s1⟩, h1, h⟩ := Res.bind_eq_ok h
    refine ⟨d, s1, h1, ?_⟩
    dsimp only at h
    rcases ite_eq_iff.mp h with ⟨_, h⟩ | ⟨_, h⟩
    · -- too few rows: the call panics on either path
      rcases ite_eq_iff.mp h with ⟨_, h⟩ | ⟨_, h⟩
      · obtain ⟨_, _, h⟩ := Res.bind_eq_ok h
        cases h
      · obtain ⟨_, _, h⟩ := Res.bind_eq_ok h
        cases h
    rcases ite_eq_iff.mp h with ⟨hp, h⟩ | ⟨hp, h⟩
    · obtain ⟨⟨xs, sl2, s2, b2⟩, h2, h⟩ := Res.bind_eq_ok h
      dsimp only at h
      obtain ⟨r1, h3, h⟩ := Res.bind_eq_ok h
      cases h
      exact Or.inl ⟨hp, xs, h2, h3⟩
    · obtain ⟨⟨cs, sl2, s2, b2⟩, h2, h⟩ := Res.bind_eq_ok h
      dsimp only at h
      obtain ⟨r1, h3, h⟩ := Res.bind_eq_ok h
      cases h
      exact Or.inr ⟨Bool.eq_false_iff.mpr hp, cs, h2, h3⟩
  · rintro ⟨d, s1, h1, ⟨hp, xs, h2, h3⟩ | ⟨hp, cs, h2, h3⟩⟩
    · rw [h1, Res.bind_ok]
      dsimp only
      rw [if_neg (Nat.not_lt.mpr (mapRowsLvl_ok _ qs pol r h3).1), if_pos hp, h2]
      simp only [Res.bind_ok, h3]
    · rw [h1, Res.bind_ok]
      dsimp only
      rw [if_neg (Nat.not_lt.mpr (mapRowsLvl_ok _ qs pol r h3).1), if_neg (Bool.eq_false_iff.mp hp), h2]
      simp only [Res.bind_ok, h3]

theorem gaussVal_bound {cs : List (Nat × Nat)} {B : Nat} (hall : ∀ c ∈ cs, c.1 ≤ B) :
    ∀ v ∈ cs.map gaussVal, v.natAbs ≤ B := by
  intro v hv
  obtain ⟨c, hc, rfl⟩ := List.mem_map.mp hv
  unfold gaussVal
  split
  · exact (Int.natAbs_natCast _).trans_le (hall c hc)
  · rw [Int.natAbs_neg]
    exact (Int.natAbs_natCast _).trans_le (hall c hc)

/-- the signed integers sampled by one `read`, on either path: a function of the PRNG bytes and of
    the buffer pointer alone -/
def gaussInts (orc : Slow) (fuel sigma bound N : Nat) (s : Bytes) (b : Buf) :
    Res (List Int × Bool × Bytes × Buf) :=
  prngRead s bufLen >>= fun ds =>
    if isBigPath sigma bound = true then gaussBig orc fuel sigma bound N ds.2 { data := ds.1, ptr := b.ptr }
    else gaussSmall orc fuel sigma bound N ds.2 { data := ds.1, ptr := b.ptr } >>= fun r =>
      .ok (r.1.map gaussVal, r.2)

/-- a successful plain `Read`: the integer vector, its bound on the path taken and the rows it gives on
    this view; the moduli matter on the small-norm path only (`gaussLimb_spec`) -/
theorem gaussReadPlain_read_rows (hb : BufInv b)
    (hq : isBigPath sigma bound = false → ∀ q ∈ qs, 0 < q ∧ q < W) (hrows : ∀ row ∈ pol, row.length = N)
    (h : gaussReadPlain orc fuel .read sigma bound N qs pol s b = .ok (r, slow, s', b')) :
    ∃ x : List Int, gaussInts orc fuel sigma bound N s b = .ok (x, slow, s', b') ∧ x.length = N ∧
      (∀ v ∈ x, (v.natAbs : Int) ≤
        (if isBigPath sigma bound then (SF.trunc bound : Int) else (roundBound bound : Int))) ∧
      ∀ i, i < qs.length → r[i]? = some (x.map (resOf (qs.getD i 0))) := by
  unfold gaussInts
  obtain ⟨d, s1, h1, hpath⟩ := gaussReadPlain_ok_iff.mp h
  have hb1 := refillKeepPtr_inv hb (prngRead_ok.of_ok h1).2
  rw [h1, Res.bind_ok]
  obtain ⟨hp, xs, h2, h3⟩ | ⟨hp, cs, h2, h3⟩ := hpath
  · obtain ⟨_, hlen, hall⟩ := (gaussBig_ok hb1).of_ok h2
    rw [hp, if_pos rfl, if_pos rfl]
    exact ⟨xs, h2, hlen, hall, mapRowsLvl_read_rows gaussLimbBig xs N qs pol r hrows hlen h3⟩
  · obtain ⟨_, hlen, hall⟩ := (gaussSmall_ok hb1).of_ok h2
    rw [hp, if_neg Bool.false_ne_true, if_neg Bool.false_ne_true, h2]
    refine ⟨cs.map gaussVal, rfl, (List.length_map ..).trans hlen, fun v hv => ?_,
      mapRowsLvl_read_res gaussLimb gaussVal cs N qs pol r hrows hlen (fun q hq' c hc =>
        gaussLimb_spec q c (hq hp q hq').1 (hq hp q hq').2 (hall c hc).1) h3⟩
    exact_mod_cast gaussVal_bound (fun c hc => (hall c hc).2) v hv

end

end Lattigo.Sampler
