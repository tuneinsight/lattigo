/-
  C17 — known finding C17/ternary-ky-sign-bit-reused: in `kysampling` the sign bit of a
  coefficient is ALSO the first random bit of the next coefficient's Knuth–Yao walk.
-/
import Lattigo.Proofs.SamplerTernary
namespace Lattigo.Sampler
open Lattigo Lattigo.Gen

/-- the bit of the random buffer the walk looks at -/
def kyBit (k : KY) (i : Nat) : Nat := u64and (u64shr (k.rb.getD k.bp 0) i) 1

/-- a hit at bit `i < 7` takes the sign from bit `i+1` and hands back the pointer `i+1`:
    the state is unchanged and the next walk starts ON the sign bit -/
theorem kyHit_reuses (N row i : Nat) (k : KY) (hi : i < 7) :
    kyHit N row i k = .ok (row, kyBit k (i + 1), i + 1, k) := by
  unfold kyHit kyBit
  rw [if_neg (by omega)]

/-- a walk that starts (fresh: `d = 0`, `col = 0`) on a bit equal to 1 ends at once, in the row
    decided by the first column of the matrix -/
theorem kyWalk_first_bit_one (M : List Nat × List Nat) (N fuel p : Nat) (k : KY) (hp : p < 8)
    (hbit : kyBit k p = 1) (hM : M.2.getD 0 0 = 1) :
    kyWalk M N (fuel + 1) p 0 0 k = kyHit N 1 p k := by
  unfold kyWalk
  rw [if_neg (by omega)]
  unfold kyBit at hbit
  simp only [hbit, hM]
  rw [if_neg (by unfold ternPrec; omega)]
  simp

/-- after a sign bit 1 that was not the last bit of its byte, the next walk returns row 1 on that very bit, whatever the
    other random bits; `M.2[0] = 1` is `P ≥ 1/2` (e.g. `rlwe.DefaultXs = Ternary{P: 2/3}`) -/
theorem ky_sign_bit_reused (M : List Nat × List Nat) (N fuel row i : Nat) (k : KY) (hi : i < 7)
    (hM : M.2.getD 0 0 = 1) (hsign : kyBit k (i + 1) = 1) :
    ∃ sg p k', kyHit N row i k = .ok (row, sg, p, k') ∧ sg = 1 ∧
      kyWalk M N (fuel + 1) p 0 0 k' = kyHit N 1 p k' :=
  ⟨kyBit k (i + 1), i + 1, k, kyHit_reuses N row i k hi, hsign,
    kyWalk_first_bit_one M N fuel (i + 1) k (by omega) hsign hM⟩

end Lattigo.Sampler
