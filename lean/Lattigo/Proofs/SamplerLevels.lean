/-
  C17 — which bits a call uses: the signs of the fixed-weight sampler are the bits of its sign bytes,
  in order; the value table of one coefficient of the `p = 0.5` branch.
-/
import Lattigo.Proofs.SamplerTernary
namespace Lattigo.Sampler
open Lattigo Lattigo.Gen

theorem bitAt_drop_one (bs : Bytes) (t : Nat) : bitAt (bs.drop 1) t = bitAt bs (t + 8) := by
  unfold bitAt
  rw [Nat.add_div_right _ (by decide), Nat.add_mod_right, List.getD_eq_getElem?_getD,
    List.getD_eq_getElem?_getD, List.getElem?_drop, Nat.add_comm 1]

/-- the loop at iteration `i` holds the sign bytes from byte `i / 8` on: the sign of the `t`-th
    position selected from now on is bit `i % 8 + t` of what is left -/
theorem sparseLoop_signs {fuel N n i : Nat} {index rbs : List Nat} {s : Bytes} :
    (sparseLoop fuel N n i index rbs s).All fun r =>
      ∀ t (ht : t < r.1.length), (r.1[t]).2 = bitAt rbs (i % 8 + t) := by
  induction n generalizing i index rbs s with
  | zero => exact .ok fun t ht => absurd ht (Nat.not_lt_zero t)
  | succ n ih =>
    simp only [sparseLoop]
    refine .bind' fun ⟨j, s1⟩ => ih.bind fun ⟨tl, rest1, s2⟩ h => .ok fun t ht => ?_
    have hi8 : i % 8 < 8 := Nat.mod_lt _ (by decide)
    cases t with
    | zero =>
      simp only [List.getElem_cons_zero, Nat.add_zero]
      unfold bitAt
      rw [Nat.div_eq_of_lt hi8, Nat.mod_mod]
    | succ t =>
      rw [List.getElem_cons_succ, h t (Nat.lt_of_succ_lt_succ ht)]
      by_cases h7 : i % 8 = 7
      · rw [if_pos h7, bitAt_drop_one, h7, show (i + 1) % 8 = 0 by omega]
        exact congrArg (bitAt rbs) (by omega)
      · rw [if_neg h7, show (i + 1) % 8 = i % 8 + 1 by omega]
        exact congrArg (bitAt rbs) (by omega)

theorem ternIndex_table :
    ternVal (ternIndex 0 0) = 0 ∧ ternVal (ternIndex 0 1) = 0 ∧
    ternVal (ternIndex 1 0) = 1 ∧ ternVal (ternIndex 1 1) = -1 := by decide

end Lattigo.Sampler
