/-
  C17 — the keyed PRNG: reads are consecutive pieces of one stream, `Reset` and
  `NewKeyedPRNG(p.Key())` both replay it from the start.
-/
import Lattigo.Model.SamplerPRNG
namespace Lattigo.Sampler.PRNG

theorem read_pos (xof : XOF) (p : PRNG) (n : Nat) : (p.read xof n).2.pos = p.pos + n := rfl
theorem read_key (xof : XOF) (p : PRNG) (n : Nat) : (p.read xof n).2.key = p.key := rfl
theorem read_length (xof : XOF) (p : PRNG) (n : Nat) : (p.read xof n).1.length = n := by
  simp [read]

theorem read_eq_stream (xof : XOF) (p : PRNG) (n : Nat) :
    (p.read xof n).1 = ((stream xof p (p.pos + n)).drop p.pos) := by
  unfold read stream
  apply List.ext_getElem
  · simp
  · intro i h1 h2
    simp only [List.getElem_map, List.getElem_range, List.getElem_drop]

theorem read_read (xof : XOF) (p : PRNG) (a b : Nat) :
    (p.read xof a).1 ++ ((p.read xof a).2.read xof b).1 = (p.read xof (a + b)).1 ∧
    ((p.read xof a).2.read xof b).2 = (p.read xof (a + b)).2 := by
  constructor
  · unfold read
    simp only
    rw [List.range_add, List.map_append, List.map_map]
    congr 1
    apply List.map_congr_left
    intro i _
    simp [Nat.add_assoc]
  · simp [read, Nat.add_assoc]

theorem reset_replays (xof : XOF) (p : PRNG) (n : Nat) :
    (p.reset.read xof n).1 = stream xof p n := by
  simp [read, reset, stream]

theorem rekey_replays (xof : XOF) (p : PRNG) (n : Nat) :
    ((new p.getKey).read xof n).1 = stream xof p n ∧ stream xof (new p.getKey) n = stream xof p n := by
  simp [read, new, getKey, stream]

theorem key_new (k : Bytes) : (new k).getKey = k := rfl
theorem key_read (xof : XOF) (p : PRNG) (n : Nat) : (p.read xof n).2.getKey = p.getKey := rfl
theorem key_reset (p : PRNG) : p.reset.getKey = p.getKey := rfl

end Lattigo.Sampler.PRNG
