/-
  C17 — sessions: the buffer-pointer invariant holds for every sampler after any sequence of
  calls on any level views (`interleaving`).
-/
import Lattigo.Proofs.SamplerGaussian
import Lattigo.Model.SamplerSession
namespace Lattigo.Sampler
open Lattigo Lattigo.Gen

theorem gaussReadPlain_inv {orc : Slow} {fuel : Nat} {m : Mode} {sigma bound N : Nat} {qs : List Nat}
    {pol : Poly} {s : Bytes} {b : Buf} (hb : BufInv b) :
    (gaussReadPlain orc fuel m sigma bound N qs pol s b).All fun r => BufInv r.2.2.2 := by
  unfold gaussReadPlain
  refine prngRead_ok.bind fun ⟨d, s1⟩ hd => ?_
  have hb1 := refillKeepPtr_inv hb hd.2
  -- too few rows: a panic on either path
  refine .ite (fun _ => .ite (fun _ => .bind' fun _ => .panic) fun _ => .bind' fun _ => .panic) fun _ => ?_
  exact .ite (fun _ => (gaussBig_ok hb1).bind fun _ h => .bind' fun _ => .ok h.1)
    fun _ => (gaussSmall_ok hb1).bind fun _ h => .bind' fun _ => .ok h.1

theorem gaussRead_inv {orc : Slow} {fuel : Nat} {m : Mode} {mont : Bool} {sigma bound N : Nat}
    {qs : List Nat} {pol : Poly} {s : Bytes} {b : Buf} (hb : BufInv b) :
    (gaussRead orc fuel m mont sigma bound N qs pol s b).All fun r => BufInv r.2.2.2 := by
  unfold gaussRead
  -- in every branch the buffer is the one `gaussReadPlain` returns
  refine .ite (fun _ => ?_) fun _ => gaussReadPlain_inv hb
  cases m with
  | read => exact (gaussReadPlain_inv hb).bind fun _ h => .bind' fun _ => .ok h
  | readAndAdd => exact (gaussReadPlain_inv hb).bind fun _ h => .bind' fun _ => .bind' fun _ => .ok h

theorem callKind_inv {cfg : Cfg} {k : Kind} {m : Mode} {qs : List Nat} {pol : Poly} {s : Bytes}
    {b : Buf} (hb : BufInv b) : (callKind cfg k m qs pol s b).All fun r => BufInv r.2.2.2 := by
  unfold callKind
  cases k with
  | uniform => exact (uniformRead_spec hb).bind fun _ h => .ok h.1
  -- the ternary samplers have no buffer
  | ternP pBits mont => exact .bind' fun _ => .ok hb
  | ternH hw mont => exact .bind' fun _ => .ok hb
  | gauss sg bd mont => exact gaussRead_inv hb

def St.Inv (st : St) : Prop := ∀ b ∈ st.bufs, BufInv b

theorem St.init_inv (cfg : Cfg) (stream : Bytes) (regs : List Poly) : (St.init cfg stream regs).Inv := by
  intro b hb
  simp only [St.init, List.mem_map] at hb
  obtain ⟨_, _, rfl⟩ := hb
  exact BufInv.new

theorem step_inv {cfg : Cfg} {st : St} {c : Call} (hinv : st.Inv) :
    (step cfg st c).All fun r => r.2.Inv := by
  unfold step
  split
  · rename_i k b hk hbuf
    split
    · exact .panic
    · refine (callKind_inv (hinv b (List.mem_of_getElem? hbuf))).bind fun _ hb1 => .ok fun b' hb' => ?_
      rcases List.mem_or_eq_of_mem_set hb' with hmem | rfl
      · exact hinv b' hmem
      · exact hb1
  · exact .panic

theorem run_inv (cfg : Cfg) : ∀ (calls : List Call) (st : St), st.Inv → (run cfg st calls).2.2.Inv := by
  intro calls
  induction calls with
  | nil => intro st h; exact h
  | cons c cs ih =>
    intro st h
    unfold run
    cases hs : step cfg st c with
    | ok v => exact ih v.2 ((step_inv h).of_ok hs)
    | exhausted => exact h
    | panic => exact h

end Lattigo.Sampler
