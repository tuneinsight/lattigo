/-
  C17 — the fixed-Hamming-weight ternary sampler (`sampleSparse`): the index list stays a
  permutation of the positions not yet selected, so the selected positions are distinct, exactly
  `H` coefficients are non-zero, all moduli see one integer vector, and `ReadAndAdd = add ∘ Read`.
-/
import Lattigo.Proofs.SamplerTernary
import Mathlib.Data.List.Perm.Basic
import Mathlib.Data.List.Nodup
import Mathlib.Data.List.Range
namespace Lattigo.Sampler
open Lattigo Lattigo.Gen

/-! ### `index[j] = index[len-1]; index = index[:len-1]` removes exactly `index[j]` -/

theorem swapRemove_perm (l : List Nat) (j : Nat) (hj : j < l.length) :
    (l.getD j 0 :: swapRemove l j).Perm l := by
  have hlast : l.length - 1 < l.length := by omega
  unfold swapRemove
  rw [List.getD_eq_getElem _ _ hj, List.getD_eq_getElem _ _ hlast]
  -- after `index[j] = x` with `x = index[len-1]` the list still ends in `x`: dropping the last element
  -- takes one `x` out of a permutation of `x :: index.eraseIdx j`
  have hne : l.set j l[l.length - 1] ≠ [] := List.ne_nil_of_length_pos (by rw [List.length_set]; omega)
  have hx : (l.set j l[l.length - 1]).getLast hne = l[l.length - 1] := by
    rw [List.getLast_eq_getElem, List.getElem_set]
    split
    · rfl
    · simp only [List.length_set]
  have hsplit := List.dropLast_append_getLast hne
  have h1 := List.perm_append_singleton l[l.length - 1] (l.set j l[l.length - 1]).dropLast
  rw [hx] at hsplit
  rw [hsplit] at h1
  exact (List.Perm.cons _ (h1.symm.trans (List.set_perm_cons_eraseIdx hj _)).cons_inv).trans
    (List.getElem_cons_eraseIdx_perm hj)

theorem swapRemove_length (l : List Nat) (j : Nat) : (swapRemove l j).length = l.length - 1 := by
  unfold swapRemove
  rw [List.length_dropLast, List.length_set]

theorem drawBelow_lt {mask bound fuel : Nat} {s : Bytes} :
    (drawBelow mask bound fuel s).All fun r => r.1 < bound := by
  induction fuel generalizing s with
  | zero => exact .exhausted
  | succ n ih =>
    unfold drawBelow
    exact .bind' fun _ => .ite (fun _ => ih) fun hb => .ok (Nat.lt_of_not_le hb)

theorem sparseLoop_inv (fuel N : Nat) : ∀ (n i : Nat) (index rbs : List Nat) (s : Bytes)
    (sel : List (Nat × Nat)) (rest : List Nat) (s' : Bytes),
    index.length = N - i →
    sparseLoop fuel N n i index rbs s = .ok (sel, rest, s') →
    sel.length = n ∧ (sel.map Prod.fst ++ rest).Perm index ∧ ∀ pc ∈ sel, pc.2 ≤ 1 := by
  intro n
  induction n with
  | zero =>
    intro i index rbs s sel rest s' _ h
    cases h
    exact ⟨rfl, List.Perm.refl _, fun _ h => absurd h List.not_mem_nil⟩
  | succ n ih =>
    intro i index rbs s sel rest s' hlen h
    simp only [sparseLoop] at h
    obtain ⟨⟨j, s1⟩, h1, h⟩ := Res.bind_eq_ok h
    dsimp only at h
    obtain ⟨⟨t, rest1, s2⟩, h2, h⟩ := Res.bind_eq_ok h
    dsimp only at h
    cases h
    have hj : j < index.length := hlen ▸ drawBelow_lt.of_ok h1
    obtain ⟨hl, hperm, hbits⟩ := ih (i + 1) (swapRemove index j) _ s1 t _ _
      (by rw [swapRemove_length, hlen]; omega) h2
    exact ⟨congrArg (· + 1) hl, (List.Perm.cons _ hperm).trans (swapRemove_perm index j hj),
      List.forall_mem_cons.mpr ⟨and_one_le _, hbits⟩⟩

theorem sparseLoop_range {fuel N n : Nat} {rbs : List Nat} {s s' : Bytes} {sel : List (Nat × Nat)}
    {rest : List Nat} (h : sparseLoop fuel N n 0 (List.range N) rbs s = .ok (sel, rest, s')) :
    sel.length = n ∧ (sel.map Prod.fst ++ rest).Perm (List.range N) ∧ ∀ pc ∈ sel, pc.2 ≤ 1 :=
  sparseLoop_inv fuel N n 0 _ rbs s sel rest s' List.length_range h

/-! ### writing a row: every position is written exactly once -/

/-- the write operations of `sampleSparse` on one row, in order: the selected positions with their
    sign bit, then the remaining positions (tag `none`) -/
def sparseOps (sel : List (Nat × Nat)) (rest : List Nat) : List (Nat × Option Nat) :=
  sel.map (fun pc => (pc.1, some pc.2)) ++ rest.map (fun i => (i, none))

/-- what an operation writes, given the present coefficient `a` -/
def sparsePhi (m : Mode) (lut : List Nat) (q : Nat) : Option Nat → Nat → Nat
  | some c, a => m.f a (lut.getD (c + 1) 0) q
  | none, a => m.f a 0 q

theorem sparseRow_eq_ops (m : Mode) (lut : List Nat) (q : Nat) (sel : List (Nat × Nat))
    (rest row : List Nat) :
    sparseRow m lut q sel rest row =
      (sparseOps sel rest).foldl (fun r o => r.set o.1 (sparsePhi m lut q o.2 (r.getD o.1 0))) row := by
  unfold sparseRow sparseOps
  rw [List.foldl_append, List.foldl_map, List.foldl_map]
  rfl

theorem sparseOps_fst (sel : List (Nat × Nat)) (rest : List Nat) :
    (sparseOps sel rest).map Prod.fst = sel.map Prod.fst ++ rest := by
  unfold sparseOps
  simp [List.map_append, List.map_map, Function.comp_def]

theorem foldl_set_length {β : Type} (φ : β → Nat → Nat) :
    ∀ (ops : List (Nat × β)) (init : List Nat),
      (ops.foldl (fun r o => r.set o.1 (φ o.2 (r.getD o.1 0))) init).length = init.length
  | [], _ => rfl
  | _ :: ops, _ => (foldl_set_length φ ops _).trans List.length_set

/-- pointwise description of a sequence of writes at distinct positions -/
theorem foldl_set_nodup {β : Type} (φ : β → Nat → Nat) :
    ∀ (ops : List (Nat × β)) (init : List Nat) (p : Nat),
      (ops.map Prod.fst).Nodup → p < init.length →
      (ops.foldl (fun r o => r.set o.1 (φ o.2 (r.getD o.1 0))) init).getD p 0 =
        match ops.find? (fun o => o.1 == p) with
        | some o => φ o.2 (init.getD p 0)
        | none => init.getD p 0 := by
  intro ops
  induction ops with
  | nil => intro init p _ _; rfl
  | cons o ops ih =>
    intro init p hnd hp
    obtain ⟨hnotin, hnd'⟩ := List.nodup_cons.mp hnd
    rw [List.foldl_cons, ih _ p hnd' (by rwa [List.length_set])]
    by_cases hop : o.1 = p
    · -- no later operation writes `p` again
      have hfind : ops.find? (fun o => o.1 == p) = none :=
        List.find?_eq_none.mpr fun x hx hxp =>
          hnotin ((hop.trans (beq_iff_eq.mp hxp).symm) ▸ List.mem_map_of_mem hx)
      rw [hfind, List.find?_cons, beq_iff_eq.mpr hop, ← hop, List.getD_eq_getElem?_getD,
        List.getElem?_set_self (hop ▸ hp)]
      rfl
    · rw [List.find?_cons, beq_eq_false_iff_ne.mpr hop, List.getD_eq_getElem?_getD,
        List.getElem?_set_ne hop, ← List.getD_eq_getElem?_getD]

theorem find_self {β : Type} : ∀ (ops : List (Nat × β)) (o : Nat × β),
    (ops.map Prod.fst).Nodup → o ∈ ops → ops.find? (fun x => x.1 == o.1) = some o := by
  intro ops
  induction ops with
  | nil => intro o _ h; exact absurd h List.not_mem_nil
  | cons a ops ih =>
    intro o hnd hmem
    obtain ⟨hnotin, hnd'⟩ := List.nodup_cons.mp hnd
    rcases List.mem_cons.mp hmem with rfl | hmem
    · rw [List.find?_cons, beq_self_eq_true]
    · have ha : a.1 ≠ o.1 := fun ha => hnotin (ha ▸ List.mem_map_of_mem hmem)
      rw [List.find?_cons, beq_eq_false_iff_ne.mpr ha]
      exact ih o hnd' hmem

/-- the integer sampled at position `p`: `+1` / `−1` for a selected position with sign bit 0 / 1,
    `0` for the others -/
def sparseVal (sel : List (Nat × Nat)) (rest : List Nat) (p : Nat) : Int :=
  match (sparseOps sel rest).find? (fun o => o.1 == p) with
  | some (_, some c) => if c = 0 then 1 else -1
  | _ => 0

def sparseVec (N : Nat) (sel : List (Nat × Nat)) (rest : List Nat) : List Int :=
  (List.range N).map (sparseVal sel rest)

section
variable {N : Nat} {sel : List (Nat × Nat)} {rest : List Nat}

theorem sparseOps_nodup (hperm : (sel.map Prod.fst ++ rest).Perm (List.range N)) :
    ((sparseOps sel rest).map Prod.fst).Nodup := by
  rw [sparseOps_fst]
  exact hperm.nodup_iff.mpr List.nodup_range

theorem sparseVal_sel (hperm : (sel.map Prod.fst ++ rest).Perm (List.range N)) {pc : Nat × Nat}
    (hpc : pc ∈ sel) : sparseVal sel rest pc.1 = if pc.2 = 0 then 1 else -1 := by
  have hmem : (pc.1, some pc.2) ∈ sparseOps sel rest :=
    List.mem_append_left _ (List.mem_map.mpr ⟨pc, hpc, rfl⟩)
  unfold sparseVal
  rw [find_self _ _ (sparseOps_nodup hperm) hmem]

theorem sparseVal_rest (hperm : (sel.map Prod.fst ++ rest).Perm (List.range N)) {p : Nat}
    (hp : p ∈ rest) : sparseVal sel rest p = 0 := by
  have hmem : (p, (none : Option Nat)) ∈ sparseOps sel rest :=
    List.mem_append_right _ (List.mem_map.mpr ⟨p, hp, rfl⟩)
  unfold sparseVal
  rw [find_self _ _ (sparseOps_nodup hperm) hmem]

theorem sparseRow_getD (q : Nat) (row : List Nat)
    (hperm : (sel.map Prod.fst ++ rest).Perm (List.range N)) (hrow : row.length = N)
    (p : Nat) (hp : p < N) :
    ∃ o, o ∈ sparseOps sel rest ∧ (sparseOps sel rest).find? (fun x => x.1 == p) = some o ∧
      ∀ (m : Mode) (lut : List Nat),
        (sparseRow m lut q sel rest row).getD p 0 = sparsePhi m lut q o.2 (row.getD p 0) := by
  have hnd := sparseOps_nodup hperm
  have hmem : p ∈ (sparseOps sel rest).map Prod.fst := by
    rw [sparseOps_fst]
    exact hperm.mem_iff.mpr (List.mem_range.mpr hp)
  obtain ⟨o, ho, rfl⟩ := List.mem_map.mp hmem
  have hfind := find_self _ o hnd ho
  refine ⟨o, ho, hfind, fun m lut => ?_⟩
  rw [sparseRow_eq_ops, foldl_set_nodup _ _ _ o.1 hnd (hrow ▸ hp), hfind]

theorem sparseRow_length (m : Mode) (lut : List Nat) (q : Nat) (row : List Nat) :
    (sparseRow m lut q sel rest row).length = row.length := by
  rw [sparseRow_eq_ops, foldl_set_length]

/-- two ways of writing (mode, table) whose written values are related pointwise by `F` give rows
    related by `F` -/
theorem sparseRow_zip {m m' : Mode} {lut lut' : List Nat} {q : Nat} (F : Nat → Nat → Nat)
    (hF : ∀ o a, sparsePhi m' lut' q o a = F a (sparsePhi m lut q o a)) (row : List Nat)
    (hperm : (sel.map Prod.fst ++ rest).Perm (List.range N)) (hrow : row.length = N) :
    sparseRow m' lut' q sel rest row = List.zipWith F row (sparseRow m lut q sel rest row) := by
  apply List.ext_getElem
  · rw [List.length_zipWith, sparseRow_length, sparseRow_length, Nat.min_self]
  · intro p h1 h2
    have hpr : p < row.length := by rwa [sparseRow_length] at h1
    have hpr' : p < (sparseRow m lut q sel rest row).length := by rwa [sparseRow_length]
    obtain ⟨o, _, _, hval⟩ := sparseRow_getD q row hperm hrow p (hrow ▸ hpr)
    rw [List.getElem_zipWith, ← List.getD_eq_getElem _ _ h1, hval, ← List.getD_eq_getElem _ _ hpr', hval,
      List.getD_eq_getElem _ _ hpr]
    exact hF o.2 _

theorem sparseRow_mont (q : Nat) (row : List Nat)
    (hperm : (sel.map Prod.fst ++ rest).Perm (List.range N)) (hrow : row.length = N) :
    sparseRow .read (ternLut true q) q sel rest row =
      (sparseRow .read (ternLut false q) q sel rest row).map (fun a => MForm a q (brc q)) := by
  rw [← zipWith_right_map _ row _ (sparseRow_length _ _ _ _).symm]
  refine sparseRow_zip _ (fun o _ => ?_) row hperm hrow
  cases o with
  | some c => exact ternLut_mont q (c + 1)
  | none => exact (MForm_zero q (brc q)).symm

theorem sparseRow_read_plain (q : Nat) (hq : 2 ≤ q) (hqW : q < W) (row : List Nat)
    (hperm : (sel.map Prod.fst ++ rest).Perm (List.range N)) (hrow : row.length = N)
    (hbits : ∀ pc ∈ sel, pc.2 ≤ 1) :
    sparseRow .read (ternLut false q) q sel rest row = (sparseVec N sel rest).map (resOf q) := by
  apply List.ext_getElem
  · rw [sparseRow_length, hrow, sparseVec, List.length_map, List.length_map, List.length_range]
  · intro p h1 h2
    have hp : p < N := by rwa [sparseRow_length, hrow] at h1
    obtain ⟨o, ho, hfind, hval⟩ := sparseRow_getD q row hperm hrow p hp
    rw [← List.getD_eq_getElem _ _ h1, hval]
    simp only [sparseVec, List.getElem_map, List.getElem_range, sparseVal, hfind]
    rcases List.mem_append.mp ho with ho | ho
    · obtain ⟨pc, hpc, rfl⟩ := List.mem_map.mp ho
      have h01 : pc.2 = 0 ∨ pc.2 = 1 := by have := hbits pc hpc; omega
      show (ternLut false q).getD (pc.2 + 1) 0 = _
      rw [ternLut_plain q hq hqW (pc.2 + 1)]
      rcases h01 with h | h <;> rw [h] <;> rfl
    · obtain ⟨i, _, rfl⟩ := List.mem_map.mp ho
      exact (resOf_zero q).symm

theorem sparseVec_weight (hperm : (sel.map Prod.fst ++ rest).Perm (List.range N)) :
    (sparseVec N sel rest).countP (fun v => v ≠ 0) = sel.length := by
  unfold sparseVec
  rw [List.countP_map, ← hperm.countP_eq, List.countP_append, List.countP_eq_length.mpr,
    List.countP_eq_zero.mpr, List.length_map, Nat.add_zero]
  · intro p hp
    simp [sparseVal_rest hperm hp]
  · intro p hp
    obtain ⟨pc, hpc, rfl⟩ := List.mem_map.mp hp
    simp only [Function.comp, sparseVal_sel hperm hpc]
    split <;> simp

theorem sparseVec_support (p : Int) (hp : p ∈ sparseVec N sel rest) : p = -1 ∨ p = 0 ∨ p = 1 := by
  unfold sparseVec at hp
  obtain ⟨i, _, rfl⟩ := List.mem_map.mp hp
  unfold sparseVal
  split
  · split <;> simp
  · simp

end

end Lattigo.Sampler
