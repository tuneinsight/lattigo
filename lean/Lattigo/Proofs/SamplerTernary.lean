/-
  C17 — the row loop `mapRowsLvl` shared by the ternary and Gaussian samplers (shape of the result,
  rows written by `Read`, `ReadAndAdd = add ∘ Read`, Montgomery output), the index vector of the
  density sampler (which bits the `p = 0.5` branch uses, what the Knuth–Yao walk returns, its
  length), the residues `resOf` and the lookup table of the ternary values.
-/
import Lattigo.Proofs.SamplerBasic
import Lattigo.Proofs.SamplerUniform
import Lattigo.Model.SamplerTernary
namespace Lattigo.Sampler
open Lattigo Lattigo.Gen

theorem mapRowsLvl_ok (g : Nat → List Nat → List Nat) :
    ∀ (qs : List Nat) (pol r : Poly), mapRowsLvl g qs pol = .ok r →
      qs.length ≤ pol.length ∧ ∀ i, i < qs.length → r[i]? = (pol[i]?).map (g (qs.getD i 0)) := by
  intro qs
  induction qs with
  | nil =>
    intro pol r _
    exact ⟨Nat.zero_le _, fun i hi => absurd hi (Nat.not_lt_zero i)⟩
  | cons q qs ih =>
    intro pol r h
    cases pol with
    | nil => cases h
    | cons row rest =>
      simp only [mapRowsLvl] at h
      obtain ⟨t, h1, h⟩ := Res.bind_eq_ok h
      cases h
      obtain ⟨hle, hlow⟩ := ih rest t h1
      refine ⟨Nat.succ_le_succ hle, fun i hi => ?_⟩
      cases i with
      | zero => rfl
      | succ i => exact hlow i (Nat.lt_of_succ_lt_succ hi)

theorem mapRowsLvl_congr (g g' : Nat → List Nat → List Nat) :
    ∀ (qs : List Nat) (pol : Poly), (∀ q row, g q row = g' q row) →
      mapRowsLvl g qs pol = mapRowsLvl g' qs pol := by
  intro qs pol h
  have : g = g' := by funext q row; exact h q row
  rw [this]

theorem mapRowsLvl_congr_rows (g g' : Nat → List Nat → List Nat) :
    ∀ (qs : List Nat) (pol : Poly), (∀ q row, row ∈ pol → g q row = g' q row) →
      mapRowsLvl g qs pol = mapRowsLvl g' qs pol := by
  intro qs
  induction qs with
  | nil => intro pol _; rfl
  | cons q qs ih =>
    intro pol h
    cases pol with
    | nil => rfl
    | cons row rest =>
      simp only [mapRowsLvl]
      rw [ih rest (fun q' row' hr => h q' row' (List.mem_cons_of_mem _ hr)), h q row List.mem_cons_self]

theorem mapRowsLvl_total (g : Nat → List Nat → List Nat) :
    ∀ (qs : List Nat) (pol : Poly), qs.length ≤ pol.length → ∃ r', mapRowsLvl g qs pol = .ok r' := by
  intro qs
  induction qs with
  | nil => intro pol _; exact ⟨pol, rfl⟩
  | cons q qs ih =>
    intro pol hl
    cases pol with
    | nil => exact absurd hl (Nat.not_succ_le_zero _)
    | cons row rest =>
      obtain ⟨t, ht⟩ := ih rest (Nat.le_of_succ_le_succ hl)
      exact ⟨g q row :: t, by simp only [mapRowsLvl, ht]; rfl⟩

theorem mapRowsLvl_comp (g k : Nat → List Nat → List Nat) :
    ∀ (qs : List Nat) (pol r : Poly), mapRowsLvl g qs pol = .ok r →
      mapRowsLvl k qs r = mapRowsLvl (fun q row => k q (g q row)) qs pol := by
  intro qs
  induction qs with
  | nil =>
    intro pol r h
    cases h
    rfl
  | cons q qs ih =>
    intro pol r h
    cases pol with
    | nil => cases h
    | cons row rest =>
      simp only [mapRowsLvl] at h
      obtain ⟨t, h1, h⟩ := Res.bind_eq_ok h
      cases h
      simp only [mapRowsLvl]
      rw [ih rest t h1]

theorem mapRowsLvl_rows {g : Nat → List Nat → List Nat} {qs : List Nat} {pol r : Poly}
    (G : Nat → List Nat) (hg : ∀ q ∈ qs, ∀ row ∈ pol, g q row = G q)
    (h : mapRowsLvl g qs pol = .ok r) (i : Nat) (hi : i < qs.length) :
    r[i]? = some (G (qs.getD i 0)) := by
  obtain ⟨hle, hlow⟩ := mapRowsLvl_ok g qs pol r h
  have hip : i < pol.length := Nat.lt_of_lt_of_le hi hle
  rw [hlow i hi, List.getElem?_eq_getElem hip, Option.map_some,
    hg _ (ListLemmas.getD_mem hi) _ (List.getElem_mem hip)]

theorem mapRowsLvl_mform {g g' : Nat → List Nat → List Nat} {qs : List Nat} {pol r : Poly}
    (hg : ∀ q row, row ∈ pol → g' q row = (g q row).map fun a => MForm a q (brc q))
    (h : mapRowsLvl g qs pol = .ok r) :
    ∃ r', mformPoly qs r = .ok r' ∧ mapRowsLvl g' qs pol = .ok r' := by
  obtain ⟨r', hr'⟩ := mapRowsLvl_total g' qs pol (mapRowsLvl_ok g qs pol r h).1
  refine ⟨r', ?_, hr'⟩
  unfold mformPoly
  rw [mapRowsLvl_comp _ _ qs pol r h, ← hr']
  exact mapRowsLvl_congr_rows _ _ qs pol fun q row hrow => (hg q row hrow).symm

theorem zipWith_zipWith_left {α β γ δ : Type} (f : α → γ → δ) (g : α → β → γ) :
    ∀ (a : List α) (b : List β),
      List.zipWith f a (List.zipWith g a b) = List.zipWith (fun x y => f x (g x y)) a b
  | [], _ => rfl
  | _ :: _, [] => rfl
  | x :: a, y :: b => congrArg (f x (g x y) :: ·) (zipWith_zipWith_left f g a b)

theorem zipWith_right_map {α β γ : Type} (h : β → γ) : ∀ (row : List α) (cs : List β),
    row.length = cs.length → List.zipWith (fun _ c => h c) row cs = cs.map h
  | [], [], _ => rfl
  | _ :: row, c :: cs, hl => congrArg (h c :: ·) (zipWith_right_map h row cs (Nat.succ.inj hl))

theorem mapRowsLvl_add {g g' : Nat → List Nat → List Nat} :
    ∀ {qs : List Nat} {pol r : Poly},
      (∀ q row, row ∈ pol → g' q row = List.zipWith (fun x w => CRed (u64add x w) q) row (g q row)) →
      mapRowsLvl g qs pol = .ok r → mapRowsLvl g' qs pol = .ok (addPoly qs pol r) := by
  intro qs
  induction qs with
  | nil =>
    intro pol r _ h
    cases h
    cases pol <;> rfl
  | cons q qs ih =>
    intro pol r hg h
    cases pol with
    | nil => cases h
    | cons row rest =>
      simp only [mapRowsLvl] at h ⊢
      obtain ⟨t, h1, h⟩ := Res.bind_eq_ok h
      cases h
      rw [ih (fun q' row' hr => hg q' row' (List.mem_cons_of_mem _ hr)) h1, Res.bind_ok,
        hg q row List.mem_cons_self]
      rfl

/-- `ReadAndAdd = add ∘ Read` when both write a vector of sampled items through `limb` -/
theorem mapRowsLvl_zip_add {β : Type} (limb : Nat → β → Nat) (cs : List β) {qs : List Nat} {pol r : Poly}
    (h : mapRowsLvl (fun q row => List.zipWith (fun a c => Mode.read.f a (limb q c) q) row cs) qs pol
      = .ok r) :
    mapRowsLvl (fun q row => List.zipWith (fun a c => Mode.readAndAdd.f a (limb q c) q) row cs) qs pol
      = .ok (addPoly qs pol r) :=
  mapRowsLvl_add (fun q row _ => (zipWith_zipWith_left (fun x w => CRed (u64add x w) q)
    (fun a c => Mode.read.f a (limb q c) q) row cs).symm) h

theorem mapRowsLvl_read_rows {β : Type} (limb : Nat → β → Nat) (cs : List β) (N : Nat) (qs : List Nat)
    (pol r : Poly) (hrows : ∀ row ∈ pol, row.length = N) (hlen : cs.length = N)
    (hm : mapRowsLvl (fun q row => List.zipWith (fun a c => Mode.read.f a (limb q c) q) row cs) qs pol
      = .ok r) :
    ∀ i, i < qs.length → r[i]? = some (cs.map (limb (qs.getD i 0))) :=
  mapRowsLvl_rows (fun q => cs.map (limb q))
    (fun _ _ row hrow => zipWith_right_map _ _ _ ((hrows row hrow).trans hlen.symm)) hm

theorem and_one_le (x : Nat) : u64and x 1 ≤ 1 := Nat.and_le_right

/-- bit `t` (LSB first) of a byte string -/
def bitAt (bs : Bytes) (t : Nat) : Nat := u64and (u64shr (bs.getD (t / 8) 0) (t % 8)) 1

/-- `p = 0.5`: one coefficient bit and one sign bit per coefficient, each used once -/
theorem probaHalfIdx_spec {N : Nat} {s : Bytes} :
    (probaHalfIdx N s).All fun r => ∃ cb sb, cb.length = N / 8 ∧ sb.length = N / 8 ∧ s = cb ++ sb ++ r.2 ∧
      r.1 = (List.range N).map fun i => ternIndex (bitAt cb i) (bitAt sb i) :=
  prngRead_ok.bind fun ⟨cb, _⟩ h1 => prngRead_ok.bind fun ⟨sb, _⟩ h2 =>
    .ok ⟨cb, sb, h1.2, h2.2, by rw [h1.1, h2.1, List.append_assoc], rfl⟩

theorem kyHit_ok {N row i : Nat} {k : KY} : (kyHit N row i k).All fun r => r.1 = row ∧ r.2.1 ≤ 1 := by
  unfold kyHit
  exact .ite (fun _ => .bind' fun _ => .ok ⟨rfl, and_one_le _⟩) fun _ => .ok ⟨rfl, and_one_le _⟩

theorem kyWalk_ok {M : List Nat × List Nat} {N fuel i : Nat} {d : Int} {col : Nat} {k : KY} :
    (kyWalk M N fuel i d col k).All fun r => r.1 ≤ 1 ∧ r.2.1 ≤ 1 := by
  induction fuel generalizing i d col k with
  | zero => exact .exhausted
  | succ n ih =>
    unfold kyWalk
    -- end of the byte / restart / hit in row 1 / hit in row 0 / next column
    refine .ite (fun _ => .bind' fun _ => ih) fun _ => .ite (fun _ => ih) fun _ => ?_
    refine .ite (fun _ => kyHit_ok.mono fun _ h => ⟨Nat.le_of_eq h.1, h.2⟩) fun _ => ?_
    exact .ite (fun _ => kyHit_ok.mono fun _ h => ⟨h.1 ▸ Nat.zero_le 1, h.2⟩) fun _ => ih

theorem kyLoop_length {M : List Nat × List Nat} {N fuel n p : Nat} {k : KY} :
    (kyLoop M N fuel n p k).All fun r => r.1.length = n := by
  induction n generalizing p k with
  | zero => exact .ok rfl
  | succ n ih =>
    simp only [kyLoop]
    exact .bind' fun _ => ih.bind fun _ h => .ok (congrArg (· + 1) h)

theorem probaIdx_length {fuel p N : Nat} {s : Bytes} :
    (probaIdx fuel p N N s).All fun r => r.1.length = N := by
  unfold probaIdx
  refine .ite (fun _ => probaHalfIdx_spec.mono fun r h => ?_) fun _ =>
    .bind' fun _ => kyLoop_length.bind fun _ h => .ok h
  obtain ⟨_, _, _, _, _, e⟩ := h
  rw [e, List.length_map, List.length_range]

/-- `sampleProba` = sample an index vector, then write it; the mode and the Montgomery flag only
    change what is written -/
theorem ternProba_ok_iff {fuel : Nat} {m : Mode} {mont : Bool} {p N : Nat} {qs : List Nat}
    {pol r : Poly} {s s' : Bytes} :
    ternProba fuel m mont p N qs pol s = .ok (r, s') ↔
      p ≠ 0 ∧ ∃ idx, probaIdx fuel p N N s = .ok (idx, s') ∧ ternApply m mont qs pol idx = .ok r := by
  unfold ternProba
  constructor
  · intro h
    rcases ite_eq_iff.mp h with ⟨_, h⟩ | ⟨hp, h⟩
    · cases h
    rcases ite_eq_iff.mp h with ⟨_, h⟩ | ⟨_, h⟩
    · obtain ⟨_, _, h⟩ := Res.bind_eq_ok h
      cases h
    · obtain ⟨⟨idx, s1⟩, h1, h⟩ := Res.bind_eq_ok h
      dsimp only at h
      obtain ⟨r1, h2, h⟩ := Res.bind_eq_ok h
      cases h
      exact ⟨hp, idx, h1, h2⟩
  · rintro ⟨hp, idx, h1, h2⟩
    have hlen : ¬ pol.length < qs.length := Nat.not_lt.mpr (mapRowsLvl_ok _ qs pol r h2).1
    rw [if_neg hp, if_neg hlen, h1]
    simp only [Res.bind_ok, h2]

/-- the integer a ternary index stands for -/
def ternVal (ix : Nat) : Int := if ix = 1 then 1 else if ix = 2 then -1 else 0

theorem ternVal_support (ix : Nat) : ternVal ix = -1 ∨ ternVal ix = 0 ∨ ternVal ix = 1 := by
  unfold ternVal
  split
  · simp
  · split <;> simp

/-- the residue of an integer modulo `q`, as stored in a limb -/
def resOf (q : Nat) (v : Int) : Nat := (v % (q : Int)).toNat

theorem resOf_lt (q : Nat) (v : Int) (hq : 0 < q) : resOf q v < q := by
  unfold resOf
  have hqi : (0 : Int) < (q : Int) := by exact_mod_cast hq
  have h1 := Int.emod_nonneg v (by omega : (q : Int) ≠ 0)
  have h2 := Int.emod_lt_of_pos v hqi
  omega

theorem mapRowsLvl_read_res {β : Type} (limb : Nat → β → Nat) (val : β → Int) (cs : List β) (N : Nat)
    (qs : List Nat) (pol r : Poly) (hrows : ∀ row ∈ pol, row.length = N) (hlen : cs.length = N)
    (hlimb : ∀ q ∈ qs, ∀ c ∈ cs, limb q c = resOf q (val c))
    (hm : mapRowsLvl (fun q row => List.zipWith (fun a c => Mode.read.f a (limb q c) q) row cs) qs pol
      = .ok r) (i : Nat) (hi : i < qs.length) :
    r[i]? = some ((cs.map val).map (resOf (qs.getD i 0))) := by
  rw [mapRowsLvl_read_rows limb cs N qs pol r hrows hlen hm i hi, List.map_map]
  exact congrArg some (List.map_congr_left (hlimb _ (ListLemmas.getD_mem hi)))

theorem resOf_natCast (q c : Nat) : resOf q (c : Int) = c % q := by
  unfold resOf
  rw [← Int.natCast_mod, Int.toNat_natCast]

theorem resOf_neg_natCast (q c : Nat) (hq : 0 < q) :
    resOf q (-(c : Int)) = if c % q = 0 then 0 else q - c % q := by
  unfold resOf
  by_cases h0 : c % q = 0
  · rw [if_pos h0, Int.emod_eq_zero_of_dvd (Int.dvd_neg.mpr (by exact_mod_cast Nat.dvd_of_mod_eq_zero h0))]
    rfl
  · have hr : c % q < q := Nat.mod_lt _ hq
    -- `-c = (q - c % q) + q * (-(c / q) - 1)`
    have e : (-(c : Int)) = ((q : Int) - ((c % q : Nat) : Int)) + (q : Int) * (-((c / q : Nat) : Int) - 1) := by
      have : (c : Int) = (q : Int) * ((c / q : Nat) : Int) + ((c % q : Nat) : Int) := by
        exact_mod_cast (Nat.div_add_mod c q).symm
      rw [this]; ring
    rw [if_neg h0, e, Int.add_mul_emod_self_left, Int.emod_eq_of_lt (by omega) (by omega)]
    omega

theorem resOf_zero (q : Nat) : resOf q 0 = 0 := by
  unfold resOf
  rw [Int.zero_emod]
  rfl

theorem resOf_one {q : Nat} (hq : 2 ≤ q) : resOf q 1 = 1 := by
  rw [← Nat.cast_one, resOf_natCast, Nat.mod_eq_of_lt hq]

theorem resOf_neg_one {q : Nat} (hq : 2 ≤ q) : resOf q (-1) = q - 1 := by
  rw [← Nat.cast_one, resOf_neg_natCast q 1 (by omega), Nat.mod_eq_of_lt hq, if_neg Nat.one_ne_zero]

theorem ternLut_true (q : Nat) :
    ternLut true q = [0, MForm 1 q (brc q), MForm (u64sub q 1) q (brc q)] := if_pos rfl
theorem ternLut_false (q : Nat) : ternLut false q = [0, 1, u64sub q 1] := if_neg Bool.false_ne_true

/-- for every index: out of range both sides are `0` -/
theorem ternLut_plain (q : Nat) (hq : 2 ≤ q) (hqW : q < W) (ix : Nat) :
    (ternLut false q).getD ix 0 = resOf q (ternVal ix) := by
  rw [ternLut_false, u64sub_eq _ _ (Nat.one_le_of_lt hq) hqW]
  match ix with
  | 0 => exact (resOf_zero q).symm
  | 1 => exact (resOf_one hq).symm
  | 2 => exact (resOf_neg_one hq).symm
  | _ + 3 => exact (resOf_zero q).symm

theorem MForm_zero (q : Nat) (c : Nat × Nat) : MForm 0 q c = 0 := by
  unfold MForm
  -- every product with the argument vanishes; what is left is the final conditional subtraction on `0`
  simp only [mul64, u64mul, u64add, u64neg, u64sub, Nat.zero_mul, Nat.zero_div, Nat.zero_mod,
    Nat.add_zero, Nat.sub_zero, Nat.mod_self, Nat.zero_add]
  by_cases hq : u64ge 0 q = true
  · rw [if_pos hq]
    have : q = 0 := by simpa [u64ge] using hq
    subst this
    rfl
  · rw [if_neg hq]

theorem ternLut_mont (q : Nat) (ix : Nat) :
    (ternLut true q).getD ix 0 = MForm ((ternLut false q).getD ix 0) q (brc q) := by
  rw [ternLut_true, ternLut_false]
  match ix with
  | 0 => simp only [List.getD_cons_zero]; exact (MForm_zero q (brc q)).symm
  | 1 => simp only [List.getD_cons_succ, List.getD_cons_zero]
  | 2 => simp only [List.getD_cons_succ, List.getD_cons_zero]
  | n + 3 => simp only [List.getD_cons_succ, List.getD_nil]; exact (MForm_zero q (brc q)).symm

end Lattigo.Sampler
