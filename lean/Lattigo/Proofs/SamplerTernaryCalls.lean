/-
  C17 — call-level statements for the ternary sampler (both variants), assembled from
  SamplerTernary.lean and SamplerSparse.lean.
-/
import Lattigo.Proofs.SamplerSparse
namespace Lattigo.Sampler
open Lattigo Lattigo.Gen

/-- a successful plain `Read` of the density sampler: the index vector, a function of the bytes
    alone, and the rows it gives on this view -/
theorem ternProba_read_rows {fuel p N : Nat} {qs : List Nat} {pol r : Poly} {s s' : Bytes}
    (hq : ∀ q ∈ qs, 2 ≤ q ∧ q < W) (hrows : ∀ row ∈ pol, row.length = N)
    (h : ternProba fuel .read false p N qs pol s = .ok (r, s')) :
    ∃ idx, probaIdx fuel p N N s = .ok (idx, s') ∧ (idx.map ternVal).length = N ∧
      (∀ v ∈ idx.map ternVal, v = -1 ∨ v = 0 ∨ v = 1) ∧
      ∀ i, i < qs.length → r[i]? = some ((idx.map ternVal).map (resOf (qs.getD i 0))) := by
  obtain ⟨_, idx, h1, h2⟩ := ternProba_ok_iff.mp h
  have hlen := probaIdx_length.of_ok h1
  refine ⟨idx, h1, (List.length_map ..).trans hlen, fun v hv => ?_,
    mapRowsLvl_read_res (fun q ix => (ternLut false q).getD ix 0) ternVal idx N qs pol r hrows hlen
      (fun q hq' ix _ => ternLut_plain q (hq q hq').1 (hq q hq').2 ix) h2⟩
  obtain ⟨ix, _, rfl⟩ := List.mem_map.mp hv
  exact ternVal_support ix

theorem ternApply_mont (qs : List Nat) (pol r : Poly) (idx : List Nat)
    (h : ternApply .read false qs pol idx = .ok r) :
    ∃ r', mformPoly qs r = .ok r' ∧ ternApply .read true qs pol idx = .ok r' := by
  unfold ternApply at h ⊢
  refine mapRowsLvl_mform (fun q row _ => ?_) h
  rw [List.map_zipWith]
  congr 1
  funext a ix
  simp only [Mode.f]
  exact ternLut_mont q ix

theorem clipHW_eq_min (hw N : Nat) : clipHW hw N = min hw N := by
  unfold clipHW
  split <;> omega

/-- `sampleSparse` = read the sign bytes, select the positions, write them; the mode and the
    Montgomery flag only change what is written -/
theorem ternSparse_ok_iff {fuel : Nat} {m : Mode} {mont : Bool} {hw N : Nat} {qs : List Nat} {pol r : Poly}
    {s s' : Bytes} :
    ternSparse fuel m mont hw N qs pol s = .ok (r, s') ↔
      ∃ rbs s1 sel rest,
        prngRead s ((clipHW hw N + 7) / 8) = .ok (rbs, s1) ∧
        sparseLoop fuel N (clipHW hw N) 0 (List.range N) rbs s1 = .ok (sel, rest, s') ∧
        mapRowsLvl (fun q row => sparseRow m (ternLut mont q) q sel rest row) qs pol = .ok r := by
  unfold ternSparse
  constructor
  · intro h
    obtain ⟨⟨rbs, s1⟩, h1, h⟩ := Res.bind_eq_ok h
    rcases ite_eq_iff.mp h with ⟨_, h⟩ | ⟨_, h⟩
    · obtain ⟨_, _, h⟩ := Res.bind_eq_ok h
      cases h
    · obtain ⟨⟨sel, rest, s2⟩, h2, h⟩ := Res.bind_eq_ok h
      dsimp only at h
      obtain ⟨r1, h3, h⟩ := Res.bind_eq_ok h
      cases h
      exact ⟨rbs, s1, sel, rest, h1, h2, h3⟩
  · rintro ⟨rbs, s1, sel, rest, h1, h2, h3⟩
    have hlen : ¬ pol.length < qs.length := Nat.not_lt.mpr (mapRowsLvl_ok _ qs pol r h3).1
    rw [h1]
    simp only [Res.bind_ok, if_neg hlen, h2, h3]

theorem sparseRows_read_plain {N : Nat} {qs : List Nat} {pol r : Poly} {sel : List (Nat × Nat)}
    {rest : List Nat} (hq : ∀ q ∈ qs, 2 ≤ q ∧ q < W) (hrows : ∀ row ∈ pol, row.length = N)
    (hperm : (sel.map Prod.fst ++ rest).Perm (List.range N)) (hbits : ∀ pc ∈ sel, pc.2 ≤ 1)
    (hm : mapRowsLvl (fun q row => sparseRow .read (ternLut false q) q sel rest row) qs pol = .ok r) :
    ∀ i, i < qs.length → r[i]? = some ((sparseVec N sel rest).map (resOf (qs.getD i 0))) :=
  mapRowsLvl_rows (fun q => (sparseVec N sel rest).map (resOf q))
    (fun q hq' row hrow =>
      sparseRow_read_plain q (hq q hq').1 (hq q hq').2 row hperm (hrows row hrow) hbits) hm

/-- a successful plain `Read` of the fixed-weight sampler: the selection, a function of the bytes
    alone, the integer vector it stands for and the rows it gives on this view -/
theorem ternSparse_read_rows {fuel hw N : Nat} {qs : List Nat} {pol r : Poly} {s s' : Bytes}
    (hq : ∀ q ∈ qs, 2 ≤ q ∧ q < W) (hrows : ∀ row ∈ pol, row.length = N)
    (h : ternSparse fuel .read false hw N qs pol s = .ok (r, s')) :
    ∃ rbs s1 sel rest,
      prngRead s ((clipHW hw N + 7) / 8) = .ok (rbs, s1) ∧
      sparseLoop fuel N (clipHW hw N) 0 (List.range N) rbs s1 = .ok (sel, rest, s') ∧
      (sparseVec N sel rest).length = N ∧ (∀ v ∈ sparseVec N sel rest, v = -1 ∨ v = 0 ∨ v = 1) ∧
      (sparseVec N sel rest).countP (fun v => v ≠ 0) = min hw N ∧
      ∀ i, i < qs.length → r[i]? = some ((sparseVec N sel rest).map (resOf (qs.getD i 0))) := by
  obtain ⟨rbs, s1, sel, rest, h1, h2, hm⟩ := ternSparse_ok_iff.mp h
  obtain ⟨hlen, hperm, hbits⟩ := sparseLoop_range h2
  exact ⟨rbs, s1, sel, rest, h1, h2, (List.length_map ..).trans List.length_range, sparseVec_support,
    by rw [sparseVec_weight hperm, hlen, clipHW_eq_min], sparseRows_read_plain hq hrows hperm hbits hm⟩

end Lattigo.Sampler
