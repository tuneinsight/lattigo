/-
  C17 — lemmas about the uniform sampler: range, buffer invariant, refinement of the unbuffered
  word-stream specification, mode independence of the consumption.
-/
import Lattigo.Proofs.SamplerBasic
namespace Lattigo.Sampler
open Lattigo Lattigo.Gen

theorem wordsBE_append {w rest : Bytes} (h : w.length = 8) :
    wordsBE (w ++ rest) = beNat w :: wordsBE rest := by
  match w, h with
  | [a0, a1, a2, a3, a4, a5, a6, a7], _ => exact wordsBE.eq_1 ..

theorem drop_full {b : Buf} (hb : BufInv b) (he : b.ptr = bufLen) : b.data.drop b.ptr = [] :=
  List.drop_eq_nil_of_le (by rw [he, hb.1])

theorem refillIfFull_ok {s : Bytes} {b : Buf} (hb : BufInv b) :
    (if b.ptr = bufLen then refill s else Res.ok (s, b)).All fun r =>
      BufInv r.2 ∧ r.2.ptr < bufLen ∧ pendingIn r.1 r.2 = pendingIn s b := by
  refine .ite (fun he => refill_ok.mono fun r ⟨hs, hp1, hinv⟩ => ⟨hinv, by rw [hp1]; decide, ?_⟩)
    fun he => .ok ⟨hb, Nat.lt_of_le_of_ne hb.2.1 he, rfl⟩
  unfold pendingIn
  rw [hp1, drop_full hb he, List.drop_zero, ← hs, List.nil_append]

theorem pending_step {s : Bytes} {b : Buf} (hb : BufInv b) (hlt : b.ptr < bufLen) :
    wordsBE (pendingIn s b) =
      beNat ((b.data.drop b.ptr).take 8) :: wordsBE (pendingIn s { b with ptr := b.ptr + 8 }) ∧
    BufInv { b with ptr := b.ptr + 8 } := by
  obtain ⟨hl, hp, hd⟩ := hb
  have h8 : b.ptr + 8 ≤ bufLen := by unfold bufLen at *; omega
  have hlen : 8 ≤ (b.data.drop b.ptr).length := by rw [List.length_drop]; omega
  refine ⟨?_, hl, h8, (Nat.dvd_add_right hd).mpr (Nat.dvd_refl 8)⟩
  unfold pendingIn
  rw [← wordsBE_append (List.length_take_of_le hlen), ← List.append_assoc, ← List.drop_drop,
    List.take_append_drop]

theorem drawU_spec {q mask fuel : Nat} {s : Bytes} {b : Buf} (hb : BufInv b) :
    (drawU q mask fuel s b).All fun r => BufInv r.2.2 ∧ 0 < r.2.2.ptr ∧
      specDraw q mask (wordsBE (pendingIn s b)) = some (r.1, wordsBE (pendingIn r.2.1 r.2.2)) := by
  induction fuel generalizing s b with
  | zero => exact .exhausted
  | succ n ih =>
    unfold drawU
    refine (refillIfFull_ok hb).bind fun ⟨s1, b1⟩ ⟨hb1, hlt, hpend⟩ => ?_
    obtain ⟨hw, hb2⟩ := pending_step (s := s1) hb1 hlt
    rw [← hpend, hw, specDraw]
    -- the sampler and the specification test the same word
    refine .ite (fun hq => .ok ⟨hb2, Nat.succ_pos _, if_pos hq⟩) fun hq => ?_
    rw [if_neg hq]
    exact ih hb2

theorem drawU_lt {q mask fuel : Nat} {s : Bytes} {b : Buf} : (drawU q mask fuel s b).All fun r => r.1 < q := by
  induction fuel generalizing s b with
  | zero => exact .exhausted
  | succ n ih =>
    unfold drawU
    exact .bind' fun _ => .ite (fun hq => .ok hq) fun _ => ih

theorem drawRowU_spec {fuel : Nat} {m : Mode} {q mask : Nat} {row : List Nat} {s : Bytes} {b : Buf}
    (hb : BufInv b) :
    (drawRowU fuel m q mask row s b).All fun r =>
      BufInv r.2.2 ∧ (row ≠ [] → 0 < r.2.2.ptr) ∧ (row = [] → r.2.1 = s ∧ r.2.2 = b) ∧
      specRow m q mask row (wordsBE (pendingIn s b)) = some (r.1, wordsBE (pendingIn r.2.1 r.2.2)) := by
  induction row generalizing s b with
  | nil => exact .ok ⟨hb, fun h => absurd rfl h, fun _ => ⟨rfl, rfl⟩, rfl⟩
  | cons a row ih =>
    simp only [drawRowU]
    refine (drawU_spec hb).bind fun ⟨w, s1, b1⟩ ⟨hb1, hp1, hs1⟩ =>
      (ih hb1).bind fun ⟨t, s2, b2⟩ ⟨hb2, hp2, hnil, hs2⟩ =>
        .ok ⟨hb2, fun _ => ?_, fun h => (nomatch h), by simp only [specRow, hs1, hs2]⟩
    by_cases hr : row = []
    · rw [(hnil hr).2]
      exact hp1
    · exact hp2 hr

/-- every row `j` below the level is `< q_j`; rows are paired with the moduli in order -/
def RowsBelow : List Nat → Poly → Prop
  | [], _ => True
  | _ :: _, [] => False
  | q :: qs, row :: rest => (∀ c ∈ row, c < q) ∧ RowsBelow qs rest

/-- at least one coefficient is requested: some row below the level is non-empty -/
def Draws : List Nat → Poly → Prop
  | [], _ => False
  | _ :: _, [] => False
  | _ :: qs, row :: rest => row ≠ [] ∨ Draws qs rest

theorem drawRowsU_spec {fuel : Nat} {m : Mode} {qs : List Nat} {pol : Poly} {s : Bytes} {b : Buf}
    (hb : BufInv b) :
    (drawRowsU fuel m qs pol s b).All fun r =>
      BufInv r.2.2 ∧ (Draws qs pol → 0 < r.2.2.ptr) ∧ (¬ Draws qs pol → r.2.1 = s ∧ r.2.2 = b) ∧
      specRows m qs pol (wordsBE (pendingIn s b)) = some (r.1, wordsBE (pendingIn r.2.1 r.2.2)) := by
  induction qs generalizing pol s b with
  | nil => exact .ok ⟨hb, False.elim, fun _ => ⟨rfl, rfl⟩, rfl⟩
  | cons q qs ih =>
    cases pol with
    | nil => exact .panic
    | cons row rest =>
      simp only [drawRowsU]
      refine (drawRowU_spec hb).bind fun ⟨r1, s1, b1⟩ ⟨hb1, hp1, hnil1, hs1⟩ =>
        (ih hb1).bind fun ⟨t, s2, b2⟩ ⟨hb2, hp2, hnil2, hs2⟩ =>
          .ok ⟨hb2, fun hd => ?_, fun hd => ?_, by simp only [specRows, hs1, hs2]⟩
      · by_cases hr : Draws qs rest
        · exact hp2 hr
        · rw [(hnil2 hr).2]
          exact hp1 (hd.resolve_right hr)
      · obtain ⟨hd1, hd2⟩ := not_or.mp hd
        obtain ⟨e1, e2⟩ := hnil1 (not_not.mp hd1)
        obtain ⟨e3, e4⟩ := hnil2 hd2
        exact ⟨e3.trans e1, e4.trans e2⟩

theorem uniformRead_spec {fuel : Nat} {m : Mode} {qs : List Nat} {pol : Poly} {s : Bytes} {b : Buf}
    (hb : BufInv b) :
    (uniformRead fuel m qs pol s b).All fun r =>
      BufInv r.2.2 ∧ (Draws qs pol → 0 < r.2.2.ptr) ∧
      specRows m qs pol (wordsBE (pendingAtCall s b)) = some (r.1, wordsBE (pendingIn r.2.1 r.2.2)) := by
  unfold uniformRead
  have key : (if b.ptr = 0 ∨ b.ptr = bufLen then refill s else Res.ok (s, b)).All fun r =>
      BufInv r.2 ∧ pendingIn r.1 r.2 = pendingAtCall s b := by
    unfold pendingAtCall
    refine .ite (fun hc => refill_ok.mono fun r ⟨hs, hp1, hinv⟩ => ⟨hinv, ?_⟩) fun hc => .ok ⟨hb, ?_⟩
    · unfold pendingIn
      rw [if_pos hc, hp1, List.drop_zero, ← hs]
    · rw [if_neg hc]
      rfl
  refine key.bind fun ⟨s1, b1⟩ ⟨hb1, hpend⟩ => (drawRowsU_spec hb1).mono fun r ⟨hb', hp', _, hspec⟩ => ?_
  rw [hpend] at hspec
  exact ⟨hb', hp', hspec⟩

/-- after a call that drew something, the two views of the pending bytes coincide -/
theorem pending_after {s : Bytes} {b : Buf} (hb : BufInv b) (hp : 0 < b.ptr) :
    pendingAtCall s b = pendingIn s b := by
  unfold pendingAtCall pendingIn
  by_cases hc : b.ptr = 0 ∨ b.ptr = bufLen
  · rw [if_pos hc, drop_full hb (hc.resolve_left (Nat.ne_of_gt hp)), List.nil_append]
  · rw [if_neg hc]

/-! ### `ReadAndAdd = add ∘ Read`: the mode only changes what is written -/

/-- `pol + r` on the rows below the level (`CRed(a + b, q)` per coefficient), `r` above -/
def addPoly : List Nat → Poly → Poly → Poly
  | q :: qs, a :: as, r :: rs => List.zipWith (fun x w => CRed (u64add x w) q) a r :: addPoly qs as rs
  | _, _, rs => rs

theorem drawRowU_add {fuel q mask : Nat} {row r : List Nat} {s s' : Bytes} {b b' : Buf}
    (h : drawRowU fuel .read q mask row s b = .ok (r, s', b')) :
    drawRowU fuel .readAndAdd q mask row s b =
      .ok (List.zipWith (fun x w => CRed (u64add x w) q) row r, s', b') := by
  induction row generalizing r s b with
  | nil =>
    cases h
    rfl
  | cons a row ih =>
    simp only [drawRowU] at h ⊢
    obtain ⟨⟨w, s1, b1⟩, h1, h⟩ := Res.bind_eq_ok h
    dsimp only at h
    obtain ⟨⟨t, s2, b2⟩, h2, h⟩ := Res.bind_eq_ok h
    dsimp only at h
    cases h
    rw [h1, Res.bind_ok, ih h2]
    rfl

theorem drawRowsU_add {fuel : Nat} {qs : List Nat} {pol r : Poly} {s s' : Bytes} {b b' : Buf}
    (h : drawRowsU fuel .read qs pol s b = .ok (r, s', b')) :
    drawRowsU fuel .readAndAdd qs pol s b = .ok (addPoly qs pol r, s', b') := by
  induction qs generalizing pol r s b with
  | nil =>
    cases h
    cases pol <;> rfl
  | cons q qs ih =>
    cases pol with
    | nil => cases h
    | cons row rest =>
      simp only [drawRowsU] at h ⊢
      obtain ⟨⟨r1, s1, b1⟩, h1, h⟩ := Res.bind_eq_ok h
      dsimp only at h
      obtain ⟨⟨t, s2, b2⟩, h2, h⟩ := Res.bind_eq_ok h
      dsimp only at h
      cases h
      rw [drawRowU_add h1, Res.bind_ok, ih h2]
      rfl

/-- the written value stays below `q` whenever the drawn value is -/
def GoodCoeff (m : Mode) (q a : Nat) : Prop := ∀ w, w < q → m.f a w q < q

theorem goodCoeff_read (q a : Nat) : GoodCoeff .read q a := fun _ hw => hw

theorem goodCoeff_add (q a : Nat) (ha : a < q) (hq : 2 * q ≤ W) : GoodCoeff .readAndAdd q a := by
  intro w hw
  show CRed (u64add a w) q < q
  have hadd : u64add a w = a + w := Nat.mod_eq_of_lt (by omega)
  rw [hadd]
  unfold CRed u64ge
  by_cases h : q ≤ a + w
  · rw [if_pos (decide_eq_true h), u64sub_eq _ _ h (by omega)]
    omega
  · rw [if_neg (by rw [decide_eq_true_eq]; exact h)]
    omega

theorem drawRowU_good {fuel : Nat} {m : Mode} {q mask : Nat} {row : List Nat} {s : Bytes} {b : Buf}
    (hg : ∀ a ∈ row, GoodCoeff m q a) :
    (drawRowU fuel m q mask row s b).All fun r => ∀ c ∈ r.1, c < q := by
  induction row generalizing s b with
  | nil => exact .ok fun _ hc => absurd hc List.not_mem_nil
  | cons a row ih =>
    obtain ⟨ha, hrow⟩ := List.forall_mem_cons.mp hg
    simp only [drawRowU]
    exact drawU_lt.bind fun _ hw => (ih hrow).bind fun _ ht => .ok (List.forall_mem_cons.mpr ⟨ha _ hw, ht⟩)

def GoodRows (m : Mode) : List Nat → Poly → Prop
  | [], _ => True
  | _ :: _, [] => True
  | q :: qs, row :: rest => (∀ a ∈ row, GoodCoeff m q a) ∧ GoodRows m qs rest

theorem drawRowsU_good {fuel : Nat} {m : Mode} {qs : List Nat} {pol : Poly} {s : Bytes} {b : Buf}
    (hg : GoodRows m qs pol) : (drawRowsU fuel m qs pol s b).All fun r => RowsBelow qs r.1 := by
  induction qs generalizing pol s b with
  | nil => exact .ok trivial
  | cons q qs ih =>
    cases pol with
    | nil => exact .panic
    | cons row rest =>
      simp only [drawRowsU]
      exact (drawRowU_good hg.1).bind fun _ h1 => (ih hg.2).bind fun _ h2 => .ok ⟨h1, h2⟩

theorem uniformRead_good {fuel : Nat} {m : Mode} {qs : List Nat} {pol : Poly} {s : Bytes} {b : Buf}
    (hg : GoodRows m qs pol) : (uniformRead fuel m qs pol s b).All fun r => RowsBelow qs r.1 :=
  .bind' fun _ => drawRowsU_good hg

theorem goodRows_read : ∀ (qs : List Nat) (pol : Poly), GoodRows .read qs pol
  | [], _ => trivial
  | _ :: _, [] => trivial
  | q :: qs, _ :: rest => ⟨fun a _ => goodCoeff_read q a, goodRows_read qs rest⟩

theorem goodRows_add : ∀ (qs : List Nat) (pol : Poly), (∀ q ∈ qs, 2 * q ≤ W) → RowsBelow qs pol →
    GoodRows .readAndAdd qs pol
  | [], _, _, _ => trivial
  | _ :: _, [], _, _ => trivial
  | q :: qs, _ :: rest, hq, hp =>
    ⟨fun a ha => goodCoeff_add q a (hp.1 a ha) (hq q List.mem_cons_self),
      goodRows_add qs rest (fun q' hq' => hq q' (List.mem_cons_of_mem _ hq')) hp.2⟩

theorem RowsBelow_get : ∀ (qs : List Nat) (r : Poly), RowsBelow qs r →
    ∀ i row, i < qs.length → r[i]? = some row → ∀ c ∈ row, c < qs.getD i 0
  | [], _, _, i, _, hi, _ => absurd hi (Nat.not_lt_zero i)
  | _ :: _, [], h, _, _, _, _ => h.elim
  | _ :: _, _ :: _, h, 0, _, _, hrow => by
    cases hrow
    exact h.1
  | _ :: qs, _ :: rs, h, i + 1, row, hi, hrow =>
    RowsBelow_get qs rs h.2 i row (Nat.lt_of_succ_lt_succ hi) hrow

end Lattigo.Sampler
