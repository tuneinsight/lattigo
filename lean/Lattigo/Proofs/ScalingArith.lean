/-
  Arithmetic behind the integer level of ring/scaling.go and ring/basis_extension.go: the inverse the code computes as
  `ModExp(a, q−2, q)` (Fermat), and CRT for pairwise coprime chains: uniqueness, and the reconstruction `Σ c_i·(Q/q_i)`
  that the HPS sum and the gadget recombination share.
-/
import Lattigo.Model.Scaling
import Lattigo.Proofs.NTTModExp
import Mathlib.FieldTheory.Finite.Basic
import Mathlib.Data.Nat.ChineseRemainder
import Mathlib.Tactic.Ring
import Mathlib.Tactic.Linarith
import Mathlib.Tactic.NormNum.Prime

namespace Lattigo.Scaling
open Lattigo

theorem invMod_lt (a q : Nat) (hq : 0 < q) : invMod a q < q := NTT.modExp_lt _ _ _ hq

theorem invMod_eq (a q : Nat) (hq : 0 < q) (hq64 : q < 2 ^ 64) : invMod a q = a ^ (q - 2) % q := by
  unfold invMod
  exact NTT.modExp_spec _ _ _ hq (by omega)

theorem invMod_spec (a q : Nat) (hq : Nat.Prime q) (hq64 : q < 2 ^ 64) (ha : ¬ q ∣ a) :
    (a * invMod a q) % q = 1 :=
  NTT.mul_modExp_sub_two a q hq hq64 ha

example : (257 * invMod 257 97) % 97 = 1 :=
  invMod_spec 257 97 (by norm_num) (by norm_num) (by norm_num)
example : invMod 257 97 = 77 := by decide

theorem prodN_eq_prod (qs : List Nat) : prodN qs = qs.prod := by
  induction qs with
  | nil => rfl
  | cons q qs ih => simp [prodN, ih]

theorem prodN_pos (qs : List Nat) (h : ∀ q ∈ qs, 0 < q) : 0 < prodN qs := by
  induction qs with
  | nil => simp [prodN]
  | cons q qs ih =>
    simp only [prodN]
    exact Nat.mul_pos (h q (by simp)) (ih fun q' hq' => h q' (by simp [hq']))

theorem prodN_append (a b : List Nat) : prodN (a ++ b) = prodN a * prodN b := by
  simp [prodN_eq_prod]

theorem dvd_prodN_of_mem (qs : List Nat) (q : Nat) (h : q ∈ qs) : q ∣ prodN qs := by
  rw [prodN_eq_prod]; exact List.dvd_prod h

/-- `a·c mod q = 1` read over ℤ: `q = 1` is excluded (`1 mod 1 = 0`), for every other `q` the residue `1` is reduced -/
theorem intCast_mul_modEq_one {a c q : Nat} (h : (a * c) % q = 1) : (a : ℤ) * (c : ℤ) ≡ 1 [ZMOD q] := by
  have h1 : 1 % q = 1 := by
    rcases q with _ | _ | n
    · rfl
    · rw [Nat.mod_one] at h; exact absurd h (by decide)
    · exact Nat.mod_eq_of_lt (by omega)
  exact_mod_cast Int.natCast_modEq_iff.2 (show a * c ≡ 1 [MOD q] by rw [Nat.ModEq, h, h1])

theorem prodN_coprime {q : Nat} {l : List Nat} (h : ∀ a ∈ l, Nat.Coprime q a) : Nat.Coprime q (prodN l) := by
  rw [prodN_eq_prod]
  exact Nat.coprime_list_prod_right_iff.mpr h

theorem modEq_prodN (qs : List Nat) (hc : qs.Pairwise Nat.Coprime) (a b : Nat)
    (h : ∀ q ∈ qs, a % q = b % q) : a % prodN qs = b % prodN qs := by
  induction qs with
  | nil => simp [prodN, Nat.mod_one]
  | cons q qs ih =>
    rw [List.pairwise_cons] at hc
    have h1 : a ≡ b [MOD q] := h q (by simp)
    have h2 : a ≡ b [MOD prodN qs] := ih hc.2 fun q' hq' => h q' (by simp [hq'])
    exact (Nat.modEq_and_modEq_iff_modEq_mul (prodN_coprime hc.1)).1 ⟨h1, h2⟩

/-! ### CRT reconstruction

`Σ c_i·(Q/q_i)` is the shape of the HPS sum of the basis extension (`c_i = y_i`) and of the gadget recombination
(`c_i = d_i·[(Q/Q_i)⁻¹]`): the sum is `≡ x` modulo the product as soon as every summand is `≡ x` modulo its own modulus. -/

/-- `Σ c_i·(Q/q_i)` over ℤ, `Q` a free parameter (so that induction on the list is possible) -/
def sumZ (Q : Nat) (l : List Nat) (cs : List ℤ) : ℤ :=
  (List.zipWith (fun (q : Nat) (c : ℤ) => c * ((Q / q : Nat) : ℤ)) l cs).foldr (· + ·) 0

theorem sumZ_nil (Q : Nat) (cs : List ℤ) : sumZ Q [] cs = 0 := rfl

theorem sumZ_nil_right (Q : Nat) (l : List Nat) : sumZ Q l [] = 0 := by
  unfold sumZ; rw [List.zipWith_nil_right]; rfl

theorem sumZ_cons (Q q : Nat) (c : ℤ) (l : List Nat) (cs : List ℤ) :
    sumZ Q (q :: l) (c :: cs) = c * ((Q / q : Nat) : ℤ) + sumZ Q l cs := rfl

theorem dvd_sumZ (Q q : Nat) : ∀ (l : List Nat) (cs : List ℤ), (∀ qj ∈ l, q ∣ Q / qj) → (q : ℤ) ∣ sumZ Q l cs
  | [], _, _ => by rw [sumZ_nil]; exact dvd_zero _
  | _ :: _, [], _ => by rw [sumZ_nil_right]; exact dvd_zero _
  | a :: l, c :: cs, h => by
    rw [sumZ_cons]
    exact dvd_add (Dvd.dvd.mul_left (Int.natCast_dvd_natCast.mpr (h a (List.mem_cons_self ..))) c)
      (dvd_sumZ Q q l cs fun qj hj => h qj (List.mem_cons_of_mem _ hj))

/-- Stated with `Q = m·Π l` so that the induction goes through: modulo the head `q` the tail is a sum of multiples of
`q`; modulo `Π tail` the head summand is a multiple of it and the tail is the same sum with `m·q` in the place of `m`. -/
theorem sumZ_modEq : ∀ (l : List Nat) (cs : List ℤ) (m : Nat) (x : ℤ),
    l.Pairwise Nat.Coprime → (∀ q ∈ l, 0 < q) →
    List.Forall₂ (fun (q : Nat) (c : ℤ) => c * ((m * prodN l / q : Nat) : ℤ) ≡ x [ZMOD q]) l cs →
    sumZ (m * prodN l) l cs ≡ x [ZMOD prodN l]
  | [], _, m, x, _, _, _ => by rw [prodN, Nat.cast_one]; exact Int.modEq_one
  | q :: l, [], _, _, _, _, h => by cases h
  | q :: l, c :: cs, m, x, hc, hpos, h => by
    rcases List.forall₂_cons.mp h with ⟨hy, hrest⟩
    rcases List.pairwise_cons.mp hc with ⟨hcq, hcl⟩
    have hq : 0 < q := hpos q (List.mem_cons_self ..)
    have hposl : ∀ a ∈ l, 0 < a := fun a ha => hpos a (List.mem_cons_of_mem _ ha)
    have hQ : m * prodN (q :: l) = (m * q) * prodN l := (Nat.mul_assoc m q _).symm
    have hQdiv : m * prodN (q :: l) / q = m * prodN l := by
      rw [prodN, Nat.mul_left_comm, Nat.mul_div_cancel_left _ hq]
    have hmod : ((prodN (q :: l) : Nat) : ℤ) = (q : ℤ) * (prodN l : ℤ) := by rw [prodN, Nat.cast_mul]
    rw [sumZ_cons, hmod]
    refine (Int.modEq_and_modEq_iff_modEq_mul (m := (q : ℤ)) (n := (prodN l : ℤ)) (by
      rw [Int.natAbs_natCast, Int.natAbs_natCast]; exact prodN_coprime hcq)).mp ⟨?_, ?_⟩
    · have h0 : (q : ℤ) ∣ sumZ (m * prodN (q :: l)) l cs := dvd_sumZ _ q l cs fun qj hj => by
        obtain ⟨d, hd⟩ := dvd_prodN_of_mem l qj hj
        rw [hQ, hd, Nat.mul_left_comm, Nat.mul_div_cancel_left _ (hposl qj hj)]
        exact Dvd.dvd.mul_right (Dvd.intro_left m rfl) d
      have := hy.add (Int.modEq_zero_iff_dvd.2 h0)
      rwa [add_zero] at this
    · have ih := sumZ_modEq l cs (m * q) x hcl hposl (by rw [← hQ]; exact hrest)
      have := (Int.modEq_zero_iff_dvd.2
        (Dvd.dvd.mul_left (Int.natCast_dvd_natCast.mpr (Dvd.intro_left m rfl)) c)).add ih
      rwa [zero_add, ← hQ, ← hQdiv] at this

theorem residues_inj (qs : List Nat) (hc : qs.Pairwise Nat.Coprime) (a b : Nat)
    (ha : a < prodN qs) (hb : b < prodN qs) (h : residues qs a = residues qs b) : a = b := by
  have h' : ∀ q ∈ qs, a % q = b % q := by
    unfold residues at h
    exact List.map_inj_left.1 h
  have := modEq_prodN qs hc a b h'
  rwa [Nat.mod_eq_of_lt ha, Nat.mod_eq_of_lt hb] at this

theorem pairwise_coprime_of_primes (qs : List Nat) (hp : ∀ q ∈ qs, Nat.Prime q) (hd : qs.Nodup) :
    qs.Pairwise Nat.Coprime :=
  List.Pairwise.imp_of_mem
    (fun {a b} ha hb hne => (Nat.coprime_primes (hp a ha) (hp b hb)).2 hne) hd

example : [97, 193].Pairwise Nat.Coprime :=
  pairwise_coprime_of_primes [97, 193] (by simp only [List.mem_cons, List.not_mem_nil, or_false, forall_eq_or_imp, forall_eq]; norm_num) (by decide)
example : residues [97, 193] 12345 = [26, 186] ∧ 12345 < prodN [97, 193] := by decide

end Lattigo.Scaling

#print axioms Lattigo.Scaling.invMod_lt
#print axioms Lattigo.Scaling.invMod_eq
#print axioms Lattigo.Scaling.invMod_spec
#print axioms Lattigo.Scaling.prodN_eq_prod
#print axioms Lattigo.Scaling.prodN_pos
#print axioms Lattigo.Scaling.prodN_append
#print axioms Lattigo.Scaling.dvd_prodN_of_mem
#print axioms Lattigo.Scaling.modEq_prodN
#print axioms Lattigo.Scaling.sumZ_modEq
#print axioms Lattigo.Scaling.residues_inj
#print axioms Lattigo.Scaling.pairwise_coprime_of_primes
