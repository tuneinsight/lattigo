/-
  Scaling (ring/scaling.go), INTEGER LEVEL: the per-modulus formula of `Div{Floor,Round}ByLastModulus`
  computes the residues of `⌊x/q_ℓ⌋` (resp. of round-half-up `⌊x/q_ℓ + 1/2⌋`), the `Many` variants
  divide by the product of the dropped moduli (last modulus first).
-/
import Lattigo.Proofs.ScalingArith
import Lattigo.Proofs.ZModCast

namespace Lattigo.Scaling
open Lattigo

theorem divFloorRes_cast (q c u v : ℕ) (hq : 0 < q) :
    ((divFloorRes q c u v : ℕ) : ZMod q) = ((u : ZMod q) - (v : ZMod q)) * (c : ZMod q) := by
  unfold divFloorRes
  have hv : v % q ≤ u + q := by have := Nat.mod_lt v hq; omega
  rw [ZMod.natCast_mod, Nat.cast_mul, Nat.cast_sub hv, Nat.cast_add, ZMod.natCast_self, add_zero,
    ZMod.natCast_mod]

theorem divFloorRes_lt (q c u v : ℕ) (hq : 0 < q) : divFloorRes q c u v < q := by
  unfold divFloorRes; exact Nat.mod_lt _ hq

theorem divFloorRes_congr (q c u v v' : Nat) (h : v % q = v' % q) : divFloorRes q c u v = divFloorRes q c u v' := by
  unfold divFloorRes; rw [h]

/-- in `Z_{q_i}`: `x − x mod q_ℓ = q_ℓ·⌊x/q_ℓ⌋`, and `c` cancels `q_ℓ` -/
theorem divFloorRes_spec (qi ql c x : Nat) (hqi : 0 < qi) (hc : (ql * c) % qi = 1) :
    divFloorRes qi c (x % qi) (x % ql) = (x / ql) % qi := by
  apply eq_of_cast_eq (divFloorRes_lt _ _ _ _ hqi) (Nat.mod_lt _ hqi)
  have hc' : (ql : ZMod qi) * c = 1 := by
    have := congrArg (Nat.cast : ℕ → ZMod qi) hc
    rwa [ZMod.natCast_mod, Nat.cast_mul, Nat.cast_one] at this
  have hx : (x : ZMod qi) = ql * (x / ql : ℕ) + (x % ql : ℕ) := by
    rw [← Nat.cast_mul, ← Nat.cast_add, Nat.div_add_mod]
  rw [divFloorRes_cast _ _ _ _ hqi, ZMod.natCast_mod, ZMod.natCast_mod, hx, add_sub_cancel_right,
    mul_right_comm, hc', one_mul]

example : (257 * invMod 257 97) % 97 = 1 ∧
    divFloorRes 97 (invMod 257 97) (1000000 % 97) (1000000 % 257) = (1000000 / 257) % 97 := by decide

theorem divFloorInt_spec (qs : List Nat) (ql x : Nat) (hp : ∀ q ∈ qs, Nat.Prime q ∧ q < 2 ^ 64)
    (hnd : ∀ q ∈ qs, ¬ q ∣ ql) :
    divFloorInt qs ql (residues qs x) (x % ql) = residues qs (x / ql) := by
  unfold divFloorInt residues
  rw [List.zipWith_map_right, List.zipWith_self]
  apply List.map_congr_left
  intro q hq
  exact divFloorRes_spec q ql _ x (hp q hq).1.pos (invMod_spec ql q (hp q hq).1 (hp q hq).2 (hnd q hq))

private theorem ex_primes : ∀ q ∈ [97, 193], Nat.Prime q ∧ q < 2 ^ 64 := by
  intro q hq; simp at hq; rcases hq with rfl | rfl <;> norm_num
private theorem ex_not_dvd : ∀ q ∈ [97, 193], ¬ q ∣ 257 := by
  intro q hq; simp at hq; rcases hq with rfl | rfl <;> norm_num
private theorem ex_primes4 : ∀ q ∈ [97, 193, 257, 769], Nat.Prime q ∧ q < 2 ^ 64 := by
  intro q hq; simp at hq; rcases hq with rfl | rfl | rfl | rfl <;> norm_num

example : divFloorInt [97, 193] 257 (residues [97, 193] 1000000) (1000000 % 257)
    = residues [97, 193] (1000000 / 257) :=
  divFloorInt_spec [97, 193] 257 1000000
    ex_primes ex_not_dvd
example : divFloorInt [97, 193] 257 (residues [97, 193] 1000000) (1000000 % 257) = [11, 31] := by
  decide

theorem residues_add (qs : List Nat) (x h : Nat) :
    List.zipWith (fun qi xi => (xi + h % qi) % qi) qs (residues qs x) = residues qs (x + h) := by
  unfold residues
  rw [List.zipWith_map_right, List.zipWith_self]
  apply List.map_congr_left
  intro q _
  exact (Nat.add_mod x h q).symm

theorem divRoundInt_spec (qs : List Nat) (ql x : Nat) (hp : ∀ q ∈ qs, Nat.Prime q ∧ q < 2 ^ 64)
    (hnd : ∀ q ∈ qs, ¬ q ∣ ql) :
    divRoundInt qs ql (residues qs x) (x % ql) = residues qs ((x + half ql) / ql) := by
  unfold divRoundInt
  rw [residues_add, Nat.mod_add_mod]
  exact divFloorInt_spec qs ql (x + half ql) hp hnd

-- 1000200/257 = 3891.8… rounds up to 3892
example : divRoundInt [97, 193] 257 (residues [97, 193] 1000200) (1000200 % 257)
    = residues [97, 193] ((1000200 + half 257) / 257) :=
  divRoundInt_spec [97, 193] 257 1000200
    ex_primes ex_not_dvd
example : divRoundInt [97, 193] 257 (residues [97, 193] 1000200) (1000200 % 257)
    = residues [97, 193] 3892 := by decide

theorem half_round (q x : Nat) (hodd : q % 2 = 1) : (x + half q) / q = (2 * x + q) / (2 * q) := by
  unfold half
  rw [← Nat.div_div_eq_div_mul]
  congr 1
  omega

example : (1000200 + half 257) / 257 = (2 * 1000200 + 257) / (2 * 257) := half_round 257 _ (by decide)

theorem residues_mod_prodN (qs : List Nat) (z : Nat) :
    residues qs (z % prodN qs) = residues qs z := by
  unfold residues
  apply List.map_congr_left
  intro q hq
  exact Nat.mod_mod_of_dvd _ (dvd_prodN_of_mem qs q hq)

theorem divFloor_crt (qs : List Nat) (ql x y : Nat) (hp : ∀ q ∈ qs, Nat.Prime q ∧ q < 2 ^ 64)
    (hnd : ∀ q ∈ qs, ¬ q ∣ ql) (hd : qs.Nodup) (hx : x < prodN qs * ql) (hy : y < prodN qs)
    (h : residues qs y = divFloorInt qs ql (residues qs x) (x % ql)) : y = x / ql := by
  rw [divFloorInt_spec qs ql x hp hnd] at h
  have hc := pairwise_coprime_of_primes qs (fun q hq => (hp q hq).1) hd
  refine residues_inj qs hc y (x / ql) hy ?_ h
  apply Nat.div_lt_of_lt_mul
  rwa [Nat.mul_comm]

set_option linter.unusedVariables false in  -- `hql` is not needed (`Nat.mod_add_mod` holds for modulus 0 too)
theorem divRound_crt (qs : List Nat) (ql x y : Nat) (hp : ∀ q ∈ qs, Nat.Prime q ∧ q < 2 ^ 64)
    (hnd : ∀ q ∈ qs, ¬ q ∣ ql) (hql : 0 < ql) (hd : qs.Nodup) (hy : y < prodN qs)
    (h : residues qs y = divRoundInt qs ql (residues qs x) (x % ql)) :
    y = ((x + half ql) / ql) % prodN qs := by
  rw [divRoundInt_spec qs ql x hp hnd, ← residues_mod_prodN qs ((x + half ql) / ql)] at h
  have hc := pairwise_coprime_of_primes qs (fun q hq => (hp q hq).1) hd
  have hpos : 0 < prodN qs := prodN_pos qs fun q hq => (hp q hq).1.pos
  exact residues_inj qs hc y _ hy (Nat.mod_lt _ hpos) h

example : (3891 : Nat) = 1000000 / 257 :=
  divFloor_crt [97, 193] 257 1000000 3891
    ex_primes ex_not_dvd
    (by decide) (by decide) (by decide) (by decide)
-- the rounded quotient CAN reach `prodN qs` and wrap to 0 (x = 97·193·257 − 1): hence `% prodN qs` in `divRound_crt`
example : ((97 * 193 * 257 - 1 + half 257) / 257) = prodN [97, 193] ∧
    (0 : Nat) = ((97 * 193 * 257 - 1 + half 257) / 257) % prodN [97, 193] ∧
    residues [97, 193] 0 = divRoundInt [97, 193] 257 (residues [97, 193] (97 * 193 * 257 - 1))
      ((97 * 193 * 257 - 1) % 257) := by decide
example : (0 : Nat) = ((97 * 193 * 257 - 1 + half 257) / 257) % prodN [97, 193] :=
  divRound_crt [97, 193] 257 (97 * 193 * 257 - 1) 0
    ex_primes ex_not_dvd
    (by norm_num) (by decide) (by decide) (by decide)

theorem residues_append (a b : List Nat) (x : Nat) :
    residues (a ++ b) x = residues a x ++ residues b x := by simp [residues]

theorem chain_step (qs : List Nat) (b : Nat) (hp : ∀ q ∈ qs ++ [b], Nat.Prime q ∧ q < 2 ^ 64)
    (hnd : (qs ++ [b]).Nodup) :
    (∀ q ∈ qs, Nat.Prime q ∧ q < 2 ^ 64) ∧ (∀ q ∈ qs, ¬ q ∣ b) ∧ qs.Nodup := by
  have hb : Nat.Prime b := (hp b (by simp)).1
  have hq : ∀ q ∈ qs, Nat.Prime q ∧ q < 2 ^ 64 := fun q h => hp q (by simp [h])
  obtain ⟨h1, h2⟩ : qs.Nodup ∧ ∀ q ∈ qs, q ≠ b := by
    rw [List.nodup_append] at hnd
    simpa using hnd
  exact ⟨hq, fun q h hdvd => h2 q h ((Nat.prime_dvd_prime_iff_eq (hq q h).1 hb).1 hdvd), h1⟩

theorem stepFloorInt_concat (qs : List Nat) (b x : Nat)
    (hp : ∀ q ∈ qs ++ [b], Nat.Prime q ∧ q < 2 ^ 64) (hnd : (qs ++ [b]).Nodup) :
    stepFloorInt (qs ++ [b]) (residues (qs ++ [b]) x) = residues qs (x / b) := by
  obtain ⟨h1, h2, _⟩ := chain_step qs b hp hnd
  unfold stepFloorInt
  rw [residues_append]
  simp only [residues, List.map_cons, List.map_nil, List.dropLast_concat, List.getLastD_concat]
  exact divFloorInt_spec qs b x h1 h2

theorem stepRoundInt_concat (qs : List Nat) (b x : Nat)
    (hp : ∀ q ∈ qs ++ [b], Nat.Prime q ∧ q < 2 ^ 64) (hnd : (qs ++ [b]).Nodup) :
    stepRoundInt (qs ++ [b]) (residues (qs ++ [b]) x) = residues qs ((x + half b) / b) := by
  obtain ⟨h1, h2, _⟩ := chain_step qs b hp hnd
  unfold stepRoundInt
  rw [residues_append]
  simp only [residues, List.map_cons, List.map_nil, List.dropLast_concat, List.getLastD_concat]
  exact divRoundInt_spec qs b x h1 h2

/-- `DivFloorByLastModulusMany` on the chain `front ++ back` divides by the LAST modulus first, hence the induction from
the right; `⌊⌊x/a⌋/b⌋ = ⌊x/(ab)⌋`. -/
theorem manyFloorInt_spec (front back : List Nat) (x : Nat)
    (hp : ∀ q ∈ front ++ back, Nat.Prime q ∧ q < 2 ^ 64) (hnd : (front ++ back).Nodup) :
    manyFloorInt back.length (front ++ back) (residues (front ++ back) x)
      = residues front (x / prodN back) := by
  induction back using List.reverseRecOn generalizing x with
  | nil => simp [manyFloorInt, prodN]
  | append_singleton bs b ih =>
    rw [← List.append_assoc] at hp hnd
    obtain ⟨h1, _, h3⟩ := chain_step (front ++ bs) b hp hnd
    rw [List.length_append, List.length_singleton, ← List.append_assoc, manyFloorInt,
      List.dropLast_concat, stepFloorInt_concat _ b x hp hnd, ih (x / b) h1 h3,
      Nat.div_div_eq_div_mul, prodN_append]
    simp [prodN, Nat.mul_comm]

example : manyFloorInt 2 [97, 193, 257, 769] (residues [97, 193, 257, 769] 3000000000)
    = residues [97, 193] (3000000000 / prodN [257, 769]) :=
  manyFloorInt_spec [97, 193] [257, 769] 3000000000
    ex_primes4 (by decide)
example : manyFloorInt 2 [97, 193, 257, 769] (residues [97, 193, 257, 769] 3000000000)
    = residues [97, 193] 15179 := by decide

theorem half_mul (a b : Nat) (ha : 0 < a) (hb : b % 2 = 1) :
    half (a * b) = half a + a * half b := by
  unfold half
  obtain ⟨k, rfl⟩ : ∃ k, b = 2 * k + 1 := ⟨b / 2, by omega⟩
  rw [Nat.add_sub_cancel, Nat.mul_div_cancel_left k Nat.two_pos, Nat.mul_add, Nat.mul_one,
    Nat.mul_left_comm]
  omega

/-- only the SECOND divisor has to be odd: `half (a·b) = half a + a·half b` -/
theorem round_round (a b x : Nat) (hb : b % 2 = 1) :
    ((x + half a) / a + half b) / b = (x + half (a * b)) / (a * b) := by
  rcases Nat.eq_zero_or_pos a with rfl | ha
  · have : half b / b = 0 := Nat.div_eq_of_lt (by unfold half; omega)
    simp [this]
  · rw [half_mul a b ha hb, ← Nat.div_div_eq_div_mul, ← Nat.add_assoc, Nat.add_mul_div_left _ _ ha]

set_option linter.unusedVariables false in  -- `ha` is not needed (`round_round`)
theorem round_round_odd (a b x : Nat) (ha : a % 2 = 1) (hb : b % 2 = 1) :
    ((x + half a) / a + half b) / b = (x + half (a * b)) / (a * b) :=
  round_round a b x hb

example : ((1000 + half 7) / 7 + half 5) / 5 = (1000 + half (7 * 5)) / (7 * 5) :=
  round_round_odd 7 5 1000 (by decide) (by decide)

theorem prodN_odd (qs : List Nat) (h : ∀ q ∈ qs, q % 2 = 1) : prodN qs % 2 = 1 := by
  induction qs with
  | nil => simp [prodN]
  | cons q qs ih =>
    simp only [prodN]
    rw [Nat.mul_mod, h q (by simp), ih fun q' hq' => h q' (by simp [hq'])]

/-- `DivRoundByLastModulusMany` on the chain `front ++ back`; the dropped moduli are odd so that `round_round` applies at
every step. -/
theorem manyRoundInt_spec (front back : List Nat) (x : Nat)
    (hp : ∀ q ∈ front ++ back, Nat.Prime q ∧ q < 2 ^ 64) (hnd : (front ++ back).Nodup)
    (hodd : ∀ q ∈ back, q % 2 = 1) :
    manyRoundInt back.length (front ++ back) (residues (front ++ back) x)
      = residues front ((x + half (prodN back)) / prodN back) := by
  induction back using List.reverseRecOn generalizing x with
  | nil => simp [manyRoundInt, prodN, half]
  | append_singleton bs b ih =>
    rw [← List.append_assoc] at hp hnd
    obtain ⟨h1, _, h3⟩ := chain_step (front ++ bs) b hp hnd
    have hbs : ∀ q ∈ bs, q % 2 = 1 := fun q hq => hodd q (by simp [hq])
    rw [List.length_append, List.length_singleton, ← List.append_assoc, manyRoundInt,
      List.dropLast_concat, stepRoundInt_concat _ b x hp hnd, ih ((x + half b) / b) h1 h3 hbs,
      round_round b (prodN bs) x (prodN_odd bs hbs), prodN_append]
    simp [prodN, Nat.mul_comm]

-- 3000000000/(257·769) = 15179.65… rounds up to 15180
example : manyRoundInt 2 [97, 193, 257, 769] (residues [97, 193, 257, 769] 3000000000)
    = residues [97, 193] ((3000000000 + half (prodN [257, 769])) / prodN [257, 769]) :=
  manyRoundInt_spec [97, 193] [257, 769] 3000000000
    ex_primes4 (by decide)
    (by decide)
example : manyRoundInt 2 [97, 193, 257, 769] (residues [97, 193, 257, 769] 3000000000)
    = residues [97, 193] 15180 := by decide

/-- for general (even) divisors sequential round-half-up is NOT rounding by the product:
    1/2 ↦ 1, 1/2 ↦ 1, but 1/4 ↦ 0. -/
example : let rhu := fun (x q : Nat) => (2 * x + q) / (2 * q)
    rhu (rhu 1 2) 2 = 1 ∧ rhu 1 4 = 0 := by decide
/-- the same with the code's `half`: `(x + (q−1)/2)/q` for q = 2 is plain floor, and the sequential
    result differs from the product one already for a = 3, b = 2 (second divisor even). -/
example : ((4 + half 3) / 3 + half 2) / 2 ≠ (4 + half (3 * 2)) / (3 * 2) := by decide

end Lattigo.Scaling

#print axioms Lattigo.Scaling.divFloorRes_spec
#print axioms Lattigo.Scaling.divFloorInt_spec
#print axioms Lattigo.Scaling.divRoundInt_spec
#print axioms Lattigo.Scaling.half_round
#print axioms Lattigo.Scaling.divFloor_crt
#print axioms Lattigo.Scaling.divRound_crt
#print axioms Lattigo.Scaling.manyFloorInt_spec
#print axioms Lattigo.Scaling.half_mul
#print axioms Lattigo.Scaling.round_round
#print axioms Lattigo.Scaling.round_round_odd
#print axioms Lattigo.Scaling.manyRoundInt_spec
