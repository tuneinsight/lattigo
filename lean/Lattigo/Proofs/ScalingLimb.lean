/-
  One limb of `DivFloorByLastModulus` / `DivRoundByLastModulus` (ring/scaling.go; `divFloorLimb`, `divRoundLimb`, built from
  the regenerated uint64/Montgomery lanes) computes the residue formula `divFloorRes`; the rows are in
  Proofs/ScalingRefine.lean.

  Of the inverse `invMod ql qi = ModExp(ql, qi-2, qi)` the limb level needs only `invMod ql qi < qi`:
  `divFloorRes` takes the constant `c` as a parameter, and the Montgomery constant in the table is
  `(qi − c)·2^64 mod qi` whatever `c < qi` is.  That `c` IS the inverse matters at the integer level only
  (Proofs/ScalingInt.lean).
-/
import Lattigo.Model.Scaling
import Lattigo.Proofs.Kernels
import Mathlib.Data.Nat.ModEq

namespace Lattigo.Scaling
open Lattigo Lattigo.Gen

/-- `MRed(A, s) = Y·c mod q` when the table entry `s` is `−c` in Montgomery form (`s + c·2^64 ≡ 0`) and `A ≡ −Y`. -/
theorem mred_neg (q c s A Y : Nat) (hodd : q % 2 = 1) (h2 : 2 * q ≤ W) (hs : s ≤ q)
    (hsc : (s + c * W) % q = 0) (hA : A < W) (hAY : (A + Y) % q = 0) :
    MRed A s q (GenMRedConstant q) = (Y * c) % q := by
  have hm : MontConst q (GenMRedConstant q) := (GenMRedConstant_spec q hodd (by omega)).1
  have hAs : A * s < q * W := by
    rw [Nat.mul_comm q W]
    exact Nat.mul_lt_mul_of_lt_of_le hA hs hm.pos
  obtain ⟨hmod, hlt⟩ := MRed_spec A s q _ h2 hm hAs
  -- both `A·s` and `Y·c·2^64` are the negative of `A·c·2^64`
  have e1 : A * s + A * (c * W) ≡ Y * c * W + A * (c * W) [MOD q] := by
    unfold Nat.ModEq
    rw [← Nat.mul_add, Nat.mul_assoc Y, ← Nat.add_mul, Nat.mul_mod, hsc, Nat.mul_zero, Nat.add_comm Y,
      Nat.mul_mod (A + Y), hAY, Nat.zero_mul]
  have e2 : MRed A s q (GenMRedConstant q) * W ≡ Y * c * W [MOD q] :=
    Nat.ModEq.trans hmod (Nat.ModEq.add_right_cancel' _ e1)
  have := Nat.ModEq.cancel_right_of_coprime hm.coprime e2
  rwa [Nat.ModEq, Nat.mod_eq_of_lt hlt] at this

theorem rescaleConst_spec (qi ql : Nat) (h1 : 1 < qi) (h2 : 2 * qi ≤ W) (hlt : invMod ql qi < qi) :
    rescaleConst qi ql = ((qi - invMod ql qi) * W) % qi := by
  have hqW : qi < W := by omega
  unfold rescaleConst
  rw [u64sub_eq qi _ (Nat.le_of_lt hlt) hqW]
  exact MForm_spec _ qi h1 h2 (Nat.lt_of_le_of_lt (Nat.sub_le _ _) hqW)

example : 97 % 2 = 1 ∧ 1 < 97 ∧ 2 * 97 ≤ W ∧ invMod 193 97 < 97 ∧ (193 * invMod 193 97) % 97 = 1 := by
  decide

/-- the hypotheses `hs`, `hsc` of `mred_neg` for `RescaleConstants[ℓ-1][i]` -/
theorem rescaleConst_neg (qi ql : Nat) (h1 : 1 < qi) (h2 : 2 * qi ≤ W) (hlt : invMod ql qi < qi) :
    rescaleConst qi ql ≤ qi ∧ (rescaleConst qi ql + invMod ql qi * W) % qi = 0 := by
  rw [rescaleConst_spec qi ql h1 h2 hlt, Nat.mod_add_mod, ← Nat.add_mul, Nat.sub_add_cancel (Nat.le_of_lt hlt),
    Nat.mul_mod_right]
  exact ⟨Nat.le_of_lt (Nat.mod_lt _ (by omega)), rfl⟩

/-- the lane's lazy operand `2q − x + b` is `−(x − b)` modulo `q`: added to `x + q − b mod q` it is a multiple of `q` -/
theorem lazy_sub_add_mod (q xi xl : Nat) (hq : 0 < q) (hxi : xi < q) :
    (2 * q - xi + xl + (xi + q - xl % q)) % q = 0 := by
  have hr : xl % q < q := Nat.mod_lt _ hq
  have hdm := Nat.div_add_mod xl q
  have : 2 * q - xi + xl + (xi + q - xl % q) = q * (xl / q + 3) := by
    rw [Nat.mul_add]
    generalize q * (xl / q) = K at *
    omega
  rw [this]
  exact Nat.mul_mod_right _ _

/-- `SubThenMulScalarMontgomeryTwoModulus(b, x, s)` with `s = −c` in Montgomery form; `b` need not be reduced -/
theorem stmLane_spec (q c s b x : Nat) (hodd : q % 2 = 1) (hs : s ≤ q) (hsc : (s + c * W) % q = 0)
    (hx : x < q) (hb : b + 2 * q < W) :
    subthenmulscalarmontgomeryTwoModulusvec_lane b x s 0 q (GenMRedConstant q) = divFloorRes q c x b := by
  have h2' : 2 * q < W := by omega
  unfold subthenmulscalarmontgomeryTwoModulusvec_lane
  simp only []
  rw [u64shl_one q h2', u64sub_eq (2 * q) x (by omega) h2', u64add_eq _ _ (by omega)]
  exact mred_neg q c _ _ _ hodd (Nat.le_of_lt h2') hs hsc (by omega) (lazy_sub_add_mod q x b (by omega) hx)

/-- `x_ℓ` is a residue modulo the (possibly much larger) `q_ℓ`: only `x_ℓ + 2q_i < 2^64` is needed -/
theorem divFloorLimb_spec (qi ql xi xl : Nat) (hodd : qi % 2 = 1) (h1 : 1 < qi)
    (hlt : invMod ql qi < qi) (hxi : xi < qi) (hxl : xl + 2 * qi < W) :
    divFloorLimb qi ql xi xl = divFloorRes qi (invMod ql qi) xi xl :=
  have ⟨hs, hsc⟩ := rescaleConst_neg qi ql h1 (by omega) hlt
  stmLane_spec qi _ _ xl xi hodd hs hsc hxi hxl

-- `x_ℓ = 150 > q_i = 97`
example : 97 % 2 = 1 ∧ 1 < 97 ∧ (193 * invMod 193 97) % 97 = 1 ∧ invMod 193 97 < 97 ∧ 5 < 97
    ∧ 150 + 2 * 97 < W ∧ divFloorLimb 97 193 5 150 = 48 := by decide +kernel

theorem half_lt (ql : Nat) (h0 : 0 < ql) : half ql < ql := by
  unfold half; omega

theorem pHalf_eq (ql : Nat) (h0 : 0 < ql) (hW : ql < W) : pHalf ql = half ql := by
  unfold pHalf half u64shr
  rw [u64sub_eq ql 1 h0 hW, Nat.pow_one]

theorem roundLastLimb_spec (ql xl : Nat) (hxl : xl < ql) (hql2 : 2 * ql ≤ W) :
    roundLastLimb ql xl = (xl + half ql) % ql := by
  have hq0 : 0 < ql := by omega
  unfold roundLastLimb addscalarvec_lane
  rw [pHalf_eq ql hq0 (by omega)]
  exact cred_add xl _ ql hql2 (Nat.le_of_lt hxl) (half_lt ql hq0)

example : 150 < 193 ∧ 2 * 193 ≤ W ∧ roundLastLimb 193 150 = 53 := by decide

theorem roundScalar_spec (qi ql : Nat) (h1 : 1 < qi) (hqi : qi < W) (hql : 0 < ql) (hqlW : ql < W) :
    roundScalar qi ql = qi - half ql % qi := by
  have hh := half_lt ql hql
  unfold roundScalar
  rw [pHalf_eq ql hql hqlW, BRedAdd_spec _ qi h1 (by omega)]
  exact u64sub_eq _ _ (Nat.le_of_lt (Nat.mod_lt _ (by omega))) hqi

theorem roundConst_spec (qi ql : Nat) (hodd : qi % 2 = 1) (h1 : 1 < qi) (h2 : 2 * qi ≤ W)
    (hlt : invMod ql qi < qi) (hql : 0 < ql) (hqlW : ql < W) :
    roundConst qi ql = (half ql % qi * invMod ql qi) % qi := by
  have hqW : qi < W := by omega
  have hm : half ql % qi < qi := Nat.mod_lt _ (by omega)
  have ⟨hs, hsc⟩ := rescaleConst_neg qi ql h1 h2 hlt
  unfold roundConst
  rw [roundScalar_spec qi ql h1 hqW hql hqlW]
  refine mred_neg qi _ _ _ _ hodd h2 hs hsc (Nat.lt_of_le_of_lt (Nat.sub_le _ _) hqW) ?_
  rw [Nat.sub_add_cancel (Nat.le_of_lt hm)]
  exact Nat.mod_self _

/-- `(x_i − x_ℓ)·c + h·c = (x_i + h − x_ℓ)·c` -/
theorem divFloorRes_add (q c xi xl h : Nat) (hq : 0 < q) :
    (divFloorRes q c xi xl + (h * c) % q) % q = divFloorRes q c ((xi + h) % q) xl := by
  have hr : xl % q ≤ q := Nat.le_of_lt (Nat.mod_lt _ hq)
  unfold divFloorRes
  rw [← Nat.add_mod, ← Nat.add_mul, Nat.add_sub_assoc hr, Nat.add_sub_assoc hr, Nat.add_right_comm]
  exact ((Nat.mod_modEq (xi + h) q).symm.add_right _).mul_right c

/-- `xl'` is the already shifted last limb; `AddScalar(·, roundConst)` adds `h·[q_ℓ⁻¹]`, `h = (q_ℓ−1)/2`, which is the
floor formula with `h` added to `x_i` -/
theorem divRoundLimb_spec (qi ql xi xl' : Nat) (hodd : qi % 2 = 1) (h1 : 1 < qi)
    (hlt : invMod ql qi < qi) (hxi : xi < qi) (hxl : xl' < ql) (hsz : ql + 3 * qi < W) :
    divRoundLimb qi ql xi xl' =
      divFloorRes qi (invMod ql qi) ((xi + half ql % qi) % qi) xl' := by
  have hq0 : 0 < qi := by omega
  have h2 : 2 * qi ≤ W := by omega
  have ha : divFloorRes qi (invMod ql qi) xi xl' < qi := Nat.mod_lt _ hq0
  unfold divRoundLimb addscalarvec_lane
  rw [divFloorLimb_spec qi ql xi xl' hodd h1 hlt hxi (by omega),
    roundConst_spec qi ql hodd h1 h2 hlt (by omega) (by omega),
    cred_add _ _ qi h2 (Nat.le_of_lt ha) (Nat.mod_lt _ hq0)]
  exact divFloorRes_add qi _ xi xl' _ hq0

example : 97 % 2 = 1 ∧ 1 < 97 ∧ (193 * invMod 193 97) % 97 = 1 ∧ invMod 193 97 < 97 ∧ 0 < 193 ∧ 5 < 97
    ∧ 150 < 193 ∧ 193 + 3 * 97 < W ∧ 2 * 193 ≤ W
    ∧ divRoundLimb 97 193 5 (roundLastLimb 193 150) = 49 := by decide +kernel

-- the input on which the Go code before repair C02-1 rewrote `p0` ([[5],[7]] ↦ [[190],[103]])
example : divRound [97, 193] 1 [[5], [7]] = [[(5 + 96 + 97 - (7 + 96) % 193 % 97) * invMod 193 97 % 97]] := by
  decide +kernel

#print axioms rescaleConst_spec
#print axioms divFloorLimb_spec
#print axioms roundLastLimb_spec
#print axioms roundScalar_spec
#print axioms roundConst_spec
#print axioms divRoundLimb_spec

end Lattigo.Scaling
