/-
  The four NTT-domain variants of the division by the last modulus (ring/scaling.go): if the rows of `p0` are the
  bit-exact forward NTTs of the residues of an integer coefficient vector `X`, the rows of the result are the forward
  NTTs of the residues of the quotient.

  The code takes the last row back to coefficients (`INTT`) and moves it to ring `q_i` with `NTTLazy`: no uint64 wrap on
  residues of the larger `q_ℓ` (`nttCoreLazy_big_all`).  The lane applied limb for limb in the NTT domain is then the NTT
  of the residue formula applied coefficient for coefficient, because the exact network is linear (`fwdZ_zipWith_lin`).

  Before repair C02-4 of /repo the single-division variants took the last row through `INTTLazy`, which for `N < 16`
  returns values in `[1, 2q_ℓ−1]` (`0 ↦ q_ℓ`): the statements were false for `N < 16`
  (`divFloorNTT_small_ring_repaired`).  With the reducing `INTT` they hold for every ring degree `N = 2^K`.
-/
import Lattigo.Proofs.ScalingNTTRange
import Lattigo.Proofs.NTTTables
import Lattigo.Proofs.ScalingRefine

namespace Lattigo.Scaling
open Lattigo Lattigo.Gen Lattigo.NTT

/-- for `N ≥ 16` `INTTStandardLazy` multiplies by `N⁻¹` with `MRed` (it IS `INTTStandard`) -/
theorem inttStdLazy_eq_inttStd (T : Tables) (h : ¬ T.n < unrollMin) (a : List ℕ) :
    inttStdLazy T a = inttStd T a := by
  unfold inttStdLazy inttStd
  simp only [if_neg h]

theorem not_lt_unrollMin {T : Tables} {K : ℕ} (hT : Valid T K) (hK : 4 ≤ K) : ¬ T.n < unrollMin := by
  rw [hT.n_eq, unrollMin_eq]
  intro h
  have := (two_pow_lt_16 K).1 h
  omega

/-- Stated without the lane, so that the divisions and `ModDownQPtoQNTT` share it: `f` is any word function that IS the
residue formula on a reduced `x` and an unreduced `b`, `b1` any word vector that read in `Z_q` is the exact network
applied to the coefficient-domain operand `B`.  The proof is linearity of the network. -/
theorem resNTT_row (Ti : Tables) (K : ℕ) (hTi : Valid Ti K) (c : ℕ) (f : ℕ → ℕ → ℕ)
    (hf : ∀ x b, x < Ti.q → b + 2 * Ti.q < W → f x b = divFloorRes Ti.q c x b)
    (A B b1 : List ℕ) (hA : A.length = 2 ^ K) (hAlt : ∀ a ∈ A, a < Ti.q) (hB : B.length = 2 ^ K)
    (hb1c : b1.map (Nat.cast : ℕ → ZMod Ti.q)
      = fwdZ (rho Ti.q Ti.rootsF) K 1 (B.map (Nat.cast : ℕ → ZMod Ti.q)))
    (hb1 : ∀ y ∈ b1, y + 2 * Ti.q < W) :
    List.zipWith f (nttStd Ti A) b1 = nttStd Ti (List.zipWith (divFloorRes Ti.q c) A B) := by
  have : Fact Ti.q.Prime := ⟨hTi.prime⟩
  have hq0 : 0 < Ti.q := hTi.q_pos
  obtain ⟨hac, halt⟩ := nttStd_cast hTi A hAlt
  have hlt : ∀ l1 l2 : List ℕ, ∀ z ∈ List.zipWith (divFloorRes Ti.q c) l1 l2, z < Ti.q :=
    fun l1 l2 => ListLemmas.forall_zipWith _ (fun z => z < Ti.q) _ _ (fun u _ v _ => divFloorRes_lt _ _ u v hq0)
  obtain ⟨hrc, hrlt⟩ := nttStd_cast hTi _ (hlt A B)
  have hz : ∀ l1 l2 : List ℕ, (List.zipWith (divFloorRes Ti.q c) l1 l2).map (Nat.cast : ℕ → ZMod Ti.q)
      = List.zipWith (fun a b => (a - b) * ((c : ℕ) : ZMod Ti.q)) (l1.map Nat.cast) (l2.map Nat.cast) :=
    fun l1 l2 => map_zipWith_mem _ _ _ _ l1 l2 fun u _ v _ => divFloorRes_cast Ti.q c u v hq0
  rw [zipWith_congr_mem f (divFloorRes Ti.q c) _ _ fun u hu v hv => hf u v (halt u hu) (hb1 v hv)]
  apply map_cast_inj (q := Ti.q) _ _ (hlt _ _) hrlt
  rw [hrc, hz, hz, hac, hb1c, ← fwdZ_zipWith_lin (rho Ti.q Ti.rootsF) _ K 1 _ _
    (by rw [List.length_map, hA]) (by rw [List.length_map, hB])]

/-- `h(X)` is the last row moved to ring `q_i`: ANY integer vector with entries `< M ≤ 2^62`.  `2^62`: the lazy network
leaves limbs `< max M 4q + 2q` and the lane needs `2q` more below `2^64`, which `q < 2^61` gives up to `M = 2^62`; the
callers have `h x < q_ℓ + q_i < 2^62`. -/
theorem divNTT_row (Ti : Tables) (K : ℕ) (hTi : Valid Ti K) (qi ql : ℕ) (hqi : Ti.q = qi)
    (hq61 : qi < 2 ^ 61) (M : ℕ) (hM : M ≤ 2 ^ 62) (X : List ℕ) (hX : X.length = 2 ^ K) (h : ℕ → ℕ)
    (hh : ∀ x, h x < M) (f : ℕ → ℕ)
    (hf : ∀ x, divFloorRes qi (invMod ql qi) (x % qi) (h x) = f x) :
    List.zipWith (divFloorLimb qi ql) (nttStd Ti (X.map (· % qi))) (nttStdLazy Ti (X.map h))
      = nttStd Ti (X.map f) := by
  subst hqi
  obtain rfl : (fun x => divFloorRes Ti.q (invMod ql Ti.q) (x % Ti.q) (h x)) = f := funext hf
  have : Fact Ti.q.Prime := ⟨hTi.prime⟩
  obtain ⟨hb1c, hb1⟩ := nttCoreLazy_big_all hTi M (by unfold W; omega) (X.map h)
    (List.forall_mem_map.2 fun x _ => hh x)
  have := resNTT_row Ti K hTi _ _
    (fun x b hx hb => divFloorLimb_spec Ti.q ql x b hTi.mont.odd hTi.prime.one_lt (invMod_lt _ _ hTi.q_pos) hx hb)
    (X.map (· % Ti.q)) (X.map h) _ (by rw [List.length_map, hX]) (List.forall_mem_map.2 fun x _ => Nat.mod_lt _ hTi.q_pos)
    (by rw [List.length_map, hX]) hb1c (fun y hy => by have := hb1 y hy; unfold W; omega)
  rwa [ListLemmas.zipWith_map_map] at this

/-- what `DivRoundByLastModulusNTT` feeds to `NTTLazy` of ring `q_i` (`h = (q_ℓ−1)/2`); no wrap -/
theorem roundInput_eq (qi ql : ℕ) (h1 : 1 < qi) (hqi61 : qi < 2 ^ 61) (hql0 : 0 < ql)
    (hql61 : ql < 2 ^ 61) (X : List ℕ) :
    ((X.map (· % ql)).map (roundLastLimb ql)).map
        (fun x => addscalarlazyvec_lane x (roundScalar qi ql) 0)
      = X.map fun x => (x % ql + half ql) % ql + (qi - half ql % qi) := by
  rw [List.map_map, List.map_map]
  refine List.map_congr_left fun x _ => ?_
  have hx : x % ql < ql := Nat.mod_lt _ hql0
  have hqlW : ql < W := by unfold W; omega
  have hqiW : qi < W := by unfold W; omega
  have hql2 : 2 * ql ≤ W := by unfold W; omega
  rw [Function.comp, Function.comp, roundLastLimb_spec ql _ hx hql2, roundScalar_spec qi ql h1 hqiW hql0 hqlW]
  have h3 : (x % ql + half ql) % ql < ql := Nat.mod_lt _ hql0
  have h4 : (x % ql + half ql) % ql + (qi - half ql % qi) < W := by unfold W; omega
  exact u64add_eq _ _ h4

/-- the shifted last limb `(x_ℓ + h) mod q_ℓ` plus `q_i − h mod q_i`, fed to the floor formula, is the floor formula at
`x + h` (`h = (q_ℓ−1)/2`): the rounded quotient -/
theorem divRoundRes_spec (qi ql c x : ℕ) (hqi : 0 < qi) (hc : (ql * c) % qi = 1) :
    divFloorRes qi c (x % qi) ((x % ql + half ql) % ql + (qi - half ql % qi))
      = ((x + half ql) / ql) % qi := by
  rw [← divFloorRes_spec qi ql c (x + half ql) hqi hc]
  apply eq_of_cast_eq (divFloorRes_lt _ _ _ _ hqi) (divFloorRes_lt _ _ _ _ hqi)
  rw [divFloorRes_cast _ _ _ _ hqi, divFloorRes_cast _ _ _ _ hqi, Nat.mod_add_mod]
  congr 1
  have hle : half ql % qi ≤ qi := Nat.le_of_lt (Nat.mod_lt _ hqi)
  rw [Nat.cast_add, Nat.cast_sub hle, ZMod.natCast_self, ZMod.natCast_mod, ZMod.natCast_mod,
    ZMod.natCast_mod, Nat.cast_add]
  ring

theorem intt_ntt_mod {T : Tables} {K : ℕ} (hT : Valid T K) (q : ℕ) (hq : T.q = q) (X : List ℕ)
    (hX : X.length = 2 ^ K) (f : ℕ → ℕ) :
    inttStd T (nttStd T (X.map fun x => f x % q)) = X.map fun x => f x % q := by
  subst hq
  exact inttStd_nttStd hT _ (by rw [List.length_map, hX, hT.n_eq])
    (List.forall_mem_map.2 fun x _ => Nat.mod_lt _ hT.q_pos)

section
variable (T : Tabs) (qs : List ℕ) (level K : ℕ)

/-- the reducing `INTT` (repair C02-4 of /repo) returns the REDUCED residues for every ring degree; `INTTLazy` does so
for `N ≥ 16` only -/
theorem lastRow_intt (hT : ∀ i, i ≤ level → Valid (tab T i) K ∧ (tab T i).q = modulus qs i)
    (p0 : Rows) (X : List ℕ) (hX : X.length = 2 ^ K)
    (hrows : ∀ i, i ≤ level → row p0 i = nttStd (tab T i) (X.map (· % modulus qs i))) :
    inttStd (tab T level) (row p0 level) = X.map (· % modulus qs level) := by
  rw [hrows level (Nat.le_refl _)]
  exact intt_ntt_mod (hT level (Nat.le_refl _)).1 _ (hT level (Nat.le_refl _)).2 X hX id

theorem divFloorNTT_limbs (hC : Chain qs) (hl : level < qs.length)
    (hT : ∀ i, i ≤ level → Valid (tab T i) K ∧ (tab T i).q = modulus qs i)
    (p0 : Rows) (X : List ℕ) (hX : X.length = 2 ^ K)
    (hrows : ∀ i, i ≤ level → row p0 i = nttStd (tab T i) (X.map (· % modulus qs i))) :
    divFloorNTT T qs level p0 = (List.range level).map fun i =>
      nttStd (tab T i) (X.map fun x => (x / modulus qs level) % modulus qs i) := by
  unfold divFloorNTT
  simp only []
  rw [lastRow_intt T qs level K hT p0 X hX hrows]
  apply List.map_congr_left
  intro i hi
  have hi' : i < level := List.mem_range.mp hi
  obtain ⟨hTi, hqi⟩ := hT i (Nat.le_of_lt hi')
  obtain ⟨hp, _, hqi61, hql0, hql61, hinv⟩ := hC.pair i level (by omega) hl (by omega)
  rw [hrows i (Nat.le_of_lt hi')]
  exact divNTT_row (tab T i) K hTi _ _ hqi hqi61 _ (by omega) X hX _ (fun x => Nat.mod_lt _ hql0) _
    fun x => divFloorRes_spec _ _ _ x hp.pos hinv

theorem divRoundNTT_limbs (hC : Chain qs) (hl : level < qs.length)
    (hT : ∀ i, i ≤ level → Valid (tab T i) K ∧ (tab T i).q = modulus qs i)
    (p0 : Rows) (X : List ℕ) (hX : X.length = 2 ^ K)
    (hrows : ∀ i, i ≤ level → row p0 i = nttStd (tab T i) (X.map (· % modulus qs i))) :
    divRoundNTT T qs level p0 = (List.range level).map fun i =>
      nttStd (tab T i)
        (X.map fun x => ((x + half (modulus qs level)) / modulus qs level) % modulus qs i) := by
  unfold divRoundNTT
  simp only []
  rw [lastRow_intt T qs level K hT p0 X hX hrows]
  apply List.map_congr_left
  intro i hi
  have hi' : i < level := List.mem_range.mp hi
  obtain ⟨hTi, hqi⟩ := hT i (Nat.le_of_lt hi')
  obtain ⟨hp, _, hqi61, hql0, hql61, hinv⟩ := hC.pair i level (by omega) hl (by omega)
  rw [hrows i (Nat.le_of_lt hi'), roundInput_eq _ _ hp.one_lt hqi61 hql0 hql61 X]
  exact divNTT_row (tab T i) K hTi _ _ hqi hqi61 (modulus qs level + modulus qs i) (by omega) X hX _
    (fun x => by have := Nat.mod_lt (x % modulus qs level + half (modulus qs level)) hql0; omega) _
    fun x => divRoundRes_spec _ _ _ x hp.pos hinv

/-- rows of `r.INTT(p0, buff)` (the NON-lazy inverse transform, any `N`) -/
theorem inttRows_row (hT : ∀ i, i ≤ level → Valid (tab T i) K ∧ (tab T i).q = modulus qs i)
    (p0 : Rows) (X : List ℕ) (hX : X.length = 2 ^ K)
    (hrows : ∀ i, i ≤ level → row p0 i = nttStd (tab T i) (X.map (· % modulus qs i)))
    (i : ℕ) (hi : i ≤ level) :
    row (inttRows T level p0) i = X.map (· % modulus qs i) := by
  unfold inttRows
  rw [row_map_range (level + 1) _ i (by omega), hrows i hi]
  exact intt_ntt_mod (hT i hi).1 _ (hT i hi).2 X hX id

theorem divFloorManyNTT_limbs (nb : ℕ) (hC : Chain qs) (hl : level < qs.length) (hnb : nb ≤ level)
    (hT : ∀ i, i ≤ level → Valid (tab T i) K ∧ (tab T i).q = modulus qs i)
    (p0 : Rows) (X : List ℕ) (hX : X.length = 2 ^ K)
    (hrows : ∀ i, i ≤ level → row p0 i = nttStd (tab T i) (X.map (· % modulus qs i))) :
    ∃ p1, divFloorManyNTT T qs level nb p0 = some p1 ∧ ∀ i, i ≤ level - nb →
      row p1 i = nttStd (tab T i) (X.map fun x => (x / lastProd qs level nb) % modulus qs i) := by
  unfold divFloorManyNTT
  by_cases h0 : nb = 0
  · subst h0
    refine ⟨p0.take (level + 1), by simp, ?_⟩
    intro i hi
    rw [row_take p0 (level + 1) i (by omega), hrows i (by omega)]
    simp [lastProd]
  · refine ⟨nttRows T (level - nb) (iterFloor qs nb level (inttRows T level p0)), ?_, ?_⟩
    · simp [h0, Nat.not_lt.mpr hnb]
    · intro i hi
      unfold nttRows
      rw [row_map_range (level - nb + 1) _ i (by omega),
        iterFloor_limbs qs hC nb level _ X hl hnb
          (inttRows_row T qs level K hT p0 X hX hrows) i hi]

/-- the branch `nbRescales = 1` of the Go code calls `DivRoundByLastModulusNTT` -/
theorem divRoundManyNTT_limbs (nb : ℕ) (hC : Chain qs) (hl : level < qs.length)
    (hnb : nb ≤ level)
    (hT : ∀ i, i ≤ level → Valid (tab T i) K ∧ (tab T i).q = modulus qs i)
    (p0 : Rows) (X : List ℕ) (hX : X.length = 2 ^ K)
    (hrows : ∀ i, i ≤ level → row p0 i = nttStd (tab T i) (X.map (· % modulus qs i))) :
    ∃ p1, divRoundManyNTT T qs level nb p0 = some p1 ∧ ∀ i, i ≤ level - nb →
      row p1 i = nttStd (tab T i) (X.map fun x => roundSeq qs level nb x % modulus qs i) := by
  unfold divRoundManyNTT
  by_cases h0 : nb = 0
  · subst h0
    refine ⟨p0.take (level + 1), by simp, ?_⟩
    intro i hi
    simp only [roundSeq]
    rw [row_take p0 (level + 1) i (by omega), hrows i (by omega)]
  · by_cases h1 : nb = 1
    · subst h1
      refine ⟨divRoundNTT T qs level p0, by simp, ?_⟩
      intro i hi
      rw [divRoundNTT_limbs T qs level K hC hl hT p0 X hX hrows,
        row_map_range level _ i (by omega)]
      rfl
    · refine ⟨nttRows T (level - nb) (iterRound qs nb level (inttRows T level p0)), ?_, ?_⟩
      · simp [h0, h1, Nat.not_lt.mpr hnb]
      · intro i hi
        unfold nttRows
        rw [row_map_range (level - nb + 1) _ i (by omega),
          iterRound_limbs qs hC nb level _ X hl hnb
            (inttRows_row T qs level K hT p0 X hX hrows) i hi]

theorem divFloorNTT_coeffs (hC : Chain qs) (hl : level < qs.length)
    (hT : ∀ i, i ≤ level → Valid (tab T i) K ∧ (tab T i).q = modulus qs i)
    (p0 : Rows) (X : List ℕ) (hX : X.length = 2 ^ K)
    (hrows : ∀ i, i ≤ level → row p0 i = nttStd (tab T i) (X.map (· % modulus qs i)))
    (i : ℕ) (hi : i < level) :
    inttStd (tab T i) (row (divFloorNTT T qs level p0) i)
      = X.map fun x => (x / modulus qs level) % modulus qs i := by
  rw [divFloorNTT_limbs T qs level K hC hl hT p0 X hX hrows, row_map_range level _ i hi]
  exact intt_ntt_mod (hT i (by omega)).1 _ (hT i (by omega)).2 X hX _

theorem divRoundNTT_coeffs (hC : Chain qs) (hl : level < qs.length)
    (hT : ∀ i, i ≤ level → Valid (tab T i) K ∧ (tab T i).q = modulus qs i)
    (p0 : Rows) (X : List ℕ) (hX : X.length = 2 ^ K)
    (hrows : ∀ i, i ≤ level → row p0 i = nttStd (tab T i) (X.map (· % modulus qs i)))
    (i : ℕ) (hi : i < level) :
    inttStd (tab T i) (row (divRoundNTT T qs level p0) i)
      = X.map fun x => ((x + half (modulus qs level)) / modulus qs level) % modulus qs i := by
  rw [divRoundNTT_limbs T qs level K hC hl hT p0 X hX hrows, row_map_range level _ i hi]
  exact intt_ntt_mod (hT i (by omega)).1 _ (hT i (by omega)).2 X hX _

theorem divFloorManyNTT_coeffs (nb : ℕ) (hC : Chain qs) (hl : level < qs.length) (hnb : nb ≤ level)
    (hT : ∀ i, i ≤ level → Valid (tab T i) K ∧ (tab T i).q = modulus qs i)
    (p0 : Rows) (X : List ℕ) (hX : X.length = 2 ^ K)
    (hrows : ∀ i, i ≤ level → row p0 i = nttStd (tab T i) (X.map (· % modulus qs i))) :
    ∃ p1, divFloorManyNTT T qs level nb p0 = some p1 ∧ ∀ i, i ≤ level - nb →
      inttStd (tab T i) (row p1 i) = X.map fun x => (x / lastProd qs level nb) % modulus qs i := by
  obtain ⟨p1, h1, h2⟩ := divFloorManyNTT_limbs T qs level K nb hC hl hnb hT p0 X hX hrows
  refine ⟨p1, h1, fun i hi => ?_⟩
  rw [h2 i hi]
  exact intt_ntt_mod (hT i (by omega)).1 _ (hT i (by omega)).2 X hX _

theorem divRoundManyNTT_coeffs (nb : ℕ) (hC : Chain qs)
    (hl : level < qs.length) (hnb : nb ≤ level)
    (hT : ∀ i, i ≤ level → Valid (tab T i) K ∧ (tab T i).q = modulus qs i)
    (p0 : Rows) (X : List ℕ) (hX : X.length = 2 ^ K)
    (hrows : ∀ i, i ≤ level → row p0 i = nttStd (tab T i) (X.map (· % modulus qs i))) :
    ∃ p1, divRoundManyNTT T qs level nb p0 = some p1 ∧ ∀ i, i ≤ level - nb →
      inttStd (tab T i) (row p1 i) = X.map fun x => roundSeq qs level nb x % modulus qs i := by
  obtain ⟨p1, h1, h2⟩ := divRoundManyNTT_limbs T qs level K nb hC hl hnb hT p0 X hX hrows
  refine ⟨p1, h1, fun i hi => ?_⟩
  rw [h2 i hi]
  exact intt_ntt_mod (hT i (by omega)).1 _ (hT i (by omega)).2 X hX _

end

theorem chain_97_193 : Chain [97, 193] :=
  ⟨by intro q hq; simp at hq; rcases hq with rfl | rfl <;> norm_num,
   by intro q hq; simp at hq; rcases hq with rfl | rfl <;> rfl,
   by intro q hq; simp at hq; rcases hq with rfl | rfl <;> norm_num,
   by decide⟩

/-- `N = 8` tables of `q = 97, 193` (`97 = 6·16+1`, `193 = 12·16+1`, `5` a primitive root of both) -/
theorem valid8_97 : Valid (mkTables 8 97 16 5) 3 :=
  (mkTables_all 3 97 5 (by norm_num) (by decide) (by decide) (by decide +kernel)).1
theorem valid8_193 : Valid (mkTables 8 193 16 5) 3 :=
  (mkTables_all 3 193 5 (by norm_num) (by decide) (by decide) (by decide +kernel)).1

/-- `N = 16` tables of `q = 97, 193` (`97 = 3·32+1`, `193 = 6·32+1`) -/
theorem valid16_97 : Valid (mkTables 16 97 32 5) 4 :=
  (mkTables_all 4 97 5 (by norm_num) (by decide) (by decide) (by decide +kernel)).1
theorem valid16_193 : Valid (mkTables 16 193 32 5) 4 :=
  (mkTables_all 4 193 5 (by norm_num) (by decide) (by decide) (by decide +kernel)).1

theorem tabs8_ok : ∀ i, i ≤ 1 → Valid (tab (mkTabs 8 [97, 193] [5, 5]) i) 3
    ∧ (tab (mkTabs 8 [97, 193] [5, 5]) i).q = modulus [97, 193] i
  | 0, _ => ⟨valid8_97, rfl⟩
  | 1, _ => ⟨valid8_193, rfl⟩
  | i + 2, h => absurd h (by omega)

theorem tabs16_ok : ∀ i, i ≤ 1 → Valid (tab (mkTabs 16 [97, 193] [5, 5]) i) 4
    ∧ (tab (mkTabs 16 [97, 193] [5, 5]) i).q = modulus [97, 193] i
  | 0, _ => ⟨valid16_97, rfl⟩
  | 1, _ => ⟨valid16_193, rfl⟩
  | i + 2, h => absurd h (by omega)

/-- The witness of finding C02-4: `N = 8`, `qs = [97, 193]`, level 1, the ZERO polynomial in the NTT domain.  Before the
repair `DivFloorByLastModulusNTT` fed the LAZY last row (`INTTStandardLazy`, ring/ntt.go: `MRedLazy` for `N < 16`, values
in `[1, 2q−1]`, `0 ↦ q`) to the other moduli and returned `⌊x/q_ℓ⌋ − 1` (here the constant `96 = −1 mod 97`; on the
conjugate-invariant ring for every `N`).  With the reducing `INTT` the result is the zero polynomial. -/
theorem divFloorNTT_small_ring_repaired :
    let T8 := mkTabs 8 [97, 193] [5, 5]
    let qs := [97, 193]
    let X := List.replicate 8 0
    let p0 : Rows := [nttStd (tab T8 0) (List.replicate 8 0), nttStd (tab T8 1) (List.replicate 8 0)]
    Chain qs ∧ 1 < qs.length
    ∧ (∀ i, i ≤ 1 → Valid (tab T8 i) 3 ∧ (tab T8 i).q = modulus qs i)
    ∧ X.length = 2 ^ 3
    ∧ (∀ i, i ≤ 1 → row p0 i = nttStd (tab T8 i) (X.map (· % modulus qs i)))
    ∧ (divFloorNTT T8 qs 1 p0).map (inttStd (tab T8 0)) = [List.replicate 8 0]
    ∧ divFloorNTT T8 qs 1 p0 = (List.range 1).map fun i =>
        nttStd (tab T8 i) (X.map fun x => (x / modulus qs 1) % modulus qs i) := by
  intro T8 qs X p0
  have hrows : ∀ i, i ≤ 1 → row p0 i = nttStd (tab T8 i) (X.map (· % modulus qs i))
    | 0, _ => rfl
    | 1, _ => rfl
    | i + 2, h => absurd h (by omega)
  exact ⟨chain_97_193, by decide, tabs8_ok, rfl, hrows, by decide +kernel,
    divFloorNTT_limbs T8 qs 1 3 chain_97_193 (by decide) tabs8_ok p0 X rfl hrows⟩

-- `N = 8` (`K = 3`), a NON-zero polynomial
def exX8 : List ℕ := (List.range 8).map fun j => 2000 * j + 193 * 5
def exT8 : Tabs := mkTabs 8 [97, 193] [5, 5]
def exP0_8 : Rows := [nttStd (tab exT8 0) (exX8.map (· % 97)), nttStd (tab exT8 1) (exX8.map (· % 193))]
theorem exP0_8_rows : ∀ i, i ≤ 1 → row exP0_8 i = nttStd (tab exT8 i) (exX8.map (· % modulus [97, 193] i))
  | 0, _ => rfl
  | 1, _ => rfl
  | i + 2, h => absurd h (by omega)
example : divFloorNTT exT8 [97, 193] 1 exP0_8 = [nttStd (tab exT8 0) (exX8.map fun x => (x / 193) % 97)] :=
  divFloorNTT_limbs exT8 [97, 193] 1 3 chain_97_193 (by decide) tabs8_ok exP0_8 exX8 rfl exP0_8_rows
example : divRoundNTT exT8 [97, 193] 1 exP0_8 = [nttStd (tab exT8 0) (exX8.map fun x => ((x + 96) / 193) % 97)] :=
  divRoundNTT_limbs exT8 [97, 193] 1 3 chain_97_193 (by decide) tabs8_ok exP0_8 exX8 rfl exP0_8_rows

def exX : List ℕ := (List.range 16).map fun j => 1000 * j + 7
def exT16 : Tabs := mkTabs 16 [97, 193] [5, 5]
def exP0 : Rows := [nttStd (tab exT16 0) (exX.map (· % 97)), nttStd (tab exT16 1) (exX.map (· % 193))]

theorem exP0_rows : ∀ i, i ≤ 1 → row exP0 i = nttStd (tab exT16 i) (exX.map (· % modulus [97, 193] i))
  | 0, _ => rfl
  | 1, _ => rfl
  | i + 2, h => absurd h (by omega)

example : divFloorNTT exT16 [97, 193] 1 exP0
    = [nttStd (tab exT16 0) (exX.map fun x => (x / 193) % 97)] :=
  divFloorNTT_limbs exT16 [97, 193] 1 4 chain_97_193 (by decide) tabs16_ok exP0 exX rfl
    exP0_rows

example : divRoundNTT exT16 [97, 193] 1 exP0
    = [nttStd (tab exT16 0) (exX.map fun x => ((x + 96) / 193) % 97)] :=
  divRoundNTT_limbs exT16 [97, 193] 1 4 chain_97_193 (by decide) tabs16_ok exP0 exX rfl
    exP0_rows

example : ∃ p1, divFloorManyNTT exT16 [97, 193] 1 1 exP0 = some p1 ∧ ∀ i, i ≤ 1 - 1 →
    row p1 i = nttStd (tab exT16 i) (exX.map fun x => (x / lastProd [97, 193] 1 1) % modulus [97, 193] i) :=
  divFloorManyNTT_limbs exT16 [97, 193] 1 4 1 chain_97_193 (by decide) (by decide) tabs16_ok exP0 exX rfl
    exP0_rows

example : ∃ p1, divRoundManyNTT exT16 [97, 193] 1 1 exP0 = some p1 ∧ ∀ i, i ≤ 1 - 1 →
    row p1 i = nttStd (tab exT16 i) (exX.map fun x => roundSeq [97, 193] 1 1 x % modulus [97, 193] i) :=
  divRoundManyNTT_limbs exT16 [97, 193] 1 4 1 chain_97_193 (by decide) (by decide)
    tabs16_ok exP0 exX rfl exP0_rows

example : inttStd (tab exT16 0) (row (divFloorNTT exT16 [97, 193] 1 exP0) 0)
    = exX.map fun x => (x / 193) % 97 := by decide +kernel
example : inttStd (tab exT16 0) (row (divRoundNTT exT16 [97, 193] 1 exP0) 0)
    = exX.map fun x => ((x + 96) / 193) % 97 := by decide +kernel
example : (divFloorManyNTT (mkTabs 8 [97, 193] [5, 5]) [97, 193] 1 1
      [nttStd (tab (mkTabs 8 [97, 193] [5, 5]) 0) (List.replicate 8 0),
       nttStd (tab (mkTabs 8 [97, 193] [5, 5]) 1) (List.replicate 8 0)]).map
      (fun p => p.map (inttStd (tab (mkTabs 8 [97, 193] [5, 5]) 0)))
    = some [List.replicate 8 0] := by decide +kernel

example : (divRoundNTT (mkTabs 8 [97, 193] [5, 5]) [97, 193] 1
      [nttStd (tab (mkTabs 8 [97, 193] [5, 5]) 0) (List.replicate 8 0),
       nttStd (tab (mkTabs 8 [97, 193] [5, 5]) 1) (List.replicate 8 0)]).map
      (inttStd (tab (mkTabs 8 [97, 193] [5, 5]) 0))
    = [List.replicate 8 0] := by decide +kernel

#print axioms resNTT_row
#print axioms divNTT_row
#print axioms divFloorNTT_limbs
#print axioms divRoundNTT_limbs
#print axioms divFloorManyNTT_limbs
#print axioms divRoundManyNTT_limbs
#print axioms divFloorNTT_coeffs
#print axioms divRoundNTT_coeffs
#print axioms divFloorManyNTT_coeffs
#print axioms divRoundManyNTT_coeffs
#print axioms divFloorNTT_small_ring_repaired

end Lattigo.Scaling
