import Lattigo.Proofs.NTTRangeBig

/-!
  `NTTLazy` of ring `q` on LARGE inputs (`< M`, `M + 4q ≤ 2^64`, no relation between `M` and `q` otherwise) does not wrap,
  for EVERY ring degree `N = 2^K`: the unrolled schedule for `N ≥ 16`, the all-reducing plain loop for `N < 16`.  The name
  under which C02 cites `NTT.nttCoreLazy_abs` (Proofs/NTTInv.lean): `Div{Floor,Round}ByLastModulusNTT` and `DecomposeNTT`
  feed `NTTLazy` of ring `q_i` residues of a larger modulus.
-/
namespace Lattigo.NTT
open Lattigo Lattigo.Gen

section
variable {T : Tables} {K : ℕ}

theorem nttCoreLazy_big_all (hT : Valid T K) [Fact T.q.Prime] (M : ℕ)
    (hM : M + 4 * T.q ≤ W) (a : List ℕ) (ha : ∀ x ∈ a, x < M) :
    (nttCoreLazy T a).map (Nat.cast : ℕ → ZMod T.q)
      = fwdZ (rho T.q T.rootsF) K 1 (a.map (Nat.cast : ℕ → ZMod T.q))
    ∧ ∀ y ∈ nttCoreLazy T a, y < max M (4 * T.q) + 2 * T.q :=
  nttCoreLazy_abs hT M hM a ha

end

#print axioms nttCoreLazy_big_all

end Lattigo.NTT
