/-
  `DivFloorByLastModulus{,Many}` / `DivRoundByLastModulus{,Many}` (ring/scaling.go) in the coefficient domain: the limb-level
  twin (Montgomery constants, lazy values, uint64 wrap) computes, limb for limb, the residues of the integer quotient.
  Composition of Proofs/ScalingLimb.lean (limb = residue formula) with Proofs/ScalingInt.lean (residue formula = quotient).
-/
import Lattigo.Proofs.ScalingInt
import Lattigo.Proofs.ScalingLimb
import Lattigo.Proofs.ListLemmas

namespace Lattigo.Scaling
open Lattigo Lattigo.Gen

/-- An admissible moduli chain: distinct odd primes below 2^61. -/
structure Chain (qs : List Nat) : Prop where
  prime : ∀ q ∈ qs, Nat.Prime q
  odd   : ∀ q ∈ qs, q % 2 = 1
  small : ∀ q ∈ qs, q < 2 ^ 61
  nodup : qs.Nodup

theorem modulus_eq (qs : List Nat) (i : Nat) (h : i < qs.length) : modulus qs i = qs[i] := by
  unfold modulus
  simp [List.getD_eq_getElem?_getD, h]

theorem modulus_mem (qs : List Nat) (i : Nat) (h : i < qs.length) : modulus qs i ∈ qs := by
  rw [modulus_eq qs i h]; exact List.getElem_mem h

theorem Chain.lt_W {Q : List Nat} (hC : Chain Q) {q : Nat} (hq : q ∈ Q) : q < W :=
  Nat.lt_trans (hC.small q hq) (by decide)

theorem Chain.prime64 {Q : List Nat} (hC : Chain Q) : ∀ q ∈ Q, Nat.Prime q ∧ q < 2 ^ 64 :=
  fun q hq => ⟨hC.prime q hq, hC.lt_W hq⟩

theorem Chain.two_mul_le {Q : List Nat} (hC : Chain Q) {q : Nat} (hq : q ∈ Q) : 2 * q ≤ W := by
  have := hC.small q hq; unfold W; omega

theorem row_map_range (n : Nat) (f : Nat → List Nat) (i : Nat) (h : i < n) :
    row ((List.range n).map f) i = f i :=
  ListLemmas.getD_map_range f n i h

/-- what the limb lemmas ask of a pair `q_i ≠ q_j`; the Fermat inverse because distinct primes do not divide each other -/
theorem Chain.pair {qs : List Nat} (hC : Chain qs) (i j : Nat) (hi : i < qs.length) (hj : j < qs.length)
    (hij : i ≠ j) :
    (modulus qs i).Prime ∧ modulus qs i % 2 = 1 ∧ modulus qs i < 2 ^ 61 ∧ 0 < modulus qs j
    ∧ modulus qs j < 2 ^ 61
    ∧ (modulus qs j * invMod (modulus qs j) (modulus qs i)) % modulus qs i = 1 := by
  have hmi := modulus_mem qs i hi
  have hmj := modulus_mem qs j hj
  have hne : modulus qs i ≠ modulus qs j := by
    rw [modulus_eq qs i hi, modulus_eq qs j hj]
    exact fun h => hij ((List.Nodup.getElem_inj_iff hC.nodup).mp h)
  exact ⟨hC.prime _ hmi, hC.odd _ hmi, hC.small _ hmi, (hC.prime _ hmj).pos, hC.small _ hmj,
    invMod_spec _ _ (hC.prime _ hmi) (hC.lt_W hmi)
      fun h => hne ((Nat.prime_dvd_prime_iff_eq (hC.prime _ hmi) (hC.prime _ hmj)).mp h)⟩

theorem divFloorLimb_residues (qi ql x : Nat) (hp : qi.Prime) (hodd : qi % 2 = 1) (hqi : qi < 2 ^ 61)
    (hql0 : 0 < ql) (hql : ql < 2 ^ 61) (hinv : (ql * invMod ql qi) % qi = 1) :
    divFloorLimb qi ql (x % qi) (x % ql) = (x / ql) % qi := by
  have hxl := Nat.mod_lt x hql0
  rw [divFloorLimb_spec qi ql _ _ hodd hp.one_lt (invMod_lt _ _ hp.pos) (Nat.mod_lt _ hp.pos)
    (by unfold W; omega)]
  exact divFloorRes_spec qi ql _ x hp.pos hinv

/-- the code adds `(q_ℓ−1)/2` to both residues and divides (floored) -/
theorem divRoundLimb_residues (qi ql x : Nat) (hp : qi.Prime) (hodd : qi % 2 = 1) (hqi : qi < 2 ^ 61)
    (hql0 : 0 < ql) (hql : ql < 2 ^ 61) (hinv : (ql * invMod ql qi) % qi = 1) :
    divRoundLimb qi ql (x % qi) (roundLastLimb ql (x % ql)) = ((x + half ql) / ql) % qi := by
  rw [roundLastLimb_spec ql _ (Nat.mod_lt x hql0) (by unfold W; omega),
    divRoundLimb_spec qi ql _ _ hodd hp.one_lt (invMod_lt _ _ hp.pos) (Nat.mod_lt _ hp.pos)
      (Nat.mod_lt _ hql0) (by unfold W; omega),
    ← Nat.add_mod, Nat.mod_add_mod]
  exact divFloorRes_spec qi ql _ (x + half ql) hp.pos hinv

theorem divFloor_limbs (qs : List Nat) (hC : Chain qs) (level : Nat) (hl : level < qs.length)
    (p0 : Rows) (X : List Nat)
    (hrows : ∀ i, i ≤ level → row p0 i = X.map (· % modulus qs i)) :
    divFloor qs level p0 = (List.range level).map fun i => X.map fun x =>
      (x / modulus qs level) % modulus qs i := by
  unfold divFloor
  apply List.map_congr_left
  intro i hi
  have hi' : i < level := List.mem_range.mp hi
  obtain ⟨hp, hodd, hqi, hql0, hql, hinv⟩ := hC.pair i level (by omega) hl (by omega)
  rw [hrows i (Nat.le_of_lt hi'), hrows level (Nat.le_refl _), ListLemmas.zipWith_map_map]
  exact List.map_congr_left fun x _ => divFloorLimb_residues _ _ x hp hodd hqi hql0 hql hinv

-- the row hypothesis `hrows` and what `Chain.pair` provides, on an instance
example :
    let qs := [97, 193]; let X := [684, 12345, 0]
    let p0 : Rows := [X.map (· % 97), X.map (· % 193)]
    (∀ i, i ≤ 1 → row p0 i = X.map (· % modulus qs i))
    ∧ (∀ i, i ≤ 1 → modulus qs i % 2 = 1) ∧ (∀ i, i ≤ 1 → 1 < modulus qs i)
    ∧ (∀ i, i ≤ 1 → modulus qs i < 2 ^ 61)
    ∧ (∀ i, i < 1 → (modulus qs 1 * invMod (modulus qs 1) (modulus qs i)) % modulus qs i = 1)
    ∧ (∀ i, i < 1 → invMod (modulus qs 1) (modulus qs i) < modulus qs i) := by
  decide

theorem divRound_limbs (qs : List Nat) (hC : Chain qs) (level : Nat) (hl : level < qs.length)
    (p0 : Rows) (X : List Nat)
    (hrows : ∀ i, i ≤ level → row p0 i = X.map (· % modulus qs i)) :
    divRound qs level p0 = (List.range level).map fun i => X.map fun x =>
      ((x + half (modulus qs level)) / modulus qs level) % modulus qs i := by
  unfold divRound
  apply List.map_congr_left
  intro i hi
  have hi' : i < level := List.mem_range.mp hi
  obtain ⟨hp, hodd, hqi, hql0, hql, hinv⟩ := hC.pair i level (by omega) hl (by omega)
  rw [hrows i (Nat.le_of_lt hi'), hrows level (Nat.le_refl _), List.map_map, ListLemmas.zipWith_map_map]
  exact List.map_congr_left fun x _ => divRoundLimb_residues _ _ x hp hodd hqi hql0 hql hinv

/-- the product of the `nb` moduli `q_level, q_{level-1}, …` that `nb` successive divisions remove -/
def lastProd (qs : List Nat) : Nat → Nat → Nat
  | _, 0 => 1
  | level, nb + 1 => modulus qs level * lastProd qs (level - 1) nb

/-- `nb` successive round-half-up divisions by `q_level, q_{level-1}, …` of an integer -/
def roundSeq (qs : List Nat) : Nat → Nat → Nat → Nat
  | _, 0, x => x
  | level, nb + 1, x => roundSeq qs (level - 1) nb ((x + half (modulus qs level)) / modulus qs level)

theorem iterFloor_limbs (qs : List Nat) (hC : Chain qs) :
    ∀ (nb level : Nat) (p0 : Rows) (X : List Nat), level < qs.length → nb ≤ level →
    (∀ i, i ≤ level → row p0 i = X.map (· % modulus qs i)) →
    ∀ i, i ≤ level - nb →
      row (iterFloor qs nb level p0) i = X.map fun x => (x / lastProd qs level nb) % modulus qs i := by
  intro nb
  induction nb with
  | zero =>
    intro level p0 X _ _ hrows i hi
    simp only [iterFloor, lastProd, Nat.div_one]
    exact hrows i (by omega)
  | succ nb ih =>
    intro level p0 X hl hnb hrows i hi
    have hstep : ∀ k, k ≤ level - 1 →
        row (divFloor qs level p0) k = (X.map (· / modulus qs level)).map (· % modulus qs k) := by
      intro k hk
      rw [divFloor_limbs qs hC level hl p0 X hrows, row_map_range level _ k (by omega), List.map_map]
      rfl
    rw [iterFloor, lastProd, ih (level - 1) _ _ (by omega) (by omega) hstep i (by omega), List.map_map]
    exact List.map_congr_left fun x _ => by rw [Function.comp, Nat.div_div_eq_div_mul]

theorem iterRound_limbs (qs : List Nat) (hC : Chain qs) :
    ∀ (nb level : Nat) (p0 : Rows) (X : List Nat), level < qs.length → nb ≤ level →
    (∀ i, i ≤ level → row p0 i = X.map (· % modulus qs i)) →
    ∀ i, i ≤ level - nb →
      row (iterRound qs nb level p0) i = X.map fun x => roundSeq qs level nb x % modulus qs i := by
  intro nb
  induction nb with
  | zero =>
    intro level p0 X _ _ hrows i hi
    simp only [iterRound, roundSeq]
    exact hrows i (by omega)
  | succ nb ih =>
    intro level p0 X hl hnb hrows i hi
    have hstep : ∀ k, k ≤ level - 1 →
        row (divRound qs level p0) k
          = (X.map fun x => (x + half (modulus qs level)) / modulus qs level).map (· % modulus qs k) := by
      intro k hk
      rw [divRound_limbs qs hC level hl p0 X hrows, row_map_range level _ k (by omega), List.map_map]
      rfl
    rw [iterRound, ih (level - 1) _ _ (by omega) (by omega) hstep i (by omega), List.map_map]
    rfl

theorem odd_below {qs : List Nat} {level nb : Nat}
    (h : ∀ s, 0 < s → s < nb + 1 → modulus qs (level - s) % 2 = 1) :
    ∀ s, s < nb → modulus qs (level - 1 - s) % 2 = 1 := by
  intro s hs
  have := h (s + 1) (Nat.succ_pos _) (by omega)
  rwa [show level - (s + 1) = level - 1 - s by omega] at this

theorem lastProd_odd (qs : List Nat) :
    ∀ (nb level : Nat), (∀ s, s < nb → modulus qs (level - s) % 2 = 1) → lastProd qs level nb % 2 = 1
  | 0, _, _ => rfl
  | nb + 1, level, h => by
    have h0 : modulus qs level % 2 = 1 := h 0 (Nat.succ_pos _)
    rw [lastProd, Nat.mul_mod, h0, lastProd_odd qs nb (level - 1) (odd_below fun s _ hs => h s hs)]

/-- `q_level`, the first modulus divided by, may be even: `round_round` asks oddness of the second divisor only -/
theorem roundSeq_eq_of_odd_tail (qs : List Nat) :
    ∀ (nb level x : Nat), (∀ s, 0 < s → s < nb → modulus qs (level - s) % 2 = 1) →
      roundSeq qs level nb x = (x + half (lastProd qs level nb)) / lastProd qs level nb := by
  intro nb
  induction nb with
  | zero => intro level x _; simp [roundSeq, lastProd, half]
  | succ nb ih =>
    intro level x h
    have h' := odd_below h
    rw [roundSeq, lastProd, ih (level - 1) _ fun s _ hs => h' s hs]
    exact round_round (modulus qs level) (lastProd qs (level - 1) nb) x (lastProd_odd qs nb (level - 1) h')

theorem roundSeq_eq (qs : List Nat) :
    ∀ (nb level x : Nat), (∀ s, s < nb → modulus qs (level - s) % 2 = 1) →
      roundSeq qs level nb x = (x + half (lastProd qs level nb)) / lastProd qs level nb :=
  fun nb level x h => roundSeq_eq_of_odd_tail qs nb level x fun s _ hs => h s hs

theorem row_take (p : Rows) (n i : Nat) (h : i < n) : row (p.take n) i = row p i := by
  unfold row
  simp [List.getD_eq_getElem?_getD, h]

theorem divFloorMany_limbs (qs : List Nat) (hC : Chain qs) (level nb : Nat) (hl : level < qs.length)
    (hnb : nb ≤ level) (p0 : Rows) (X : List Nat)
    (hrows : ∀ i, i ≤ level → row p0 i = X.map (· % modulus qs i)) :
    ∃ p1, divFloorMany qs level nb p0 = some p1 ∧ ∀ i, i ≤ level - nb →
      row p1 i = X.map fun x => (x / lastProd qs level nb) % modulus qs i := by
  unfold divFloorMany
  by_cases h0 : nb = 0
  · subst h0
    refine ⟨p0.take (level + 1), by simp, ?_⟩
    intro i hi
    rw [row_take p0 (level + 1) i (by omega), hrows i (by omega)]
    simp [lastProd]
  · by_cases h1 : nb = 1
    · subst h1
      refine ⟨divFloor qs level p0, by simp, ?_⟩
      exact iterFloor_limbs qs hC 1 level p0 X hl hnb hrows
    · refine ⟨iterFloor qs nb level p0, ?_, iterFloor_limbs qs hC nb level p0 X hl hnb hrows⟩
      simp [h0, h1, Nat.not_lt.mpr hnb]

theorem divRoundMany_limbs (qs : List Nat) (hC : Chain qs) (level nb : Nat) (hl : level < qs.length)
    (hnb : nb ≤ level) (p0 : Rows) (X : List Nat)
    (hrows : ∀ i, i ≤ level → row p0 i = X.map (· % modulus qs i)) :
    ∃ p1, divRoundMany qs level nb p0 = some p1 ∧ ∀ i, i ≤ level - nb →
      row p1 i = X.map fun x => roundSeq qs level nb x % modulus qs i := by
  unfold divRoundMany
  by_cases h0 : nb = 0
  · subst h0
    refine ⟨p0.take (level + 1), by simp, ?_⟩
    intro i hi
    simp only [roundSeq]
    rw [row_take p0 (level + 1) i (by omega), hrows i (by omega)]
  · by_cases h1 : nb = 1
    · subst h1
      refine ⟨divRound qs level p0, by simp, ?_⟩
      exact iterRound_limbs qs hC 1 level p0 X hl hnb hrows
    · refine ⟨iterRound qs nb level p0, ?_, iterRound_limbs qs hC nb level p0 X hl hnb hrows⟩
      simp [h0, h1, Nat.not_lt.mpr hnb]

end Lattigo.Scaling
