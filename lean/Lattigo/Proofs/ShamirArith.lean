/-
  C15: square-and-multiply (`powLoop`, `powMod` of `Lattigo.Model.Shamir`) read in `ZMod q`, for any
  modulus.  Shared by the residue-level proofs (`ShamirScalar`) and the word-level ones (`GenScalar`).
-/
import Lattigo.Model.Shamir
import Lattigo.Proofs.SqMul
import Mathlib.FieldTheory.Finite.Basic

namespace Lattigo.Proofs.Shamir
open Lattigo.Model.Shamir

theorem subMod_lt {q a b : ℕ} (ha : a < q) (hb : b < q) : subMod q a b < q := by
  unfold subMod
  split <;> omega

theorem sqMul (q : ℕ) : SqMul q (powLoop q) where
  out _ _ _ := rfl
  stop f _ _ := by
    cases f with
    | zero => rfl
    | succ f => rw [powLoop, if_pos rfl]
  step f e x r h := by rw [powLoop, if_neg h]

/-- the fuel is the exponent itself, which is enough: `e < 2^e` -/
theorem cast_powLoop {q : ℕ} (fuel e x r : ℕ) (hf : e ≤ fuel) :
    ((powLoop q fuel e x r : ℕ) : ZMod q) = (r : ZMod q) * (x : ZMod q) ^ e :=
  (sqMul q).cast fuel e x r (Nat.lt_of_lt_of_le Nat.lt_two_pow_self (Nat.pow_le_pow_right Nat.zero_lt_two hf))

theorem cast_powMod {q : ℕ} (x e : ℕ) : ((powMod q x e : ℕ) : ZMod q) = (x : ZMod q) ^ e := by
  unfold powMod
  rw [cast_powLoop _ _ _ _ (Nat.le_refl e), ZMod.natCast_mod, Nat.cast_one, one_mul]

theorem cast_lagrangeCoeff_pow {q : ℕ} (this that : ℕ) :
    ((lagrangeCoeff q this that : ℕ) : ZMod q)
      = ((subMod q (that % q) (this % q) : ℕ) : ZMod q) ^ (q - 2) * (that : ZMod q) := by
  unfold lagrangeCoeff inverse
  rw [ZMod.natCast_mod, Nat.cast_mul, cast_powMod, ZMod.natCast_mod]

end Lattigo.Proofs.Shamir
