/-
  C15, pure mathematics: Lagrange interpolation at 0 over a field, in the list form the code uses.
  `Σ_{a ∈ l} f(a) · Π_{b ∈ l, b ≠ a} b/(b − a) = f(0)` for pairwise distinct nodes `l` and
  `deg f < |l|`  (Mathlib: `Lagrange.eq_interpolate`).
-/
import Mathlib.LinearAlgebra.Lagrange

namespace Lattigo.Proofs.Shamir
open Polynomial

variable {F : Type*} [Field F] [DecidableEq F]

/-- the Lagrange weight of node `a` among the nodes `l`, at `0`: `Π_{b ∈ l, b ≠ a} b/(b − a)`. -/
def weight (l : List F) (a : F) : F := ((l.filter (· ≠ a)).map fun b => b / (b - a)).prod

theorem eval_zero_basis (s : Finset F) (a : F) :
    eval 0 (Lagrange.basis s id a) = ∏ b ∈ s.erase a, b / (b - a) := by
  unfold Lagrange.basis
  rw [eval_prod]
  apply Finset.prod_congr rfl
  intro b _
  rw [Lagrange.basisDivisor, id, id, eval_mul, eval_C, eval_sub, eval_X, eval_C, zero_sub,
    ← neg_sub b a, inv_neg, neg_mul_neg, div_eq_inv_mul]

theorem weight_eq_finset (l : List F) (hl : l.Nodup) (a : F) :
    weight l a = ∏ b ∈ l.toFinset.erase a, b / (b - a) := by
  unfold weight
  have h : l.toFinset.erase a = (l.filter (· ≠ a)).toFinset := by
    ext b; simp [Finset.mem_erase, and_comm]
  rw [h, List.prod_toFinset _ (hl.filter _)]

theorem lagrange_zero_list (l : List F) (hl : l.Nodup) (f : F[X]) (hf : f.degree < l.length) :
    (l.map fun a => eval a f * weight l a).sum = eval 0 f := by
  have hinj : Set.InjOn (id : F → F) (l.toFinset : Set F) := Function.injective_id.injOn
  have hcard : l.toFinset.card = l.length := List.toFinset_card_of_nodup hl
  have hdeg : f.degree < l.toFinset.card := by rw [hcard]; exact hf
  have h := Lagrange.eq_interpolate (v := id) hinj hdeg
  have h0 : eval 0 f = ∑ a ∈ l.toFinset, eval a f * eval 0 (Lagrange.basis l.toFinset id a) := by
    conv_lhs => rw [h]
    rw [Lagrange.interpolate_apply, eval_finsetSum]
    apply Finset.sum_congr rfl
    intro a _
    simp [eval_mul, eval_C]
  rw [h0, ← List.sum_toFinset _ hl]
  apply Finset.sum_congr rfl
  intro a _
  rw [eval_zero_basis, weight_eq_finset l hl]

/-- polynomial with coefficient list `cs` (constant term first). -/
noncomputable def ofList : List F → F[X]
  | [] => 0
  | c :: cs => C c + X * ofList cs

omit [DecidableEq F] in
theorem degree_ofList_lt (cs : List F) : (ofList cs).degree < cs.length := by
  induction cs with
  | nil => rw [ofList, degree_zero]; exact WithBot.bot_lt_coe _
  | cons c cs ih =>
    rw [ofList]
    refine lt_of_le_of_lt (degree_add_le _ _) (max_lt ?_ ?_)
    · exact lt_of_le_of_lt degree_C_le (by exact_mod_cast Nat.succ_pos _)
    · rw [mul_comm, degree_mul_X, List.length_cons, Nat.cast_succ]
      exact WithBot.add_lt_add_right WithBot.one_ne_bot ih

omit [DecidableEq F] in
theorem eval_ofList_cons (x c : F) (cs : List F) :
    eval x (ofList (c :: cs)) = c + x * eval x (ofList cs) := by
  simp [ofList]

omit [DecidableEq F] in
theorem eval_zero_ofList (c : F) (cs : List F) : eval 0 (ofList (c :: cs)) = c := by
  simp [ofList]

end Lattigo.Proofs.Shamir
