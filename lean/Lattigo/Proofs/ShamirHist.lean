/-
  C15: history independence.  `genAdditiveShareSt` / `runCalls` (the model with the Combiner's scratch
  buffer `tmp2` threaded from call to call, `copy(prod, cmb.one)` kept as a step) do not depend on
  the scratch content, hence on the calls made before: every result is the pure `genAdditiveShare`.
-/
import Lattigo.Proofs.ShamirRecv

namespace Lattigo.Proofs.Shamir
open Lattigo.Model.Shamir

/-- every table entry has one word per modulus (true of `newCombiner`). -/
def TableWF (cmb : Combiner) : Prop := ∀ e ∈ cmb.table, e.2.length = cmb.ring.ms.length

theorem tableWF_newCombiner (r : RingQP) (own : ℕ) (others : List ℕ) (t : Int) :
    TableWF (newCombiner r own others t) := by
  intro e he
  simp only [newCombiner, List.mem_map] at he
  obtain ⟨spk, _, rfl⟩ := he
  simp [newCombiner]

theorem lookup_mem {α : Type} (l : List (ℕ × α)) (k : ℕ) (v : α) (h : l.lookup k = some v) : (k, v) ∈ l := by
  obtain ⟨l₁, l₂, rfl, _⟩ := List.lookup_eq_some_iff.mp h
  exact List.mem_append_right _ List.mem_cons_self

theorem mulScalars_length (ms a b : List ℕ) (ha : a.length = ms.length) (hb : b.length = ms.length) :
    (mulScalars ms a b).length = ms.length := by
  unfold mulScalars
  simp [List.length_zipWith, List.length_zip, ha, hb]

theorem lagrangeProdBuf_spec (ms : List ℕ) (table : List (ℕ × List ℕ)) (own : ℕ)
    (hwf : ∀ e ∈ table, e.2.length = ms.length) (acts prod : List ℕ) (hp : prod.length = ms.length) :
    (lagrangeProdBuf ms table own acts prod).1 = lagrangeProd ms table own acts prod ∧
    (lagrangeProdBuf ms table own acts prod).2.length = ms.length := by
  induction acts generalizing prod with
  | nil => exact ⟨rfl, hp⟩
  | cons a rest ih =>
    unfold lagrangeProdBuf lagrangeProd
    by_cases hx : a ≠ own
    · rw [if_pos hx, if_pos hx]
      by_cases hc : pointsCollide ms own a = true
      · rw [if_pos hc, if_pos hc]
        exact ⟨rfl, hp⟩
      · rw [if_neg hc, if_neg hc]
        cases hl : table.lookup a with
        | none => exact ⟨rfl, hp⟩
        | some c => exact ih _ (mulScalars_length ms prod c hp (hwf _ (lookup_mem table a c hl)))
    · rw [if_neg hx, if_neg hx]
      exact ih _ hp

theorem genAdditiveShareSt_spec (cmb : Combiner) (hwf : TableWF cmb) (tmp2 : List ℕ)
    (ht : tmp2.length = cmb.ring.ms.length) (actives : List ℕ) (ownPoint : ℕ) (share : QP) :
    (genAdditiveShareSt cmb tmp2 actives ownPoint share).1 = genAdditiveShare cmb actives ownPoint share ∧
    (genAdditiveShareSt cmb tmp2 actives ownPoint share).2.length = cmb.ring.ms.length := by
  unfold genAdditiveShareSt genAdditiveShare
  by_cases h1 : (actives.length : Int) < cmb.threshold
  · rw [if_pos h1, if_pos h1]
    exact ⟨rfl, ht⟩
  rw [if_neg h1, if_neg h1]
  by_cases h0 : cmb.threshold < 0
  · rw [if_pos h0, if_pos h0]
    exact ⟨rfl, ht⟩
  rw [if_neg h0, if_neg h0]
  -- `copy(prod, cmb.one)` overwrites the whole scratch buffer
  have hone : copyWords tmp2 (cmb.ring.ms.map fun q => 1 % q) = cmb.ring.ms.map fun q => 1 % q :=
    copyWords_eq _ _ (by rw [ht, List.length_map])
  obtain ⟨h1, h2⟩ := lagrangeProdBuf_spec cmb.ring.ms cmb.table ownPoint hwf
    (actives.take cmb.threshold.toNat) _ (List.length_map (fun q => 1 % q))
  dsimp only
  rw [hone, h1]
  exact ⟨rfl, h2⟩

theorem runCalls_eq_map (cmb : Combiner) (hwf : TableWF cmb) (calls : List Call) (tmp2 : List ℕ)
    (ht : tmp2.length = cmb.ring.ms.length) :
    runCalls cmb tmp2 calls = calls.map fun c => genAdditiveShare cmb c.actives c.ownPoint c.share := by
  induction calls generalizing tmp2 with
  | nil => rfl
  | cons c rest ih =>
    obtain ⟨h1, h2⟩ := genAdditiveShareSt_spec cmb hwf tmp2 ht c.actives c.ownPoint c.share
    simp only [runCalls, List.map_cons, h1]
    rw [ih _ h2]

end Lattigo.Proofs.Shamir
