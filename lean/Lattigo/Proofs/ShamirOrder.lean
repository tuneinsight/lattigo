/-
  C15: order independence (product loop of `GenAdditiveShare`, running sums of `AggregateShares`)
  and the share at a point that is `0` modulo a prime.
-/
import Lattigo.Proofs.ShamirRun

namespace Lattigo.Proofs.Shamir
open Lattigo.Model.Shamir

theorem sumMod_perm (q a : ℕ) {l₁ l₂ : List ℕ} (h : l₁.Perm l₂) : sumMod q a l₁ = sumMod q a l₂ := by
  unfold sumMod
  apply h.foldl_eq'
  intro x _ y _ z
  rw [Nat.mod_add_mod, Nat.mod_add_mod]
  congr 1
  omega

theorem mulScalars_right_comm (ms p c1 c2 : List ℕ) :
    mulScalars ms (mulScalars ms p c1) c2 = mulScalars ms (mulScalars ms p c2) c1 := by
  unfold mulScalars
  induction ms generalizing p c1 c2 with
  | nil => rfl
  | cons q ms ih =>
    cases p with
    | nil => simp
    | cons a p =>
      cases c1 with
      | nil => cases c2 <;> simp
      | cons x c1 =>
        cases c2 with
        | nil => simp
        | cons y c2 =>
          simp only [List.zip_cons_cons, List.zipWith_cons_cons, List.cons.injEq]
          refine ⟨?_, ih p c1 c2⟩
          rw [Nat.mod_mul_mod, Nat.mod_mul_mod, Nat.mul_right_comm]

/-- `hm`: with a point missing from the table, a collision and a miss may be met in either order (`err` vs `panic`) -/
theorem lagrangeProd_perm (ms : List ℕ) (table : List (ℕ × List ℕ)) (own : ℕ) {a b : List ℕ}
    (h : a.Perm b) (hm : ∀ x ∈ a, x ≠ own → ∃ c, table.lookup x = some c) :
    ∀ prod, lagrangeProd ms table own a prod = lagrangeProd ms table own b prod := by
  induction h with
  | nil => intro prod; rfl
  | @cons x l₁ l₂ _ ih =>
    intro prod
    have ih' := ih (fun z hz => hm z (List.mem_cons_of_mem _ hz))
    by_cases hx : x = own
    · rw [hx, lagrangeProd_cons_own, lagrangeProd_cons_own, ih']
    · obtain ⟨c, hc⟩ := hm x List.mem_cons_self hx
      rw [lagrangeProd_cons_found ms table hx hc, lagrangeProd_cons_found ms table hx hc, ih']
  | swap x y l =>
    intro prod
    by_cases hx : x = own <;> by_cases hy : y = own
    · rw [hx, hy]
    · obtain ⟨cy, hcy⟩ := hm y List.mem_cons_self hy
      rw [hx, lagrangeProd_cons_found ms table hy hcy, lagrangeProd_cons_own, lagrangeProd_cons_own,
        lagrangeProd_cons_found ms table hy hcy]
    · obtain ⟨cx, hcx⟩ := hm x (List.mem_cons_of_mem _ List.mem_cons_self) hx
      rw [hy, lagrangeProd_cons_found ms table hx hcx, lagrangeProd_cons_own, lagrangeProd_cons_own,
        lagrangeProd_cons_found ms table hx hcx]
    · obtain ⟨cx, hcx⟩ := hm x (List.mem_cons_of_mem _ List.mem_cons_self) hx
      obtain ⟨cy, hcy⟩ := hm y List.mem_cons_self hy
      rw [lagrangeProd_cons_found ms table hy hcy, lagrangeProd_cons_found ms table hx hcx,
        lagrangeProd_cons_found ms table hx hcx, lagrangeProd_cons_found ms table hy hcy,
        mulScalars_right_comm]
      cases pointsCollide ms own x <;> cases pointsCollide ms own y <;> rfl
  | trans h1 _ ih1 ih2 =>
    intro prod
    rw [ih1 hm, ih2 (fun z hz hne => hm z (h1.mem_iff.mpr hz) hne)]

theorem genAdditiveShare_perm (cmb : Combiner) (a₁ a₂ : List ℕ) (own : ℕ) (share : QP)
    (hlen : a₁.length = a₂.length)
    (h : (a₁.take cmb.threshold.toNat).Perm (a₂.take cmb.threshold.toNat))
    (hm : ∀ x ∈ a₁.take cmb.threshold.toNat, x ≠ own → ∃ c, cmb.table.lookup x = some c) :
    genAdditiveShare cmb a₁ own share = genAdditiveShare cmb a₂ own share := by
  unfold genAdditiveShare
  rw [hlen]
  simp only [lagrangeProd_perm cmb.ring.ms cmb.table own h hm]

theorem horner_zero_point (q x : ℕ) (hx : x % q = 0) (cs : List ℕ) :
    horner q x cs % q = cs.headD 0 % q := by
  cases cs with
  | nil => rfl
  | cons c rest =>
    cases rest with
    | nil => rfl
    | cons d rest => simp [horner, hx]

theorem aggregateAll_perm (r : RingQP) (N : ℕ) (acc : QP) (hacc : ShapedQP r N acc)
    {l₁ l₂ : List QP} (h : l₁.Perm l₂) (hl : ∀ s ∈ l₁, ShapedQP r N s) :
    aggregateAll r acc l₁ = aggregateAll r acc l₂ := by
  have hl2 : ∀ s ∈ l₂, ShapedQP r N s := fun s hs => hl s (h.mem_iff.mpr hs)
  lift acc to Tab r N using hacc
  lift l₁ to List (Tab r N) using hl
  lift l₂ to List (Tab r N) using hl2
  rw [aggregateAll_tab, aggregateAll_tab]
  refine congrArg Outcome.ok (tabQP_congr fun m hm k hk => sumMod_perm _ _ ?_)
  simpa only [List.map_map, Function.comp_def, ent_tabQP _ hm hk] using h.map fun c => ent c.rows m k

end Lattigo.Proofs.Shamir
