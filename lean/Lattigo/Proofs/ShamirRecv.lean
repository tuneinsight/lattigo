/-
  C15: receiver independence.  `evalPolyScalarInto` / `genShamirSecretShareInto` (the model with the
  receiver's previous content as an explicit argument, `p2.Copy(p1[last])` kept as a step) do not
  depend on that content when the receiver has the shape of the coefficient polynomials, and equal
  the receiver-free functions the headline theorems are about.
-/
import Lattigo.Proofs.ShamirRun

namespace Lattigo.Proofs.Shamir
open Lattigo.Model.Shamir

theorem evalPolyScalarInto_eq {nr N : ℕ} (ms : List ℕ) (x : ℕ) (polys : List Rows)
    (hsh : ∀ p ∈ polys, Shaped nr N p) (recv : Rows) (hr : Shaped nr N recv) :
    evalPolyScalarInto ms x polys recv = evalPolyScalarRows ms x polys := by
  induction polys with
  | nil => rfl
  | cons p rest ih =>
    cases rest with
    | nil =>
      simp only [evalPolyScalarInto, evalPolyScalarRows]
      rw [hr.eq_tab, (hsh p List.mem_cons_self).eq_tab, copyRows_tab]
    | cons p' rest' =>
      have := ih (fun c hc => hsh c (List.mem_cons_of_mem _ hc))
      simp only [evalPolyScalarInto, evalPolyScalarRows, this]

theorem genShamirSecretShareInto_eq (r : RingQP) (N x : ℕ) (sp : ShamirPoly)
    (hsh : ∀ c ∈ sp, ShapedQP r N c) (recv : QP) (hr : ShapedQP r N recv) :
    genShamirSecretShareInto r x sp recv = genShamirSecretShare r x sp := by
  unfold genShamirSecretShareInto genShamirSecretShare
  rw [evalPolyScalarInto_eq r.ms x (sp.map (·.rows)) (List.forall_mem_map.mpr fun c hc => (hsh c hc).2)
    recv.rows hr.2]

/-- `ring.EvalPolyScalar` without its initial `p2.Copy(p1[last])`: the Horner loop run from the
receiver's content, `p3 ← p3·x + pol[i]` for `i = last … 0` (what receiver independence excludes). -/
def evalPolyScalarNoCopy (ms : List ℕ) (x : ℕ) : List Rows → Rows → Rows
  | [], recv => recv
  | p :: rest, recv => addRows ms (mulScalarRows ms x (evalPolyScalarNoCopy ms x rest recv)) p

end Lattigo.Proofs.Shamir
