/-
  C15: the row/vector functions of `Lattigo.Model.Shamir`, word by word.  Rows of `nr` rows of `N` words are the
  tables `tab nr N f` of their words (`Shaped.eq_tab`), and each row function sends tables to the table of a scalar
  function of the words (`addRows_tab`, `scaleRows_tab`, `evalPolyScalarRows_tab`, …; `tabQP`, `aggregateAll_tab`,
  `share_tab` for `ringqp` polynomials).  `lift x to Tab r N using h` turns a polynomial of the ring's shape into
  its table.
  Between the two, the product loop of `GenAdditiveShare` on vectors of scalars: with the table of `newCombiner` it is
  the scalar loop per modulus (`lagrangeProd_newCombiner`); what each outcome says about the points gone through
  (`Verdict`, `lagrangeProd_verdict` and its corollaries); `genAdditiveShare` in terms of the loop
  (`genAdditiveShare_eq`, `_ok_inv`, `_err_inv`).
-/
import Lattigo.Model.Shamir
import Lattigo.Proofs.ShamirScalar
import Lattigo.Proofs.ListLemmas

namespace Lattigo.Proofs.Shamir
open Lattigo.Model.Shamir

/-- word `k` of row `m`. -/
def ent (rows : Rows) (m k : ℕ) : ℕ := (rows.getD m []).getD k 0

/-- `nr` rows of `N` words. -/
def Shaped (nr N : ℕ) (rows : Rows) : Prop :=
  rows.length = nr ∧ ∀ m, m < nr → (rows.getD m []).length = N

instance (nr N : ℕ) (rows : Rows) : Decidable (Shaped nr N rows) := by unfold Shaped; infer_instance

theorem rows_ext {nr N : ℕ} {a b : Rows} (ha : Shaped nr N a) (hb : Shaped nr N b)
    (h : ∀ m k, m < nr → k < N → ent a m k = ent b m k) : a = b := by
  apply ListLemmas.ext_getD [] (by rw [ha.1, hb.1])
  intro m hm
  rw [ha.1] at hm
  apply ListLemmas.ext_getD 0 (by rw [ha.2 m hm, hb.2 m hm])
  intro k hk
  rw [ha.2 m hm] at hk
  exact h m k hm hk

/-- the modulus of row `m`. -/
def modAt (ms : List ℕ) (m : ℕ) : ℕ := ms.getD m 0

theorem modAt_mem (ms : List ℕ) (m : ℕ) (h : m < ms.length) : modAt ms m ∈ ms := by
  unfold modAt
  simp only [List.getD_eq_getElem?_getD, List.getElem?_eq_getElem h, Option.getD_some]
  exact List.getElem_mem h

/-- the rows whose word `k` of row `m` is `f m k` -/
def tab (nr N : ℕ) (f : ℕ → ℕ → ℕ) : Rows := (List.range nr).map fun m => (List.range N).map (f m)

theorem shaped_tab (nr N : ℕ) (f : ℕ → ℕ → ℕ) : Shaped nr N (tab nr N f) :=
  ⟨by rw [tab, List.length_map, List.length_range], fun m hm => by
    rw [tab, ListLemmas.getD_map_range _ _ _ hm, List.length_map, List.length_range]⟩

theorem ent_tab {nr N m k : ℕ} (f : ℕ → ℕ → ℕ) (hm : m < nr) (hk : k < N) : ent (tab nr N f) m k = f m k := by
  rw [ent, tab, ListLemmas.getD_map_range _ _ _ hm, ListLemmas.getD_map_range _ _ _ hk]

theorem Shaped.eq_tab {nr N : ℕ} {a : Rows} (h : Shaped nr N a) : a = tab nr N (ent a) :=
  rows_ext h (shaped_tab nr N _) fun _ _ hm hk => (ent_tab _ hm hk).symm

theorem tab_congr {nr N : ℕ} {f g : ℕ → ℕ → ℕ} (h : ∀ m < nr, ∀ k < N, f m k = g m k) : tab nr N f = tab nr N g :=
  List.map_congr_left fun m hm => List.map_congr_left fun k hk =>
    h m (List.mem_range.mp hm) k (List.mem_range.mp hk)

theorem map_modAt {β : Type} {nr : ℕ} (ms : List ℕ) (hms : ms.length = nr) (g : ℕ → β) :
    ms.map g = (List.range nr).map fun m => g (modAt ms m) := by
  subst hms
  exact (ListLemmas.map_getD_range (d := 0) g ms).symm

theorem zipWith_ms_range {β γ : Type} {nr : ℕ} (F : ℕ → β → γ) (ms : List ℕ) (hms : ms.length = nr) (h : ℕ → β) :
    List.zipWith F ms ((List.range nr).map h) = (List.range nr).map fun m => F (modAt ms m) (h m) := by
  rw [← ListLemmas.zipWith_map_map F (modAt ms) h (List.range nr), ← map_modAt ms hms fun q => q, List.map_id']

theorem addRows_tab {nr N : ℕ} (ms : List ℕ) (hms : ms.length = nr) (f g : ℕ → ℕ → ℕ) :
    addRows ms (tab nr N f) (tab nr N g) = tab nr N fun m k => (f m k + g m k) % modAt ms m := by
  unfold addRows tab
  rw [List.zip_eq_zipWith, ListLemmas.zipWith_map_map, zipWith_ms_range _ ms hms]
  exact List.map_congr_left fun m _ => ListLemmas.zipWith_map_map _ _ _ _

theorem scaleRows_tab {nr N : ℕ} (ms : List ℕ) (hms : ms.length = nr) (f : ℕ → ℕ → ℕ) (g : ℕ → ℕ) :
    scaleRows ms (tab nr N f) (ms.map g) = tab nr N fun m k => f m k * g (modAt ms m) % modAt ms m := by
  unfold scaleRows tab
  rw [map_modAt ms hms g, List.zip_eq_zipWith, ListLemmas.zipWith_map_map, zipWith_ms_range _ ms hms]
  exact List.map_congr_left fun m _ => List.map_map

/-- `ring.MulScalar` is `MulRNSScalarMontgomery` by the scalar reduced modulo each modulus. -/
theorem mulScalarRows_eq_scaleRows (ms : List ℕ) (x : ℕ) (a : Rows) :
    mulScalarRows ms x a = scaleRows ms a (ms.map (x % ·)) := by
  unfold mulScalarRows scaleRows
  induction ms generalizing a with
  | nil => rfl
  | cons q ms ih =>
    cases a with
    | nil => rfl
    | cons row a =>
      rw [List.map_cons, List.zip_cons_cons, List.zipWith_cons_cons, List.zipWith_cons_cons, ih]

theorem mulScalarRows_tab {nr N : ℕ} (ms : List ℕ) (hms : ms.length = nr) (x : ℕ) (f : ℕ → ℕ → ℕ) :
    mulScalarRows ms x (tab nr N f) = tab nr N fun m k => f m k * (x % modAt ms m) % modAt ms m := by
  rw [mulScalarRows_eq_scaleRows, scaleRows_tab ms hms]

theorem evalPolyScalarRows_tab {nr N : ℕ} (ms : List ℕ) (hms : ms.length = nr) (x : ℕ) (f : ℕ → ℕ → ℕ) :
    ∀ fs : List (ℕ → ℕ → ℕ), evalPolyScalarRows ms x ((f :: fs).map (tab nr N)) =
      some (tab nr N fun m k => horner (modAt ms m) x ((f :: fs).map fun g => g m k))
  | [] => rfl
  | g :: fs => by
    rw [List.map_cons, List.map_cons, evalPolyScalarRows, ← List.map_cons, evalPolyScalarRows_tab ms hms x g fs]
    show some (addRows ms (mulScalarRows ms x (tab nr N _)) (tab nr N f)) = _
    rw [mulScalarRows_tab ms hms, addRows_tab ms hms]
    rfl

theorem copyWords_eq (dst src : List ℕ) (h : dst.length = src.length) : copyWords dst src = src := by
  unfold copyWords
  rw [h, List.take_length, ← h, List.drop_length, List.append_nil]

theorem copyRows_tab (nr N : ℕ) (f g : ℕ → ℕ → ℕ) : copyRows (tab nr N f) (tab nr N g) = tab nr N g := by
  unfold copyRows
  rw [List.drop_of_length_le (by rw [(shaped_tab nr N g).1, (shaped_tab nr N f).1]), List.append_nil]
  unfold tab
  rw [ListLemmas.zipWith_map_map]
  exact List.map_congr_left fun m _ => copyWords_eq _ _ (by rw [List.length_map, List.length_map])

theorem newCombiner_lookup (r : RingQP) (own : ℕ) (others : List ℕ) (t : Int) (a : ℕ)
    (ha : a ∈ others) (hne : a ≠ own) :
    (newCombiner r own others t).table.lookup a = some (r.ms.map fun q => lagrangeCoeff q own a) :=
  List.lookup_graph (fun spk => r.ms.map fun q => lagrangeCoeff q own spk)
    (List.mem_filter.mpr ⟨ha, decide_eq_true hne⟩)

theorem mulScalars_map (ms : List ℕ) (f g : ℕ → ℕ) :
    mulScalars ms (ms.map f) (ms.map g) = ms.map fun q => f q * g q % q := by
  unfold mulScalars
  induction ms with
  | nil => rfl
  | cons q ms ih => simp only [List.map_cons, List.zip_cons_cons, List.zipWith_cons_cons, ih]

theorem lagrangeProd_cons_own (ms : List ℕ) (table : List (ℕ × List ℕ)) (own : ℕ) (rest prod : List ℕ) :
    lagrangeProd ms table own (own :: rest) prod = lagrangeProd ms table own rest prod := by
  rw [lagrangeProd, if_neg fun h => h rfl]

theorem lagrangeProd_cons_found (ms : List ℕ) (table : List (ℕ × List ℕ)) {own x : ℕ} {c : List ℕ}
    (hx : x ≠ own) (hl : table.lookup x = some c) (rest prod : List ℕ) :
    lagrangeProd ms table own (x :: rest) prod =
      if pointsCollide ms own x then .err else lagrangeProd ms table own rest (mulScalars ms prod c) := by
  rw [lagrangeProd, if_pos hx, hl]

theorem lagrangeProd_newCombiner (r : RingQP) (own : ℕ) (others : List ℕ) (t : Int) (acts : List ℕ)
    (hmem : ∀ a ∈ acts, a ≠ own → a ∈ others)
    (hnc : ∀ a ∈ acts, a ≠ own → pointsCollide r.ms own a = false) (f : ℕ → ℕ) :
    lagrangeProd r.ms (newCombiner r own others t).table own acts (r.ms.map f) =
      .ok (r.ms.map fun q => lagProdScalar q own acts (f q)) := by
  induction acts generalizing f with
  | nil => rfl
  | cons a rest ih =>
    have ihr := ih (fun b hb => hmem b (List.mem_cons_of_mem _ hb))
      (fun b hb => hnc b (List.mem_cons_of_mem _ hb))
    unfold lagProdScalar
    rcases eq_or_ne a own with rfl | h
    · rw [lagrangeProd_cons_own, ihr]
      simp only [ne_eq, not_true_eq_false, if_false]
    · rw [lagrangeProd_cons_found r.ms _ h (newCombiner_lookup r own others t a (hmem a List.mem_cons_self h) h),
        hnc a List.mem_cons_self h, if_neg Bool.false_ne_true, mulScalars_map, ihr]
      simp only [ne_eq, h, not_false_eq_true, if_true]

theorem pointsCollide_eq_true_iff (ms : List ℕ) (a b : ℕ) :
    pointsCollide ms a b = true ↔ ∃ q ∈ ms, a % q = b % q := by
  unfold pointsCollide
  simp only [List.any_eq_true, beq_iff_eq]

/-- what an outcome of the loop says about the points gone through: `ok` — every one other than
`own` is in the table and none collides with `own`; `err` — one collides; `panic` — one is missing. -/
def Verdict (ms : List ℕ) (table : List (ℕ × List ℕ)) (own : ℕ) (acts : List ℕ) : Outcome (List ℕ) → Prop
  | .ok _ => ∀ a ∈ acts, a ≠ own → (∃ c, table.lookup a = some c) ∧ pointsCollide ms own a = false
  | .err => ∃ a ∈ acts, a ≠ own ∧ pointsCollide ms own a = true
  | .panic => ∃ a ∈ acts, a ≠ own ∧ table.lookup a = none

theorem Verdict.cons {ms : List ℕ} {table : List (ℕ × List ℕ)} {own x : ℕ} {rest : List ℕ}
    {o : Outcome (List ℕ)}
    (hx : x ≠ own → (∃ c, table.lookup x = some c) ∧ pointsCollide ms own x = false)
    (h : Verdict ms table own rest o) : Verdict ms table own (x :: rest) o := by
  cases o with
  | ok p =>
    intro a ha hne
    rcases List.mem_cons.mp ha with rfl | ha
    · exact hx hne
    · exact h a ha hne
  | err => obtain ⟨a, ha, h⟩ := h; exact ⟨a, List.mem_cons_of_mem _ ha, h⟩
  | panic => obtain ⟨a, ha, h⟩ := h; exact ⟨a, List.mem_cons_of_mem _ ha, h⟩

theorem lagrangeProd_verdict (ms : List ℕ) (table : List (ℕ × List ℕ)) (own : ℕ) (acts prod : List ℕ) :
    Verdict ms table own acts (lagrangeProd ms table own acts prod) := by
  induction acts generalizing prod with
  | nil => intro a ha; cases ha
  | cons x rest ih =>
    unfold lagrangeProd
    by_cases hx : x ≠ own
    · rw [if_pos hx]
      by_cases hcx : pointsCollide ms own x = true
      · rw [if_pos hcx]
        exact ⟨x, List.mem_cons_self, hx, hcx⟩
      · rw [if_neg hcx]
        cases hl : table.lookup x with
        | none => exact ⟨x, List.mem_cons_self, hx, hl⟩
        | some c => exact (ih _).cons fun _ => ⟨⟨c, hl⟩, Bool.eq_false_iff.mpr hcx⟩
    · rw [if_neg hx]
      exact (ih _).cons fun h => absurd h hx

theorem lagrangeProd_ok_inv (ms : List ℕ) (table : List (ℕ × List ℕ)) (own : ℕ) (acts : List ℕ)
    (prod p : List ℕ) (h : lagrangeProd ms table own acts prod = .ok p) :
    ∀ a ∈ acts, a ≠ own → (∃ c, table.lookup a = some c) ∧ pointsCollide ms own a = false := by
  have := lagrangeProd_verdict ms table own acts prod
  rwa [h] at this

theorem lagrangeProd_err_inv (ms : List ℕ) (table : List (ℕ × List ℕ)) (own : ℕ) (acts : List ℕ)
    (prod : List ℕ) (h : lagrangeProd ms table own acts prod = .err) :
    ∃ a ∈ acts, a ≠ own ∧ pointsCollide ms own a = true := by
  have := lagrangeProd_verdict ms table own acts prod
  rwa [h] at this

theorem lagrangeProd_collide_not_ok (ms : List ℕ) (table : List (ℕ × List ℕ)) (own : ℕ) (acts : List ℕ)
    (hc : ∃ a ∈ acts, a ≠ own ∧ pointsCollide ms own a = true) (prod p : List ℕ) :
    lagrangeProd ms table own acts prod ≠ .ok p := by
  intro h
  obtain ⟨a, ha, hne, hca⟩ := hc
  rw [(lagrangeProd_ok_inv ms table own acts prod p h a ha hne).2] at hca
  cases hca

theorem lagrangeProd_collide_err (ms : List ℕ) (table : List (ℕ × List ℕ)) (own : ℕ) (acts : List ℕ)
    (hm : ∀ a ∈ acts, a ≠ own → ∃ c, table.lookup a = some c)
    (hc : ∃ a ∈ acts, a ≠ own ∧ pointsCollide ms own a = true) (prod : List ℕ) :
    lagrangeProd ms table own acts prod = .err := by
  have hv := lagrangeProd_verdict ms table own acts prod
  cases h : lagrangeProd ms table own acts prod with
  | ok p => exact absurd h (lagrangeProd_collide_not_ok ms table own acts hc prod p)
  | err => rfl
  | panic =>
    rw [h] at hv
    obtain ⟨a, ha, hne, hl⟩ := hv
    obtain ⟨c, hc'⟩ := hm a ha hne
    rw [hl] at hc'
    cases hc'

theorem pointsCollide_false_of_distinct (ms : List ℕ) (S : List ℕ)
    (hdist : ∀ q ∈ ms, DistinctMod q S) (a b : ℕ) (ha : a ∈ S) (hb : b ∈ S) (hne : a ≠ b) :
    pointsCollide ms a b = false := by
  rw [Bool.eq_false_iff, Ne, pointsCollide_eq_true_iff]
  rintro ⟨q, hq, heq⟩
  exact hne ((hdist q hq).inj ha hb heq)

theorem genAdditiveShare_eq (cmb : Combiner) (actives : List ℕ) (own : ℕ) (share : QP)
    (h1 : ¬ (actives.length : Int) < cmb.threshold) (h0 : ¬ cmb.threshold < 0) :
    genAdditiveShare cmb actives own share =
      (lagrangeProd cmb.ring.ms cmb.table own (actives.take cmb.threshold.toNat)
        (cmb.ring.ms.map fun q => 1 % q)).bind fun prod =>
          .ok ⟨cmb.ring.nq, scaleRows cmb.ring.ms share.rows prod⟩ := by
  unfold genAdditiveShare
  rw [if_neg h1, if_neg h0]
  dsimp only
  cases lagrangeProd cmb.ring.ms cmb.table own (actives.take cmb.threshold.toNat)
    (cmb.ring.ms.map fun q => 1 % q) <;> rfl

theorem genAdditiveShare_ok_inv {cmb : Combiner} {actives : List ℕ} {own : ℕ} {share s : QP}
    (h : genAdditiveShare cmb actives own share = .ok s) :
    ∃ prod, lagrangeProd cmb.ring.ms cmb.table own (actives.take cmb.threshold.toNat)
      (cmb.ring.ms.map fun q => 1 % q) = .ok prod := by
  by_cases h1 : (actives.length : Int) < cmb.threshold
  · rw [genAdditiveShare, if_pos h1] at h; cases h
  by_cases h0 : cmb.threshold < 0
  · rw [genAdditiveShare, if_neg h1, if_pos h0] at h; cases h
  rw [genAdditiveShare_eq cmb actives own share h1 h0] at h
  cases hl : lagrangeProd cmb.ring.ms cmb.table own (actives.take cmb.threshold.toNat)
      (cmb.ring.ms.map fun q => 1 % q) with
  | ok prod => exact ⟨prod, rfl⟩
  | err => rw [hl] at h; cases h
  | panic => rw [hl] at h; cases h

theorem genAdditiveShare_err_inv {cmb : Combiner} {actives : List ℕ} {own : ℕ} {share : QP}
    (h : genAdditiveShare cmb actives own share = .err) :
    (actives.length : Int) < cmb.threshold ∨
      lagrangeProd cmb.ring.ms cmb.table own (actives.take cmb.threshold.toNat)
        (cmb.ring.ms.map fun q => 1 % q) = .err := by
  by_cases h1 : (actives.length : Int) < cmb.threshold
  · exact Or.inl h1
  by_cases h0 : cmb.threshold < 0
  · rw [genAdditiveShare, if_neg h1, if_pos h0] at h; cases h
  rw [genAdditiveShare_eq cmb actives own share h1 h0] at h
  cases hl : lagrangeProd cmb.ring.ms cmb.table own (actives.take cmb.threshold.toNat)
      (cmb.ring.ms.map fun q => 1 % q) with
  | ok prod => rw [hl] at h; cases h
  | err => exact Or.inr rfl
  | panic => rw [hl] at h; cases h

/-- a `ringqp.Poly` at the (full) level of ring `r`, ring degree `N`. -/
def ShapedQP (r : RingQP) (N : ℕ) (x : QP) : Prop := x.nq = r.nq ∧ Shaped r.ms.length N x.rows

instance (r : RingQP) (N : ℕ) (x : QP) : Decidable (ShapedQP r N x) := by unfold ShapedQP; infer_instance

theorem atCounts_self (r : RingQP) :
    r.atCounts r.nq (r.ms.length - r.nq) = r := by
  unfold RingQP.atCounts
  have h1 : (r.ms.take r.nq).take r.nq = r.ms.take r.nq := by rw [List.take_take]; simp
  have h2 : (r.ms.drop r.nq).take (r.ms.length - r.nq) = r.ms.drop r.nq := by
    apply List.take_of_length_le; simp
  rw [h1, h2, List.take_append_drop, Nat.min_self]

/-- the `ringqp.Poly` of ring `r` whose words are `f` -/
def tabQP (r : RingQP) (N : ℕ) (f : ℕ → ℕ → ℕ) : QP := ⟨r.nq, tab r.ms.length N f⟩

theorem shapedQP_tab (r : RingQP) (N : ℕ) (f : ℕ → ℕ → ℕ) : ShapedQP r N (tabQP r N f) :=
  ⟨rfl, shaped_tab _ _ f⟩

theorem ShapedQP.eq_tab {r : RingQP} {N : ℕ} {x : QP} (h : ShapedQP r N x) : x = tabQP r N (ent x.rows) := by
  cases x
  exact congr (congrArg QP.mk h.1) h.2.eq_tab

/-- a table of words, tagged with the ring and the degree: `CanLift` finds the coercion from the target type alone,
so the target type has to name them -/
abbrev Tab (_r : RingQP) (_N : ℕ) : Type := ℕ → ℕ → ℕ

/-- `lift x to Tab r N using h` (`lift l to List (Tab r N) using h` for lists) replaces polynomials of the ring's
shape by the tables of their words -/
instance (r : RingQP) (N : ℕ) : CanLift QP (Tab r N) (tabQP r N) (ShapedQP r N) :=
  ⟨fun x h => ⟨ent x.rows, h.eq_tab.symm⟩⟩

theorem tabQP_congr {r : RingQP} {N : ℕ} {f g : ℕ → ℕ → ℕ} (h : ∀ m < r.ms.length, ∀ k < N, f m k = g m k) :
    tabQP r N f = tabQP r N g :=
  congrArg (QP.mk r.nq) (tab_congr h)

theorem ent_tabQP {r : RingQP} {N m k : ℕ} (f : ℕ → ℕ → ℕ) (hm : m < r.ms.length) (hk : k < N) :
    ent (tabQP r N f).rows m k = f m k :=
  ent_tab f hm hk

theorem zeroQP_tab (r : RingQP) (N : ℕ) : zeroQP r N = tabQP r N fun _ _ => 0 := by
  unfold zeroQP tabQP tab
  rw [List.map_const', List.map_const', List.map_const', List.length_range, List.length_range]

theorem shapedQP_zero (r : RingQP) (N : ℕ) : ShapedQP r N (zeroQP r N) :=
  zeroQP_tab r N ▸ shapedQP_tab r N _

theorem aggregateShares_ok (r : RingQP) (N : ℕ) (a b : QP)
    (ha : ShapedQP r N a) (hb : ShapedQP r N b) :
    aggregateShares r a b a = .ok (addQP r a b) := by
  unfold aggregateShares
  have : ¬ (a.nq ≠ b.nq ∨ a.nq ≠ a.nq ∨ a.rows.length - a.nq ≠ b.rows.length - b.nq ∨
      a.rows.length - a.nq ≠ a.rows.length - a.nq) := by
    rw [ha.1, hb.1, ha.2.1, hb.2.1]; simp
  rw [if_neg this, ha.1, ha.2.1, atCounts_self r]

theorem addQP_tab (r : RingQP) (N : ℕ) (f g : ℕ → ℕ → ℕ) :
    addQP r (tabQP r N f) (tabQP r N g) = tabQP r N fun m k => (f m k + g m k) % modAt r.ms m :=
  congrArg (QP.mk r.nq) (addRows_tab r.ms rfl f g)

theorem scaleRows_tabQP (r : RingQP) (N : ℕ) (f : ℕ → ℕ → ℕ) (g : ℕ → ℕ) :
    (⟨r.nq, scaleRows r.ms (tabQP r N f).rows (r.ms.map g)⟩ : QP) =
      tabQP r N fun m k => f m k * g (modAt r.ms m) % modAt r.ms m :=
  congrArg (QP.mk r.nq) (scaleRows_tab r.ms rfl f g)

theorem share_tab (r : RingQP) (N x : ℕ) (fs : List (Tab r N)) (hne : fs ≠ []) :
    genShamirSecretShare r x (fs.map (tabQP r N)) =
      .ok (tabQP r N fun m k => horner (modAt r.ms m) x (fs.map fun g => g m k)) := by
  obtain ⟨f, fs, rfl⟩ := List.exists_cons_of_ne_nil hne
  unfold genShamirSecretShare
  rw [List.map_map]
  show (match evalPolyScalarRows r.ms x ((f :: fs).map (tab r.ms.length N)) with
    | none => Outcome.panic
    | some rows => Outcome.ok (QP.mk r.nq rows)) = _
  rw [evalPolyScalarRows_tab r.ms rfl]
  rfl

theorem aggregateAll_tab (r : RingQP) (N : ℕ) : ∀ (gs : List (ℕ → ℕ → ℕ)) (f : ℕ → ℕ → ℕ),
    aggregateAll r (tabQP r N f) (gs.map (tabQP r N)) =
      .ok (tabQP r N fun m k => sumMod (modAt r.ms m) (f m k) (gs.map fun g => g m k))
  | [], _ => rfl
  | g :: gs, f => by
    rw [List.map_cons, aggregateAll, aggregateShares_ok r N _ _ (shapedQP_tab r N f) (shapedQP_tab r N g)]
    show aggregateAll r (addQP r (tabQP r N f) (tabQP r N g)) _ = _
    rw [addQP_tab, aggregateAll_tab r N gs]
    rfl

end Lattigo.Proofs.Shamir
