/-
  C15: the protocol-level functions of `Lattigo.Model.Shamir` (`genShamirSecretShare`,
  `genAdditiveShare`, `partyAdditiveShare`, `thresholdRun`) succeed on well-shaped inputs and
  every output word is given by the scalar functions.
-/
import Lattigo.Proofs.ShamirRows

namespace Lattigo.Proofs.Shamir
open Lattigo.Model.Shamir

/-- the fold by which `partyAdditiveShare` collects the dealers' shares and `thresholdRun` the parties' additive
shares -/
theorem foldr_bind_ok {α β : Type} (f : α → Outcome β) (g : α → β) (l : List α)
    (h : ∀ a ∈ l, f a = .ok (g a)) :
    l.foldr (fun a acc => (f a).bind fun s => acc.bind fun l => .ok (s :: l)) (.ok []) = .ok (l.map g) := by
  induction l with
  | nil => rfl
  | cons a rest ih =>
    rw [List.foldr_cons, ih (fun b hb => h b (List.mem_cons_of_mem _ hb)), h a List.mem_cons_self]
    rfl

theorem foldr_bind_err {α β : Type} (f : α → Outcome β) (l : List α)
    (hall : ∀ a ∈ l, (∃ s, f a = .ok s) ∨ f a = .err) (hex : ∃ a ∈ l, f a = .err) :
    l.foldr (fun a acc => (f a).bind fun s => acc.bind fun l => .ok (s :: l)) (.ok []) = .err := by
  induction l with
  | nil =>
    obtain ⟨a, ha, _⟩ := hex
    cases ha
  | cons a rest ih =>
    rw [List.foldr_cons]
    rcases hall a List.mem_cons_self with ⟨s, hs⟩ | he
    · obtain ⟨b, hb, hbe⟩ := hex
      rcases List.mem_cons.mp hb with rfl | hb
      · rw [hs] at hbe
        cases hbe
      · rw [ih (fun c hc => hall c (List.mem_cons_of_mem _ hc)) ⟨b, hb, hbe⟩, hs]
        rfl
    · rw [he]
      rfl

theorem aggregateAll_zero_map {α : Type} (r : RingQP) (N : ℕ) (l : List α) (e : α → Tab r N) :
    aggregateAll r (zeroQP r N) (l.map fun a => tabQP r N (e a)) =
      .ok (tabQP r N fun m k => sumMod (modAt r.ms m) 0 (l.map fun a => e a m k)) := by
  rw [zeroQP_tab, show (l.map fun a => tabQP r N (e a)) = (l.map e).map (tabQP r N) from
      (List.map_map (g := tabQP r N) (f := e)).symm,
    aggregateAll_tab]
  simp only [List.map_map, Function.comp_def]

theorem genAdditiveShare_ok (r : RingQP) (t : ℕ) (own : ℕ) (others acts : List ℕ) (share : QP)
    (hlen : t ≤ acts.length) (hmem : ∀ a ∈ acts.take t, a ≠ own → a ∈ others)
    (hnc : ∀ a ∈ acts.take t, a ≠ own → pointsCollide r.ms own a = false) :
    genAdditiveShare (newCombiner r own others t) acts own share =
      .ok ⟨r.nq, scaleRows r.ms share.rows (r.ms.map fun q => lagProdScalar q own (acts.take t) (1 % q))⟩ := by
  rw [genAdditiveShare_eq _ acts own share (by simp only [newCombiner]; omega)
    (by simp only [newCombiner]; omega)]
  exact congrArg (Outcome.bind · _)
    (lagrangeProd_newCombiner r own others t (acts.take t) hmem hnc (fun q => 1 % q))

theorem genAdditiveShare_collide_err (r : RingQP) (t : ℕ) (own : ℕ) (others acts : List ℕ) (share : QP)
    (hmem : ∀ a ∈ acts.take t, a ≠ own → a ∈ others)
    (hc : ∃ a ∈ acts.take t, a ≠ own ∧ pointsCollide r.ms own a = true) :
    genAdditiveShare (newCombiner r own others t) acts own share = .err := by
  by_cases h1 : (acts.length : Int) < (newCombiner r own others t).threshold
  · rw [genAdditiveShare, if_pos h1]
  · rw [genAdditiveShare_eq _ acts own share h1 (by simp only [newCombiner]; omega)]
    exact congrArg (Outcome.bind · _) (lagrangeProd_collide_err r.ms _ own (acts.take t)
      (fun a ha hne => ⟨_, newCombiner_lookup r own others t a (hmem a ha hne) hne⟩) hc _)

theorem genAdditiveShare_tab (r : RingQP) (N t : ℕ) (own : ℕ) (others acts : List ℕ) (f : Tab r N)
    (hlen : t ≤ acts.length) (hmem : ∀ a ∈ acts.take t, a ≠ own → a ∈ others)
    (hnc : ∀ a ∈ acts.take t, a ≠ own → pointsCollide r.ms own a = false) :
    genAdditiveShare (newCombiner r own others t) acts own (tabQP r N f) =
      .ok (tabQP r N fun m k =>
        f m k * lagProdScalar (modAt r.ms m) own (acts.take t) (1 % modAt r.ms m) % modAt r.ms m) :=
  (genAdditiveShare_ok r t own others acts _ hlen hmem hnc).trans
    (congrArg Outcome.ok (scaleRows_tabQP r N f _))

theorem party_prefix (r : RingQP) (N t : ℕ) (Fs : List (List (Tab r N))) (hne : ∀ fs ∈ Fs, fs ≠ []) (p : Party) :
    partyAdditiveShare r t (zeroQP r N) (Fs.map (List.map (tabQP r N))) p =
      genAdditiveShare (newCombiner r p.own p.others t) p.actives p.own (tabQP r N fun m k =>
        sumMod (modAt r.ms m) 0 (Fs.map fun fs => horner (modAt r.ms m) p.own (fs.map fun g => g m k))) := by
  unfold partyAdditiveShare
  rw [List.foldr_map, foldr_bind_ok _ _ Fs fun fs hfs => share_tab r N p.own fs (hne fs hfs)]
  show (aggregateAll r (zeroQP r N) (Fs.map fun fs => tabQP r N _)).bind _ = _
  rw [aggregateAll_zero_map]
  rfl

theorem party_spec (r : RingQP) (N t : ℕ) (Fs : List (List (Tab r N))) (hne : ∀ fs ∈ Fs, fs ≠ []) (p : Party)
    (hlen : t ≤ p.actives.length) (hmem : ∀ a ∈ p.actives.take t, a ≠ p.own → a ∈ p.others)
    (hnc : ∀ a ∈ p.actives.take t, a ≠ p.own → pointsCollide r.ms p.own a = false) :
    partyAdditiveShare r t (zeroQP r N) (Fs.map (List.map (tabQP r N))) p = .ok (tabQP r N fun m k =>
      sumMod (modAt r.ms m) 0 (Fs.map fun fs => horner (modAt r.ms m) p.own (fs.map fun g => g m k))
        * lagProdScalar (modAt r.ms m) p.own (p.actives.take t) (1 % modAt r.ms m) % modAt r.ms m) := by
  rw [party_prefix r N t Fs hne]
  exact genAdditiveShare_tab r N t p.own p.others p.actives _ hlen hmem hnc

theorem party_collide_err (r : RingQP) (N t : ℕ) (Fs : List (List (Tab r N))) (hne : ∀ fs ∈ Fs, fs ≠ []) (p : Party)
    (hmem : ∀ a ∈ p.actives.take t, a ≠ p.own → a ∈ p.others)
    (hc : ∃ a ∈ p.actives.take t, a ≠ p.own ∧ pointsCollide r.ms p.own a = true) :
    partyAdditiveShare r t (zeroQP r N) (Fs.map (List.map (tabQP r N))) p = .err := by
  rw [party_prefix r N t Fs hne]
  exact genAdditiveShare_collide_err r t p.own p.others p.actives _ hmem hc

theorem run_err (r : RingQP) (N t : ℕ) (Fs : List (List (Tab r N))) (hne : ∀ fs ∈ Fs, fs ≠ []) (parties : List Party)
    (hp : ∀ p ∈ parties, t ≤ p.actives.length ∧ ∀ a ∈ p.actives.take t, a ≠ p.own → a ∈ p.others)
    (hc : ∃ p ∈ parties, ∃ a ∈ p.actives.take t, a ≠ p.own ∧ pointsCollide r.ms p.own a = true) :
    thresholdRun r t (zeroQP r N) (Fs.map (List.map (tabQP r N))) parties = .err := by
  unfold thresholdRun
  rw [foldr_bind_err (partyAdditiveShare r t (zeroQP r N) _) parties
    (fun p hpp => by
      by_cases hc : ∃ a ∈ p.actives.take t, a ≠ p.own ∧ pointsCollide r.ms p.own a = true
      · exact Or.inr (party_collide_err r N t Fs hne p (hp p hpp).2 hc)
      · exact Or.inl ⟨_, party_spec r N t Fs hne p (hp p hpp).1 (hp p hpp).2
          fun a ha hn => Bool.eq_false_iff.mpr fun h => hc ⟨a, ha, hn, h⟩⟩)
    (by
      obtain ⟨p, hpp, hcp⟩ := hc
      exact ⟨p, hpp, party_collide_err r N t Fs hne p (hp p hpp).2 hcp⟩)]
  rfl

theorem run_spec (r : RingQP) (N t : ℕ) (Fs : List (List (Tab r N))) (hne : ∀ fs ∈ Fs, fs ≠ []) (parties : List Party)
    (hp : ∀ p ∈ parties, t ≤ p.actives.length ∧ (∀ a ∈ p.actives.take t, a ≠ p.own → a ∈ p.others) ∧
      ∀ a ∈ p.actives.take t, a ≠ p.own → pointsCollide r.ms p.own a = false) :
    thresholdRun r t (zeroQP r N) (Fs.map (List.map (tabQP r N))) parties =
      .ok (tabQP r N fun m k => sumMod (modAt r.ms m) 0 (parties.map fun p =>
        sumMod (modAt r.ms m) 0 (Fs.map fun fs => horner (modAt r.ms m) p.own (fs.map fun g => g m k))
          * lagProdScalar (modAt r.ms m) p.own (p.actives.take t) (1 % modAt r.ms m) % modAt r.ms m)) := by
  unfold thresholdRun
  rw [foldr_bind_ok _ _ parties fun p hpp => party_spec r N t Fs hne p (hp p hpp).1 (hp p hpp).2.1 (hp p hpp).2.2]
  exact aggregateAll_zero_map r N parties _

theorem dealers_tab {r : RingQP} {N t : ℕ} {dealers : List ShamirPoly} (ht : 1 ≤ t)
    (hd : ∀ sp ∈ dealers, sp.length = t ∧ ∀ c ∈ sp, ShapedQP r N c) :
    ∃ Fs : List (List (Tab r N)), dealers = Fs.map (List.map (tabQP r N)) ∧ (∀ fs ∈ Fs, fs.length = t) ∧
      ∀ fs ∈ Fs, fs ≠ [] := by
  lift dealers to List (List (Tab r N)) using fun sp h => (hd sp h).2
  have hlen : ∀ fs ∈ dealers, fs.length = t := fun fs h => by simpa using (hd _ (List.mem_map_of_mem h)).1
  exact ⟨dealers, rfl, hlen, fun fs h => List.ne_nil_of_length_pos (by rw [hlen fs h]; exact ht)⟩

theorem headD_map_tabQP (r : RingQP) (N : ℕ) (fs : List (Tab r N)) :
    (fs.map (tabQP r N)).headD (zeroQP r N) = tabQP r N (fs.headD fun _ _ => 0) := by
  cases fs with
  | nil => exact zeroQP_tab r N
  | cons f fs => rfl

theorem actives_known {t : ℕ} {parties : List Party} (hcount : parties.length = t)
    (hact : ∀ p ∈ parties, (p.actives.take t).Perm (parties.map (·.own)))
    (hoth : ∀ p ∈ parties, ∀ x ∈ parties.map (·.own), x ≠ p.own → x ∈ p.others) :
    ∀ p ∈ parties, t ≤ p.actives.length ∧ ∀ a ∈ p.actives.take t, a ≠ p.own → a ∈ p.others := by
  intro p hp
  have hl := (hact p hp).length_eq
  rw [List.length_take, List.length_map, hcount] at hl
  exact ⟨by omega, fun a ha hne => hoth p hp a ((hact p hp).mem_iff.mp ha) hne⟩

end Lattigo.Proofs.Shamir
