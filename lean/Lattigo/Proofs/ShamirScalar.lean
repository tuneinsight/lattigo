/-
  C15: the scalar functions of `Lattigo.Model.Shamir` (one prime modulus, canonical residues)
  seen in the field `ZMod q`, and the reconstruction identity for them.
-/
import Lattigo.Model.Shamir
import Lattigo.Proofs.ShamirField
import Lattigo.Proofs.ShamirArith
import Lattigo.Proofs.ZModCast
import Mathlib.FieldTheory.Finite.Basic

namespace Lattigo.Proofs.Shamir
open Polynomial Lattigo.Model.Shamir

variable {q : ℕ} [hq : Fact q.Prime]

local notation "ι" => (Nat.cast : ℕ → ZMod q)

theorem cast_subMod (a b : ℕ) (hb : b < q) :
    ((subMod q a b : ℕ) : ZMod q) = (a : ZMod q) - b := by
  unfold subMod
  split
  · rw [Nat.cast_sub (Nat.le_trans (Nat.le_of_lt hb) (Nat.le_add_left q a)), Nat.cast_add,
      ZMod.natCast_self, add_zero]
  · next h => rw [Nat.cast_sub (Nat.le_of_not_lt h)]

theorem cast_inverse (a : ℕ) (ha : (a : ZMod q) ≠ 0) :
    ((inverse q a : ℕ) : ZMod q) = (a : ZMod q)⁻¹ := by
  unfold inverse
  rw [cast_powMod, pow_sub_two_eq_inv ha]

theorem cast_lagrangeCoeff (this that : ℕ) (hne : (that : ZMod q) ≠ (this : ZMod q)) :
    ((lagrangeCoeff q this that : ℕ) : ZMod q) = (that : ZMod q) / ((that : ZMod q) - this) := by
  rw [cast_lagrangeCoeff_pow, cast_subMod _ _ (Nat.mod_lt _ hq.out.pos),
    ZMod.natCast_mod, ZMod.natCast_mod, pow_sub_two_eq_inv (sub_ne_zero.mpr hne), div_eq_mul_inv, mul_comm]

/-- `Inverse(0) = 0`: when the two points coincide modulo `q > 2` the factor is `0`. -/
theorem lagrangeCoeff_collide (this that : ℕ) (h2 : 2 < q) (h : that % q = this % q) :
    lagrangeCoeff q this that = 0 := by
  have hd : subMod q (that % q) (this % q) = 0 := by
    rw [h, subMod, if_neg (Nat.lt_irrefl _), Nat.sub_self]
  apply eq_of_cast_eq (a := lagrangeCoeff q this that) (Nat.mod_lt _ hq.out.pos) hq.out.pos
  rw [cast_lagrangeCoeff_pow, hd, Nat.cast_zero, zero_pow (by omega), zero_mul]

theorem cast_horner (x : ℕ) (cs : List ℕ) :
    ((horner q x cs : ℕ) : ZMod q) = eval (x : ZMod q) (ofList (cs.map ι)) := by
  induction cs with
  | nil => rw [horner, List.map_nil, ofList, eval_zero, Nat.cast_zero]
  | cons c rest ih =>
    cases rest with
    | nil => rw [horner, List.map_cons, List.map_nil, eval_ofList_cons, ofList, eval_zero, mul_zero, add_zero]
    | cons d rest =>
      rw [horner, List.map_cons, eval_ofList_cons, ← ih]
      rw [ZMod.natCast_mod, Nat.cast_add, ZMod.natCast_mod, Nat.cast_mul, ZMod.natCast_mod, add_comm,
        mul_comm]

/-- `for active in actives { if active != own { prod = prod · lagrangeCoeff(own, active) } }`. -/
def lagProdScalar (q own : ℕ) : List ℕ → ℕ → ℕ
  | [], p => p
  | a :: rest, p =>
    if a ≠ own then lagProdScalar q own rest (p * lagrangeCoeff q own a % q)
    else lagProdScalar q own rest p

theorem cast_lagProdScalar (own : ℕ) (acts : List ℕ) (p : ℕ) :
    ((lagProdScalar q own acts p : ℕ) : ZMod q) =
      (p : ZMod q) * ((acts.filter (· ≠ own)).map fun a => ((lagrangeCoeff q own a : ℕ) : ZMod q)).prod := by
  induction acts generalizing p with
  | nil => simp [lagProdScalar]
  | cons a rest ih =>
    unfold lagProdScalar
    by_cases h : a ≠ own
    · rw [if_pos h, ih, List.filter_cons_of_pos (by simpa using h), List.map_cons, List.prod_cons,
        ZMod.natCast_mod, Nat.cast_mul, mul_assoc]
    · rw [if_neg h, ih, List.filter_cons_of_neg (by simpa using h)]

/-- pairwise distinct modulo `q`: what Lagrange interpolation in `ZMod q` needs of the nodes -/
def DistinctMod (q : ℕ) (S : List ℕ) : Prop := (S.map (· % q)).Nodup

instance (q : ℕ) (S : List ℕ) : Decidable (DistinctMod q S) := by unfold DistinctMod; infer_instance

omit hq in
theorem DistinctMod.inj {S : List ℕ} (h : DistinctMod q S) {a b : ℕ} (ha : a ∈ S) (hb : b ∈ S)
    (hab : a % q = b % q) : a = b :=
  List.inj_on_of_nodup_map h ha hb hab

omit hq in
theorem distinctMod_iff_of_nodup {S : List ℕ} (hS : S.Nodup) :
    DistinctMod q S ↔ ∀ a ∈ S, ∀ b ∈ S, a % q = b % q → a = b :=
  List.nodup_map_iff_inj_on hS

theorem DistinctMod.cast_nodup {S : List ℕ} (h : DistinctMod q S) : (S.map ι).Nodup := by
  have hv : (S.map ι).map ZMod.val = S.map (· % q) := by
    rw [List.map_map]
    exact List.map_congr_left fun a _ => ZMod.val_natCast q a
  exact List.Nodup.of_map ZMod.val (hv ▸ h)

theorem DistinctMod.cast_inj {S : List ℕ} (h : DistinctMod q S) {a b : ℕ} (ha : a ∈ S) (hb : b ∈ S) :
    (a : ZMod q) = (b : ZMod q) ↔ a = b :=
  ⟨List.inj_on_of_nodup_map h.cast_nodup ha hb, congrArg _⟩

theorem cast_lagProdScalar_weight {S : List ℕ} (hS : DistinctMod q S) (own : ℕ) (hown : own ∈ S)
    (acts : List ℕ) (hperm : acts.Perm S) :
    ((lagProdScalar q own acts (1 % q) : ℕ) : ZMod q) = weight (S.map ι) (own : ZMod q) := by
  have hfil : S.filter ((fun b : ZMod q => decide (b ≠ own)) ∘ ι) = S.filter fun a => decide (a ≠ own) :=
    List.filter_congr fun a ha => by simp only [Function.comp, ne_eq, hS.cast_inj ha hown]
  rw [cast_lagProdScalar, ZMod.natCast_mod, Nat.cast_one, one_mul, weight, List.filter_map, hfil,
    List.map_map, ((hperm.filter _).map _).prod_eq]
  congr 1
  apply List.map_congr_left
  intro a ha
  obtain ⟨haS, hne⟩ := List.mem_filter.mp ha
  exact cast_lagrangeCoeff own a (mt (hS.cast_inj haS hown).mp (of_decide_eq_true hne))

/-- `acc = (acc + s) mod q` for each `s` in turn (`ring.Add` word-wise, repeated). -/
def sumMod (q : ℕ) (a : ℕ) (l : List ℕ) : ℕ := l.foldl (fun acc s => (acc + s) % q) a

theorem cast_sumMod (a : ℕ) (l : List ℕ) :
    ((sumMod q a l : ℕ) : ZMod q) = (a : ZMod q) + (l.map ι).sum := by
  unfold sumMod
  induction l generalizing a with
  | nil => simp
  | cons s rest ih =>
    rw [List.foldl_cons, ih, ZMod.natCast_mod, Nat.cast_add, List.map_cons, List.sum_cons, add_assoc]

omit hq in
theorem sumMod_lt (hq : 0 < q) (a : ℕ) (l : List ℕ) (ha : a < q) : sumMod q a l < q := by
  unfold sumMod
  induction l generalizing a with
  | nil => exact ha
  | cons s rest ih => rw [List.foldl_cons]; exact ih _ (Nat.mod_lt _ hq)

theorem eval_zero_ofList_headD (cs : List ℕ) : eval 0 (ofList (cs.map ι)) = ((cs.headD 0 : ℕ) : ZMod q) := by
  cases cs with
  | nil => simp [ofList]
  | cons c cs' => rw [List.map_cons, eval_zero_ofList, List.headD_cons]

/-- `P` lists the active parties, `own p` the point of party `p`, `acts p` the active points as that party lists
them -/
theorem scalar_reconstruct_field {α : Type} (P : List α) (own : α → ℕ) (acts : α → List ℕ)
    (hS : DistinctMod q (P.map own)) (hacts : ∀ p ∈ P, (acts p).Perm (P.map own))
    (cs : List ℕ) (hlen : cs.length ≤ P.length) :
    (P.map fun p => ((horner q (own p) cs : ℕ) : ZMod q) *
        ((lagProdScalar q (own p) (acts p) (1 % q) : ℕ) : ZMod q)).sum
      = eval 0 (ofList (cs.map ι)) := by
  have hdeg : (ofList (cs.map ι)).degree < (((P.map own).map ι).length : WithBot ℕ) := by
    refine lt_of_lt_of_le (degree_ofList_lt _) ?_
    rw [List.length_map, List.length_map, List.length_map]
    exact_mod_cast hlen
  rw [← lagrange_zero_list ((P.map own).map ι) hS.cast_nodup _ hdeg, List.map_map, List.map_map]
  congr 1
  apply List.map_congr_left
  intro p hp
  simp only [Function.comp]
  rw [cast_horner, cast_lagProdScalar_weight hS (own p) (List.mem_map_of_mem hp) _ (hacts p hp)]

theorem sum_map_sum_mul {α β : Type} (P : List α) (D : List β) (g : α → β → ZMod q) (c : α → ZMod q) :
    (P.map fun p => (D.map (g p)).sum * c p).sum = (D.map fun d => (P.map fun p => g p d * c p).sum).sum := by
  induction D with
  | nil => simp
  | cons d rest ih => simp only [List.map_cons, List.sum_cons, add_mul, List.sum_map_add, ih]

/-- the identity behind C15 in exactly the arithmetic the model performs (every sum taken mod `q` in the order the
shares arrived); `cs d` are the coefficients of dealer `d` -/
theorem scalar_reconstruct_nat {α β : Type} (P : List α) (own : α → ℕ) (acts : α → List ℕ)
    (hS : DistinctMod q (P.map own)) (hacts : ∀ p ∈ P, (acts p).Perm (P.map own))
    (D : List β) (cs : β → List ℕ) (hD : ∀ d ∈ D, (cs d).length ≤ P.length) :
    sumMod q 0 (P.map fun p => sumMod q 0 (D.map fun d => horner q (own p) (cs d)) *
        lagProdScalar q (own p) (acts p) (1 % q) % q)
      = sumMod q 0 (D.map fun d => (cs d).headD 0) := by
  apply eq_of_cast_eq (sumMod_lt hq.out.pos 0 _ hq.out.pos) (sumMod_lt hq.out.pos 0 _ hq.out.pos)
  rw [cast_sumMod, cast_sumMod, Nat.cast_zero, zero_add, zero_add, List.map_map, List.map_map]
  have hterm : ∀ p ∈ P, (ι ∘ fun p => sumMod q 0 (D.map fun d => horner q (own p) (cs d)) *
        lagProdScalar q (own p) (acts p) (1 % q) % q) p
      = (D.map fun d => ((horner q (own p) (cs d) : ℕ) : ZMod q)).sum *
        ((lagProdScalar q (own p) (acts p) (1 % q) : ℕ) : ZMod q) := by
    intro p _
    rw [Function.comp, ZMod.natCast_mod, Nat.cast_mul, cast_sumMod, Nat.cast_zero, zero_add, List.map_map]
    rfl
  rw [List.map_congr_left hterm, sum_map_sum_mul]
  congr 1
  apply List.map_congr_left
  intro d hd
  rw [scalar_reconstruct_field P own acts hS hacts (cs d) (hD d hd), eval_zero_ofList_headD]
  rfl

theorem lagProdScalar_lt (own : ℕ) (l : List ℕ) (p : ℕ) (hp : p < q) : lagProdScalar q own l p < q := by
  induction l generalizing p with
  | nil => exact hp
  | cons x rest ih =>
    unfold lagProdScalar
    split
    · exact ih _ (Nat.mod_lt _ hq.out.pos)
    · exact ih _ hp

theorem lagProdScalar_perm (own : ℕ) {a b : List ℕ} (h : a.Perm b) (p : ℕ) (hp : p < q) :
    lagProdScalar q own a p = lagProdScalar q own b p := by
  apply eq_of_cast_eq (lagProdScalar_lt own a p hp) (lagProdScalar_lt own b p hp)
  rw [cast_lagProdScalar, cast_lagProdScalar, ((h.filter _).map _).prod_eq]

theorem lagProdScalar_collide (own : ℕ) (acts : List ℕ) (p : ℕ) (hp : p < q) (h2 : 2 < q)
    (a : ℕ) (ha : a ∈ acts) (hne : a ≠ own) (hcol : a % q = own % q) :
    lagProdScalar q own acts p = 0 := by
  apply eq_of_cast_eq (lagProdScalar_lt own acts p hp) hq.out.pos
  rw [cast_lagProdScalar, Nat.cast_zero]
  refine mul_eq_zero_of_right _ (List.prod_eq_zero (List.mem_map.mpr ⟨a, ?_, ?_⟩))
  · exact List.mem_filter.mpr ⟨ha, decide_eq_true hne⟩
  · rw [lagrangeCoeff_collide own a h2 hcol, Nat.cast_zero]

end Lattigo.Proofs.Shamir
