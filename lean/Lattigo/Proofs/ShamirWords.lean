/-
  C15, word level: the per-modulus, per-slot word computations of the threshold code, composed from
  the REGENERATED functions exactly as the Go code composes them, are equal to the residue-level
  scalar functions of `Model/Shamir.lean` (`horner`, `sumMod`, `lagProdScalar`, `w·λ % q`).

    oneWord        NewCombiner: `cmb.one[i] = ring.MForm(NewRNSScalarFromUInt64(1)[i], q, brc)`
    prodWord       GenAdditiveShare: `prod = one; for active != own { MulRNSScalar(prod, coeff[active], prod) }`
                   with `coeff[active]` = `GenScalar.lagrangeCoeffWord` (Combiner.lagrangeCoeff)
    additiveWord   `MulRNSScalarMontgomery(ownShare, prod, out)` = SubRing.MulScalarMontgomery lane
    mulScalarWord  ring.MulScalar: `MulScalarMontgomery(p, MForm(scalar, q, brc), p)`
    addWord        ring.Add / AggregateShares: SubRing.Add lane
    hornerWord     ring.EvalPolyScalar on one slot: `p2 = c[last]; p2 = p2·x; p2 = p2 + c[i-1]`
    sumWord        `acc = Add(acc, s)` repeated

  Lower layer used: C01's `MRed_spec`, `MRedLazy_spec`, `MForm_spec`, `addvec_lane_spec` and the
  `GenScalar` refinements (`lagrangeCoeff_refines`, `mulScalars_refines`).
  Hypotheses throughout: `q` prime, `2 < q`, `4q ≤ 2^64` (true of every accepted modulus: `q < 2^62`),
  `MontConst q qinv` (`qinv = s.MRedConstant`, discharged by `GenMRedConstant_spec`), `brc q`.
-/
import Lattigo.Proofs.GenScalar
import Lattigo.Proofs.Kernels
import Lattigo.Gen.SubRingOps
import Lattigo.Proofs.ShamirRun

namespace Lattigo.Proofs.ShamirWords
open Lattigo Lattigo.Gen Lattigo.Model.Shamir Lattigo.Proofs.Shamir Lattigo.Proofs.GenScalar

/-- `cmb.one[i]` of `NewCombiner`. -/
def oneWord (q qinv : ℕ) (bc : ℕ × ℕ) : ℕ :=
  Gen.MFormRNSScalar_body q qinv bc (Gen.NewRNSScalarFromUInt64_body q qinv bc 1) 0

/-- the product loop of `GenAdditiveShare`, one modulus, on words. -/
def prodWord (q qinv : ℕ) (bc : ℕ × ℕ) (own : ℕ) : List ℕ → ℕ → ℕ
  | [], p => p
  | a :: rest, p =>
    if a ≠ own then
      prodWord q qinv bc own rest (Gen.MulRNSScalar_body q qinv bc p (lagrangeCoeffWord q qinv bc own a) p)
    else prodWord q qinv bc own rest p

/-- one word of the additive share: `MulRNSScalarMontgomery(ownShare, prod, skOut)`. -/
def additiveWord (q qinv : ℕ) (bc : ℕ × ℕ) (own : ℕ) (acts : List ℕ) (w : ℕ) : ℕ :=
  Gen.SubRing_MulScalarMontgomery_lane q qinv bc w (prodWord q qinv bc own acts (oneWord q qinv bc)) 0

/-- `ring.MulScalar(p, x, p)` on one word. -/
def mulScalarWord (q qinv : ℕ) (bc : ℕ × ℕ) (w x : ℕ) : ℕ :=
  Gen.SubRing_MulScalarMontgomery_lane q qinv bc w (Gen.MForm x q bc) w

/-- `ring.Add` on one word. -/
def addWord (q qinv : ℕ) (bc : ℕ × ℕ) (a b : ℕ) : ℕ := Gen.SubRing_Add_lane q qinv bc a b 0

/-- `ring.EvalPolyScalar` on one slot of one modulus, on words. -/
def hornerWord (q qinv : ℕ) (bc : ℕ × ℕ) (x : ℕ) : List ℕ → ℕ
  | [] => 0
  | [c] => c
  | c :: d :: rest => addWord q qinv bc (mulScalarWord q qinv bc (hornerWord q qinv bc x (d :: rest)) x) c

/-- repeated `Add` into an accumulator. -/
def sumWord (q qinv : ℕ) (bc : ℕ × ℕ) (a : ℕ) (l : List ℕ) : ℕ :=
  l.foldl (fun acc s => addWord q qinv bc acc s) a

variable {q qinv : ℕ}

theorem oneWord_spec (hq : 1 < q) (h2q : 2 * q ≤ W) :
    oneWord q qinv (brc q) < q ∧ Mont q (1 % q) (oneWord q qinv (brc q)) := by
  unfold oneWord
  rw [NewRNSScalarFromUInt64_body_eq]
  exact MFormRNSScalar_body_spec q qinv (1 % q) 0 hq h2q (by
    have : 1 % q < q := Nat.mod_lt _ (by omega)
    unfold W at *; omega)

theorem prodWord_refines [Fact q.Prime] (h2 : 2 < q) (h4q : 4 * q ≤ W) (hm : MontConst q qinv)
    (own : ℕ) (acts : List ℕ) (p a : ℕ) (hp : p < 2 * q) (hpa : Mont q a p) :
    prodWord q qinv (brc q) own acts p < 2 * q ∧
    Mont q (lagProdScalar q own acts a) (prodWord q qinv (brc q) own acts p) := by
  induction acts generalizing p a with
  | nil => exact ⟨hp, hpa⟩
  | cons x rest ih =>
    unfold prodWord lagProdScalar
    by_cases hx : x ≠ own
    · rw [if_pos hx, if_pos hx]
      obtain ⟨hc, hcm⟩ := lagrangeCoeff_refines q qinv h2 (by omega) hm own x
      obtain ⟨h1, h2'⟩ := mulScalars_refines q qinv (brc q) p _ p a _ h4q hm hp hc hpa hcm
      exact ih _ _ h1 h2'
    · rw [if_neg hx, if_neg hx]
      exact ih p a hp hpa

theorem eq_of_mul_W {r A : ℕ} (hm : MontConst q qinv) (hr : r < q) (h : (r * W) % q = (A * W) % q) :
    r = A % q := by
  have hc := cast_of_mod h
  simp only [Nat.cast_mul] at hc
  have := (W_unit hm).mul_right_cancel hc
  have h' := mod_of_cast this
  rwa [Nat.mod_eq_of_lt hr] at h'

theorem additiveWord_eq [Fact q.Prime] (h2 : 2 < q) (h4q : 4 * q ≤ W) (hm : MontConst q qinv)
    (own : ℕ) (acts : List ℕ) (w : ℕ) (hw : w < q) :
    additiveWord q qinv (brc q) own acts w = w * lagProdScalar q own acts (1 % q) % q := by
  have h2q : 2 * q ≤ W := by omega
  obtain ⟨h1, h1m⟩ := oneWord_spec (q := q) (qinv := qinv) (Nat.lt_trans Nat.one_lt_two h2) h2q
  obtain ⟨hp, hpm⟩ := prodWord_refines h2 h4q hm own acts _ _
    (Nat.lt_of_lt_of_le h1 (Nat.le_mul_of_pos_left q Nat.two_pos)) h1m
  unfold additiveWord SubRing_MulScalarMontgomery_lane
  generalize prodWord q qinv (brc q) own acts (oneWord q qinv (brc q)) = p at hp hpm ⊢
  obtain ⟨hs, hr⟩ := mulscalarmontgomeryvec_lane_spec w p 0 q qinv h2q hm
    (Nat.mul_lt_mul'' hw (by omega))
  apply eq_of_mul_W hm hr
  rw [hs]
  rw [Nat.mul_mod, (hpm : p % q = _), ← Nat.mul_mod, Nat.mul_assoc]

theorem mulScalarWord_eq (hq : 1 < q) (h2q : 2 * q ≤ W) (hm : MontConst q qinv) (w x : ℕ) (hw : w < q)
    (hx : x < W) :
    mulScalarWord q qinv (brc q) w x = w * (x % q) % q := by
  unfold mulScalarWord SubRing_MulScalarMontgomery_lane
  rw [MForm_spec x q hq h2q hx]
  have hlt : (x * W) % q < q := Nat.mod_lt _ (by omega)
  obtain ⟨hs, hr⟩ := mulscalarmontgomeryvec_lane_spec w ((x * W) % q) w q qinv h2q hm
    (Nat.mul_lt_mul'' hw (by omega))
  have : w * (x % q) % q = (w * x) % q := by rw [Nat.mul_mod_mod]
  rw [this]
  apply eq_of_mul_W hm hr
  rw [hs, Nat.mul_mod_mod, Nat.mul_assoc]

theorem addWord_eq (h2q : 2 * q ≤ W) (a b : ℕ) (ha : a < q) (hb : b < q) :
    addWord q qinv (brc q) a b = (a + b) % q := by
  unfold addWord SubRing_Add_lane
  have h : a + b < 2 * q := by omega
  exact addvec_lane_spec a b 0 q (Nat.zero_lt_of_lt ha) h (Nat.lt_of_lt_of_le h h2q)

theorem hornerWord_eq (hq : 1 < q) (h2q : 2 * q ≤ W) (hm : MontConst q qinv) (x : ℕ) (hx : x < W)
    (cs : List ℕ) (hcs : ∀ c ∈ cs, c < q) :
    hornerWord q qinv (brc q) x cs = horner q x cs ∧ horner q x cs < q := by
  induction cs with
  | nil => exact ⟨rfl, by simp [horner]; omega⟩
  | cons c rest ih =>
    cases rest with
    | nil => exact ⟨rfl, by simpa [horner] using hcs c List.mem_cons_self⟩
    | cons d rest =>
      obtain ⟨ihe, ihl⟩ := ih (fun z hz => hcs z (List.mem_cons_of_mem _ hz))
      have hc : c < q := hcs c List.mem_cons_self
      refine ⟨?_, by simp only [horner]; exact Nat.mod_lt _ (by omega)⟩
      simp only [hornerWord, horner]
      rw [ihe, mulScalarWord_eq hq h2q hm _ x ihl hx,
        addWord_eq h2q _ c (Nat.mod_lt _ (by omega)) hc]

theorem sumWord_eq (h2q : 2 * q ≤ W) (a : ℕ) (l : List ℕ) (ha : a < q) (hl : ∀ s ∈ l, s < q) :
    sumWord q qinv (brc q) a l = sumMod q a l := by
  unfold sumWord sumMod
  induction l generalizing a with
  | nil => rfl
  | cons s rest ih =>
    have hs : s < q := hl s List.mem_cons_self
    rw [List.foldl_cons, List.foldl_cons, addWord_eq h2q a s ha hs]
    exact ih _ (Nat.mod_lt _ (by omega)) (fun z hz => hl z (List.mem_cons_of_mem _ hz))

end Lattigo.Proofs.ShamirWords
