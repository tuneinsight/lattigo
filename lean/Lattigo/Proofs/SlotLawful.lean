/-
  C11 proofs: the executable slot-vector carrier `slotOps` (the `List Int` instance the
  driver runs and the harness ties to decrypted/decoded slots) is a lawful Galois action.

  `Lawful` is a statement about an `AddCommMonoid` carrier; raw `List Int` (any length, any entries)
  is not one.  So:
  * `EV lay e t` — the *evaluation vectors*: functions `f : ZMod 2^(e+3) → ZMod t × ZMod t` with
    `f(-u) = τ(f u)` (`τ` = swap of the two components for BGV, negation of the second for CKKS,
    identity for the one-row layout); `aut g f = f(·g)`.  This is the true semantics of slots
    (`Proofs/RotateSlots.lean`: `f u = a(ζ^u)`), and it is `Lawful` for all `g` (`evOps_lawful`).
  * `toSlots : EV → List Int` reads `f` at `5^j`, `j < 2^(e+1)` (first components, then second
    components) — onto the well-formed slot vectors `SlotVec` (`toSlots_ofSlots`; not injective: `f` is read
    nowhere else, `toSlots_congr`).
  * `toSlots` is a homomorphism `evOps → slotOps` for `add`, `scaleInv`, and `aut g` for every
    `g = GaloisElement(k)` and `g = nthRoot-1` (`sim_slots`).
  * every algorithm of `Model/InnerSum.lean` commutes with such a homomorphism (`*_sim`).
  Hence every `Lawful`-conditional theorem transfers to `slotOps` on well-formed vectors without
  hypothesis (`Props/C11.lean`, `*_slots`).
-/
import Lattigo.Proofs.InnerSumTrace
import Lattigo.Proofs.InnerSumSchemes
import Lattigo.Proofs.GaloisDlog
import Lattigo.Proofs.ListLemmas

namespace Lattigo.Proofs.SlotLawful
open Lattigo Lattigo.Model.Galois Lattigo.Model.InnerSum
open Lattigo.Proofs.Galois Lattigo.Proofs.InnerSum
open Finset

theorem rotL_eq_rotate (k : ℕ) (v : List Int) : rotL k v = v.rotate k := by
  unfold rotL
  split
  · next h => rw [List.eq_nil_of_length_eq_zero h, List.rotate_nil]
  · exact List.rotate_eq_drop_append_take_mod.symm

theorem rotL_length (k : ℕ) (v : List Int) : (rotL k v).length = v.length := by
  rw [rotL_eq_rotate, List.length_rotate]

theorem rotL_zero (v : List Int) : rotL 0 v = v := by
  rw [rotL_eq_rotate, List.rotate_zero]

theorem rotL_map_range (F : ℕ → Int) (h κ : ℕ) :
    rotL κ ((List.range h).map F) = (List.range h).map (fun j => F ((j + κ) % h)) := by
  rw [rotL_eq_rotate]
  apply List.ext_getElem
  · simp
  intro j h1 h2
  simp [List.getElem_rotate]

theorem five_pow_mul_zpow (e j : ℕ) (k : ℤ) :
    (five (e + 3)) ^ j * (five (e + 3)) ^ k
      = (five (e + 3)) ^ (((j : ℤ) + k) % ((2 ^ (e + 1) : ℕ) : ℤ)).toNat := by
  have hpos : (0 : ℤ) < ((2 ^ (e + 1) : ℕ) : ℤ) := by positivity
  have hnn := Int.emod_nonneg ((j : ℤ) + k) (ne_of_gt hpos)
  rw [← zpow_natCast (five (e + 3)) j, ← zpow_add, ← zpow_natCast (five (e + 3)) (Int.toNat _),
    Int.toNat_of_nonneg hnn, ← orderOf_five e, zpow_mod_orderOf]

/-- the rotation amount `k mod N/2` as a natural number. -/
def kmod (e : ℕ) (k : ℤ) : ℕ := (k % ((2 ^ (e + 1) : ℕ) : ℤ)).toNat

theorem kmod_lt (e : ℕ) (k : ℤ) : kmod e k < 2 ^ (e + 1) := by
  have hpos : (0 : ℤ) < ((2 ^ (e + 1) : ℕ) : ℤ) := by positivity
  exact (Int.toNat_lt (Int.emod_nonneg k hpos.ne')).mpr (Int.emod_lt_of_pos k hpos)

theorem add_kmod (e j : ℕ) (k : ℤ) :
    (((j : ℤ) + k) % ((2 ^ (e + 1) : ℕ) : ℤ)).toNat = (j + kmod e k) % 2 ^ (e + 1) := by
  have hM : (2 : ℤ) ^ (e + 1) ≠ 0 := by positivity
  unfold kmod
  zify
  rw [Int.toNat_of_nonneg (Int.emod_nonneg _ hM), Int.toNat_of_nonneg (Int.emod_nonneg _ hM),
    Int.add_emod_emod]

theorem half_length_append {r0 r1 : List Int} (hlen : r0.length = r1.length) :
    (r0 ++ r1).length / 2 = r0.length := by
  rw [List.length_append]; omega

theorem slotAut_galEl_rows (lay : Layout) (hlay : lay ≠ .single) (e : ℕ) (he : e + 3 ≤ 64) (k : ℤ)
    (r0 r1 : List Int) (hlen : r0.length = r1.length) :
    slotAut lay (2 ^ (e + 3)) (galEl (2 ^ (e + 3)) k) (r0 ++ r1)
      = rotL (kmod e k) r0 ++ rotL (kmod e k) r1 := by
  have h4 := galEl_mod_four (e + 3) (by omega) he k
  have hd := dlog_galEl e he k
  have hh := half_length_append hlen
  unfold slotAut
  cases lay with
  | single => exact absurd rfl hlay
  | bgv => simp only [hh, h4, hd, List.take_left', List.drop_left', if_true]; rfl
  | ckks => simp only [hh, h4, hd, List.take_left', List.drop_left', if_true]; rfl

theorem slotAut_galEl_single (e : ℕ) (he : e + 3 ≤ 64) (k : ℤ) (v : List Int) :
    slotAut .single (2 ^ (e + 3)) (galEl (2 ^ (e + 3)) k) v = rotL (kmod e k) v := by
  unfold slotAut
  simp only [dlog_galEl e he k]; rfl

theorem orderTwo_mod_four (e : ℕ) : (2 ^ (e + 3) - 1) % 4 = 3 := by
  have : 2 ^ (e + 3) = 4 * (2 * 2 ^ e) := by ring
  have hp : 0 < 2 ^ e := by positivity
  omega

/-- the order-two element is `-1 = -5^0`: `slotAut` looks up the discrete logarithm of `nthRoot - g = 1`. -/
theorem dlog_sub_orderTwo (e : ℕ) (he : e + 3 ≤ 64) :
    solveDiscreteLog (2 ^ (e + 3)) (2 ^ (e + 3) - (2 ^ (e + 3) - 1)) = some 0 := by
  have h1 : 2 ^ (e + 3) - (2 ^ (e + 3) - 1) = 1 := by
    have := Nat.one_le_two_pow (n := e + 3)
    omega
  have := dlog_galEl e he 0
  rw [galEl_zero _ (by omega) he] at this
  simpa [h1] using this

theorem slotAut_orderTwo_bgv (e : ℕ) (he : e + 3 ≤ 64) (r0 r1 : List Int) (hlen : r0.length = r1.length) :
    slotAut .bgv (2 ^ (e + 3)) (2 ^ (e + 3) - 1) (r0 ++ r1) = r1 ++ r0 := by
  unfold slotAut
  simp only [half_length_append hlen, orderTwo_mod_four, dlog_sub_orderTwo e he, List.take_left',
    List.drop_left', rotL_zero]
  simp

theorem slotAut_orderTwo_ckks (e : ℕ) (he : e + 3 ≤ 64) (r0 r1 : List Int) (hlen : r0.length = r1.length) :
    slotAut .ckks (2 ^ (e + 3)) (2 ^ (e + 3) - 1) (r0 ++ r1) = r0 ++ r1.map (fun x => -x) := by
  unfold slotAut
  simp only [half_length_append hlen, orderTwo_mod_four, dlog_sub_orderTwo e he, List.take_left',
    List.drop_left', rotL_zero]
  simp

/-! ## the algorithms commute with homomorphisms of carriers

  `mapSt ψ` / `mapRes ψ` apply `ψ` to the carrier values of a loop state / of a result and keep the flags and
  the key requests. -/

section Sim
variable {α β : Type}

/-- `ψ` is a homomorphism of carriers for `add`, `scaleInv`, and `aut g` for the `g` in `G`. -/
structure Sim (S : Ops α) (T : Ops β) (ψ : α → β) (G : ℕ → Prop) : Prop where
  add : ∀ a b, ψ (S.add a b) = T.add (ψ a) (ψ b)
  aut : ∀ g, G g → ∀ a, ψ (S.aut g a) = T.aut g (ψ a)
  scaleInv : ∀ c a, ψ (S.scaleInv c a) = T.scaleInv c (ψ a)

def mapSt (ψ : α → β) (st : PState α) : PState β :=
  { ct := ψ st.ct, acc := ψ st.acc, out := ψ st.out, state := st.state, copy := st.copy, reqs := st.reqs }

def mapRes (ψ : α → β) : Res α → Res β
  | .err => .err
  | .panic => .panic
  | .ok v r => .ok (ψ v) r

theorem mapRes_val_iff {ψ : α → β} {r : Res α} {y : β} :
    (mapRes ψ r).val? = some y ↔ ∃ x, r.val? = some x ∧ y = ψ x := by
  cases r with
  | err => simp [mapRes, Res.val?]
  | panic => simp [mapRes, Res.val?]
  | ok v q => simp [mapRes, Res.val?, eq_comm]

theorem mapRes_val {ψ : α → β} {r : Res α} {x : α} (h : r.val? = some x) :
    (mapRes ψ r).val? = some (ψ x) :=
  mapRes_val_iff.mpr ⟨x, h, rfl⟩

theorem mapRes_reqs {ψ : α → β} (r : Res α) : (mapRes ψ r).reqs = r.reqs := by
  cases r <;> rfl

variable {S : Ops α} {T : Ops β} {ψ : α → β} {G : ℕ → Prop}

theorem dbl_sim (h : Sim S T ψ G) (N : ℕ) (hG : ∀ k, G (galEl N k)) (f : α → α → α) (f' : β → β → β)
    (hf : ∀ a b, ψ (f a b) = f' (ψ a) (ψ b)) (off : ℤ) (i : ℕ) (st : PState α) :
    mapSt ψ (dbl S f N off i st) = dbl T f' N off i (mapSt ψ st) := by
  simp only [dbl, apply_ite (mapSt ψ)]
  simp only [mapSt, hf, h.aut _ (hG _)]
  rfl

/-- One turn of the loop, through its three forms (`ptsStep_even`, `ptsStep_odd`, `ptsStep_top`): their
    conditions read only `j`, `n` and the fields `state`, `copy`, which `mapSt` keeps. -/
theorem ptsStep_sim (h : Sim S T ψ G) (N : ℕ) (hG : ∀ k, G (galEl N k)) (f : α → α → α) (f' : β → β → β)
    (hf : ∀ a b, ψ (f a b) = f' (ψ a) (ψ b)) (lazy : Bool) (n : ℕ) (off : ℤ) (i j : ℕ) (st : PState α) :
    mapSt ψ (ptsStep S f lazy N n off i j st) = ptsStep T f' lazy N n off i j (mapSt ψ st) := by
  by_cases hj : j % 2 = 1
  · by_cases hk : n - n % 2 ^ (i + 1) = 0
    · rw [ptsStep_top S f lazy N n off i j st hj hk, ptsStep_top T f' lazy N n off i j _ hj hk]
      simp only [mapSt, apply_ite ψ, hf]
    · rw [ptsStep_odd S f lazy N n off i j st hj hk, ptsStep_odd T f' lazy N n off i j _ hj hk,
        dbl_sim h N hG f f' hf]
      simp only [mapSt, apply_ite ψ, hf, h.aut _ (hG _)]
      rfl
  · rw [ptsStep_even S f lazy N n off i j st hj, ptsStep_even T f' lazy N n off i j _ hj,
      dbl_sim h N hG f f' hf]

theorem ptsLoop_sim (h : Sim S T ψ G) (N : ℕ) (hG : ∀ k, G (galEl N k)) (f : α → α → α) (f' : β → β → β)
    (hf : ∀ a b, ψ (f a b) = f' (ψ a) (ψ b)) (lazy : Bool) (n : ℕ) (off : ℤ) :
    ∀ (fuel i j : ℕ) (st : PState α),
      mapSt ψ (ptsLoop S f lazy N n off fuel i j st) = ptsLoop T f' lazy N n off fuel i j (mapSt ψ st) := by
  intro fuel
  induction fuel with
  | zero => intro i j st; rfl
  | succ fuel ih =>
    intro i j st
    unfold ptsLoop
    split
    · rfl
    · rw [ih, ptsStep_sim h N hG f f' hf]

theorem ptsRun_sim (h : Sim S T ψ G) (N : ℕ) (hG : ∀ k, G (galEl N k)) (f : α → α → α) (f' : β → β → β)
    (hf : ∀ a b, ψ (f a b) = f' (ψ a) (ψ b)) (lazy : Bool) (n : ℕ) (off : ℤ) (fuel i j : ℕ) (st : PState α) :
    Res.ok (ptsLoop T f' lazy N n off fuel i j (mapSt ψ st)).out
        (ptsLoop T f' lazy N n off fuel i j (mapSt ψ st)).reqs
      = mapRes ψ (.ok (ptsLoop S f lazy N n off fuel i j st).out (ptsLoop S f lazy N n off fuel i j st).reqs) := by
  rw [← ptsLoop_sim h N hG f f' hf]; rfl

-- The entry points below are guards around one of the loops: `mapRes ψ` goes inside the guards.

theorem partialTracesSum_sim (h : Sim S T ψ G) (N : ℕ) (hG : ∀ k, G (galEl N k)) (hasP : Bool)
    (v out0 acc0 : α) (off n : ℤ) :
    partialTracesSum T N hasP (ψ v) (ψ out0) (ψ acc0) off n
      = mapRes ψ (partialTracesSum S N hasP v out0 acc0 off n) := by
  simp only [partialTracesSum, apply_ite (mapRes ψ), ← ptsRun_sim h N hG S.add T.add h.add]
  rfl

theorem innerFunction_sim (h : Sim S T ψ G) (N : ℕ) (hG : ∀ k, G (galEl N k))
    (v out0 acc0 : α) (b n : ℤ) :
    innerFunction T T.add N (ψ v) (ψ out0) (ψ acc0) b n
      = mapRes ψ (innerFunction S S.add N v out0 acc0 b n) := by
  simp only [innerFunction, apply_ite (mapRes ψ), ← ptsRun_sim h N hG S.add T.add h.add]
  rfl

theorem replicate_sim (h : Sim S T ψ G) (N : ℕ) (hG : ∀ k, G (galEl N k)) (hasP : Bool)
    (v out0 acc0 : α) (b n : ℤ) :
    replicate T N hasP (ψ v) (ψ out0) (ψ acc0) b n = mapRes ψ (replicate S N hasP v out0 acc0 b n) :=
  partialTracesSum_sim h N hG hasP v out0 acc0 _ n

theorem innerSumCKKS_sim (h : Sim S T ψ G) (N : ℕ) (hG : ∀ k, G (galEl N k)) (slots : ℕ) (hasP : Bool)
    (v out0 acc0 : α) (b n : ℤ) :
    innerSumCKKS T N slots hasP (ψ v) (ψ out0) (ψ acc0) b n
      = mapRes ψ (innerSumCKKS S N slots hasP v out0 acc0 b n) := by
  simp only [innerSumCKKS, apply_ite (mapRes ψ), partialTracesSum_sim h N hG]
  rfl

theorem innerSumBGV_sim (h : Sim S T ψ G) (N : ℕ) (hG : ∀ k, G (galEl N k)) (hG2 : G (N - 1))
    (slots : ℕ) (hasP : Bool) (v out0 acc0 : α) (b n : ℤ) :
    innerSumBGV T N slots hasP (ψ v) (ψ out0) (ψ acc0) b n
      = mapRes ψ (innerSumBGV S N slots hasP v out0 acc0 b n) := by
  simp only [innerSumBGV, apply_ite (mapRes ψ), partialTracesSum_sim h N hG]
  cases partialTracesSum S N hasP v out0 acc0 b (n / 2) with
  | err => rfl
  | panic => rfl
  | ok u reqs => simp only [mapRes, h.add, h.aut _ hG2]

theorem rotate_sim (h : Sim S T ψ G) (N : ℕ) (hG : ∀ k, G (galEl N k)) (v : α) (k : ℤ) :
    rotate T N (ψ v) k = mapRes ψ (rotate S N v k) := by
  unfold rotate
  simp only [mapRes, h.aut _ (hG k)]

theorem conjugate_sim (h : Sim S T ψ G) (rt : RingType) (N : ℕ) (hG2 : G (N - 1)) (v : α) :
    conjugate T rt N (ψ v) = mapRes ψ (conjugate S rt N v) := by
  unfold conjugate
  cases rt with
  | standard => simp only [mapRes, h.aut _ hG2]
  | conjugateInvariant => rfl

theorem rotateHoisted_sim (h : Sim S T ψ G) (N : ℕ) (hG : ∀ k, G (galEl N k)) (hasP : Bool) (v : α)
    (ks : List ℤ) :
    rotateHoisted T N hasP (ψ v) ks
      = (rotateHoisted S N hasP v ks).map (fun p => (p.1.map ψ, p.2)) := by
  unfold rotateHoisted
  split_ifs
  · rfl
  · rw [Option.map_some]
    exact congrArg some (List.foldl_hom (fun p : List α × List ℕ => (p.1.map ψ, p.2)) (init := ([], []))
      (fun acc k => by simp [h.aut _ (hG k)]))

theorem traceLoop_sim (h : Sim S T ψ G) (N : ℕ) (hG : ∀ k, G (galEl N k)) (bound : ℕ) :
    ∀ (fuel i : ℕ) (out : α) (reqs : List ℕ),
      traceLoop T N bound fuel i (ψ out, reqs)
        = (ψ (traceLoop S N bound fuel i (out, reqs)).1, (traceLoop S N bound fuel i (out, reqs)).2) := by
  intro fuel
  induction fuel with
  | zero => intro i out reqs; rfl
  | succ fuel ih =>
    intro i out reqs
    unfold traceLoop
    split_ifs
    · have := ih (i + 1) (S.add out (S.aut (galEl N (shlInt i)) out)) (request false (galEl N (shlInt i)) reqs)
      rw [h.add, h.aut _ (hG _)] at this
      exact this
    · rfl

theorem trace_sim (h : Sim S T ψ G) (rt : RingType) (L : ℕ) (hG : ∀ k, G (galEl (nthRootOf rt L) k))
    (hG2 : rt = .standard → G (nthRootOf rt L - 1)) (v : α) (logN : ℤ) :
    trace T rt L (ψ v) logN = mapRes ψ (trace S rt L v logN) := by
  simp only [trace, apply_ite (mapRes ψ), ← h.scaleInv, traceLoop_sim h _ hG]
  -- the same guards on both sides; only the branch of the order-two element needs `hG2`
  refine ite_congr rfl (fun _ => rfl) fun _ => ite_congr rfl (fun _ => ?_) fun _ => rfl
  refine ite_congr rfl (fun hs => ?_) fun _ => rfl
  simp only [mapRes, h.add, h.aut _ (hG2 hs.2)]

end Sim

/-! ## evaluation vectors: a lawful carrier

  `scInt t c` is what `slotOps.scaleInv c` does to one entry (exact division for `t = 0`, multiplication by
  `c^(t-2) mod t` otherwise), `scP` the same on both components of a slot pair; `rowOf e t f sel` lists the
  component `sel` of `f` at `5^j`, `j < N/2`, as integers: one row of the slot vector. -/

section EV

/-- the order-two map on a slot pair: BGV swaps the two rows, CKKS negates the imaginary part,
    the one-row layout has none. -/
def tauF (t : ℕ) : Layout → ZMod t × ZMod t → ZMod t × ZMod t
  | .bgv, x => (x.2, x.1)
  | .ckks, x => (x.1, -x.2)
  | .single, x => x

theorem tauF_add (t : ℕ) (lay : Layout) (x y : ZMod t × ZMod t) :
    tauF t lay (x + y) = tauF t lay x + tauF t lay y := by
  cases lay <;> simp [tauF, add_comm]

theorem tauF_zero (t : ℕ) (lay : Layout) : tauF t lay 0 = 0 := by
  cases lay <;> simp [tauF]

theorem tauF_tauF (t : ℕ) (lay : Layout) (x : ZMod t × ZMod t) : tauF t lay (tauF t lay x) = x := by
  cases lay <;> simp [tauF]

/-- functions on the residues mod `nthRoot = 2^(e+3)` with `f(-u) = τ(f u)`. -/
def Sym (lay : Layout) (e t : ℕ) : AddSubmonoid (ZMod (2 ^ (e + 3)) → ZMod t × ZMod t) where
  carrier := {f | ∀ u, f (-u) = tauF t lay (f u)}
  add_mem' := by
    intro a b ha hb u
    simp only [Pi.add_apply, ha u, hb u, tauF_add]
  zero_mem' := by
    intro u
    simp only [Pi.zero_apply, tauF_zero]

abbrev EV (lay : Layout) (e t : ℕ) : Type := ↥(Sym lay e t)

/-- `u ↦ -u` exchanges the residues `1` and `3` modulo `4`: `-u + u = 0` and `4 ∣ nthRoot`. -/
theorem neg_val_mod4 (e : ℕ) (u : ZMod (2 ^ (e + 3))) :
    ((-u).val % 4 = 1 ↔ u.val % 4 = 3) ∧ ((-u).val % 4 = 3 ↔ u.val % 4 = 1) := by
  have h4 : 4 ∣ 2 ^ (e + 3) := ⟨2 * 2 ^ e, by ring⟩
  have h : ((-u).val + u.val) % 4 = 0 := by
    rw [← Nat.mod_mod_of_dvd _ h4, ← ZMod.val_add, neg_add_cancel, ZMod.val_zero]
  omega

/-- symmetric extension of a function given on the residues `≡ 1 (mod 4)`. -/
def symm (lay : Layout) (e t : ℕ) (F : ZMod (2 ^ (e + 3)) → ZMod t × ZMod t) :
    ZMod (2 ^ (e + 3)) → ZMod t × ZMod t := fun u =>
  if u.val % 4 = 1 then F u else if u.val % 4 = 3 then tauF t lay (F (-u)) else 0

theorem symm_mem (lay : Layout) (e t : ℕ) (F : ZMod (2 ^ (e + 3)) → ZMod t × ZMod t) :
    symm lay e t F ∈ Sym lay e t := by
  intro u
  obtain ⟨h13, h31⟩ := neg_val_mod4 e u
  simp only [symm, h13, h31]
  by_cases h1 : u.val % 4 = 1
  · rw [if_neg (by omega), if_pos h1, if_pos h1, neg_neg]
  · by_cases h3 : u.val % 4 = 3
    · rw [if_pos h3, if_neg h1, if_pos h3, tauF_tauF]
    · rw [if_neg h3, if_neg h1, if_neg h1, if_neg h3, tauF_zero]

theorem symm_apply_one (lay : Layout) (e t : ℕ) (F : ZMod (2 ^ (e + 3)) → ZMod t × ZMod t)
    (u : ZMod (2 ^ (e + 3))) (h : u.val % 4 = 1) : symm lay e t F u = F u := by
  unfold symm; rw [if_pos h]

def scInt (t c : ℕ) (x : ℤ) : ℤ :=
  if t = 0 then x / (c : ℤ) else (x * ((powMod c (t - 2) t : ℕ) : ℤ)) % (t : ℤ)

def scP (t c : ℕ) (x : ZMod t × ZMod t) : ZMod t × ZMod t :=
  (((scInt t c (x.1.cast : ℤ) : ℤ) : ZMod t), ((scInt t c (x.2.cast : ℤ) : ℤ) : ZMod t))

/-- the operations on evaluation vectors: `aut g f = f(· g)`. -/
def evOps (lay : Layout) (e t : ℕ) : Ops (EV lay e t) where
  add a b := a + b
  aut g f := ⟨fun u => f.1 (u * (g : ZMod (2 ^ (e + 3)))), by
    intro u
    show f.1 (-u * (g : ZMod (2 ^ (e + 3)))) = _
    rw [neg_mul]; exact f.2 _⟩
  scaleInv c f := ⟨symm lay e t (fun u => scP t c (f.1 u)), symm_mem lay e t _⟩

theorem evOps_aut_apply (lay : Layout) (e t g : ℕ) (f : EV lay e t) (u : ZMod (2 ^ (e + 3))) :
    ((evOps lay e t).aut g f).1 u = f.1 (u * (g : ZMod (2 ^ (e + 3)))) := rfl

/-- for every `g`, `h`: no side condition, unlike `sim_slots` -/
theorem evOps_lawful (lay : Layout) (e t : ℕ) : Lawful (evOps lay e t) (2 ^ (e + 3)) where
  add_eq _ _ := rfl
  aut_add _ _ _ := rfl
  aut_zero _ := rfl
  aut_one a := by
    apply Subtype.ext; funext u
    simp [evOps]
  aut_mul g h a := by
    apply Subtype.ext; funext u
    simp only [evOps, ZMod.natCast_mod, Nat.cast_mul]
    rw [mul_assoc]

def rowOf (e t : ℕ) (f : ZMod (2 ^ (e + 3)) → ZMod t × ZMod t) (sel : ZMod t × ZMod t → ZMod t) :
    List Int :=
  (List.range (2 ^ (e + 1))).map (fun j => ((sel (f ((5 : ZMod (2 ^ (e + 3))) ^ j))).cast : Int))

/-- the slot vector of an evaluation vector: first components at `5^j`, then (two-row layouts)
    second components at `5^j`, `j < N/2`. -/
def toSlots (lay : Layout) (e t : ℕ) (f : EV lay e t) : List Int :=
  if lay = .single then rowOf e t f.1 Prod.fst
  else rowOf e t f.1 Prod.fst ++ rowOf e t f.1 Prod.snd

@[simp] theorem rowOf_length (e t : ℕ) (f) (sel) : (rowOf e t f sel).length = 2 ^ (e + 1) := by
  simp [rowOf]

theorem toSlots_congr {lay : Layout} {e t : ℕ} {f f' : EV lay e t}
    (h : ∀ j : ℕ, f.1 ((5 : ZMod (2 ^ (e + 3))) ^ j) = f'.1 ((5 : ZMod (2 ^ (e + 3))) ^ j)) :
    toSlots lay e t f = toSlots lay e t f' := by
  simp only [toSlots, rowOf, h]

/-- the Galois elements the algorithms use. -/
def GoodG (lay : Layout) (e : ℕ) (g : ℕ) : Prop :=
  (∃ k : ℤ, g = galEl (2 ^ (e + 3)) k) ∨ (lay ≠ .single ∧ g = 2 ^ (e + 3) - 1)

theorem cast_add_red (t : ℕ) (x y : ZMod t) :
    ((x + y).cast : ℤ) = if t = 0 then (x.cast : ℤ) + y.cast else ((x.cast : ℤ) + y.cast) % (t : ℤ) := by
  have h : ((x + y).cast : ℤ) = ((x.cast : ℤ) + y.cast) % (t : ℤ) := by
    rw [← ZMod.coe_intCast]
    congr 1
    push_cast
    simp
  rw [h]
  split
  · next h0 => subst h0; simp
  · rfl

theorem rowOf_add (e t : ℕ) (f g : ZMod (2 ^ (e + 3)) → ZMod t × ZMod t) (sel : ZMod t × ZMod t → ZMod t)
    (hsel : ∀ x y, sel (x + y) = sel x + sel y) :
    rowOf e t (f + g) sel
      = List.zipWith (fun x y => if t = 0 then x + y else (x + y) % (t : ℤ)) (rowOf e t f sel) (rowOf e t g sel) := by
  unfold rowOf
  rw [List.zipWith_map, List.zipWith_self]
  apply List.map_congr_left
  intro j _
  rw [Pi.add_apply, hsel, cast_add_red]

theorem five_val_mod4 (e j : ℕ) : ((5 : ZMod (2 ^ (e + 3))) ^ j).val % 4 = 1 := by
  have h5 : ((5 : ZMod (2 ^ (e + 3))) ^ j) = ((5 ^ j : ℕ) : ZMod (2 ^ (e + 3))) := by push_cast; rfl
  rw [h5, ZMod.val_natCast, Nat.mod_mod_of_dvd _ ⟨2 * 2 ^ e, by ring⟩, Nat.pow_mod]
  norm_num

theorem five_mul_galEl (e : ℕ) (he : e + 3 ≤ 64) (j : ℕ) (k : ℤ) :
    (5 : ZMod (2 ^ (e + 3))) ^ j * ((galEl (2 ^ (e + 3)) k : ℕ) : ZMod (2 ^ (e + 3)))
      = (5 : ZMod (2 ^ (e + 3))) ^ ((j + kmod e k) % 2 ^ (e + 1)) := by
  have h := congrArg (fun x : (ZMod (2 ^ (e + 3)))ˣ => (x : ZMod (2 ^ (e + 3)))) (five_pow_mul_zpow e j k)
  simp only [Units.val_mul, Units.val_pow_eq_pow_val, val_five] at h
  rw [galEl_cast _ (by omega) he, h, add_kmod]

theorem rowOf_aut_galEl (e t : ℕ) (he : e + 3 ≤ 64) (f : ZMod (2 ^ (e + 3)) → ZMod t × ZMod t)
    (sel : ZMod t × ZMod t → ZMod t) (k : ℤ) :
    rowOf e t (fun u => f (u * ((galEl (2 ^ (e + 3)) k : ℕ) : ZMod (2 ^ (e + 3))))) sel
      = rotL (kmod e k) (rowOf e t f sel) := by
  unfold rowOf
  rw [rotL_map_range]
  apply List.map_congr_left
  intro j _
  dsimp only
  rw [five_mul_galEl e he]

theorem orderTwo_cast (m : ℕ) : (((2 ^ m - 1 : ℕ)) : ZMod (2 ^ m)) = -1 := by
  rw [Nat.cast_sub Nat.one_le_two_pow, ZMod.natCast_self, Nat.cast_one, zero_sub]

section
variable {lay : Layout} {e t : ℕ}

theorem toSlots_add (a b : EV lay e t) :
    toSlots lay e t (a + b) = (slotOps lay (2 ^ (e + 3)) t).add (toSlots lay e t a) (toSlots lay e t b) := by
  have h1 := rowOf_add e t a.1 b.1 Prod.fst (fun _ _ => rfl)
  have h2 := rowOf_add e t a.1 b.1 Prod.snd (fun _ _ => rfl)
  show _ = List.zipWith _ (toSlots lay e t a) (toSlots lay e t b)
  unfold toSlots
  have hc : (↑(a + b) : ZMod (2 ^ (e + 3)) → ZMod t × ZMod t) = a.1 + b.1 := rfl
  split
  · rw [hc, h1]
  · rw [hc, h1, h2, List.zipWith_append (by simp)]

/-- `hck`: `slotAut .ckks` negates the second row without reducing modulo `t`, so for `t ≠ 0` its result is not
    the slot vector of an evaluation vector (entries leave `[0, t)`); the CKKS layout is used with `t = 0` only. -/
theorem toSlots_aut (he : e + 3 ≤ 64) (hck : lay = .ckks → t = 0) {g : ℕ} (hg : GoodG lay e g)
    (a : EV lay e t) :
    toSlots lay e t ((evOps lay e t).aut g a) = slotAut lay (2 ^ (e + 3)) g (toSlots lay e t a) := by
  rcases hg with ⟨k, rfl⟩ | ⟨hns, rfl⟩
  · unfold toSlots
    have h1 := rowOf_aut_galEl e t he a.1 Prod.fst k
    have h2 := rowOf_aut_galEl e t he a.1 Prod.snd k
    by_cases hs : lay = .single
    · rw [if_pos hs, if_pos hs]
      subst hs
      rw [slotAut_galEl_single e he]
      exact h1
    · rw [if_neg hs, if_neg hs, slotAut_galEl_rows lay hs e he k _ _ (by simp)]
      exact congrArg₂ (· ++ ·) h1 h2
  · unfold toSlots
    rw [if_neg hns, if_neg hns]
    have hpt : ∀ j : ℕ, a.1 ((5 : ZMod (2 ^ (e + 3))) ^ j * ((2 ^ (e + 3) - 1 : ℕ) : ZMod (2 ^ (e + 3))))
        = tauF t lay (a.1 ((5 : ZMod (2 ^ (e + 3))) ^ j)) := by
      intro j
      rw [orderTwo_cast, mul_neg, mul_one]
      exact a.2 _
    cases lay with
    | single => exact absurd rfl hns
    | bgv =>
      rw [slotAut_orderTwo_bgv e he _ _ (by simp)]
      simp only [rowOf, evOps_aut_apply, hpt, tauF]
    | ckks =>
      have ht := hck rfl
      rw [slotAut_orderTwo_ckks e he _ _ (by simp)]
      simp only [rowOf, evOps_aut_apply, hpt, tauF, List.map_map]
      congr 1
      apply List.map_congr_left
      intro j _
      -- `ZMod 0` is `ℤ` and the cast is the identity
      subst ht
      rfl

theorem toSlots_scaleInv (c : ℕ) (a : EV lay e t) :
    toSlots lay e t ((evOps lay e t).scaleInv c a)
      = (slotOps lay (2 ^ (e + 3)) t).scaleInv c (toSlots lay e t a) := by
  -- the scaled entry is already reduced, so the round trip through `ZMod t` does not change it
  have hred : ∀ x : ℤ, (((scInt t c x : ℤ) : ZMod t).cast : ℤ) = scInt t c x := by
    intro x
    rw [ZMod.coe_intCast]
    unfold scInt
    split
    · next h0 => subst h0; simp
    · exact Int.emod_emod_of_dvd _ (dvd_refl _)
  have hrow : ∀ sel : ZMod t × ZMod t → ZMod t,
      (∀ x, sel (scP t c x) = ((scInt t c ((sel x).cast : ℤ) : ℤ) : ZMod t)) →
      rowOf e t (symm lay e t (fun u => scP t c (a.1 u))) sel = (rowOf e t a.1 sel).map (scInt t c) := by
    intro sel hsel
    unfold rowOf
    rw [List.map_map]
    apply List.map_congr_left
    intro j _
    rw [symm_apply_one _ _ _ _ _ (five_val_mod4 e j), hsel]
    exact hred _
  have hT : ∀ v : List Int, (slotOps lay (2 ^ (e + 3)) t).scaleInv c v = v.map (scInt t c) := by
    intro v
    simp only [slotOps]
    split
    · next h0 => simp [h0, scInt]
    · next h0 => simp [h0, scInt]
  rw [hT]
  unfold toSlots
  simp only [evOps]
  split
  · exact hrow _ fun _ => rfl
  · rw [hrow _ fun _ => rfl, hrow _ fun _ => rfl, List.map_append]

end

/-- CKKS layout: plain integers, `t = 0`, as the driver uses it -/
theorem sim_slots (lay : Layout) (e t : ℕ) (he : e + 3 ≤ 64) (hck : lay = .ckks → t = 0) :
    Sim (evOps lay e t) (slotOps lay (2 ^ (e + 3)) t) (toSlots lay e t) (GoodG lay e) :=
  ⟨toSlots_add, fun _ hg a => toSlots_aut he hck hg a, toSlots_scaleInv⟩

/-! ### every well-formed slot vector is the slot vector of an evaluation vector -/

/-- well-formed slot vectors: `N/2` entries per row (one row for `.single`, two otherwise), entries
    reduced modulo `t` when `t ≠ 0`. -/
def SlotVec (lay : Layout) (e t : ℕ) (v : List Int) : Prop :=
  v.length = (if lay = .single then 2 ^ (e + 1) else 2 * 2 ^ (e + 1)) ∧
    (t ≠ 0 → ∀ x ∈ v, 0 ≤ x ∧ x < (t : ℤ))

/-- the evaluation vector with given slots (the discrete logarithm is the model's own). -/
def ofSlots (lay : Layout) (e t : ℕ) (v : List Int) : EV lay e t :=
  ⟨symm lay e t (fun u =>
      (((v.getD ((solveDiscreteLog (2 ^ (e + 3)) u.val).getD 0) 0 : ℤ) : ZMod t),
       ((v.getD (2 ^ (e + 1) + (solveDiscreteLog (2 ^ (e + 3)) u.val).getD 0) 0 : ℤ) : ZMod t))),
    symm_mem lay e t _⟩

theorem dlog_five (e : ℕ) (he : e + 3 ≤ 64) (j : ℕ) (hj : j < 2 ^ (e + 1)) :
    solveDiscreteLog (2 ^ (e + 3)) ((5 : ZMod (2 ^ (e + 3))) ^ j).val = some j := by
  have h := galEl_cast (e + 3) (by omega) he (j : ℤ)
  rw [zpow_natCast, Units.val_pow_eq_pow_val, val_five] at h
  rw [← h, ZMod.val_natCast, Nat.mod_eq_of_lt (galEl_lt _ (by omega) _), dlog_galEl e he]
  congr 1
  have : ((j : ℤ)) % ((2 ^ (e + 1) : ℕ) : ℤ) = j := Int.emod_eq_of_lt (by omega) (by exact_mod_cast hj)
  rw [this]; simp

theorem cast_intCast_of_valid (t : ℕ) (x : ℤ) (hx : t ≠ 0 → 0 ≤ x ∧ x < (t : ℤ)) :
    (((x : ℤ) : ZMod t).cast : ℤ) = x := by
  rw [ZMod.coe_intCast]
  by_cases h0 : t = 0
  · subst h0; simp
  · obtain ⟨h1, h2⟩ := hx h0
    exact Int.emod_eq_of_lt h1 h2

theorem getD_valid {t : ℕ} {v : List Int} (hv : t ≠ 0 → ∀ x ∈ v, 0 ≤ x ∧ x < (t : ℤ)) (i : ℕ) :
    t ≠ 0 → 0 ≤ v.getD i 0 ∧ v.getD i 0 < (t : ℤ) := fun h0 =>
  ListLemmas.getD_forall (p := fun x => 0 ≤ x ∧ x < (t : ℤ))
    ⟨le_refl _, Int.natCast_pos.mpr (Nat.pos_of_ne_zero h0)⟩ (hv h0) i

theorem range_getD (v : List Int) (h : ℕ) (hlen : v.length = h) :
    (List.range h).map (fun j => v.getD j 0) = v := by
  subst hlen
  exact (ListLemmas.map_getD_range id v).trans (List.map_id v)

theorem range_getD_two (v : List Int) (h : ℕ) (hlen : v.length = 2 * h) :
    (List.range h).map (fun j => v.getD j 0) ++ (List.range h).map (fun j => v.getD (h + j) 0) = v := by
  conv_rhs => rw [← range_getD v _ hlen, two_mul, List.range_add, List.map_append, List.map_map]
  rfl

theorem toSlots_ofSlots (lay : Layout) (e t : ℕ) (he : e + 3 ≤ 64) (v : List Int)
    (hv : SlotVec lay e t v) : toSlots lay e t (ofSlots lay e t v) = v := by
  obtain ⟨hlen, hval⟩ := hv
  have hrow : ∀ (sel : ZMod t × ZMod t → ZMod t) (off : ℕ),
      (∀ j, sel (((v.getD j 0 : ℤ) : ZMod t), ((v.getD (2 ^ (e + 1) + j) 0 : ℤ) : ZMod t))
        = ((v.getD (off + j) 0 : ℤ) : ZMod t)) →
      rowOf e t (ofSlots lay e t v).1 sel = (List.range (2 ^ (e + 1))).map (fun j => v.getD (off + j) 0) :=
    fun sel off hsel => List.map_congr_left fun j hj => by
      simp only [ofSlots]
      rw [symm_apply_one _ _ _ _ _ (five_val_mod4 e j), dlog_five e he j (List.mem_range.mp hj)]
      exact (congrArg ZMod.cast (hsel j)).trans (cast_intCast_of_valid t _ (getD_valid hval _))
  have hfst := hrow Prod.fst 0 fun j => by rw [Nat.zero_add]
  have hsnd := hrow Prod.snd (2 ^ (e + 1)) fun j => rfl
  simp only [Nat.zero_add] at hfst
  unfold toSlots
  split
  · next hs => rw [if_pos hs] at hlen; rw [hfst]; exact range_getD v _ hlen
  · next hs => rw [if_neg hs] at hlen; rw [hfst, hsnd]; exact range_getD_two v _ hlen

theorem slotVec_toSlots (lay : Layout) (e t : ℕ) (f : EV lay e t) : SlotVec lay e t (toSlots lay e t f) := by
  have hrow : ∀ sel, ∀ x ∈ rowOf e t f.1 sel, t ≠ 0 → 0 ≤ x ∧ x < (t : ℤ) := by
    intro sel x hx h0
    obtain ⟨j, _, rfl⟩ := List.mem_map.mp hx
    have : NeZero t := ⟨h0⟩
    rw [ZMod.cast_eq_val]
    exact ⟨Int.natCast_nonneg _, by exact_mod_cast ZMod.val_lt _⟩
  unfold SlotVec toSlots
  split
  · exact ⟨by simp, fun h0 x hx => hrow _ x hx h0⟩
  · exact ⟨by simp; ring, fun h0 x hx => (List.mem_append.mp hx).elim (hrow _ x · h0) (hrow _ x · h0)⟩

/-! ## transfer along `toSlots`

  Zero, sums, sums of rotations: what the slot-vector specifications of `Props/C11.lean` rewrite with.
  `slotZero` is the all-zero slot vector of the layout's length, where `slotSum` starts; `red t` reduces an
  entry modulo `t` (not at all for `t = 0`), as `slotOps.add` does. -/

def slotZero (lay : Layout) (e : ℕ) : List Int :=
  List.replicate (if lay = .single then 2 ^ (e + 1) else 2 * 2 ^ (e + 1)) 0

/-- `Σ_{r<n} F r` with the addition of `slotOps` (entry-wise, reduced mod `t` when `t ≠ 0`). -/
def slotSum (lay : Layout) (e t n : ℕ) (F : ℕ → List Int) : List Int :=
  (List.range n).foldl (fun acc r => (slotOps lay (2 ^ (e + 3)) t).add acc (F r)) (slotZero lay e)

theorem slotSum_succ (lay : Layout) (e t n : ℕ) (F : ℕ → List Int) :
    slotSum lay e t (n + 1) F = (slotOps lay (2 ^ (e + 3)) t).add (slotSum lay e t n F) (F n) := by
  unfold slotSum
  rw [List.range_succ, List.foldl_append]
  rfl

theorem toSlots_zero (lay : Layout) (e t : ℕ) : toSlots lay e t 0 = slotZero lay e := by
  have hrow : ∀ sel : ZMod t × ZMod t → ZMod t, sel 0 = 0 →
      rowOf e t (0 : ZMod (2 ^ (e + 3)) → ZMod t × ZMod t) sel = List.replicate (2 ^ (e + 1)) 0 := by
    intro sel hsel
    simp only [rowOf, Pi.zero_apply, hsel, ZMod.cast_zero, List.map_const', List.length_range]
  unfold toSlots slotZero
  have hc : (↑(0 : EV lay e t) : ZMod (2 ^ (e + 3)) → ZMod t × ZMod t) = 0 := rfl
  split
  · rw [hc, hrow _ rfl]
  · rw [hc, hrow _ rfl, hrow _ rfl, ← List.replicate_add, two_mul]

section
variable {lay : Layout} {e t : ℕ}

theorem goodG_galEl (k : ℤ) : GoodG lay e (galEl (2 ^ (e + 3)) k) := Or.inl ⟨k, rfl⟩

theorem goodG_orderTwo (hlay : lay ≠ .single) : GoodG lay e (2 ^ (e + 3) - 1) := Or.inr ⟨hlay, rfl⟩

theorem toSlots_sum (F : ℕ → EV lay e t) (n : ℕ) :
    toSlots lay e t (∑ r ∈ range n, F r) = slotSum lay e t n (fun r => toSlots lay e t (F r)) := by
  induction n with
  | zero => simp [slotSum, toSlots_zero]
  | succ n ih => rw [Finset.sum_range_succ, toSlots_add, ih, slotSum_succ]

theorem toSlots_sum_rot (he : e + 3 ≤ 64) (hck : lay = .ckks → t = 0) (ks : ℕ → ℤ) (a : EV lay e t) (n : ℕ) :
    toSlots lay e t (∑ r ∈ range n, rot (evOps lay e t) (2 ^ (e + 3)) (ks r) a)
      = slotSum lay e t n (fun r => slotAut lay (2 ^ (e + 3)) (galEl (2 ^ (e + 3)) (ks r)) (toSlots lay e t a)) := by
  rw [toSlots_sum]
  congr 1
  funext r
  exact toSlots_aut he hck (goodG_galEl _) a

end

variable (lay : Layout) (e t : ℕ)

theorem rotate_slots_spec (v : List Int) (k : ℤ) :
    rotate (slotOps lay (2 ^ (e + 3)) t) (2 ^ (e + 3)) v k
      = .ok (slotAut lay (2 ^ (e + 3)) (galEl (2 ^ (e + 3)) k) v)
            (request false (galEl (2 ^ (e + 3)) k) []) := rfl

theorem conjugate_slots_spec (v : List Int) :
    conjugate (slotOps lay (2 ^ (e + 3)) t) .standard (2 ^ (e + 3)) v
      = .ok (slotAut lay (2 ^ (e + 3)) (2 ^ (e + 3) - 1) v) (request false (2 ^ (e + 3) - 1) []) := rfl

def red (t : ℕ) (x : ℤ) : ℤ := if t = 0 then x else x % (t : ℤ)

theorem slotLen_pos : 0 < (if lay = .single then 2 ^ (e + 1) else 2 * 2 ^ (e + 1)) := by
  split <;> positivity

theorem slotOps_add_length (a b : List Int) :
    ((slotOps lay (2 ^ (e + 3)) t).add a b).length = min a.length b.length := by
  simp [slotOps]

theorem slotOps_add_getD (a b : List Int) (i : ℕ) (ha : i < a.length) (hb : i < b.length) :
    ((slotOps lay (2 ^ (e + 3)) t).add a b).getD i 0
      = if t = 0 then a.getD i 0 + b.getD i 0 else (a.getD i 0 + b.getD i 0) % (t : ℤ) := by
  simp [slotOps, List.getD_eq_getElem?_getD, ha, hb]

/-! ### well-formed slot vectors are the values of `toSlots`, closed under `add` and `aut g` -/

theorem exists_ev {lay : Layout} {e t : ℕ} (he : e + 3 ≤ 64) {v : List Int} (hv : SlotVec lay e t v) :
    ∃ f : EV lay e t, toSlots lay e t f = v := ⟨ofSlots lay e t v, toSlots_ofSlots lay e t he v hv⟩

theorem slotVec_add (he : e + 3 ≤ 64) (v w : List Int)
    (hv : SlotVec lay e t v) (hw : SlotVec lay e t w) :
    SlotVec lay e t ((slotOps lay (2 ^ (e + 3)) t).add v w) := by
  obtain ⟨f, rfl⟩ := exists_ev he hv
  obtain ⟨g, rfl⟩ := exists_ev he hw
  rw [← toSlots_add]
  exact slotVec_toSlots lay e t _

theorem slotVec_aut (he : e + 3 ≤ 64) (hck : lay = .ckks → t = 0) (g : ℕ) (hg : GoodG lay e g)
    (v : List Int) (hv : SlotVec lay e t v) : SlotVec lay e t (slotAut lay (2 ^ (e + 3)) g v) := by
  obtain ⟨f, rfl⟩ := exists_ev he hv
  rw [← toSlots_aut he hck hg]
  exact slotVec_toSlots lay e t _

theorem slotAut_length (he : e + 3 ≤ 64) (v : List Int) (k : ℤ) (hv : SlotVec lay e t v) :
    (slotAut lay (2 ^ (e + 3)) (galEl (2 ^ (e + 3)) k) v).length = v.length := by
  -- the length does not depend on the modulus: take `t = 0`
  have h0 : SlotVec lay e 0 v := ⟨hv.1, fun h => absurd rfl h⟩
  rw [(slotVec_aut lay e 0 he (fun _ => rfl) _ (goodG_galEl k) v h0).1, hv.1]

end EV

end Lattigo.Proofs.SlotLawful
