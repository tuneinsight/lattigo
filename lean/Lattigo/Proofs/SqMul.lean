/-
  Square-and-multiply, once.  The model transcribes `ring.ModExp` several times (`NTT.modExp.go`,
  `Galois.modExpLoop`, `Galois.modExpPow2Loop`, `PolyEval.modExpLoop`, `Shamir.powLoop`, …): the loops
  differ in argument order, in whether they stop early and in how the fuel is chosen, so they are not
  equal as functions, but each satisfies the three equations of `SqMul`, and what is known about any of
  them follows from those.  With it Fermat's inverse `a^(p-2)`, on residues and in `ZMod p`: the fact behind
  every inverse the code computes as `ring.ModExp(a, p-2, p)`.
-/
import Mathlib.FieldTheory.Finite.Basic

namespace Lattigo

/-- `go fuel e x r` runs square-and-multiply modulo `p` on exponent `e`, base `x`, accumulator `r`. -/
structure SqMul (p : ℕ) (go : ℕ → ℕ → ℕ → ℕ → ℕ) : Prop where
  out : ∀ e x r, go 0 e x r = r
  stop : ∀ f x r, go f 0 x r = r
  step : ∀ f e x r, e ≠ 0 →
    go (f + 1) e x r = go f (e / 2) (x * x % p) (if e % 2 = 1 then r * x % p else r)

namespace SqMul
variable {p : ℕ} {go : ℕ → ℕ → ℕ → ℕ → ℕ}

/-- one round keeps `r · x^e`: the bit `e % 2` goes into the accumulator, the base is squared, the
    exponent halved -/
theorem sq_mul_step {M : Type*} [CommMonoid M] (r x : M) (e : ℕ) :
    (if e % 2 = 1 then r * x else r) * (x * x) ^ (e / 2) = r * x ^ e := by
  rw [← pow_two, ← pow_mul]
  conv_rhs => rw [← Nat.div_add_mod e 2, pow_add]
  rcases Nat.mod_two_eq_zero_or_one e with h | h
  · rw [h, if_neg (by omega), pow_zero, mul_one]
  · rw [h, if_pos rfl, pow_one, mul_assoc, mul_comm x]

theorem cast (h : SqMul p go) : ∀ (f e x r : ℕ), e < 2 ^ f →
    ((go f e x r : ℕ) : ZMod p) = (r : ZMod p) * (x : ZMod p) ^ e
  | 0, e, x, r, he => by rw [h.out, Nat.lt_one_iff.mp he, pow_zero, mul_one]
  | f + 1, e, x, r, he => by
    by_cases h0 : e = 0
    · rw [h0, h.stop, pow_zero, mul_one]
    · rw [h.step f e x r h0, h.cast f _ _ _ (by rw [pow_succ] at he; omega), ZMod.natCast_mod,
        Nat.cast_mul, ← sq_mul_step (r : ZMod p), apply_ite (Nat.cast : ℕ → ZMod p),
        ZMod.natCast_mod, Nat.cast_mul]

theorem lt (h : SqMul p go) : ∀ (f e x r : ℕ), r < p → go f e x r < p
  | 0, e, x, r, hr => by rwa [h.out]
  | f + 1, e, x, r, hr => by
    by_cases h0 : e = 0
    · rwa [h0, h.stop]
    · rw [h.step f e x r h0]
      refine h.lt f _ _ _ ?_
      split
      · exact Nat.mod_lt _ (Nat.zero_lt_of_lt hr)
      · exact hr

theorem mod_eq (h : SqMul p go) (f e x r : ℕ) (he : e < 2 ^ f) : go f e x r % p = r * x ^ e % p :=
  (ZMod.natCast_eq_natCast_iff' _ _ _).mp (by rw [h.cast f e x r he, Nat.cast_mul, Nat.cast_pow])

theorem eq (h : SqMul p go) (f e x r : ℕ) (he : e < 2 ^ f) (hr : r < p) :
    go f e x r = r * x ^ e % p := by
  rw [← h.mod_eq f e x r he, Nat.mod_eq_of_lt (h.lt f e x r hr)]

/-- the usual call: base reduced, accumulator `1 % p` -/
theorem eq_pow_mod (h : SqMul p go) (hp : 0 < p) (f e x : ℕ) (he : e < 2 ^ f) :
    go f e (x % p) (1 % p) = x ^ e % p := by
  rw [h.eq f e _ _ he (Nat.mod_lt _ hp), Nat.mul_mod, Nat.mod_mod, ← Nat.pow_mod, ← Nat.mul_mod,
    Nat.one_mul]

end SqMul

theorem pow_sub_two_eq_inv {p : ℕ} [hp : Fact p.Prime] {a : ZMod p} (ha : a ≠ 0) :
    a ^ (p - 2) = a⁻¹ := by
  have h := ZMod.pow_card_sub_one_eq_one ha
  rw [show p - 1 = (p - 2) + 1 by have := hp.out.two_le; omega, pow_succ] at h
  exact eq_inv_of_mul_eq_one_left h

theorem mul_pow_sub_two_mod {p a : ℕ} (hp : p.Prime) (ha : ¬ p ∣ a) :
    a * (a ^ (p - 2) % p) % p = 1 := by
  have := Fact.mk hp
  have h0 : (a : ZMod p) ≠ 0 := by rwa [Ne, ZMod.natCast_eq_zero_iff]
  have h1 : a * a ^ (p - 2) % p = 1 % p := (ZMod.natCast_eq_natCast_iff' _ _ _).mp (by
    rw [Nat.cast_mul, Nat.cast_pow, pow_sub_two_eq_inv h0, mul_inv_cancel₀ h0, Nat.cast_one])
  rw [Nat.mul_mod_mod, h1, Nat.mod_eq_of_lt hp.one_lt]

end Lattigo
