/-
  Stack closure C02 → C03/C04/C20: POLYNOMIAL level (`RPoly` / `WFPoly`).

  The model's constants are the ring's (`constPoly_map`); `P·P⁻¹ = 1` for the model's `pinvElt` (`hP_closed`, from `modInv_spec`).

  The centred remainder modulo `P` of the key-switching model (C04), `remZ`: the HPS formula with the IEEE index.  `rem x ≡ x` on
  the rows of `P` for EVERY value of the index (`ofInts_eq_of_emod` is the reduction criterion, `col_emod` the step from the
  residues of a column to a row congruence); `2‖remZ‖∞ ≤ P` only under the named hypothesis `FloatExactPoly`.

  The exact centred remainder of C03 (`RLWE.RQ.modDown`) and C20 (`RGSW.modDown`), `cenZ` / `remC`: same congruence, the bound
  without IEEE hypothesis; under `FloatExactPoly` all three models compute the same remainder (`remZ_eq_cenZ`).  `mdRows`: the
  rows `((v − l) mod q)·P⁻¹ mod q` both exact `ModDown`s write are `KS.modDown pinvElt a (ofInts qs l)` (`mdRows_eq`, what
  `Proofs/StackKSExact` uses).
-/
import Lattigo.Proofs.StackKSInt
import Lattigo.Proofs.RPolyTransport

set_option linter.unusedSectionVars false

namespace Lattigo.StackKS
open Lattigo Lattigo.RPolyRing Lattigo.Transport Lattigo.Scaling Lattigo.BasisExt

theorem scalarRow_eq (q n k : ℕ) (hn : 1 ≤ n) :
    scalarRow q n k = (k % q) :: List.replicate (n - 1) 0 := by
  obtain ⟨m, rfl⟩ : ∃ m, n = m + 1 := ⟨n - 1, by omega⟩
  unfold scalarRow
  rw [List.range_succ_eq_map]
  simp only [List.map_cons, List.map_map, if_true, Nat.add_sub_cancel]
  congr 1
  rw [List.eq_replicate_iff]
  refine ⟨by simp, fun b hb => ?_⟩
  simp only [List.mem_map, List.mem_range, Function.comp] at hb
  obtain ⟨a, _, rfl⟩ := hb
  simp

section consts
variable {qs : List ℕ} {n : ℕ} [hg : Good qs n]

theorem constPoly_map (f : ℕ → ℕ) : KS.constPoly qs n (qs.map f) = val (WFPoly.constNat (qs := qs) (n := n) f) := by
  show _ = ({ qs := qs, c := qs.map fun q => scalarRow q n (f q) } : RPoly)
  unfold KS.constPoly
  rw [ListLemmas.zip_map_self]
  congr 1
  apply List.map_congr_left
  intro q _
  rw [scalarRow_eq _ _ _ hg.n_pos]

end consts

section rows
variable {L : List ℕ} {n : ℕ}

theorem constPoly_row (vals : List ℕ) (hl : vals.length = L.length) (k : ℕ) (hk : k < L.length) :
    (KS.constPoly L n vals).c.getD k [] = (vals.getD k 0 % L.getD k 0) :: List.replicate (n - 1) 0 := by
  have hv : k < vals.length := by omega
  simp [KS.constPoly, List.getD_eq_getElem?_getD, hk, hv]

theorem constPoly_wf' [hg : Good L n] (vals : List ℕ) (hl : vals.length = L.length) :
    WFq L n (KS.constPoly L n vals) := by
  refine ⟨rfl, by simp [KS.constPoly, hl], fun i hi => ?_⟩
  have hi' : i < L.length := hi
  have e : L.getD i 0 = L[i] := by simp [List.getD_eq_getElem?_getD, hi']
  rw [constPoly_row vals hl i hi', ← scalarRow_eq _ _ _ hg.n_pos, e]
  show RowWF L[i] n _
  exact RowWF.scalar (by have := hg.q_ge _ (List.getElem_mem hi'); omega) _

end rows

/-- the constant `k` of `R_qs` -/
def constQ (qs : List ℕ) (n k : ℕ) : RPoly := KS.constPoly qs n (qs.map fun _ => k)

theorem constQ_eq {qs : List ℕ} {n : ℕ} [Good qs n] (k : ℕ) :
    constQ qs n k = val (WFPoly.constNat (qs := qs) (n := n) fun _ => k) := constPoly_map _

theorem constQ_wf {qs : List ℕ} {n : ℕ} [Good qs n] (k : ℕ) : WFq qs n (constQ qs n k) :=
  constPoly_wf' _ (List.length_map _)

theorem takeRows_constQ (qs ps : List ℕ) (n k : ℕ) :
    takeRows qs.length (constQ (qs ++ ps) n k) = constQ qs n k := by
  unfold constQ KS.constPoly takeRows
  rw [ListLemmas.zip_map_self, ListLemmas.zip_map_self, List.map_append, List.take_left' (by simp)]
  simp

theorem pinvElt_eq {qs : List ℕ} {n : ℕ} [Good qs n] (ps : List ℕ) :
    KS.pinvElt qs ps n = val (WFPoly.constNat (qs := qs) (n := n) fun q => RPoly.modInv (RPoly.prod ps % q) q) :=
  constPoly_map _

theorem pinvElt_wf {qs : List ℕ} {n : ℕ} [Good qs n] (ps : List ℕ) : WFq qs n (KS.pinvElt qs ps n) :=
  constPoly_wf' _ (List.length_map _)

theorem mul_modInv_mod (P q : ℕ) (hq : 2 ≤ q) (hc : Nat.Coprime P q) :
    (P * RPoly.modInv (P % q) q) % q = 1 := by
  have h := modInv_spec (P % q) q hq (by rw [Nat.Coprime, ← Nat.gcd_rec]; exact Nat.Coprime.symm hc)
  rwa [Nat.mod_mul_mod] at h

theorem hP_closed {qs : List ℕ} {n : ℕ} [hg : Good qs n] (ps : List ℕ)
    (hcop : ∀ q ∈ qs, Nat.Coprime (RPoly.prod ps) q) :
    constQ qs n (RPoly.prod ps) * KS.pinvElt qs ps n = rpOne qs n := by
  rw [constQ_eq, pinvElt_eq]
  exact congrArg val (WFPoly.constNat_mul_eq_one (qs := qs) (n := n) (fun _ => RPoly.prod ps)
    (fun q => RPoly.modInv (RPoly.prod ps % q) q)
    (fun q hq => mul_modInv_mod _ _ (hg.q_ge q hq) (hcop q hq)))

theorem coprime_prod_of_pairwise {qs ps : List ℕ} (hc : (qs ++ ps).Pairwise Nat.Coprime) :
    ∀ q ∈ qs, Nat.Coprime (RPoly.prod ps) q := by
  intro q hq
  rw [prod_eq_prodN]
  exact (prodN_coprime (fun p hp => (List.pairwise_append.mp hc).2.2 q hq p hp)).symm

theorem pairwise_coprime_of_primes {l : List ℕ} (hp : ∀ q ∈ l, Nat.Prime q) (hnd : l.Nodup) :
    l.Pairwise Nat.Coprime :=
  Scaling.pairwise_coprime_of_primes l hp hnd

theorem ofInts_row (qs : List ℕ) (v : List ℤ) (i : ℕ) (hi : i < qs.length) :
    (RPoly.ofInts qs v).c.getD i [] = v.map fun (x : ℤ) => (x % ((qs.getD i 1 : ℕ) : ℤ)).toNat := by
  simp [RPoly.ofInts, List.getD, hi]

theorem takeRows_ofInts (qs ps : List ℕ) (v : List ℤ) :
    takeRows qs.length (RPoly.ofInts (qs ++ ps) v) = RPoly.ofInts qs v := by
  simp [takeRows, RPoly.ofInts]

theorem partP_ofInts (qs ps : List ℕ) (v : List ℤ) :
    KS.partP qs.length (RPoly.ofInts (qs ++ ps) v) = RPoly.ofInts ps v := by
  simp [KS.partP, RPoly.ofInts]

theorem partP_zero {qs ps : List ℕ} {n : ℕ} : KS.partP qs.length (RPoly.zero (qs ++ ps) n) = RPoly.zero ps n := by
  simp [KS.partP, RPoly.zero]

theorem good_right {qs ps : List ℕ} {n : ℕ} (hg : Good (qs ++ ps) n) : Good ps n :=
  ⟨hg.n_pos, fun q hq => hg.q_ge q (List.mem_append_right _ hq)⟩

theorem good_left {qs ps : List ℕ} {n : ℕ} (hg : Good (qs ++ ps) n) : Good qs n :=
  ⟨hg.n_pos, fun q hq => hg.q_ge q (List.mem_append_left _ hq)⟩

theorem partP_wf {qs ps : List ℕ} {n : ℕ} {x : RPoly} (h : WFq (qs ++ ps) n x) :
    WFq ps n (KS.partP qs.length x) := by
  obtain ⟨h1, h2, h3⟩ := h
  refine ⟨by simp [KS.partP, h1], by simp [KS.partP, h1, h2], fun i hi => ?_⟩
  have hi' : i < ps.length := by simpa [KS.partP, h1] using hi
  have hi'' : qs.length + i < x.qs.length := by rw [h1, List.length_append]; omega
  have := h3 (qs.length + i) hi''
  have e1 : (KS.partP qs.length x).qs[i] = x.qs[qs.length + i] := by simp [KS.partP]
  have e2 : (KS.partP qs.length x).c.getD i [] = x.c.getD (qs.length + i) [] := by
    simp [KS.partP, List.getD_eq_getElem?_getD]
  rw [e1, e2]; exact this

theorem headD_length {ps : List ℕ} {n : ℕ} {x : RPoly} (h : WFq ps n x) (hne : ps ≠ []) :
    (x.c.headD []).length = n := by
  obtain ⟨h1, h2, h3⟩ := h
  have hpos : 0 < x.qs.length := by rw [h1]; exact List.length_pos_of_ne_nil hne
  have := (h3 0 hpos).len
  have e : x.c.headD [] = x.c.getD 0 [] := by cases x.c <;> rfl
  rw [e]; exact this

theorem wf_entry_lt {ps : List ℕ} {n : ℕ} {x : RPoly} (h : WFq ps n x) (k : ℕ) (hk : k < ps.length) (t : ℕ)
    (ht : t < n) : (x.c.getD k []).length = n ∧ (x.c.getD k []).getD t 0 < ps.getD k 0 := by
  obtain ⟨h1, h2, h3⟩ := h
  have hk' : k < x.qs.length := by rw [h1]; exact hk
  have hw := h3 k hk'
  have e : x.qs[k] = ps.getD k 0 := by
    simp [List.getD_eq_getElem?_getD, h1, hk]
  rw [e] at hw
  exact ⟨hw.len, hw.lt _ (ListLemmas.getD_mem (by rw [hw.len]; exact ht))⟩

/-- the signed coefficients `KS.modUpPtoQ` reduces modulo the `q_k`: the model's centred lift (`KS.centerHalf`: the
HPS formula with the IEEE index) of the residues modulo `P`, coefficient by coefficient -/
def remZ (xP : RPoly) : List ℤ :=
  (List.range (xP.c.headD []).length).map fun t => KS.centerHalf xP.qs (KS.colOf xP.c t)

theorem modUpPtoQ_eq (qs : List ℕ) (xP : RPoly) : KS.modUpPtoQ qs xP = RPoly.ofInts qs (remZ xP) := rfl

/-- the centred remainder as an element of `R_{QP}` -/
def rem (qs ps : List ℕ) (x : RPoly) : RPoly := RPoly.ofInts (qs ++ ps) (remZ (KS.partP qs.length x))

theorem takeRows_rem (qs ps : List ℕ) (x : RPoly) :
    takeRows qs.length (rem qs ps x) = KS.modUpPtoQ qs (KS.partP qs.length x) := takeRows_ofInts _ _ _

theorem remZ_length {ps : List ℕ} {n : ℕ} {xP : RPoly} (h : WFq ps n xP) (hne : ps ≠ []) :
    (remZ xP).length = n := by
  unfold remZ
  rw [List.length_map, List.length_range]
  exact headD_length h hne

theorem rem_wf {qs ps : List ℕ} {n : ℕ} [hg : Good (qs ++ ps) n] {x : RPoly} (h : WFq (qs ++ ps) n x)
    (hne : ps ≠ []) : WFq (qs ++ ps) n (rem qs ps x) :=
  ofInts_wf _ (remZ_length (partP_wf h) hne)

theorem modUpPtoQ_wf {qs ps : List ℕ} {n : ℕ} [hgq : Good qs n] {x : RPoly} (h : WFq (qs ++ ps) n x)
    (hne : ps ≠ []) : WFq qs n (KS.modUpPtoQ qs (KS.partP qs.length x)) := by
  rw [modUpPtoQ_eq]; exact ofInts_wf _ (remZ_length (partP_wf h) hne)

theorem col_residues {ps : List ℕ} {n : ℕ} {xP : RPoly} (h : WFq ps n xP) (hc : ps.Pairwise Nat.Coprime)
    (hge : ∀ p ∈ ps, 2 ≤ p) (t : ℕ) :
    ∃ X, X < prodN ps ∧ Residues ps (KS.colOf xP.c t) X :=
  (crt_exists ps _ hc (pos_of_ge2 hge) (by simp [KS.colOf, h.c_length, h.qs_eq])).imp
    fun _ hX => ⟨hX.1, hc, hge, hX.2⟩

theorem forall₂_getD {R : ℕ → ℕ → Prop} {l r : List ℕ} (h : List.Forall₂ R l r) (k : ℕ) (hk : k < l.length) :
    R (l.getD k 0) (r.getD k 0) := by
  have hl := h.length_eq
  have := (List.forall₂_iff_get.mp h).2 k hk (by omega)
  simpa [List.getD_eq_getElem?_getD, hk, (by omega : k < r.length)] using this

theorem colOf_getD (rows : List (List ℕ)) (t k : ℕ) (hk : k < rows.length) :
    (KS.colOf rows t).getD k 0 = (rows.getD k []).getD t 0 := by
  simp [KS.colOf, List.getD_eq_getElem?_getD, hk]

theorem ofInts_eq_of_emod {ps : List ℕ} {n : ℕ} {xP : RPoly} (h : WFq ps n xP) (L : List ℤ) (hL : L.length = n)
    (hmod : ∀ k, k < ps.length → ∀ t, t < n →
      L.getD t 0 % ((ps.getD k 0 : ℕ) : ℤ) = (((xP.c.getD k []).getD t 0 : ℕ) : ℤ) % ((ps.getD k 0 : ℕ) : ℤ)) :
    RPoly.ofInts ps L = xP := by
  have h1 : xP.qs = ps := h.1
  have h2 : xP.c.length = ps.length := by rw [h.c_length, h1]
  have hgoal : (RPoly.ofInts ps L).c = xP.c := by
    show ps.map (fun (q : ℕ) => L.map fun (x : ℤ) => (x % (q : ℤ)).toNat) = xP.c
    apply List.ext_getElem (by rw [List.length_map, h2])
    intro k hk1 hk2
    have hk : k < ps.length := by rw [← h2]; exact hk2
    have hlen : (xP.c.getD k []).length = n := (h.row k (by rw [h1]; exact hk)).len
    rw [List.getElem_map, List.getElem_eq_getD []]
    apply List.ext_getElem (by rw [List.length_map, hL, hlen])
    intro t ht1 ht2
    have ht : t < n := by rw [← hlen]; exact ht2
    obtain ⟨_, hlt⟩ := wf_entry_lt h k hk t ht
    have eqk : ps.getD k 0 = ps[k] := by simp [List.getD_eq_getElem?_getD, hk]
    have e : (xP.c.getD k [])[t] = (xP.c.getD k []).getD t 0 := List.getElem_eq_getD 0
    have hm := hmod k hk t ht
    rw [eqk] at hm hlt
    rw [List.getElem_map, List.getElem_eq_getD (0 : ℤ), hm, e, ← Int.natCast_mod, Int.toNat_natCast,
      Nat.mod_eq_of_lt hlt]
  obtain ⟨xqs, xc⟩ := xP
  simp only at h1
  subst h1
  exact congrArg (RPoly.mk xqs) hgoal

/-- `ha` in the form the models deliver it: a congruence for EVERY `X` with the residues of the column (`centerHalf_emod`,
`crt_eq`) -/
theorem col_emod {ps : List ℕ} {n : ℕ} {xP : RPoly} (h : WFq ps n xP) (hc : ps.Pairwise Nat.Coprime)
    (hge : ∀ p ∈ ps, 2 ≤ p) {k : ℕ} (hk : k < ps.length) (t : ℕ) {a : ℤ}
    (ha : ∀ X, X < prodN ps → Residues ps (KS.colOf xP.c t) X →
      a % ((ps.getD k 0 : ℕ) : ℤ) = (X : ℤ) % ((ps.getD k 0 : ℕ) : ℤ)) :
    a % ((ps.getD k 0 : ℕ) : ℤ) = (((xP.c.getD k []).getD t 0 : ℕ) : ℤ) % ((ps.getD k 0 : ℕ) : ℤ) := by
  obtain ⟨X, hX, hres⟩ := col_residues h hc hge t
  have hr := forall₂_getD hres.res k hk
  rw [colOf_getD _ _ _ (by rw [h.c_length, h.qs_eq]; exact hk)] at hr
  rw [ha X hX hres, ← Int.natCast_mod, ← Int.natCast_mod, hr]

theorem remZ_emod {ps : List ℕ} {n : ℕ} {xP : RPoly} (h : WFq ps n xP) (hne : ps ≠ []) (hc : ps.Pairwise Nat.Coprime)
    (hge : ∀ p ∈ ps, 2 ≤ p) {k : ℕ} (hk : k < ps.length) {t : ℕ} (ht : t < n) :
    (remZ xP).getD t 0 % ((ps.getD k 0 : ℕ) : ℤ)
      = (((xP.c.getD k []).getD t 0 : ℕ) : ℤ) % ((ps.getD k 0 : ℕ) : ℤ) := by
  rw [remZ, ListLemmas.getD_map_range _ _ _ (by rw [headD_length h hne]; exact ht), h.1]
  exact col_emod h hc hge hk t fun X _ hres => centerHalf_emod hres (ListLemmas.getD_mem hk)

theorem ofInts_remZ {ps : List ℕ} {n : ℕ} {xP : RPoly} (h : WFq ps n xP) (hne : ps ≠ [])
    (hc : ps.Pairwise Nat.Coprime) (hge : ∀ p ∈ ps, 2 ≤ p) : RPoly.ofInts ps (remZ xP) = xP :=
  ofInts_eq_of_emod h _ (remZ_length h hne) fun _ hk _ ht => remZ_emod h hne hc hge hk ht

theorem partP_rem {qs ps : List ℕ} {n : ℕ} {x : RPoly} (h : WFq (qs ++ ps) n x) (hne : ps ≠ [])
    (hc : ps.Pairwise Nat.Coprime) (hge : ∀ p ∈ ps, 2 ≤ p) :
    KS.partP qs.length (rem qs ps x) = KS.partP qs.length x := by
  unfold rem
  rw [partP_ofInts]
  exact ofInts_remZ (partP_wf h) hne hc hge

/-- **the named IEEE hypothesis on a polynomial**: for every coefficient, the IEEE index of the HPS reconstruction of
its residues modulo the moduli of `xP` is the exact one (`FloatExact`, i.e. C02's `fidx … = hpsV …`) -/
def FloatExactPoly (xP : RPoly) : Prop :=
  ∀ t, t < (xP.c.headD []).length →
    FloatExact xP.qs (KS.reconY xP.qs (KS.colOf xP.c t) (prodN xP.qs / 2))

theorem remZ_bound {ps : List ℕ} {n : ℕ} {xP : RPoly} (h : WFq ps n xP) (hc : ps.Pairwise Nat.Coprime)
    (hge : ∀ p ∈ ps, 2 ≤ p) (hf : FloatExactPoly xP) :
    ∀ c ∈ remZ xP, 2 * c.natAbs ≤ prodN ps := by
  intro c hcm
  simp only [remZ, List.mem_map, List.mem_range] at hcm
  obtain ⟨t, ht, rfl⟩ := hcm
  have h1 : xP.qs = ps := h.1
  obtain ⟨X, _, hres⟩ := col_residues h hc hge t
  have hf' := hf t ht
  rw [h1] at hf' ⊢
  exact centerHalf_natAbs_le hres hf'

theorem remZ_getD {ps : List ℕ} {n : ℕ} {xP : RPoly} (h : WFq ps n xP) (hc : ps.Pairwise Nat.Coprime)
    (hge : ∀ p ∈ ps, 2 ≤ p) (hf : FloatExactPoly xP) (t : ℕ) (ht : t < (xP.c.headD []).length) (X : ℕ)
    (hres : List.Forall₂ (fun m r => r % m = X % m) ps (KS.colOf xP.c t)) :
    (remZ xP).getD t 0 = centeredRep (prodN ps) X := by
  have h1 : xP.qs = ps := h.1
  have hf' := hf t ht
  rw [h1] at hf'
  rw [remZ, ListLemmas.getD_map_range _ _ _ ht, h1]
  exact centerHalf_exact ⟨hc, hge, hres⟩ hf'

theorem cancel_inv {qs : List ℕ} {n : ℕ} [Good qs n] {P pinv Y : RPoly} (hPw : WFq qs n P) (hpw : WFq qs n pinv)
    (hY : WFq qs n Y) (hP : P * pinv = rpOne qs n) :
    P * (pinv * Y) = Y ∧ pinv * (P * Y) = Y ∧ P * (Y * pinv) = Y := by
  have h : lift P hPw * lift pinv hpw = 1 := val_injective hP
  exact ⟨congrArg val (show lift P hPw * (lift pinv hpw * lift Y hY) = lift Y hY by rw [← mul_assoc, h, one_mul]),
    congrArg val (show lift pinv hpw * (lift P hPw * lift Y hY) = lift Y hY by
      rw [← mul_assoc, mul_comm (lift pinv hpw), h, one_mul]),
    congrArg val (show lift P hPw * (lift Y hY * lift pinv hpw) = lift Y hY by
      rw [mul_comm (lift Y hY), ← mul_assoc, h, one_mul])⟩

theorem modDown_closed {qs ps : List ℕ} {n : ℕ} [Good qs n] (hcop : ∀ q ∈ qs, Nat.Coprime (RPoly.prod ps) q)
    {a ρ : RPoly} (ha : WFq qs n a) (hρ : WFq qs n ρ) :
    constQ qs n (RPoly.prod ps) * KS.modDown (KS.pinvElt qs ps n) a ρ = a - ρ
      ∧ WFq qs n (KS.modDown (KS.pinvElt qs ps n) a ρ) :=
  ⟨(cancel_inv (constQ_wf _) (pinvElt_wf ps) (ha.sub hρ) (hP_closed ps hcop)).2.2, (ha.sub hρ).mul (pinvElt_wf ps)⟩

theorem modDownR_of_wf {qs ps : List ℕ} {n : ℕ} (hqs : qs ≠ []) (hps : ps ≠ []) {x : RPoly}
    (hx : WFq (qs ++ ps) n x) :
    KS.modDownR qs.length x
      = KS.modDown (KS.pinvElt qs ps n) (takeRows qs.length x) (KS.modUpPtoQ qs (KS.partP qs.length x)) := by
  have hxq : x.qs = qs ++ ps := hx.1
  have hdrop : (x.qs.drop qs.length).isEmpty = false := by
    rw [hxq, List.drop_left']
    · cases ps with
      | nil => exact absurd rfl hps
      | cons _ _ => rfl
    · rfl
  have hn : ((x.c.take qs.length).headD []).length = n := headD_length (takeRows_wf hx) hqs
  have ht : takeRows qs.length x = { qs := qs, c := x.c.take qs.length } := by
    unfold takeRows; rw [hxq, List.take_left' rfl]
  unfold KS.modDownR
  simp only [KS.partQ, KS.partP, hdrop, Bool.false_eq_true, if_false, hn]
  rw [ht, hxq, List.take_left' rfl, List.drop_left' rfl]

theorem modDownR_closed {qs ps : List ℕ} {n : ℕ} [hgq : Good qs n] [Good (qs ++ ps) n] (hqs : qs ≠ [])
    (hps : ps ≠ []) (hcop : ∀ q ∈ qs, Nat.Coprime (RPoly.prod ps) q) {x : RPoly} (hx : WFq (qs ++ ps) n x) :
    constQ qs n (RPoly.prod ps) * KS.modDownR qs.length x
        = takeRows qs.length x - takeRows qs.length (rem qs ps x)
      ∧ WFq qs n (KS.modDownR qs.length x) := by
  rw [modDownR_of_wf hqs hps hx, takeRows_rem]
  exact modDown_closed hcop (takeRows_wf hx) (modUpPtoQ_wf hx hps)

/-- C02's centred representative of the CRT value of every coefficient of `xP` -/
def cenZ (xP : RPoly) : List ℤ :=
  (List.range (xP.c.headD []).length).map fun t =>
    centeredRep (prodN xP.qs) (RPoly.crt xP.qs (KS.colOf xP.c t))

/-- the exact centred remainder as an element of `R_{QP}` -/
def remC (qs ps : List ℕ) (x : RPoly) : RPoly := RPoly.ofInts (qs ++ ps) (cenZ (KS.partP qs.length x))

theorem cenZ_length {ps : List ℕ} {n : ℕ} {xP : RPoly} (h : WFq ps n xP) (hne : ps ≠ []) :
    (cenZ xP).length = n := by
  unfold cenZ
  rw [List.length_map, List.length_range]
  exact headD_length h hne

theorem remC_wf {qs ps : List ℕ} {n : ℕ} [hg : Good (qs ++ ps) n] {x : RPoly} (h : WFq (qs ++ ps) n x)
    (hne : ps ≠ []) : WFq (qs ++ ps) n (remC qs ps x) :=
  ofInts_wf _ (cenZ_length (partP_wf h) hne)

theorem cenZ_bound (xP : RPoly) (hpos : 0 < prodN xP.qs) :
    ∀ c ∈ cenZ xP, 2 * c.natAbs ≤ prodN xP.qs := by
  intro c hc
  simp only [cenZ, List.mem_map, List.mem_range] at hc
  obtain ⟨t, _, rfl⟩ := hc
  exact two_mul_centeredRep_natAbs_le _ _ hpos

theorem remZ_eq_cenZ {ps : List ℕ} {n : ℕ} {xP : RPoly} (h : WFq ps n xP) (hc : ps.Pairwise Nat.Coprime)
    (hge : ∀ p ∈ ps, 2 ≤ p) (hf : FloatExactPoly xP) : remZ xP = cenZ xP := by
  have h1 : xP.qs = ps := h.1
  unfold remZ cenZ
  apply List.map_congr_left
  intro t ht
  obtain ⟨X, hX, hres⟩ := col_residues h hc hge t
  have hf' := hf t (List.mem_range.mp ht)
  rw [h1] at hf' ⊢
  rw [crt_eq hres hX]
  exact centerHalf_exact hres hf'

theorem ofInts_cenZ {ps : List ℕ} {n : ℕ} {xP : RPoly} (h : WFq ps n xP) (hne : ps ≠ [])
    (hc : ps.Pairwise Nat.Coprime) (hge : ∀ p ∈ ps, 2 ≤ p) : RPoly.ofInts ps (cenZ xP) = xP :=
  ofInts_eq_of_emod h _ (cenZ_length h hne) fun k hk t ht => by
    have hd : (((ps.getD k 0 : ℕ) : ℤ)) ∣ (prodN ps : ℤ) := by
      exact_mod_cast dvd_prodN_of_mem ps _ (ListLemmas.getD_mem hk)
    rw [cenZ, ListLemmas.getD_map_range _ _ _ (by rw [headD_length h hne]; exact ht), h.1]
    exact col_emod h hc hge hk t fun X hX hres => by
      rw [crt_eq hres hX, ← Int.emod_emod_of_dvd _ hd, centeredRep_emod, Int.emod_emod_of_dvd _ hd]

theorem partP_remC {qs ps : List ℕ} {n : ℕ} {x : RPoly} (h : WFq (qs ++ ps) n x) (hne : ps ≠ [])
    (hc : ps.Pairwise Nat.Coprime) (hge : ∀ p ∈ ps, 2 ≤ p) :
    KS.partP qs.length (remC qs ps x) = KS.partP qs.length x := by
  unfold remC
  rw [partP_ofInts]
  exact ofInts_cenZ (partP_wf h) hne hc hge

/-- rows of `(x_Q − lift)·P⁻¹`, as both `RLWE.RQ.modDown` and `RGSW.modDown` write them -/
def mdRows (qs : List ℕ) (P : ℕ) (rowsQ : List (List ℕ)) (lift : List ℤ) : List (List ℕ) :=
  (qs.zip rowsQ).map fun (qr : ℕ × List ℕ) =>
    (qr.2.zip lift).map fun (vl : ℕ × ℤ) =>
      (((vl.1 : ℤ) - vl.2) % (qr.1 : ℤ)).toNat * RPoly.modInv (P % qr.1) qr.1 % qr.1

/-- one entry: the ℕ-level subtraction `(v + q − (l mod q)) mod q` of `RPoly.rowSub` against the reduced lift is
`(v − l) mod q` -/
theorem md_point (q : ℕ) (hq : 0 < q) (v : ℕ) (l : ℤ) :
    (v + q - (l % (q : ℤ)).toNat % q) % q = (((v : ℤ) - l) % (q : ℤ)).toNat := by
  have hq' : (0 : ℤ) < q := by exact_mod_cast hq
  have hr : (((l % (q : ℤ)).toNat : ℕ) : ℤ) = l % q := Int.toNat_of_nonneg (Int.emod_nonneg _ hq'.ne')
  have hrq : (l % (q : ℤ)).toNat < q := by
    have := Int.emod_lt_of_pos l hq'; omega
  rw [Nat.mod_eq_of_lt hrq]
  apply Int.ofNat.inj
  rw [Int.ofNat_eq_natCast, Int.ofNat_eq_natCast, Int.toNat_of_nonneg (Int.emod_nonneg _ hq'.ne'), Int.natCast_mod,
    Nat.cast_sub (by omega), Nat.cast_add, hr, add_sub_right_comm, Int.add_emod_right, Int.sub_emod, Int.emod_emod,
    ← Int.sub_emod]

theorem md_row (q inv : ℕ) (hq : 0 < q) : ∀ (row : List ℕ) (lift : List ℤ),
    RPoly.rowScale inv q (RPoly.rowSub q row (lift.map fun (x : ℤ) => (x % (q : ℤ)).toNat))
      = (row.zip lift).map fun (vl : ℕ × ℤ) => (((vl.1 : ℤ) - vl.2) % (q : ℤ)).toNat * inv % q
  | [], _ => by simp [RPoly.rowScale, RPoly.rowSub]
  | _ :: _, [] => by simp [RPoly.rowScale, RPoly.rowSub]
  | v :: row, l :: lift => by
    have ih := md_row q inv hq row lift
    simp only [RPoly.rowScale, RPoly.rowSub, List.map_cons, List.zipWith_cons_cons, List.zip_cons_cons] at ih ⊢
    rw [ih, md_point q hq]

/-- all rows: the rows of `mapRows (rowScale P⁻¹) (zipRows rowSub a (ofInts qs lift))`, unfolded, are `mdRows` -/
theorem md_rows_list (P : ℕ) (lift : List ℤ) :
    ∀ (qs : List ℕ) (rowsQ : List (List ℕ)), (∀ q ∈ qs, 0 < q) →
      (qs.zip ((qs.zip (rowsQ.zip (qs.map fun (q : ℕ) => lift.map fun (x : ℤ) => (x % (q : ℤ)).toNat))).map
          fun (qxy : ℕ × List ℕ × List ℕ) => RPoly.rowSub qxy.1 qxy.2.1 qxy.2.2)).map
        (fun (qx : ℕ × List ℕ) => RPoly.rowScale (RPoly.modInv (P % qx.1) qx.1) qx.1 qx.2)
      = mdRows qs P rowsQ lift
  | [], _, _ => by simp [mdRows]
  | _ :: _, [], _ => by simp [mdRows]
  | q :: qs, row :: rowsQ, hpos => by
    have ih := md_rows_list P lift qs rowsQ (fun a ha => hpos a (by simp [ha]))
    simp only [mdRows, List.map_cons, List.zip_cons_cons] at ih ⊢
    rw [ih, md_row _ _ (hpos q (by simp))]

theorem mdRows_eq {qs : List ℕ} {n : ℕ} [hg : Good qs n] (ps : List ℕ) {a : RPoly} (ha : WFq qs n a)
    (lf : List ℤ) (hl : lf.length = n) :
    ({ qs := qs, c := mdRows qs (RPoly.prod ps) a.c lf } : RPoly)
      = KS.modDown (KS.pinvElt qs ps n) a (RPoly.ofInts qs lf) := by
  have ho : WFq qs n (RPoly.ofInts qs lf) := ofInts_wf _ hl
  rw [pinvElt_eq]
  unfold KS.modDown
  show _ = val ((lift a ha - lift _ ho) * WFPoly.constNat _)
  rw [← WFPoly.scaleBy_eq_mul]
  show _ = RPoly.mapRows (fun q x => RPoly.rowScale (RPoly.modInv (RPoly.prod ps % q) q) q x)
    (RPoly.zipRows RPoly.rowSub a (RPoly.ofInts qs lf))
  unfold RPoly.mapRows RPoly.zipRows
  have haq : a.qs = qs := ha.1
  simp only [haq]
  congr 1
  exact (md_rows_list (RPoly.prod ps) lf qs a.c (fun q hq => by have := hg.q_ge q hq; omega)).symm

end Lattigo.StackKS
