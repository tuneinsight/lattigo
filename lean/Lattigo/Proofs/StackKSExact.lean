/-
  Stack closure C02 → C03/C20: the exact `ModDown`s of the public-key encryption model
  (`RLWE.RQ.modDown`) and of the external-product model (`RGSW.modDown`).

  Both reconstruct the residues modulo `P` with `RPoly.crt` (no floating point), centre, reduce modulo the
  `q_i`, subtract and multiply by `P⁻¹ mod q_i`.  On well-formed inputs both ARE
  `KS.modDown (pinvElt) (π x) (ofInts qs (cenZ x_P))` with `cenZ` = C02's `centeredRep P` of the CRT value
  (`rq_modDown_eq`, `rgsw_modDown_eq`); hence `P·down x = π x − π(remC x)` (`rq_modDown_closed`,
  `rgsw_modDown_closed`), `remC x ≡ x (mod P)` (`StackKS.partP_remC`) and `2‖cenZ‖∞ ≤ P` (`StackKS.cenZ_bound`).

  The `_round` theorems (C04's under the named IEEE hypothesis): every coefficient of the result is `⌊(X + ⌊P/2⌋)/P⌋ mod q_i` —
  C02's `modDown_round`, what `Props/C02.modDownQPtoQ_limbs` proves of the limb-level twin for the exact index: the three
  scheme-level models and the limb-level `BasisExt.modDownQPtoQ` compute the same residues.  No Props file cites them (the phase
  and noise theorems need only the `_closed` forms).
-/
import Lattigo.Proofs.StackKS
import Lattigo.Model.RGSW

set_option linter.unusedSectionVars false

namespace Lattigo.StackKS
open Lattigo Lattigo.RPolyRing Lattigo.Transport Lattigo.Scaling Lattigo.BasisExt

theorem transpose_eq (rows : List (List ℕ)) :
    RPoly.transpose rows = (List.range (rows.headD []).length).map fun j => KS.colOf rows j := by
  cases rows with
  | nil => rfl
  | cons r rs =>
    show (List.range r.length).map _ = (List.range r.length).map _
    apply List.map_congr_left
    intro j _
    unfold KS.colOf
    apply List.map_congr_left
    intro row _
    exact ListLemmas.get!_eq_getD row j

theorem shifted_res (X h M : ℕ) (ps col : List ℕ) (hd : ∀ m ∈ ps, m ∣ M)
    (hres : List.Forall₂ (fun m r => r % m = X % m) ps col) :
    List.Forall₂ (fun m r => r % m = ((X + h) % M) % m) ps
      ((ps.zip col).map fun (pc : ℕ × ℕ) => (pc.2 + h) % pc.1) := by
  induction hres with
  | nil => exact List.Forall₂.nil
  | @cons m r ms rs hr _ ih =>
    refine List.Forall₂.cons ?_ (ih (fun a ha => hd a (by simp [ha])))
    show (r + h) % m % m = _
    rw [Nat.mod_mod, Nat.mod_mod_of_dvd _ (hd m (by simp)), Nat.add_mod, hr, ← Nat.add_mod]

theorem rq_delta {ps col : List ℕ} {X : ℕ} (hr : Residues ps col X) (hX : X < prodN ps) :
    ((RPoly.crt ps ((ps.zip col).map fun (pc : ℕ × ℕ) => (pc.2 + RPoly.prod ps / 2) % pc.1) : ℕ) : ℤ)
        - ((RPoly.prod ps / 2 : ℕ) : ℤ)
      = centeredRep (prodN ps) (RPoly.crt ps col) := by
  have hM : 0 < prodN ps := Scaling.prodN_pos ps (pos_of_ge2 hr.ge)
  rw [crt_eq hr hX, prod_eq_prodN,
    crt_eq ⟨hr.coprime, hr.ge, shifted_res X (prodN ps / 2) (prodN ps) ps col (dvd_prodN_of_mem ps) hr.res⟩
      (Nat.mod_lt _ hM)]
  rfl

section models
variable {qs ps : List ℕ} {n : ℕ} [hgq : Good qs n] [hg : Good (qs ++ ps) n]

theorem take_wf_c {x : RPoly} (hx : WFq (qs ++ ps) n x) :
    takeRows qs.length x = { qs := qs, c := x.c.take qs.length } := by
  unfold takeRows; rw [hx.1, List.take_left' rfl]

theorem partP_wf_c {x : RPoly} (hx : WFq (qs ++ ps) n x) :
    KS.partP qs.length x = { qs := ps, c := x.c.drop qs.length } := by
  unfold KS.partP; rw [hx.1, List.drop_left' rfl]

theorem rq_lift_eq (hc : ps.Pairwise Nat.Coprime) {x : RPoly} (hx : WFq (qs ++ ps) n x) :
    (RPoly.transpose (x.c.drop qs.length)).map (fun col =>
        ((RPoly.crt ps ((ps.zip col).map fun (pc : ℕ × ℕ) => (pc.2 + RPoly.prod ps / 2) % pc.1) : ℕ) : ℤ)
          - ((RPoly.prod ps / 2 : ℕ) : ℤ))
      = cenZ (KS.partP qs.length x) := by
  have hge : ∀ p ∈ ps, 2 ≤ p := (good_right hg).q_ge
  have hw := partP_wf hx
  rw [partP_wf_c hx] at hw ⊢
  rw [transpose_eq, List.map_map]
  unfold cenZ
  apply List.map_congr_left
  intro t _
  obtain ⟨X, hX, hres⟩ := col_residues hw hc hge t
  exact rq_delta hres hX

theorem rq_modDown_eq (hps : ps ≠ []) (hc : ps.Pairwise Nat.Coprime) (ci : Bool) {x : RPoly}
    (hx : WFq (qs ++ ps) n x) :
    (RLWE.RQ.modDown qs.length ⟨ci, x⟩).p
      = KS.modDown (KS.pinvElt qs ps n) (takeRows qs.length x)
          (RPoly.ofInts qs (cenZ (KS.partP qs.length x))) := by
  have hl := cenZ_length (partP_wf hx) hps
  rw [← mdRows_eq ps (takeRows_wf hx) _ hl, ← rq_lift_eq hc hx]
  unfold RLWE.RQ.modDown
  simp only [hx.1, List.take_left' rfl, List.drop_left' rfl]
  rfl

theorem rgsw_lift_eq {x : RPoly} (hx : WFq (qs ++ ps) n x) :
    (RPoly.transpose (x.c.drop qs.length)).map (fun col =>
        (((RPoly.crt ps col + RPoly.prod ps / 2) % RPoly.prod ps : ℕ) : ℤ) - ((RPoly.prod ps / 2 : ℕ) : ℤ))
      = cenZ (KS.partP qs.length x) := by
  rw [partP_wf_c hx, transpose_eq, List.map_map]
  unfold cenZ
  apply List.map_congr_left
  intro t _
  simp only [Function.comp, prod_eq_prodN]
  rfl

theorem rgsw_modDown_eq (hps : ps ≠ []) {x : RPoly}
    (hx : WFq (qs ++ ps) n x) :
    RGSW.modDown qs ps x
      = KS.modDown (KS.pinvElt qs ps n) (takeRows qs.length x)
          (RPoly.ofInts qs (cenZ (KS.partP qs.length x))) := by
  have hl := cenZ_length (partP_wf hx) hps
  rw [← mdRows_eq ps (takeRows_wf hx) _ hl, ← rgsw_lift_eq hx]
  rfl

theorem exact_modDown_closed (hps : ps ≠ []) (hcop : ∀ q ∈ qs, Nat.Coprime (RPoly.prod ps) q) {x y : RPoly}
    (hx : WFq (qs ++ ps) n x)
    (hy : y = KS.modDown (KS.pinvElt qs ps n) (takeRows qs.length x) (RPoly.ofInts qs (cenZ (KS.partP qs.length x)))) :
    constQ qs n (RPoly.prod ps) * y = takeRows qs.length x - takeRows qs.length (remC qs ps x) ∧ WFq qs n y := by
  have e : takeRows qs.length (remC qs ps x) = RPoly.ofInts qs (cenZ (KS.partP qs.length x)) :=
    takeRows_ofInts _ _ _
  rw [e, hy]
  exact modDown_closed hcop (takeRows_wf hx) (ofInts_wf _ (cenZ_length (partP_wf hx) hps))

theorem rq_modDown_closed (hps : ps ≠ []) (hc : ps.Pairwise Nat.Coprime)
    (hcop : ∀ q ∈ qs, Nat.Coprime (RPoly.prod ps) q) (ci : Bool) {x : RPoly} (hx : WFq (qs ++ ps) n x) :
    constQ qs n (RPoly.prod ps) * (RLWE.RQ.modDown qs.length ⟨ci, x⟩).p
        = takeRows qs.length x - takeRows qs.length (remC qs ps x)
      ∧ WFq qs n (RLWE.RQ.modDown qs.length ⟨ci, x⟩).p :=
  exact_modDown_closed hps hcop hx (rq_modDown_eq hps hc ci hx)

theorem rgsw_modDown_closed (hps : ps ≠ [])
    (hcop : ∀ q ∈ qs, Nat.Coprime (RPoly.prod ps) q) {x : RPoly} (hx : WFq (qs ++ ps) n x) :
    constQ qs n (RPoly.prod ps) * RGSW.modDown qs ps x
        = takeRows qs.length x - takeRows qs.length (remC qs ps x)
      ∧ WFq qs n (RGSW.modDown qs ps x) :=
  exact_modDown_closed hps hcop hx (rgsw_modDown_eq hps hx)

end models

section round
variable {qs ps : List ℕ} {n : ℕ} [hgq : Good qs n] [hg : Good (qs ++ ps) n]

theorem getD_map_zip {α β γ : Type} (a : List α) (b : List β) (g : α × β → γ) (da : α) (db : β) (dg : γ) (t : ℕ)
    (h1 : t < a.length) (h2 : t < b.length) :
    ((a.zip b).map g).getD t dg = g (a.getD t da, b.getD t db) := by
  rw [ListLemmas.getD_map_of_lt g _ t (da, db) (by rw [List.length_zip]; exact Nat.lt_min.2 ⟨h1, h2⟩),
    ListLemmas.getD_zip a b t h1 h2]

theorem centeredRep_mod (P X : ℕ) : centeredRep P (X % P) = centeredRep P X := by
  unfold centeredRep; rw [Nat.mod_add_mod]

theorem md_entry_round (ps : List ℕ) (q X : ℕ) (hq : 2 ≤ q) (hcop : Nat.Coprime (RPoly.prod ps) q) :
    ((((X % q : ℕ) : ℤ) - centeredRep (prodN ps) X) % (q : ℤ)).toNat * RPoly.modInv (RPoly.prod ps % q) q % q
      = ((X + prodN ps / 2) / prodN ps) % q := by
  have hinv : (prodN ps * RPoly.modInv (RPoly.prod ps % q) q) % q = 1 := by
    rw [← prod_eq_prodN]; exact mul_modInv_mod _ _ hq hcop
  generalize RPoly.modInv (RPoly.prod ps % q) q = c at hinv ⊢
  have hnn : 0 ≤ centeredRep (prodN ps) X % (q : ℤ) := Int.emod_nonneg _ (by omega)
  have he : (((centeredRep (prodN ps) X % (q : ℤ)).toNat : ℕ) : ℤ) % (q : ℤ)
      = centeredRep (prodN ps) X % (q : ℤ) := by
    rw [Int.toNat_of_nonneg hnn, Int.emod_emod_of_dvd _ (dvd_refl _)]
  rw [← modDown_round q (prodN ps) c X _ (by omega) hinv he]
  unfold modDownRes
  rw [← md_point q (by omega) (X % q) (centeredRep (prodN ps) X), Nat.mod_mul_mod]

theorem mdRows_round {x : RPoly} (hx : WFq (qs ++ ps) n x) (hps : ps ≠ []) (i : ℕ) (hi : i < qs.length) (t : ℕ)
    (ht : t < n) {X : ℕ} (hres : Residues (qs ++ ps) (KS.colOf x.c t) X) :
    ((mdRows qs (RPoly.prod ps) (x.c.take qs.length) (cenZ (KS.partP qs.length x))).getD i []).getD t 0
      = ((X + prodN ps / 2) / prodN ps) % qs.getD i 0 := by
  have hpsc := (List.pairwise_append.1 hres.coprime).2.1
  have hpge : ∀ p ∈ ps, 2 ≤ p := (good_right hg).q_ge
  have hcl : x.c.length = qs.length + ps.length := by rw [hx.c_length, hx.qs_eq, List.length_append]
  have hq2 : 2 ≤ qs.getD i 0 := by
    have : qs.getD i 0 = qs[i] := by simp [List.getD_eq_getElem?_getD, hi]
    rw [this]; exact hgq.q_ge _ (List.getElem_mem hi)
  have hPpos : 0 < prodN ps := Scaling.prodN_pos ps (pos_of_ge2 hpge)
  have hiL : i < (qs ++ ps).length := by rw [List.length_append]; omega
  obtain ⟨hrl, hvlt⟩ := wf_entry_lt hx i hiL t ht
  have hqi : (qs ++ ps).getD i 0 = qs.getD i 0 := by
    simp [List.getD_eq_getElem?_getD, List.getElem?_append_left hi]
  rw [hqi] at hvlt
  have hv := forall₂_getD hres.res i hiL
  rw [colOf_getD _ _ _ (by omega), hqi, Nat.mod_eq_of_lt hvlt] at hv
  have hw := partP_wf hx
  have hlen := cenZ_length hw hps
  have hlt : (cenZ (KS.partP qs.length x)).getD t 0 = centeredRep (prodN ps) X := by
    have hresP : List.Forall₂ (fun m r => r % m = (X % prodN ps) % m) ps
        (KS.colOf (KS.partP qs.length x).c t) := by
      have e : KS.colOf (KS.partP qs.length x).c t = (KS.colOf x.c t).drop qs.length := List.map_drop
      have hd := List.forall₂_drop qs.length hres.res
      rw [e]
      rw [List.drop_left' rfl] at hd
      exact forall₂_imp_mem hd (fun m hm r hr => by
        rw [Nat.mod_mod_of_dvd _ (dvd_prodN_of_mem ps m hm)]; exact hr)
    rw [cenZ, ListLemmas.getD_map_range _ _ _ (by rw [headD_length hw hps]; exact ht), hw.1,
      crt_eq ⟨hpsc, hpge, hresP⟩ (Nat.mod_lt _ hPpos), centeredRep_mod]
  have hrow : (mdRows qs (RPoly.prod ps) (x.c.take qs.length) (cenZ (KS.partP qs.length x))).getD i []
      = ((x.c.getD i []).zip (cenZ (KS.partP qs.length x))).map fun (vl : ℕ × ℤ) =>
          (((vl.1 : ℤ) - vl.2) % ((qs.getD i 0 : ℕ) : ℤ)).toNat
            * RPoly.modInv (RPoly.prod ps % qs.getD i 0) (qs.getD i 0) % qs.getD i 0 := by
    have e : (x.c.take qs.length).getD i [] = x.c.getD i [] := by
      rw [List.getD_eq_getElem?_getD, List.getElem?_take_of_lt hi, ← List.getD_eq_getElem?_getD]
    unfold mdRows
    rw [getD_map_zip qs (x.c.take qs.length) _ 0 [] [] i hi (by rw [List.length_take]; omega), e]
  rw [hrow]
  have hget : ∀ (g : ℕ × ℤ → ℕ), (((x.c.getD i []).zip (cenZ (KS.partP qs.length x))).map g).getD t 0
      = g ((x.c.getD i []).getD t 0, (cenZ (KS.partP qs.length x)).getD t 0) := fun g =>
    getD_map_zip _ _ g 0 0 0 t (by rw [hrl]; exact ht) (by rw [hlen]; exact ht)
  rw [hget]
  simp only []
  rw [hlt, hv]
  refine md_entry_round ps _ X hq2 ?_
  rw [show qs.getD i 0 = qs[i] by simp [List.getD_eq_getElem?_getD, hi]]
  exact coprime_prod_of_pairwise hres.coprime _ (List.getElem_mem hi)

theorem rq_modDown_round (hco : (qs ++ ps).Pairwise Nat.Coprime) (ci : Bool) {x : RPoly}
    (hx : WFq (qs ++ ps) n x) (hps : ps ≠ []) (i : ℕ) (hi : i < qs.length) (t : ℕ) (ht : t < n) (X : ℕ)
    (hres : List.Forall₂ (fun m r => r % m = X % m) (qs ++ ps) (KS.colOf x.c t)) :
    ((RLWE.RQ.modDown qs.length ⟨ci, x⟩).p.c.getD i []).getD t 0
      = ((X + prodN ps / 2) / prodN ps) % qs.getD i 0 := by
  have h := rq_modDown_eq hps (List.pairwise_append.1 hco).2.1 ci hx
  rw [← mdRows_eq ps (takeRows_wf hx) _ (cenZ_length (partP_wf hx) hps)] at h
  rw [h]
  exact mdRows_round hx hps i hi t ht ⟨hco, hg.q_ge, hres⟩

theorem rgsw_modDown_round (hco : (qs ++ ps).Pairwise Nat.Coprime) {x : RPoly}
    (hx : WFq (qs ++ ps) n x) (hps : ps ≠ []) (i : ℕ) (hi : i < qs.length) (t : ℕ) (ht : t < n) (X : ℕ)
    (hres : List.Forall₂ (fun m r => r % m = X % m) (qs ++ ps) (KS.colOf x.c t)) :
    ((RGSW.modDown qs ps x).c.getD i []).getD t 0 = ((X + prodN ps / 2) / prodN ps) % qs.getD i 0 := by
  have h := rgsw_modDown_eq hps hx
  rw [← mdRows_eq ps (takeRows_wf hx) _ (cenZ_length (partP_wf hx) hps)] at h
  rw [h]
  exact mdRows_round hx hps i hi t ht ⟨hco, hg.q_ge, hres⟩

theorem modDownR_round (hqs : qs ≠ []) (hco : (qs ++ ps).Pairwise Nat.Coprime) {x : RPoly}
    (hx : WFq (qs ++ ps) n x) (hps : ps ≠ []) (hf : FloatExactPoly (KS.partP qs.length x))
    (i : ℕ) (hi : i < qs.length) (t : ℕ) (ht : t < n) (X : ℕ)
    (hres : List.Forall₂ (fun m r => r % m = X % m) (qs ++ ps) (KS.colOf x.c t)) :
    ((KS.modDownR qs.length x).c.getD i []).getD t 0 = ((X + prodN ps / 2) / prodN ps) % qs.getD i 0 := by
  have hpge : ∀ p ∈ ps, 2 ≤ p := (good_right hg).q_ge
  rw [modDownR_of_wf hqs hps hx, modUpPtoQ_eq, remZ_eq_cenZ (partP_wf hx) (List.pairwise_append.1 hco).2.1 hpge hf,
    ← mdRows_eq ps (takeRows_wf hx) _ (cenZ_length (partP_wf hx) hps)]
  exact mdRows_round hx hps i hi t ht ⟨hco, hg.q_ge, hres⟩

end round

end Lattigo.StackKS
