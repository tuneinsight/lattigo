/-
  Stack closure C02 → C04: the gadget recombination (G)
      `Σ_{i,j} d_ij · (P·g_ij) = P · c`      in `R_{QP}`
  for the digits `KS.decompose` produces (RNS digits with one or several primes per digit, base-`2^w` digits) and the
  gadget vector `KS.pgElt` exactly as laid out on the RNS rows.

  `decomposeZ` are the signed coefficient lists behind the digits: `KS.decompose = map (map ofInts) decomposeZ`
  (`decompose_eq_ofInts`), all of length `n` (`decomposeZ_length`).

  Row by row (`KS.gadget_identity`, product ring `Π_k Z_{q_k}[X]/(X^n+1)` through `WFPoly.toProd`), where the row-wise
  recombination is an integer congruence, coefficient by coefficient (`StackKS.row_recombine` of `Proofs/StackKSZ`):
    * `decomposeRNSZ_emod` : the RNS digit `i = k / nbPi` is congruent to row `k` of `c` modulo `q_k` — copy branch:
                             `centerSingle`; HPS branch: `StackKS.remZ_emod` on the block of the digit's moduli, i.e. C02's
                             `hps_sum_eq`, for EVERY value of the IEEE index;
    * `bits_recomb`        : `Σ_j digit_j · 2^{wj} = c` exactly on row `k` (`KS.digits_recombine`);
    * `pgElt_toProd`       : row `k` of `pgElt … i j` is `P·2^{wj}` if `k / m = i`, else `0` (`P ≡ 0` on the rows of `P`).
-/
import Lattigo.Proofs.StackKS
import Lattigo.Proofs.StackKSZ
import Lattigo.Proofs.GadgetIdentity
import Lattigo.Proofs.GadgetDigits
import Lattigo.Proofs.KeySwitchDigits
import Lattigo.Proofs.KeySwitchPush

set_option linter.unusedSectionVars false

namespace Lattigo.StackKS
open Lattigo Lattigo.RPolyRing Lattigo.Transport Lattigo.Scaling Lattigo.BasisExt Lattigo.KS

/-- rows `st … st+len−1` of a polynomial, over their own moduli -/
def block (st len : ℕ) (c : RPoly) : RPoly :=
  { qs := (c.qs.drop st).take len, c := (c.c.drop st).take len }

theorem block_row (st len i : ℕ) (c : RPoly) (hi : i < len) :
    (block st len c).c.getD i [] = c.c.getD (st + i) [] :=
  (ListLemmas.getD_take _ len i hi).trans (ListLemmas.getD_drop c.c st i)

theorem block_wf {qs : List ℕ} {n : ℕ} {c : RPoly} (h : WFq qs n c) (st len : ℕ) :
    WFq ((qs.drop st).take len) n (block st len c) := by
  obtain ⟨h1, h2, h3⟩ := h
  refine ⟨by rw [← h1]; rfl, by simp only [block, List.length_take, List.length_drop, h2], fun i hi => ?_⟩
  have hi' : i < len ∧ st + i < c.qs.length := by
    simp only [block, List.length_take, List.length_drop] at hi; omega
  have e1 : (block st len c).qs[i] = c.qs[st + i] := by
    simp only [block, List.getElem_take, List.getElem_drop]
  rw [e1, block_row st len i c hi'.1]
  exact h3 (st + i) hi'.2

theorem sublist_drop_take (l : List ℕ) (st len : ℕ) : ((l.drop st).take len).Sublist l :=
  (List.take_sublist _ _).trans (List.drop_sublist _ _)

/-- the `decompLvl` of `DecomposeAndSplit` (Go `int` arithmetic).  `nQ - 1 + 1` is the model's `levelQ + 1` with
`levelQ = c.qs.length - 1`, verbatim, here and in `decomposeRNSZ`, `decomposeZ`, `digitBounds`: that is what makes
`decomposeRNS_eq` and `decompose_eq_ofInts` hold by unfolding; do not simplify it. -/
def dLvl (nQ nbPi i : ℕ) : ℤ :=
  if nQ - 1 + 1 > nbPi * (i + 1) then (nbPi : ℤ) - 2 else (((nQ - 1) % nbPi : ℕ) : ℤ) - 1

/-- one prime per digit: always the copy branch -/
theorem dLvl_one_neg (nQ i : ℕ) : dLvl nQ 1 i < 0 := by
  unfold dLvl; split <;> simp [Nat.mod_one]

/-- signed coefficients of the RNS digit `i` (`DecomposeAndSplit`, both branches) -/
def decomposeRNSZ (nbPi i : ℕ) (c : RPoly) : List ℤ :=
  if dLvl c.qs.length nbPi i < 0 then
    (c.c.getD (i * nbPi) []).map fun x => centerSingle (c.qs.getD (i * nbPi) 1) x
  else
    (List.range (c.c.headD []).length).map fun t =>
      centerHalf ((c.qs.drop (i * nbPi)).take (min (i * nbPi + nbPi) (c.qs.length - 1 + 1) - i * nbPi))
        (colOf ((c.c.drop (i * nbPi)).take (min (i * nbPi + nbPi) (c.qs.length - 1 + 1) - i * nbPi)) t)

theorem decomposeRNS_eq (ps : List ℕ) (nbPi i : ℕ) (c : RPoly) :
    decomposeRNS ps nbPi i c = RPoly.ofInts (c.qs ++ ps) (decomposeRNSZ nbPi i c) := by
  show (if dLvl c.qs.length nbPi i < 0 then RPoly.ofInts (c.qs ++ ps) _ else RPoly.ofInts (c.qs ++ ps) _) = _
  unfold decomposeRNSZ
  split <;> rfl

/-- coefficients of the base-`2^w` digit `j` of row `i` -/
def decomposeBitsZ (w i j : ℕ) (c : RPoly) : List ℤ := (c.c.getD i []).map fun x => ((bitDigit w j x : ℕ) : ℤ)

theorem decomposeBits_eq (ps : List ℕ) (w i j : ℕ) (c : RPoly) :
    decomposeBits ps w i j c = RPoly.ofInts (c.qs ++ ps) (decomposeBitsZ w i j c) := rfl

/-- the integer digit matrix of `KS.decompose` (`nP = #ps`) -/
def decomposeZ (nP w : ℕ) (nJ : List ℕ) (c : RPoly) : List (List (List ℤ)) :=
  if nP ≥ 2 then
    (List.range (baseRNSDecompositionVectorSize (c.qs.length - 1) nP)).map fun i => [decomposeRNSZ nP i c]
  else
    (List.range (c.qs.length - 1 + 1)).map fun i =>
      if 2 ^ w - 1 = 0 then List.replicate (nJ.getD i 0) (decomposeRNSZ 1 i c)
      else (List.range (nJ.getD i 0)).map fun j => decomposeBitsZ w i j c

theorem decompose_eq_ofInts (ps : List ℕ) (w : ℕ) (nJ : List ℕ) (c : RPoly) :
    decompose ps w nJ c = (decomposeZ ps.length w nJ c).map (List.map (RPoly.ofInts (c.qs ++ ps))) := by
  unfold decompose decomposeZ
  simp only []
  split
  · rw [List.map_map]
    apply List.map_congr_left
    intro i _
    simp only [Function.comp, List.map_cons, List.map_nil, decomposeRNS_eq]
  · rw [List.map_map]
    apply List.map_congr_left
    intro i _
    simp only [Function.comp]
    split
    · rw [List.map_replicate, decomposeRNS_eq]
    · rw [List.map_map]
      apply List.map_congr_left
      intro j _
      simp only [Function.comp, decomposeBits_eq]

section lengths
variable {qs : List ℕ} {n : ℕ}

theorem decomposeRNSZ_length (nbPi i : ℕ) {c : RPoly} (hc : WFq qs n c) (hi : i * nbPi < qs.length) :
    (decomposeRNSZ nbPi i c).length = n := by
  have hqs : qs ≠ [] := by intro h; rw [h] at hi; exact absurd hi (Nat.not_lt_zero _)
  unfold decomposeRNSZ
  split
  · rw [List.length_map]
    exact (hc.row (i * nbPi) (by rw [hc.qs_eq]; exact hi)).len
  · rw [List.length_map, List.length_range]
    exact headD_length hc hqs

theorem decomposeBitsZ_length (w i j : ℕ) {c : RPoly} (hc : WFq qs n c) (hi : i < qs.length) :
    (decomposeBitsZ w i j c).length = n := by
  unfold decomposeBitsZ
  rw [List.length_map]
  exact (hc.row i (by rw [hc.qs_eq]; exact hi)).len

theorem baseRNS_start_lt {nQ nP i : ℕ} (hnQ : 0 < nQ) (hnP : 0 < nP)
    (hi : i < baseRNSDecompositionVectorSize (nQ - 1) nP) : i * nP < nQ := by
  unfold baseRNSDecompositionVectorSize at hi
  rw [if_neg (by omega)] at hi
  have := (Nat.le_div_iff_mul_le hnP).mp (Nat.succ_le_of_lt hi)
  rw [Nat.succ_mul] at this
  omega

theorem decomposeZ_length (hqs : qs ≠ []) (nP w : ℕ) (nJ : List ℕ) {c : RPoly} (hc : WFq qs n c) :
    ∀ r ∈ decomposeZ nP w nJ c, ∀ d ∈ r, d.length = n := by
  have hlen : 0 < qs.length := List.length_pos_of_ne_nil hqs
  intro r hr d hd
  unfold decomposeZ at hr
  simp only [hc.1] at hr
  split at hr
  · rename_i hnP
    simp only [List.mem_map, List.mem_range] at hr
    obtain ⟨i, hi, rfl⟩ := hr
    simp only [List.mem_singleton] at hd
    subst hd
    exact decomposeRNSZ_length _ i hc (baseRNS_start_lt hlen (by omega) hi)
  · simp only [List.mem_map, List.mem_range] at hr
    obtain ⟨i, hi, rfl⟩ := hr
    split at hd
    · rw [List.mem_replicate] at hd
      rw [hd.2]
      exact decomposeRNSZ_length 1 i hc (by omega)
    · simp only [List.mem_map, List.mem_range] at hd
      obtain ⟨j, _, rfl⟩ := hd
      exact decomposeBitsZ_length w i j hc (by omega)

end lengths

section rns
variable {qs : List ℕ} {n : ℕ} [hg : Good qs n]

theorem row_lt {c : RPoly} (hc : WFq qs n c) (k : ℕ) (hk : k < qs.length) :
    ∀ x ∈ c.c.getD k [], x < c.qs.getD k 1 := by
  have hw := hc.row k (by rw [hc.qs_eq]; exact hk)
  have e : c.qs[k]'(by rw [hc.1]; exact hk) = c.qs.getD k 1 := by
    simp [List.getD_eq_getElem?_getD, hc.1, hk]
  rw [e] at hw
  exact hw.lt

/-- in the copy branch of `DecomposeAndSplit` the group of digit `i` is the single row `i·nbPi` -/
theorem dLvl_neg_start {nQ nbPi i k : ℕ} (hneg : dLvl nQ nbPi i < 0) (hk : k < nQ) (hst : i * nbPi ≤ k)
    (hen : k < i * nbPi + nbPi) : i * nbPi = k := by
  unfold dLvl at hneg
  split at hneg
  · have : nbPi = 1 := by omega
    subst this; omega
  · rename_i hcond
    have hmod : (nQ - 1) % nbPi = 0 := by omega
    have hle : nQ - 1 < i * nbPi + nbPi := by
      have : nbPi * (i + 1) = i * nbPi + nbPi := by ring
      omega
    obtain ⟨r, hr⟩ : ∃ r, nQ - 1 = i * nbPi + r := ⟨nQ - 1 - i * nbPi, by omega⟩
    have hr0 : r = 0 := by
      rw [hr, Nat.mul_comm, Nat.mul_add_mod, Nat.mod_eq_of_lt (by omega : r < nbPi)] at hmod; exact hmod
    omega

theorem block_moduli {qs : List ℕ} (hco : qs.Pairwise Nat.Coprime) (hge : ∀ q ∈ qs, 2 ≤ q) (st len : ℕ) :
    ((qs.drop st).take len).Pairwise Nat.Coprime ∧ ∀ p ∈ (qs.drop st).take len, 2 ≤ p :=
  ⟨hco.sublist (sublist_drop_take qs st len), fun p hp => hge p ((sublist_drop_take qs st len).subset hp)⟩

theorem hpsDigit_eq_remZ {c : RPoly} (hc : WFq qs n c) (st len : ℕ) (hne : (qs.drop st).take len ≠ []) :
    ((List.range n).map fun t => centerHalf ((qs.drop st).take len) (colOf ((c.c.drop st).take len) t))
      = remZ (block st len c) := by
  unfold remZ
  rw [headD_length (block_wf hc st len) hne, show (block st len c).qs = (qs.drop st).take len by simp [block, hc.1]]
  rfl

theorem decomposeRNSZ_emod (nbPi i k : ℕ) {c : RPoly} (hc : WFq qs n c) (hco : qs.Pairwise Nat.Coprime)
    (hnb : 1 ≤ nbPi) (hk : k < qs.length) (hik : k / nbPi = i) {t : ℕ} (ht : t < n) :
    (decomposeRNSZ nbPi i c).getD t 0 % ((qs.getD k 0 : ℕ) : ℤ)
      = (((c.c.getD k []).getD t 0 : ℕ) : ℤ) % ((qs.getD k 0 : ℕ) : ℤ) := by
  have hqs : qs ≠ [] := List.ne_nil_of_length_pos (Nat.zero_lt_of_lt hk)
  have hst : i * nbPi ≤ k := by rw [← hik]; exact Nat.div_mul_le_self k nbPi
  have hen : k < i * nbPi + nbPi := by
    rw [← hik]; have := Nat.lt_div_mul_add (a := k) (b := nbPi) (by omega); omega
  unfold decomposeRNSZ
  rw [hc.1, headD_length hc hqs]
  by_cases hneg : dLvl qs.length nbPi i < 0
  · rw [if_pos hneg, dLvl_neg_start hneg hk hst hen,
      ListLemmas.getD_map_of_lt _ _ t 0 (by rw [(wf_entry_lt hc k hk t ht).1]; exact ht),
      show qs.getD k 1 = qs.getD k 0 by simp [List.getD_eq_getElem?_getD, hk]]
    unfold centerSingle
    split
    · rw [Int.sub_emod_right]
    · rfl
  · rw [if_neg hneg]
    generalize hlen : min (i * nbPi + nbPi) (qs.length - 1 + 1) - i * nbPi = len
    have hklen : k - i * nbPi < len := by omega
    have hbne : (qs.drop (i * nbPi)).take len ≠ [] :=
      List.ne_nil_of_length_pos (by rw [List.length_take, List.length_drop]; omega)
    obtain ⟨hbco, hbge⟩ := block_moduli hco hg.q_ge (i * nbPi) len
    have h := remZ_emod (block_wf hc (i * nbPi) len) hbne hbco hbge (k := k - i * nbPi)
      (by rw [List.length_take, List.length_drop]; omega) ht
    rwa [block_row _ _ _ c hklen, ListLemmas.getD_take _ _ _ hklen, ListLemmas.getD_drop,
      show i * nbPi + (k - i * nbPi) = k by omega, ← hpsDigit_eq_remZ hc _ _ hbne] at h

end rns

section bits
open Finset Polynomial
variable {q n : ℕ}

theorem bits_recomb (w nJ : ℕ) (row : List ℕ) (hrow : RowWF q n row) (hq : q ≤ 2 ^ (w * nJ)) {t : ℕ}
    (ht : t < n) :
    recombAt w 0 ((List.range nJ).map fun j => row.map fun x => ((bitDigit w j x : ℕ) : ℤ)) t
      = ((row.getD t 0 : ℕ) : ℤ) := by
  have hx : row.getD t 0 < q := hrow.lt _ (ListLemmas.getD_mem (by rw [hrow.len]; exact ht))
  rw [List.range_eq_range', recombAt_range', ← digits_recombine w nJ _ (Nat.lt_of_lt_of_le hx hq), recombine]
  push_cast
  refine Finset.sum_congr rfl fun j _ => ?_
  rw [Nat.zero_add, ListLemmas.getD_map_of_lt _ row t 0 (by rw [hrow.len]; exact ht)]

end bits

/-- group width: `levelP + 1`, `1` without `P` -/
def gw (nP : ℕ) : ℕ := if nP = 0 then 1 else nP

theorem gw_pos (nP : ℕ) : 0 < gw nP := by unfold gw; split <;> omega

theorem gadgetRowIdx_contains (levelQ nP i k : ℕ) :
    (gadgetRowIdx levelQ nP i).contains k = true ↔ k / gw nP = i ∧ k < levelQ + 1 := by
  have e : gadgetRowIdx levelQ nP i
      = (List.range' (i * gw nP) (gw nP)).takeWhile (fun x => decide (x < levelQ + 1)) := by
    unfold gadgetRowIdx gw
    simp only [List.range'_eq_map_range]
  rw [e, ListLemmas.range'_takeWhile_lt, List.contains_iff_mem, ListLemmas.mem_range'_block (gw_pos nP), and_comm]

section rows
open Polynomial
variable {L : List ℕ} {n : ℕ}

theorem toQuot_constPoly_row [hg : Good L n] (vals : List ℕ) (hl : vals.length = L.length)
    (k : Fin L.length) :
    toQuot (L.get k) n ((constPoly L n vals).c.getD k []) = ((vals.getD k 0 : ℕ) : Rq (L.get k) n) := by
  have e : L.getD k 0 = L.get k := by simp [List.getD_eq_getElem?_getD]
  rw [constPoly_row vals hl k k.2, e, ← scalarRow_eq _ _ _ hg.n_pos, toQuot_scalarRow hg.n_pos]

theorem toProd_constQ [Good L n] (m : ℕ) :
    WFPoly.toProd (lift (constQ L n m) (constQ_wf m)) = fun k => ((m : ℕ) : Rq (L.get k) n) := by
  funext k
  show toQuot _ n ((constPoly L n _).c.getD k []) = _
  rw [toQuot_constPoly_row _ (List.length_map _) k, ListLemmas.getD_map_of_lt _ L k 0 k.2]

end rows

section digits_wf
variable {qs : List ℕ} {n : ℕ}

/-- `c` extended by zero rows on the moduli of `P` (a lift of `c ∈ R_Q` to `R_{QP}`) -/
def extZ (ps : List ℕ) (n : ℕ) (c : RPoly) : RPoly :=
  { qs := c.qs ++ ps, c := c.c ++ ps.map fun _ => zeroRow n }

theorem extZ_row_lt (ps : List ℕ) {c : RPoly} (hc : WFq qs n c) (k : ℕ) (hk : k < qs.length) :
    (extZ ps n c).c.getD k [] = c.c.getD k [] := by
  have : k < c.c.length := by rw [hc.c_length, hc.qs_eq]; exact hk
  simp [extZ, List.getD_eq_getElem?_getD, List.getElem?_append_left this]

theorem extZ_row_ge (ps : List ℕ) {c : RPoly} (hc : WFq qs n c) (k : ℕ) (hk : qs.length ≤ k)
    (hk2 : k < (qs ++ ps).length) : (extZ ps n c).c.getD k [] = zeroRow n := by
  have hl : c.c.length = qs.length := by rw [hc.c_length, hc.qs_eq]
  have h1 : c.c.length ≤ k := by omega
  have h2 : k - c.c.length < ps.length := by rw [List.length_append] at hk2; omega
  simp [extZ, List.getD_eq_getElem?_getD, List.getElem?_append_right h1, h2]

theorem extZ_wf (ps : List ℕ) [hg : Good (qs ++ ps) n] {c : RPoly} (hc : WFq qs n c) :
    WFq (qs ++ ps) n (extZ ps n c) := by
  have hl : c.c.length = qs.length := by rw [hc.c_length, hc.qs_eq]
  refine ⟨by simp [extZ, hc.1], by simp [extZ, hl, hc.1], fun i hi => ?_⟩
  have hi' : i < (qs ++ ps).length := by simpa [extZ, hc.1] using hi
  by_cases hlt : i < qs.length
  · rw [extZ_row_lt ps hc i hlt]
    have := hc.row i (by rw [hc.qs_eq]; exact hlt)
    have e : (extZ ps n c).qs[i] = c.qs[i]'(by rw [hc.1]; exact hlt) := by
      simp [extZ, List.getElem_append_left (by rw [hc.1]; exact hlt : i < c.qs.length)]
    rw [e]; exact this
  · rw [extZ_row_ge ps hc i (by omega) hi']
    refine RowWF.zero ?_
    have : (extZ ps n c).qs[i] ∈ qs ++ ps := by
      have h := List.getElem_mem hi
      have e : (extZ ps n c).qs = qs ++ ps := by simp [extZ, hc.1]
      exact e ▸ h
    have := hg.q_ge _ this
    omega

theorem takeRows_extZ (ps : List ℕ) {c : RPoly} (hc : WFq qs n c) : takeRows qs.length (extZ ps n c) = c := by
  have hl : c.c.length = qs.length := by rw [hc.c_length, hc.qs_eq]
  obtain ⟨cq, cc⟩ := c
  have h1 : cq = qs := hc.1
  subst h1
  simp only at hl
  simp [takeRows, extZ, List.take_left' hl]

theorem decompose_wf (ps : List ℕ) [hg : Good (qs ++ ps) n] (hqs : qs ≠ []) (w : ℕ) (nJ : List ℕ) {c : RPoly}
    (hc : WFq qs n c) : ∀ r ∈ decompose ps w nJ c, ∀ p ∈ r, WFq (qs ++ ps) n p := by
  intro r hr p hp
  rw [decompose_eq_ofInts, hc.1] at hr
  obtain ⟨rZ, hrZ, rfl⟩ := List.mem_map.mp hr
  obtain ⟨v, hv, rfl⟩ := List.mem_map.mp hp
  exact ofInts_wf _ (decomposeZ_length hqs _ w nJ hc rZ hrZ v hv)

end digits_wf

section assembly
variable {qs ps : List ℕ} {n : ℕ} [hgq : Good qs n] [hg : Good (qs ++ ps) n]

theorem two_pow_sub_one_eq_zero (w : ℕ) : 2 ^ w - 1 = 0 ↔ w = 0 := by
  constructor
  · intro h
    by_contra hw
    have : 2 ≤ 2 ^ w := by
      calc 2 = 2 ^ 1 := rfl
        _ ≤ 2 ^ w := Nat.pow_le_pow_right (by omega) (by omega)
    omega
  · rintro rfl; rfl

theorem shape_row {β : Type} (samples : List (List β)) (w : ℕ)
    (hshape : samples.map List.length = gadgetShape qs (qs.length - 1) ps.length w) (i : ℕ)
    (hi : i < baseRNSDecompositionVectorSize (qs.length - 1) ps.length) (hiq : i < qs.length) :
    (samples.getD i []).length
      = if w = 0 ∨ ps.length ≥ 2 then 1 else baseTwoDigits (qs.getD i 0) w := by
  rw [← ListLemmas.getD_map_of_eq List.length [] 0 rfl, hshape]
  unfold gadgetShape
  rw [ListLemmas.getD_map_range _ _ _ hi]
  unfold baseTwoDecompositionVectorSize
  split <;> simp [List.getD_eq_getElem?_getD, hiq]

theorem pgElt_vals_getD (w i j k : ℕ) :
    (((List.range qs.length).map fun k' =>
          if (gadgetRowIdx (qs.length - 1) ps.length i).contains k' then RPoly.prod ps * 2 ^ (w * j) else 0)
        ++ ps.map fun _ => 0).getD k 0
      = if k < qs.length ∧ k / gw ps.length = i then RPoly.prod ps * 2 ^ (w * j) else 0 := by
  by_cases hk : k < qs.length
  · rw [List.getD_eq_getElem?_getD, List.getElem?_append_left (by simpa using hk), ← List.getD_eq_getElem?_getD,
      ListLemmas.getD_map_range _ _ _ hk]
    have h := gadgetRowIdx_contains (qs.length - 1) ps.length i k
    by_cases hc : k / gw ps.length = i
    · rw [if_pos (h.mpr ⟨hc, by omega⟩), if_pos ⟨hk, hc⟩]
    · rw [if_neg (fun h' => hc (h.mp h').1), if_neg (fun h' => hc h'.2)]
  · rw [if_neg (fun h' => hk h'.1), List.getD_eq_getElem?_getD,
      List.getElem?_append_right (by simpa using Nat.le_of_not_lt hk), List.getElem?_map]
    cases ps[k - _]? <;> rfl

theorem prod_cast_eq_zero (k : Fin (qs ++ ps).length) (hk : ¬ k.1 < qs.length) :
    ((RPoly.prod ps : ℕ) : Rq ((qs ++ ps).get k) n) = 0 := by
  have hmem : (qs ++ ps).get k ∈ ps := by
    rw [List.get_eq_getElem, List.getElem_append_right (Nat.le_of_not_lt hk)]; exact List.getElem_mem _
  rw [← cast_mod_eq natCast_q_Rq, prod_eq_prodN, Nat.mod_eq_zero_of_dvd (dvd_prodN_of_mem ps _ hmem), Nat.cast_zero]

/-- the digit a row of `R_{QP}` belongs to: row `k` of `Q` to digit `k / m`; a row of `P` to none (`nI` stands for an
index past the last digit) -/
def rowGroup (nQ m nI k : ℕ) : ℕ := if k < nQ then k / m else nI

theorem pgElt_toProd (w nI i j : ℕ) (h : WFq (qs ++ ps) n (pgElt qs ps n w i j)) :
    WFPoly.toProd (lift (pgElt qs ps n w i j) h)
      = fun k => if rowGroup qs.length (gw ps.length) nI k.1 = i
          then ((RPoly.prod ps : ℕ) : Rq ((qs ++ ps).get k) n) * ((2 ^ (w * j) : ℕ) : Rq ((qs ++ ps).get k) n)
          else 0 := by
  funext k
  show toQuot ((qs ++ ps).get k) n ((pgElt qs ps n w i j).c.getD k []) = _
  unfold pgElt rowGroup
  rw [toQuot_constPoly_row _ (by simp) k, pgElt_vals_getD]
  by_cases hk : k.1 < qs.length
  · rw [if_pos hk]
    by_cases hc : k.1 / gw ps.length = i
    · rw [if_pos ⟨hk, hc⟩, if_pos hc, Nat.cast_mul]
    · rw [if_neg (fun h => hc h.2), if_neg hc, Nat.cast_zero]
  · rw [if_neg (fun h => hk h.1), Nat.cast_zero, prod_cast_eq_zero k hk, zero_mul, ite_self]

/-- `hJ`: a key of the prescribed shape has one entry per row unless the digits are base-`2^w` digits -/
theorem decomposeZ_getD (nP w : ℕ) (nJ : List ℕ) (c : RPoly) (i : ℕ)
    (hi : i < if nP ≥ 2 then baseRNSDecompositionVectorSize (c.qs.length - 1) nP else c.qs.length - 1 + 1)
    (hJ : w = 0 ∨ nP ≥ 2 → nJ.getD i 0 = 1) :
    (decomposeZ nP w nJ c).getD i []
      = if w = 0 ∨ nP ≥ 2 then [decomposeRNSZ (gw nP) i c]
        else (List.range (nJ.getD i 0)).map fun j => decomposeBitsZ w i j c := by
  unfold decomposeZ gw
  by_cases hnP : nP ≥ 2
  · rw [if_pos hnP] at hi
    rw [if_pos hnP, if_pos (Or.inr hnP), if_neg (by omega), ListLemmas.getD_map_range _ _ _ hi]
  · rw [if_neg hnP] at hi
    rw [if_neg hnP, ListLemmas.getD_map_range _ _ _ hi]
    by_cases hw : w = 0
    · rw [if_pos ((two_pow_sub_one_eq_zero w).mpr hw), if_pos (Or.inl hw), hJ (Or.inl hw), List.replicate_one]
      split
      · rfl
      · rw [show nP = 1 by omega]
    · rw [if_neg (fun h => hw ((two_pow_sub_one_eq_zero w).mp h)), if_neg (by rintro (h | h) <;> omega)]

theorem decompose_row (hco : qs.Pairwise Nat.Coprime) (w : ℕ) {c1 : RPoly} (hc1 : WFq qs n c1) {β : Type}
    (samples : List (List β)) (hshape : samples.map List.length = gadgetShape qs (qs.length - 1) ps.length w)
    (k : ℕ) (hk : k < qs.length) {q : ℕ} (hq : q = qs[k]) :
    wsumRow (0 : Rq q n)
        (((decompose ps w (samples.map List.length) c1).getD (k / gw ps.length) []).map
          fun p => toQuot q n (p.c.getD k []))
        (idxRowFrom (fun _ j => ((2 ^ (w * j) : ℕ) : Rq q n)) 0 0 (samples.getD (k / gw ps.length) []))
      = toQuot q n (c1.c.getD k []) := by
  have hq0 : qs.getD k 0 = q := by rw [hq]; simp [List.getD_eq_getElem?_getD, hk]
  have hq1 : q = (qs ++ ps).getD k 1 := by
    rw [hq]; simp [List.getD_eq_getElem?_getD, List.getElem?_append_left hk, hk]
  have hqpos : 0 < q := by rw [hq]; have := hgq.q_ge _ (List.getElem_mem hk); omega
  -- the digits are reductions of integer vectors: their rows are the classes `zq`
  have hz : ((fun p : RPoly => toQuot q n (p.c.getD k [])) ∘ RPoly.ofInts (qs ++ ps)) = zq q n :=
    funext fun v => toQuot_ofInts_row (qs ++ ps) v k (by rw [List.length_append]; omega) hq1 hqpos
  rw [decompose_eq_ofInts, hc1.1, ListLemmas.getD_map_of_eq _ [] [] rfl, List.map_map, hz]
  have hrow : RowWF q n (c1.c.getD k []) := by
    have := hc1.row k (by rw [hc1.qs_eq]; exact hk)
    simpa only [hc1.1, ← hq] using this
  have hi : k / gw ps.length < baseRNSDecompositionVectorSize (qs.length - 1) ps.length := by
    unfold baseRNSDecompositionVectorSize gw
    split
    · rw [Nat.div_one]; omega
    · rw [Nat.add_div_right _ (by omega)]
      exact Nat.lt_succ_of_le (Nat.div_le_div_right (by omega))
  have hkq : k / gw ps.length < qs.length := Nat.lt_of_le_of_lt (Nat.div_le_self _ _) hk
  have hs := shape_row samples w hshape (k / gw ps.length) hi hkq
  rw [decomposeZ_getD _ _ _ _ _ (by rw [hc1.1]; split <;> omega) fun h => by
    rw [ListLemmas.getD_map_of_eq List.length [] 0 rfl, hs, if_pos h]]
  by_cases h1 : w = 0 ∨ ps.length ≥ 2
  · -- one RNS digit, congruent to the row
    rw [if_pos h1] at hs ⊢
    refine row_recombine w _ _ (by rw [List.length_singleton, hs]) _ fun t ht => ?_
    rw [recombAt_one, ← hq0]
    exact decomposeRNSZ_emod _ _ k hc1 hco (gw_pos _) hk rfl ht
  · -- the base-`2^w` digits of row `k`, exact
    have hm1 : gw ps.length = 1 := by unfold gw; split <;> omega
    rw [hm1, Nat.div_one] at hs ⊢
    rw [if_neg h1] at hs ⊢
    rw [ListLemmas.getD_map_of_eq List.length [] 0 rfl, hs]
    refine row_recombine w _ _ (by rw [List.length_map, List.length_range, hs]) _ fun t ht => ?_
    rw [show (fun j => decomposeBitsZ w k j c1) = fun j => (c1.c.getD k []).map fun x => ((bitDigit w j x : ℕ) : ℤ)
      from rfl, bits_recomb w _ _ hrow (by rw [hq0]; exact digitCount_sufficient _ w (by omega)) ht]

/-- (G), closed: EVERY value of the IEEE index in the HPS branch; `c` is lifted by zero rows (`extZ`), which is right because
`P ≡ 0` on the rows of `P` -/
theorem gadget_closed (hqs : qs ≠ []) (hco : qs.Pairwise Nat.Coprime) (w : ℕ) {c1 : RPoly}
    (hc1 : WFq qs n c1) {β : Type} (samples : List (List β))
    (hshape : samples.map List.length = gadgetShape qs (qs.length - 1) ps.length w) :
    wsumMat (RPoly.zero (qs ++ ps) n) (decompose ps w (samples.map List.length) c1)
        (pgMat (pgElt qs ps n w) samples)
      = constQ (qs ++ ps) n (RPoly.prod ps) * extZ ps n c1 := by
  lift decompose ps w (samples.map List.length) c1 to List (List (WFPoly (qs ++ ps) n))
    using decompose_wf ps hqs w (samples.map List.length) hc1 with d' hd'
  have hpgw : ∀ i j, WFq (qs ++ ps) n (pgElt qs ps n w i j) := fun i j => constPoly_wf' _ (by simp)
  -- the statement in the ring `WFPoly`, then row by row in `Π_k Z_{q_k}[X]/(X^n+1)`
  suffices h : wsumMat 0 d' (pgMat (fun i j => lift (pgElt qs ps n w i j) (hpgw i j)) samples)
      = lift (constQ (qs ++ ps) n (RPoly.prod ps)) (constQ_wf _) * lift (extZ ps n c1) (extZ_wf ps hc1) by
    have h2 := congrArg val h
    rw [wsumMat_push val_hom, pgMat_push] at h2
    exact h2
  apply WFPoly.toProd_injective
  have hpush := wsumMat_push (φ := WFPoly.toProd (qs := qs ++ ps) (n := n))
    ⟨WFPoly.toProd_add, WFPoly.toProd_mul, WFPoly.toProd_neg, WFPoly.toProd_sub⟩ 0 d'
    (pgMat (fun i j => lift (pgElt qs ps n w i j) (hpgw i j)) samples)
  rw [pgMat_push, WFPoly.toProd_zero] at hpush
  rw [hpush, WFPoly.toProd_mul, toProd_constQ, funext fun i => funext fun j => pgElt_toProd w d'.length i j (hpgw i j)]
  apply gadget_identity (fun k => rowGroup qs.length (gw ps.length) d'.length k.1)
    (fun k => ((RPoly.prod ps : ℕ) : Rq ((qs ++ ps).get k) n)) (fun j k => ((2 ^ (w * j) : ℕ) : Rq _ n))
  intro k
  have hrows : ∀ g, ((d'.map (List.map WFPoly.toProd)).getD g []).map (fun x => x k)
      = ((decompose ps w (samples.map List.length) c1).getD g []).map
          fun p => toQuot ((qs ++ ps).get k) n (p.c.getD k []) := fun g => by
    rw [← hd', ListLemmas.getD_map_of_eq _ [] [] rfl, ListLemmas.getD_map_of_eq _ [] [] rfl, List.map_map, List.map_map]
    rfl
  rw [hrows]
  show _ = toQuot _ n ((extZ ps n c1).c.getD k [])
  unfold rowGroup
  by_cases hk : k.1 < qs.length
  · rw [if_pos hk, extZ_row_lt ps hc1 k hk]
    exact decompose_row hco w hc1 samples hshape k hk
      (by rw [List.get_eq_getElem, List.getElem_append_left hk])
  · -- a row of `P`: no digit, `c = 0`
    rw [if_neg hk, extZ_row_ge ps hc1 k (by omega) k.2, toQuot_zeroRow, ← hd', List.getD_eq_getElem?_getD,
      List.getElem?_eq_none (by rw [List.length_map])]
    rfl

end assembly

end Lattigo.StackKS
