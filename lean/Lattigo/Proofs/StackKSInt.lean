/-
  Stack closure C02 → C03/C04/C20: INTEGER level.

  The three scheme-level models divide by `P` with their own executable centred remainder:
    * `KS.centerHalf` (C04: `reconY` + IEEE index `floatIndex` + `centerHalfV`, the HPS formula as coded),
    * `RLWE.RQ.modDown` (C03: `RPoly.crt` of the shifted residues, minus `⌊P/2⌋`),
    * `RGSW.modDown`   (C20: `(RPoly.crt + ⌊P/2⌋) mod P − ⌊P/2⌋`).
  None of them is the limb-level twin `BasisExt.modDownQPtoQ` of C02 (Montgomery words); they are INTEGER-level
  functions, and what C02 proves at the integer level (`BasisExt.hps_sum_eq`: `Σ y_i·(M/m_i) = x + v·M`,
  `centeredRep`, `centeredRep_emod`, `centeredRep_bounds`) is exactly what is needed.  Here: the models' folds are C02's `prodN`,
  `hpsSum`, `fidx`; the model's `y_i` meet the hypothesis of `hps_sum_eq`; hence `centerHalfV v … = centeredRep M X + (hpsV − v)·M`
  for EVERY index `v`, `centerHalf ≡ X (mod m_k)` for every value of the IEEE index, and `= centeredRep M X` under the NAMED
  hypothesis `FloatExact` (`floatIndex = hpsV`); `RPoly.crt` reconstructs (`crt_eq`, `crt_exists`).
-/
import Lattigo.Proofs.BasisExtLimb
import Lattigo.Proofs.RPolyRing
import Lattigo.Model.KeySwitch

namespace Lattigo.StackKS
open Lattigo Lattigo.Scaling Lattigo.BasisExt

theorem prod_eq_prodN (l : List ℕ) : RPoly.prod l = prodN l := by
  unfold RPoly.prod; rw [← List.prod_eq_foldl, Scaling.prodN_eq_prod]

theorem foldl_sum_eq (M : ℕ) : ∀ (ms ys : List ℕ) (a : ℕ),
    (ms.zip ys).foldl (fun acc (my : ℕ × ℕ) => acc + my.2 * (M / my.1)) a = a + sumQ M ms ys
  | [], _, a => by simp
  | _ :: _, [], a => by simp
  | m :: ms, y :: ys, a => by
    simp only [List.zip_cons_cons, List.foldl_cons, sumQ_cons]
    rw [foldl_sum_eq M ms ys]; omega

/-- the two folds only zip their arguments in opposite order -/
theorem floatIndex_eq_fidx (ms ys : List ℕ) : KS.floatIndex ms ys = fidx ms ys := by
  unfold KS.floatIndex fidx
  rw [← List.zip_swap ms ys, List.foldl_map]
  rfl

/-- **THE NAMED IEEE HYPOTHESIS** (the one of `Props/C02`: `fidx … = hpsV …`, see `floatExact_iff_fidx`): the
correction index the code computes in IEEE double arithmetic is the exact `v = ⌊Σ y_i/m_i⌋`. -/
def FloatExact (ms ys : List ℕ) : Prop := KS.floatIndex ms ys = hpsV ms ys

theorem floatExact_iff_fidx (ms ys : List ℕ) : FloatExact ms ys ↔ fidx ms ys = hpsV ms ys := by
  unfold FloatExact; rw [floatIndex_eq_fidx]

theorem prodN_div_mem : ∀ (l : List ℕ) (m : ℕ), l.Pairwise Nat.Coprime → (∀ q ∈ l, 2 ≤ q) → m ∈ l →
    Nat.Coprime (prodN l / m) m
  | [], _, _, _, h => by simp at h
  | a :: l, m, hc, hge, hm => by
    rcases List.pairwise_cons.mp hc with ⟨hca, hcl⟩
    have ha : 2 ≤ a := hge a (by simp)
    by_cases hma : m = a
    · subst hma
      have : prodN (m :: l) / m = prodN l := by
        show m * prodN l / m = prodN l
        exact Nat.mul_div_cancel_left _ (by omega)
      rw [this]
      exact (prodN_coprime (fun b hb => hca b hb)).symm
    · have hml : m ∈ l := by
        rcases List.mem_cons.mp hm with h | h
        · exact absurd h hma
        · exact h
      have hm2 : 2 ≤ m := hge m hm
      obtain ⟨d, hd⟩ := dvd_prodN_of_mem l m hml
      have e1 : prodN (a :: l) / m = a * (prodN l / m) := by
        show a * prodN l / m = a * (prodN l / m)
        rw [hd, Nat.mul_div_cancel_left _ (by omega), ← Nat.mul_assoc, Nat.mul_comm a m, Nat.mul_assoc,
          Nat.mul_div_cancel_left _ (by omega)]
      rw [e1]
      exact Nat.Coprime.mul_left (hca m hml)
        (prodN_div_mem l m hcl (fun q hq => hge q (by simp [hq])) hml)

theorem forall₂_imp_mem {α β : Type} {R S : α → β → Prop} : ∀ {l : List α} {rs : List β},
    List.Forall₂ R l rs → (∀ m ∈ l, ∀ r, R m r → S m r) → List.Forall₂ S l rs
  | _, _, List.Forall₂.nil, _ => List.Forall₂.nil
  | _, _, List.Forall₂.cons h t, hi =>
    List.Forall₂.cons (hi _ (by simp) _ h) (forall₂_imp_mem t (fun m hm r hr => hi m (by simp [hm]) r hr))

/-- `reconY` with the modulus a parameter (so that induction on the list is possible) -/
def reconYQ (M h : ℕ) (ms rs : List ℕ) : List ℕ :=
  (ms.zip rs).map fun (mr : ℕ × ℕ) => (mr.2 + h) % mr.1 * RPoly.modInv ((M / mr.1) % mr.1) mr.1 % mr.1

theorem reconY_eq (ms rs : List ℕ) (h : ℕ) : KS.reconY ms rs h = reconYQ (prodN ms) h ms rs := by
  unfold KS.reconY reconYQ; rw [prod_eq_prodN]

theorem reconYQ_ok (M h z : ℕ) : ∀ (l rs : List ℕ),
    (∀ m ∈ l, 2 ≤ m ∧ Nat.Coprime (M / m) m) →
    List.Forall₂ (fun m r => (r + h) % m = z % m) l rs →
    List.Forall₂ (fun m y => y < m ∧ (y * (M / m)) % m = z % m) l (reconYQ M h l rs)
  | [], _, _, h2 => by cases h2; exact List.Forall₂.nil
  | m :: l, [], _, h2 => by cases h2
  | m :: l, r :: rs, h1, h2 => by
    rcases List.forall₂_cons.mp h2 with ⟨hr, hrest⟩
    obtain ⟨hm2, hcop⟩ := h1 m (by simp)
    have hm : 0 < m := by omega
    refine List.Forall₂.cons ⟨Nat.mod_lt _ hm, ?_⟩
      (reconYQ_ok M h z l rs (fun a ha => h1 a (by simp [ha])) hrest)
    have hinv : ((M / m) % m * RPoly.modInv ((M / m) % m) m) % m = 1 :=
      RPolyRing.modInv_spec _ _ hm2 (by
        rw [Nat.Coprime, ← Nat.gcd_rec]; exact Nat.Coprime.symm hcop)
    show ((r + h) % m * RPoly.modInv ((M / m) % m) m % m * (M / m)) % m = z % m
    generalize RPoly.modInv ((M / m) % m) m = c at hinv
    generalize M / m = s at hinv
    have h2' : (c * s) % m = 1 := by
      rw [Nat.mod_mul_mod] at hinv
      rw [Nat.mul_comm]; exact hinv
    calc ((r + h) % m * c % m * s) % m = ((r + h) % m * (c * s)) % m := by
            rw [Nat.mod_mul_mod, Nat.mul_assoc]
      _ = ((r + h) % m % m * ((c * s) % m)) % m := by rw [← Nat.mul_mod]
      _ = z % m := by rw [h2', Nat.mod_mod, Nat.mul_one, Nat.mod_mod, hr]

/-- `rs` are the residues of `X` modulo the pairwise coprime moduli `ms` (each `≥ 2`) -/
structure Residues (ms rs : List ℕ) (X : ℕ) : Prop where
  coprime : ms.Pairwise Nat.Coprime
  ge : ∀ m ∈ ms, 2 ≤ m
  res : List.Forall₂ (fun m r => r % m = X % m) ms rs

theorem reconY_ok {ms rs : List ℕ} {X : ℕ} (h : ℕ) (hr : Residues ms rs X) :
    List.Forall₂ (fun m y => y < m ∧ (y * qStar ms m) % m = ((X + h) % prodN ms) % m) ms
      (KS.reconY ms rs h) := by
  rw [reconY_eq]
  apply reconYQ_ok (prodN ms) h ((X + h) % prodN ms) ms rs
  · intro m hm; exact ⟨hr.ge m hm, prodN_div_mem ms m hr.coprime hr.ge hm⟩
  · have hall : ∀ m ∈ ms, ∀ r, r % m = X % m → (r + h) % m = ((X + h) % prodN ms) % m := by
      intro m hm r hr
      rw [Nat.mod_mod_of_dvd _ (dvd_prodN_of_mem ms m hm), Nat.add_mod, hr, ← Nat.add_mod]
    exact forall₂_imp_mem hr.res hall

theorem foldl_sum_int (M : ℕ) : ∀ (ms ys : List ℕ) (a : ℕ),
    (ms.zip ys).foldl (fun (acc : ℤ) (my : ℕ × ℕ) => acc + (my.2 : ℤ) * ((M : ℤ) / (my.1 : ℤ))) (a : ℤ)
      = ((a + sumQ M ms ys : ℕ) : ℤ)
  | [], _, a => by simp
  | _ :: _, [], a => by simp
  | m :: ms, y :: ys, a => by
    simp only [List.zip_cons_cons, List.foldl_cons, sumQ_cons]
    have e : (a : ℤ) + (y : ℤ) * ((M : ℤ) / (m : ℤ)) = ((a + y * (M / m) : ℕ) : ℤ) := by
      push_cast; rfl
    rw [e, foldl_sum_int M ms ys, Nat.add_assoc]

theorem centerHalfV_unfold (v : ℕ) (ms ys : List ℕ) :
    KS.centerHalfV v ms ys
      = (hpsSum ms ys : ℤ) - ((v * prodN ms : ℕ) : ℤ) - ((prodN ms / 2 : ℕ) : ℤ) := by
  have h := foldl_sum_int (prodN ms) ms ys 0
  rw [Nat.zero_add] at h
  unfold KS.centerHalfV
  simp only [prod_eq_prodN]
  rw [hpsSum_eq_sumQ, ← h]
  rfl

theorem pos_of_ge2 {ms : List ℕ} (hge : ∀ m ∈ ms, 2 ≤ m) : ∀ m ∈ ms, 0 < m := fun m hm => by
  have := hge m hm; omega

theorem centerHalfV_eq {ms rs : List ℕ} {X : ℕ} (v : ℕ) (hr : Residues ms rs X) :
    KS.centerHalfV v ms (KS.reconY ms rs (prodN ms / 2))
      = centeredRep (prodN ms) X
        + ((hpsV ms (KS.reconY ms rs (prodN ms / 2)) : ℤ) - (v : ℤ)) * (prodN ms : ℤ) := by
  have hpos := pos_of_ge2 hr.ge
  have hM : 0 < prodN ms := Scaling.prodN_pos ms hpos
  have hs := hps_sum_eq ms (KS.reconY ms rs (prodN ms / 2)) ((X + prodN ms / 2) % prodN ms) hr.coprime hpos
    (Nat.mod_lt _ hM) (reconY_ok (prodN ms / 2) hr)
  rw [centerHalfV_unfold, hs]
  unfold centeredRep
  push_cast
  ring

theorem centerHalf_unfold (ms rs : List ℕ) :
    KS.centerHalf ms rs
      = KS.centerHalfV (KS.floatIndex ms (KS.reconY ms rs (prodN ms / 2))) ms
          (KS.reconY ms rs (prodN ms / 2)) := by
  unfold KS.centerHalf
  simp only [prod_eq_prodN]

theorem centerHalf_emod {ms rs : List ℕ} {X : ℕ} (hr : Residues ms rs X) {m : ℕ} (hm : m ∈ ms) :
    KS.centerHalf ms rs % (m : ℤ) = (X : ℤ) % (m : ℤ) := by
  rw [centerHalf_unfold, centerHalfV_eq _ hr]
  have hd : (m : ℤ) ∣ (prodN ms : ℤ) := by exact_mod_cast dvd_prodN_of_mem ms m hm
  rw [Int.add_mul_emod_self_left' hd, ← Int.emod_emod_of_dvd _ hd, centeredRep_emod,
    Int.emod_emod_of_dvd _ hd]
where
  Int.add_mul_emod_self_left' {a b c m : ℤ} (h : m ∣ c) : (a + b * c) % m = a % m := by
    obtain ⟨k, rfl⟩ := h
    rw [show a + b * (m * k) = a + m * (b * k) by ring, Int.add_mul_emod_self_left]

theorem centerHalf_exact {ms rs : List ℕ} {X : ℕ} (hr : Residues ms rs X)
    (hf : FloatExact ms (KS.reconY ms rs (prodN ms / 2))) :
    KS.centerHalf ms rs = centeredRep (prodN ms) X := by
  rw [centerHalf_unfold, centerHalfV_eq _ hr, hf, sub_self, zero_mul, add_zero]

theorem two_mul_centeredRep_natAbs_le (M X : ℕ) (hM : 0 < M) : 2 * (centeredRep M X).natAbs ≤ M := by
  have := centeredRep_bounds M X hM
  omega

theorem centerHalf_natAbs_le {ms rs : List ℕ} {X : ℕ} (hr : Residues ms rs X)
    (hf : FloatExact ms (KS.reconY ms rs (prodN ms / 2))) :
    2 * (KS.centerHalf ms rs).natAbs ≤ prodN ms := by
  rw [centerHalf_exact hr hf]
  exact two_mul_centeredRep_natAbs_le _ X (Scaling.prodN_pos ms (pos_of_ge2 hr.ge))

theorem foldl_crt (M : ℕ) : ∀ (ms rs : List ℕ) (a : ℕ), a < M →
    (ms.zip rs).foldl (fun acc (qr : ℕ × ℕ) =>
        (acc + qr.2 % qr.1 * RPoly.modInv ((M / qr.1) % qr.1) qr.1 % qr.1 * (M / qr.1)) % M) a
      = (a + sumQ M ms (reconYQ M 0 ms rs)) % M
  | [], _, a, ha => by simp [Nat.mod_eq_of_lt ha]
  | _ :: _, [], a, ha => by simp [reconYQ, Nat.mod_eq_of_lt ha]
  | m :: ms, r :: rs, a, ha => by
    have hM : 0 < M := by omega
    simp only [List.zip_cons_cons, List.foldl_cons, reconYQ, List.map_cons, sumQ_cons, Nat.add_zero]
    have ih := foldl_crt M ms rs ((a + r % m * RPoly.modInv (M / m % m) m % m * (M / m)) % M) (Nat.mod_lt _ hM)
    simp only [reconYQ, Nat.add_zero] at ih
    rw [ih, Nat.mod_add_mod, Nat.add_assoc]

theorem crt_eq {ms rs : List ℕ} {X : ℕ} (hr : Residues ms rs X) (hX : X < prodN ms) : RPoly.crt ms rs = X := by
  have hpos := pos_of_ge2 hr.ge
  have hM : 0 < prodN ms := Scaling.prodN_pos ms hpos
  have h := foldl_crt (prodN ms) ms rs 0 hM
  have hy : List.Forall₂ (fun m y => y < m ∧ (y * qStar ms m) % m = X % m) ms (reconYQ (prodN ms) 0 ms rs) :=
    reconYQ_ok (prodN ms) 0 X ms rs (fun m hm => ⟨hr.ge m hm, prodN_div_mem ms m hr.coprime hr.ge hm⟩)
      (forall₂_imp_mem hr.res (fun m _ r hr => by rw [Nat.add_zero]; exact hr))
  have hs := hps_sum_eq ms _ X hr.coprime hpos hX hy
  rw [hpsSum_eq_sumQ] at hs
  unfold RPoly.crt
  simp only [prod_eq_prodN]
  refine h.trans ?_
  rw [Nat.zero_add, hs, Nat.add_mul_mod_self_right, Nat.mod_eq_of_lt hX]

theorem crt_exists : ∀ (ms rs : List ℕ), ms.Pairwise Nat.Coprime → (∀ m ∈ ms, 0 < m) →
    ms.length = rs.length → ∃ X, X < prodN ms ∧ List.Forall₂ (fun m r => r % m = X % m) ms rs
  | [], [], _, _, _ => ⟨0, by simp [prodN], List.Forall₂.nil⟩
  | [], _ :: _, _, _, h => by simp at h
  | _ :: _, [], _, _, h => by simp at h
  | m :: ms, r :: rs, hc, hpos, hl => by
    rcases List.pairwise_cons.mp hc with ⟨hcm, hcl⟩
    obtain ⟨X', _, hres'⟩ := crt_exists ms rs hcl (fun a ha => hpos a (by simp [ha])) (by simpa using hl)
    have hcop : Nat.Coprime m (prodN ms) := prodN_coprime hcm
    obtain ⟨k, hk1, hk2⟩ := Nat.chineseRemainder hcop r X'
    have hm : 0 < m := hpos m (by simp)
    have hMs : 0 < prodN ms := Scaling.prodN_pos ms (fun a ha => hpos a (by simp [ha]))
    refine ⟨k % (m * prodN ms), Nat.mod_lt _ (Nat.mul_pos hm hMs), List.Forall₂.cons ?_ ?_⟩
    · rw [Nat.mod_mod_of_dvd _ (Dvd.intro _ rfl)]; exact hk1.symm
    · refine forall₂_imp_mem hres' (fun a ha b hb => ?_)
      have hd : a ∣ m * prodN ms := Dvd.dvd.mul_left (dvd_prodN_of_mem ms a ha) m
      rw [Nat.mod_mod_of_dvd _ hd, hb]
      have := Nat.ModEq.of_dvd (dvd_prodN_of_mem ms a ha) hk2
      exact this.symm

end Lattigo.StackKS
