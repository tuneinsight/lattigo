/-
  Stack closure: ingredients of the CLOSED noise bounds of key switching (C04), the external product (C20) and
  public-key encryption with `P` (C03).

  The rounded division of a pair (`exact_div_pair`): from a phase identity `x₀ + x₁·s = T + E` modulo `QP` with `T ≡ 0 (mod P)`
  and remainders `≡ x_i (mod P)`, the noise after `ModDown` is the reduction of the integer quotient `(E − ρ₀ − s·ρ₁)/P`.  The
  reduction `R_{QP} → R_P` preserves `+ − *` and `P = 0` there, so `E − ρ₀ − s·ρ₁` reduces to `0` modulo every `p_k`, hence is
  divisible by `P = Π p_k` (pairwise coprime).

  The magnitudes of the digits `decomposeZ` (`digitBounds`): `centerSingle`, `bitDigit`, and `remZ_bound` under the named IEEE
  hypothesis on the blocks of multi-prime digits.
-/
import Lattigo.Proofs.StackKSZ
import Lattigo.Proofs.StackKSGadget

set_option linter.unusedSectionVars false

namespace Lattigo.StackKS
open Lattigo Lattigo.RPolyRing Lattigo.Transport Lattigo.Scaling Lattigo.BasisExt Lattigo.KS Lattigo.ZPoly

theorem partP_zipRows (f : ℕ → List ℕ → List ℕ → List ℕ) (k : ℕ) (a b : RPoly) :
    partP k (RPoly.zipRows f a b) = RPoly.zipRows f (partP k a) (partP k b) := by
  simp only [partP, RPoly.zipRows, ← List.map_drop, List.zip_eq_zipWith, List.drop_zipWith]

theorem partP_mapRows (f : ℕ → List ℕ → List ℕ) (k : ℕ) (a : RPoly) :
    partP k (RPoly.mapRows f a) = RPoly.mapRows f (partP k a) := by
  simp only [partP, RPoly.mapRows, ← List.map_drop, List.zip_eq_zipWith, List.drop_zipWith]

theorem partP_hom (k : ℕ) : OpsHom (partP k) :=
  ⟨partP_zipRows _ k, partP_zipRows _ k, partP_mapRows _ k, partP_zipRows _ k⟩

theorem partP_constQ (qs ps : List ℕ) (n k : ℕ) :
    partP qs.length (constQ (qs ++ ps) n k) = constQ ps n k := by
  unfold constQ KS.constPoly partP
  rw [ListLemmas.zip_map_self, ListLemmas.zip_map_self, List.map_append, List.drop_left' (by simp)]
  simp

theorem constQ_P_zero {ps : List ℕ} {n : ℕ} [hg : Good ps n] : constQ ps n (RPoly.prod ps) = RPoly.zero ps n := by
  rw [constQ_eq]
  show val _ = val (0 : WFPoly ps n)
  congr 1
  apply WFPoly.toProd_injective
  funext i
  rw [WFPoly.toProd_constNat, WFPoly.toProd_zero, Pi.zero_apply, ← cast_mod_eq natCast_q_Rq, prod_eq_prodN,
    Nat.mod_eq_zero_of_dvd (dvd_prodN_of_mem ps _ (List.get_mem ps i)), Nat.cast_zero]

theorem prodN_dvd_int : ∀ (ps : List ℕ), ps.Pairwise Nat.Coprime → ∀ (w : ℤ), (∀ p ∈ ps, (p : ℤ) ∣ w) →
    (prodN ps : ℤ) ∣ w
  | [], _, w, _ => by simp [prodN]
  | p :: ps, hc, w, h => by
    rcases List.pairwise_cons.mp hc with ⟨hcp, hcl⟩
    have h1 : (p : ℤ) ∣ w := h p (by simp)
    have h2 : (prodN ps : ℤ) ∣ w := prodN_dvd_int ps hcl w (fun a ha => h a (by simp [ha]))
    have hco : IsCoprime (p : ℤ) (prodN ps : ℤ) := Nat.isCoprime_iff_coprime.mpr (prodN_coprime hcp)
    show ((p * prodN ps : ℕ) : ℤ) ∣ w
    rw [Nat.cast_mul]
    exact hco.mul_dvd h1 h2

theorem ofInts_eq_zero_dvd {ps : List ℕ} {n : ℕ} (hge : ∀ p ∈ ps, 2 ≤ p) (W : List ℤ)
    (h : RPoly.ofInts ps W = RPoly.zero ps n) : ∀ p ∈ ps, ∀ x ∈ W, (p : ℤ) ∣ x := by
  intro p hp x hx
  have hc := congrArg RPoly.c h
  have hrow := (List.map_inj_left.mp hc) p hp
  have hmem : (x % (p : ℤ)).toNat ∈ W.map (fun (x : ℤ) => (x % (p : ℤ)).toNat) := List.mem_map_of_mem hx
  rw [hrow] at hmem
  have h0 : (x % (p : ℤ)).toNat = 0 := List.eq_of_mem_replicate hmem
  have hp2 := hge p hp
  have hnn : 0 ≤ x % (p : ℤ) := Int.emod_nonneg _ (by omega)
  exact Int.dvd_of_emod_eq_zero (by omega)

theorem smul_div (P : ℕ) (W : List ℤ) (h : ∀ x ∈ W, (P : ℤ) ∣ x) :
    ZPoly.smul (P : ℤ) (W.map (· / (P : ℤ))) = W := by
  unfold ZPoly.smul
  rw [List.map_map]
  conv_rhs => rw [← List.map_id W]
  apply List.map_congr_left
  intro x hx
  exact Int.mul_ediv_cancel' (h x hx)

theorem two_normInf_le_of {l : List ℤ} {P : ℕ} (h : ∀ c ∈ l, 2 * c.natAbs ≤ P) : 2 * normInf l ≤ P := by
  have : normInf l ≤ P / 2 := normInf_le_iff.mpr (fun x hx => by have := h x hx; omega)
  omega

section alg
variable {qs : List ℕ} {n : ℕ} [Good qs n]

theorem pinvElt_mul_constQ {ps : List ℕ} (hcop : ∀ q ∈ qs, Nat.Coprime (RPoly.prod ps) q) :
    pinvElt qs ps n * constQ qs n (RPoly.prod ps) = rpOne qs n :=
  congrArg val (show lift _ (pinvElt_wf ps) * lift _ (constQ_wf (RPoly.prod ps)) = (1 : WFPoly qs n) by
    rw [mul_comm]; exact val_injective (hP_closed ps hcop))

end alg

section div
variable {qs ps : List ℕ} {n : ℕ} [hgq : Good qs n] [hg : Good (qs ++ ps) n]

theorem sub_add_mul_comm {a b c s : RPoly} (ha : WFq qs n a) (hb : WFq qs n b) (hc : WFq qs n c)
    (hs : WFq qs n s) : a - (b + c * s) = (a - b) - s * c :=
  congrArg val (show lift a ha - (lift b hb + lift c hc * lift s hs) = (lift a ha - lift b hb) - lift s hs * lift c hc by
    ring)

theorem residual_eq {x0 x1 s T E : RPoly} (h0 : WFq qs n x0) (h1 : WFq qs n x1) (hs : WFq qs n s)
    (hT : WFq qs n T) (hE : WFq qs n E) (h : x0 + x1 * s = T + E) : (E - x0) - s * x1 = -T := by
  have h' : lift x0 h0 + lift x1 h1 * lift s hs = lift T hT + lift E hE := val_injective h
  have e : lift x0 h0 = lift T hT + lift E hE - lift x1 h1 * lift s hs := by rw [← h']; ring
  exact congrArg val (show (lift E hE - lift x0 h0) - lift s hs * lift x1 h1 = -lift T hT by rw [e]; ring)

/-- `T`: the gadget term of the phase identity before `ModDown`.  The conclusion is the hypothesis `hrel` of the rounding bounds of
key switching, the external product and public-key encryption. -/
theorem exact_div_pair (hco : (qs ++ ps).Pairwise Nat.Coprime) {EZ ρ0 ρ1 sZ : List ℤ} (hEl : EZ.length = n)
    (h0l : ρ0.length = n) (h1l : ρ1.length = n) (hsl : sZ.length = n) {x0 x1 T : RPoly}
    (h0 : WFq (qs ++ ps) n x0) (h1 : WFq (qs ++ ps) n x1) (hT : WFq (qs ++ ps) n T)
    (hp0 : partP qs.length (RPoly.ofInts (qs ++ ps) ρ0) = partP qs.length x0)
    (hp1 : partP qs.length (RPoly.ofInts (qs ++ ps) ρ1) = partP qs.length x1)
    (hTP : partP qs.length T = RPoly.zero ps n)
    (h : x0 + x1 * RPoly.ofInts (qs ++ ps) sZ = T + RPoly.ofInts (qs ++ ps) EZ) :
    ZPoly.smul ((prodN ps : ℕ) : ℤ) ((ZPoly.sub (ZPoly.sub EZ ρ0) (ZPoly.mul sZ ρ1)).map (· / ((prodN ps : ℕ) : ℤ)))
      = ZPoly.sub (ZPoly.sub EZ ρ0) (ZPoly.mul sZ ρ1)
    ∧ pinvElt qs ps n * (RPoly.ofInts qs EZ - (RPoly.ofInts qs ρ0 + RPoly.ofInts qs ρ1 * RPoly.ofInts qs sZ))
      = RPoly.ofInts qs ((ZPoly.sub (ZPoly.sub EZ ρ0) (ZPoly.mul sZ ρ1)).map (· / ((prodN ps : ℕ) : ℤ))) := by
  have : Good ps n := good_right hg
  have hml : (ZPoly.mul sZ ρ1).length = n := by rw [mul_length, hsl]
  have hWl := sub_length _ _ (sub_length _ _ hEl h0l) hml
  -- the `P` rows of `W`: those of `(E − x₀) − s·x₁ = −T`
  have hPW : RPoly.ofInts ps (ZPoly.sub (ZPoly.sub EZ ρ0) (ZPoly.mul sZ ρ1)) = RPoly.zero ps n := by
    have hh := partP_hom qs.length
    rw [← partP_ofInts qs ps, ofInts_sub _ _ (sub_length _ _ hEl h0l) hml, ofInts_sub _ _ hEl h0l, ofInts_mul _ _ hsl h1l,
      hh.sub, hh.sub, hh.mul, hp0, hp1, ← hh.mul, ← hh.sub, ← hh.sub,
      residual_eq h0 h1 (ofInts_wf _ hsl) hT (ofInts_wf _ hEl) h, hh.neg, hTP]
    exact congrArg val (neg_zero : -(0 : WFPoly ps n) = 0)
  generalize hW : ZPoly.sub (ZPoly.sub EZ ρ0) (ZPoly.mul sZ ρ1) = W at hPW hWl ⊢
  have hsm := smul_div (prodN ps) W fun x hx =>
    prodN_dvd_int ps (List.pairwise_append.1 hco).2.1 x fun p hp => ofInts_eq_zero_dvd (good_right hg).q_ge W hPW p hp x hx
  refine ⟨hsm, ?_⟩
  generalize hν : W.map (· / ((prodN ps : ℕ) : ℤ)) = νZ at hsm ⊢
  have hνl : νZ.length = n := by rw [← hν, List.length_map, hWl]
  have hY : RPoly.ofInts qs EZ - (RPoly.ofInts qs ρ0 + RPoly.ofInts qs ρ1 * RPoly.ofInts qs sZ)
      = constQ qs n (RPoly.prod ps) * RPoly.ofInts qs νZ := by
    rw [sub_add_mul_comm (ofInts_wf _ hEl) (ofInts_wf _ h0l) (ofInts_wf _ h1l) (ofInts_wf _ hsl),
      ← ofInts_mul _ _ hsl h1l, ← ofInts_sub _ _ hEl h0l, ← ofInts_sub _ _ (sub_length _ _ hEl h0l) hml, hW, ← hsm,
      ofInts_smul _ _ hνl, prod_eq_prodN]
  rw [hY]
  exact (cancel_inv (pinvElt_wf ps) (constQ_wf _) (ofInts_wf _ hνl)
    (pinvElt_mul_constQ (coprime_prod_of_pairwise hco))).1

theorem partP_constQ_mul {c t : RPoly} (hc : WFq (qs ++ ps) n c) (ht : WFq (qs ++ ps) n t) :
    partP qs.length (constQ (qs ++ ps) n (RPoly.prod ps) * c * t) = RPoly.zero ps n := by
  have : Good ps n := good_right hg
  have hh := partP_hom qs.length
  rw [hh.mul, hh.mul, partP_constQ, constQ_P_zero]
  exact congrArg val (show (0 : WFPoly ps n) * lift _ (partP_wf (qs := qs) hc) * lift _ (partP_wf (qs := qs) ht) = 0 by
    rw [zero_mul, zero_mul])

end div

/-- the bound matrix the decomposition parameters fix: `⌈q_i/2⌉` for a single-prime RNS digit (copy branch),
`⌊Q_i/2⌋` for a multi-prime digit (`Q_i` the product of its moduli; HPS branch with the exact index),
`2^w − 1` for a base-`2^w` digit -/
def digitBounds (qs : List ℕ) (nP w : ℕ) (nJ : List ℕ) : List (List ℕ) :=
  if nP ≥ 2 then
    (List.range (baseRNSDecompositionVectorSize (qs.length - 1) nP)).map fun i =>
      [if dLvl qs.length nP i < 0 then (qs.getD (i * nP) 1 + 1) / 2
       else prodN ((qs.drop (i * nP)).take (min (i * nP + nP) (qs.length - 1 + 1) - i * nP)) / 2]
  else
    (List.range (qs.length - 1 + 1)).map fun i =>
      if 2 ^ w - 1 = 0 then List.replicate (nJ.getD i 0) ((qs.getD i 1 + 1) / 2)
      else List.replicate (nJ.getD i 0) (2 ^ w - 1)

theorem forall₂_map_map {α β γ : Type} {R : β → γ → Prop} (f : α → β) (g : α → γ) :
    ∀ l : List α, (∀ x ∈ l, R (f x) (g x)) → List.Forall₂ R (l.map f) (l.map g)
  | [], _ => List.Forall₂.nil
  | a :: l, h => List.Forall₂.cons (h a (by simp)) (forall₂_map_map f g l (fun x hx => h x (by simp [hx])))

theorem normInf_centerSingle (q : ℕ) (row : List ℕ) (h : ∀ x ∈ row, x < q) :
    normInf (row.map fun x => centerSingle q x) ≤ (q + 1) / 2 :=
  normInf_map_le _ _ _ fun x hx => by
    have := h x hx
    unfold centerSingle
    split <;> omega

theorem normInf_bits (w j : ℕ) (row : List ℕ) :
    normInf (row.map fun x => ((bitDigit w j x : ℕ) : ℤ)) ≤ 2 ^ w - 1 :=
  normInf_map_le _ _ _ fun x _ => by
    have := bitDigit_lt w j x
    omega

section bounds
variable {qs : List ℕ} {n : ℕ} [hg : Good qs n]

theorem decomposeRNSZ_bound (hqs : qs ≠ []) (hco : qs.Pairwise Nat.Coprime) (nb i : ℕ)
    (hnb : 1 ≤ nb) {c : RPoly} (hc : WFq qs n c) (hst : i * nb < qs.length)
    (hf : ¬ dLvl qs.length nb i < 0 →
      FloatExactPoly (block (i * nb) (min (i * nb + nb) (qs.length - 1 + 1) - i * nb) c)) :
    normInf (decomposeRNSZ nb i c)
      ≤ if dLvl qs.length nb i < 0 then (qs.getD (i * nb) 1 + 1) / 2
        else prodN ((qs.drop (i * nb)).take (min (i * nb + nb) (qs.length - 1 + 1) - i * nb)) / 2 := by
  unfold decomposeRNSZ
  rw [hc.1]
  by_cases hneg : dLvl qs.length nb i < 0
  · rw [if_pos hneg, if_pos hneg]
    exact normInf_centerSingle _ _ (by have := row_lt hc (i * nb) hst; rw [hc.1] at this; exact this)
  · rw [if_neg hneg, if_neg hneg]
    have hbne : (qs.drop (i * nb)).take (min (i * nb + nb) (qs.length - 1 + 1) - i * nb) ≠ [] := by
      apply List.ne_nil_of_length_pos
      simp only [List.length_take, List.length_drop]
      omega
    obtain ⟨hbco, hbge⟩ := block_moduli hco hg.q_ge (i * nb) (min (i * nb + nb) (qs.length - 1 + 1) - i * nb)
    rw [headD_length hc hqs, hpsDigit_eq_remZ hc _ _ hbne, ZPoly.normInf_le_iff]
    intro x hx
    have := remZ_bound (block_wf hc _ _) hbco hbge (hf hneg) x hx
    omega

theorem digitsBounded_decomposeZ (hqs : qs ≠ []) (hco : qs.Pairwise Nat.Coprime)
    (nP w : ℕ) (nJ : List ℕ) {c : RPoly} (hc : WFq qs n c)
    (hf : nP ≥ 2 → ∀ i, ¬ dLvl qs.length nP i < 0 →
      FloatExactPoly (block (i * nP) (min (i * nP + nP) (qs.length - 1 + 1) - i * nP) c)) :
    DigitsBounded n (decomposeZ nP w nJ c) (digitBounds qs nP w nJ) := by
  have hlen : 0 < qs.length := List.length_pos_of_ne_nil hqs
  unfold DigitsBounded decomposeZ digitBounds
  simp only [hc.1]
  split
  · rename_i hnP
    refine forall₂_map_map _ _ _ (fun i hi => ?_)
    have hst : i * nP < qs.length := baseRNS_start_lt hlen (by omega) (List.mem_range.mp hi)
    exact List.Forall₂.cons ⟨Nat.le_of_eq (decomposeRNSZ_length nP i hc hst),
      decomposeRNSZ_bound hqs hco nP i (by omega) hc hst (hf hnP i)⟩ List.Forall₂.nil
  · refine forall₂_map_map _ _ _ (fun i hi => ?_)
    have hi' : i < qs.length := by have := List.mem_range.mp hi; omega
    split
    · have hrep := forall₂_replicate (fun d D => d.length ≤ n ∧ normInf d ≤ D)
        (List.replicate (nJ.getD i 0) (decomposeRNSZ 1 i c)) ((qs.getD i 1 + 1) / 2)
      rw [List.length_replicate] at hrep
      refine hrep fun d hd => ?_
      rw [List.eq_of_mem_replicate hd]
      have hb := decomposeRNSZ_bound hqs hco 1 i (Nat.le_refl 1) hc (by omega)
        (fun h => absurd (dLvl_one_neg _ _) h)
      rw [if_pos (dLvl_one_neg _ _), Nat.mul_one] at hb
      exact ⟨Nat.le_of_eq (decomposeRNSZ_length 1 i hc (by omega)), hb⟩
    · have : List.replicate (nJ.getD i 0) (2 ^ w - 1) = (List.range (nJ.getD i 0)).map fun _ => 2 ^ w - 1 := by
        rw [List.map_const', List.length_range]
      rw [this]
      exact forall₂_map_map _ _ _ (fun j _ => ⟨Nat.le_of_eq (decomposeBitsZ_length w i j hc hi'), normInf_bits w j _⟩)

end bounds

end Lattigo.StackKS
