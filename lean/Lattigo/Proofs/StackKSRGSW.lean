/-
  Stack closure C02 → C20: the gadget recombination for the RGSW layout
      `π(Σ_k d_k·(P·w_k)) = P·c`     in `R_Q`
  for the flat digit list `RGSW.digitsOf p c` (uncentred base-`2^w` digits lifted to every modulus, or the whole
  coefficient for `w = 0`; centred RNS digits of `#P` primes reconstructed with `RPoly.crt`) and the gadget vector
  `RGSW.pgList p`.  Same route as `StackKS.gadget_closed`: the flat sums are the matrix sums of `KS.wsumMat`
  (`wsumRow_flatten`), row by row `KS.gadget_identity`, the row-wise recombination as an integer congruence
  (`StackKS.row_recombine` with `bits_recomb` / `dgtZ_group_emod`).
-/
import Lattigo.Proofs.StackKSGadget
import Lattigo.Proofs.StackKSExact
import Lattigo.Proofs.RGSW
import Lattigo.Proofs.RGSWShape

set_option linter.unusedSectionVars false

namespace Lattigo.StackKS
open Lattigo Lattigo.RPolyRing Lattigo.Transport Lattigo.Scaling Lattigo.BasisExt Lattigo.KS

theorem centredDigit_emod (ms col : List ℕ) (X : ℕ) (hc : ms.Pairwise Nat.Coprime) (hge : ∀ m ∈ ms, 2 ≤ m)
    (hX : X < prodN ms) (hres : List.Forall₂ (fun m r => r % m = X % m) ms col) (m : ℕ) (hm : m ∈ ms) :
    RGSW.centredDigit ms col % (m : ℤ) = (X : ℤ) % (m : ℤ) := by
  unfold RGSW.centredDigit
  split
  · rename_i q x
    rcases List.forall₂_cons.mp hres with ⟨hr, _⟩
    have hmq : m = q := by simpa using hm
    subst hmq
    have hx : ((x : ℤ)) % (m : ℤ) = (X : ℤ) % (m : ℤ) := by
      have : ((x % m : ℕ) : ℤ) = ((X % m : ℕ) : ℤ) := by rw [hr]
      push_cast at this; exact this
    split
    · rw [Int.sub_emod_right, hx]
    · exact hx
  · have hd : (m : ℤ) ∣ (prodN ms : ℤ) := by exact_mod_cast dvd_prodN_of_mem ms m hm
    have e : (((RPoly.crt ms col + RPoly.prod ms / 2) % RPoly.prod ms : ℕ) : ℤ) - ((RPoly.prod ms / 2 : ℕ) : ℤ)
        = centeredRep (prodN ms) X := by
      rw [prod_eq_prodN, crt_eq ⟨hc, hge, hres⟩ hX]; rfl
    rw [e, ← Int.emod_emod_of_dvd _ hd, centeredRep_emod, Int.emod_emod_of_dvd _ hd]

theorem centredDigits_emod {ms : List ℕ} {n : ℕ} {xg : RPoly} (h : WFq ms n xg) (hne : ms ≠ [])
    (hc : ms.Pairwise Nat.Coprime) (hge : ∀ m ∈ ms, 2 ≤ m) {k : ℕ} (hk : k < ms.length) {t : ℕ} (ht : t < n) :
    ((RPoly.transpose xg.c).map fun col => RGSW.centredDigit ms col).getD t 0 % ((ms.getD k 0 : ℕ) : ℤ)
      = (((xg.c.getD k []).getD t 0 : ℕ) : ℤ) % ((ms.getD k 0 : ℕ) : ℤ) := by
  rw [transpose_eq, List.map_map, headD_length h hne, ListLemmas.getD_map_range _ _ _ ht]
  exact col_emod h hc hge hk t fun X hX hres => centredDigit_emod ms _ X hc hge hX hres.res _ (ListLemmas.getD_mem hk)

theorem map_getD_range' {α : Type} (l : List α) (d : α) (st len : ℕ) (h : st + len ≤ l.length) :
    (List.range' st len).map (fun k => l.getD k d) = (l.drop st).take len := by
  apply List.ext_getElem
    (by rw [List.length_map, List.length_range', List.length_take, List.length_drop]; omega)
  intro i h1 _
  rw [List.length_map, List.length_range'] at h1
  rw [List.getElem_map, List.getElem_range', Nat.one_mul, List.getElem_eq_getD d, ListLemmas.getD_take _ _ _ h1,
    ListLemmas.getD_drop]

section digitrows
variable {qs ps : List ℕ} {n : ℕ} [hgq : Good qs n]

theorem natsToPoly_eq_ofInts (L : List ℕ) (v : List ℕ) :
    RGSW.natsToPoly L v = RPoly.ofInts L (v.map fun x => ((x : ℕ) : ℤ)) := by
  unfold RGSW.natsToPoly RPoly.ofInts
  congr 1
  apply List.map_congr_left
  intro q _
  rw [List.map_map]
  apply List.map_congr_left
  intro x _
  simp only [Function.comp]
  rw [← Int.natCast_mod, Int.toNat_natCast]

end digitrows

section flat
variable {R : Type} [CommRing R]

theorem wsumRow_append : ∀ (a b r r' : List R), a.length = b.length →
    wsumRow 0 (a ++ r) (b ++ r') = wsumRow 0 a b + wsumRow 0 r r'
  | [], [], r, r', _ => (zero_add _).symm
  | [], _ :: _, _, _, h => by simp at h
  | _ :: _, [], _, _, h => by simp at h
  | x :: a, y :: b, r, r', h => by
    simp only [List.cons_append, wsumRow]
    rw [wsumRow_append a b r r' (Nat.succ.inj h), add_assoc]

theorem wsumRow_flatten : ∀ (A B : List (List R)), List.Forall₂ (fun a b => a.length = b.length) A B →
    wsumRow 0 A.flatten B.flatten = wsumMat 0 A B
  | _, _, List.Forall₂.nil => by simp [wsumMat, wsumRow]
  | _, _, List.Forall₂.cons h t => by
    simp only [List.flatten_cons, wsumMat]
    rw [wsumRow_append _ _ _ _ h, wsumRow_flatten _ _ t]

theorem map_wsum {S : Type} [CommRing S] (φ : R →+* S) (a b : List R) :
    φ (RGSW.wsum a b) = RGSW.wsum (a.map φ) (b.map φ) := by
  rw [RGSW.wsum_eq_wsumRow, RGSW.wsum_eq_wsumRow, wsumRow_push (OpsHom.ofRingHom φ), map_zero]

end flat

/-- only the LENGTH of the shape row matters -/
theorem idxRowFrom_range' {α β : Type} (f : ℕ → ℕ → α) (i : ℕ) : ∀ (a : ℕ) (l : List β),
    idxRowFrom f i a l = (List.range' a l.length).map (f i)
  | _, [] => rfl
  | a, _ :: l => by
    rw [idxRowFrom, List.length_cons, List.range'_succ, List.map_cons, idxRowFrom_range' f i (a + 1) l]

theorem idxMatFrom_ranges {α : Type} (f : ℕ → ℕ → α) (L : ℕ → ℕ) : ∀ (N i0 : ℕ),
    idxMatFrom f i0 ((List.range' i0 N).map fun i => List.range (L i))
      = (List.range' i0 N).map fun i => (List.range (L i)).map (f i)
  | 0, _ => rfl
  | N + 1, i0 => by
    rw [List.range'_succ, List.map_cons, idxMatFrom, List.map_cons, idxMatFrom_ranges f L N (i0 + 1)]
    congr 1
    rw [idxRowFrom_range', List.length_range, List.range_eq_range']

/-- signed coefficients of digit `(i, j)` of `RGSW.digitsOf` (of the noise analysis, `Proofs/RGSWNoise.lean`; declared
here because the digit `dgt` below is its reduction) -/
def _root_.Lattigo.RGSWNoise.dgtZ (p : RGSW.Par) (c : RPoly) (i j : ℕ) : List ℤ :=
  if p.nP ≤ 1 then (RGSW.maskDigit p.w j (c.c.getD i [])).map fun x => ((x : ℕ) : ℤ)
  else (RPoly.transpose ((p.group i).map fun k => c.c.getD k [])).map
    fun col => RGSW.centredDigit ((p.group i).map fun k => p.qsQ.getD k 1) col

open Lattigo.RGSWNoise (dgtZ)

theorem dgtZ_bits {p : RGSW.Par} (h : p.nP ≤ 1) (c : RPoly) (i j : ℕ) :
    dgtZ p c i j = (RGSW.maskDigit p.w j (c.c.getD i [])).map fun x => ((x : ℕ) : ℤ) := if_pos h

theorem dgtZ_group {p : RGSW.Par} (h : ¬ p.nP ≤ 1) (c : RPoly) (i j : ℕ) :
    dgtZ p c i j = (RPoly.transpose ((p.group i).map fun k => c.c.getD k [])).map
      fun col => RGSW.centredDigit ((p.group i).map fun k => p.qsQ.getD k 1) col := if_neg h

/-- digit `(i, j)` of `RGSW.digitsOf` -/
def dgt (p : RGSW.Par) (c : RPoly) (i j : ℕ) : RPoly := RPoly.ofInts p.qsQP (dgtZ p c i j)

theorem digitsOf_eq (p : RGSW.Par) (c : RPoly) :
    RGSW.digitsOf p c
      = ((List.range p.rnsSize).map fun i => (List.range (p.rowLen i)).map fun j => dgt p c i j).flatten := by
  unfold RGSW.digitsOf
  by_cases h : p.nP ≤ 1
  · rw [if_pos h]
    unfold RGSW.digitsBit RGSW.Par.idx
    rw [List.map_flatMap, List.flatMap_def]
    congr 1
    apply List.map_congr_left
    intro i _
    rw [List.map_map]
    apply List.map_congr_left
    intro j _
    simp only [Function.comp, dgt, dgtZ_bits h, natsToPoly_eq_ofInts]
  · rw [if_neg h]
    unfold RGSW.digitsGroup
    have : ((List.range p.rnsSize).map fun i => (List.range (p.rowLen i)).map fun j => dgt p c i j)
        = (List.range p.rnsSize).map fun i => [dgt p c i 0] := by
      apply List.map_congr_left
      intro i _
      rw [p.rowLen_ge2 h]; rfl
    rw [this, ← List.flatMap_def, ← List.map_eq_flatMap]
    apply List.map_congr_left
    intro i _
    simp only [dgt, dgtZ_group h]

theorem pgList_eq (p : RGSW.Par) :
    RGSW.pgList p
      = ((List.range p.rnsSize).map fun i => (List.range (p.rowLen i)).map fun j => RGSW.pgElt p i j).flatten := by
  unfold RGSW.pgList RGSW.Par.idx
  rw [List.map_flatMap, List.flatMap_def]
  congr 1
  apply List.map_congr_left
  intro i _
  rw [List.map_map]
  rfl

section rgsw
variable {qs ps : List ℕ} {n : ℕ} [hgq : Good qs n] [hg : Good (qs ++ ps) n]

theorem toProd_projQ (x : WFPoly (qs ++ ps) n) (k : Fin qs.length) :
    WFPoly.toProd (projQ (qs := qs) x) k = toQuot (qs.get k) n ((val x).c.getD k []) := by
  show toQuot (qs.get k) n ((takeRows qs.length (val x)).c.getD k []) = _
  congr 1
  simp [takeRows, List.getD_eq_getElem?_getD, k.2]

theorem dgtZ_length (hqs : qs ≠ []) (w : ℕ) {c : RPoly} (hc : WFq qs n c) (i j : ℕ)
    (hi : i < (⟨qs, ps, n, w⟩ : RGSW.Par).rnsSize) : (dgtZ ⟨qs, ps, n, w⟩ c i j).length = n := by
  have hrow : ∀ k, k < qs.length → (c.c.getD k []).length = n := fun k hk =>
    (hc.2.2 k (by rw [hc.1]; exact hk)).len
  by_cases h : (⟨qs, ps, n, w⟩ : RGSW.Par).nP ≤ 1
  · have hiq : i < qs.length := by rw [RGSW.Par.rnsSize_of_le_one _ hqs h] at hi; exact hi
    rw [dgtZ_bits h, List.length_map, RGSW.maskDigit_length]
    exact hrow i hiq
  · have hnP : (⟨qs, ps, n, w⟩ : RGSW.Par).nP ≠ 0 := fun h0 => h (by rw [h0]; exact Nat.zero_le 1)
    have hst : i * ps.length < qs.length := RGSW.Par.start_lt_of_lt_rnsSize _ hnP hqs hi
    -- the number of coefficients is the length of the first row of the group, row `i·#P`
    rw [dgtZ_group h, transpose_eq, List.length_map, List.length_map, List.length_range, RGSW.Par.group_eq, RGSW.Par.gw_of_ne_zero _ hnP]
    obtain ⟨m, hm⟩ : ∃ m, min ps.length (qs.length - i * ps.length) = m + 1 :=
      Nat.exists_eq_succ_of_ne_zero (by have : ps.length ≠ 0 := hnP; omega)
    show ((List.map _ (List.range' (i * ps.length) (min ps.length (qs.length - i * ps.length)))).headD []).length = n
    rw [hm, List.range'_succ, List.map_cons, List.headD_cons]
    exact hrow _ hst

theorem rgsw_pgElt_wf (w i j : ℕ) : WFq (qs ++ ps) n (RGSW.pgElt ⟨qs, ps, n, w⟩ i j) := by
  unfold RGSW.pgElt
  exact constPoly_wf' (L := qs ++ ps) _ (by simp)

theorem rgsw_pgElt_row (w i j : ℕ) (k : Fin qs.length) :
    toQuot (qs.get k) n ((RGSW.pgElt ⟨qs, ps, n, w⟩ i j).c.getD k [])
      = (((if k.1 / (⟨qs, ps, n, w⟩ : RGSW.Par).gw = i then RPoly.prod ps * 2 ^ (w * j) else 0 : ℕ)) :
          Rq (qs.get k) n) := by
  set p : RGSW.Par := ⟨qs, ps, n, w⟩ with hp
  have hkL : k.1 < (qs ++ ps).length := by rw [List.length_append]; have := k.2; omega
  have hqL : (qs ++ ps).getD k 0 = qs.get k := by
    simp [List.getD_eq_getElem?_getD, List.getElem?_append_left k.2]
  show toQuot (qs.get k) n ((constPoly (qs ++ ps) n
    (((List.range qs.length).map fun k' =>
        if (p.group i).contains k' then RPoly.prod ps * 2 ^ (w * j) else 0) ++ ps.map fun _ => 0)).c.getD k []) = _
  rw [constPoly_row (L := qs ++ ps) _ (by simp) k hkL, hqL, ← scalarRow_eq _ _ _ hgq.n_pos,
    toQuot_scalarRow hgq.n_pos]
  congr 1
  rw [List.getD_eq_getElem?_getD, List.getElem?_append_left (by simp),
    ← List.getD_eq_getElem?_getD, ListLemmas.getD_map_range _ _ _ k.2]
  refine if_congr ?_ rfl rfl
  rw [List.contains_iff_mem, p.mem_group_iff]
  exact and_iff_right k.2

theorem digitsOf_wf (hqs : qs ≠ []) (w : ℕ) {c : RPoly} (hc : WFq qs n c) :
    ∀ x ∈ RGSW.digitsOf ⟨qs, ps, n, w⟩ c, WFq (qs ++ ps) n x := by
  intro x hx
  rw [digitsOf_eq] at hx
  simp only [List.mem_flatten, List.mem_map, List.mem_range] at hx
  obtain ⟨_, ⟨i, hi, rfl⟩, hx⟩ := hx
  obtain ⟨j, _, rfl⟩ := List.mem_map.mp hx
  exact ofInts_wf _ (dgtZ_length (ps := ps) hqs w hc i j hi)

theorem rgsw_pgList_wf (w : ℕ) : ∀ x ∈ RGSW.pgList ⟨qs, ps, n, w⟩, WFq (qs ++ ps) n x := by
  intro x hx
  obtain ⟨⟨i, j⟩, _, rfl⟩ := List.mem_map.mp hx
  exact rgsw_pgElt_wf w i j

theorem dgtZ_group_emod (w : ℕ) (hnP : ¬ (⟨qs, ps, n, w⟩ : RGSW.Par).nP ≤ 1) (i k : ℕ) {c : RPoly} (hc : WFq qs n c)
    (hco : qs.Pairwise Nat.Coprime) (hk : k < qs.length) (hik : k / ps.length = i) {t : ℕ} (ht : t < n) :
    (dgtZ ⟨qs, ps, n, w⟩ c i 0).getD t 0 % ((qs.getD k 0 : ℕ) : ℤ)
      = (((c.c.getD k []).getD t 0 : ℕ) : ℤ) % ((qs.getD k 0 : ℕ) : ℤ) := by
  have hcl : c.c.length = qs.length := by rw [hc.2.1, hc.1]
  have hnP2 : 2 ≤ ps.length := Nat.lt_of_not_le hnP
  have hst : i * ps.length ≤ k := by rw [← hik]; exact Nat.div_mul_le_self k _
  have hen : k < i * ps.length + ps.length := by
    rw [← hik]; have := Nat.lt_div_mul_add (a := k) (b := ps.length) (by omega); omega
  rw [dgtZ_group hnP, RGSW.Par.group_eq, RGSW.Par.gw_of_ne_zero _ (show (⟨qs, ps, n, w⟩ : RGSW.Par).nP ≠ 0 from fun h => by
    rw [show ps.length = 0 from h] at hnP2; omega)]
  show ((RPoly.transpose ((List.range' (i * ps.length) (min ps.length (qs.length - i * ps.length))).map
      fun k => c.c.getD k [])).map fun col => RGSW.centredDigit
        ((List.range' (i * ps.length) (min ps.length (qs.length - i * ps.length))).map fun k => qs.getD k 1) col).getD t 0
      % _ = _
  generalize i * ps.length = st at hst hen ⊢
  have hlen : st + min ps.length (qs.length - st) ≤ qs.length := by omega
  have hklen : k - st < min ps.length (qs.length - st) := by omega
  generalize min ps.length (qs.length - st) = len at hlen hklen ⊢
  rw [map_getD_range' c.c [] st len (by omega), map_getD_range' qs 1 st len hlen]
  have hbne : (qs.drop st).take len ≠ [] :=
    List.ne_nil_of_length_pos (by rw [List.length_take, List.length_drop]; omega)
  obtain ⟨hbco, hbge⟩ := block_moduli hco hgq.q_ge st len
  have h := centredDigits_emod (block_wf hc st len) hbne hbco hbge (k := k - st)
    (by rw [List.length_take, List.length_drop]; omega) ht
  rwa [block_row _ _ _ c hklen, ListLemmas.getD_take _ _ _ hklen, ListLemmas.getD_drop,
    show st + (k - st) = k by omega] at h

theorem dgt_row_recombine (hco : qs.Pairwise Nat.Coprime) (w : ℕ) {c : RPoly} (hc : WFq qs n c)
    (k : Fin qs.length) :
    let p : RGSW.Par := ⟨qs, ps, n, w⟩
    wsumRow (0 : Rq (qs.get k) n)
        ((List.range (p.rowLen (k.1 / p.gw))).map fun j => toQuot (qs.get k) n ((dgt p c (k.1 / p.gw) j).c.getD k []))
        (idxRowFrom (fun _ j => ((2 ^ (w * j) : ℕ) : Rq (qs.get k) n)) 0 0 (List.range (p.rowLen (k.1 / p.gw))))
      = toQuot (qs.get k) n (c.c.getD k []) := by
  intro p
  have hwf : RowWF (qs.get k) n (c.c.getD k []) := by
    have := hc.2.2 k (by rw [hc.1]; exact k.2)
    rwa [show c.qs[k.1]'(by rw [hc.1]; exact k.2) = qs.get k by simp [hc.1]] at this
  have hq0 : qs.getD k 0 = qs.get k := by simp [List.getD_eq_getElem?_getD, k.2]
  have hq1 : qs.get k = (qs ++ ps).getD k 1 := by
    simp [List.getD_eq_getElem?_getD, List.getElem?_append_left k.2]
  have hqpos : 0 < qs.get k := by have := hgq.q_ge _ (List.get_mem qs k); omega
  -- the digits are reductions of integer vectors: their rows are the classes `zq`
  have hz : (fun j => toQuot (qs.get k) n ((dgt p c (k.1 / p.gw) j).c.getD k []))
      = zq (qs.get k) n ∘ fun j => dgtZ p c (k.1 / p.gw) j :=
    funext fun j => toQuot_ofInts_row (qs ++ ps) _ k (by rw [List.length_append]; have := k.2; omega) hq1 hqpos
  rw [hz, ← List.map_map]
  refine row_recombine w _ _ (by rw [List.length_map]) _ fun t ht => ?_
  have hlt : t < (c.c.getD k []).length := by rw [hwf.len]; exact ht
  by_cases hnP : p.nP ≤ 1
  · rw [p.gw_of_le_one hnP, Nat.div_one]
    by_cases hw : w = 0
    · -- the whole coefficient
      rw [show p.rowLen k.1 = 1 from if_pos (Or.inl hw)]
      show recombAt w 0 [dgtZ p c k.1 0] t % _ = _
      rw [recombAt_one]
      rw [dgtZ_bits hnP, RGSW.maskDigit_zero hw, ListLemmas.getD_map_of_lt _ _ t 0 hlt]
    · -- base-`2^w` digits, exact
      have hrl : p.rowLen k.1 = baseTwoDigits (qs.get k) w := by
        have h1 : ps.length ≤ 1 := hnP
        show (if w = 0 ∨ ps.length ≥ 2 then 1 else (RGSW.bitLen (qs.getD k.1 1) + w - 1) / w) = _
        rw [if_neg (by rintro (h | h) <;> omega),
          show qs.getD k.1 1 = qs.get k by simp [List.getD_eq_getElem?_getD, k.2]]
        rfl
      have hd : (fun j => dgtZ p c k.1 j) = fun j => (c.c.getD k []).map fun x => ((bitDigit w j x : ℕ) : ℤ) := by
        funext j
        rw [dgtZ_bits hnP, RGSW.maskDigit_pos hw, List.map_map]
        refine List.map_congr_left fun x _ => ?_
        show (((x / 2 ^ (j * w) % 2 ^ w : ℕ)) : ℤ) = _
        rw [bitDigit_eq, Nat.mul_comm j w]
      rw [hd, bits_recomb w _ _ hwf (by rw [hrl]; exact digitCount_sufficient _ w (by omega)) ht]
  · -- one centred digit per group of `#P` primes
    have hnP0 : p.nP ≠ 0 := fun h0 => hnP (by rw [h0]; exact Nat.zero_le 1)
    rw [p.rowLen_ge2 hnP]
    show recombAt w 0 [dgtZ p c (k.1 / p.gw) 0] t % _ = _
    rw [recombAt_one, ← hq0]
    exact dgtZ_group_emod w hnP _ k hc hco k.2 (by rw [p.gw_of_ne_zero hnP0]; rfl) ht

/-- (G) for C20.  The existential form says that `digitsOf` and `pgList` are lists of well-formed polynomials, so that the sum can
be stated in the ring `WFPoly`. -/
theorem rgsw_recombine (hqs : qs ≠ []) (hco : qs.Pairwise Nat.Coprime) (w : ℕ) {c : RPoly} (hc : WFq qs n c) :
    ∃ D G : List (WFPoly (qs ++ ps) n),
      D.map val = RGSW.digitsOf ⟨qs, ps, n, w⟩ c ∧ G.map val = RGSW.pgList ⟨qs, ps, n, w⟩
      ∧ projQ (qs := qs) (RGSW.wsum D G)
          = lift (constQ qs n (RPoly.prod ps)) (constQ_wf _) * lift c hc := by
  set p : RGSW.Par := ⟨qs, ps, n, w⟩ with hp
  obtain ⟨D, hD⟩ : ∃ D : List (WFPoly (qs ++ ps) n), D.map val = RGSW.digitsOf p c :=
    CanLift.prf _ (digitsOf_wf hqs w hc)
  obtain ⟨G, hG⟩ : ∃ G : List (WFPoly (qs ++ ps) n), G.map val = RGSW.pgList p := CanLift.prf _ (rgsw_pgList_wf w)
  refine ⟨D, G, hD, hG, WFPoly.toProd_injective ?_⟩
  let φ : WFPoly (qs ++ ps) n →+* WFPoly.Prod qs n :=
    (WFPoly.toProdHom (qs := qs) (n := n)).comp (projQ (qs := qs) (ps := ps))
  -- `φ` reads the rows `k < #Q` of the value: the sums become sums over the `RPoly` lists themselves
  let rowQ : RPoly → WFPoly.Prod qs n := fun x k => toQuot (qs.get k) n (x.c.getD k [])
  have hφ : ∀ l : List (WFPoly (qs ++ ps) n), l.map φ = (l.map val).map rowQ := fun l => by
    rw [List.map_map]
    exact List.map_congr_left fun x _ => funext fun k => toProd_projQ x k
  show φ (RGSW.wsum D G) = _
  rw [map_wsum φ, RGSW.wsum_eq_wsumRow, hφ, hφ, hD, hG, digitsOf_eq, pgList_eq, List.map_flatten, List.map_flatten,
    wsumRow_flatten _ _ (by
      rw [List.map_map, List.map_map]
      exact List.forall₂_map_left_iff.mpr (List.forall₂_map_right_iff.mpr
        (List.forall₂_same.mpr fun i _ => by simp)))]
  let shape : List (List ℕ) := (List.range p.rnsSize).map fun i => List.range (p.rowLen i)
  have hGM : ((List.range p.rnsSize).map fun i => (List.range (p.rowLen i)).map fun j => RGSW.pgElt p i j).map
        (List.map rowQ) = pgMat (fun i j => rowQ (RGSW.pgElt p i j)) shape := by
    show _ = idxMatFrom _ 0 ((List.range p.rnsSize).map _)
    rw [List.range_eq_range', idxMatFrom_ranges, List.map_map]
    apply List.map_congr_left
    intro i _
    simp only [Function.comp, List.map_map]
    rfl
  rw [hGM, WFPoly.toProd_mul]
  let grp : Fin qs.length → ℕ := fun k => k.1 / p.gw
  let Pk : ∀ k : Fin qs.length, Rq (qs.get k) n := fun k => ((RPoly.prod ps : ℕ) : Rq _ n)
  let b : ℕ → ∀ k : Fin qs.length, Rq (qs.get k) n := fun j k => ((2 ^ (w * j) : ℕ) : Rq _ n)
  have hPw : WFPoly.toProd (lift (constQ qs n (RPoly.prod ps)) (constQ_wf _)) = Pk := toProd_constQ _
  have hpg : (fun i j => rowQ (RGSW.pgElt p i j))
      = fun i j => fun k => if grp k = i then Pk k * b j k else 0 := by
    funext i j k
    show toQuot (qs.get k) n ((RGSW.pgElt p i j).c.getD k []) = if k.1 / p.gw = i then Pk k * b j k else 0
    rw [rgsw_pgElt_row w i j k]
    by_cases hc' : k.1 / p.gw = i
    · rw [if_pos hc', if_pos hc', Nat.cast_mul]
    · rw [if_neg hc', if_neg hc', Nat.cast_zero]
  rw [hpg, hPw]
  apply gadget_identity grp Pk b (WFPoly.toProd (lift c hc)) shape
  intro k
  have hik : grp k < p.rnsSize := (p.group_partition k.1 k.2).2.1
  have hDrow : ((((List.range p.rnsSize).map fun i => (List.range (p.rowLen i)).map fun j => dgt p c i j).map
        (List.map rowQ)).getD (grp k) []).map (fun x => x k)
      = (List.range (p.rowLen (grp k))).map fun j =>
          toQuot (qs.get k) n ((dgt p c (grp k) j).c.getD k []) := by
    rw [List.map_map, ListLemmas.getD_map_range _ _ _ hik]
    simp only [Function.comp, List.map_map]
    rfl
  have hshape : shape.getD (grp k) [] = List.range (p.rowLen (grp k)) :=
    ListLemmas.getD_map_range _ _ _ hik
  rw [hDrow, hshape]
  exact dgt_row_recombine hco w hc k

end rgsw

end Lattigo.StackKS
