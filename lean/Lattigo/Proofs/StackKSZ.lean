/-
  Stack closure: the bridge between the integer ring `Z[X]/(X^n+1)` on coefficient lists (`Lattigo.ZPoly`,
  where `Props/C04Noise`, `C03`, `C20Noise` state the noise bounds) and the executable carrier `RPoly`:

      `RPoly.ofInts qs : ZPoly → R_qs` preserves `+ − * k·` on lists of length `n`

  (`ofInts_add`, `ofInts_sub`, `ofInts_mul`, `ofInts_smul`, `ofInts_zero`), hence the weighted sums
  (`wsumMat_ofInts`: `Σ d_ij·e_ij` of reductions = reduction of `ZPoly.dotMatZ`).  Proof: row by row through
  `toQuot` (`zq`: the class of `Σ v_t X^t` in `Z_q[X]/(X^n+1)`), the product through `NTT.negacyclic_eval`.

  The same bridge carries the gadget recombination (G) of C04 and C20, whose digits are reductions of integer vectors:
  a key row `2^{wj}` against the classes of digit vectors is the class of their coefficientwise recombination
  (`wsumRow_zq`), so the row-wise hypothesis of `KS.gadget_identity` is an integer congruence (`row_recombine`).
-/
import Lattigo.Proofs.StackKS
import Lattigo.Proofs.NoiseNorm
import Lattigo.Proofs.Gadget

set_option linter.unusedSectionVars false

namespace Lattigo.StackKS
open Lattigo Lattigo.RPolyRing Lattigo.Transport Lattigo.ZPoly Finset Polynomial

section zq
variable {q n : ℕ}

/-- the class of `Σ_{t<n} v_t X^t` in `Z_q[X]/(X^n+1)` -/
noncomputable def zq (q n : ℕ) (v : List ℤ) : Rq q n :=
  ∑ t ∈ range n, ((v.getD t 0 : ℤ) : Rq q n) * (AdjoinRoot.root (X ^ n + 1 : (ZMod q)[X])) ^ t

theorem toQuot_reduce (hq : 0 < q) (v : List ℤ) :
    toQuot q n (v.map fun (x : ℤ) => (x % (q : ℤ)).toNat) = zq q n v := by
  rw [toQuot_eq_evalRow]
  unfold evalRow zq
  refine sum_congr rfl fun t _ => ?_
  rw [ListLemmas.getD_map_of_eq _ (0 : ℤ) (0 : ℕ) rfl, cast_emod_toNat natCast_q_Rq hq]

theorem zq_add (a b : List ℤ) (ha : a.length = n) (hb : b.length = n) :
    zq q n (ZPoly.add a b) = zq q n a + zq q n b := by
  unfold zq ZPoly.add
  rw [← sum_add_distrib]
  refine sum_congr rfl fun t ht => ?_
  have ht' := mem_range.1 ht
  rw [ListLemmas.getD_zipWith _ a b t 0 0 (by omega) (by omega), Int.cast_add, add_mul]

theorem zq_sub (a b : List ℤ) (ha : a.length = n) (hb : b.length = n) :
    zq q n (ZPoly.sub a b) = zq q n a - zq q n b := by
  unfold zq ZPoly.sub
  rw [← sum_sub_distrib]
  refine sum_congr rfl fun t ht => ?_
  have ht' := mem_range.1 ht
  rw [ListLemmas.getD_zipWith _ a b t 0 0 (by omega) (by omega), Int.cast_sub, sub_mul]

theorem zq_smul (k : ℤ) (a : List ℤ) : zq q n (ZPoly.smul k a) = (k : Rq q n) * zq q n a := by
  unfold zq ZPoly.smul
  rw [mul_sum]
  refine sum_congr rfl fun t _ => ?_
  rw [ListLemmas.getD_map_of_eq _ 0 0 (mul_zero k), Int.cast_mul, mul_assoc]

theorem zq_zero : zq q n (ZPoly.zero n) = 0 := by
  unfold zq ZPoly.zero
  refine sum_eq_zero fun t _ => ?_
  rw [List.getD_eq_getElem?_getD, List.getElem?_replicate]
  split <;> simp

theorem sum_zipIdx (g : ℤ × ℕ → ℤ) : ∀ (a : List ℤ) (s : ℕ),
    ((a.zipIdx s).map g).sum = ∑ i ∈ range a.length, g (a.getD i 0, s + i)
  | [], s => by simp
  | x :: a, s => by
    rw [List.zipIdx_cons, List.map_cons, List.sum_cons, sum_zipIdx g a (s + 1), List.length_cons,
      sum_range_succ']
    simp only [List.getD_cons_succ, List.getD_cons_zero, Nat.add_zero]
    rw [add_comm]
    congr 1
    apply sum_congr rfl
    intro i _
    rw [show s + 1 + i = s + (i + 1) by omega]

/-- coefficient `k` of the integer negacyclic product, in the form of `NTT.negacyclic_eval` -/
theorem mulCoeff_eq (a b : List ℤ) (k : ℕ) (hk : k < a.length) :
    ZPoly.mulCoeff a b k
      = ∑ i ∈ range (k + 1), a.getD i 0 * b.getD (k - i) 0
        - ∑ j ∈ range (a.length - 1 - k), a.getD (k + 1 + j) 0 * b.getD (a.length + k - (k + 1 + j)) 0 := by
  unfold ZPoly.mulCoeff
  rw [sum_zipIdx _ a 0]
  have e : a.length = (k + 1) + (a.length - 1 - k) := by omega
  conv_lhs => rw [e, sum_range_add]
  rw [sub_eq_add_neg, ← sum_neg_distrib]
  congr 1
  · apply sum_congr rfl
    intro i hi
    have : i ≤ k := by have := mem_range.1 hi; omega
    simp only [ZPoly.mulTerm, ZPoly.coeff, Nat.zero_add, this, if_true]
  · apply sum_congr rfl
    intro j _
    have : ¬ k + 1 + j ≤ k := by omega
    simp only [ZPoly.mulTerm, ZPoly.coeff, Nat.zero_add, this, if_false, ← e]

theorem zq_mul (a b : List ℤ) (ha : a.length = n) : zq q n (ZPoly.mul a b) = zq q n a * zq q n b := by
  unfold zq
  rw [← NTT.negacyclic_eval (fun i => ((a.getD i 0 : ℤ) : Rq q n)) (fun j => ((b.getD j 0 : ℤ) : Rq q n)) n _
    root_pow_n]
  apply sum_congr rfl
  intro k hk
  have hk' : k < a.length := by rw [ha]; exact mem_range.1 hk
  congr 1
  have : (ZPoly.mul a b).getD k 0 = ZPoly.mulCoeff a b k := by
    unfold ZPoly.mul
    simp [List.getD_eq_getElem?_getD, hk']
  rw [this, mulCoeff_eq a b k hk', ha]
  push_cast
  rfl

theorem toQuot_ofInts_row (L : List ℕ) (v : List ℤ) (k : ℕ) (hk : k < L.length) (hq : q = L.getD k 1) (hq0 : 0 < q) :
    toQuot q n ((RPoly.ofInts L v).c.getD k []) = zq q n v := by
  subst hq
  rw [ofInts_row L v k hk]
  exact toQuot_reduce hq0 v

/-- coefficient `t` of `Σ_j d_j·2^{w(j0+j)}` for integer digit vectors `d_0, d_1, …` -/
def recombAt (w : ℕ) : ℕ → List (List ℤ) → ℕ → ℤ
  | _, [], _ => 0
  | j, d :: ds, t => d.getD t 0 * 2 ^ (w * j) + recombAt w (j + 1) ds t

theorem recombAt_one (w : ℕ) (D : List ℤ) (t : ℕ) : recombAt w 0 [D] t = D.getD t 0 := by
  simp [recombAt]

theorem recombAt_range' (w : ℕ) (f : ℕ → List ℤ) (t : ℕ) : ∀ (m j0 : ℕ),
    recombAt w j0 ((List.range' j0 m).map f) t = ∑ j ∈ range m, (f (j0 + j)).getD t 0 * 2 ^ (w * (j0 + j))
  | 0, _ => by simp [recombAt]
  | m + 1, j0 => by
    rw [List.range'_succ, List.map_cons, recombAt, recombAt_range' w f t m (j0 + 1), sum_range_succ', Nat.add_zero,
      add_comm]
    congr 1
    exact sum_congr rfl fun j _ => by rw [show j0 + 1 + j = j0 + (j + 1) by omega]

theorem wsumRow_zq (w : ℕ) {β : Type} (ds : List (List ℤ)) (shape : List β) (j0 : ℕ) (h : ds.length = shape.length) :
    KS.wsumRow (0 : Rq q n) (ds.map (zq q n))
        (KS.idxRowFrom (fun _ j => ((2 ^ (w * j) : ℕ) : Rq q n)) 0 j0 shape)
      = ∑ t ∈ range n, ((recombAt w j0 ds t : ℤ) : Rq q n) * (AdjoinRoot.root (X ^ n + 1 : (ZMod q)[X])) ^ t := by
  induction ds generalizing shape j0 with
  | nil =>
    cases shape with
    | nil => simp only [List.map_nil, KS.idxRowFrom, KS.wsumRow, recombAt, Int.cast_zero, zero_mul, sum_const_zero]
    | cons _ _ => cases h
  | cons d ds ih =>
    cases shape with
    | nil => cases h
    | cons _ rest =>
      simp only [List.map_cons, KS.idxRowFrom, KS.wsumRow, recombAt]
      rw [ih rest (j0 + 1) (Nat.succ.inj h), zq, sum_mul, ← sum_add_distrib]
      refine sum_congr rfl fun t _ => ?_
      push_cast
      ring

theorem row_recombine (w : ℕ) {β : Type} (ds : List (List ℤ)) (shape : List β) (hl : ds.length = shape.length)
    (row : List ℕ) (h : ∀ t < n, recombAt w 0 ds t % (q : ℤ) = ((row.getD t 0 : ℕ) : ℤ) % (q : ℤ)) :
    KS.wsumRow (0 : Rq q n) (ds.map (zq q n))
        (KS.idxRowFrom (fun _ j => ((2 ^ (w * j) : ℕ) : Rq q n)) 0 0 shape)
      = toQuot q n row := by
  rw [wsumRow_zq w ds shape 0 hl, toQuot_eq_evalRow]
  unfold evalRow
  refine sum_congr rfl fun t ht => ?_
  rw [intCast_emod_eq natCast_q_Rq (h t (mem_range.1 ht)), Int.cast_natCast]

end zq

section rp
variable {qs : List ℕ} {n : ℕ} [hg : Good qs n]

theorem toProd_ofInts (v : List ℤ) (hv : v.length = n) (k : Fin qs.length) :
    WFPoly.toProd (lift (RPoly.ofInts qs v) (ofInts_wf v hv)) k = zq (qs.get k) n v :=
  toQuot_ofInts_row qs v k k.2 (by rw [List.getD_eq_getElem?_getD, List.getElem?_eq_getElem k.2]; rfl)
    (by have := hg.q_ge _ (List.get_mem qs k); omega)

theorem ofInts_ext (v : List ℤ) (hv : v.length = n) (x : WFPoly qs n)
    (h : ∀ k : Fin qs.length, WFPoly.toProd x k = zq (qs.get k) n v) : RPoly.ofInts qs v = val x := by
  have : lift (RPoly.ofInts qs v) (ofInts_wf v hv) = x :=
    WFPoly.toProd_injective (funext fun k => by rw [toProd_ofInts v hv, h k])
  rw [← this]; rfl

theorem add_length (a b : List ℤ) (ha : a.length = n) (hb : b.length = n) : (ZPoly.add a b).length = n := by
  simp [ZPoly.add, ha, hb]

theorem sub_length (a b : List ℤ) (ha : a.length = n) (hb : b.length = n) : (ZPoly.sub a b).length = n := by
  simp [ZPoly.sub, ha, hb]

theorem mul_length (a b : List ℤ) : (ZPoly.mul a b).length = a.length := by simp [ZPoly.mul]

theorem smul_length (k : ℤ) (a : List ℤ) : (ZPoly.smul k a).length = a.length := by simp [ZPoly.smul]

theorem ofInts_add (a b : List ℤ) (ha : a.length = n) (hb : b.length = n) :
    RPoly.ofInts qs (ZPoly.add a b) = RPoly.ofInts qs a + RPoly.ofInts qs b :=
  ofInts_ext _ (add_length a b ha hb) ((lift (RPoly.ofInts qs a) (ofInts_wf a ha) : WFPoly qs n) + lift (RPoly.ofInts qs b) (ofInts_wf b hb)) (fun k => by
    rw [WFPoly.toProd_add, Pi.add_apply, toProd_ofInts a ha, toProd_ofInts b hb, zq_add a b ha hb])

theorem ofInts_sub (a b : List ℤ) (ha : a.length = n) (hb : b.length = n) :
    RPoly.ofInts qs (ZPoly.sub a b) = RPoly.ofInts qs a - RPoly.ofInts qs b :=
  ofInts_ext _ (sub_length a b ha hb) ((lift (RPoly.ofInts qs a) (ofInts_wf a ha) : WFPoly qs n) - lift (RPoly.ofInts qs b) (ofInts_wf b hb)) (fun k => by
    rw [WFPoly.toProd_sub, Pi.sub_apply, toProd_ofInts a ha, toProd_ofInts b hb, zq_sub a b ha hb])

theorem ofInts_mul (a b : List ℤ) (ha : a.length = n) (hb : b.length = n) :
    RPoly.ofInts qs (ZPoly.mul a b) = RPoly.ofInts qs a * RPoly.ofInts qs b :=
  ofInts_ext _ (by rw [mul_length a b, ha]) ((lift (RPoly.ofInts qs a) (ofInts_wf a ha) : WFPoly qs n) * lift (RPoly.ofInts qs b) (ofInts_wf b hb)) (fun k => by
    rw [WFPoly.toProd_mul, Pi.mul_apply, toProd_ofInts a ha, toProd_ofInts b hb, zq_mul a b ha])

theorem ofInts_zero : RPoly.ofInts qs (ZPoly.zero n) = RPoly.zero qs n :=
  ofInts_ext _ (by simp [ZPoly.zero]) (0 : WFPoly qs n) (fun k => by
    rw [WFPoly.toProd_zero, Pi.zero_apply, zq_zero])

theorem ofInts_smul (k : ℕ) (a : List ℤ) (ha : a.length = n) :
    RPoly.ofInts qs (ZPoly.smul (k : ℤ) a) = constQ qs n k * RPoly.ofInts qs a := by
  rw [constQ_eq]
  exact ofInts_ext _ (by rw [smul_length (k : ℤ) a, ha]) ((WFPoly.constNat (fun _ => k) : WFPoly qs n) * lift (RPoly.ofInts qs a) (ofInts_wf a ha)) (fun i => by
    rw [WFPoly.toProd_mul, Pi.mul_apply, toProd_ofInts a ha, WFPoly.toProd_constNat, zq_smul, Int.cast_natCast])

theorem dotZ_nil_left (es : List (List ℤ)) : dotZ n [] es = ZPoly.zero n := by simp [dotZ, sumZ]
theorem dotZ_nil_right (ds : List (List ℤ)) : dotZ n ds [] = ZPoly.zero n := by simp [dotZ, sumZ]

theorem wsumRow_ofInts : ∀ (ds es : List (List ℤ)), (∀ d ∈ ds, d.length = n) → (∀ e ∈ es, e.length = n) →
    KS.wsumRow (RPoly.zero qs n) (ds.map (RPoly.ofInts qs)) (es.map (RPoly.ofInts qs))
        = RPoly.ofInts qs (dotZ n ds es)
      ∧ (dotZ n ds es).length = n
  | [], es, _, _ => by
    rw [dotZ_nil_left]; exact ⟨by simp [KS.wsumRow, ofInts_zero], by simp [ZPoly.zero]⟩
  | d :: ds, [], _, _ => by
    rw [dotZ_nil_right]; exact ⟨by simp [KS.wsumRow, ofInts_zero], by simp [ZPoly.zero]⟩
  | d :: ds, e :: es, hd, he => by
    obtain ⟨ih1, ih2⟩ := wsumRow_ofInts ds es (fun x hx => hd x (by simp [hx])) (fun x hx => he x (by simp [hx]))
    have hdl := hd d (by simp)
    have hel := he e (by simp)
    rw [dotZ_cons]
    refine ⟨?_, add_length _ _ (by rw [mul_length d e, hdl]) ih2⟩
    simp only [List.map_cons, KS.wsumRow]
    rw [ih1, ofInts_add _ _ (by rw [mul_length d e, hdl]) ih2, ofInts_mul d e hdl hel]

theorem dotMatZ_nil_left (es : List (List (List ℤ))) : dotMatZ n [] es = ZPoly.zero n := by simp [dotMatZ, sumZ]
theorem dotMatZ_nil_right (ds : List (List (List ℤ))) : dotMatZ n ds [] = ZPoly.zero n := by simp [dotMatZ, sumZ]

theorem wsumMat_ofInts : ∀ (ds es : List (List (List ℤ))), (∀ r ∈ ds, ∀ d ∈ r, d.length = n) →
    (∀ r ∈ es, ∀ e ∈ r, e.length = n) →
    KS.wsumMat (RPoly.zero qs n) (ds.map (List.map (RPoly.ofInts qs))) (es.map (List.map (RPoly.ofInts qs)))
        = RPoly.ofInts qs (dotMatZ n ds es)
      ∧ (dotMatZ n ds es).length = n
  | [], es, _, _ => by
    rw [dotMatZ_nil_left]; exact ⟨by simp [KS.wsumMat, ofInts_zero], by simp [ZPoly.zero]⟩
  | d :: ds, [], _, _ => by
    rw [dotMatZ_nil_right]; exact ⟨by simp [KS.wsumMat, ofInts_zero], by simp [ZPoly.zero]⟩
  | d :: ds, e :: es, hd, he => by
    obtain ⟨ih1, ih2⟩ := wsumMat_ofInts ds es (fun x hx => hd x (by simp [hx])) (fun x hx => he x (by simp [hx]))
    obtain ⟨hr1, hr2⟩ := wsumRow_ofInts (qs := qs) d e (hd d (by simp)) (he e (by simp))
    rw [dotMatZ_cons]
    refine ⟨?_, add_length _ _ hr2 ih2⟩
    simp only [List.map_cons, KS.wsumMat]
    rw [ih1, hr1, ofInts_add _ _ hr2 ih2]

end rp

end Lattigo.StackKS
