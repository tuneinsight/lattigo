/-
  C09 — lemmas about the `Store` model: evaluation of `run`, and the frame of a program read off its syntax
  (`Prog.writesWithin`).
-/
import Lattigo.Model.Store
import Lattigo.Proofs.StoreAttr

namespace Lattigo.Store

variable {α : Type}

@[simp] theorem Store.set_get (σ : Store α) (l : Loc) (v : α) (x : Loc) :
    (σ.set l v).get x = if x = l then v else σ.get x := rfl

@[simp] theorem run_nil (I : Interp α) (σ : Store α) : run I [] σ = σ := rfl

@[simp] theorem run_cons (I : Interp α) (s : Step) (p : Prog) (σ : Store α) :
    run I (s :: p) σ = run I p (s.exec I σ) := rfl

theorem run_append (I : Interp α) (p q : Prog) (σ : Store α) :
    run I (p ++ q) σ = run I q (run I p σ) := by
  simp [run, List.foldl_append]

theorem run_frame (I : Interp α) : ∀ (p : Prog) (σ : Store α) (l : Loc),
    (∀ s ∈ p, s.dst ≠ l) → (run I p σ).get l = σ.get l
  | [], _, _, _ => rfl
  | s :: p, σ, l, h => by
    rw [run_cons, run_frame I p _ l (fun t ht => h t (List.mem_cons_of_mem _ ht))]
    have : l ≠ s.dst := fun e => h s (List.mem_cons_self ..) e.symm
    simp [Step.exec, this]

/-- every step writes into one of the listed objects (decidable on the syntax) -/
def Prog.writesWithin (objs : List Nat) (p : Prog) : Bool := p.all fun s => objs.contains s.dst.obj

theorem writesWithin_iff (objs : List Nat) (p : Prog) :
    p.writesWithin objs = true ↔ ∀ s ∈ p, s.dst.obj ∈ objs := by
  simp [Prog.writesWithin]

theorem writesWithin_frame (I : Interp α) (p : Prog) (objs : List Nat) (h : p.writesWithin objs = true)
    (σ : Store α) (x : Loc) (hx : x.obj ∉ objs) : run I p σ x = σ x :=
  run_frame I p σ x fun s hs e => hx (e ▸ (writesWithin_iff objs p).1 h s hs)

theorem writesWithin_mono {objs objs' : List Nat} (hsub : ∀ o ∈ objs, o ∈ objs') {p : Prog}
    (h : p.writesWithin objs = true) : p.writesWithin objs' = true :=
  (writesWithin_iff objs' p).2 fun s hs => hsub _ ((writesWithin_iff objs p).1 h s hs)

/-- the buffers of the evaluators, of the encryptor, of the decryptor and of the key-generation protocol -/
def scratchObjs : List Nat := [bq, bqp, bct, bqm, heapTmp, encBuf, decBuf, protoBuf]

theorem isScratch_eq (o : Nat) : isScratch o = scratchObjs.contains o := by
  simp only [isScratch, scratchObjs, heapTmp, List.contains_cons, List.contains_nil, Bool.or_false, Bool.or_assoc]

theorem bq_mem_scratchObjs : bq ∈ scratchObjs := by decide
theorem bqp_mem_scratchObjs : bqp ∈ scratchObjs := by decide
theorem bct_mem_scratchObjs : bct ∈ scratchObjs := by decide

theorem fromTo_eq_range' : ∀ (cnt lo : Nat), fromTo lo cnt = List.range' lo cnt
  | 0, _ => rfl
  | cnt + 1, lo => by rw [fromTo, fromTo_eq_range' cnt, List.range'_succ]

theorem mem_fromTo {lo cnt i : Nat} : i ∈ fromTo lo cnt ↔ lo ≤ i ∧ i < lo + cnt := by
  rw [fromTo_eq_range', List.mem_range'_1]

/-! `Prog.writesWithin` follows the way the programs of the model are put together (`++`, `if`, a `map` or `flatMap`
    over indices); `simp only [store_writes]` computes it for a program text, deciding membership of a buffer in a
    literal list by `decide := true`. -/

@[store_writes] theorem writesWithin_nil (objs : List Nat) : Prog.writesWithin objs [] = true := rfl

@[store_writes] theorem writesWithin_cons (objs : List Nat) (s : Step) (p : Prog) :
    Prog.writesWithin objs (s :: p) = (objs.contains s.dst.obj && p.writesWithin objs) := rfl

@[store_writes] theorem writesWithin_append (objs : List Nat) (p q : Prog) :
    (p ++ q).writesWithin objs = (p.writesWithin objs && q.writesWithin objs) := by
  simp [Prog.writesWithin, List.all_append]

@[store_writes] theorem writesWithin_ite (objs : List Nat) (c : Prop) [Decidable c] (p q : Prog) :
    (if c then p else q).writesWithin objs = if c then p.writesWithin objs else q.writesWithin objs := by
  split <;> rfl

theorem writesWithin_map (objs : List Nat) (l : List Nat) (f : Nat → Step) (h : ∀ i, (f i).dst.obj ∈ objs) :
    Prog.writesWithin objs (l.map f) = true :=
  (writesWithin_iff _ _).2 fun s hs => by
    obtain ⟨i, _, rfl⟩ := List.mem_map.1 hs
    exact h i

theorem writesWithin_flatMap (objs : List Nat) (l : List Nat) (f : Nat → Prog)
    (h : ∀ i, (f i).writesWithin objs = true) : Prog.writesWithin objs (l.flatMap f) = true :=
  (writesWithin_iff _ _).2 fun s hs => by
    obtain ⟨i, _, hi⟩ := List.mem_flatMap.1 hs
    exact (writesWithin_iff _ _).1 (h i) s hi

@[store_writes] theorem contains_head (o : Nat) (l : List Nat) : (o :: l).contains o = true := by simp

@[store_writes] theorem contains_tail (o x : Nat) (l : List Nat) (h : l.contains x = true) :
    (o :: l).contains x = true := by
  simp only [List.contains_cons, h, Bool.or_true]

attribute [store_writes] st L Bool.and_true Bool.and_self ite_self if_true if_false Bool.false_eq_true eq_self

end Lattigo.Store
