import Lean

/-- lemmas that compute `Prog.writesWithin` along the constructions the programs of the Store model are made of -/
register_simp_attr store_writes
