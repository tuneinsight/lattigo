/-
  C09 — degrees in the pointer-branching routines (`ckksAddProg`, `tensorGenD` of Model/Store.lean): alias soundness
  for every aliasing pattern, every degree of the operands and every previous degree of the receiver.  What a program
  writes is read off its syntax.  ckks.Add/Sub (`ckksAdd_sound`): every degree below `fScale` and every assignment of
  objects to the roles, phase by phase — `Resize`, scale alignment, the rest — with one lemma (`run_seg`) for a segment
  that treats the polynomials of a range alike.  The products (`tensorGenD_eq`: the routine by its guards): 1 ⊗ 1 from
  the degree-1 theorems of StoreOps; "Plaintext (x) Ciphertext" (`tensorPT_run`) for every assignment of objects to the
  roles and every previous degree of the receiver, by the same lemma.  The
  arithmetic stays uninterpreted (`Interp`); the laws used (`ScaleLaws`, `DegLaws`, `TensorLaws`) are hypotheses.
-/
import Lattigo.Proofs.StoreOps

namespace Lattigo.Store

variable {α : Type}


def evOf (sub : Bool) : Fn := if sub then .evs else .ev
def post (I : Interp α) (sub : Bool) (x : α) : α := if sub then I.fn .neg [x] else x

structure DegLaws (I : Interp α) (sub : Bool) : Prop where
  copyId : ∀ x, I.fn .copy [x] = x
  scalZero : ∀ r, I.fn .scal [r, I.fn .zero []] = I.fn .zero []
  evZeroR : ∀ x, I.fn (evOf sub) [x, I.fn .zero []] = x
  evZeroL : ∀ x, I.fn (evOf sub) [I.fn .zero [], x] = post I sub x

/-- component `i` of ckks.Add / ckks.Sub of operands of degree `d0`, `d1` -/
def ckksAddF (I : Interp α) (sub : Bool) (c : Ordering) (sa sb : α) (d0 d1 : Nat) (a b : Nat → α) (i : Nat) : α :=
  let sA := match c with | .lt => I.fn .scal [I.fn .ratio [sb, sa], a i] | _ => a i
  let sB := match c with | .gt => I.fn .scal [I.fn .ratio [sa, sb], b i] | _ => b i
  if i ≤ min d0 d1 then I.fn (evOf sub) [sA, sB]
  else if i ≤ d0 then sA
  else post I sub sB

theorem resizeSteps_writes (o d degree : Nat) (objs : List Nat) (ho : o ∈ objs) :
    Prog.writesWithin objs (resizeSteps o d degree) = true :=
  writesWithin_map objs _ _ fun _ => ho

theorem resizeSteps_dst {o d degree : Nat} {s : Step} (h : s ∈ resizeSteps o d degree) :
    s.dst.obj = o ∧ d < s.dst.fld ∧ s.dst.fld ≤ degree := by
  obtain ⟨i, hi, rfl⟩ := List.mem_map.1 h
  have := mem_fromTo.1 hi
  exact ⟨rfl, by simp only [st, L]; omega, by simp only [st, L]; omega⟩

theorem ckksScaleInto_writes (src dst d : Nat) (b : Bool) (objs : List Nat) (hd : dst ∈ objs) :
    Prog.writesWithin objs (ckksScaleInto src dst d b) = true := by
  have hc : objs.contains dst = true := by simpa using hd
  cases b <;> simp only [ckksScaleInto, store_writes, writesWithin_map, hd, hc, implies_true]

theorem ckksAlign_writes (p : Pat) (d0 d1 : Nat) (cmp : Ordering) (objs : List Nat) (ho : p.out ∈ objs)
    (hb : bct ∈ objs) : Prog.writesWithin objs (ckksAlign p d0 d1 cmp).1 = true := by
  obtain ⟨a, b, o⟩ := p
  have hco : objs.contains o = true := by simpa using ho
  have hcb : objs.contains bct = true := by simpa using hb
  simp only [ckksAlign]
  by_cases ha : o = a
  · subst ha
    cases cmp <;> simp only [store_writes, ckksScaleInto_writes _ _ _ _ _ hb, ckksScaleInto_writes _ _ _ _ _ ho, hco, hcb]
  · by_cases hb' : o = b
    · subst hb'
      cases cmp <;> simp only [store_writes, if_neg ha, ckksScaleInto_writes _ _ _ _ _ hb,
        ckksScaleInto_writes _ _ _ _ _ ho, hco, hcb]
    · cases cmp <;> simp only [store_writes, if_neg ha, if_neg hb', ckksScaleInto_writes _ _ _ _ _ hb, hcb]

theorem ckksAddProg_writes (sub : Bool) (p : Pat) (deg : Nat → Nat) (cmp : Ordering) (objs : List Nat)
    (ho : p.out ∈ objs) (hb : bct ∈ objs) : Prog.writesWithin objs (ckksAddProg sub p deg cmp) = true := by
  have hco : objs.contains p.out = true := by simpa using ho
  simp only [ckksAddProg, store_writes, resizeSteps_writes _ _ _ _ ho, ckksAlign_writes _ _ _ _ _ ho hb, hco,
    writesWithin_map, ho, implies_true]

/-- one step per index of a range, step `i` writing polynomial `i` of object `d`, none reading what an earlier one
    wrote: every polynomial of the range is computed from the store before the segment.  The users take
    `bound = fScale`: fields `0 … fScale - 1` of an object are its polynomials, field `fScale` its scale, so a degree below
    `fScale` (their hypotheses `d < fScale`) keeps a segment off the scale -/
theorem run_seg (I : Interp α) (d bound : Nat) (g : Nat → Step) (hd : ∀ i, (g i).dst = L d i)
    (hargs : ∀ i j, i < j → j < bound → L d i ∉ (g j).args) :
    ∀ (cnt lo : Nat), lo + cnt ≤ bound → ∀ (σ : Store α) (x : Loc),
      run I ((fromTo lo cnt).map g) σ x =
        if x.obj = d ∧ lo ≤ x.fld ∧ x.fld < lo + cnt then I.fn (g x.fld).fn ((g x.fld).args.map σ) else σ x
  | 0, lo, _, σ, x => by
    rw [if_neg (by omega)]; rfl
  | cnt + 1, lo, h, σ, x => by
    rw [fromTo, List.map_cons, run_cons, run_seg I d bound g hd hargs cnt (lo + 1) (by omega)]
    have hex : ∀ y, y ≠ L d lo → ((g lo).exec I σ) y = σ y := fun y hy => by
      simp only [Step.exec, Store.set_get, hd, if_neg hy]
    by_cases hx : x.obj = d ∧ lo + 1 ≤ x.fld ∧ x.fld < lo + 1 + cnt
    · rw [if_pos hx, if_pos ⟨hx.1, by omega, by omega⟩]
      congr 1
      exact List.map_congr_left fun y hy => hex y fun e => hargs lo x.fld (by omega) (by omega) (e ▸ hy)
    · rw [if_neg hx]
      by_cases hx0 : x = L d lo
      · subst hx0
        rw [if_pos ⟨rfl, Nat.le_refl _, by simp only [L]; omega⟩]
        simp only [Step.exec, Store.set_get, hd, if_true, L]
      · rw [hex x hx0, if_neg]
        rintro ⟨h1, h2, h3⟩
        rcases Nat.eq_or_lt_of_le h2 with e | e
        · exact hx0 (by cases x; simp only [L] at h1 e ⊢; rw [h1, e])
        · exact hx ⟨h1, e, by omega⟩

theorem run_scaleInto (I : Interp α) (src dst d : Nat) (ws : Bool) (hd : d < fScale) (τ : Store α) (x : Loc) :
    run I (ckksScaleInto src dst d ws) τ x =
      if x.obj = dst ∧ x.fld ≤ d then I.fn .scal [τ (L bct fScale), τ (L src x.fld)]
      else if ws = true ∧ x = L dst fScale then I.fn .copy [τ (L src fScale)] else τ x := by
  have hseg := run_seg I dst fScale (fun i => st (L dst i) .scal [L bct fScale, L src i]) (fun _ => rfl)
    (fun i j hij hj => by
      simp only [st, L, fScale, List.mem_cons, Loc.mk.injEq, List.not_mem_nil, or_false] at hj ⊢
      omega)
    (d + 1) 0 (by omega) τ
  simp only [Nat.zero_le, true_and, Nat.zero_add, Nat.lt_succ_iff, st, List.map] at hseg
  rw [ckksScaleInto, run_append]
  cases ws
  · simp only [Bool.false_eq_true, if_false, run_nil, false_and, st, hseg]
  · simp only [if_true, run_cons, run_nil, Step.exec, Store.set_get, true_and, st, List.map, hseg]
    have h8 : ¬((L src fScale).obj = dst ∧ (L src fScale).fld ≤ d) := by simp only [L, fScale] at hd ⊢; omega
    rw [if_neg h8]
    by_cases hx : x.obj = dst ∧ x.fld ≤ d
    · rw [if_pos hx, if_pos hx, if_neg]
      rintro rfl; simp only [L, fScale] at hx hd; omega
    · rw [if_neg hx, if_neg hx]

theorem run_seg_unary (I : Interp α) (fn : Fn) (o t lo cnt : Nat) (h : lo + cnt ≤ fScale) (ρ : Store α) (x : Loc) :
    run I ((fromTo lo cnt).map fun i => st (L o i) fn [L t i]) ρ x =
      if x.obj = o ∧ lo ≤ x.fld ∧ x.fld < lo + cnt then I.fn fn [ρ (L t x.fld)] else ρ x :=
  run_seg I o fScale (fun i => st (L o i) fn [L t i]) (fun _ => rfl)
    (fun i j hij _ => by
      simp only [st, L, List.mem_cons, Loc.mk.injEq, List.not_mem_nil, or_false]
      omega) cnt lo h ρ x

theorem run_scaleToBuf (I : Interp α) (hi lo src d : Nat) (hd : d < fScale) (τ : Store α) :
    let τ' := run I ([st (L bct fScale) .ratio [L hi fScale, L lo fScale]] ++ ckksScaleInto src bct d false) τ
    (∀ i, i ≤ d → τ' (L bct i) = I.fn .scal [I.fn .ratio [τ (L hi fScale), τ (L lo fScale)], τ (L src i)]) ∧
    ∀ x : Loc, x.obj ≠ bct → τ' x = τ x := by
  simp only [run_append, run_cons, run_nil, run_scaleInto I _ _ _ _ hd, Step.exec, Store.set_get, st, List.map,
    Bool.false_eq_true, false_and, if_false]
  refine ⟨fun i hi' => ?_, fun x hx => ?_⟩
  · have : (L src i : Loc) ≠ L bct fScale := by simp only [L, fScale, ne_eq, Loc.mk.injEq] at hd ⊢; omega
    simp only [L] at this ⊢
    simp only [true_and, hi', if_true, this, if_false]
  · have : x ≠ L bct fScale := fun e => hx (e ▸ rfl)
    rw [if_neg (fun h => hx h.1), if_neg this]

theorem run_scaleInPlace (I : Interp α) (hi lo src oth d : Nat) (hd : d < fScale) (ho : oth ≠ bct)
    (hso : oth ≠ src) (τ : Store α) :
    let τ' := run I ([st (L bct fScale) .ratio [L hi fScale, L lo fScale]] ++ ckksScaleInto src src d true ++
      [st (L src fScale) .copy [L oth fScale]]) τ
    (∀ i, i ≤ d → τ' (L src i) = I.fn .scal [I.fn .ratio [τ (L hi fScale), τ (L lo fScale)], τ (L src i)]) ∧
    τ' (L src fScale) = I.fn .copy [τ (L oth fScale)] ∧
    ∀ x : Loc, x.obj ≠ src → x.obj ≠ bct → τ' x = τ x := by
  simp only [run_append, run_cons, run_nil, run_scaleInto I _ _ _ _ hd, Step.exec, Store.set_get, st, List.map,
    true_and]
  refine ⟨fun i hi' => ?_, ?_, fun x hx hx' => ?_⟩
  · have h1 : (L src i : Loc) ≠ L src fScale := by simp only [L, fScale, ne_eq, Loc.mk.injEq] at hd ⊢; omega
    have h2 : (L src i : Loc) ≠ L bct fScale := by simp only [L, fScale, ne_eq, Loc.mk.injEq] at hd ⊢; omega
    simp only [L] at h1 h2 ⊢
    simp only [true_and, hi', if_true, h1, h2, if_false]
  · have h1 : ¬(fScale ≤ d) := by omega
    have h2 : (L oth fScale : Loc) ≠ L src fScale := by simp only [L, ne_eq, Loc.mk.injEq, and_true]; exact hso
    have h3 : (L oth fScale : Loc) ≠ L bct fScale := by simp only [L, ne_eq, Loc.mk.injEq, and_true]; exact ho
    simp only [L] at h2 h3 ⊢
    simp only [if_true, h1, h2, h3, hso, if_false, and_false]
  · have h1 : x ≠ L src fScale := fun e => hx (e ▸ rfl)
    have h2 : x ≠ L bct fScale := fun e => hx' (e ▸ rfl)
    simp only [hx, h1, h2, false_and, if_false]

/-- an operand after the scale alignment -/
def scaledA (I : Interp α) (c : Ordering) (sa sb x : α) : α :=
  match c with | .lt => I.fn .scal [I.fn .ratio [sb, sa], x] | _ => x
def scaledB (I : Interp α) (c : Ordering) (sa sb x : α) : α :=
  match c with | .gt => I.fn .scal [I.fn .ratio [sa, sb], x] | _ => x

/-- the scale alignment of `evaluateInPlace`.  Third part: an operand rescaled in place has taken the scale of the other,
    so the maximum of the scales of `op0`, `op1` is still that of the two original scales -/
theorem ckksAlign_run (I : Interp α) (hS : ScaleLaws I) (p : Pat) (ha : p.op0 ≠ bct) (hb : p.op1 ≠ bct)
    (ho : p.out ≠ bct) (d0 d1 : Nat) (h0 : d0 < fScale) (h1 : d1 < fScale) (τ : Store α) :
    let sa := τ (L p.op0 fScale); let sb := τ (L p.op1 fScale); let c := I.cmp sa sb
    let al := ckksAlign p d0 d1 c
    let τ' := run I al.1 τ
    (∀ i, i ≤ d0 → τ' (L al.2.1 i) = scaledA I c sa sb (τ (L p.op0 i))) ∧
    (∀ i, i ≤ d1 → τ' (L al.2.2 i) = scaledB I c sa sb (τ (L p.op1 i))) ∧
    I.fn .smax [τ' (L p.op0 fScale), τ' (L p.op1 fScale)] = I.fn .smax [sa, sb] := by
  obtain ⟨a, b, o⟩ := p
  dsimp only at ha hb ho ⊢
  have hab : I.cmp (τ (L a fScale)) (τ (L b fScale)) ≠ .eq → b ≠ a := fun hne e => hne (e ▸ hS.cmpRefl _)
  rcases hc : I.cmp (τ (L a fScale)) (τ (L b fScale)) with _ | _ | _ <;> rw [hc] at hab
  · -- op1 has the larger scale: op0 is rescaled, in place when it is the receiver
    have hba := hab (by decide)
    by_cases hoa : o = a
    · subst hoa
      obtain ⟨e1, e2, e3⟩ := run_scaleInPlace I b o o b d0 h0 hb hba τ
      simp only [ckksAlign, if_true, scaledA, scaledB]
      refine ⟨e1, fun i _ => e3 _ hba hb, ?_⟩
      rw [e2, e3 _ hba hb, hS.copyId, hS.maxIdem, hS.maxLt _ _ hc]
    · obtain ⟨e1, e2⟩ := run_scaleToBuf I b a a d0 h0 τ
      have : ckksAlign ⟨a, b, o⟩ d0 d1 .lt =
          ([st (L bct fScale) .ratio [L b fScale, L a fScale]] ++ ckksScaleInto a bct d0 false, bct, b) := by
        simp only [ckksAlign, if_neg hoa, ite_self]
      simp only [this, scaledA, scaledB]
      exact ⟨e1, fun i _ => e2 _ hb, by rw [e2 _ ha, e2 _ hb]⟩
  · simp only [ckksAlign, ite_self, run_nil, scaledA, scaledB, implies_true, and_self]
  · -- op0 has the larger scale: op1 is rescaled, in place when it is the receiver (and op0 is not)
    have hba := hab (by decide)
    by_cases hoa : o = a
    · subst hoa
      obtain ⟨e1, e2⟩ := run_scaleToBuf I o b b d1 h1 τ
      simp only [ckksAlign, if_true, scaledA, scaledB]
      exact ⟨fun i _ => e2 _ ha, e1, by rw [e2 _ ha, e2 _ hb]⟩
    · by_cases hob : o = b
      · subst hob
        obtain ⟨e1, e2, e3⟩ := run_scaleInPlace I a o o a d1 h1 ha (Ne.symm hba) τ
        simp only [ckksAlign, if_neg hoa, if_true, scaledA, scaledB]
        refine ⟨fun i _ => e3 _ (Ne.symm hba) ha, e1, ?_⟩
        rw [e2, e3 _ (Ne.symm hba) ha, hS.copyId, hS.maxIdem, hS.maxGt _ _ hc]
      · obtain ⟨e1, e2⟩ := run_scaleToBuf I a b b d1 h1 τ
        simp only [ckksAlign, if_neg hoa, if_neg hob, scaledA, scaledB]
        exact ⟨fun i _ => e2 _ ha, e1, by rw [e2 _ ha, e2 _ hb]⟩

/-- the end of ckks.Add/Sub (evaluator.go:417-431): the higher polynomials of the longer operand are copied, and
    negated for Sub when they are `t1`'s -/
def ckksHigh (sub : Bool) (o t0 t1 d0 d1 : Nat) : Prog :=
  (if d0 > d1 ∧ t0 ≠ o then (fromTo (min d0 d1 + 1) (d0 - min d0 d1)).map fun i => st (L o i) .copy [L t0 i]
   else if d1 > d0 then (fromTo (min d0 d1 + 1) (d1 - min d0 d1)).map fun i => st (L o i) .copy [L t1 i]
   else []) ++
  (if sub ∧ d0 < d1 then (fromTo (d0 + 1) (d1 - d0)).map fun i => st (L o i) .neg [L o i] else [])

/-- also when the longer operand is the receiver itself, where the code copies nothing -/
theorem ckksHigh_run (I : Interp α) (sub : Bool) (hcopy : ∀ x, I.fn .copy [x] = x) (o t0 t1 d0 d1 : Nat)
    (h0 : d0 < fScale) (h1 : d1 < fScale) (ρ : Store α) (x : Loc) :
    run I (ckksHigh sub o t0 t1 d0 d1) ρ x =
      if x.obj = o ∧ min d0 d1 < x.fld ∧ x.fld ≤ max d0 d1 then
        if d1 < d0 then ρ (L t0 x.fld) else post I sub (ρ (L t1 x.fld))
      else ρ x := by
  have hx : x.obj = o → x = L o x.fld := fun e => by cases x; cases e; rfl
  rw [ckksHigh, run_append]
  rcases Nat.lt_trichotomy d0 d1 with hlt | heq | hgt
  · -- `t1` is longer
    rw [if_neg (by omega : ¬(d0 > d1 ∧ t0 ≠ o)), if_pos hlt, Nat.min_eq_left (Nat.le_of_lt hlt),
      Nat.max_eq_right (Nat.le_of_lt hlt), if_neg (by omega : ¬d1 < d0)]
    have hC := run_seg_unary I .copy o t1 (d0 + 1) (d1 - d0) (by omega) ρ
    cases sub
    · rw [if_neg (by simp), run_nil, hC, hcopy]
      by_cases c : x.obj = o ∧ d0 < x.fld ∧ x.fld ≤ d1
      · rw [if_pos c, if_pos ⟨c.1, by omega, by omega⟩]; rfl
      · rw [if_neg c, if_neg (fun c' => c ⟨c'.1, by omega, by omega⟩)]
    · rw [if_pos ⟨rfl, hlt⟩, run_seg_unary I .neg o o (d0 + 1) (d1 - d0) (by omega)]
      by_cases c : x.obj = o ∧ d0 < x.fld ∧ x.fld ≤ d1
      · rw [if_pos c, if_pos ⟨c.1, by omega, by omega⟩, hC, if_pos ⟨rfl, by simp only [L]; omega, by simp only [L]; omega⟩,
          hcopy]; rfl
      · rw [if_neg c, if_neg (fun c' => c ⟨c'.1, by omega, by omega⟩), hC, hcopy,
          if_neg (fun c' => c ⟨c'.1, by omega, by omega⟩)]
  · -- equal degrees: nothing to do
    subst heq
    rw [if_neg (by omega), if_neg (by omega), if_neg (by omega), run_nil, run_nil, if_neg (by omega)]
  · -- `t0` is longer: copied, unless it is the receiver
    rw [if_neg (by omega : ¬(sub = true ∧ d0 < d1)), run_nil, Nat.min_eq_right (Nat.le_of_lt hgt),
      Nat.max_eq_left (Nat.le_of_lt hgt), if_pos hgt]
    by_cases ht : t0 = o
    · subst ht
      rw [if_neg (by simp), if_neg (by omega), run_nil]
      by_cases c : x.obj = t0 ∧ d1 < x.fld ∧ x.fld ≤ d0
      · rw [if_pos c, ← hx c.1]
      · rw [if_neg c]
    · rw [if_pos ⟨hgt, ht⟩, run_seg_unary I .copy o t0 (d1 + 1) (d0 - d1) (by omega), hcopy]
      by_cases c : x.obj = o ∧ d1 < x.fld ∧ x.fld ≤ d0
      · rw [if_pos c, if_pos ⟨c.1, by omega, by omega⟩]
      · rw [if_neg c, if_neg (fun c' => c ⟨c'.1, by omega, by omega⟩)]

/-- the part of ckks.Add/Sub after the scale alignment (evaluator.go:400-431), for operands `t0`, `t1` of degrees
    `d0`, `d1`: `evaluate` on the common polynomials, the scale, the higher polynomials -/
def ckksTail (sub : Bool) (o t0 t1 a b d0 d1 : Nat) : Prog :=
  (fromTo 0 (min d0 d1 + 1)).map (fun i => st (L o i) (evOf sub) [L t0 i, L t1 i]) ++
  [st (L o fScale) .smax [L a fScale, L b fScale]] ++ ckksHigh sub o t0 t1 d0 d1

theorem ckksAddProg_eq (sub : Bool) (p : Pat) (deg : Nat → Nat) (c : Ordering) :
    ckksAddProg sub p deg c =
      let D := max (deg p.op0) (deg p.op1)
      let d0 := setDeg deg p.out D p.op0
      let d1 := setDeg deg p.out D p.op1
      let al := ckksAlign p d0 d1 c
      resizeSteps p.out (deg p.out) D ++ (al.1 ++ ckksTail sub p.out al.2.1 al.2.2 p.op0 p.op1 d0 d1) := by
  simp only [ckksAddProg, ckksTail, ckksHigh, evOf, List.append_assoc]

theorem ckksTail_run (I : Interp α) (sub : Bool) (hcopy : ∀ x, I.fn .copy [x] = x) (o t0 t1 a b d0 d1 : Nat)
    (h0 : d0 < fScale) (h1 : d1 < fScale) (ρ : Store α) :
    (∀ i, i ≤ max d0 d1 → run I (ckksTail sub o t0 t1 a b d0 d1) ρ (L o i) =
      if i ≤ min d0 d1 then I.fn (evOf sub) [ρ (L t0 i), ρ (L t1 i)]
      else if i ≤ d0 then ρ (L t0 i) else post I sub (ρ (L t1 i))) ∧
    run I (ckksTail sub o t0 t1 a b d0 d1) ρ (L o fScale) = I.fn .smax [ρ (L a fScale), ρ (L b fScale)] := by
  -- `evaluate` on the common polynomials, then the scale: below `fScale` only the former shows
  have hE : ∀ y : Loc, run I ((fromTo 0 (min d0 d1 + 1)).map fun i => st (L o i) (evOf sub) [L t0 i, L t1 i]) ρ y =
      if y.obj = o ∧ y.fld ≤ min d0 d1 then I.fn (evOf sub) [ρ (L t0 y.fld), ρ (L t1 y.fld)] else ρ y := by
    intro y
    have := run_seg I o fScale (fun i => st (L o i) (evOf sub) [L t0 i, L t1 i]) (fun _ => rfl)
      (fun i j hij _ => by
        simp only [st, L, List.mem_cons, Loc.mk.injEq, List.not_mem_nil, or_false]
        omega) (min d0 d1 + 1) 0 (by omega) ρ y
    simpa only [Nat.zero_le, true_and, Nat.zero_add, Nat.lt_succ_iff, st, List.map] using this
  have hES : ∀ y : Loc, y.fld < fScale → run I ((fromTo 0 (min d0 d1 + 1)).map (fun i =>
      st (L o i) (evOf sub) [L t0 i, L t1 i]) ++ [st (L o fScale) .smax [L a fScale, L b fScale]]) ρ y =
      if y.obj = o ∧ y.fld ≤ min d0 d1 then I.fn (evOf sub) [ρ (L t0 y.fld), ρ (L t1 y.fld)] else ρ y := by
    intro y hy
    have : y ≠ L o fScale := fun e => by rw [e] at hy; exact Nat.lt_irrefl _ hy
    rw [run_append, run_cons, run_nil]
    show (if y = L o fScale then _ else _) = _
    rw [if_neg this, hE]
  refine ⟨fun i hi => ?_, ?_⟩
  · have hi8 : i < fScale := by omega
    rw [ckksTail, run_append, ckksHigh_run I sub hcopy _ _ _ _ _ h0 h1]
    by_cases c1 : i ≤ min d0 d1
    · rw [if_neg (fun c => by simp only [L] at c; omega), hES _ hi8, if_pos ⟨rfl, c1⟩, if_pos c1]; rfl
    · rw [if_pos ⟨rfl, by simp only [L]; omega, hi⟩, if_neg c1]
      by_cases c2 : d1 < d0
      · rw [if_pos c2, hES _ hi8, if_neg (fun c => c1 c.2), if_pos (by omega)]; rfl
      · rw [if_neg c2, hES _ hi8, if_neg (fun c => c1 c.2), if_neg (by omega)]; rfl
  · rw [ckksTail, run_append, ckksHigh_run I sub hcopy _ _ _ _ _ h0 h1,
      if_neg (fun c => by simp only [L] at c; omega), run_append, run_cons, run_nil]
    show (if L o fScale = L o fScale then I.fn .smax [_, _] else _) = _
    rw [if_pos rfl, hE, hE, if_neg (fun c => by simp only [L] at c; omega),
      if_neg (fun c => by simp only [L] at c; omega)]

theorem ckksAddF_eq (I : Interp α) (sub : Bool) (c : Ordering) (sa sb : α) (d0 d1 : Nat) (a b : Nat → α) (i : Nat) :
    ckksAddF I sub c sa sb d0 d1 a b i =
      if i ≤ min d0 d1 then I.fn (evOf sub) [scaledA I c sa sb (a i), scaledB I c sa sb (b i)]
      else if i ≤ d0 then scaledA I c sa sb (a i) else post I sub (scaledB I c sa sb (b i)) := by
  cases c <;> rfl

/-- an operand that is the receiver has been extended by zero polynomials (`Resize`) before it is read: under the
    laws of `DegLaws` the closed form is that of the operands as they were -/
theorem ckksAddF_zeroExt (I : Interp α) (sub : Bool) (hD : DegLaws I sub) (c : Ordering) (sa sb : α)
    (da db d0 d1 : Nat) (a b a' b' : Nat → α) (h0 : da ≤ d0) (h0' : d0 ≤ max da db) (h1 : db ≤ d1)
    (h1' : d1 ≤ max da db) (ha : ∀ i, i ≤ da → a' i = a i) (ha0 : ∀ i, da < i → i ≤ d0 → a' i = I.fn .zero [])
    (hb : ∀ i, i ≤ db → b' i = b i) (hb0 : ∀ i, db < i → i ≤ d1 → b' i = I.fn .zero []) (i : Nat)
    (hi : i ≤ max da db) :
    ckksAddF I sub c sa sb d0 d1 a' b' i = ckksAddF I sub c sa sb da db a b i := by
  have zA : scaledA I c sa sb (I.fn .zero []) = I.fn .zero [] := by cases c <;> simp only [scaledA, hD.scalZero]
  have zB : scaledB I c sa sb (I.fn .zero []) = I.fn .zero [] := by cases c <;> simp only [scaledB, hD.scalZero]
  rw [ckksAddF_eq, ckksAddF_eq]
  rcases Nat.le_total da db with hle | hle
  · by_cases c1 : i ≤ da
    · rw [if_pos (by omega), if_pos (by omega), ha i c1, hb i (by omega)]
    · by_cases c2 : i ≤ d0
      · rw [if_pos (by omega), if_neg (by omega), if_neg c1, ha0 i (by omega) c2, hb i (by omega), zA, hD.evZeroL]
      · rw [if_neg (by omega), if_neg c2, if_neg (by omega), if_neg c1, hb i (by omega)]
  · by_cases c1 : i ≤ db
    · rw [if_pos (by omega), if_pos (by omega), ha i (by omega), hb i c1]
    · by_cases c2 : i ≤ d1
      · rw [if_pos (by omega), if_neg (by omega), if_pos (by omega), ha i (by omega), hb0 i (by omega) c2, zB,
          hD.evZeroR]
      · rw [if_neg (by omega), if_pos (by omega), if_neg (by omega), if_pos (by omega), ha i (by omega)]

theorem ckksAdd_sound (I : Interp α) (sub : Bool) (hS : ScaleLaws I) (hD : DegLaws I sub) (p : Pat)
    (ha : p.op0 ≠ bct) (hb : p.op1 ≠ bct) (ho : p.out ≠ bct) (deg : Nat → Nat) (hdeg : ∀ o, deg o < fScale)
    (σ : Store α) :
    let sa := σ (L p.op0 fScale); let sb := σ (L p.op1 fScale)
    let c := I.cmp sa sb
    let σ' := run I (ckksAddProg sub p deg c) σ
    (∀ i, i ≤ max (deg p.op0) (deg p.op1) → σ' (L p.out i) =
      ckksAddF I sub c sa sb (deg p.op0) (deg p.op1) (fun i => σ (L p.op0 i)) (fun i => σ (L p.op1 i)) i) ∧
    σ' (L p.out fScale) = I.fn .smax [sa, sb] := by
  obtain ⟨a, b, o⟩ := p
  dsimp only at ha hb ho ⊢
  have hda := hdeg a
  have hdb := hdeg b
  have hdo := hdeg o
  rw [ckksAddProg_eq]
  dsimp only
  -- the degrees the routine reads after the receiver was resized
  generalize hd0 : setDeg deg o (max (deg a) (deg b)) a = d0
  generalize hd1 : setDeg deg o (max (deg a) (deg b)) b = d1
  have hd0' : d0 = if a = o then max (deg a) (deg b) else deg a := hd0 ▸ rfl
  have hd1' : d1 = if b = o then max (deg a) (deg b) else deg b := hd1 ▸ rfl
  have hmax : max d0 d1 = max (deg a) (deg b) := by rw [hd0', hd1']; split <;> split <;> omega
  have h0 : d0 < fScale := by rw [hd0']; split <;> omega
  have h1 : d1 < fScale := by rw [hd1']; split <;> omega
  -- the receiver after `Resize`: zero polynomials appended
  have hτ : ∀ x, run I (resizeSteps o (deg o) (max (deg a) (deg b))) σ x =
      if x.obj = o ∧ deg o + 1 ≤ x.fld ∧ x.fld < deg o + 1 + (max (deg a) (deg b) - deg o) then I.fn .zero []
      else σ x :=
    run_seg I o fScale (fun i => st (L o i) .zero []) (fun _ => rfl) (fun _ _ _ _ => List.not_mem_nil) _ _
      (by omega) σ
  rw [run_append, run_append]
  generalize run I (resizeSteps o (deg o) (max (deg a) (deg b))) σ = τ at hτ
  have hsa : τ (L a fScale) = σ (L a fScale) := by rw [hτ, if_neg]; simp only [L]; omega
  have hsb : τ (L b fScale) = σ (L b fScale) := by rw [hτ, if_neg]; simp only [L]; omega
  obtain ⟨e0, e1, es⟩ := ckksAlign_run I hS ⟨a, b, o⟩ ha hb ho d0 d1 h0 h1 τ
  dsimp only at e0 e1 es
  rw [hsa, hsb] at e0 e1 es
  obtain ⟨ev, esc⟩ := ckksTail_run I sub hD.copyId o (ckksAlign ⟨a, b, o⟩ d0 d1 _).2.1 (ckksAlign ⟨a, b, o⟩ d0 d1 _).2.2
    a b d0 d1 h0 h1 (run I (ckksAlign ⟨a, b, o⟩ d0 d1 (I.cmp (σ (L a fScale)) (σ (L b fScale)))).1 τ)
  refine ⟨fun i hi => ?_, esc.trans es⟩
  -- an operand is as it was up to its degree and, when it is the receiver, zero from there to the new degree
  have hop : ∀ x dx, dx = (if x = o then max (deg a) (deg b) else deg x) → deg x ≤ max (deg a) (deg b) →
      (∀ i, i ≤ deg x → τ (L x i) = σ (L x i)) ∧ ∀ i, deg x < i → i ≤ dx → τ (L x i) = I.fn .zero [] := by
    intro x dx hdx hx
    refine ⟨fun i hi => ?_, fun i h h' => ?_⟩
    · rw [hτ, if_neg]
      simp only [L]
      rintro ⟨rfl, h⟩
      omega
    · rw [hdx] at h'
      split at h'
      · rename_i e
        subst e
        rw [hτ, if_pos ⟨rfl, by simp only [L]; omega⟩]
      · omega
  obtain ⟨ha1, ha2⟩ := hop a d0 hd0' (by omega)
  obtain ⟨hb1, hb2⟩ := hop b d1 hd1' (by omega)
  rw [ev i (by omega), ← ckksAddF_zeroExt I sub hD _ _ _ (deg a) (deg b) d0 d1 _ _ (fun i => τ (L a i))
    (fun i => τ (L b i)) (by rw [hd0']; split <;> omega) (by omega) (by rw [hd1']; split <;> omega) (by omega)
    ha1 ha2 hb1 hb2 i hi, ckksAddF_eq]
  by_cases c1 : i ≤ min d0 d1
  · rw [if_pos c1, if_pos c1, e0 i (by omega), e1 i (by omega)]
  · by_cases c2 : i ≤ d0
    · rw [if_neg c1, if_neg c1, if_pos c2, if_pos c2, e0 i c2]
    · rw [if_neg c1, if_neg c1, if_neg c2, if_neg c2, e1 i (by omega)]

theorem ckksAdd_alias_sound (I : Interp α) (sub : Bool) (hS : ScaleLaws I) (hD : DegLaws I sub) (al : Alias)
    (deg : Nat → Nat) (hdeg : ∀ o, deg o ≤ 2) (σ : Store α) :
    let p := al.pat
    let sa := σ (L p.op0 fScale); let sb := σ (L p.op1 fScale)
    let c := I.cmp sa sb
    let σ' := run I (ckksAddProg sub p deg c) σ
    (∀ i, i ≤ max (deg p.op0) (deg p.op1) → σ' (L p.out i) =
      ckksAddF I sub c sa sb (deg p.op0) (deg p.op1) (fun i => σ (L p.op0 i)) (fun i => σ (L p.op1 i)) i) ∧
    σ' (L p.out fScale) = I.fn .smax [sa, sb] ∧
    ∀ x, Untouched p x → σ' x = σ x := by
  have h := ckksAdd_sound I sub hS hD al.pat (by cases al <;> decide) (by cases al <;> decide)
    (by cases al <;> decide) deg (fun o => Nat.lt_of_le_of_lt (hdeg o) (by decide)) σ
  exact ⟨h.1, h.2, fun x hx =>
    Untouched.frame I (ckksAddProg_writes _ _ _ _ _ (out_mem_evalObjs _) (bct_mem_evalObjs _)) σ x hx⟩

/-! ## ckks.mulRelin / bgv.tensorStandard -/


def preOf (bgv : Bool) : Fn := if bgv then .mulT else .mform

/-- degree of the result of ckks.Mul(Relin) / bgv.Mul(Relin) -/
def tensorDegF (bgv relin : Bool) (d0 d1 : Nat) : Nat :=
  if d0 = 1 ∧ d1 = 1 then (if relin then 1 else 2) else if bgv then d0 else max d0 d1

/-- component `i` of the result -/
def tensorDF (I : Interp α) (bgv relin : Bool) (d0 d1 : Nat) (a b : Nat → α) (i : Nat) : α :=
  let pre := preOf bgv
  if d0 = 1 ∧ d1 = 1 then
    if relin then
      (if i = 0 then I.fn .add [tensorF0 I pre (a 0) (b 0), I.fn .gp0 [tensorF2 I pre (a 1) (b 1)]]
       else I.fn .add [tensorF1 I pre (a 0) (a 1) (b 0) (b 1), I.fn .gp1 [tensorF2 I pre (a 1) (b 1)]])
    else
      (if i = 0 then tensorF0 I pre (a 0) (b 0) else if i = 1 then tensorF1 I pre (a 0) (a 1) (b 0) (b 1)
       else tensorF2 I pre (a 1) (b 1))
  else if bgv then I.fn .mulM [a i, I.fn pre [b 0]]
  else if d0 = 0 then I.fn .mulM [I.fn pre [a 0], b i]
  else I.fn .mulM [I.fn pre [b 0], a i]

def TensorAccepted (bgv : Bool) (d0 d1 dOut : Nat) : Prop :=
  ¬(d0 + d1 = 0 ∨ d0 + d1 > 2) ∧ ¬(bgv = true ∧ d0 = 0) ∧ ¬(d0 = 1 ∧ d1 = 1 ∧ dOut = 0)

/-- a "Plaintext (x) Ciphertext" product: the receiver's scale, `Resize` of the receiver from degree `dOld` to `D`, `buffQ[0]`
    from polynomial 0 of the degree-0 operand `s` (ckks: before `Resize`, bgv: after it), then polynomial `i ≤ dv` of
    the receiver from polynomial `i` of the other operand `v` and `buffQ[0]` (bgv: in this order, ckks: in the other) -/
def ptProg (bgv : Bool) (pre : Fn) (a b o s v dOld D dv : Nat) : Prog :=
  (if bgv then [st (L o fScale) .smul [L a fScale, L b fScale]] ++ resizeSteps o dOld D ++ [st (L bq 0) pre [L s 0]]
   else [st (L o fScale) .smul [L a fScale, L b fScale], st (L bq 0) pre [L s 0]] ++ resizeSteps o dOld D) ++
  (fromTo 0 (dv + 1)).map fun i => st (L o i) .mulM (if bgv then [L v i, L bq 0] else [L bq 0, L v i])

theorem ptProg_writes (bgv : Bool) (pre : Fn) (a b o s v dOld D dv : Nat) (objs : List Nat) (ho : o ∈ objs)
    (hq : bq ∈ objs) : Prog.writesWithin objs (ptProg bgv pre a b o s v dOld D dv) = true := by
  have hco : objs.contains o = true := by simpa using ho
  have hcq : objs.contains bq = true := by simpa using hq
  cases bgv <;>
    simp only [ptProg, store_writes, resizeSteps_writes _ _ _ _ ho, writesWithin_map, ho, hco, hcq, implies_true]

/-- whatever objects play the roles (an operand may be the receiver): `Resize` appends above the receiver's degree and
    the scale lies above all polynomials, so `buffQ[0]` and every factor are read as they were before the call -/
theorem run_ptProg (I : Interp α) (bgv : Bool) (pre : Fn) (a b o s v dOld D dv : Nat) (ho : o ≠ bq) (hv : v ≠ bq)
    (hdv : dv < fScale) (hD : D < fScale) (hvo : v = o → dv ≤ dOld) (σ : Store α) :
    let σ' := run I (ptProg bgv pre a b o s v dOld D dv) σ
    (∀ i, i ≤ dv → σ' (L o i) =
      I.fn .mulM (if bgv then [σ (L v i), I.fn pre [σ (L s 0)]] else [I.fn pre [σ (L s 0)], σ (L v i)])) ∧
    σ' (L o fScale) = I.fn .smul [σ (L a fScale), σ (L b fScale)] := by
  have hR : ∀ (ρ : Store α) (x : Loc), (x.obj = o → x.fld ≤ dOld ∨ D < x.fld) →
      run I (resizeSteps o dOld D) ρ x = ρ x := fun ρ x hx =>
    run_frame I _ ρ x fun t ht e => by
      have := resizeSteps_dst ht
      rw [e] at this
      have := hx this.1
      omega
  have hq : (L bq 0 : Loc) ≠ L o fScale := fun e => ho (congrArg Loc.obj e).symm
  have hs : (L s 0 : Loc) ≠ L o fScale := fun e => by
    have := congrArg Loc.fld e
    simp only [L, fScale] at this
    omega
  -- (`P` names the text of the prologue, which would otherwise stand three times in this statement)
  have hpro : ∀ P, P = (if bgv then [st (L o fScale) .smul [L a fScale, L b fScale]] ++ resizeSteps o dOld D ++
        [st (L bq 0) pre [L s 0]]
      else [st (L o fScale) .smul [L a fScale, L b fScale], st (L bq 0) pre [L s 0]] ++ resizeSteps o dOld D) →
      run I P σ (L bq 0) = I.fn pre [σ (L s 0)] ∧ (∀ i, i ≤ dv → run I P σ (L v i) = σ (L v i)) ∧
      run I P σ (L o fScale) = I.fn .smul [σ (L a fScale), σ (L b fScale)] := by
    intro P hP
    have hvi : ∀ i, i ≤ dv → (L v i : Loc) ≠ L bq 0 ∧ (L v i : Loc) ≠ L o fScale ∧
        ((L v i : Loc).obj = o → (L v i : Loc).fld ≤ dOld ∨ D < (L v i : Loc).fld) := fun i hi =>
      ⟨fun e => hv (congrArg Loc.obj e), fun e => by have := congrArg Loc.fld e; simp only [L] at this; omega,
        fun e => Or.inl (Nat.le_trans hi (hvo e))⟩
    subst hP
    cases bgv
    · simp only [Bool.false_eq_true, if_false, run_append, run_cons, run_nil]
      refine ⟨?_, fun i hi => ?_, ?_⟩
      · rw [hR _ _ (fun e => absurd e.symm ho)]
        simp only [Step.exec, Store.set_get, st, List.map, if_true, if_neg hs]
      · rw [hR _ _ (hvi i hi).2.2]
        simp only [Step.exec, Store.set_get, st, if_neg (hvi i hi).1, if_neg (hvi i hi).2.1]
      · rw [hR _ _ (fun _ => Or.inr hD)]
        simp only [Step.exec, Store.set_get, st, List.map, if_true, if_neg hq.symm]
    · simp only [if_true, run_append, run_cons, run_nil]
      refine ⟨?_, fun i hi => ?_, ?_⟩
      · simp only [Step.exec, Store.set_get, st, List.map, if_true]
        rw [hR _ _ (fun _ => Or.inl (Nat.zero_le _))]
        simp only [Store.set_get, if_neg hs]
      · simp only [Step.exec, Store.set_get, st, if_neg (hvi i hi).1]
        rw [hR _ _ (hvi i hi).2.2]
        simp only [Store.set_get, if_neg (hvi i hi).2.1]
      · simp only [Step.exec, Store.set_get, st, List.map, if_neg hq.symm]
        rw [hR _ _ (fun _ => Or.inr hD)]
        simp only [Store.set_get, if_true]
  -- the loop: no step reads a polynomial an earlier step wrote
  have hloop := run_seg I o fScale (fun i => st (L o i) .mulM (if bgv then [L v i, L bq 0] else [L bq 0, L v i]))
    (fun _ => rfl) (fun i j hij _ => by
      cases bgv <;> simp only [st, L, Bool.false_eq_true, if_false, if_true, List.mem_cons, Loc.mk.injEq,
        List.not_mem_nil, or_false, not_or, not_and] <;> omega) (dv + 1) 0 (by omega)
  intro σ'
  obtain ⟨eq, ev, es⟩ := hpro _ rfl
  refine ⟨fun i hi => ?_, ?_⟩
  · show run I (ptProg bgv pre a b o s v dOld D dv) σ (L o i) = _
    rw [ptProg, run_append, hloop, if_pos ⟨rfl, Nat.zero_le _, by simp only [L]; omega⟩]
    cases bgv
    · simp only [st, L, Bool.false_eq_true, if_false, List.map] at eq ev ⊢
      rw [eq, ev i hi]
    · simp only [st, L, if_true, List.map] at eq ev ⊢
      rw [eq, ev i hi]
  · show run I (ptProg bgv pre a b o s v dOld D dv) σ (L o fScale) = _
    rw [ptProg, run_append, hloop, if_neg (fun c => by simp only [L] at c; omega), es]

/-- the three "Plaintext (x) Ciphertext" texts of ckks.mulRelin / bgv.tensorStandard (`tensorGenD_eq`) -/
def tensorPT (bgv : Bool) (p : Pat) (deg : Nat → Nat) : Prog :=
  let a := p.op0; let b := p.op1; let o := p.out
  if bgv then ptProg true (preOf bgv) a b o b a (deg o) (deg a) (deg a)
  else if deg a = 0 then ptProg false (preOf bgv) a b o a b (deg o) (max (deg a) (deg b)) (deg b)
  else ptProg false (preOf bgv) a b o b a (deg o) (max (deg a) (deg b)) (deg a)

theorem tensorPT_writes (bgv : Bool) (p : Pat) (deg : Nat → Nat) (objs : List Nat) (ho : p.out ∈ objs)
    (hq : bq ∈ objs) : Prog.writesWithin objs (tensorPT bgv p deg) = true := by
  unfold tensorPT
  dsimp only
  split
  · exact ptProg_writes _ _ _ _ _ _ _ _ _ _ _ ho hq
  · split <;> exact ptProg_writes _ _ _ _ _ _ _ _ _ _ _ ho hq

/-- ckks.mulRelin / bgv.tensorStandard (the code before commit e9e846c) by its guards: rejected, the panic on a degree-0
    receiver of a 1 ⊗ 1 product, `tensorProg` after `Resize`, or a "Plaintext (x) Ciphertext" product -/
theorem tensorGenD_eq (bgv relin : Bool) (p : Pat) (deg : Nat → Nat) :
    tensorGenD bgv relin p deg =
      if deg p.op0 + deg p.op1 = 0 ∨ deg p.op0 + deg p.op1 > 2 ∨ (bgv = true ∧ deg p.op0 = 0) then .err
      else if deg p.op0 = 1 ∧ deg p.op1 = 1 then
        if deg p.out = 0 then .panic
        else .ok ((if relin then [] else resizeSteps p.out (deg p.out) 2) ++ tensorProg (preOf bgv) relin p,
          tensorDegF bgv relin (deg p.op0) (deg p.op1))
      else .ok (tensorPT bgv p deg, tensorDegF bgv relin (deg p.op0) (deg p.op1)) := by
  unfold tensorGenD tensorDegF
  dsimp only
  by_cases hA : deg p.op0 + deg p.op1 = 0 ∨ deg p.op0 + deg p.op1 > 2
  · rw [if_pos hA, if_pos]
    rcases hA with h | h
    · exact Or.inl h
    · exact Or.inr (Or.inl h)
  by_cases hB : bgv = true ∧ deg p.op0 = 0
  · rw [if_neg hA, if_pos hB, if_pos (Or.inr (Or.inr hB))]
  have hr : ¬(deg p.op0 + deg p.op1 = 0 ∨ deg p.op0 + deg p.op1 > 2 ∨ (bgv = true ∧ deg p.op0 = 0)) := by
    rintro (h | h | h)
    · exact hA (Or.inl h)
    · exact hA (Or.inr h)
    · exact hB h
  rw [if_neg hA, if_neg hB, if_neg hr]
  by_cases h11 : deg p.op0 = 1 ∧ deg p.op1 = 1
  · simp only [if_pos h11]; rfl
  · simp only [if_neg h11]
    cases bgv
    · by_cases h0 : deg p.op0 = 0
      · simp only [tensorPT, ptProg, preOf, Bool.false_eq_true, if_false, if_pos h0]
      · simp only [tensorPT, ptProg, preOf, Bool.false_eq_true, if_false, if_neg h0]
    · simp only [tensorPT, ptProg, preOf, if_true]

theorem tensorGenD_writes (bgv relin : Bool) (p : Pat) (deg : Nat → Nat) (prog : Prog) (d : Nat)
    (h : tensorGenD bgv relin p deg = .ok (prog, d)) (objs : List Nat) (ho : p.out ∈ objs) (hq : bq ∈ objs)
    (hqp : bqp ∈ objs) : Prog.writesWithin objs prog = true := by
  rw [tensorGenD_eq] at h
  split at h
  · cases h
  · split at h
    · split at h
      · cases h
      · cases h
        rw [writesWithin_append, tensorProg_writes _ _ _ _ ho hq hqp, Bool.and_true]
        split
        · rfl
        · exact resizeSteps_writes _ _ _ _ ho
    · cases h
      exact tensorPT_writes _ _ _ _ ho hq

/-- `hpt` holds of every accepted call (it has a degree-0 operand) -/
theorem tensorPT_run (I : Interp α) (bgv relin : Bool) (p : Pat) (ha : p.op0 ≠ bq) (hb : p.op1 ≠ bq) (ho : p.out ≠ bq)
    (deg : Nat → Nat) (h0 : deg p.op0 < fScale) (h1 : deg p.op1 < fScale)
    (h11 : ¬(deg p.op0 = 1 ∧ deg p.op1 = 1)) (hpt : bgv = false → deg p.op0 ≠ 0 → deg p.op1 ≤ deg p.op0)
    (σ : Store α) :
    let σ' := run I (tensorPT bgv p deg) σ
    (∀ i, i ≤ tensorDegF bgv relin (deg p.op0) (deg p.op1) → σ' (L p.out i) =
      tensorDF I bgv relin (deg p.op0) (deg p.op1) (fun i => σ (L p.op0 i)) (fun i => σ (L p.op1 i)) i) ∧
    σ' (L p.out fScale) = I.fn .smul [σ (L p.op0 fScale), σ (L p.op1 fScale)] := by
  unfold tensorPT tensorDegF tensorDF
  dsimp only
  rw [if_neg h11]
  simp only [if_neg h11]
  cases bgv
  · by_cases hd : deg p.op0 = 0
    · simp only [Bool.false_eq_true, if_false, if_pos hd]
      rw [Nat.max_eq_right (by omega)]
      exact run_ptProg I false _ _ _ _ _ _ _ _ _ ho hb h1 h1 (fun e => by rw [e]; exact Nat.le_refl _) σ
    · simp only [Bool.false_eq_true, if_false, if_neg hd]
      rw [Nat.max_eq_left (hpt rfl hd)]
      exact run_ptProg I false _ _ _ _ _ _ _ _ _ ho ha h0 h0 (fun e => by rw [e]; exact Nat.le_refl _) σ
  · simp only [if_true]
    exact run_ptProg I true _ _ _ _ _ _ _ _ _ ho ha h0 h0 (fun e => by rw [e]; exact Nat.le_refl _) σ

/-- 1 ⊗ 1: `tensorProg` after the steps `R` by which `Resize` extends the receiver; these write into the receiver only,
    and not into polynomials 0, 1 or the scale of an operand -/
theorem tensor11_after (I : Interp α) (bgv relin : Bool) (hT : TensorLaws I (preOf bgv)) (al : Alias) (σ : Store α)
    (R : Prog) (hR : R.writesWithin [al.pat.out] = true)
    (hops : ∀ f, f ≠ 2 → run I R σ (L al.pat.op0 f) = σ (L al.pat.op0 f) ∧
      run I R σ (L al.pat.op1 f) = σ (L al.pat.op1 f)) :
    let p := al.pat
    let σ' := run I (R ++ tensorProg (preOf bgv) relin p) σ
    (∀ i, i ≤ tensorDegF bgv relin 1 1 → σ' (L p.out i) =
      tensorDF I bgv relin 1 1 (fun i => σ (L p.op0 i)) (fun i => σ (L p.op1 i)) i) ∧
    σ' (L p.out fScale) = I.fn .smul [σ (L p.op0 fScale), σ (L p.op1 fScale)] ∧
    ∀ x, Untouched p x → σ' x = σ x := by
  dsimp only
  simp only [run_append]
  have hF : ∀ x, Untouched al.pat x → run I R σ x = σ x := fun x hx =>
    writesWithin_frame I R _ hR σ x (by simpa using hx.1)
  generalize run I R σ = σ1 at hops hF
  have ha : ∀ f, f ≠ 2 → σ1 (L al.pat.op0 f) = σ (L al.pat.op0 f) := fun f hf => (hops f hf).1
  have hb : ∀ f, f ≠ 2 → σ1 (L al.pat.op1 f) = σ (L al.pat.op1 f) := fun f hf => (hops f hf).2
  cases relin
  · obtain ⟨e0, e1, e2, es, efr⟩ := tensor_alias_sound I (preOf bgv) hT al σ1
    refine ⟨fun i hi => ?_, by simpa [ha, hb, fScale] using es, fun x hx => (efr x hx).trans (hF x hx)⟩
    rcases (by simpa [tensorDegF] using hi : i ≤ 2) with _
    rcases (by omega : i = 0 ∨ i = 1 ∨ i = 2) with rfl | rfl | rfl
    · simpa [tensorDF, ha, hb] using e0
    · simpa [tensorDF, ha, hb] using e1
    · simpa [tensorDF, ha, hb] using e2
  · obtain ⟨e0, e1, es, efr⟩ := tensorRelin_alias_sound I (preOf bgv) hT al σ1
    refine ⟨fun i hi => ?_, by simpa [ha, hb, fScale] using es, fun x hx => (efr x hx).trans (hF x hx)⟩
    rcases (by simpa [tensorDegF] using hi : i ≤ 1) with _
    rcases (by omega : i = 0 ∨ i = 1) with rfl | rfl
    · simpa [tensorDF, ha, hb] using e0
    · simpa [tensorDF, ha, hb] using e1

set_option linter.unusedVariables false in  -- `hdeg` is not needed: an accepted call has operands of degree ≤ 2
/-- ckks.Mul/MulRelin and bgv.Mul/MulRelin (standard tensoring) as `tensorGenD` has them (the code before commit
    e9e846c): every accepted call -/
theorem tensorD_alias_sound (I : Interp α) (bgv relin : Bool) (hT : TensorLaws I (preOf bgv)) (al : Alias)
    (deg : Nat → Nat) (hdeg : ∀ o, deg o ≤ 2)
    (hacc : TensorAccepted bgv (deg al.pat.op0) (deg al.pat.op1) (deg al.pat.out)) (σ : Store α) :
    let p := al.pat
    ∃ prog, tensorGenD bgv relin p deg = .ok (prog, tensorDegF bgv relin (deg p.op0) (deg p.op1)) ∧
      let σ' := run I prog σ
      (∀ i, i ≤ tensorDegF bgv relin (deg p.op0) (deg p.op1) → σ' (L p.out i) =
        tensorDF I bgv relin (deg p.op0) (deg p.op1) (fun i => σ (L p.op0 i)) (fun i => σ (L p.op1 i)) i) ∧
      σ' (L p.out fScale) = I.fn .smul [σ (L p.op0 fScale), σ (L p.op1 fScale)] ∧
      ∀ x, Untouched p x → σ' x = σ x := by
  intro p
  have hr : ¬(deg p.op0 + deg p.op1 = 0 ∨ deg p.op0 + deg p.op1 > 2 ∨ (bgv = true ∧ deg p.op0 = 0)) := by
    rintro (h | h | h)
    · exact hacc.1 (Or.inl h)
    · exact hacc.1 (Or.inr h)
    · exact hacc.2.1 h
  rw [tensorGenD_eq, if_neg hr]
  by_cases h11 : deg p.op0 = 1 ∧ deg p.op1 = 1
  · -- 1 ⊗ 1 into a receiver of previous degree 1 or 2: `Resize` appends at most `Value[2]`
    have ho : deg p.out ≠ 0 := fun h => hacc.2.2 ⟨h11.1, h11.2, h⟩
    rw [if_pos h11, if_neg ho, h11.1, h11.2]
    refine ⟨_, rfl, tensor11_after I bgv relin hT al σ _ ?_ fun f hf => ?_⟩
    · cases relin
      · exact resizeSteps_writes _ _ _ _ (List.mem_singleton.2 rfl)
      · rfl
    · have hw : ∀ s ∈ (if relin then [] else resizeSteps p.out (deg p.out) 2), s.dst.fld = 2 := by
        cases relin
        · intro s hs
          have := resizeSteps_dst hs
          omega
        · exact fun _ h => nomatch h
      exact ⟨run_frame I _ σ _ fun s hs e => hf (by simpa [e, L] using hw s hs),
        run_frame I _ σ _ fun s hs e => hf (by simpa [e, L] using hw s hs)⟩
  · -- "Plaintext (x) Ciphertext": an accepted call has a degree-0 operand
    rw [if_neg h11]
    have hsum := hacc.1
    obtain ⟨hv, hs⟩ := tensorPT_run I bgv relin p (by cases al <;> decide) (by cases al <;> decide)
      (by cases al <;> decide) deg (by simp only [fScale]; omega) (by simp only [fScale]; omega) h11
      (fun _ _ => by omega) σ
    exact ⟨_, rfl, hv, hs, fun x hx => Untouched.frame I
      (tensorPT_writes _ _ _ _ (out_mem_evalObjs p) (bq_mem_evalObjs p)) σ x hx⟩

theorem tensorD_panic_only (bgv relin : Bool) (p : Pat) (deg : Nat → Nat)
    (h : tensorGenD bgv relin p deg = .panic) : deg p.op0 = 1 ∧ deg p.op1 = 1 ∧ deg p.out = 0 := by
  rw [tensorGenD_eq] at h
  split at h
  · cases h
  · split at h
    · rename_i h11
      split at h
      · exact ⟨h11.1, h11.2, ‹_›⟩
      · cases h
    · cases h

theorem tensorGenDFixed_eq (bgv relin : Bool) (p : Pat) (deg : Nat → Nat)
    (h : ¬(deg p.op0 = 1 ∧ deg p.op1 = 1 ∧ deg p.out = 0)) :
    tensorGenDFixed bgv relin p deg = tensorGenD bgv relin p deg := by
  unfold tensorGenDFixed
  rw [if_neg]
  intro hc
  exact h ⟨hc.1, hc.2.1, hc.2.2.1⟩

/-- with patch C09-6 (commit e9e846c): every previous degree of the receiver -/
theorem tensorDFixed_alias_sound (I : Interp α) (bgv relin : Bool) (hT : TensorLaws I (preOf bgv)) (al : Alias)
    (deg : Nat → Nat) (hdeg : ∀ o, deg o ≤ 2)
    (hacc : ¬(deg al.pat.op0 + deg al.pat.op1 = 0 ∨ deg al.pat.op0 + deg al.pat.op1 > 2) ∧
      ¬(bgv = true ∧ deg al.pat.op0 = 0)) (σ : Store α) :
    let p := al.pat
    ∃ prog, tensorGenDFixed bgv relin p deg = .ok (prog, tensorDegF bgv relin (deg p.op0) (deg p.op1)) ∧
      let σ' := run I prog σ
      (∀ i, i ≤ tensorDegF bgv relin (deg p.op0) (deg p.op1) → σ' (L p.out i) =
        tensorDF I bgv relin (deg p.op0) (deg p.op1) (fun i => σ (L p.op0 i)) (fun i => σ (L p.op1 i)) i) ∧
      σ' (L p.out fScale) = I.fn .smul [σ (L p.op0 fScale), σ (L p.op1 fScale)] ∧
      ∀ x, Untouched p x → σ' x = σ x := by
  intro p
  by_cases h : deg p.op0 = 1 ∧ deg p.op1 = 1 ∧ deg p.out = 0
  · -- 1 ⊗ 1 into a receiver of degree 0, necessarily a distinct object: it is extended by zero polynomials first
    obtain ⟨h0, h1, ho⟩ := h
    have hoa : p.out ≠ p.op0 := fun e => by rw [e, h0] at ho; cases ho
    have hob : p.out ≠ p.op1 := fun e => by rw [e, h1] at ho; cases ho
    have hgen : tensorGenDFixed bgv relin p deg =
        .ok ((if relin then resizeSteps p.out 0 1 else resizeSteps p.out 0 2) ++ tensorProg (preOf bgv) relin p,
          tensorDegF bgv relin (deg p.op0) (deg p.op1)) := by
      simp only [tensorGenDFixed, tensorDegF, preOf, h0, h1, ho]
      cases bgv <;> simp
    have hR : (if relin then resizeSteps p.out 0 1 else resizeSteps p.out 0 2).writesWithin [p.out] = true := by
      cases relin <;> exact resizeSteps_writes _ _ _ _ (List.mem_singleton.2 rfl)
    rw [h0, h1] at hgen ⊢
    exact ⟨_, hgen, tensor11_after I bgv relin hT al σ _ hR fun f _ =>
      ⟨writesWithin_frame I _ _ hR σ _ (by simpa [L] using Ne.symm hoa),
       writesWithin_frame I _ _ hR σ _ (by simpa [L] using Ne.symm hob)⟩⟩
  · rw [tensorGenDFixed_eq bgv relin p deg h]
    exact tensorD_alias_sound I bgv relin hT al deg hdeg ⟨hacc.1, hacc.2, h⟩ σ

end Lattigo.Store
