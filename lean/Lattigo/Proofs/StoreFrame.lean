/-
  C09 — frame and history-freeness as general theorems over the program syntax of the Store model.
    * `modelled_frame`: every modelled operation (`Op.prog`) — any assignment of objects to the roles, not only the five
      aliasing patterns, any scale comparison, any `n`, any number of digits — writes only the receiver and the evaluator /
      encryptor / decryptor / protocol buffers (the degree-aware programs: Proofs/StoreDeg.lean).
    * `readsFrom_Reads`: a program each step of which reads only input objects or locations written by an earlier step
      (`Prog.readsFrom`) computes, in every location it writes, a value that depends on the input objects only
      (`Props.C09.history_free_general`); `modelled_readsFrom` gives the hypothesis for the five aliasing patterns of
      every modelled operation but PartialTracesSum (Proofs/StorePTS.lean, every `n`).
-/
import Lattigo.Proofs.StorePTS
import Lattigo.Proofs.StoreOps

namespace Lattigo.Store

variable {α : Type}

theorem evkDigit_writes (hasP : Bool) (skOut o j : Nat) :
    (evkDigit hasP skOut o protoBuf j).writesWithin (o :: scratchObjs) = true := by
  cases hasP <;> simp (config := {decide := true}) only [store_writes, evkDigit]

theorem modelled_frame (I : Interp α) (op : Op) (p : Pat) (σ : Store α) :
    (op.prog I p σ).writesWithin (p.out :: scratchObjs) = true := by
  cases op
  case rlwePTS n =>
    exact writesWithin_mono (by simp [scratchObjs]) (rlwePTSProg_writes n p)
  case evkGenShare hasP digits =>
    simp only [Op.prog, Op.metaProg, Op.valueProg, evkGenShareProg, List.nil_append, writesWithin_append,
      writesWithin_flatMap _ _ _ (evkDigit_writes hasP _ _)]
    cases hasP <;> simp (config := {decide := true}) only [store_writes]
  case ckksEval =>
    obtain ⟨a, b, o⟩ := p
    simp only [Op.prog, Op.metaProg, Op.valueProg, ckksEvalProg]
    generalize I.cmp _ _ = c
    by_cases ha : o = a
    · subst ha
      cases c <;> simp (config := {decide := true}) only [store_writes, initBinaryMeta, ckksMulInt]
    · by_cases hb : o = b
      · subst hb
        cases c <;> simp (config := {decide := true}) only [store_writes, initBinaryMeta, ckksMulInt, if_neg ha]
      · cases c <;> simp (config := {decide := true}) only [store_writes, initBinaryMeta, ckksMulInt, if_neg ha, if_neg hb]
  case divRound =>
    -- the staging polynomial is `p0[level]` in place, the last row of the output otherwise
    obtain ⟨a, b, o⟩ := p
    by_cases h : a = o
    · subst h
      simp (config := {decide := true}) only [store_writes, Op.prog, Op.metaProg, Op.valueProg, divRoundProg, List.nil_append]
    · simp (config := {decide := true}) only [store_writes, Op.prog, Op.metaProg, Op.valueProg, divRoundProg, List.nil_append,
        if_neg h]
  all_goals
    simp (config := {decide := true}) only [store_writes, Op.prog, Op.metaProg, Op.valueProg, ckksMulRelinProg,
      bgvTensorStandardProg, tensorProg, bgvTensorSIProg, bgvMatchScaleProg, bgvAddBigProg, bgvMulBigProg, rlweAutProg,
      divRoundNTTProg, encryptSkProg, decryptProg, ckgGenShareProg, initBinaryMeta, initUnaryMeta]

/-- every step reads only objects of `ins` or locations written by an earlier step (`w` = written so far) -/
def Prog.readsFrom (ins : List Nat) : List Loc → Prog → Bool
  | _, [] => true
  | w, s :: p => s.args.all (fun a => ins.contains a.obj || w.contains a) && Prog.readsFrom ins (s.dst :: w) p

theorem readsFrom_Reads (ins : List Nat) : ∀ (p : Prog) (w : List Loc), Prog.readsFrom ins w p = true →
    Reads (fun x => x.obj ∈ ins ∨ x ∈ w) p
  | [], _, _ => trivial
  | s :: p, w, h => by
    simp only [Prog.readsFrom, Bool.and_eq_true, List.all_eq_true] at h
    refine ⟨fun a ha => ?_, ?_⟩
    · have := h.1 a ha
      simpa using this
    · refine Reads_mono p _ _ ?_ (readsFrom_Reads ins p (s.dst :: w) h.2)
      intro x hx
      rcases hx with hx | hx
      · exact Or.inl (Or.inl hx)
      · rcases List.mem_cons.mp hx with rfl | hx
        · exact Or.inr rfl
        · exact Or.inl (Or.inr hx)

def Pat.ins (p : Pat) : List Nat := [p.op0, p.op1, bigArg, crpArg]

theorem readsFrom_mono (ins : List Nat) : ∀ (p : Prog) (w w' : List Loc), (∀ x ∈ w, x ∈ w') →
    Prog.readsFrom ins w p = true → Prog.readsFrom ins w' p = true
  | [], _, _, _, _ => rfl
  | s :: p, w, w', h, hp => by
    simp only [Prog.readsFrom, Bool.and_eq_true, List.all_eq_true, Bool.or_eq_true, List.contains_iff_mem] at hp ⊢
    refine ⟨fun a ha => (hp.1 a ha).imp_right (h a), readsFrom_mono ins p _ _ (fun x hx => ?_) hp.2⟩
    rcases List.mem_cons.1 hx with rfl | hx
    · exact List.mem_cons_self ..
    · exact List.mem_cons_of_mem _ (h x hx)

/-- `q` after `p`, when `q` is in order from whatever contains what was written before and what `p` writes -/
theorem readsFrom_append (ins : List Nat) (q : Prog) : ∀ (p : Prog) (w : List Loc), Prog.readsFrom ins w p = true →
    (∀ w', (∀ x ∈ w, x ∈ w') → (∀ s ∈ p, s.dst ∈ w') → Prog.readsFrom ins w' q = true) →
    Prog.readsFrom ins w (p ++ q) = true
  | [], w, _, hq => hq w (fun _ h => h) (fun _ h => nomatch h)
  | s :: p, w, hp, hq => by
    simp only [List.cons_append, Prog.readsFrom, Bool.and_eq_true] at hp ⊢
    refine ⟨hp.1, readsFrom_append ins q p _ hp.2 fun w' h h' => hq w' (fun x hx => h x (List.mem_cons_of_mem _ hx)) ?_⟩
    intro t ht
    rcases List.mem_cons.1 ht with rfl | ht
    · exact h _ (List.mem_cons_self ..)
    · exact h' t ht

theorem readsFrom_flatMap (ins : List Nat) (f : Nat → Prog) (w : List Loc)
    (h : ∀ j w', (∀ x ∈ w, x ∈ w') → Prog.readsFrom ins w' (f j) = true) :
    ∀ (l : List Nat) (w' : List Loc), (∀ x ∈ w, x ∈ w') → Prog.readsFrom ins w' (l.flatMap f) = true
  | [], _, _ => rfl
  | j :: l, w', hw => by
    rw [List.flatMap_cons]
    exact readsFrom_append ins _ _ _ (h j w' hw) fun w'' h' _ =>
      readsFrom_flatMap ins f w h l w'' fun x hx => h' x (hw x hx)

/-- a digit of EvaluationKeyGenProtocol.GenShare reads the output key, the reference polynomial, the working copy (written
    before the first digit) and what it has written itself -/
theorem evkDigit_readsFrom (hasP : Bool) (skIn skOut o j : Nat) :
    Prog.readsFrom [skIn, skOut, bigArg, crpArg] [L protoBuf 0] (evkDigit hasP skOut o protoBuf j) = true := by
  cases hasP <;> simp [Prog.readsFrom, evkDigit, L, st]

theorem modelled_readsFrom (I : Interp α) (op : Op) (hop : ∀ n, op ≠ .rlwePTS n) (al : Alias) (σ : Store α) :
    Prog.readsFrom al.pat.ins [] (op.prog I al.pat σ) = true := by
  cases op
  case rlwePTS n => exact absurd rfl (hop n)
  case evkGenShare b d =>
    simp only [Op.prog, Op.metaProg, Op.valueProg, evkGenShareProg, List.nil_append]
    refine readsFrom_append _ _ _ _ ?_ fun w' _ hw' =>
      readsFrom_flatMap _ _ [L protoBuf 0]
        (fun j w'' h'' => readsFrom_mono _ _ _ _ h'' (evkDigit_readsFrom b al.pat.op0 al.pat.op1 al.pat.out j)) _ w' ?_
    · cases b <;> cases al <;> rfl
    · intro x hx
      rw [List.mem_singleton.1 hx]
      cases b <;> exact hw' _ (List.mem_singleton.2 rfl)
  case ckksEval =>
    simp only [Op.prog, Op.metaProg, Op.valueProg]
    generalize I.cmp _ _ = c
    cases c <;> cases al <;> decide +kernel
  case decrypt b => cases b <;> cases al <;> simp only [Op.prog, Op.valueProg] <;> decide +kernel
  -- a fixed program for each of the five patterns: evaluated
  all_goals cases al <;> simp only [Op.prog, Op.valueProg] <;> decide +kernel

end Lattigo.Store
