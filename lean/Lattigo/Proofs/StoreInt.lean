/-
  C09 — the `Int` interpretation used by the driver satisfies the laws the alias-soundness theorems
  assume (non-vacuity of those hypotheses).
-/
import Lattigo.Proofs.StoreOps
import Lattigo.Proofs.StoreDeg
import Mathlib.Tactic.Ring
import Mathlib.Order.Defs.LinearOrder

namespace Lattigo.Store

theorem intI_tensorLaws (pre : Fn) (c : Int) (h : ∀ x, intFn pre [x] = c * x) : TensorLaws intI pre where
  comm x y := by
    show intFn .mulM [intFn pre [x], y] = intFn .mulM [intFn pre [y], x]
    rw [h, h]
    show c * x * y = c * y * x
    ring
  mulMAdd c y acc := by simp only [intI, intFn]
  addComm x y := by simp only [intI, intFn]; ring

theorem intI_tensorLaws_mform : TensorLaws intI .mform := intI_tensorLaws _ 1 fun x => (one_mul x).symm

theorem intI_tensorLaws_mulT : TensorLaws intI .mulT := intI_tensorLaws _ 7 fun _ => rfl

theorem intI_tensorLaws_mformM : TensorLaws intI .mformM := intI_tensorLaws _ 1 fun x => (one_mul x).symm

theorem intI_scaleLaws : ScaleLaws intI where
  cmpRefl := by intro x; simp [intI]
  copyId := by intro x; simp [intI, intFn]
  maxIdem := by intro x; simp [intI, intFn]
  maxGt := by
    intro x y h
    simp only [intI, intFn] at *
    have : y < x := compare_gt_iff_gt.mp h
    exact max_eq_left (le_of_lt this)
  maxLt := by
    intro x y h
    simp only [intI, intFn] at *
    have : x < y := compare_lt_iff_lt.mp h
    exact max_eq_right (le_of_lt this)

theorem intI_degLaws (sub : Bool) : DegLaws intI sub where
  copyId := by intro x; simp [intI, intFn]
  scalZero := by intro r; simp [intI, intFn]
  evZeroR := by intro x; cases sub <;> simp [evOf, intI, intFn]
  evZeroL := by intro x; cases sub <;> simp [evOf, post, intI, intFn]

end Lattigo.Store
