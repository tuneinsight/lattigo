/-
  C09 — the metadata component under aliasing: `InitOutputBinaryOp` / `InitOutputUnaryOp` on the Store model, and
  the metadata of the receiver after a complete modelled operation (`Op.exec` = metadata initialisation followed by
  the arithmetic).
-/
import Lattigo.Proofs.Store

namespace Lattigo.Store

variable {α : Type}

/-- what the receiver's metadata must be after a binary operation, in terms of the operands' BEFORE the call -/
def metaF (I : Interp α) (σ : Store α) (p : Pat) (f : Nat) : α :=
  if f = fRows then I.fn .dmax [σ (L p.op0 fRows), σ (L p.op1 fRows)]
  else if f = fCols then I.fn .dmax [σ (L p.op0 fCols), σ (L p.op1 fCols)]
  else σ (L p.op0 f)

theorem initBinaryMeta_alias_sound (I : Interp α) (hcopy : ∀ x, I.fn .copy [x] = x) (al : Alias) (σ : Store α) :
    let p := al.pat
    let σ' := run I (initBinaryMeta p) σ
    (∀ f ∈ metaFields, σ' (L p.out f) = metaF I σ p f) ∧
    ∀ x : Loc, (x.obj ≠ p.out ∨ x.fld ∉ metaFields) → σ' x = σ x := by
  refine ⟨?_, fun x hx => run_frame I _ σ x fun s hs e => ?_⟩
  · -- field by field: the dimensions are computed from both operands before either is stored, `IsNTT` and `IsBatched`
    -- are copies of op0's
    simp only [metaFields, List.forall_mem_cons, List.not_mem_nil, false_imp_iff, implies_true, and_true]
    cases al <;> exact ⟨rfl, rfl, hcopy _, hcopy _⟩
  · -- every step writes one of the four fields of the receiver
    have : s.dst.obj = al.pat.out ∧ s.dst.fld ∈ metaFields := by
      simp only [initBinaryMeta, List.mem_cons, List.not_mem_nil, or_false] at hs
      rcases hs with rfl | rfl | rfl | rfl <;> exact ⟨rfl, by simp only [st, L]; decide⟩
    rw [e] at this
    exact hx.elim (fun h => h this.1) fun h => h this.2

/-- the overwrite-first variant with `out = op1`: the receiver gets max(op0, op0) = the dimensions of op0 alone -/
theorem initBinaryMetaOverwriteFirst_outOp1 (I : Interp α) (σ : Store α) :
    run I (initBinaryMetaOverwriteFirst Alias.outOp1.pat) σ (L 1 fCols) =
      I.fn .dmax [I.fn .copy [σ (L 0 fCols)], I.fn .copy [σ (L 0 fCols)]] := by
  rfl

/-- the operations that start with InitOutputBinaryOp -/
def Op.isBinary : Op → Bool
  | .ckksEval | .ckksMul | .ckksMulRelin | .bgvTensor | .bgvTensorRelin | .bgvTensorSI | .bgvTensorSIRelin
  | .bgvMatchScale => true
  | _ => false

theorem valueProg_no_meta (I : Interp α) (op : Op) (hb : op.isBinary = true) (al : Alias) (σ : Store α) :
    (op.valueProg I al.pat σ).all (fun s => decide (s.dst.fld < fRows)) = true := by
  cases op <;> first | cases hb | skip
  case ckksEval =>
    simp only [Op.valueProg]
    generalize I.cmp _ _ = c
    cases c <;> cases al <;> rfl
  all_goals cases al <;> rfl

theorem Op.prog_binary (I : Interp α) (op : Op) (hb : op.isBinary = true) (p : Pat) (σ : Store α) :
    op.prog I p σ = initBinaryMeta p ++ op.valueProg I p σ := by
  cases op <;> simp only [Op.isBinary] at hb <;> (try cases hb) <;> rfl

end Lattigo.Store
