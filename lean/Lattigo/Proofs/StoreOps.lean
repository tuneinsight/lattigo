/-
  C09 — alias soundness of the transcribed operations of degree 1, one theorem per routine: under each aliasing pattern the
  receiver holds the closed form of the all-distinct run and every `Untouched` location (not the receiver, not a buffer
  of the evaluator) is as before.  The algebraic laws a routine relies on when it swaps operands or takes a special path
  are hypotheses (`TensorLaws`, `ScaleLaws`).  For each earlier version of the code that was not alias-safe or rewrote
  an input: the value it computed.  At the end, `Element.Resize` and `Add` on lists of polynomials.
-/
import Lattigo.Proofs.Store

namespace Lattigo.Store

variable {α : Type}

/-- not an output object and not an evaluator scratch buffer -/
def Untouched (p : Pat) (x : Loc) : Prop :=
  x.obj ≠ p.out ∧ x.obj ≠ bq ∧ x.obj ≠ bqp ∧ x.obj ≠ bct ∧ x.obj ≠ bqm

/-- the objects `Untouched` excludes: the receiver and the buffers of the ckks / bgv / rlwe evaluators -/
def evalObjs (p : Pat) : List Nat := [p.out, bq, bqp, bct, bqm]

theorem untouched_iff (p : Pat) (x : Loc) : Untouched p x ↔ x.obj ∉ evalObjs p := by simp [evalObjs, Untouched]

theorem out_mem_evalObjs (p : Pat) : p.out ∈ evalObjs p := List.mem_cons_self ..
theorem bq_mem_evalObjs (p : Pat) : bq ∈ evalObjs p := by simp [evalObjs]
theorem bct_mem_evalObjs (p : Pat) : bct ∈ evalObjs p := by simp [evalObjs]

theorem Untouched.frame (I : Interp α) {p : Pat} {prog : Prog} (h : prog.writesWithin (evalObjs p) = true)
    (σ : Store α) (x : Loc) (hx : Untouched p x) : run I prog σ x = σ x :=
  writesWithin_frame I prog _ h σ x ((untouched_iff p x).1 hx)

/-! ## ckks.mulRelin / bgv.tensorStandard -/

/-- the laws of the coefficient-wise arithmetic the two tensoring routines rely on when they swap
    the operands (`op1 == opOut`) or take the squaring path (`op0 == op1`) -/
structure TensorLaws (I : Interp α) (pre : Fn) : Prop where
  comm : ∀ x y, I.fn .mulM [I.fn pre [x], y] = I.fn .mulM [I.fn pre [y], x]
  mulMAdd : ∀ c y acc, I.fn .mulMAdd [c, y, acc] = I.fn .add [acc, I.fn .mulM [c, y]]
  addComm : ∀ x y, I.fn .add [x, y] = I.fn .add [y, x]

theorem TensorLaws.swap {I : Interp α} {pre : Fn} (h : TensorLaws I pre) (a0 a1 b0 b1 : α) :
    I.fn .mulMAdd [I.fn pre [b1], a0, I.fn .mulM [I.fn pre [b0], a1]] =
    I.fn .mulMAdd [I.fn pre [a1], b0, I.fn .mulM [I.fn pre [a0], b1]] := by
  rw [h.mulMAdd, h.mulMAdd, h.addComm, h.comm b1 a0, h.comm b0 a1]

theorem TensorLaws.sq {I : Interp α} {pre : Fn} (h : TensorLaws I pre) (x y : α) :
    I.fn .add [I.fn .mulM [I.fn pre [x], y], I.fn .mulM [I.fn pre [x], y]] =
    I.fn .mulMAdd [I.fn pre [y], x, I.fn .mulM [I.fn pre [x], y]] := by
  rw [h.mulMAdd, h.comm y x]

theorem quantEq (I : Interp α) {x x' y y' : α} (hx : x = x') (hy : y = y') :
    I.fn .quant [x, y] = I.fn .quant [x', y'] := by subst hx; subst hy; rfl

theorem tensorProg_writes (pre : Fn) (relin : Bool) (p : Pat) (objs : List Nat) (ho : p.out ∈ objs) (hq : bq ∈ objs)
    (hqp : bqp ∈ objs) : Prog.writesWithin objs (tensorProg pre relin p) = true := by
  have hco : objs.contains p.out = true := by simpa using ho
  have hcq : objs.contains bq = true := by simpa using hq
  have hcqp : objs.contains bqp = true := by simpa using hqp
  cases relin <;> simp only [tensorProg, store_writes, hco, hcq, hcqp]

/-- the three tensor components with all-distinct locations -/
def tensorF0 (I : Interp α) (pre : Fn) (a0 b0 : α) : α := I.fn .mulM [I.fn pre [a0], b0]
def tensorF2 (I : Interp α) (pre : Fn) (a1 b1 : α) : α := I.fn .mulM [I.fn pre [a1], b1]
def tensorF1 (I : Interp α) (pre : Fn) (a0 a1 b0 b1 : α) : α :=
  I.fn .mulMAdd [I.fn pre [a1], b0, I.fn .mulM [I.fn pre [a0], b1]]

theorem tensor_alias_sound (I : Interp α) (pre : Fn) (h : TensorLaws I pre) (al : Alias) (σ : Store α) :
    let p := al.pat
    let σ' := run I (tensorProg pre false p) σ
    let a0 := σ (L p.op0 0); let a1 := σ (L p.op0 1); let b0 := σ (L p.op1 0); let b1 := σ (L p.op1 1)
    σ' (L p.out 0) = tensorF0 I pre a0 b0 ∧
    σ' (L p.out 1) = tensorF1 I pre a0 a1 b0 b1 ∧
    σ' (L p.out 2) = tensorF2 I pre a1 b1 ∧
    σ' (L p.out fScale) = I.fn .smul [σ (L p.op0 fScale), σ (L p.op1 fScale)] ∧
    ∀ x, Untouched p x → σ' x = σ x := by
  cases al <;> refine ⟨?_, ?_, ?_, ?_, fun x hx => Untouched.frame I rfl σ x hx⟩
  -- with `out = op1` the code has swapped the operands, with `op0 = op1` it has taken the squaring path
  all_goals first | rfl | exact h.comm _ _ | exact h.swap _ _ _ _ | exact h.sq _ _

theorem tensorRelin_alias_sound (I : Interp α) (pre : Fn) (h : TensorLaws I pre) (al : Alias) (σ : Store α) :
    let p := al.pat
    let σ' := run I (tensorProg pre true p) σ
    let a0 := σ (L p.op0 0); let a1 := σ (L p.op0 1); let b0 := σ (L p.op1 0); let b1 := σ (L p.op1 1)
    σ' (L p.out 0) = I.fn .add [tensorF0 I pre a0 b0, I.fn .gp0 [tensorF2 I pre a1 b1]] ∧
    σ' (L p.out 1) = I.fn .add [tensorF1 I pre a0 a1 b0 b1, I.fn .gp1 [tensorF2 I pre a1 b1]] ∧
    σ' (L p.out fScale) = I.fn .smul [σ (L p.op0 fScale), σ (L p.op1 fScale)] ∧
    ∀ x, Untouched p x → σ' x = σ x := by
  cases al <;> refine ⟨?_, ?_, ?_, fun x hx => Untouched.frame I rfl σ x hx⟩
  all_goals first | rfl | skip
  -- `out = op1`: the operands are swapped
  · show I.fn .add [tensorF0 I pre (σ ⟨1, 0⟩) (σ ⟨0, 0⟩), I.fn .gp0 [tensorF2 I pre (σ ⟨1, 1⟩) (σ ⟨0, 1⟩)]] = _
    rw [tensorF0, tensorF2, h.comm, h.comm (σ ⟨1, 1⟩)]; rfl
  · show I.fn .add [tensorF1 I pre (σ ⟨1, 0⟩) (σ ⟨1, 1⟩) (σ ⟨0, 0⟩) (σ ⟨0, 1⟩),
      I.fn .gp1 [tensorF2 I pre (σ ⟨1, 1⟩) (σ ⟨0, 1⟩)]] = _
    rw [tensorF1, tensorF2, h.swap, h.comm (σ ⟨1, 1⟩)]; rfl
  -- `op0 = op1`: the squaring path
  · exact congrArg (fun t => I.fn .add [t, _]) (h.sq _ _)
  · exact congrArg (fun t => I.fn .add [t, _]) (h.sq _ _)

/-! ## ckks.evaluateInPlace -/

structure ScaleLaws (I : Interp α) : Prop where
  cmpRefl : ∀ x, I.cmp x x = .eq
  copyId : ∀ x, I.fn .copy [x] = x
  maxIdem : ∀ x, I.fn .smax [x, x] = x
  maxGt : ∀ x y, I.cmp x y = .gt → I.fn .smax [x, y] = x
  maxLt : ∀ x y, I.cmp x y = .lt → I.fn .smax [x, y] = y

def ckksEvalF (I : Interp α) (c : Ordering) (sa sb a b : α) : α :=
  match c with
  | .gt => I.fn .ev [a, I.fn .scal [I.fn .ratio [sa, sb], b]]
  | .lt => I.fn .ev [I.fn .scal [I.fn .ratio [sb, sa], a], b]
  | .eq => I.fn .ev [a, b]

section SI
variable (I : Interp α)
def siA (x : α) : α := I.fn .modup [I.fn .intt [x]]
def siQ0 (a0 b0 : α) : α := I.fn .mulM [I.fn .mform [a0], b0]
def siQ1 (a0 a1 b0 b1 : α) : α := I.fn .mulMAdd [I.fn .mform [a1], b0, I.fn .mulM [I.fn .mform [a0], b1]]
def siM0 (a0 b0 : α) : α := I.fn .mulM [I.fn .mformM [siA I a0], siA I b0]
def siM1 (a0 a1 b0 b1 : α) : α :=
  I.fn .mulMAdd [I.fn .mformM [siA I a1], siA I b0, I.fn .mulM [I.fn .mformM [siA I a0], siA I b1]]
def siOut0 (a0 b0 : α) : α := I.fn .quant [siQ0 I a0 b0, siM0 I a0 b0]
def siOut1 (a0 a1 b0 b1 : α) : α := I.fn .quant [siQ1 I a0 a1 b0 b1, siM1 I a0 a1 b0 b1]
end SI

/-- polynomial part of bgv.tensorScaleInvariant (no relinearisation): every aliasing pattern -/
theorem bgvTensorSI_poly_alias_sound (I : Interp α) (h : TensorLaws I .mform) (hM : TensorLaws I .mformM)
    (al : Alias) (σ : Store α) :
    let p := al.pat
    let σ' := run I (bgvTensorSIProg false p) σ
    let a0 := σ (L p.op0 0); let a1 := σ (L p.op0 1); let b0 := σ (L p.op1 0); let b1 := σ (L p.op1 1)
    σ' (L p.out 0) = siOut0 I a0 b0 ∧
    σ' (L p.out 1) = siOut1 I a0 a1 b0 b1 ∧
    σ' (L p.out 2) = siOut0 I a1 b1 ∧
    ∀ x, Untouched p x → σ' x = σ x := by
  cases al <;> refine ⟨?_, ?_, ?_, fun x hx => Untouched.frame I rfl σ x hx⟩
  -- both halves of every component (mod Q and mod QMul) are those of the all-distinct run up to the swap of the
  -- operands (`out = op1`) or the squaring path (`op0 = op1`)
  all_goals
    (conv => lhs; reduce) <;> apply quantEq <;>
    first | rfl | exact h.comm _ _ | exact hM.comm _ _ | exact h.swap _ _ _ _ | exact hM.swap _ _ _ _
          | exact h.sq _ _ | exact hM.sq _ _

/-- what the code before fix C05-10 computed for `out = op1`: the scale of `op0` twice -/
theorem bgvTensorSIOld_outOp1_scale (I : Interp α) (relin : Bool) (σ : Store α) :
    run I (bgvTensorSIProgOld relin Alias.outOp1.pat) σ (L 1 fScale) =
      I.fn .sinv [σ (L 0 fScale), σ (L 0 fScale)] := by
  cases relin <;> rfl

def matchF (I : Interp α) (sa sb a b : α) : α :=
  I.fn .mulSAdd [b, I.fn .r1 [sa, sb], I.fn .mulS [I.fn .r0 [sa, sb], a]]

/-- code with fix C05-4: sound for ALL five patterns (the copy `el1.CopyNew()` is the identity on
    values: hypothesis `hcopy`) -/
theorem bgvMatchScale_alias_sound (I : Interp α) (hcopy : ∀ x, I.fn .copy [x] = x) (al : Alias) (σ : Store α) :
    let p := al.pat
    let σ' := run I (bgvMatchScaleProg p) σ
    let sa := σ (L p.op0 fScale); let sb := σ (L p.op1 fScale)
    σ' (L p.out 0) = matchF I sa sb (σ (L p.op0 0)) (σ (L p.op1 0)) ∧
    σ' (L p.out 1) = matchF I sa sb (σ (L p.op0 1)) (σ (L p.op1 1)) ∧
    σ' (L p.out fScale) = I.fn .smul [sa, I.fn .r0 [sa, sb]] ∧
    ∀ x, Untouched p x → x.obj ≠ heapTmp → σ' x = σ x := by
  have frame : ∀ p : Pat, (bgvMatchScaleProg p).writesWithin (heapTmp :: evalObjs p) = true → ∀ x, Untouched p x →
      x.obj ≠ heapTmp → run I (bgvMatchScaleProg p) σ x = σ x := fun p hw x hx hx' =>
    writesWithin_frame I _ _ hw σ x fun h => (List.mem_cons.1 h).elim hx' ((untouched_iff p x).1 hx)
  cases al <;> refine ⟨?_, ?_, rfl, frame _ rfl⟩
  all_goals first | rfl | skip
  -- `out = op1`: op1 is read from its copy `el1.CopyNew()`
  all_goals
    (conv => lhs; reduce)
    simp only [hcopy]
    rfl

/-- the code BEFORE fix C05-4: sound for `all distinct`, `out = op0`, `op0 = op1` only -/
theorem bgvMatchScaleOld_alias_sound (I : Interp α) (al : Alias) (hal : al ≠ .outOp1 ∧ al ≠ .allEq)
    (σ : Store α) :
    let p := al.pat
    let σ' := run I (bgvMatchScaleProgOld p) σ
    let sa := σ (L p.op0 fScale); let sb := σ (L p.op1 fScale)
    σ' (L p.out 0) = matchF I sa sb (σ (L p.op0 0)) (σ (L p.op1 0)) ∧
    σ' (L p.out 1) = matchF I sa sb (σ (L p.op0 1)) (σ (L p.op1 1)) ∧
    σ' (L p.out fScale) = I.fn .smul [sa, I.fn .r0 [sa, sb]] ∧
    ∀ x, Untouched p x → σ' x = σ x := by
  cases al
  case outOp1 => exact absurd rfl hal.1
  case allEq => exact absurd rfl hal.2
  all_goals exact ⟨rfl, rfl, rfl, fun x hx => Untouched.frame I rfl σ x hx⟩

/-- what the code before fix C05-4 computed with `out = op1`: op1 overwritten by `r0·op0` before it is read -/
theorem bgvMatchScaleOld_outOp1_value (I : Interp α) (σ : Store α) (i : Nat) (hi : i = 0 ∨ i = 1) :
    run I (bgvMatchScaleProgOld Alias.outOp1.pat) σ (L 1 i) =
      let sa := σ (L 0 fScale); let sb := σ (L 1 fScale)
      let t := I.fn .mulS [I.fn .r0 [sa, sb], σ (L 0 i)]
      I.fn .mulSAdd [t, I.fn .r1 [sa, sb], t] := by
  rcases hi with rfl | rfl <;> rfl

/-! ## bgv.Add / bgv.Mul with a caller-owned *big.Int -/

/-- code with fixes C05-1/C05-2: right result, receiver scale set, caller's big.Int intact -/
theorem bgvAddBig_sound (I : Interp α) (hcopy : ∀ x, I.fn .copy [x] = x) (al : Alias)
    (hal : al = .distinct ∨ al = .outOp0) (σ : Store α) :
    let p := al.pat
    let σ' := run I (bgvAddBigProg p) σ
    let s := I.fn .bigTInv [I.fn .bigCenter [I.fn .bigModT [I.fn .bigScale [σ (L bigArg 0), σ (L p.op0 fScale)]]]]
    σ' (L p.out 0) = I.fn .addBig [σ (L p.op0 0), s] ∧
    σ' (L p.out fScale) = σ (L p.op0 fScale) ∧
    σ' (L bigArg 0) = σ (L bigArg 0) := by
  rcases hal with rfl | rfl <;> refine ⟨?_, ?_, rfl⟩
  all_goals
    (conv => lhs; reduce)
    simp only [hcopy]
    rfl

theorem bgvMulBig_sound (I : Interp α) (al : Alias) (hal : al = .distinct ∨ al = .outOp0) (σ : Store α) :
    let p := al.pat
    let σ' := run I (bgvMulBigProg p) σ
    let s := I.fn .bigCenter [I.fn .bigModT [σ (L bigArg 0)]]
    σ' (L p.out 0) = I.fn .mulBig [σ (L p.op0 0), s] ∧
    σ' (L p.out 1) = I.fn .mulBig [σ (L p.op0 1), s] ∧
    σ' (L bigArg 0) = σ (L bigArg 0) := by
  rcases hal with rfl | rfl <;> exact ⟨rfl, rfl, rfl⟩

theorem bgvAddBigOld_result (I : Interp α) (σ : Store α) :
    run I (bgvAddBigProgOld Alias.distinct.pat) σ (L bigArg 0) =
      I.fn .bigTInv [I.fn .bigCenter [I.fn .bigModT [I.fn .bigScale [σ (L bigArg 0), σ (L 0 fScale)]]]] := by
  rfl

theorem bgvMulBigOld_result (I : Interp α) (σ : Store α) :
    run I (bgvMulBigProgOld Alias.distinct.pat) σ (L bigArg 0) = I.fn .bigCenter [I.fn .bigModT [σ (L bigArg 0)]] := by
  rfl

theorem rlweAut_alias_sound (I : Interp α) (al : Alias) (hal : al = .distinct ∨ al = .outOp0) (σ : Store α) :
    let p := al.pat
    let σ' := run I (rlweAutProg p) σ
    σ' (L p.out 0) = I.fn .aut [I.fn .add [I.fn .gp0 [σ (L p.op0 1)], σ (L p.op0 0)]] ∧
    σ' (L p.out 1) = I.fn .aut [I.fn .gp1 [σ (L p.op0 1)]] ∧
    σ' (L p.out fScale) = I.fn .copy [σ (L p.op0 fScale)] ∧
    σ' (L p.out fMeta) = I.fn .copy [σ (L p.op0 fMeta)] ∧
    ∀ x, Untouched p x → σ' x = σ x := by
  rcases hal with rfl | rfl <;> exact ⟨rfl, rfl, rfl, rfl, fun x hx => Untouched.frame I rfl σ x hx⟩

def divF (I : Interp α) (last x : α) : α := I.fn .addC [I.fn .divStep [I.fn .addHalf [last], x]]

/-- ring.DivRoundByLastModulus at HEAD (since commit 64e1afc) -/
theorem divRound_alias_sound (I : Interp α) (al : Alias) (hal : al = .distinct ∨ al = .outOp0) (σ : Store α) :
    let p := al.pat
    let σ' := run I (divRoundProg p) σ
    σ' (L p.out 0) = divF I (σ (L p.op0 2)) (σ (L p.op0 0)) ∧
    σ' (L p.out 1) = divF I (σ (L p.op0 2)) (σ (L p.op0 1)) ∧
    ∀ x, Untouched p x → σ' x = σ x := by
  rcases hal with rfl | rfl <;> exact ⟨rfl, rfl, fun x hx => Untouched.frame I rfl σ x hx⟩

def divFOld (I : Interp α) (last x : α) : α := I.fn .divStep [I.fn .addHalf [last], I.fn .negAdd [x]]

/-- the version before commit 64e1afc: the RESULT was alias-insensitive … -/
theorem divRoundOld_result (I : Interp α) (al : Alias) (hal : al = .distinct ∨ al = .outOp0) (σ : Store α) :
    let p := al.pat
    let σ' := run I (divRoundProgOld p) σ
    σ' (L p.out 0) = divFOld I (σ (L p.op0 2)) (σ (L p.op0 0)) ∧
    σ' (L p.out 1) = divFOld I (σ (L p.op0 2)) (σ (L p.op0 1)) := by
  rcases hal with rfl | rfl <;> exact ⟨rfl, rfl⟩

/-- … but with a distinct `p1` the INPUT `p0` was rewritten, all its limbs -/
theorem divRoundOld_input_rewritten (I : Interp α) (σ : Store α) :
    let σ' := run I (divRoundProgOld Alias.distinct.pat) σ
    σ' (L 0 2) = I.fn .addHalf [σ (L 0 2)] ∧ σ' (L 0 0) = I.fn .negAdd [σ (L 0 0)] ∧
    σ' (L 0 1) = I.fn .negAdd [σ (L 0 1)] := by
  exact ⟨rfl, rfl, rfl⟩

theorem divRoundNTT_alias_sound (I : Interp α) (al : Alias) (hal : al = .distinct ∨ al = .outOp0)
    (σ : Store α) :
    let p := al.pat
    let σ' := run I (divRoundNTTProg p) σ
    let c := I.fn .nttStep [I.fn .addHalf [I.fn .inttL [σ (L p.op0 2)]]]
    σ' (L p.out 0) = I.fn .divStep [c, σ (L p.op0 0)] ∧
    σ' (L p.out 1) = I.fn .divStep [c, σ (L p.op0 1)] ∧
    ∀ x, Untouched p x → σ' x = σ x := by
  rcases hal with rfl | rfl <;> exact ⟨rfl, rfl, fun x hx => Untouched.frame I rfl σ x hx⟩

/-! ## Element.Resize and the degree residue of Add/Sub -/

theorem resize_length (z : α) (d : Nat) (v : List α) : (resize z d v).length = d + 1 := by
  unfold resize
  split
  · simp; omega
  · simp; omega

theorem addLists_length (add : α → α → α) : ∀ (xs ys : List α),
    (addLists add xs ys).length = max xs.length ys.length := by
  intro xs
  induction xs with
  | nil => intro ys; simp [addLists]
  | cons x xs ih =>
    intro ys
    cases ys with
    | nil => simp [addLists]
    | cons y ys => simp [addLists, ih]

/-- the sum of the operands already has all the polynomials of the resized receiver: nothing of the receiver is kept -/
theorem append_drop_resize (z : α) (degree : Nat) (out s : List α) (h : degree + 1 ≤ s.length) :
    s ++ (resize z degree out).drop s.length = s := by
  rw [List.drop_eq_nil_of_le (by rw [resize_length]; exact h), List.append_nil]

end Lattigo.Store
