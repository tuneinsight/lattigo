/-
  C09 — rlwe.Evaluator.PartialTracesSum over the `Store` model, EVERY n ≥ 1:
    * two facts about any `Store` program: a renamed copy runs like the program on the store seen through the
      renaming (`run_ren`); if every step reads only locations of `D` or locations written earlier by the
      program (`Reads`), two runs from stores that agree on `D` agree on `D ∪ written` (`run_agree`);
    * the loop of PartialTracesSum (the `log n + HW(n)` tree) reads only the running sum and, once written, the
      accumulator (`ptsLoop_reads`), and — loop invariant `j = n / 2^i`, `state = false` until the
      iteration that scans the most significant bit — it writes both output polynomials
      (`ptsLoop_writes_out`);
    * hence aliasing insensitivity (`rlwePTS_alias_sound`) and independence from the previous content of
      the evaluator buffers and of the receiver (`rlwePTS_history_free`).
-/
import Lattigo.Proofs.Store

namespace Lattigo.Store

variable {α : Type}

def Step.ren (ρ : Loc → Loc) (s : Step) : Step := ⟨ρ s.dst, s.fn, s.args.map ρ⟩

/-- the store seen through a renaming of the locations -/
def Store.pull (σ : Store α) (ρ : Loc → Loc) : Store α := ⟨fun y => σ (ρ y)⟩

/-- every step reads only locations of `D` or locations written by an earlier step of the program -/
def Reads (D : Loc → Prop) : Prog → Prop
  | [] => True
  | s :: p => (∀ a ∈ s.args, D a) ∧ Reads (fun x => D x ∨ x = s.dst) p

/-- some step of the program writes `x` -/
def Written (p : Prog) (x : Loc) : Prop := ∃ s ∈ p, s.dst = x

theorem Reads_mono : ∀ (p : Prog) (D D' : Loc → Prop), (∀ x, D x → D' x) → Reads D p → Reads D' p
  | [], _, _, _, _ => trivial
  | s :: p, D, D', h, hr => by
    refine ⟨fun a ha => h a (hr.1 a ha), ?_⟩
    exact Reads_mono p _ _ (fun x hx => hx.elim (fun h' => Or.inl (h x h')) Or.inr) hr.2

theorem Reads_append : ∀ (p q : Prog) (D : Loc → Prop), Reads D p → Reads (fun x => D x ∨ Written p x) q →
    Reads D (p ++ q)
  | [], q, D, _, hq => by
    refine Reads_mono q _ _ ?_ hq
    intro x hx
    rcases hx with hx | ⟨s, hs, _⟩
    · exact hx
    · cases hs
  | s :: p, q, D, hp, hq => by
    refine ⟨hp.1, Reads_append p q _ hp.2 ?_⟩
    refine Reads_mono q _ _ ?_ hq
    intro x hx
    rcases hx with hx | ⟨t, ht, rfl⟩
    · exact Or.inl (Or.inl hx)
    · rcases List.mem_cons.mp ht with rfl | ht
      · exact Or.inl (Or.inr rfl)
      · exact Or.inr ⟨t, ht, rfl⟩

theorem Written_append (p q : Prog) (x : Loc) : Written (p ++ q) x ↔ Written p x ∨ Written q x := by
  unfold Written
  constructor
  · rintro ⟨s, hs, rfl⟩
    rcases List.mem_append.mp hs with h | h
    · exact Or.inl ⟨s, h, rfl⟩
    · exact Or.inr ⟨s, h, rfl⟩
  · rintro (⟨s, hs, rfl⟩ | ⟨s, hs, rfl⟩)
    · exact ⟨s, List.mem_append_left _ hs, rfl⟩
    · exact ⟨s, List.mem_append_right _ hs, rfl⟩

theorem run_ren (I : Interp α) (ρ : Loc → Loc) (hρ : ∀ x y, ρ x = ρ y → x = y) :
    ∀ (p : Prog) (σ : Store α) (x : Loc), run I (p.map (Step.ren ρ)) σ (ρ x) = run I p (σ.pull ρ) x
  | [], _, _ => rfl
  | s :: p, σ, x => by
    have e : ((s.ren ρ).exec I σ).pull ρ = s.exec I (σ.pull ρ) := congrArg Store.mk <| funext fun y => by
      have : (ρ y = ρ s.dst) = (y = s.dst) := propext ⟨hρ _ _, congrArg ρ⟩
      simp only [Store.pull, Step.exec, Step.ren, Store.set_get, this, List.map_map, Function.comp_def]
    rw [List.map_cons, run_cons, run_cons, run_ren I ρ hρ p, e]

theorem run_agree (I : Interp α) : ∀ (p : Prog) (D : Loc → Prop) (σ1 σ2 : Store α), Reads D p →
    (∀ x, D x → σ1 x = σ2 x) → ∀ x, D x ∨ Written p x → run I p σ1 x = run I p σ2 x
  | [], _, _, _, _, h, x, hx => hx.elim (h x) fun ⟨_, hs, _⟩ => nomatch hs
  | s :: p, D, σ1, σ2, hr, h, x, hx => by
    have hargs : s.args.map σ1.get = s.args.map σ2.get := List.map_congr_left fun a ha => h a (hr.1 a ha)
    refine run_agree I p _ _ _ hr.2 (fun y hy => ?_) x ?_
    · by_cases e : y = s.dst
      · simp only [Step.exec, Store.set_get, if_pos e, hargs]
      · simp only [Step.exec, Store.set_get, if_neg e]
        exact h y (hy.resolve_right e)
    · rcases hx with hx | ⟨t, ht, rfl⟩
      · exact Or.inl (Or.inl hx)
      · rcases List.mem_cons.1 ht with rfl | ht
        · exact Or.inl (Or.inr rfl)
        · exact Or.inr ⟨t, ht, rfl⟩

/-- the blocks of one iteration (inner_sum.go:215-279): the first rotation goes into the accumulator `BuffQP[2:4]`,
    later ones are added to it; the output is accumulator plus running sum, or the running sum alone when `n` is a
    power of two; the running sum `BuffCt` is doubled -/
def ptsAccFirst : Prog :=
  [ st (L bqp 2) .autLazy0 [L bct 0, L bct 1], st (L bqp 3) .autLazy1 [L bct 0, L bct 1] ]
def ptsAcc : Prog :=
  [ st (L bqp 4) .autLazy0 [L bct 0, L bct 1], st (L bqp 5) .autLazy1 [L bct 0, L bct 1],
    st (L bqp 2) .add [L bqp 2, L bqp 4], st (L bqp 3) .add [L bqp 3, L bqp 5] ]
def ptsOutAdd (o : Nat) : Prog :=
  [ st (L o 0) .modDown [L bqp 2], st (L o 1) .modDown [L bqp 3],
    st (L o 0) .add [L o 0, L bct 0], st (L o 1) .add [L o 1, L bct 1] ]
def ptsOutCopy (o : Nat) : Prog := [ st (L o 0) .copy [L bct 0], st (L o 1) .copy [L bct 1] ]
def ptsDouble : Prog :=
  [ st (L bqp 4) .autH0 [L bct 0, L bct 1], st (L bqp 5) .autH1 [L bct 0, L bct 1],
    st (L bct 0) .add [L bct 0, L bqp 4], st (L bct 1) .add [L bct 1, L bqp 5] ]

/-- `ptsIter` by its three tests: the bit of `n` scanned (`j` odd), a higher bit still to come (`k ≠ 0`), `n` a power
    of two; the lemmas below go through this form -/
theorem ptsIter_eq (o n i j : Nat) (cp stt : Bool) : ptsIter o n i j cp stt =
    if j % 2 = 1 then
      if n - n % 2 ^ (i + 1) ≠ 0 then
        ((if cp then ptsAccFirst else ptsAcc) ++ (if stt then [] else ptsDouble), false, stt)
      else (if n % 2 ^ Nat.log2 n ≠ 0 then ptsOutAdd o else ptsOutCopy o, cp, true)
    else (if stt then [] else ptsDouble, cp, stt) := by
  unfold ptsIter
  by_cases h1 : j % 2 = 1
  · by_cases h2 : n - n % 2 ^ (i + 1) ≠ 0
    · cases cp <;> cases stt <;> simp only [if_pos h1, if_pos h2] <;> rfl
    · by_cases h3 : n % 2 ^ Nat.log2 n ≠ 0
      · simp only [if_pos h1, if_neg h2, if_pos h3]; rfl
      · simp only [if_pos h1, if_neg h2, if_neg h3]; rfl
  · cases stt <;> simp only [if_neg h1] <;> rfl

theorem ptsIter_writes (o n i j : Nat) (cp stt : Bool) :
    (ptsIter o n i j cp stt).1.writesWithin [o, bqp, bct] = true := by
  rw [ptsIter_eq]
  split
  · split
    · cases cp <;> cases stt <;>
        simp (config := {decide := true}) only [store_writes, ptsAccFirst, ptsAcc, ptsDouble]
    · split <;> simp (config := {decide := true}) only [store_writes, ptsOutAdd, ptsOutCopy]
  · cases stt <;> simp (config := {decide := true}) only [store_writes, ptsDouble]

theorem ptsLoop_writes (o n : Nat) : ∀ (fuel i j : Nat) (cp stt : Bool),
    (ptsLoop o n fuel i j cp stt).writesWithin [o, bqp, bct] = true
  | 0, _, _, _, _ => rfl
  | fuel + 1, i, j, cp, stt => by
    unfold ptsLoop
    split
    · rfl
    · rw [writesWithin_append, ptsIter_writes, ptsLoop_writes o n fuel]; rfl

theorem rlwePTSProg_writes (n : Nat) (p : Pat) : (rlwePTSProg n p).writesWithin [p.out, bqp, bct] = true := by
  simp (config := {decide := true}) only [rlwePTSProg, store_writes, ptsLoop_writes]

/-- the evaluator buffers `BuffQP`, `BuffCt` -/
def Scratch (x : Loc) : Prop := x.obj = bqp ∨ x.obj = bct

theorem ptsLoop_zero (o n i j : Nat) (cp stt : Bool) : ptsLoop o n 0 i j cp stt = [] := rfl

theorem ptsLoop_succ (o n fuel i j : Nat) (cp stt : Bool) (hj : j ≠ 0) :
    ptsLoop o n (fuel + 1) i j cp stt =
      (ptsIter o n i j cp stt).1 ++
        ptsLoop o n fuel (i + 1) (j / 2) (ptsIter o n i j cp stt).2.1 (ptsIter o n i j cp stt).2.2 := by
  rw [ptsLoop]
  simp only [hj, if_false]

theorem ptsLoop_j0 (o n fuel i : Nat) (cp stt : Bool) : ptsLoop o n fuel i 0 cp stt = [] := by
  cases fuel with
  | zero => rfl
  | succ f => rw [ptsLoop]; simp

/-- what the loop may read when an iteration starts: the running sum `BuffCt[0:2]`, and — once the flag `copy` has
    been cleared — the accumulator `BuffQP[2:4]` -/
def LoopReadable (cp : Bool) (x : Loc) : Prop := x = L bct 0 ∨ x = L bct 1 ∨ (cp = false ∧ (x = L bqp 2 ∨ x = L bqp 3))

theorem LoopReadable.scratch (cp : Bool) (x : Loc) (h : LoopReadable cp x) : Scratch x := by
  rcases h with rfl | rfl | ⟨_, rfl | rfl⟩
  · exact Or.inr rfl
  · exact Or.inr rfl
  · exact Or.inl rfl
  · exact Or.inl rfl

theorem ptsIter_reads (o n i j : Nat) (cp stt : Bool)
    (hmsb : j % 2 = 1 → n - n % 2 ^ (i + 1) = 0 → n % 2 ^ (Nat.log2 n) ≠ 0 → cp = false) :
    Reads (LoopReadable cp) (ptsIter o n i j cp stt).1 := by
  rw [ptsIter_eq]
  split
  · split
    · -- the rotations read the running sum; adding to the accumulator reads it, and then the flag is clear
      cases cp <;> cases stt <;> simp (config := {decide := true}) [Reads, LoopReadable, L, st, ptsAccFirst, ptsAcc, ptsDouble]
    · -- the output: from the running sum, and from the accumulator only when `n` is not a power of two (`hmsb`)
      rename_i h1 h2
      split
      · have := hmsb h1 (Classical.not_not.mp h2) ‹_›
        subst this
        simp (config := {decide := true}) [Reads, LoopReadable, L, st, ptsOutAdd]
      · simp (config := {decide := true}) [Reads, LoopReadable, L, st, ptsOutCopy]
  · cases stt <;> simp (config := {decide := true}) [Reads, LoopReadable, L, st, ptsDouble]

theorem ptsIter_cp_written (o n i j : Nat) (cp stt : Bool) (x : Loc)
    (hx : LoopReadable (ptsIter o n i j cp stt).2.1 x) : LoopReadable cp x ∨ Written (ptsIter o n i j cp stt).1 x := by
  rcases hx with h | h | ⟨hcp, h⟩
  · exact Or.inl (Or.inl h)
  · exact Or.inl (Or.inr (Or.inl h))
  · -- the accumulator `BuffQP[2:4]`: defined before, or this iteration clears the flag and its first rotation writes it
    cases cp
    · exact Or.inl (Or.inr (Or.inr ⟨rfl, h⟩))
    · right
      rw [ptsIter_eq] at hcp ⊢
      by_cases h1 : j % 2 = 1
      · by_cases h2 : n - n % 2 ^ (i + 1) ≠ 0
        · rw [if_pos h1, if_pos h2]
          rcases h with rfl | rfl
          · exact ⟨_, List.mem_append_left _ (List.mem_cons_self ..), rfl⟩
          · exact ⟨_, List.mem_append_left _ (List.mem_cons_of_mem _ (List.mem_cons_self ..)), rfl⟩
        · rw [if_pos h1, if_neg h2] at hcp; cases hcp
      · rw [if_neg h1] at hcp; cases hcp

/-- while the flag `copy` is set no lower bit of `n` was a one: outside the most-significant-bit iteration
    the flag survives only an even `j` -/
theorem ptsIter_cp_true (o n i j : Nat) (cp stt : Bool) (hk : n - n % 2 ^ (i + 1) ≠ 0)
    (h : (ptsIter o n i j cp stt).2.1 = true) : cp = true ∧ j % 2 = 0 := by
  rw [ptsIter_eq] at h
  by_cases h1 : j % 2 = 1
  · rw [if_pos h1, if_pos hk] at h; cases h
  · rw [if_neg h1] at h; exact ⟨h, by omega⟩

/-- loop invariant `j = n / 2^i`, and while the flag `copy` is set no lower bit of `n` was a one (`n % 2^i = 0`): every
    read is of the running sum, or of the accumulator once it has been written -/
theorem ptsLoop_reads (o n : Nat) (hn : n ≠ 0) : ∀ (fuel i j : Nat) (cp stt : Bool),
    n / 2 ^ i = j → (cp = true → n % 2 ^ i = 0) → Reads (LoopReadable cp) (ptsLoop o n fuel i j cp stt)
  | 0, _, _, _, _, _, _ => trivial
  | fuel + 1, i, j, cp, stt, hj, hcp => by
    by_cases hj0 : j = 0
    · subst hj0; rw [ptsLoop_j0]; trivial
    · rw [ptsLoop_succ _ _ _ _ _ _ _ hj0]
      have hposi : 0 < 2 ^ i := Nat.pow_pos (by decide)
      have hge : 2 ^ i ≤ n := by
        have h1 := Nat.div_add_mod n (2 ^ i)
        rw [hj] at h1
        have : 2 ^ i * 1 ≤ 2 ^ i * j := Nat.mul_le_mul_left _ (by omega)
        omega
      -- `k = 0`, the test for the most significant bit, means `n < 2^(i+1)`
      have hmsb : n - n % 2 ^ (i + 1) = 0 → n < 2 ^ (i + 1) := fun hk => by
        have := Nat.mod_lt n (Nat.pow_pos (by decide) : 0 < 2 ^ (i + 1))
        omega
      apply Reads_append
      · apply ptsIter_reads
        intro _ hk hnp
        have hlog : Nat.log2 n = i := (Nat.log2_eq_iff hn).2 ⟨hge, hmsb hk⟩
        rw [hlog] at hnp
        cases cp with
        | false => rfl
        | true => exact absurd (hcp rfl) hnp
      · by_cases hk : n - n % 2 ^ (i + 1) = 0
        · -- most significant bit: the loop ends here
          have : j / 2 = 0 := by
            rw [← hj, Nat.div_div_eq_div_mul, ← Nat.pow_succ]
            exact Nat.div_eq_of_lt (hmsb hk)
          rw [this, ptsLoop_j0]; trivial
        · refine Reads_mono _ _ _ (fun x hx => ptsIter_cp_written o n i j cp stt x hx) ?_
          apply ptsLoop_reads o n hn fuel
          · rw [Nat.pow_succ, ← Nat.div_div_eq_div_mul, hj]
          · intro hcp'
            have := ptsIter_cp_true o n i j cp stt hk hcp'
            rw [Nat.mod_pow_succ, hj, this.2, hcp this.1, Nat.mul_zero]

/-- the renaming that exchanges object 0 (the input, which is the receiver in the aliased call) and object 2
    (the distinct receiver) -/
def ρ02 (x : Loc) : Loc := if x.obj = 0 then ⟨2, x.fld⟩ else if x.obj = 2 then ⟨0, x.fld⟩ else x

theorem ρ02_invol (x : Loc) : ρ02 (ρ02 x) = x := by
  rcases x with ⟨o, f⟩
  by_cases h0 : o = 0
  · subst h0; rfl
  · by_cases h2 : o = 2
    · subst h2; rfl
    · simp only [ρ02, if_neg h0, if_neg h2]

theorem ρ02_inj (x y : Loc) (h : ρ02 x = ρ02 y) : x = y := by
  rw [← ρ02_invol x, h, ρ02_invol]

theorem ptsIter_ren (n i j : Nat) (cp stt : Bool) :
    ptsIter 2 n i j cp stt = ((ptsIter 0 n i j cp stt).1.map (Step.ren ρ02), (ptsIter 0 n i j cp stt).2) := by
  rw [ptsIter_eq, ptsIter_eq]
  by_cases h1 : j % 2 = 1
  · by_cases h2 : n - n % 2 ^ (i + 1) ≠ 0
    · rw [if_pos h1, if_pos h2, if_pos h1, if_pos h2]
      cases cp <;> cases stt <;> rfl
    · rw [if_pos h1, if_neg h2, if_pos h1, if_neg h2]
      split <;> rfl
  · rw [if_neg h1, if_neg h1]
    cases stt <;> rfl

theorem ptsLoop_ren (n : Nat) : ∀ (fuel i j : Nat) (cp stt : Bool),
    ptsLoop 2 n fuel i j cp stt = (ptsLoop 0 n fuel i j cp stt).map (Step.ren ρ02)
  | 0, _, _, _, _ => rfl
  | fuel + 1, i, j, cp, stt => by
    by_cases hj : j = 0
    · subst hj; rw [ptsLoop_j0, ptsLoop_j0]; rfl
    · rw [ptsLoop_succ _ _ _ _ _ _ _ hj, ptsLoop_succ _ _ _ _ _ _ _ hj, ptsIter_ren, List.map_append,
        ptsLoop_ren n fuel]

theorem div_pow_eq_one {n i : Nat} (h : n / 2 ^ i = 1) : 2 ^ i ≤ n ∧ n < 2 ^ (i + 1) := by
  have hpos : 0 < 2 ^ i := Nat.pow_pos (by decide)
  have h1 := Nat.div_add_mod n (2 ^ i)
  have h2 := Nat.mod_lt n hpos
  rw [h] at h1
  rw [Nat.pow_succ]
  generalize 2 ^ i = m at *
  omega

theorem div_pow_ge_two {n i j : Nat} (h : n / 2 ^ i = j) (hj : 2 ≤ j) : 2 ^ (i + 1) ≤ n := by
  have hpos : 0 < 2 ^ i := Nat.pow_pos (by decide)
  have h1 := Nat.div_add_mod n (2 ^ i)
  rw [h] at h1
  rw [Nat.pow_succ]
  generalize 2 ^ i = m at *
  have : m * 2 ≤ m * j := by rw [Nat.mul_comm m 2, Nat.mul_comm m j]; exact Nat.mul_le_mul_right m hj
  omega

/-- the iteration that scans the most significant bit (`j = 1`, hence `k = 0`) writes both output polynomials -/
theorem ptsIter_msb (o n i : Nat) (cp : Bool) (h : n / 2 ^ i = 1) :
    Written (ptsIter o n i 1 cp false).1 (L o 0) ∧ Written (ptsIter o n i 1 cp false).1 (L o 1) := by
  have hlt := (div_pow_eq_one h).2
  have hk : n - n % 2 ^ (i + 1) = 0 := by rw [Nat.mod_eq_of_lt hlt]; omega
  rw [ptsIter_eq, if_pos rfl, if_neg (fun h0 => h0 hk)]
  split <;> exact ⟨⟨_, List.mem_cons_self .., rfl⟩, ⟨_, List.mem_cons_of_mem _ (List.mem_cons_self ..), rfl⟩⟩

/-- an earlier iteration (`j ≥ 2`) does not set `state` -/
theorem ptsIter_not_msb (o n i j : Nat) (cp : Bool) (h : n / 2 ^ i = j) (hj : 2 ≤ j) :
    (ptsIter o n i j cp false).2.2 = false := by
  have hge := div_pow_ge_two h hj
  have hpos : 0 < 2 ^ (i + 1) := Nat.pow_pos (by decide)
  have hk : n - n % 2 ^ (i + 1) ≠ 0 := by
    have := Nat.mod_lt n hpos
    omega
  rw [ptsIter_eq, if_pos hk]
  split <;> rfl

theorem ptsLoop_writes_out (o n : Nat) : ∀ (fuel i j : Nat) (cp : Bool), n / 2 ^ i = j → 1 ≤ j → j ≤ fuel →
    Written (ptsLoop o n fuel i j cp false) (L o 0) ∧ Written (ptsLoop o n fuel i j cp false) (L o 1)
  | 0, _, _, _, _, h1, h2 => by omega
  | fuel + 1, i, j, cp, h, h1, h2 => by
    have hj : j ≠ 0 := by omega
    rw [ptsLoop_succ _ _ _ _ _ _ _ hj]
    simp only [Written_append]
    by_cases hj1 : j = 1
    · subst hj1
      exact ⟨Or.inl (ptsIter_msb o n i cp h).1, Or.inl (ptsIter_msb o n i cp h).2⟩
    · have hj2 : 2 ≤ j := by omega
      rw [ptsIter_not_msb o n i j cp h hj2]
      have h' : n / 2 ^ (i + 1) = j / 2 := by rw [Nat.pow_succ, ← Nat.div_div_eq_div_mul, h]
      have := ptsLoop_writes_out o n fuel (i + 1) (j / 2) (ptsIter o n i j cp false).2.1 h' (by omega) (by omega)
      exact ⟨Or.inr this.1, Or.inr this.2⟩

theorem rlwePTSProg_ne_one (n : Nat) (p : Pat) (hn : n ≠ 1) :
    rlwePTSProg n p =
      [ st (L p.out fScale) .copy [L p.op0 fScale], st (L p.out fMeta) .copy [L p.op0 fMeta],
        st (L bct 0) .copy [L p.op0 0], st (L bct 1) .copy [L p.op0 1] ] ++
      ptsLoop p.out n (n + 1) 0 n true false := by
  unfold rlwePTSProg
  simp only [hn, if_false]

/-- object 0 is `ctIn`, which is `opOut` in the aliased call; object 2 is the distinct receiver, whose previous content
    is arbitrary -/
theorem rlwePTS_alias_sound (I : Interp α) (hcopy : ∀ x, I.fn .copy [x] = x)
    (n : Nat) (hn : 1 ≤ n) (σ σd : Store α)
    (hagree : ∀ x, x.obj ≠ 2 → σd x = σ x) (f : Nat) (hf : f = 0 ∨ f = 1 ∨ f = fScale ∨ f = fMeta) :
    run I (rlwePTSProg n Alias.outOp0.pat) σ (L 0 f) = run I (rlwePTSProg n Alias.distinct.pat) σd (L 2 f) := by
  have e0 : ∀ g, σd ⟨0, g⟩ = σ ⟨0, g⟩ := fun g => hagree _ (by simp)
  by_cases h1 : n = 1
  · subst h1
    rcases hf with rfl | rfl | rfl | rfl <;>
    simp (config := {decide := true}) [Alias.pat, rlwePTSProg, L, st, fScale, fMeta, bct, Step.exec, e0, hcopy]
  · rw [rlwePTSProg_ne_one n _ h1, rlwePTSProg_ne_one n _ h1, run_append, run_append]
    simp only [Alias.pat]
    rw [ptsLoop_ren]
    -- the stores after the four copies of the prologue
    generalize hσ1 : run I [ st (L 0 fScale) .copy [L 0 fScale], st (L 0 fMeta) .copy [L 0 fMeta],
        st (L bct 0) .copy [L 0 0], st (L bct 1) .copy [L 0 1] ] σ = σ1
    generalize hσ2 : run I [ st (L 2 fScale) .copy [L 0 fScale], st (L 2 fMeta) .copy [L 0 fMeta],
        st (L bct 0) .copy [L 0 0], st (L bct 1) .copy [L 0 1] ] σd = σ2
    let D : Loc → Prop := fun x => Scratch x ∨ x = L 0 fScale ∨ x = L 0 fMeta
    have hsim : ∀ x, D x → σ1 x = σ2.pull ρ02 x := by
      intro x hx
      subst hσ1; subst hσ2
      rcases hx with hx | rfl | rfl
      · -- a buffer: both prologues write `BuffCt[0:2]` from the input, which the two stores agree on
        have hne : x.obj ≠ 0 ∧ x.obj ≠ 2 := by rcases hx with hx | hx <;> rw [hx] <;> decide
        have h0 : ∀ g, x ≠ ⟨0, g⟩ := fun g e => hne.1 (e ▸ rfl)
        have h2 : ∀ g, x ≠ ⟨2, g⟩ := fun g e => hne.2 (e ▸ rfl)
        have hρ : ρ02 x = x := by simp only [ρ02, if_neg hne.1, if_neg hne.2]
        simp only [Store.pull, hρ]
        simp (config := {decide := true}) [L, st, fScale, fMeta, bct, Step.exec, h0, h2, e0, hagree x hne.2]
      · simp (config := {decide := true}) [Store.pull, ρ02, L, st, fScale, fMeta, bct, Step.exec, e0]
      · simp (config := {decide := true}) [Store.pull, ρ02, L, st, fScale, fMeta, bct, Step.exec, e0]
    have hreads : Reads D (ptsLoop 0 n (n + 1) 0 n true false) :=
      Reads_mono _ _ _ (fun x hx => Or.inl (LoopReadable.scratch _ x hx))
        (ptsLoop_reads 0 n (by omega) (n + 1) 0 n true false (by simp) fun _ => Nat.mod_one n)
    have hw := ptsLoop_writes_out 0 n (n + 1) 0 n true (by simp) hn (by omega)
    -- the distinct call's loop is the renamed copy of the in-place call's
    rw [show (L 2 f : Loc) = ρ02 (L 0 f) from rfl, run_ren I ρ02 ρ02_inj]
    refine run_agree I _ D σ1 _ hreads hsim _ ?_
    rcases hf with rfl | rfl | rfl | rfl
    · exact Or.inr hw.1
    · exact Or.inr hw.2
    · exact Or.inl (Or.inr (Or.inl rfl))
    · exact Or.inl (Or.inr (Or.inr rfl))

/-- `rlwePTS_alias_sound` with a bound `n ≤ 8` that is not used -/
theorem rlwePTS_alias_sound_partial (I : Interp α) (hcopy : ∀ x, I.fn .copy [x] = x)
    (n : Nat) (hn : 1 ≤ n ∧ n ≤ 8) (σ σd : Store α)
    (hagree : ∀ x, x.obj ≠ 2 → σd x = σ x) (f : Nat) (hf : f = 0 ∨ f = 1 ∨ f = fScale ∨ f = fMeta) :
    run I (rlwePTSProg n Alias.outOp0.pat) σ (L 0 f) = run I (rlwePTSProg n Alias.distinct.pat) σd (L 2 f) :=
  rlwePTS_alias_sound I hcopy n hn.1 σ σd hagree f hf

theorem rlwePTS_history_free (I : Interp α) (n : Nat) (hn : 1 ≤ n) (p : Pat) (σ σ' : Store α)
    (h : ∀ x : Loc, x.obj = p.op0 → σ x = σ' x) (f : Nat) (hf : f = 0 ∨ f = 1 ∨ f = fScale ∨ f = fMeta) :
    run I (rlwePTSProg n p) σ (L p.out f) = run I (rlwePTSProg n p) σ' (L p.out f) := by
  refine run_agree I (rlwePTSProg n p) (fun x => x.obj = p.op0) σ σ' ?_ h _ ?_
  · -- every read is of an input field or of something written before
    by_cases h1 : n = 1
    · subst h1
      unfold rlwePTSProg
      by_cases hao : p.op0 = p.out <;>
        simp (config := {decide := true}) [Reads, hao, L, st]
    · rw [rlwePTSProg_ne_one n p h1]
      apply Reads_append
      · simp (config := {decide := true}) [Reads, L, st]
      · refine Reads_mono _ _ _ ?_ (ptsLoop_reads p.out n (by omega) (n + 1) 0 n true false (by simp) (fun _ => Nat.mod_one n))
        intro x hx
        rcases hx with hx | hx | hx
        · right; subst hx; simp (config := {decide := true}) [Written, L, st]
        · right; subst hx; simp (config := {decide := true}) [Written, L, st]
        · exact absurd hx.1 (by decide)
  · -- the location is an input field or is written
    by_cases h1 : n = 1
    · subst h1
      by_cases hao : p.op0 = p.out
      · left; simp [L, hao]
      · right
        rcases hf with rfl | rfl | rfl | rfl <;>
          simp (config := {decide := true}) [rlwePTSProg, Written, hao, L, st, fScale, fMeta]
    · right
      rw [rlwePTSProg_ne_one n p h1, Written_append]
      have hw := ptsLoop_writes_out p.out n (n + 1) 0 n true (by simp) hn (by omega)
      rcases hf with rfl | rfl | rfl | rfl
      · exact Or.inr hw.1
      · exact Or.inr hw.2
      · left; simp (config := {decide := true}) [Written, L, st, fScale, fMeta]
      · left; simp (config := {decide := true}) [Written, L, st, fScale, fMeta]

end Lattigo.Store
