/-
  C09 — levels: `Element.Resize` on shapes and the receiver's shape after every modelled operation
  (`OpS.shapeAfter` of Model/Store.lean).
-/
import Lattigo.Proofs.Store

namespace Lattigo.Store

/-- all polynomials at the level of `Value[0]` -/
def Uniform (s : Shape) : Prop := ∀ x ∈ s, x = s.level

theorem uniform_replicate (n l : Nat) : Uniform (List.replicate (n + 1) l) := by
  intro x hx
  simp [Shape.level, List.replicate_succ] at hx ⊢
  rcases hx with h | h
  · exact h
  · exact h.2

theorem level_replicate (n l : Nat) : Shape.level (List.replicate (n + 1) l) = l := by
  simp [Shape.level, List.replicate_succ]

theorem degree_replicate (n l : Nat) : Shape.degree (List.replicate (n + 1) l) = n := by
  simp [Shape.degree]

/-- cutting a uniform shape to `degree + 1` polynomials, or extending it at its level -/
theorem replicate_cut_or_extend (k degree level : Nat) :
    (if (List.replicate k level).length > degree + 1 then (List.replicate k level).take (degree + 1)
     else List.replicate k level ++ List.replicate (degree + 1 - (List.replicate k level).length) level) =
      List.replicate (degree + 1) level := by
  simp only [List.length_replicate]
  split
  · rw [List.take_replicate]
    congr 1
    omega
  · rw [List.replicate_append_replicate]
    congr 1
    omega

/-- `Element.Resize` brings EVERY polynomial to the target level if `Value[0]` is not already there, or
    all polynomials were at one level -/
theorem resizeShape_replicate (s : Shape) (degree level : Nat)
    (h : s.level ≠ level ∨ Uniform s) : resizeShape s degree level = List.replicate (degree + 1) level := by
  have hs1 : (if s.level = level then s else s.map fun _ => level) = List.replicate s.length level := by
    by_cases hl : s.level = level
    · rw [if_pos hl]
      rcases h with h | h
      · exact absurd hl h
      · rw [List.eq_replicate_iff]
        exact ⟨rfl, fun b hb => (h b hb).trans hl⟩
    · rw [if_neg hl, List.map_const']
  unfold resizeShape
  simp only [hs1]
  exact replicate_cut_or_extend _ _ _

theorem replicate_no_short (n l : Nat) : (List.replicate n l).any (· < Shape.level (List.replicate n l)) = false := by
  cases n with
  | zero => rfl
  | succ n =>
    rw [level_replicate]
    simp

theorem setSh_self (sh : Nat → Shape) (o : Nat) (u : Shape) : setSh sh o u o = u := by simp [setSh]

theorem setSh_degree (sh : Nat → Shape) (o : Nat) (u : Shape) (hu : u.degree = (sh o).degree) (x : Nat) :
    (setSh sh o u x).degree = (sh x).degree := by
  unfold setSh
  split
  · rename_i h; subst h; exact hu
  · rfl

theorem shape_degree_succ (s : Shape) (hs : s ≠ []) : s.degree + 1 = s.length := by
  cases s with
  | nil => exact absurd rfl hs
  | cons a t => simp [Shape.degree]

/-- with patch fixes/C09-7 (`Resize` resizes every polynomial) no hypothesis on the receiver is needed -/
theorem resizeShapeFixed_replicate (s : Shape) (degree level : Nat) :
    resizeShapeFixed s degree level = List.replicate (degree + 1) level := by
  unfold resizeShapeFixed
  simp only [List.map_const']
  exact replicate_cut_or_extend _ _ _

theorem Gen.ok_of_cases {β : Type} {g : Gen β} {c : Prop} {x r : β}
    (h : g = .err ∨ (c ∧ g = .panic) ∨ g = .ok x) (hr : g = .ok r) : r = x := by
  rcases h with h | ⟨_, h⟩ | h
  · rw [h] at hr; cases hr
  · rw [h] at hr; cases hr
  · rw [h] at hr; exact (Gen.ok.inj hr).symm

/-- GENERIC form, for any implementation `rs` of `Element.Resize` on shapes that yields the uniform shape
    whenever the receiver satisfies `P` (and `P` holds of uniform shapes): a modelled operation rejects the call,
    panics (only without patch C09-6: `fix6 = false`), or leaves the receiver with the documented degree and every
    polynomial at the documented level. -/
theorem shapeAfterG_cases (rs : Shape → Nat → Nat → Shape) (fix6 : Bool) (P : Shape → Nat → Prop)
    (hrs : ∀ s d l, P s l → rs s d l = List.replicate (d + 1) l)
    (hP : ∀ n l l', P (List.replicate (n + 1) l) l')
    (op : OpS) (p : Pat) (sh : Nat → Shape)
    (hrecv' : P (sh p.out) (op.docLevel (sh p.op0).level (sh p.op1).level (sh p.out).level)) :
    op.shapeAfterG rs fix6 p sh = .err ∨ (fix6 = false ∧ op.shapeAfterG rs fix6 p sh = .panic) ∨
      op.shapeAfterG rs fix6 p sh =
        .ok (List.replicate (op.docDegree (sh p.op0).degree (sh p.op1).degree (sh p.out).degree + 1)
          (op.docLevel (sh p.op0).level (sh p.op1).level (sh p.out).level)) := by
  -- it suffices that the `Resize` calls end so: a `replicate` passes the short-polynomial test unchanged
  suffices key : ∀ g, op.resizesG rs fix6 p sh = g → g = .err ∨ (fix6 = false ∧ g = .panic) ∨
      g = .ok (List.replicate (op.docDegree (sh p.op0).degree (sh p.op1).degree (sh p.out).degree + 1)
        (op.docLevel (sh p.op0).level (sh p.op1).level (sh p.out).level)) by
    unfold OpS.shapeAfterG
    rcases key _ rfl with h | ⟨hf, h⟩ | h
    · rw [h]; exact Or.inl rfl
    · rw [h]; exact Or.inr (Or.inl ⟨hf, rfl⟩)
    · rw [h]
      dsimp only
      rw [replicate_no_short]
      exact Or.inr (Or.inr rfl)
  intro g h
  -- the first `Resize`, and for the products the second one, on the receiver it has made uniform: its level is the
  -- documented one, no degree has changed
  have hfirst := fun d => hrs (sh p.out) d _ hrecv'
  have hdeg : ∀ l x, (setSh sh p.out (List.replicate ((sh p.out).degree + 1) l) x).degree = (sh x).degree :=
    fun l => setSh_degree sh p.out _ (degree_replicate _ _)
  have hsecond : ∀ l d, rs (List.replicate ((sh p.out).degree + 1) l) d l = List.replicate (d + 1) l :=
    fun l d => hrs _ _ _ (hP _ _ _)
  cases op <;> simp only [OpS.docDegree, OpS.docLevel] at hfirst ⊢ <;>
    simp only [OpS.resizesG, hfirst, setSh_self, hdeg, level_replicate, hsecond, degree_replicate] at h
  case addLike | rlweAut | rlwePTS =>
    split at h
    · exact Or.inl h.symm
    · exact Or.inr (Or.inr h.symm)
  case unaryBig => exact Or.inr (Or.inr h.symm)
  case ckksMul relin =>
    split at h
    · exact Or.inl h.symm
    · split at h
      · rename_i h11
        rw [if_pos h11]
        split at h
        · rename_i hp
          exact Or.inr (Or.inl ⟨hp.1, h.symm⟩)
        · exact Or.inr (Or.inr h.symm)
      · rename_i h11
        rw [if_neg h11]; exact Or.inr (Or.inr h.symm)
  case bgvMul relin =>
    split at h
    · exact Or.inl h.symm
    · split at h
      · exact Or.inl h.symm
      · split at h
        · rename_i h11
          rw [if_pos h11]
          split at h
          · rename_i hp
            exact Or.inr (Or.inl ⟨hp.1, h.symm⟩)
          · exact Or.inr (Or.inr h.symm)
        · rename_i h11
          rw [if_neg h11]; exact Or.inr (Or.inr h.symm)
  case bgvMulSI relin =>
    -- the scale-invariant product tests the operands one by one: both have degree 1 when neither has degree 0
    split at h
    · exact Or.inl h.symm
    · split at h
      · exact Or.inl h.symm
      · split at h
        · rw [if_neg (fun h11 => by omega)]; exact Or.inr (Or.inr h.symm)
        · rw [if_pos (by omega)]; exact Or.inr (Or.inr h.symm)

/-- the code without patch C09-7: `hrecv` excludes the case `Element.Resize` mishandles (`Value[0]` already at the target
    level, another polynomial not) -/
theorem shapeAfter_documented (op : OpS) (p : Pat) (sh : Nat → Shape)
    (hrecv : Uniform (sh p.out) ∨
      (sh p.out).level ≠ op.docLevel (sh p.op0).level (sh p.op1).level (sh p.out).level)
    (r : Shape) (hr : op.shapeAfter p sh = .ok r) :
    r = List.replicate (op.docDegree (sh p.op0).degree (sh p.op1).degree (sh p.out).degree + 1)
          (op.docLevel (sh p.op0).level (sh p.op1).level (sh p.out).level) :=
  Gen.ok_of_cases (shapeAfterG_cases resizeShape false (fun s l => s.level ≠ l ∨ Uniform s)
    (fun s d l h => resizeShape_replicate s d l h) (fun n l _ => Or.inr (uniform_replicate n l))
    op p sh hrecv.symm) hr

theorem docDegree_indepG (rs : Shape → Nat → Nat → Shape) (fix6 : Bool) (op : OpS) (p : Pat) (sh : Nat → Shape)
    (r : Shape) (hr : op.shapeAfterG rs fix6 p sh = .ok r)
    (d0 d1 : Nat) : op.docDegree d0 d1 (sh p.out).degree = op.docDegree d0 d1 1 := by
  cases op <;> simp only [OpS.docDegree]
  -- only Automorphism's documented degree mentions the receiver's: it accepts a receiver of degree 1 only
  case rlweAut =>
    unfold OpS.shapeAfterG OpS.resizesG at hr
    simp only at hr
    split at hr
    · rename_i s hs
      split at hs
      · cases hs
      · rename_i hc
        omega
    · rename_i hx
      split at hx
      · rename_i hc; simp [hc] at hr
      · exact absurd rfl (hx _)

/-- code WITH patches C09-6 and C09-7: the documented shape from ANY previous shape of the receiver -/
theorem shapeAfterFixed_documented (op : OpS) (p : Pat) (sh : Nat → Shape)
    (r : Shape) (hr : op.shapeAfterFixed p sh = .ok r) :
    r = List.replicate (op.docDegree (sh p.op0).degree (sh p.op1).degree (sh p.out).degree + 1)
          (op.docLevel (sh p.op0).level (sh p.op1).level (sh p.out).level) :=
  Gen.ok_of_cases (shapeAfterG_cases resizeShapeFixed true (fun _ _ => True)
    (fun s d l _ => resizeShapeFixed_replicate s d l) (fun _ _ _ => trivial) op p sh trivial) hr

set_option linter.unusedVariables false in  -- `hne`, `hne'` are not needed: `Resize` on shapes treats the empty shape like any other
/-- with both patches, any two receivers for which the documented level is the same give the same shape
    (`Props.C09.history_free_level_receivers` is this statement for the code before them, with `Uniform` receivers) -/
theorem history_free_level_fixed (op : OpS) (p : Pat) (sh sh' : Nat → Shape) (hne : ∀ o, sh o ≠ [])
    (hne' : ∀ o, sh' o ≠ []) (h0 : sh p.op0 = sh' p.op0) (h1 : sh p.op1 = sh' p.op1)
    (hl : op.docLevel (sh p.op0).level (sh p.op1).level (sh p.out).level =
          op.docLevel (sh p.op0).level (sh p.op1).level (sh' p.out).level)
    (r r' : Shape) (hr : op.shapeAfterFixed p sh = .ok r) (hr' : op.shapeAfterFixed p sh' = .ok r') : r = r' := by
  rw [shapeAfterFixed_documented op p sh r hr, shapeAfterFixed_documented op p sh' r' hr',
    ← h0, ← h1, ← hl, docDegree_indepG _ _ op p sh r hr, docDegree_indepG _ _ op p sh' r' hr']

end Lattigo.Store
