/-!
  Functions defined by `match name with | "k₀" => some v₀ | … | _ => none` on string literals, without
  ever comparing two strings by evaluation (`String.decEq` works on the UTF-8 bytes: dear in the
  elaborator and in the kernel, and a `k`-th row costs `k` comparisons).

  * Such a match elaborates to a chain of `dite (name = "kᵢ") …`; `chain name rows` is that term for a
    list of rows, so `f name = chain name rows` holds by unfolding `f` and its matcher, for a VARIABLE
    `name`.  `chain_of_mem` then reads a row off: distinct keys, `(k, v) ∈ rows` ⊢ `chain k rows = some v`.
  * A literal `"ab"` is by definition `String.ofList ['a', 'b']`.  `Enc L S` says that the strings `S` are
    the character lists `L`; for literals `L` is found by unification (`repeat constructor`), and the
    keys are distinct because the character lists are (`Enc.nodup`), which is decided on `L`; likewise they are in
    increasing order when the character lists are (`Enc.sorted`; `Enc₂`: row by row, for a table of rows of names).
  Core Lean only.
-/
namespace Lattigo.StringMatch

/-- the term `match name with | "k₀" => some v₀ | … | _ => none` elaborates to, for the rows `(kᵢ, vᵢ)` -/
def chain {α : Type} (name : String) : List (String × α) → Option α
  | [] => none
  | (k, v) :: t =>
    if h : name = k then Eq.ndrec_symm (motive := fun _ => Option α) (some v) h else chain name t

theorem chain_of_mem {α : Type} {k : String} {v : α} :
    ∀ {t : List (String × α)}, (t.map (·.1)).Nodup → (k, v) ∈ t → chain k t = some v
  | (k', v') :: t, hnd, h => by
    rw [List.map_cons, List.nodup_cons] at hnd
    unfold chain
    rcases List.mem_cons.1 h with h | h
    · cases h; rw [dif_pos rfl]
    · have : k ≠ k' := fun e => hnd.1 (e ▸ List.mem_map_of_mem (f := (·.1)) h)
      rw [dif_neg this]; exact chain_of_mem hnd.2 h

inductive Enc : List (List Char) → List String → Prop
  | nil : Enc [] []
  | cons {l L S} : Enc L S → Enc (l :: L) (String.ofList l :: S)

theorem Enc.eq {L S} : Enc L S → S = L.map String.ofList
  | .nil => rfl
  | .cons h => congrArg _ h.eq

theorem Enc.nodup {L S} (h : Enc L S) (hL : L.Nodup) : S.Nodup :=
  h.eq ▸ List.pairwise_map.2 (hL.imp fun hne e => hne (String.ofList_injective e))

/-- any function that tells the character lists apart will do to show them distinct
(`List.Pairwise.of_map`); numbers are compared much faster than characters -/
def charsCode (l : List Char) : Nat := l.foldl (fun a c => 256 * a + c.toNat) 0

theorem nodup_of_charsCode {L : List (List Char)} (h : (L.map charsCode).Nodup) : L.Nodup :=
  List.Pairwise.of_map charsCode (fun _ _ (h : charsCode _ ≠ charsCode _) e => h (congrArg _ e)) h

theorem Enc.sorted {L S} (h : Enc L S) (hL : L.Pairwise (· < ·)) : S.Pairwise (· < ·) :=
  h.eq ▸ List.pairwise_map.2 (hL.imp fun {a b} hlt => by
    rw [String.lt_iff, String.toList_ofList, String.toList_ofList]; exact hlt)

/-- `Enc` row by row -/
inductive Enc₂ : List (List (List Char)) → List (List String) → Prop
  | nil : Enc₂ [] []
  | cons {L S LL SS} : Enc L S → Enc₂ LL SS → Enc₂ (L :: LL) (S :: SS)

theorem Enc₂.sorted {LL SS} : Enc₂ LL SS → (∀ L ∈ LL, L.Pairwise (· < ·)) → ∀ S ∈ SS, S.Pairwise (· < ·)
  | .nil, _, _, h => nomatch h
  | .cons h t, hL, S, hS => by
    rcases List.mem_cons.1 hS with rfl | hS
    · exact h.sorted (hL _ (List.mem_cons_self ..))
    · exact t.sorted (fun L hm => hL L (List.mem_cons_of_mem _ hm)) S hS

end Lattigo.StringMatch
