/-
  C01, wrapper tie: the hand-written dispatch table `Vec.op` (Model/Vec.lean: SubRing method name ↦
  kernel lane, constants, argument order) agrees with the tables REGENERATED from
  /repo/ring/subring_ops.go (`Gen.subRingOps`, `Gen.SubRing_<Method>_lane`, `Gen.subRingTable3/2`).

  `Vec.op s name …` is, for a variable `name`, the if-chain over the regenerated rows (`op_eq_chain`, by
  unfolding; Proofs/StringMatch.lean), hence the lookup in them (`op_of_mem`); the table ties are its
  instances.  A wrapper that calls another kernel, or hands `s.Modulus` / `s.MRedConstant` /
  `s.BRedConstant` or its own parameters to the kernel in another order, changes
  `Gen.SubRing_<Method>_lane` and breaks `op_eq_chain`; a method that is added, removed or renamed
  changes the lists the theorems quantify over (and the order `opOrder`).  Core Lean only.

  Calling convention (the one of `Vec.op` and of the driver line `vec name q s0 s1 p1 p2 p3`): a
  3-slice method receives `p1 p2 p3`, a 2-slice method `p1 p3` (the output slice, whose previous
  content accumulating kernels read, is always `p3`); the word parameters, in Go order, are `s0 s1`;
  `s.Modulus, s.MRedConstant, s.BRedConstant` are the fields `q, qinv, bred` of the `Sub`.
-/
import Lattigo.Gen.SubRingOps
import Lattigo.Model.Vec
import Lattigo.Proofs.StringMatch

namespace Lattigo.Vec
open Lattigo Lattigo.Gen Lattigo.StringMatch

/-- merge two lists: `true` takes the next element of the first, `false` of the second -/
def weave {α : Type} : List Bool → List α → List α → List α
  | true :: p, a :: A, B => a :: weave p A B
  | false :: p, A, b :: B => b :: weave p A B
  | _, A, B => A ++ B

theorem weave_perm {α : Type} (p : List Bool) (A B : List α) : (weave p A B).Perm (A ++ B) := by
  fun_induction weave p A B with
  | case1 p a A B ih => exact ih.cons a
  | case2 p A b B ih => exact (ih.cons b).trans List.perm_middle.symm
  | case3 => exact .refl _

def rows3 (s : Sub) (p1 p2 p3 : List Nat) (s0 s1 : Nat) : List (String × List Nat) :=
  (subRingTable3 s.q s.qinv s.bred s0 s1).map fun e => (e.1, map3 e.2 p1 p2 p3)
def rows2 (s : Sub) (p1 p3 : List Nat) (s0 s1 : Nat) : List (String × List Nat) :=
  (subRingTable2 s.q s.qinv s.bred s0 s1).map fun e => (e.1, map2 e.2 p1 p3)
/-- the two names `Vec.op` knows that are not SubRing methods but the package-level kernels `ZeroVec`,
    `MaskVec` themselves (ring/vec_ops.go), applied directly -/
def rows0 (p1 p3 : List Nat) (s0 s1 : Nat) : List (String × List Nat) :=
  [("ZeroVec", map1 (fun a => ZeroVec_lane a) p1),
   ("MaskVec", map2 (fun a c => MaskVec_lane a s0 s1 c) p1 p3)]

/-- the order in which `Vec.op` (that of ring/subring_ops.go) takes the 3-slice (`true`) and the
    2-slice wrappers.  When a wrapper is added, removed or moved in ring/subring_ops.go, `op_eq_chain` below
    breaks; the list is then `(subRingOps.map (·.1)).map (subRingNames3.contains ·)`, with `Vec.op`
    brought to the order of `subRingOps`. -/
def opOrder : List Bool :=
  [true, true, true, true, false, false, false] ++ List.replicate 16 true ++ List.replicate 9 false
    ++ [true, false, false, false]

theorem op_eq_chain (s : Sub) (name : String) (p1 p2 p3 : List Nat) (s0 s1 : Nat) :
    Vec.op s name p1 p2 p3 s0 s1
      = chain name (weave opOrder (rows3 s p1 p2 p3 s0 s1) (rows2 s p1 p3 s0 s1) ++ rows0 p1 p3 s0 s1) := by
  -- the matcher has to be named: the elaborator's `rfl` does not unfold a matcher that is stuck on a
  -- variable, although the two sides are the same term after unfolding (the kernel needs nothing more)
  unfold Vec.op Vec.op.match_1
  rfl

theorem rows_names_nodup : (subRingNames3 ++ subRingNames2 ++ ["ZeroVec", "MaskVec"]).Nodup :=
  Enc.nodup (L := _) (by repeat constructor) (nodup_of_charsCode (by decide +kernel))

theorem op_of_mem {s : Sub} {p1 p2 p3 : List Nat} {s0 s1 : Nat} {k : String} {v : List Nat}
    (h : (k, v) ∈ rows3 s p1 p2 p3 s0 s1 ++ rows2 s p1 p3 s0 s1 ++ rows0 p1 p3 s0 s1) :
    Vec.op s k p1 p2 p3 s0 s1 = some v := by
  have hp := (weave_perm opOrder (rows3 s p1 p2 p3 s0 s1) (rows2 s p1 p3 s0 s1)).append_right
    (rows0 p1 p3 s0 s1)
  rw [op_eq_chain]
  exact chain_of_mem ((hp.map _).nodup_iff.2 rows_names_nodup) (hp.mem_iff.2 h)

theorem vecOp_table3 (s : Sub) (p1 p2 p3 : List Nat) (s0 s1 : Nat) :
    ∀ e ∈ subRingTable3 s.q s.qinv s.bred s0 s1,
      Vec.op s e.1 p1 p2 p3 s0 s1 = some (map3 e.2 p1 p2 p3) := fun _ he =>
  op_of_mem (List.mem_append_left _ (List.mem_append_left _
    (List.mem_map_of_mem (f := fun e => (e.1, map3 e.2 p1 p2 p3)) he)))

theorem vecOp_table2 (s : Sub) (p1 p2 p3 : List Nat) (s0 s1 : Nat) :
    ∀ e ∈ subRingTable2 s.q s.qinv s.bred s0 s1,
      Vec.op s e.1 p1 p2 p3 s0 s1 = some (map2 e.2 p1 p3) := fun _ he =>
  op_of_mem (List.mem_append_left _ (List.mem_append_right _
    (List.mem_map_of_mem (f := fun e => (e.1, map2 e.2 p1 p3)) he)))

/-- `Gen.subRingOps` is the string table (method, kernel, actual arguments) of the 36 wrappers -/
theorem subRingOps_names_cover :
    (subRingOps.map (·.1)).Perm (subRingNames3 ++ subRingNames2) :=
  -- the numbers are the positions in `subRingOps` of the 3-slice and of the 2-slice wrappers (in the
  -- order of `subRingNames3`, `subRingNames2`): the strings are then compared literal against literal
  -- (by `rfl`) and only a permutation of numbers is decided.  The tables are regenerated: a wrapper
  -- added, removed or moved in ring/subring_ops.go is meant to break this proof; the positions are
  -- then `subRingNames3.map ((subRingOps.map (·.1)).idxOf ·)`, likewise for `subRingNames2`
  ((by decide : (List.range 36).Perm
      (([0, 1, 2, 3] ++ List.range' 7 16 ++ [32])
        ++ ([4, 5, 6] ++ List.range' 23 9 ++ [33, 34, 35]))).map
    (fun i => (subRingOps.map (·.1)).getD i "") :)

theorem vecOp_table (s : Sub) (p1 p2 p3 : List Nat) (s0 s1 : Nat) :
    ∀ name ∈ subRingOps.map (·.1),
      (∃ f, (name, f) ∈ subRingTable3 s.q s.qinv s.bred s0 s1
          ∧ Vec.op s name p1 p2 p3 s0 s1 = some (map3 f p1 p2 p3))
      ∨ (∃ f, (name, f) ∈ subRingTable2 s.q s.qinv s.bred s0 s1
          ∧ Vec.op s name p1 p2 p3 s0 s1 = some (map2 f p1 p3)) := by
  intro name h
  have h' := (subRingOps_names_cover.mem_iff).1 h
  rw [List.mem_append, ← subRingTable3_names s.q s.qinv s.bred s0 s1,
    ← subRingTable2_names s.q s.qinv s.bred s0 s1] at h'
  rcases h' with h' | h'
  · obtain ⟨e, he, rfl⟩ := List.mem_map.1 h'
    exact Or.inl ⟨e.2, he, vecOp_table3 s p1 p2 p3 s0 s1 e he⟩
  · obtain ⟨e, he, rfl⟩ := List.mem_map.1 h'
    exact Or.inr ⟨e.2, he, vecOp_table2 s p1 p2 p3 s0 s1 e he⟩

theorem vecOp_ZeroVec (s : Sub) (p1 p2 p3 : List Nat) (s0 s1 : Nat) :
    Vec.op s "ZeroVec" p1 p2 p3 s0 s1 = some (map1 (fun a => ZeroVec_lane a) p1) :=
  op_of_mem (List.mem_append_right _ (.head _))
theorem vecOp_MaskVec (s : Sub) (p1 p2 p3 : List Nat) (s0 s1 : Nat) :
    Vec.op s "MaskVec" p1 p2 p3 s0 s1 = some (map2 (fun a c => MaskVec_lane a s0 s1 c) p1 p3) :=
  op_of_mem (List.mem_append_right _ (.tail _ (.head _)))

example : subRingOps.length = 36 := by decide
example : ("Add", "addvec", ["p1", "p2", "p3", "s.Modulus"]) ∈ subRingOps := by decide
example : SubRing_Add_lane 97 0 (0, 0) 96 3 0 = 2 := by decide

end Lattigo.Vec
