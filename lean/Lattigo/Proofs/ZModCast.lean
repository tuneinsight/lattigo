import Mathlib.Data.ZMod.Basic
/-!
  Between numbers and their casts to `ZMod q` (for integers: to any ring in which `q = 0`): the last step of every
  proof that computes in `ZMod q` and concludes about reduced words.
-/
namespace Lattigo

theorem cast_of_mod {q A B : Nat} (h : A % q = B % q) : (A : ZMod q) = (B : ZMod q) :=
  (ZMod.natCast_eq_natCast_iff' A B q).mpr h

theorem mod_of_cast {q A B : Nat} (h : (A : ZMod q) = (B : ZMod q)) : A % q = B % q :=
  (ZMod.natCast_eq_natCast_iff' A B q).mp h

theorem eq_of_cast_eq {q a b : Nat} (ha : a < q) (hb : b < q) (h : (a : ZMod q) = (b : ZMod q)) :
    a = b := by
  have := mod_of_cast h
  rwa [Nat.mod_eq_of_lt ha, Nat.mod_eq_of_lt hb] at this

theorem map_cast_inj {q : ℕ} : ∀ (l1 l2 : List ℕ), (∀ x ∈ l1, x < q) → (∀ x ∈ l2, x < q) →
    l1.map (Nat.cast : ℕ → ZMod q) = l2.map (Nat.cast : ℕ → ZMod q) → l1 = l2
  | [], [], _, _, _ => rfl
  | [], _ :: _, _, _, h => by simp at h
  | _ :: _, [], _, _, h => by simp at h
  | x :: l1, y :: l2, h1, h2, h => by
    simp only [List.map_cons, List.cons.injEq] at h
    rw [eq_of_cast_eq (h1 x List.mem_cons_self) (h2 y List.mem_cons_self) h.1,
      map_cast_inj l1 l2 (fun z hz => h1 z (List.mem_cons_of_mem _ hz))
        (fun z hz => h2 z (List.mem_cons_of_mem _ hz)) h.2]

theorem intCast_emod_eq {F : Type*} [Ring F] {q : ℕ} (hq : ((q : ℕ) : F) = 0) {a b : ℤ}
    (h : a % (q : ℤ) = b % (q : ℤ)) : (a : F) = (b : F) := by
  rw [← Int.mul_ediv_add_emod a (q : ℤ), ← Int.mul_ediv_add_emod b (q : ℤ), h]
  simp only [Int.cast_add, Int.cast_mul, Int.cast_natCast, hq, zero_mul]

theorem cast_emod_toNat {F : Type*} [Ring F] {q : ℕ} (hq : ((q : ℕ) : F) = 0) (hpos : 0 < q) (x : ℤ) :
    (((x % (q : ℤ)).toNat : ℕ) : F) = (x : F) := by
  rw [← Int.cast_natCast, Int.toNat_of_nonneg (Int.emod_nonneg _ (by omega))]
  exact intCast_emod_eq hq (Int.emod_emod_of_dvd x (dvd_refl _))

theorem map_mulmod_cast (t s : ℕ) (a : List ℕ) :
    (a.map fun x => x * s % t).map (Nat.cast : ℕ → ZMod t) = (a.map (Nat.cast : ℕ → ZMod t)).map (· * (s : ZMod t)) := by
  rw [List.map_map, List.map_map]
  exact List.map_congr_left fun x _ => by simp only [Function.comp]; rw [ZMod.natCast_mod, Nat.cast_mul]

end Lattigo
