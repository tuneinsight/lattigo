import Lattigo.Proofs.Aut
import Lattigo.Proofs.RPolyRing
import Lattigo.Props.C01NTT
/-!
  # C01 — ring automorphisms `σ_g : a(X) ↦ a(X^g)` (property theorems)

  * `autIndex_spec` — closed form of the table of `ring.AutomorphismNTTIndex`; the definition it is
    about, `Gen.AutomorphismNTTIndex`, is REGENERATED from /repo/ring/automorphism.go by tools/go2lean
    on every `./check` (and is the one the driver executes for the op `autidx`); `bitRev64`
    (`utils.BitReverse64`, checked against utils/utils.go by the translator) is shown to be the
    `k`-bit reversal `NTT.bitRev`.
  * `autNTT_spec` — the NTT of `σ_g a` is the NTT of `a` permuted by that table
    (what `ring.AutomorphismNTTWithIndex` does: `out[i] = in[index[i]]`).
  * `aut_comp` — `σ_g ∘ σ_h = σ_{gh mod 2N}` for the coefficient-domain model `RPoly.rowAut` /
    `RPoly.aut` (`ring.Automorphism`).
-/
namespace Lattigo.Props.C01Aut
open Lattigo Lattigo.Gen Lattigo.NTT

/-- `utils.BitReverse64(x, k) = bits.Reverse64(x) >> (64 − k)` reverses the `k` low bits of `x`
(`k ≤ 64`, every `x`) -/
theorem bitRev64_spec (x k : ℕ) (hk : k ≤ 64) : bitRev64 x k = bitRev x k := bitRev64_eq x k hk

/-- Any power-of-two `N = 2^K`, `NthRoot = 2^m`, `1 ≤ m ≤ 64` (`m = K+1` is the
standard ring, `m = K+2` the conjugate-invariant one), odd `GalEl`: `AutomorphismNTTIndex` returns no
error and `index[i] = brv((GalEl·(2·brv(i)+1) mod NthRoot − 1)/2)`, `brv` = reversal of `m−1` bits. -/
theorem autIndex_spec (K m gal : ℕ) (hK : K < 64) (hm1 : 1 ≤ m) (hm : m ≤ 64) (hodd : gal % 2 = 1) :
    AutomorphismNTTIndex (2 ^ K) (2 ^ m) gal
      = some ((List.range (2 ^ K)).map fun i =>
          bitRev ((gal * (2 * bitRev i (m - 1) + 1) % 2 ^ m - 1) / 2) (m - 1)) :=
  AutomorphismNTTIndex_eq K m gal hK hm1 hm hodd

/-- standard ring (`NthRoot = 2N`): entries are `< N` and
`2·brv(index[i]) + 1 ≡ GalEl·(2·brv(i)+1) (mod 2N)` — the table sends the exponent of the `i`-th NTT
evaluation point `ψ^{2·brv(i)+1}` to that exponent times `GalEl`. -/
theorem autIndex_std (K gal : ℕ) (hK : K < 63) (hodd : gal % 2 = 1) :
    ∃ index, AutomorphismNTTIndex (2 ^ K) (2 ^ (K + 1)) gal = some index
      ∧ index.length = 2 ^ K
      ∧ ∀ i, i < 2 ^ K → index.getD i 0 < 2 ^ K
          ∧ 2 * bitRev (index.getD i 0) K + 1 = gal * (2 * bitRev i K + 1) % 2 ^ (K + 1) := by
  refine ⟨_, AutomorphismNTTIndex_eq K (K + 1) gal (by omega) (by omega) (by omega) hodd, by simp, ?_⟩
  intro i hi
  have hget : ((List.range (2 ^ K)).map (autIdx (K + 1) gal)).getD i 0 = autIdx (K + 1) gal i := by
    rw [List.getD_eq_getElem?_getD, List.getElem?_eq_getElem (by simpa using hi)]; simp
  rw [hget]
  have h1 := autIdx_lt (K + 1) gal i
  have h2 := autIdx_exponent (K + 1) gal i (by omega) hodd
  simp only [Nat.add_sub_cancel] at h1 h2
  exact ⟨h1, h2⟩

/-- `ring.AutomorphismNTTWithIndex` on one row: `out[i] = in[index[i]]` -/
def permuteByIndex (index y : List ℕ) : List ℕ := index.map fun j => y.getD j 0

/-- With the tables the code generates for a prime `q ≡ 1 (mod 2N)`, `N = 2^K ≥ 2`,
and odd `gal`: the forward NTT of `σ_gal a` (`RPoly.rowAut gal q a`, the coefficient-domain
automorphism) is the forward NTT of `a` permuted by the table `AutomorphismNTTIndex(N, 2N, gal)`:
`NTT(σ_gal a) = [NTT(a)[index[0]], …, NTT(a)[index[N−1]]]`. -/
theorem autNTT_spec (K q g gal : ℕ) (hK : 1 ≤ K) (hq : q.Prime) (h8 : 8 * q ≤ W)
    (hdiv : 2 ^ (K + 1) ∣ q - 1) (hg : g ^ ((q - 1) / 2) % q = q - 1) (hgal : gal % 2 = 1)
    (a : List ℕ) (hlen : a.length = 2 ^ K) (ha : ∀ x ∈ a, x < q)
    (index : List ℕ) (hidx : AutomorphismNTTIndex (2 ^ K) (2 ^ (K + 1)) gal = some index) :
    nttStd (mkTables (2 ^ K) q (2 ^ (K + 1)) g) (RPoly.rowAut gal q a)
      = permuteByIndex index (nttStd (mkTables (2 ^ K) q (2 ^ (K + 1)) g) a) := by
  -- `2^(K+1) ≤ q − 1 < 2^61`
  have hK64 : K + 1 < 64 := by
    have h1 : 2 ^ (K + 1) ≤ q - 1 := Nat.le_of_dvd (by have := hq.two_le; omega) hdiv
    have h2 : 2 ^ (K + 1) < 2 ^ 64 := by unfold W at h8; omega
    exact (Nat.pow_lt_pow_iff_right (by norm_num)).1 h2
  rw [AutomorphismNTTIndex_eq K (K + 1) gal (by omega) (by omega) (by omega) hgal] at hidx
  obtain rfl := Option.some.inj hidx
  obtain ⟨hT, _, hψ, hF⟩ := mkTables_all K q g hq h8 hdiv hg
  have := hT.fact
  refine (nttStd_rowAut hT _ hK hψ hF gal hgal a hlen ha).trans ?_
  unfold permuteByIndex
  rw [List.map_map]; rfl

/-- One row: `σ_g(σ_h a) = σ_{g·h mod 2N} a` for odd `g, h`, `N = 2^K`, entries `< q`. -/
theorem aut_comp_row (K g h q : ℕ) (a : List ℕ) (hlen : a.length = 2 ^ K) (hg : g % 2 = 1)
    (hh : h % 2 = 1) (ha : ∀ v ∈ a, v < q) :
    RPoly.rowAut g q (RPoly.rowAut h q a) = RPoly.rowAut (g * h % (2 * 2 ^ K)) q a := by
  have hq : 0 < q := by
    obtain ⟨v, hv⟩ := List.exists_mem_of_length_pos (hlen ▸ Nat.two_pow_pos K : 0 < a.length)
    exact Nat.lt_of_le_of_lt (Nat.zero_le v) (ha v hv)
  exact RPolyRing.rowAut_comp hq Nat.one_le_two_pow g h (Nat.odd_iff.2 hg) (Nat.odd_iff.2 hh)
    (RPolyRing.odd_coprime_two_pow hg K) (RPolyRing.odd_coprime_two_pow hh K) ⟨hlen, ha⟩

theorem mapRows_mapRows (F G : ℕ → List ℕ → List ℕ) (a : RPoly) :
    RPoly.mapRows F (RPoly.mapRows G a) = RPoly.mapRows (fun q x => F q (G q x)) a := by
  unfold RPoly.mapRows
  simp only [RPoly.mk.injEq, true_and]
  generalize a.qs = qs
  generalize a.c = c
  induction qs generalizing c with
  | nil => simp
  | cons q qs ih =>
    cases c with
    | nil => simp
    | cons x c => simp [ih c]

/-- RNS polynomial: on a well-formed `a` (every row of length `N = 2^K` with entries below
its modulus), `aut (aut a h) g = aut a (g·h mod 2N)`. -/
theorem aut_comp (K g h : ℕ) (a : RPoly) (hg : g % 2 = 1) (hh : h % 2 = 1)
    (hwf : ∀ p ∈ a.qs.zip a.c, p.2.length = 2 ^ K ∧ ∀ v ∈ p.2, v < p.1) :
    RPoly.aut (RPoly.aut a h) g = RPoly.aut a (g * h % (2 * 2 ^ K)) := by
  unfold RPoly.aut
  rw [mapRows_mapRows]
  unfold RPoly.mapRows
  simp only [RPoly.mk.injEq, true_and]
  apply List.map_congr_left
  intro p hp
  obtain ⟨hl, hv⟩ := hwf p hp
  exact aut_comp_row K g h p.1 p.2 hl hg hh hv

/-- TEST (evaluation): the table for `N = 8`, `GalEl = 5` and `GalEl = 2N − 1 = 15` (conjugation) -/
example : AutomorphismNTTIndex 8 16 5 = some [2, 3, 1, 0, 7, 6, 4, 5] := by decide +kernel
example : AutomorphismNTTIndex 8 16 15 = some [7, 6, 5, 4, 3, 2, 1, 0] := by decide +kernel
/-- error returns: `N` resp. `NthRoot` not a power of two -/
example : AutomorphismNTTIndex 6 16 5 = none := by decide
example : AutomorphismNTTIndex 8 12 5 = none := by decide
/-- `bitRev64` on a full 64-bit word -/
example : bitRev64 1 64 = 2 ^ 63 := by decide

/-- non-vacuity of `autNTT_spec`: `q = q61`, `N = 16`, `g = 37` (hypotheses as in `C01NTT`) -/
example (gal : ℕ) (hgal : gal % 2 = 1) (a : List ℕ) (hlen : a.length = 2 ^ 4)
    (ha : ∀ x ∈ a, x < C01NTT.q61) (index : List ℕ)
    (hidx : AutomorphismNTTIndex (2 ^ 4) (2 ^ 5) gal = some index) :
    nttStd (mkTables (2 ^ 4) C01NTT.q61 (2 ^ 5) 37) (RPoly.rowAut gal C01NTT.q61 a)
      = permuteByIndex index (nttStd (mkTables (2 ^ 4) C01NTT.q61 (2 ^ 5) 37) a) :=
  autNTT_spec 4 C01NTT.q61 37 gal (by decide) C01NTT.q61_prime (by decide) (by decide)
    C01NTT.q61_nonresidue hgal a hlen ha index hidx

/-- TEST (evaluation, Fermat prime `65537`, `N = 16`, `gal = 5`): both sides computed -/
example : nttStd (mkTables 16 65537 32 3) (RPoly.rowAut 5 65537 ((List.range 16).map (· + 1)))
    = permuteByIndex ((AutomorphismNTTIndex 16 32 5).getD [])
        (nttStd (mkTables 16 65537 32 3) ((List.range 16).map (· + 1))) := by decide +kernel

/-- non-vacuity of `aut_comp`: a 2-row polynomial of degree 8 -/
example : RPoly.aut (RPoly.aut { qs := [97, 193], c := [[1, 2, 3, 4, 5, 6, 7, 8], [8, 7, 6, 5, 4, 3, 2, 1]] } 3) 5
    = RPoly.aut { qs := [97, 193], c := [[1, 2, 3, 4, 5, 6, 7, 8], [8, 7, 6, 5, 4, 3, 2, 1]] } (5 * 3 % (2 * 2 ^ 3)) :=
  aut_comp 3 5 3 _ (by decide) (by decide) (by decide)

/-- the hypothesis "entries `< q`" of `aut_comp` is needed: on the non-reduced row `[q, 0]` a double
negation does not give the entry back (`σ_3 σ_3 = σ_1` on `N = 2`) -/
example : RPoly.rowAut 3 5 (RPoly.rowAut 3 5 [0, 5]) ≠ RPoly.rowAut (3 * 3 % (2 * 2 ^ 1)) 5 [0, 5] := by
  decide

end Lattigo.Props.C01Aut

#print axioms Lattigo.Props.C01Aut.bitRev64_spec
#print axioms Lattigo.Props.C01Aut.autIndex_spec
#print axioms Lattigo.Props.C01Aut.autIndex_std
#print axioms Lattigo.Props.C01Aut.autNTT_spec
#print axioms Lattigo.Props.C01Aut.aut_comp_row
#print axioms Lattigo.Props.C01Aut.mapRows_mapRows
#print axioms Lattigo.Props.C01Aut.aut_comp
