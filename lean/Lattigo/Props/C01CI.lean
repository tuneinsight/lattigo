import Driver.C01
import Lattigo.Proofs.NTTCI
import Mathlib.Data.Nat.Prime.Basic
import Mathlib.FieldTheory.Finite.Basic
import Mathlib.GroupTheory.OrderOfElement
/-!
  # C01 — which rings are constructed (acceptance predicate) and why the test is `q ≡ 1 (mod NthRoot)`

  The executable predicate `Driver.C01.accept n nthRoot qs` (run by the driver op `accept` and tied,
  constructor by constructor, to `ring.NewRing`, `NewRingConjugateInvariant`, `NewRingFromType`,
  `NewRingWithCustomNTT`, `Ring.UnmarshalJSON/UnmarshalBinary`, `Ring.StandardRing`,
  `Ring.ConjugateInvariantRing` by harness/c01_ci.go) is the documented contract:

  * `accept_iff` — `accept n (2^m) qs` ⇔ `n = 2^K` with `K ≥ 3`, `qs` non-empty and without
    repetition, every `q ∈ qs` a prime with `q ≡ 1 (mod 2^m)` (`2^m = NthRoot`: `2N` standard ring,
    `4N` conjugate-invariant ring, or a custom order);
  * `accept_psi_primitive` — for an accepted modulus and a primitive root `g` (what
    `ring.PrimitiveRoot` returns), `ψ = g^((q−1)/NthRoot) mod q` computed by the model's `modExp`
    (`generateNTTConstants`) has multiplicative order exactly `NthRoot`, and `ψ^(NthRoot/2) = −1`;
  * `refused_no_primitive_root` — for a prime that is NOT `≡ 1 (mod NthRoot)` (in particular one that
    is `≡ 1 (mod NthRoot/2)` only: `N = 16, q = 97` for the conjugate-invariant ring) NO element of
    `Z_q` has order `NthRoot`: no table can make the transform correct, the refusal is necessary;
  * `accept_tables_std`, `accept_tables_ci` — accepted ⇒ the tables `mkTables` generates satisfy
    `Valid` / `ValidCI` and the table invariant, the hypotheses of `intt_ntt`, `ntt_mul`,
    `intt_ntt_ci`, `ntt_ci_sem` (`Props/C01NTT.lean`).
-/
namespace Lattigo.Props.C01CI
open Lattigo Lattigo.NTT Driver.C01

theorem noDivFrom_iff (q : ℕ) : ∀ (fuel d : ℕ),
    noDivFrom q fuel d = true ↔ ∀ m, d ≤ m → m < d + fuel → m * m ≤ q → ¬ m ∣ q
  | 0, d => by
    simp only [noDivFrom, true_iff]
    intro m h1 h2; omega
  | fuel + 1, d => by
    unfold noDivFrom
    by_cases h1 : d * d > q
    · simp only [h1, if_true, true_iff]
      intro m hm _ hmq
      have : d * d ≤ m * m := Nat.mul_le_mul hm hm
      omega
    · simp only [h1, if_false]
      by_cases h2 : q % d = 0
      · simp only [h2, if_true, Bool.false_eq_true, false_iff]
        intro h
        exact h d (le_refl d) (by omega) (by omega) (Nat.dvd_of_mod_eq_zero h2)
      · simp only [h2, if_false]
        rw [noDivFrom_iff q fuel (d + 1)]
        constructor
        · intro h m hm1 hm2 hmq
          rcases Nat.eq_or_lt_of_le hm1 with heq | hlt
          · subst heq
            intro hdvd
            exact h2 (Nat.mod_eq_zero_of_dvd hdvd)
          · exact h m hlt (by omega) hmq
        · intro h m hm1 hm2 hmq
          exact h m (by omega) (by omega) hmq

/-- the model's `IsPrime` (trial division) is primality -/
theorem primeTD_iff (q : ℕ) : primeTD q = true ↔ q.Prime := by
  unfold primeTD
  rw [Bool.and_eq_true, decide_eq_true_iff, noDivFrom_iff, Nat.prime_def_le_sqrt]
  constructor
  · rintro ⟨h2, h⟩
    refine ⟨h2, fun m hm hs => h m hm ?_ ?_⟩
    · have := Nat.sqrt_le_self q; omega
    · exact Nat.le_sqrt.1 hs
  · rintro ⟨h2, h⟩
    exact ⟨h2, fun m hm _ hmq => h m hm (Nat.le_sqrt.2 hmq)⟩

/-- `N ≥ 8` and `N & (N−1) = 0` ⇔ `N = 2^K`, `K ≥ 3` -/
theorem acceptDegree_iff (n : ℕ) : acceptDegree n = true ↔ ∃ K, 3 ≤ K ∧ n = 2 ^ K := by
  unfold acceptDegree
  simp only [Bool.not_eq_true', Bool.or_eq_false_iff, decide_eq_false_iff_not, bne_eq_false_iff_eq,
    Nat.not_lt]
  constructor
  · rintro ⟨h8, hand⟩
    obtain ⟨K, rfl⟩ := (Nat.and_sub_one_eq_zero_iff_isPowerOfTwo (by omega)).1 hand
    refine ⟨K, ?_, rfl⟩
    by_contra hK
    have : K ≤ 2 := by omega
    have := Nat.pow_le_pow_right (show 0 < 2 by norm_num) this
    omega
  · rintro ⟨K, hK, rfl⟩
    refine ⟨?_, (Nat.and_sub_one_eq_zero_iff_isPowerOfTwo (by positivity)).2 ⟨K, rfl⟩⟩
    have := Nat.pow_le_pow_right (show 0 < 2 by norm_num) hK
    omega

/-- for `NthRoot = 2^m` the bit test `q & (NthRoot−1) = 1` is `q ≡ 1 (mod NthRoot)` -/
theorem acceptModulus_iff (m q : ℕ) : acceptModulus (2 ^ m) q = true ↔ q.Prime ∧ q % 2 ^ m = 1 := by
  unfold acceptModulus
  rw [Bool.and_eq_true, primeTD_iff, beq_iff_eq, Nat.and_two_pow_sub_one_eq_mod]

theorem allDistinct_iff : ∀ l : List ℕ, allDistinct l = true ↔ l.Nodup
  | [] => by simp [allDistinct]
  | x :: xs => by
    simp only [allDistinct, Bool.and_eq_true, Bool.not_eq_true', List.nodup_cons, allDistinct_iff xs]
    constructor
    · rintro ⟨h1, h2⟩
      exact ⟨by simpa using h1, h2⟩
    · rintro ⟨h1, h2⟩
      exact ⟨by simpa using h1, h2⟩

/-- the acceptance predicate is the documented contract -/
theorem accept_iff (n m : ℕ) (qs : List ℕ) :
    accept n (2 ^ m) qs = true ↔
      (∃ K, 3 ≤ K ∧ n = 2 ^ K) ∧ qs ≠ [] ∧ qs.Nodup ∧ ∀ q ∈ qs, q.Prime ∧ q % 2 ^ m = 1 := by
  unfold accept
  simp only [Bool.and_eq_true, acceptDegree_iff, allDistinct_iff, List.all_eq_true, acceptModulus_iff,
    Bool.not_eq_true', List.isEmpty_eq_false_iff]
  tauto

theorem dvd_of_mod_eq_one {q d : ℕ} (hq : 1 ≤ q) (h : q % d = 1) : d ∣ q - 1 := by
  have := Nat.div_add_mod q d
  exact ⟨q / d, by omega⟩

/-- For an accepted modulus `q < 2^64`, `NthRoot = 2^m ≥ 2` and a primitive root
`g` mod `q`, the value `ψ = modExp g ((q−1)/NthRoot) q` that `generateNTTConstants` computes (the
model's `mkTables`) has order exactly `NthRoot` in `Z_q`, and `ψ^(NthRoot/2) = −1`. -/
theorem accept_psi_primitive (m q g : ℕ) (hm : 1 ≤ m) (hacc : acceptModulus (2 ^ m) q = true)
    (hW : q < 2 ^ 64) (hg : orderOf ((g : ℕ) : ZMod q) = q - 1) :
    orderOf ((modExp g ((q - 1) / 2 ^ m) q : ℕ) : ZMod q) = 2 ^ m
    ∧ ((modExp g ((q - 1) / 2 ^ m) q : ℕ) : ZMod q) ^ (2 ^ m / 2) = -1 := by
  obtain ⟨hq, hmod⟩ := (acceptModulus_iff m q).1 hacc
  have : Fact q.Prime := ⟨hq⟩
  have hq2 := hq.two_le
  have hdvd : 2 ^ m ∣ q - 1 := dvd_of_mod_eq_one (by omega) hmod
  obtain ⟨k, hk⟩ := hdvd
  have hpos : 0 < 2 ^ m := by positivity
  have hk0 : k ≠ 0 := by
    rintro rfl
    omega
  have hdiv : (q - 1) / 2 ^ m = k := by rw [hk, Nat.mul_div_cancel_left _ hpos]
  have he : (q - 1) / 2 ^ m < 2 ^ 64 := lt_of_le_of_lt (Nat.div_le_self _ _) (by omega)
  have hcast : ((modExp g ((q - 1) / 2 ^ m) q : ℕ) : ZMod q) = ((g : ℕ) : ZMod q) ^ k := by
    rw [modExp_spec g _ q (by omega) he, ZMod.natCast_mod, Nat.cast_pow, hdiv]
  have hord : orderOf (((g : ℕ) : ZMod q) ^ k) = 2 ^ m := by
    rw [orderOf_pow_of_dvd hk0 (by rw [hg, hk]; exact Dvd.intro_left _ rfl), hg, hk,
      Nat.mul_div_cancel _ (Nat.pos_of_ne_zero hk0)]
  rw [hcast]
  obtain ⟨m', rfl⟩ : ∃ m', m = m' + 1 := ⟨m - 1, by omega⟩
  rw [Nat.pow_succ, Nat.mul_div_cancel _ (by norm_num)]
  exact ⟨hord, pow_eq_neg_one_of_orderOf _ _ (by positivity) (by rw [hord, Nat.pow_succ, Nat.mul_comm])⟩

/-- If the prime `q` is not `≡ 1 (mod NthRoot)`, `NthRoot = 2^m ≥ 2`
(e.g. `q ≡ 1 (mod NthRoot/2)` only), `Z_q` contains NO element of order `NthRoot`: whatever `ψ` the
constructor computes, it is not a primitive `NthRoot`-th root of unity and the transform cannot be
the NTT of the ring.  The refusal of such a modulus is necessary, not a convention. -/
theorem refused_no_primitive_root (m q : ℕ) (hm : 1 ≤ m) (hq : q.Prime) (hmod : q % 2 ^ m ≠ 1)
    (x : ZMod q) : orderOf x ≠ 2 ^ m := by
  have : Fact q.Prime := ⟨hq⟩
  intro hord
  have hpos : 0 < 2 ^ m := by positivity
  have hx0 : x ≠ 0 := by
    rintro rfl
    have h0 : orderOf (0 : ZMod q) = 0 := by
      rw [orderOf_eq_zero_iff']
      intro n hn
      rw [zero_pow (by omega)]
      exact zero_ne_one
    omega
  have hdvd : 2 ^ m ∣ q - 1 := by
    rw [← hord]
    exact ZMod.orderOf_dvd_card_sub_one hx0
  obtain ⟨k, hk⟩ := hdvd
  apply hmod
  have hq2 := hq.two_le
  have hq' : q = 2 ^ m * k + 1 := by omega
  have h1 : 1 < 2 ^ m := Nat.one_lt_two_pow (by omega)
  rw [hq', Nat.mul_add_mod, Nat.mod_eq_of_lt h1]

theorem accept_dvd (m q : ℕ) (hacc : acceptModulus (2 ^ m) q = true) : q.Prime ∧ 2 ^ m ∣ q - 1 := by
  obtain ⟨hq, hmod⟩ := (acceptModulus_iff m q).1 hacc
  exact ⟨hq, dvd_of_mod_eq_one (by have := hq.two_le; omega) hmod⟩

/-- Accepted by the standard-ring constructors (`NthRoot = 2N`) ⇒ the generated
tables satisfy `Valid` and the table invariant (hence `intt_ntt`, `ntt_mul`, `fwd_sem` apply). -/
theorem accept_tables_std (K q g : ℕ) (hacc : acceptModulus (2 ^ (K + 1)) q = true) (h8 : 8 * q ≤ W)
    (hg : orderOf ((g : ℕ) : ZMod q) = q - 1) :
    Valid (mkTables (2 ^ K) q (2 ^ (K + 1)) g) K
    ∧ TableInv (rho q (mkTables (2 ^ K) q (2 ^ (K + 1)) g).rootsF) (2 ^ K) := by
  obtain ⟨hq, hdvd⟩ := accept_dvd _ q hacc
  have : Fact q.Prime := ⟨hq⟩
  have h := mkTables_all K q g hq h8 hdvd (nonresidue_of_primitive q g (two_pow_dvd_pred K q hq hdvd).1 hg)
  exact ⟨h.1, h.2.1⟩

/-- Accepted by the conjugate-invariant constructors (`NthRoot = 4N`) ⇒ the
generated tables satisfy `ValidCI` and the table invariant on `2N` entries (hence `intt_ntt_ci`,
`ntt_ci_sem` apply). -/
theorem accept_tables_ci (K q g : ℕ) (hacc : acceptModulus (2 ^ (K + 2)) q = true) (h8 : 8 * q ≤ W)
    (hg : orderOf ((g : ℕ) : ZMod q) = q - 1) :
    ValidCI (mkTables (2 ^ K) q (2 ^ (K + 2)) g) K
    ∧ TableInv (rho q (mkTables (2 ^ K) q (2 ^ (K + 2)) g).rootsF) (2 ^ (K + 1)) := by
  obtain ⟨hq, hdvd⟩ := accept_dvd _ q hacc
  have : Fact q.Prime := ⟨hq⟩
  have hodd := (two_pow_dvd_pred (K + 1) q hq hdvd).1
  have hnr := nonresidue_of_primitive q g hodd hg
  have h := mkTables_pow (2 ^ K) (K + 1) q g hq h8 hdvd hnr
  exact ⟨h.validCI rfl hq h8 rfl, h.tableInv⟩

/-- accepted: `N = 16`, conjugate-invariant ring (`NthRoot = 64`), `q = 193 = 3·64 + 1` -/
example : accept 16 64 [193] = true := by decide
/-- REFUSED: `N = 16`, `q = 97`: a prime `≡ 1 (mod 2N)` that is not `≡ 1 (mod 4N)`; fine for the
standard ring of the same degree -/
example : accept 16 64 [97] = false ∧ accept 16 32 [97] = true := by decide
example : accept 8 32 [17] = false ∧ accept 8 16 [17] = true := by decide
/-- refused: a composite `≡ 1 (mod NthRoot)`, an even number, a repeated modulus, no modulus, a degree
that is not a power of two or is below 8 -/
example : accept 16 32 [97 * 193] = false ∧ accept 16 32 [98] = false ∧ accept 16 32 [97, 193, 97] = false
    ∧ accept 16 32 [] = false ∧ accept 24 32 [97] = false ∧ accept 4 8 [97] = false
    ∧ accept 0 32 [97] = false := by decide
/-- non-vacuity of `accept_psi_primitive`: `q = 193`, `NthRoot = 64`, `g = 5` (`ψ = 5^3 = 125`) -/
example : acceptModulus (2 ^ 6) 193 = true ∧ modExp 5 ((193 - 1) / 2 ^ 6) 193 = 125
    ∧ 125 ^ 32 % 193 = 192 := by decide
/-- non-vacuity of `refused_no_primitive_root`: `97` is prime and `97 % 64 = 33` -/
example (x : ZMod 97) : orderOf x ≠ 2 ^ 6 :=
  refused_no_primitive_root 6 97 (by norm_num) ((primeTD_iff 97).1 (by decide)) (by decide) x
/-- `q61 = 2^61 − 2^21 + 1` is accepted for every `NthRoot ≤ 2^21` (primality: `C01NTT.q61_prime`) -/
example : (2305843009211596801 : ℕ) % 2 ^ 21 = 1 := by decide

end Lattigo.Props.C01CI

#print axioms Lattigo.Props.C01CI.noDivFrom_iff
#print axioms Lattigo.Props.C01CI.primeTD_iff
#print axioms Lattigo.Props.C01CI.acceptDegree_iff
#print axioms Lattigo.Props.C01CI.acceptModulus_iff
#print axioms Lattigo.Props.C01CI.allDistinct_iff
#print axioms Lattigo.Props.C01CI.accept_iff
#print axioms Lattigo.Props.C01CI.dvd_of_mod_eq_one
#print axioms Lattigo.Props.C01CI.accept_psi_primitive
#print axioms Lattigo.Props.C01CI.refused_no_primitive_root
#print axioms Lattigo.Props.C01CI.accept_dvd
#print axioms Lattigo.Props.C01CI.accept_tables_std
#print axioms Lattigo.Props.C01CI.accept_tables_ci
