import Lattigo.Proofs.NTTCI
import Mathlib.NumberTheory.LucasPrimality
import Mathlib.Tactic.NormNum.Prime
/-!
  # C01 — the number-theoretic-transform layer: property theorems

  All theorems are about the executable definitions of `Lattigo/Model/NTT.lean`
  (`nttCoreLazy`, `nttCICoreLazy`, `inttCoreLazy`, `nttStd`, `inttStd`, `mkTables`), the ones the
  driver runs and the correspondence check compares limb for limb with `ring/ntt.go`.
  They hold for ALL degrees `n = 2^K`, all `q` in the stated range, all inputs.

  Hypothesis bundles (defined in `Proofs/`):
  * `RootsLt roots q`        — every table entry is `< q`;
  * `Valid T K`              — `T.n = 2^K`, `q` prime, `8q ≤ 2^64`, Montgomery/Barrett constants,
                               roots `< q`, `rootsF[j]·rootsB[j] ≡ W²` for `1 ≤ j < n`, `nInv ≡ n⁻¹W`;
  * `TableInv (rho q roots) M` — the table invariant in `Z_q` (`ρ_j = roots[j]·W⁻¹`):
                               `ρ_1² = −1`, `ρ_{2j}² = ρ_j`, `ρ_{2j+1}² = −ρ_j` for `1 ≤ j < M`.
  `tables_invariant` shows that `mkTables` (the model of `generateNTTConstants`) satisfies all of them.
-/
namespace Lattigo.Props.C01NTT
open Lattigo Lattigo.Gen Lattigo.NTT

/-- Standard ring (`nttCoreLazy` models `nttCoreLazy` of `ring/ntt.go`).
For every `n = 2^K` (`K ≥ 4`: the 16-way unrolled schedule `flagStd`; `K < 4`: every stage reduces),
every odd `q` with `8q ≤ 2^64` and its Montgomery constant, every table with entries `< q`, and every
input with entries `< b0·q`, `b0 ≤ 2` (`b0 = 1` reduced, `b0 = 2` lazy input):
* the invariant `FwdOK` holds at the root, i.e. at EVERY node `(depth d, index j)` of the network:
  the values entering depth `d` are `< BStd n b0 d · q` (for `n ≥ 16`, `b0 = 1`: `q, 3q, 5q`, then
  `6q` at odd depths / `8q` at even depths, see `ntt_range_bounds`), every word-level butterfly of the
  stage equals the butterfly computed with unbounded naturals (NO wrap), and its outputs are
  `≤ BStd n b0 (d+1) · q − 2`;
* hence `nttCoreLazy` equals the ideal network `fwdRecN`;
* every output is `≤ 6q − 2` (the documented range `[0, 6q−2]`), for `n ≥ 2`. -/
theorem ntt_range (T : Tables) (K : ℕ) (hn : T.n = 2 ^ K) (h8 : 8 * T.q ≤ W)
    (hm : MontConst T.q T.qinv) (hr : RootsLt T.rootsF T.q) (b0 : ℕ) (hb0 : b0 ≤ 2)
    (a : List ℕ) (ha : ∀ x ∈ a, x < b0 * T.q) :
    FwdOK T.rootsF T.q T.qinv (flagStd T.n) (BStd T.n b0) K 0 1 a
    ∧ nttCoreLazy T a = fwdRecN T.rootsF T.q T.qinv (flagStd T.n) K 0 1 a
    ∧ (1 ≤ K → ∀ y ∈ nttCoreLazy T a, y + 2 ≤ 6 * T.q) := by
  unfold nttCoreLazy
  rw [hn, log2n_two_pow]
  exact fwdRec_range _ _ _ _ _ K 1 h8 hm hr (BStd_ok K b0 hb0) (BStd_last K b0 hb0) a
    (by rw [BStd_zero _ _ (by omega)]; exact ha)

/-- the per-depth bounds of `ntt_range` for `n ≥ 16` and reduced input: `q, 3q, 5q / 6q, 8q` -/
theorem ntt_range_bounds (K d : ℕ) (hK : 4 ≤ K) (hd : d < K) :
    BStd (2 ^ K) 1 d = if d = 0 then 1 else if d = 1 then 3 else if d = 2 then 5
      else if d % 2 = 1 then 6 else 8 := by
  unfold BStd
  rw [if_neg (by rw [two_pow_lt_16]; omega)]
  simp only [Nat.pow_right_inj Nat.one_lt_two, Nat.ne_of_lt hd, if_false]
  by_cases h2 : d ≤ 2
  · rw [if_pos h2]
    obtain rfl | rfl | rfl : d = 0 ∨ d = 1 ∨ d = 2 := by omega
    all_goals rfl
  · rw [if_neg h2, if_neg (show ¬ d = 0 by omega), if_neg (show ¬ d = 1 by omega),
      if_neg (show ¬ d = 2 by omega)]

/-- Conjugate-invariant ring (`nttCICoreLazy` = twist by `roots[1]`, then the network
from node index `2` with the schedule `flagCI`): the twist does not wrap and yields `< (b0+2)q`; the
invariant holds at every node with bounds `BCI n (b0+2)`; outputs `≤ 6q − 2`. -/
theorem ntt_range_ci (T : Tables) (K : ℕ) (hn : T.n = 2 ^ K) (h8 : 8 * T.q ≤ W)
    (hm : MontConst T.q T.qinv) (hr : RootsLt T.rootsF T.q) (b0 : ℕ) (hb0 : b0 ≤ 2)
    (a : List ℕ) (ha : ∀ x ∈ a, x < b0 * T.q) :
    twist T T.rootsF a = twistN T T.rootsF a
    ∧ FwdOK T.rootsF T.q T.qinv (flagCI T.n) (BCI T.n (b0 + 2)) K 0 2 (twistN T T.rootsF a)
    ∧ nttCICoreLazy T a = fwdRecN T.rootsF T.q T.qinv (flagCI T.n) K 0 2 (twistN T T.rootsF a)
    ∧ (1 ≤ K → ∀ y ∈ nttCICoreLazy T a, y + 2 ≤ 6 * T.q) := by
  have := Nat.mul_le_mul_right T.q hb0
  obtain ⟨et, ht⟩ := twist_ok T T.rootsF a (b0 * T.q) (by omega) hm hr ha
  unfold nttCICoreLazy
  rw [et, hn, log2n_two_pow]
  exact ⟨rfl, fwdRec_range _ _ _ _ _ K 2 h8 hm hr (BCI_ok K (b0 + 2) (by omega))
    (BCI_last K (b0 + 2) (by omega)) _
    (by rw [BCI_zero _ _ (by omega), Nat.add_mul]; exact ht)⟩

/-- `inttCoreLazy`: inputs `< 2q` and `6q ≤ 2^64` (implied by `8q ≤ 2^64`) ⊢ at every
node all values are `< 2q`, no butterfly wraps (`U + 4q − V` is computed exactly), the result is the
ideal network, and all outputs are `< 2q` (documented `[0, 2q−1]`). -/
theorem intt_range (T : Tables) (K : ℕ) (hn : T.n = 2 ^ K) (h6 : 6 * T.q ≤ W)
    (hm : MontConst T.q T.qinv) (hr : RootsLt T.rootsB T.q)
    (a : List ℕ) (ha : ∀ x ∈ a, x < 2 * T.q) :
    InvOK T.rootsB T.q T.qinv K 1 a
    ∧ inttCoreLazy T a = invRecN T.rootsB T.q T.qinv K 1 a
    ∧ ∀ y ∈ inttCoreLazy T a, y < 2 * T.q := by
  unfold inttCoreLazy
  rw [hn, log2n_two_pow]
  obtain ⟨ok, hlt⟩ := invRec_ok T.rootsB T.q T.qinv h6 hm hr K 1 a ha
  exact ⟨ok, invRec_eq_invRecN_of_ok _ _ _ _ _ _ ok, hlt⟩

/-- Conjugate-invariant ring (`inttCICoreLazy` = inverse network from node `2`, twist
by `rootsB[1]`, `p[0] ← CRed(2·p[0])`): no wrap anywhere, every output `< 4q`; after the multiplication
by `N⁻¹` the public entry points return `< q` (`inttCI`) resp. `< 2q` (`inttCILazy`).
The `[0, 2q−1]` claimed by the Go comment on the internal `inttCoreConjugateInvariantLazy`
(`ring/ntt.go`) is NOT met, see `inttCICoreLazy_doc_range_counterexample`. -/
theorem intt_range_ci (T : Tables) (K : ℕ) (hn : T.n = 2 ^ K) (h6 : 6 * T.q ≤ W)
    (hm : MontConst T.q T.qinv) (hr : RootsLt T.rootsB T.q) (hN : T.nInv < T.q)
    (a : List ℕ) (ha : ∀ x ∈ a, x < 2 * T.q) :
    InvOK T.rootsB T.q T.qinv K 2 a
    ∧ twist T T.rootsB (invRec T.rootsB T.q T.qinv K 2 a)
        = twistN T T.rootsB (invRec T.rootsB T.q T.qinv K 2 a)
    ∧ (∀ y ∈ inttCICoreLazy T a, y < 4 * T.q)
    ∧ (∀ y ∈ inttCI T a, y < T.q)
    ∧ (∀ y ∈ inttCILazy T a, y < 2 * T.q) := by
  obtain ⟨ok, et, h4⟩ := inttCICoreLazy_range T K hn h6 hm hr a ha
  refine ⟨ok, et, h4, List.forall_mem_map.2 fun x hx => ?_, List.forall_mem_map.2 fun x hx => ?_⟩
  · have hx4 := h4 x hx
    exact (MRed_spec x T.nInv T.q T.qinv (by omega) hm
      (by rw [Nat.mul_comm T.q W]; exact Nat.mul_lt_mul'' (by omega) hN)).2
  · have hx4 := h4 x hx
    exact (MRedLazy_spec x T.nInv T.q T.qinv (by omega) hm (mul_lt_qW (by omega) hN)).2.1

/-- Documentation defect (harmless): on the real conjugate-invariant table for `N = 16`,
`q = 2^61 − 2^21 + 1` and the reduced input `[1,…,16]`, `inttCICoreLazy` returns a value `≥ 3q`,
outside the `[0, 2q−1]` its Go comment claims. -/
theorem inttCICoreLazy_doc_range_counterexample :
    ∃ y ∈ inttCICoreLazy (mkTables 16 2305843009211596801 64 37) ((List.range 16).map (· + 1)),
      3 * 2305843009211596801 ≤ y := by decide +kernel

/-- table entries all `< q`, checkable on a concrete array -/
theorem rootsLt_of (roots : Array ℕ) (q : ℕ) (hq : 0 < q) (h : ∀ i, i < roots.size → roots[i]! < q) :
    RootsLt roots q := by
  intro i
  by_cases hi : i < roots.size
  · exact h i hi
  · have : roots[i]! = 0 := by simp [hi]
    rw [this]; exact hq

/-- the 62-bit prime `2^62 − 287` (accepted by `rlwe.CheckModuli`; `q ≡ 1 mod 32`) -/
def q62 : ℕ := 4611686018427387617
/-- its tables for `N = 16` (`3` is the least primitive root) -/
def T62 : Tables := mkTables 16 q62 32 3

/-- **The bound `8q ≤ 2^64` of `ntt_range` is needed.** For the 62-bit prime `q = 2^62 − 287`
(`4q < 2^64 < 6q`), its genuine tables for `N = 16` (every other hypothesis of
`ntt_range` holds) and the reduced input `a = [1,…,16]`: the word-level forward transform differs
from the ideal network (a uint64 wrap occurred), and `INTT(NTT(a)) ≠ a`.  (Evaluation of the Model.) -/
theorem ntt_range_needs_8q_counterexample :
    W < 8 * T62.q ∧ T62.n = 2 ^ 4 ∧ MontConst T62.q T62.qinv ∧ RootsLt T62.rootsF T62.q
    ∧ (∀ x ∈ (List.range 16).map (· + 1), x < 1 * T62.q)
    ∧ nttCoreLazy T62 ((List.range 16).map (· + 1))
        ≠ fwdRecN T62.rootsF T62.q T62.qinv (flagStd T62.n) 4 0 1 ((List.range 16).map (· + 1))
    ∧ inttStd T62 (nttStd T62 ((List.range 16).map (· + 1))) ≠ (List.range 16).map (· + 1) := by
  refine ⟨by decide, rfl, ?_, ?_, by decide, by decide +kernel, by decide +kernel⟩
  · exact (GenMRedConstant_spec q62 (by decide) (by decide)).1
  · exact rootsLt_of _ _ (by decide) (by decide +kernel)

/-- Node form (exact network over any commutative ring `F`, twiddles `ρ`).
Under the table invariant on the node indices `< M`, node `(k,j)` (block length `2^k`) computes
`a mod (X^{2^k} − c_j)` (`c_1 = −1`, `c_{2j} = ρ_j`, `c_{2j+1} = −ρ_j`): after the full recursion leaf
`t` holds the evaluation `a(pt t)` and `pt t ^ 2^k = c_j`. -/
theorem fwd_sem_node {F : Type} [CommRing F] (ρ : ℕ → F) (M : ℕ) (hρ : TableInv ρ M)
    (k j : ℕ) (a : List F) (hlen : a.length = 2 ^ k) (hj : 1 ≤ j) (hM : (j + 1) * 2 ^ k ≤ 2 * M) :
    fwdZ ρ k j a = (List.range (2 ^ k)).map (fun t => evalL a (pt ρ k j t))
    ∧ ∀ t, pt ρ k j t ^ 2 ^ k = cnode ρ j :=
  ⟨fwdZ_eval ρ M hρ k j a hlen hj hM, fun t => pt_pow ρ M hρ k j t hj hM⟩

/-- Stage-wise exactness: under the range hypotheses of `ntt_range` (any schedule `flag`
with compatible bounds `B`), the word-level network `fwdRec` read in `Z_q` IS the exact network
`fwdZ` with twiddles `ρ_j = roots[j]·W⁻¹` (every stage is the exact butterfly `(U + ρV, U − ρV)`). -/
theorem fwd_sem_exact {q : ℕ} [Fact q.Prime] (roots : Array ℕ) (qinv : ℕ) (flag : ℕ → Bool)
    (B : ℕ → ℕ) (K : ℕ) (h8 : 8 * q ≤ W) (hm : MontConst q qinv) (hr : RootsLt roots q)
    (hB : BoundOK flag B K) (k d j : ℕ) (a : List ℕ) (hd : d + k ≤ K) (ha : ∀ x ∈ a, x < B d * q) :
    (fwdRec roots q qinv flag k d j a).map (Nat.cast : ℕ → ZMod q)
      = fwdZ (rho q roots) k j (a.map (Nat.cast : ℕ → ZMod q)) :=
  (fwdRec_castA roots qinv flag (fun d => B d * q) K (by omega) hm hr (hB.abs q h8) k d j a hd ha).1

/-- Entry `t` of `nttStd T a` is (the canonical representative `< q` of)
the evaluation of `a ∈ Z_q[X]` at `ρ_t = pt ρ K 1 t`, and `ρ_t^N = −1`. -/
theorem fwd_sem (T : Tables) (K : ℕ) (hT : Valid T K) [Fact T.q.Prime]
    (hinv : TableInv (rho T.q T.rootsF) (2 ^ K))
    (a : List ℕ) (hlen : a.length = T.n) (ha : ∀ x ∈ a, x < T.q) :
    (nttStd T a).map (Nat.cast : ℕ → ZMod T.q)
      = (List.range (2 ^ K)).map
          (fun t => evalL (a.map (Nat.cast : ℕ → ZMod T.q)) (pt (rho T.q T.rootsF) K 1 t))
    ∧ (∀ t, pt (rho T.q T.rootsF) K 1 t ^ 2 ^ K = -1)
    ∧ ∀ y ∈ nttStd T a, y < T.q :=
  ⟨(nttStd_eval hT hinv a hlen ha).1, (nttStd_eval hT hinv a hlen ha).2, (nttStd_cast hT a ha).2⟩

/-- `NTT(a ⊛ b) = NTT(a) ⊙ NTT(b)` where `⊛ = RPoly.rowMul q` is the schoolbook
negacyclic product in `Z_q[X]/(X^N+1)` and `⊙` the coefficient-wise product mod `q`; equality of
lists of canonical residues. -/
theorem ntt_mul (T : Tables) (K : ℕ) (hT : Valid T K) (hinv : TableInv (rho T.q T.rootsF) (2 ^ K))
    (a b : List ℕ) (hla : a.length = T.n) (hlb : b.length = T.n)
    (ha : ∀ x ∈ a, x < T.q) (hb : ∀ x ∈ b, x < T.q) :
    nttStd T (RPoly.rowMul T.q a b)
      = List.zipWith (fun x y => (x * y) % T.q) (nttStd T a) (nttStd T b) :=
  nttStd_mul hT hinv a b hla hlb ha hb

/-- `INTT(NTT(a)) = a` for every `a` of length `N` with entries `< q`
(needs only `ρF_j·ρB_j = 1` and `nInv = N⁻¹`, not the table invariant). -/
theorem intt_ntt (T : Tables) (K : ℕ) (hT : Valid T K) (a : List ℕ) (hlen : a.length = T.n)
    (ha : ∀ x ∈ a, x < T.q) : inttStd T (nttStd T a) = a :=
  inttStd_nttStd hT a hlen ha

/-- one inverse stage undoes one forward stage up to the factor 2 (pure algebra, any commutative ring) -/
theorem inv_fwd_exact {F : Type} [CommRing F] (ρ ρ' : ℕ → F) (M : ℕ)
    (hinv : ∀ i, 1 ≤ i → i < M → ρ i * ρ' i = 1) (k j : ℕ) (a : List F)
    (hlen : a.length = 2 ^ k) (hj : 1 ≤ j) (hM : (j + 1) * 2 ^ k ≤ 2 * M) :
    invZ ρ' k j (fwdZ ρ k j a) = a.map (fun x => 2 ^ k * x) :=
  invZ_fwdZ ρ ρ' M hinv k j a hlen hj hM

/-- For a prime `q ≡ 1 (mod 2N)`, `N = 2^K`, `8q ≤ 2^64`, and `g` a quadratic
non-residue mod `q` (e.g. any primitive root, `tables_invariant_primitive`), the tables computed by
`mkTables N q 2N g` satisfy `Valid` and the table invariant. -/
theorem tables_invariant (K q g : ℕ) (hq : q.Prime) (h8 : 8 * q ≤ W) (hdiv : 2 ^ (K + 1) ∣ q - 1)
    (hg : g ^ ((q - 1) / 2) % q = q - 1) :
    Valid (mkTables (2 ^ K) q (2 ^ (K + 1)) g) K
    ∧ TableInv (rho q (mkTables (2 ^ K) q (2 ^ (K + 1)) g).rootsF) (2 ^ K) :=
  ⟨(mkTables_all K q g hq h8 hdiv hg).1, (mkTables_all K q g hq h8 hdiv hg).2.1⟩

theorem tables_invariant_primitive (K q g : ℕ) (hq : q.Prime) (h8 : 8 * q ≤ W)
    (hdiv : 2 ^ (K + 1) ∣ q - 1) (hg : orderOf ((g : ℕ) : ZMod q) = q - 1) :
    Valid (mkTables (2 ^ K) q (2 ^ (K + 1)) g) K
    ∧ TableInv (rho q (mkTables (2 ^ K) q (2 ^ (K + 1)) g).rootsF) (2 ^ K) :=
  have : Fact q.Prime := ⟨hq⟩
  tables_invariant K q g hq h8 hdiv (nonresidue_of_primitive q g (two_pow_dvd_pred K q hq hdiv).1 hg)

/-- `INTT(NTT(a)) = a` with the tables the code generates. -/
theorem intt_ntt_mkTables (K q g : ℕ) (hq : q.Prime) (h8 : 8 * q ≤ W) (hdiv : 2 ^ (K + 1) ∣ q - 1)
    (hg : g ^ ((q - 1) / 2) % q = q - 1) (a : List ℕ) (hlen : a.length = 2 ^ K)
    (ha : ∀ x ∈ a, x < q) :
    inttStd (mkTables (2 ^ K) q (2 ^ (K + 1)) g) (nttStd (mkTables (2 ^ K) q (2 ^ (K + 1)) g) a) = a :=
  inttStd_nttStd (tables_invariant K q g hq h8 hdiv hg).1 a hlen ha

/-- `NTT(a ⊛ b) = NTT(a) ⊙ NTT(b)` with the tables the code generates. -/
theorem ntt_mul_mkTables (K q g : ℕ) (hq : q.Prime) (h8 : 8 * q ≤ W) (hdiv : 2 ^ (K + 1) ∣ q - 1)
    (hg : g ^ ((q - 1) / 2) % q = q - 1) (a b : List ℕ) (hla : a.length = 2 ^ K)
    (hlb : b.length = 2 ^ K) (ha : ∀ x ∈ a, x < q) (hb : ∀ x ∈ b, x < q) :
    nttStd (mkTables (2 ^ K) q (2 ^ (K + 1)) g) (RPoly.rowMul q a b)
      = List.zipWith (fun x y => (x * y) % q) (nttStd (mkTables (2 ^ K) q (2 ^ (K + 1)) g) a)
          (nttStd (mkTables (2 ^ K) q (2 ^ (K + 1)) g) b) :=
  nttStd_mul (T := mkTables (2 ^ K) q (2 ^ (K + 1)) g) (tables_invariant K q g hq h8 hdiv hg).1
    (tables_invariant K q g hq h8 hdiv hg).2 a b hla hlb ha hb

open Finset in
/-- Closed form with the generated tables: in `Z_q`,
`(NTT a)[t] = Σ_i a_i ψ^{i(2·brv_K(t)+1)}`, `ψ = g^((q−1)/2N)`, `ψ^N = −1`. -/
theorem ntt_eval (K q g : ℕ) (hK : 1 ≤ K) (hq : q.Prime) (h8 : 8 * q ≤ W)
    (hdiv : 2 ^ (K + 1) ∣ q - 1) (hg : g ^ ((q - 1) / 2) % q = q - 1)
    (a : List ℕ) (hlen : a.length = 2 ^ K) (ha : ∀ x ∈ a, x < q) :
    (nttStd (mkTables (2 ^ K) q (2 ^ (K + 1)) g) a).map (Nat.cast : ℕ → ZMod q)
      = (List.range (2 ^ K)).map (fun t => ∑ i ∈ range (2 ^ K), ((a.getD i 0 : ℕ) : ZMod q)
          * ((((g : ℕ) : ZMod q) ^ ((q - 1) / 2 ^ (K + 1))) ^ (2 * bitRev t K + 1)) ^ i)
    ∧ (((g : ℕ) : ZMod q) ^ ((q - 1) / 2 ^ (K + 1))) ^ 2 ^ K = -1 :=
  ⟨nttStd_mkTables_eval K q g hK hq h8 hdiv hg a hlen ha, (mkTables_all K q g hq h8 hdiv hg).2.2.1⟩

/-- the generated forward table, Montgomery factor stripped, is `ψ^{brv_K(j)}` -/
theorem tables_closed_form (K q g : ℕ) (hq : q.Prime) (h8 : 8 * q ≤ W)
    (hdiv : 2 ^ (K + 1) ∣ q - 1) (hg : g ^ ((q - 1) / 2) % q = q - 1) (j : ℕ) (hj : j < 2 ^ K) :
    rho q (mkTables (2 ^ K) q (2 ^ (K + 1)) g).rootsF j
      = (((g : ℕ) : ZMod q) ^ ((q - 1) / 2 ^ (K + 1))) ^ bitRev j K :=
  (mkTables_all K q g hq h8 hdiv hg).2.2.2 j hj

/-- the lazy forward transform with the generated tables never wraps and returns values `≤ 6q − 2` -/
theorem ntt_range_mkTables (K q g : ℕ) (hK : 1 ≤ K) (hq : q.Prime) (h8 : 8 * q ≤ W)
    (hdiv : 2 ^ (K + 1) ∣ q - 1) (hg : g ^ ((q - 1) / 2) % q = q - 1) (a : List ℕ)
    (ha : ∀ x ∈ a, x < 2 * q) :
    nttCoreLazy (mkTables (2 ^ K) q (2 ^ (K + 1)) g) a
      = fwdRecN (mkTables (2 ^ K) q (2 ^ (K + 1)) g).rootsF q (GenMRedConstant q)
          (flagStd (2 ^ K)) K 0 1 a
    ∧ ∀ y ∈ nttCoreLazy (mkTables (2 ^ K) q (2 ^ (K + 1)) g) a, y + 2 ≤ 6 * q := by
  have hT := (tables_invariant K q g hq h8 hdiv hg).1
  obtain ⟨_, h1, h2⟩ := ntt_range _ K hT.n_eq hT.h8 hT.mont hT.rootsF_lt 2 (by omega) a ha
  exact ⟨h1, h2 hK⟩

/-- `inttCI T (nttCI T a) = a` for all `a` of length `N` with
entries `< q`, under `ValidCI` (tables of `2N` entries, `ρF_j ρB_j = 1` for `1 ≤ j < 2N`, `ρ_1² = −1`,
`nInv = (2N)⁻¹`). -/
theorem intt_ntt_ci (T : Tables) (K : ℕ) (hT : ValidCI T K) (a : List ℕ) (hlen : a.length = T.n)
    (ha : ∀ x ∈ a, x < T.q) : inttCI T (nttCI T a) = a :=
  inttCI_nttCI hT a hlen ha

/-- `nttCI` is, in `Z_q`, the exact twist followed by the exact network from node `2` -/
theorem ntt_ci_exact (T : Tables) (K : ℕ) (hT : ValidCI T K) [Fact T.q.Prime] (a : List ℕ)
    (ha : ∀ x ∈ a, x < T.q) :
    (nttCI T a).map (Nat.cast : ℕ → ZMod T.q)
      = fwdZ (rho T.q T.rootsF) K 2 (twistZ (rho T.q T.rootsF 1) (a.map (Nat.cast : ℕ → ZMod T.q)))
    ∧ ∀ y ∈ nttCI T a, y < T.q :=
  nttCI_cast hT a ha

open Finset in
/-- Entry `t` of `nttCI T a` is the value at
`x_t` of the conjugate-invariant polynomial `a_0 + Σ_{m=1}^{N−1} a_m (X^m + X^{−m})`, where
`x_t^N = ρ_1`, `ρ_1² = −1` (the `x_t` are primitive `4N`-th roots of unity): the left half of the
`2N`-point negacyclic transform of the folded polynomial. -/
theorem ntt_ci_sem (T : Tables) (K : ℕ) (hT : ValidCI T K) [Fact T.q.Prime]
    (hinv : TableInv (rho T.q T.rootsF) (2 ^ (K + 1)))
    (a : List ℕ) (hlen : a.length = T.n) (ha : ∀ x ∈ a, x < T.q) :
    (nttCI T a).map (Nat.cast : ℕ → ZMod T.q)
      = (List.range (2 ^ K)).map (fun t =>
          ∑ j ∈ range (2 ^ K), ((a.getD j 0 : ℕ) : ZMod T.q) * pt (rho T.q T.rootsF) K 2 t ^ j
          + ∑ m ∈ range (2 ^ K - 1),
              ((a.getD (m + 1) 0 : ℕ) : ZMod T.q) * (pt (rho T.q T.rootsF) K 2 t)⁻¹ ^ (m + 1))
    ∧ (∀ t, pt (rho T.q T.rootsF) K 2 t ^ 2 ^ K = rho T.q T.rootsF 1)
    ∧ rho T.q T.rootsF 1 * rho T.q T.rootsF 1 = -1 :=
  ⟨nttCI_eval hT hinv a hlen ha, pt_two_pow _ K hinv, hT.rho1_sq⟩

/-- the table invariant for the generated conjugate-invariant tables (`2N` entries) -/
theorem tables_invariant_ci_inv (K q g : ℕ) (hq : q.Prime) (h8 : 8 * q ≤ W)
    (hdiv : 2 ^ (K + 2) ∣ q - 1) (hg : g ^ ((q - 1) / 2) % q = q - 1) :
    TableInv (rho q (mkTables (2 ^ K) q (2 ^ (K + 2)) g).rootsF) (2 ^ (K + 1)) :=
  (mkTables_pow (2 ^ K) (K + 1) q g hq h8 hdiv hg).tableInv

/-- the tables generated for the conjugate-invariant ring (`nthRoot = 4N`) satisfy `ValidCI` -/
theorem tables_invariant_ci (K q g : ℕ) (hq : q.Prime) (h8 : 8 * q ≤ W) (hdiv : 2 ^ (K + 2) ∣ q - 1)
    (hg : g ^ ((q - 1) / 2) % q = q - 1) : ValidCI (mkTables (2 ^ K) q (2 ^ (K + 2)) g) K :=
  (mkTables_pow (2 ^ K) (K + 1) q g hq h8 hdiv hg).validCI rfl hq h8 rfl

/-- `INTT_ci(NTT_ci(a)) = a` with the generated tables -/
theorem intt_ntt_ci_mkTables (K q g : ℕ) (hq : q.Prime) (h8 : 8 * q ≤ W)
    (hdiv : 2 ^ (K + 2) ∣ q - 1) (hg : g ^ ((q - 1) / 2) % q = q - 1) (a : List ℕ)
    (hlen : a.length = 2 ^ K) (ha : ∀ x ∈ a, x < q) :
    inttCI (mkTables (2 ^ K) q (2 ^ (K + 2)) g) (nttCI (mkTables (2 ^ K) q (2 ^ (K + 2)) g) a) = a :=
  inttCI_nttCI (tables_invariant_ci K q g hq h8 hdiv hg) a hlen ha

/-- modular exponentiation in `ZMod p` through the (proved correct) executable `modExp` -/
theorem zmod_pow_eq_modExp (p a e : ℕ) (hp : 0 < p) (he : e < 2 ^ 64) :
    ((a : ℕ) : ZMod p) ^ e = ((modExp a e p : ℕ) : ZMod p) := by
  rw [modExp_spec a e p hp he, ZMod.natCast_mod, Nat.cast_pow]

theorem cast_ne_one_of (p v : ℕ) (hp : 1 < p) (hv : v < p) (h1 : v ≠ 1) : ((v : ℕ) : ZMod p) ≠ 1 := by
  intro h
  have h' : ((v : ℕ) : ZMod p) = ((1 : ℕ) : ZMod p) := by rw [h, Nat.cast_one]
  have := (ZMod.natCast_eq_natCast_iff' v 1 p).1 h'
  rw [Nat.mod_eq_of_lt hv, Nat.mod_eq_of_lt hp] at this
  exact h1 this

/-- the 61-bit NTT-friendly prime `2^61 − 2^21 + 1 = 0x1fffffffffe00001` -/
def q61 : ℕ := 2305843009211596801

theorem q61_factor : q61 - 1 = [2 ^ 21, 3 ^ 1, 5 ^ 2, 11 ^ 1, 17 ^ 1, 31 ^ 1, 41 ^ 1, 61681 ^ 1].prod := by decide

/-- `q61` is prime (Lucas test with base `37`, powers computed by `modExp`) -/
theorem q61_prime : Nat.Prime q61 := by
  have hp0 : 0 < q61 := by decide
  have hp1 : 1 < q61 := by decide
  apply lucas_primality q61 ((37 : ℕ) : ZMod q61)
  · rw [zmod_pow_eq_modExp q61 37 _ hp0 (by decide)]
    have : modExp 37 (q61 - 1) q61 = 1 := by decide +kernel
    rw [this, Nat.cast_one]
  · intro r hr hdvd
    have key : ∀ e : ℕ, e < 2 ^ 64 → modExp 37 e q61 < q61 → modExp 37 e q61 ≠ 1 →
        ((37 : ℕ) : ZMod q61) ^ e ≠ 1 := by
      intro e he h1 h2
      rw [zmod_pow_eq_modExp q61 37 e hp0 he]
      exact cast_ne_one_of q61 _ hp1 h1 h2
    -- a prime divisor of `q61 − 1` divides one of the prime powers, hence is one of the eight primes
    rw [q61_factor, hr.prime.dvd_prod_iff] at hdvd
    obtain ⟨a, ha, h⟩ := hdvd
    simp only [List.mem_cons, List.not_mem_nil, or_false] at ha
    rcases ha with rfl | rfl | rfl | rfl | rfl | rfl | rfl | rfl
    all_goals
      obtain rfl := (Nat.prime_dvd_prime_iff_eq hr (by norm_num)).1 (hr.dvd_of_dvd_pow h)
      apply key
      · decide
      · decide +kernel
      · decide +kernel

/-- `37` is a quadratic non-residue mod `q61` (it is a primitive root) -/
theorem q61_nonresidue : 37 ^ ((q61 - 1) / 2) % q61 = q61 - 1 := by
  rw [← modExp_spec 37 ((q61 - 1) / 2) q61 (by decide) (by decide)]
  decide +kernel

/-- non-vacuity of `tables_invariant` (hence of `Valid`, `TableInv`, and of every theorem above):
the 61-bit prime `q61`, `N = 16`. -/
example : Valid (mkTables (2 ^ 4) q61 (2 ^ 5) 37) 4
    ∧ TableInv (rho q61 (mkTables (2 ^ 4) q61 (2 ^ 5) 37).rootsF) (2 ^ 4) :=
  tables_invariant 4 q61 37 q61_prime (by decide) (by decide) q61_nonresidue

/-- … and `N = 2^20` with the same prime (`2^21 ∣ q61 − 1`): the theorems are not about small `N` only -/
example : Valid (mkTables (2 ^ 20) q61 (2 ^ 21) 37) 20 :=
  (tables_invariant 20 q61 37 q61_prime (by decide) (by decide +kernel) q61_nonresidue).1

/-- non-vacuity with the Fermat prime `65537`, `N = 16`, `g = 3` -/
example : Valid (mkTables (2 ^ 4) 65537 (2 ^ 5) 3) 4
    ∧ TableInv (rho 65537 (mkTables (2 ^ 4) 65537 (2 ^ 5) 3).rootsF) (2 ^ 4) :=
  tables_invariant 4 65537 3 (by norm_num) (by decide) (by decide) (by decide +kernel)

/-- non-vacuity of `ValidCI`: `q61`, conjugate-invariant ring of degree `16` (`64 ∣ q61 − 1`) -/
example : ValidCI (mkTables (2 ^ 4) q61 (2 ^ 6) 37) 4 :=
  tables_invariant_ci 4 q61 37 q61_prime (by decide) (by decide) q61_nonresidue

/-- the hypotheses of `ntt_range` / `intt_range` hold for the real `N = 16` table of `q61` and the
extreme lazy input `2q − 1` -/
example : let T := mkTables (2 ^ 4) q61 (2 ^ 5) 37
    T.n = 2 ^ 4 ∧ 8 * T.q ≤ W ∧ MontConst T.q T.qinv ∧ RootsLt T.rootsF T.q ∧ RootsLt T.rootsB T.q
    ∧ ∀ x ∈ List.replicate 16 (2 * q61 - 1), x < 2 * T.q := by
  have hT := (tables_invariant 4 q61 37 q61_prime (by decide) (by decide) q61_nonresidue).1
  exact ⟨hT.n_eq, hT.h8, hT.mont, hT.rootsF_lt, hT.rootsB_lt, by decide⟩

/-- TEST (evaluation, not a theorem about all inputs): the real table for `N = 16`, `q61`; the
all-`(q−1)` vector round-trips and the lazy output at the extreme lazy input stays `≤ 6q − 2`. -/
example : inttStd (mkTables 16 q61 32 37) (nttStd (mkTables 16 q61 32 37) (List.replicate 16 (q61 - 1)))
    = List.replicate 16 (q61 - 1) := by decide +kernel
example : ∀ y ∈ nttCoreLazy (mkTables 16 q61 32 37) (List.replicate 16 (2 * q61 - 1)), y + 2 ≤ 6 * q61 := by
  decide +kernel

/-- TEST: the decidable ℕ-form of the table invariant, checked directly on the concrete table -/
example : TableInvNat (mkTables 16 q61 32 37).rootsF q61 16 :=
  ⟨by decide +kernel,
   fun j h1 h2 => (by decide +kernel : ∀ j < 8, 1 ≤ j → 2 * j < 16 →
      ((mkTables 16 q61 32 37).rootsF[2 * j]! * (mkTables 16 q61 32 37).rootsF[2 * j]!) % q61
        = ((mkTables 16 q61 32 37).rootsF[j]! * W) % q61) j (by omega) h1 h2,
   fun j h1 h2 => (by decide +kernel : ∀ j < 8, 1 ≤ j → 2 * j + 1 < 16 →
      ((mkTables 16 q61 32 37).rootsF[2 * j + 1]! * (mkTables 16 q61 32 37).rootsF[2 * j + 1]!
        + (mkTables 16 q61 32 37).rootsF[j]! * W) % q61 = 0) j (by omega) h1 h2⟩

/-- the bound sequence for `N = 32` (reduced input): `1,3,5,6,8` entering depths `0..4`, `6` at the end -/
example : (List.range 6).map (BStd 32 1) = [1, 3, 5, 6, 8, 6] := by decide
example : (List.range 6).map (BCI 32 3) = [3, 5, 6, 8, 6, 6] := by decide
/-- small degrees (`N = 8`: every stage reduces): `1,3,5,6` -/
example : (List.range 4).map (BStd 8 1) = [1, 3, 5, 6] := by decide

end Lattigo.Props.C01NTT

#print axioms Lattigo.Props.C01NTT.ntt_range
#print axioms Lattigo.Props.C01NTT.ntt_range_bounds
#print axioms Lattigo.Props.C01NTT.ntt_range_ci
#print axioms Lattigo.Props.C01NTT.intt_range
#print axioms Lattigo.Props.C01NTT.intt_range_ci
#print axioms Lattigo.Props.C01NTT.inttCICoreLazy_doc_range_counterexample
#print axioms Lattigo.Props.C01NTT.ntt_range_needs_8q_counterexample
#print axioms Lattigo.Props.C01NTT.fwd_sem_node
#print axioms Lattigo.Props.C01NTT.fwd_sem_exact
#print axioms Lattigo.Props.C01NTT.fwd_sem
#print axioms Lattigo.Props.C01NTT.ntt_mul
#print axioms Lattigo.Props.C01NTT.intt_ntt
#print axioms Lattigo.Props.C01NTT.inv_fwd_exact
#print axioms Lattigo.Props.C01NTT.tables_invariant
#print axioms Lattigo.Props.C01NTT.tables_invariant_primitive
#print axioms Lattigo.Props.C01NTT.intt_ntt_mkTables
#print axioms Lattigo.Props.C01NTT.ntt_mul_mkTables
#print axioms Lattigo.Props.C01NTT.ntt_eval
#print axioms Lattigo.Props.C01NTT.tables_closed_form
#print axioms Lattigo.Props.C01NTT.ntt_range_mkTables
#print axioms Lattigo.Props.C01NTT.intt_ntt_ci
#print axioms Lattigo.Props.C01NTT.ntt_ci_exact
#print axioms Lattigo.Props.C01NTT.tables_invariant_ci
#print axioms Lattigo.Props.C01NTT.tables_invariant_ci_inv
#print axioms Lattigo.Props.C01NTT.ntt_ci_sem
#print axioms Lattigo.Props.C01NTT.intt_ntt_ci_mkTables
#print axioms Lattigo.Props.C01NTT.q61_prime
