import Lattigo.Proofs.RingQP
import Lattigo.Proofs.NTTCIBig
import Lattigo.Props.C01NTT
import Lattigo.Props.C01Ring
import Lattigo.Proofs.RLWECI
import Mathlib.Tactic.IntervalCases
/-!
  # C01 — R_QP scalars on every level view, the conjugate-invariant ring outside the NTT domain,
  and the conjugate-invariant transform on large inputs

  All theorems are about definitions the driver executes (`Model/RingQP.lean`: ops `qpmulrns`, `rpautci`;
  `Model/NTT.lean`: ops `ntt ci…`) and hold for all inputs of the stated shape.

  * `qp_mulRNSScalar_view` — `ringqp.Ring.MulRNSScalarMontgomery` on ANY view `AtLevel(nq−1, np−1)` (`nq`, `np` from `0`
    to the chain lengths), with an RNS scalar in the layout `[all moduli of Q | all moduli of P]` holding `v` in
    Montgomery form: every active row is the canonical product `x·v mod q_i` (clause "every level").
    `qp_level_split_counterexample`: splitting the scalar at `LevelQ()+1` instead is wrong.
  * `aut_ci_restriction` — `Ring.Automorphism` outside the NTT domain on the conjugate-invariant ring (the loop over
    `2N` exponents, `RingQP.rowAutCI`) IS the first half of `σ_g` of `Z_q[X]/(X^2N+1)` applied to the unfolded
    polynomial `x_0 + Σ x_j (X^j + X^-j)`; `aut_ci_sem` — and that `σ_g` is the ring automorphism `X ↦ X^g`
    (`C01Ring.row_aut`); `aut_ci_closed` — the image is conjugate invariant again: `σ_g(unfold x) = unfold(rowAutCI g x)`,
    so the restriction loses nothing and `rowAutCI g` is the action of `σ_g` on the subring `Z_q[X+X^-1]/(X^2N+1)`.
    Every odd `g` (also `g ≡ 3 mod 4`), every `N = 2^K`, entries `< q`.
  * `ntt_ci_big`, `ntt_ci_reduced_big`, `ntt_ci_unreduced`, `twist_linear` — `NTTLazy` / `NTT` of the conjugate-invariant
    ring on inputs `< M` with `M + 6q ≤ 2^64` (no relation between `M` and `q`): no uint64 wrap, exact twist + exact
    network in `Z_q`, outputs `< max (M+2q) 4q + 2q`; the reducing transform of an unreduced row is the transform of
    the reduced row; the exact twist is linear (with `NTT.fwdZ_zipWith_lin`: the exact transform is linear).
-/
namespace Lattigo.Props.C01QP
open Lattigo Lattigo.Gen Lattigo.NTT Lattigo.RingQP

/-- `MulRNSScalarMontgomery` on any view `(nq, np)` with the scalar of `v` in the layout
`[all moduli of Q | all moduli of P]`: every active row is the canonical product `x·v mod q_i`. -/
theorem qp_mulRNSScalar_view (qs ps : List ℕ) (nq np v : ℕ) (pQ pP : List (List ℕ))
    (hnq : nq ≤ qs.length) (hnp : np ≤ ps.length)
    (hqs : ∀ q ∈ qs, q.Prime ∧ q % 2 = 1 ∧ 2 * q ≤ W) (hps : ∀ q ∈ ps, q.Prime ∧ q % 2 = 1 ∧ 2 * q ≤ W)
    (hQ : ∀ i, i < nq → ∀ x ∈ pQ.getD i [], x < qs.getD i 0)
    (hP : ∀ j, j < np → ∀ x ∈ pP.getD j [], x < ps.getD j 0) :
    mulRNSScalarMontgomery qs ps nq np pQ pP (montScalar qs ps v)
      = ((List.range nq).map fun i => (pQ.getD i []).map fun x => (x * v) % qs.getD i 0,
         (List.range np).map fun j => (pP.getD j []).map fun x => (x * v) % ps.getD j 0) := by
  unfold mulRNSScalarMontgomery mulRNSScalarMontgomeryAt montScalar
  rw [List.take_left' (by simp), List.drop_left' (by simp)]
  rw [mulRNSRows_montScalar qs nq v pQ hnq hqs hQ, mulRNSRows_montScalar ps np v pP hnp hps hP]

/-- non-vacuity: `Q = [97, 193]`, `P = [257, 769]`, the view `(levelQ, levelP) = (0, 1)`, `v = 1000` -/
example : mulRNSScalarMontgomery [97, 193] [257, 769] 1 2 [[96, 5]] [[256, 7], [768, 9]]
      (montScalar [97, 193] [257, 769] 1000)
    = ([[96 * 1000 % 97, 5 * 1000 % 97]], [[256 * 1000 % 257, 7 * 1000 % 257], [768 * 1000 % 769, 9 * 1000 % 769]]) := by
  have hp : ∀ q ∈ [97, 193, 257, 769], Nat.Prime q ∧ q % 2 = 1 ∧ 2 * q ≤ W := by
    intro q hq
    simp only [List.mem_cons, List.mem_nil_iff, or_false] at hq
    rcases hq with rfl | rfl | rfl | rfl <;> refine ⟨by norm_num, by decide, by decide⟩
  have := qp_mulRNSScalar_view [97, 193] [257, 769] 1 2 1000 [[96, 5]] [[256, 7], [768, 9]] (by decide) (by decide)
    (fun q hq => hp q (List.mem_append_left [257, 769] hq))
    (fun q hq => hp q (List.mem_append_right [97, 193] hq))
    (by intro i hi x hx
        obtain rfl : i = 0 := by omega
        simp at hx
        rcases hx with rfl | rfl <;> decide)
    (by intro j hj x hx
        interval_cases j <;> simp at hx <;> rcases hx with rfl | rfl <;> decide)
  exact this.trans (by decide)

/-- The split index matters. `qs = [97, 193]`, `ps = [257]`, view `(1, 1)`, `v = 5`,
`x = 1`: the P row is `5` with the split at the length of the chain of Q, and something else with the split at `1`. -/
theorem qp_level_split_counterexample :
    (mulRNSScalarMontgomery [97, 193] [257] 1 1 [[1]] [[1]] (montScalar [97, 193] [257] 5)).2 = [[5]]
    ∧ (mulRNSScalarMontgomeryAt 1 [97, 193] [257] 1 1 [[1]] [[1]] (montScalar [97, 193] [257] 5)).2 ≠ [[5]] := by
  decide +kernel

/-- The coefficient-domain automorphism of the conjugate-invariant ring is the first half of
`σ_g` of `Z_q[X]/(X^2N+1)` applied to the unfolded polynomial. -/
theorem aut_ci_restriction (K g q : ℕ) (x : List ℕ) (hlen : x.length = 2 ^ K) (hg : g % 2 = 1)
    (hx : ∀ v ∈ x, v < q) :
    rowAutCI g q x = (RPoly.rowAut g q (unfoldCI q x)).take (2 ^ K) :=
  rowAutCI_eq_take K g q x hlen hg hx

/-- The automorphism maps the conjugate-invariant subring to itself and
`rowAutCI` is its action there. -/
theorem aut_ci_closed (K g q : ℕ) (x : List ℕ) (hlen : x.length = 2 ^ K) (hg : g % 2 = 1)
    (hx : ∀ v ∈ x, v < q) (hq : 0 < q) :
    RPoly.rowAut g q (unfoldCI q x) = unfoldCI q (rowAutCI g q x) :=
  rowAut_unfoldCI K g q x hlen hg hx hq

/-- the unfolding used here is the embedding `E` of the conjugate-invariant carrier of C03 (`Proofs/RLWECI.lean`:
`RLWECI.emb`, whose image is the subring of `Z_q[X]/(X^2N+1)` fixed by `X ↦ X⁻¹`, with `E(a·b) = E a · E b`) -/
theorem unfoldCI_eq_emb (q : ℕ) (x : List ℕ) : unfoldCI q x = RLWECI.emb q x.length x := rfl

/-- The automorphism of the unfolded polynomial is the ring automorphism `X ↦ X^g` of
`Z_q[X]/(X^2N+1)` (`C01Ring.row_aut` at degree `2N`), a bijection. -/
theorem aut_ci_sem {q : ℕ} (hq : 0 < q) (K g : ℕ) (hg : Odd g) (x : List ℕ) (hlen : x.length = 2 ^ K) :
    RPolyRing.toQuot q (2 ^ (K + 1)) (RPoly.rowAut g q (unfoldCI q x))
      = RPolyRing.autHom q (2 ^ (K + 1)) g hg (RPolyRing.toQuot q (2 ^ (K + 1)) (unfoldCI q x))
    ∧ Function.Bijective (RPolyRing.autHom q (2 ^ (K + 1)) g hg) := by
  have hc : Nat.Coprime g (2 ^ (K + 1)) := by
    apply Nat.Coprime.pow_right
    rw [Nat.coprime_comm, Nat.Prime.coprime_iff_not_dvd Nat.prime_two]
    obtain ⟨k, hk⟩ := hg
    omega
  have hU : (unfoldCI q x).length = 2 ^ (K + 1) := by
    rw [unfoldCI_length, hlen, Nat.pow_succ]; ring
  obtain ⟨h1, _, h3⟩ := C01Ring.row_aut hq (Nat.one_le_two_pow) g hg hc (unfoldCI q x) hU
  exact ⟨h1, h3⟩

/-- TEST (evaluation): `N = 8`, `q = 97`, `g = 3` (`≡ 3 mod 4`), `5` and `2N + 1 = 17` (`X ↦ −X`) -/
example : rowAutCI 3 97 [1, 2, 3, 4, 5, 6, 7, 8] = (RPoly.rowAut 3 97 (unfoldCI 97 [1, 2, 3, 4, 5, 6, 7, 8])).take 8 := by
  decide +kernel
example : rowAutCI 17 97 [1, 2, 3, 4, 5, 6, 7, 8] = [1, 95, 3, 93, 5, 91, 7, 89] := by decide +kernel
example : RPoly.rowAut 7 97 (unfoldCI 97 [1, 2, 3, 4, 5, 6, 7, 8]) = unfoldCI 97 (rowAutCI 7 97 [1, 2, 3, 4, 5, 6, 7, 8]) :=
  aut_ci_closed 3 7 97 _ rfl (by decide) (by decide) (by decide)
example (g : ℕ) (hg : g % 2 = 1) :
    rowAutCI g 97 [1, 2, 3, 4, 5, 6, 7, 8] = (RPoly.rowAut g 97 (unfoldCI 97 [1, 2, 3, 4, 5, 6, 7, 8])).take (2 ^ 3) :=
  aut_ci_restriction 3 g 97 _ rfl hg (by decide)

/-- `NTTLazy`, conjugate-invariant ring, every `N = 2^K`, inputs `< M` with `M + 6q ≤ 2^64`: no wrap,
in `Z_q` the exact twist and the exact network, outputs `< max (M+2q) 4q + 2q`. -/
theorem ntt_ci_big {T : Tables} {K : ℕ} (hT : ValidCI T K) [Fact T.q.Prime] (M : ℕ)
    (hM : M + 6 * T.q ≤ W) (a : List ℕ) (ha : ∀ x ∈ a, x < M) :
    (nttCILazy T a).map (Nat.cast : ℕ → ZMod T.q)
      = fwdZ (rho T.q T.rootsF) K 2 (twistZ (rho T.q T.rootsF 1) (a.map (Nat.cast : ℕ → ZMod T.q)))
    ∧ ∀ y ∈ nttCILazy T a, y < max (M + 2 * T.q) (4 * T.q) + 2 * T.q :=
  nttCICoreLazy_big_all hT M hM a ha

/-- `NTT`, conjugate-invariant ring, of an unreduced row (entries `< M`, `M + 6q ≤ 2^64`): the
exact transform in `Z_q`, entries `< q`. -/
theorem ntt_ci_reduced_big {T : Tables} {K : ℕ} (hT : ValidCI T K) [Fact T.q.Prime] (M : ℕ)
    (hM : M + 6 * T.q ≤ W) (a : List ℕ) (ha : ∀ x ∈ a, x < M) :
    (nttCI T a).map (Nat.cast : ℕ → ZMod T.q)
      = fwdZ (rho T.q T.rootsF) K 2 (twistZ (rho T.q T.rootsF 1) (a.map (Nat.cast : ℕ → ZMod T.q)))
    ∧ ∀ y ∈ nttCI T a, y < T.q :=
  nttCI_big hT M hM a ha

/-- The reducing transform of an unreduced row is the transform of the reduced row. -/
theorem ntt_ci_unreduced {T : Tables} {K : ℕ} (hT : ValidCI T K) (M : ℕ) (hM : M + 6 * T.q ≤ W)
    (a : List ℕ) (ha : ∀ x ∈ a, x < M) : nttCI T a = nttCI T (a.map (· % T.q)) := by
  have hq0 : 0 < T.q := hT.prime.pos
  obtain ⟨h1, l1⟩ := nttCI_big hT M hM a ha
  obtain ⟨h2, l2⟩ := nttCI_cast hT (a.map (· % T.q)) (by
    intro x hx; rw [List.mem_map] at hx; obtain ⟨y, _, rfl⟩ := hx; exact Nat.mod_lt _ hq0)
  apply map_cast_inj (q := T.q) _ _ l1 l2
  rw [h1, h2]
  congr 2
  rw [List.map_map]
  apply List.map_congr_left
  intro x _
  simp only [Function.comp]
  exact (ZMod.natCast_mod x T.q).symm

theorem twist_linear {F : Type} [CommRing F] (i c : F) (A B : List F) (h : A.length = B.length) :
    twistZ i (List.zipWith (fun a b => (a - b) * c) A B)
      = List.zipWith (fun a b => (a - b) * c) (twistZ i A) (twistZ i B) := by
  have hl : (List.zipWith (fun a b => (a - b) * c) A B).length = A.length := by
    rw [List.length_zipWith, h, Nat.min_self]
  apply ListLemmas.ext_getD 0
  · rw [twistZ_length, hl, List.length_zipWith, twistZ_length, twistZ_length, h, Nat.min_self]
  · intro j hj
    rw [twistZ_length, hl] at hj
    rw [twistZ_getD _ _ j (by rw [hl]; exact hj),
      getD_zipWith_lin c (twistZ i A) (twistZ i B) (by rw [twistZ_length, twistZ_length, h]),
      twistZ_getD _ _ j hj, twistZ_getD _ _ j (h ▸ hj), hl, ← h]
    simp only [getD_zipWith_lin c A B h]
    split <;> ring

/-- non-vacuity: the generated tables of the conjugate-invariant ring of degree `16` over `q61` and rows with
entries `< 2^62` (`2^62 + 6·q61 ≤ 2^64`): residues modulo a larger prime, un-reduced sums, … -/
example (a : List ℕ) (ha : ∀ x ∈ a, x < 2 ^ 62) :
    nttCI (mkTables (2 ^ 4) C01NTT.q61 (2 ^ 6) 37) a
      = nttCI (mkTables (2 ^ 4) C01NTT.q61 (2 ^ 6) 37) (a.map (· % C01NTT.q61)) :=
  ntt_ci_unreduced (C01NTT.tables_invariant_ci 4 C01NTT.q61 37 C01NTT.q61_prime (by decide) (by decide)
    C01NTT.q61_nonresidue) (2 ^ 62) (by decide) a ha

end Lattigo.Props.C01QP

#print axioms Lattigo.Props.C01QP.qp_mulRNSScalar_view
#print axioms Lattigo.Props.C01QP.qp_level_split_counterexample
#print axioms Lattigo.Props.C01QP.aut_ci_restriction
#print axioms Lattigo.Props.C01QP.aut_ci_closed
#print axioms Lattigo.Props.C01QP.aut_ci_sem
#print axioms Lattigo.Props.C01QP.unfoldCI_eq_emb
#print axioms Lattigo.Props.C01QP.ntt_ci_big
#print axioms Lattigo.Props.C01QP.ntt_ci_reduced_big
#print axioms Lattigo.Props.C01QP.ntt_ci_unreduced
#print axioms Lattigo.Props.C01QP.twist_linear
