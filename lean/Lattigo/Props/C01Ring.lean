import Lattigo.Proofs.RPolyRing
import Lattigo.Proofs.RPolyRefine
import Lattigo.Props.C03
import Lattigo.Props.C04
/-!
  # C01 — the abstract ring layer `RPoly` IS a commutative ring, and the word-level code implements it

  The scheme-level theorems of C03, C04, C14, C16, C20 are proved for every `[CommRing α]` and the driver
  executes the same generic models on `RPoly` (`Model/RPoly.lean`: canonical RNS polynomials, one row of
  `n` reduced coefficients per modulus, schoolbook negacyclic product).  This file closes the gap
  between the two:

  1. **rows** (`Proofs/RPolyRing.lean`): `toQuot q n : List ℕ → Z_q[X]/(X^n+1)` (`AdjoinRoot`) turns
     `rowAdd/rowSub/rowNeg/rowMul/rowScale` into `+ − neg * (k·)`, is injective and surjective on
     well-formed rows (`RowWF q n`: length `n`, entries `< q`); hence the commutative-ring laws for the
     executable row operations (`q ≥ 2`, `n ≥ 1`; primality NOT needed).
  2. **polynomials**: `WFPoly qs n = {p : RPoly // p.qs = qs ∧ p.WF n}` is closed under the model's
     `+ − * neg`, carries a `CommRing` instance whose operations ARE the model's (`val_add … : rfl`), and
     `WFPoly qs n ≃+* Π_i Z_{q_i}[X]/(X^n+1)`.  The generic theorems instantiate (the `example`s of `section instantiate`).
  3. `rowAut g` is the ring automorphism `X ↦ X^g` (`g` odd, coprime to `n`), `rowMonomial k` is the
     multiplication by the unit `X^k` (`k : ℤ`); lifted to `WFPoly` (`autRingHom`, `mulMonomial_eq_mul`);
     `RQ.mont` (the driver's Montgomery pair) satisfies `IsMont` for odd moduli (`wf_mont`; uses
     `modInv_spec`: the executable extended Euclid `RPoly.modInv` IS the modular inverse).
  4. **refinement** (`Proofs/RPolyRefine.lean`): with `absRow T isNTT isMont` the abstraction function
     from stored limbs (flags `IsNTT`, `IsMontgomery`) to abstract rows, the word-level kernels
     `Add/Sub/Neg/MulCoeffsMontgomery/MForm/IMForm/NTT/INTT` (the regenerated lane functions of
     `Gen/VecLanes.lean`, the NTT of `Model/NTT.lean`) commute with `rowAdd/rowSub/rowNeg/rowMul`, for ALL
     reduced limb vectors, row-wise (`refine_lin_all`, `refine_mul_all`, `refine_*_all`) and for whole RNS
     polynomials (lifted row by row: `absPoly_ringOp1/2`).  Composed with 1: the limbs, read in
     `Z_q[X]/(X^n+1)`, are added / multiplied as ring elements (`words_*` below).

  Hypotheses: `Valid T K` and the table invariant (both proved for the tables the code generates:
  `C01NTT.tables_invariant`), i.e. `n = 2^K`, `q` prime, `q ≡ 1 (2n)`, `8q ≤ 2^64`.

  Not proved here:
  * lazy kernels (words in `[0, 2q)` …) are not connected to `absRow` beyond the final `% q`
    (their word-level congruences and ranges are in `C01Words`; the lazy NTTs in `C01NTT` / `C01QP.ntt_ci_big`);
  * `MulScalar*` / `AddScalar*` are not connected to `rowScale` by a theorem (tied: driver op `ringop`; probed
    against big integers: `ringop_ref`);
  * `RPoly.crt`/`toInts` (CRT reconstruction) are not related to the ring structure here.
  Proved in other files: the NTT-domain automorphism of the standard ring is connected to
  `rowAut` by `C01Aut.autNTT_spec` (conjugate-invariant ring, `g ≡ 1 (mod 4)`: `C11.automorphismNTT_ci`,
  `nttIndex_perm_ci`); the conjugate-invariant
  carrier (`RQ` with `ci = true`, `ciRowMul`) is the subring of `WFPoly qs (2n)` fixed by `X ↦ X⁻¹`
  (`Proofs/RLWECI.lean`, C03), and its coefficient-domain automorphism is `C01QP.aut_ci_restriction / aut_ci_closed`.
-/
namespace Lattigo.Props.C01Ring
open Lattigo Lattigo.Gen Lattigo.NTT Lattigo.RPolyRing Lattigo.RPolyRefine Polynomial

/-- On rows of length `n`, `toQuot` maps the executable row operations to the ring
operations of `Z_q[X]/(X^n+1)` (`0 < q`; no primality, no reducedness needed). -/
theorem row_hom {q n : ℕ} (hq : 0 < q) (a b : List ℕ) (ha : a.length = n) (hb : b.length = n) (k : ℕ) :
    toQuot q n (RPoly.rowAdd q a b) = toQuot q n a + toQuot q n b
    ∧ toQuot q n (RPoly.rowSub q a b) = toQuot q n a - toQuot q n b
    ∧ toQuot q n (RPoly.rowNeg q a) = -toQuot q n a
    ∧ toQuot q n (RPoly.rowMul q a b) = toQuot q n a * toQuot q n b
    ∧ toQuot q n (RPoly.rowScale k q a) = (k : Rq q n) * toQuot q n a
    ∧ toQuot q n (zeroRow n) = 0
    ∧ (1 ≤ n → toQuot q n (oneRow n) = 1) :=
  ⟨toQuot_rowAdd a b ha hb, toQuot_rowSub hq a b ha hb, toQuot_rowNeg hq a ha, toQuot_rowMul hq a b ha,
   toQuot_rowScale k a ha, toQuot_zeroRow, toQuot_oneRow⟩

/-- `toQuot` restricted to well-formed rows is a bijection onto `Z_q[X]/(X^n+1)`. -/
theorem row_bijective {q n : ℕ} (hq : 2 ≤ q) (hn : 1 ≤ n) :
    (∀ a b, RowWF q n a → RowWF q n b → toQuot q n a = toQuot q n b → a = b)
    ∧ ∀ x : Rq q n, ∃ a, RowWF q n a ∧ toQuot q n a = x :=
  ⟨fun _ _ ha hb h => toQuot_inj hq hn ha hb h, toQuot_surj hq hn⟩

/-- The row operations preserve well-formedness. -/
theorem row_closed {q n : ℕ} (hq : 2 ≤ q) (hn : 1 ≤ n) (a b : List ℕ) (ha : RowWF q n a)
    (hb : RowWF q n b) (g : ℕ) (hg : Nat.Coprime g n) (k : ℤ) :
    RowWF q n (RPoly.rowAdd q a b) ∧ RowWF q n (RPoly.rowSub q a b) ∧ RowWF q n (RPoly.rowNeg q a)
    ∧ RowWF q n (RPoly.rowMul q a b) ∧ RowWF q n (zeroRow n) ∧ RowWF q n (oneRow n)
    ∧ RowWF q n (RPoly.rowAut g q a) ∧ RowWF q n (RPoly.rowMonomial k q a) :=
  ⟨ha.add (by omega) hb, ha.sub (by omega) hb, ha.neg (by omega), ha.mul b (by omega),
   RowWF.zero (by omega), RowWF.one hq, ha.aut (by omega) hn g hg, ha.monomial (by omega) hn k⟩

/-- The commutative-ring laws of the executable row operations on well-formed rows. -/
theorem row_ring_laws {q n : ℕ} (hq : 2 ≤ q) (hn : 1 ≤ n) (a b c : List ℕ) (ha : RowWF q n a)
    (hb : RowWF q n b) (hc : RowWF q n c) :
    RPoly.rowAdd q a b = RPoly.rowAdd q b a
    ∧ RPoly.rowAdd q (RPoly.rowAdd q a b) c = RPoly.rowAdd q a (RPoly.rowAdd q b c)
    ∧ RPoly.rowAdd q a (zeroRow n) = a
    ∧ RPoly.rowAdd q a (RPoly.rowNeg q a) = zeroRow n
    ∧ RPoly.rowSub q a b = RPoly.rowAdd q a (RPoly.rowNeg q b)
    ∧ RPoly.rowMul q a b = RPoly.rowMul q b a
    ∧ RPoly.rowMul q (RPoly.rowMul q a b) c = RPoly.rowMul q a (RPoly.rowMul q b c)
    ∧ RPoly.rowMul q a (oneRow n) = a
    ∧ RPoly.rowMul q a (zeroRow n) = zeroRow n
    ∧ RPoly.rowMul q a (RPoly.rowAdd q b c) = RPoly.rowAdd q (RPoly.rowMul q a b) (RPoly.rowMul q a c)
    ∧ RPoly.rowMul q (RPoly.rowAdd q a b) c = RPoly.rowAdd q (RPoly.rowMul q a c) (RPoly.rowMul q b c) :=
  ⟨rowAdd_comm hq hn ha hb, rowAdd_assoc hq hn ha hb hc, rowAdd_zero hq hn ha, rowAdd_neg hq hn ha,
   rowSub_eq_add_neg hq hn ha hb, rowMul_comm hq hn ha hb, rowMul_assoc hq hn ha hb, rowMul_one hq hn ha,
   rowMul_zero hq hn ha, rowMul_add hq hn ha hb hc, rowAdd_mul hq hn ha hb hc⟩

/-- non-vacuity: well-formed rows for `q = 65537`, `n = 16` -/
example : RowWF 65537 16 ((List.range 16).map (fun i => 65536 - 4000 * i))
    ∧ RowWF 65537 16 ((List.range 16).map (fun i => i * i + 1)) :=
  ⟨⟨by decide, by decide⟩, ⟨by decide, by decide⟩⟩
/-- … and for a composite modulus (primality is not needed): `q = 6`, `n = 3` -/
example : RowWF 6 3 [5, 0, 3] := ⟨by decide, by decide⟩
/-- TEST (evaluation): `(1 + X)(X^2) = X^2 + X^3 = −1 + X^2` in `Z_6[X]/(X^3+1)` -/
example : RPoly.rowMul 6 [1, 1, 0] [0, 0, 1] = [5, 0, 1] := by decide

/-- `rowAut g` is the ring endomorphism `X ↦ X^g` of `Z_q[X]/(X^n+1)` (`g` odd and coprime
to `n`, e.g. `n = 2^K`), and that endomorphism is bijective. -/
theorem row_aut {q n : ℕ} (hq : 0 < q) (hn : 1 ≤ n) (g : ℕ) (hg : Odd g) (hc : Nat.Coprime g n)
    (a : List ℕ) (ha : a.length = n) :
    toQuot q n (RPoly.rowAut g q a) = autHom q n g hg (toQuot q n a)
    ∧ autHom q n g hg (AdjoinRoot.root _) = (AdjoinRoot.root (X ^ n + 1 : (ZMod q)[X])) ^ g
    ∧ Function.Bijective (autHom q n g hg) :=
  ⟨toQuot_rowAut hq hn g hg hc a ha, autHom_root g hg, autHom_bijective hn g hg hc⟩

/-- `rowMonomial k` is the multiplication by `X^k`, `k` any integer (`X` is a unit:
`X · (−X^{n−1}) = 1`). -/
theorem row_monomial {q n : ℕ} (hq : 0 < q) (hn : 1 ≤ n) (k : ℤ) (a : List ℕ) (ha : a.length = n) :
    toQuot q n (RPoly.rowMonomial k q a) = ((rootUnit q n hn ^ k : (Rq q n)ˣ) : Rq q n) * toQuot q n a
    ∧ ((rootUnit q n hn : (Rq q n)ˣ) : Rq q n) = AdjoinRoot.root _ :=
  ⟨toQuot_rowMonomial hq hn k a ha, rfl⟩

example : Odd 5 ∧ Nat.Coprime 5 16 := ⟨by decide, by decide⟩
/-- TEST (evaluation): `X ↦ X^3` on `1 + 2X + 3X^2 + 4X^3` in `Z_17[X]/(X^4+1)`:
`1 + 2X^3 + 3X^6 + 4X^9 = 1 + 4X − 3X^2 + 2X^3` -/
example : RPoly.rowAut 3 17 [1, 2, 3, 4] = [1, 4, 14, 2] := by decide
example : RPoly.rowMonomial (-1) 17 [1, 2, 3, 4] = [2, 3, 4, 16] := by decide

/-- The ring operations of `WFPoly qs n` are the model's operations on `RPoly`. -/
theorem wf_ops {qs : List ℕ} {n : ℕ} [Good qs n] (a b : WFPoly qs n) (k : ℕ) (g : ℕ)
    (hc : Nat.Coprime g n) (m : ℤ) :
    (a + b).1 = a.1 + b.1 ∧ (a - b).1 = a.1 - b.1 ∧ (a * b).1 = a.1 * b.1 ∧ (-a).1 = -a.1
    ∧ (0 : WFPoly qs n).1 = RPoly.zero qs n ∧ (a.scale k).1 = a.1.scale k
    ∧ (WFPoly.aut g hc a).1 = a.1.aut g ∧ (a.mulMonomial m).1 = a.1.mulMonomial m
    ∧ (WFPoly.mont.toM a).1 = (RLWE.RQ.mont.toM ⟨false, a.1⟩).p
    ∧ (WFPoly.mont.ofM a).1 = (RLWE.RQ.mont.ofM ⟨false, a.1⟩).p :=
  ⟨rfl, rfl, rfl, rfl, rfl, rfl, rfl, rfl, rfl, rfl⟩

/-- the driver's carrier `RLWE.RQ` in the standard ring (`ci = false`) is `RPoly` with a tag: its
operations are the `RPoly` operations (so everything below transfers to `RQ` values with `ci = false`) -/
theorem rq_std_ops (a b : RPoly) :
    ((⟨false, a⟩ : RLWE.RQ) + ⟨false, b⟩ = ⟨false, a + b⟩)
    ∧ ((⟨false, a⟩ : RLWE.RQ) - ⟨false, b⟩ = ⟨false, a - b⟩)
    ∧ ((⟨false, a⟩ : RLWE.RQ) * ⟨false, b⟩ = ⟨false, a * b⟩)
    ∧ (-(⟨false, a⟩ : RLWE.RQ) = ⟨false, -a⟩) := ⟨rfl, rfl, rfl, rfl⟩

/-- The component formula of the ring isomorphism `WFPoly.ringEquiv : WFPoly qs n ≃+* Π_i Z_{q_i}[X]/(X^n+1)`
(`Proofs/RPolyRing.lean`; the ring structure is the instance `WFPoly.instCommRing`): it is row-wise `toQuot`. -/
theorem wf_ring {qs : List ℕ} {n : ℕ} [Good qs n] (a : WFPoly qs n) (i : Fin qs.length) :
    WFPoly.ringEquiv a i = toQuot (qs.get i) n (a.1.c.getD i []) := rfl

/-- `scale k` is the multiplication by the integer `k`. -/
theorem wf_scale {qs : List ℕ} {n : ℕ} [Good qs n] (a : WFPoly qs n) (k : ℕ) :
    a.scale k = a * (k : WFPoly qs n) := WFPoly.scale_eq_mul_natCast a k

/-- `mulMonomial k` is the multiplication by the monomial `X^k`. -/
theorem wf_monomial {qs : List ℕ} {n : ℕ} [Good qs n] (a : WFPoly qs n) (k : ℤ) :
    a.mulMonomial k = a * (1 : WFPoly qs n).mulMonomial k := WFPoly.mulMonomial_eq_mul a k

/-- `aut g` is a ring endomorphism. -/
theorem wf_aut {qs : List ℕ} {n : ℕ} [Good qs n] (g : ℕ) (hg : Odd g) (hc : Nat.Coprime g n)
    (a b : WFPoly qs n) :
    WFPoly.aut g hc (a * b) = WFPoly.aut g hc a * WFPoly.aut g hc b
    ∧ WFPoly.aut g hc (a + b) = WFPoly.aut g hc a + WFPoly.aut g hc b
    ∧ WFPoly.aut g hc (1 : WFPoly qs n) = 1 :=
  ⟨map_mul (WFPoly.autRingHom g hg hc) a b, map_add (WFPoly.autRingHom g hg hc) a b,
   map_one (WFPoly.autRingHom g hg hc)⟩

/-- The executable `RPoly.modInv` (extended Euclid with fuel `2(log2 m + 2)`) returns
the inverse of `a` modulo `m` whenever `gcd(a, m) = 1`. -/
theorem modInv_spec (a m : ℕ) (hm : 2 ≤ m) (hc : Nat.Coprime a m) : (a * RPoly.modInv a m) % m = 1 :=
  RPolyRing.modInv_spec a m hm hc
example : Nat.Coprime 18446744073709551616 65537 := by decide +kernel

/-- For odd moduli the driver's Montgomery conversions are the multiplications by the
unit `R = 2^64` and by `R⁻¹`. -/
theorem wf_mont {qs : List ℕ} {n : ℕ} [Good qs n] (hodd : ∀ q ∈ qs, q % 2 = 1) :
    RLWE.IsMont (WFPoly.mont (qs := qs) (n := n)) (WFPoly.constNat fun q => RLWE.RQ.Rword % q)
      (WFPoly.constNat fun q => RPoly.modInv (RLWE.RQ.Rword % q) q) := WFPoly.isMont_mont_of_odd hodd

/-- non-vacuity: two NTT-friendly primes and a composite modulus, degree `16` -/
instance good16 : Good [65537, 114689, 6] 16 := ⟨by decide, by decide⟩
instance good16' : Good [65537, 114689] 16 := ⟨by decide, by decide⟩
example : ∀ q ∈ [65537, 114689], q % 2 = 1 := by decide

/-- a concrete element: `1 + 2X + … + 16 X^15` modulo each modulus -/
def sample16 : WFPoly [65537, 114689, 6] 16 :=
  WFPoly.const (fun q => (List.range 16).map fun i => (i + 1) % q)
    (fun q hq => ⟨by simp, fun x hx => by
      simp only [List.mem_map] at hx
      obtain ⟨i, _, rfl⟩ := hx
      exact Nat.mod_lt _ (by omega)⟩)

/-- the ring laws hold for the MODEL's operations on this element (from the instance, not by evaluation) -/
example : (sample16 * sample16 + sample16).1 = (sample16 * (sample16 + 1)).1 := by
  rw [mul_add, mul_one]

section instantiate
open Lattigo.RLWE
variable {qs : List ℕ} {n : ℕ} [Good qs n] {μ : Type}

/-- C03 `dec_enc_sk` on the model's carrier, with the driver's Montgomery pair -/
example (hR : ∀ q ∈ qs, q % 2 = 1) (ntt intt : WFPoly qs n → WFPoly qs n) (pt : Pt (WFPoly qs n) μ)
    (ct : Ct (WFPoly qs n) μ) (o0 o1 : WFPoly qs n) (rest : List (WFPoly qs n))
    (hct : ct.value = o0 :: o1 :: rest) (a e s : WFPoly qs n) :
    (encrypt (ezSk WFPoly.mont a e (WFPoly.mont.toM s)) ntt intt (some pt) ct).bind
        (fun ct' => decrypt WFPoly.mont ct' (WFPoly.mont.toM s))
      = some { value := pt.value + montIf WFPoly.mont pt.md.isMont e, md := pt.md } :=
  Lattigo.Props.C03.dec_enc_sk (wf_mont hR) ntt intt pt ct o0 o1 rest hct a e s

/-- C03 `dec_enc_pk_noP` -/
example (hR : ∀ q ∈ qs, q % 2 = 1) (ntt intt : WFPoly qs n → WFPoly qs n) (pt : Pt (WFPoly qs n) μ)
    (ct : Ct (WFPoly qs n) μ) (o0 o1 : WFPoly qs n) (rest : List (WFPoly qs n))
    (hct : ct.value = o0 :: o1 :: rest) (u e0 e1 pk0 pk1 epk s : WFPoly qs n)
    (hpk : pk0 + pk1 * s = epk) :
    (encrypt (ezPkNoP WFPoly.mont u e0 e1 (WFPoly.mont.toM pk0) (WFPoly.mont.toM pk1)) ntt intt
        (some pt) ct).bind (fun ct' => decrypt WFPoly.mont ct' (WFPoly.mont.toM s))
      = some { value := pt.value + montIf WFPoly.mont pt.md.isMont (u * epk + e0 + e1 * s),
               md := pt.md } :=
  Lattigo.Props.C03.dec_enc_pk_noP (wf_mont hR) ntt intt pt ct o0 o1 rest hct u e0 e1 pk0 pk1
    epk s hpk

/-- C03 `wrong_key` -/
example (hR : ∀ q ∈ qs, q % 2 = 1) (ntt intt : WFPoly qs n → WFPoly qs n) (pt : Pt (WFPoly qs n) μ)
    (ct : Ct (WFPoly qs n) μ) (o0 o1 : WFPoly qs n) (rest : List (WFPoly qs n))
    (hct : ct.value = o0 :: o1 :: rest) (a e s s' : WFPoly qs n) :
    ∃ out, (encrypt (ezSk WFPoly.mont a e (WFPoly.mont.toM s)) ntt intt (some pt) ct).bind
          (fun ct' => decrypt WFPoly.mont ct' (WFPoly.mont.toM s')) = some out
      ∧ out.value - pt.value = montIf WFPoly.mont pt.md.isMont e + a * (s' - s) ∧ out.md = pt.md :=
  Lattigo.Props.C03.wrong_key (wf_mont hR) ntt intt pt ct o0 o1 rest hct a e s s'

open Lattigo.KS in
/-- C04 `keyswitch_phase_QP` -/
example (pg : Nat → Nat → WFPoly qs n) (P c sIn sOut : WFPoly qs n)
    (samples : List (List (WFPoly qs n × WFPoly qs n))) (d : List (List (WFPoly qs n)))
    (hG : wsumMat 0 d (pgMat pg samples) = P * c) :
    phase (dotMat 0 d (genEvaluationKey pg sIn sOut samples)) sOut
      = P * c * sIn + wsumMat 0 d (eMat samples) :=
  Lattigo.KS.C04.keyswitch_phase_QP pg P c sIn sOut samples d hG

open Lattigo.KS in
/-- C04 `automorphismHoistedLazy_phase` with the model's Galois map `RPoly.aut g` as `σ` -/
example (g : ℕ) (hg : Odd g) (hc : Nat.Coprime g n) (σinv : WFPoly qs n → WFPoly qs n)
    (pg : Nat → Nat → WFPoly qs n) (P c0 c1 s : WFPoly qs n)
    (samples : List (List (WFPoly qs n × WFPoly qs n))) (d : List (List (WFPoly qs n)))
    (hσ : WFPoly.autRingHom g hg hc (σinv s) = s) (hG : wsumMat 0 d (pgMat pg samples) = P * c1) :
    phase (automorphismHoistedLazy (WFPoly.autRingHom g hg hc)
        (dotMat 0 d (genGaloisKey σinv pg s samples)) (P * c0)) s
      = WFPoly.autRingHom g hg hc (P * phase (c0, c1) s + wsumMat 0 d (eMat samples)) :=
  Lattigo.KS.C04.automorphismHoistedLazy_phase (WFPoly.autRingHom g hg hc) σinv pg P c0 c1 s samples d hσ hG

end instantiate

section refinement
variable {T : Tables} {K : ℕ}

/-- `Red T` (the side condition of `Proofs/RPolyRefine.lean`) is `RowWF T.q T.n` -/
theorem red_iff_rowWF (T : Tables) (a : List ℕ) : Red T a ↔ RowWF T.q T.n a :=
  ⟨fun h => ⟨h.len, h.lt⟩, fun h => ⟨h.len, h.lt⟩⟩

/-- The pipeline the library uses for a ring multiplication:
`INTT (MulCoeffsMontgomery (NTT a) (MForm (NTT b))) = a ⊛ b`, word for word. -/
theorem refine_mul (hT : Valid T K) (hinv : TableInv (rho T.q T.rootsF) (2 ^ K)) (a b : List ℕ)
    (ha : RowWF T.q T.n a) (hb : RowWF T.q T.n b) :
    inttStd T (List.zipWith (fun x y => MRed x y T.q T.qinv) (nttStd T a)
        ((nttStd T b).map (fun y => MForm y T.q T.bred))) = RPoly.rowMul T.q a b :=
  RPolyRefine.refine_mul hT hinv a b ((red_iff_rowWF T a).2 ha) ((red_iff_rowWF T b).2 hb)

/-- `absRow` inverts the storage map `reprRow` (and conversely on reduced limbs),
for the four flag combinations. -/
theorem refine_abs_repr (hT : Valid T K) (f g : Bool) (a : List ℕ) (ha : RowWF T.q T.n a) :
    absRow T f g (reprRow T f g a) = a ∧ reprRow T f g (absRow T f g a) = a :=
  ⟨absRow_reprRow hT f g a ((red_iff_rowWF T a).2 ha), reprRow_absRow hT f g a ((red_iff_rowWF T a).2 ha)⟩

/-- Commuting squares (all reduced limb vectors `x y`, all flag combinations `f g`):
the kernels `Add`, `Sub`, `Neg` act on the abstract rows as `rowAdd`, `rowSub`, `rowNeg`;
`MulCoeffsMontgomery` of an NTT row with an NTT+Montgomery row as `rowMul`; `MForm`, `IMForm`, `NTT`,
`INTT` only change the flags. -/
theorem refine_ops (hT : Valid T K) (hinv : TableInv (rho T.q T.rootsF) (2 ^ K)) (f g : Bool)
    (x y : List ℕ) (hx : RowWF T.q T.n x) (hy : RowWF T.q T.n y) :
    absRow T f g (List.zipWith (fun u v => addvec_lane u v 0 T.q) x y)
        = RPoly.rowAdd T.q (absRow T f g x) (absRow T f g y)
    ∧ absRow T f g (List.zipWith (fun u v => subvec_lane u v 0 T.q) x y)
        = RPoly.rowSub T.q (absRow T f g x) (absRow T f g y)
    ∧ absRow T f g (List.map (fun u => negvec_lane u 0 T.q) x) = RPoly.rowNeg T.q (absRow T f g x)
    ∧ absRow T true false (List.zipWith (fun u v => mulcoeffsmontgomeryvec_lane u v 0 T.q T.qinv) x y)
        = RPoly.rowMul T.q (absRow T true false x) (absRow T true true y)
    ∧ absRow T f true (List.map (fun u => mformvec_lane u 0 T.q T.bred) x) = absRow T f false x
    ∧ absRow T f false (List.map (fun u => imformvec_lane u 0 T.q T.qinv) x) = absRow T f true x
    ∧ absRow T true false (nttStd T x) = absRow T false false x
    ∧ absRow T false false (inttStd T x) = absRow T true false x := by
  have hx' := (red_iff_rowWF T x).2 hx
  have hy' := (red_iff_rowWF T y).2 hy
  have hq := hT.q_pos
  refine ⟨refine_lin_all hT (linAdd hq) _
      (fun u v hu hv => by rw [addvec_lane_red hT u v hu hv, Nat.mod_mod]) f g x y hx' hy',
    refine_lin_all hT (linSub hq) _
      (fun u v hu hv => by rw [subvec_lane_red hT u v hu hv, Nat.mod_mod]) f g x y hx' hy', ?_,
    refine_mul_all hT hinv x y hx' hy', refine_mform_all hT f x hx', refine_imform_all hT f x hx',
    refine_ntt_all hT x hx', refine_intt_all hT x hx'⟩
  rw [rowNeg_eq_zipWith, ← refine_lin_all hT (linNeg hq) (fun u _ => negvec_lane u 0 T.q)
    (fun u _ hu _ => negvec_lane_red hT u hu) f g x x hx' hx', List.zipWith_self]

/-- the element of `Z_q[X]/(X^n+1)` denoted by stored limbs under the flags `(IsNTT, IsMontgomery)` -/
noncomputable def denote (T : Tables) (isNTT isMont : Bool) (limbs : List ℕ) : Rq T.q T.n :=
  toQuot T.q T.n (absRow T isNTT isMont limbs)

/-- Rows (`row_hom`) composed with refinement (`refine_ops`): the word-level kernels compute the ring operations of `Z_q[X]/(X^n+1)` on
the denotations of their operands. -/
theorem words_ring (hT : Valid T K) (hinv : TableInv (rho T.q T.rootsF) (2 ^ K)) (f g : Bool)
    (x y : List ℕ) (hx : RowWF T.q T.n x) (hy : RowWF T.q T.n y) :
    denote T f g (List.zipWith (fun u v => addvec_lane u v 0 T.q) x y) = denote T f g x + denote T f g y
    ∧ denote T f g (List.zipWith (fun u v => subvec_lane u v 0 T.q) x y) = denote T f g x - denote T f g y
    ∧ denote T f g (List.map (fun u => negvec_lane u 0 T.q) x) = -denote T f g x
    ∧ denote T true false (List.zipWith (fun u v => mulcoeffsmontgomeryvec_lane u v 0 T.q T.qinv) x y)
        = denote T true false x * denote T true true y := by
  have hx' := (red_iff_rowWF T x).2 hx
  have hy' := (red_iff_rowWF T y).2 hy
  have hq := hT.q_pos
  obtain ⟨h1, h2, h3, h4, _⟩ := refine_ops hT hinv f g x y hx hy
  unfold denote
  rw [h1, h2, h3, h4]
  exact ⟨toQuot_rowAdd _ _ (hx'.abs hT f g).len (hy'.abs hT f g).len,
    toQuot_rowSub hq _ _ (hx'.abs hT f g).len (hy'.abs hT f g).len,
    toQuot_rowNeg hq _ (hx'.abs hT f g).len,
    toQuot_rowMul hq _ _ (hx'.abs hT true false).len⟩

/-- the polynomial denoted by reduced limbs is well-formed (so it is an element of the ring `WFPoly`) -/
theorem absPoly_wf (Ts : List Tables) (hTs : ∀ T ∈ Ts, Valid T K) (f g : Bool) (x : List (List ℕ))
    (hx : RedPoly Ts x) : (absPoly Ts f g x).WF (2 ^ K) := by
  unfold absPoly RPoly.WF
  induction hx with
  | nil => exact ⟨rfl, fun i hi => absurd hi (by simp)⟩
  | @cons T u Ts' x' hu _ ih =>
    obtain ⟨ihl, ihr⟩ := ih (fun T' hT' => hTs T' (List.mem_cons_of_mem _ hT'))
    refine ⟨by simpa using ihl, fun i hi => ?_⟩
    cases i with
    | zero =>
      have h := (red_iff_rowWF T _).1 (hu.abs (hTs T (List.mem_cons_self ..)) f g)
      rw [(hTs T (List.mem_cons_self ..)).n_eq] at h
      simpa using h
    | succ j =>
      have := ihr j (by simpa using hi)
      simpa using this

/-- the moduli and degree of a list of valid tables are admissible parameters -/
theorem good_of_tables (Ts : List Tables) (hTs : ∀ T ∈ Ts, Valid T K) : Good (Ts.map (·.q)) (2 ^ K) :=
  ⟨Nat.one_le_two_pow, fun q hq => by
    obtain ⟨T, hT, rfl⟩ := List.mem_map.1 hq
    exact (hTs T hT).prime.two_le⟩

/-- stored limbs as an element of the commutative ring `WFPoly` -/
def wfAbs (Ts : List Tables) (hTs : ∀ T ∈ Ts, Valid T K) (f g : Bool) (x : List (List ℕ))
    (hx : RedPoly Ts x) : WFPoly (Ts.map (·.q)) (2 ^ K) :=
  ⟨absPoly Ts f g x, rfl, absPoly_wf Ts hTs f g x hx⟩

/-- In the commutative ring `WFPoly qs n ≃+* Π_i Z_{q_i}[X]/(X^n+1)`, the RNS
polynomial stored after `ring.Ring.Add / Sub / Neg / MulCoeffsMontgomery` is the sum / difference /
opposite / product of the polynomials stored in the operands. -/
theorem words_poly_ring (Ts : List Tables)
    (hTs : ∀ T ∈ Ts, Valid T K ∧ TableInv (rho T.q T.rootsF) (2 ^ K)) [Good (Ts.map (·.q)) (2 ^ K)]
    (f g : Bool) (x y : List (List ℕ)) (hx : RedPoly Ts x) (hy : RedPoly Ts y) :
    let hV : ∀ T ∈ Ts, Valid T K := fun T hT => (hTs T hT).1
    absPoly Ts f g (ringOp2 (fun T => List.zipWith (fun u v => addvec_lane u v 0 T.q)) Ts x y)
        = (wfAbs Ts hV f g x hx + wfAbs Ts hV f g y hy).1
    ∧ absPoly Ts f g (ringOp2 (fun T => List.zipWith (fun u v => subvec_lane u v 0 T.q)) Ts x y)
        = (wfAbs Ts hV f g x hx - wfAbs Ts hV f g y hy).1
    ∧ absPoly Ts f g (ringOp1 (fun T => List.map (fun u => negvec_lane u 0 T.q)) Ts x)
        = (-wfAbs Ts hV f g x hx).1
    ∧ absPoly Ts true false
        (ringOp2 (fun T => List.zipWith (fun u v => mulcoeffsmontgomeryvec_lane u v 0 T.q T.qinv)) Ts x y)
        = (wfAbs Ts hV true false x hx * wfAbs Ts hV true true y hy).1 := by
  have row := fun T (hT : T ∈ Ts) u v (hu : Red T u) (hv : Red T v) =>
    refine_ops (hTs T hT).1 (hTs T hT).2 f g u v ((red_iff_rowWF T u).1 hu) ((red_iff_rowWF T v).1 hv)
  exact ⟨absPoly_ringOp2 _ RPoly.rowAdd f g f g f g Ts x y (fun T hT u v hu hv => (row T hT u v hu hv).1) hx hy,
    absPoly_ringOp2 _ RPoly.rowSub f g f g f g Ts x y (fun T hT u v hu hv => (row T hT u v hu hv).2.1) hx hy,
    absPoly_ringOp1 _ RPoly.rowNeg f g f g Ts x (fun T hT u hu => (row T hT u u hu hu).2.2.1) hx,
    absPoly_ringOp2 _ RPoly.rowMul true false true false true true Ts x y
      (fun T hT u v hu hv => (row T hT u v hu hv).2.2.2.1) hx hy⟩

/-- non-vacuity: the tables the code generates for `q = 65537`, `N = 16` (`g = 3`) are `Valid` and
satisfy the table invariant; two concrete reduced rows -/
example : (Valid (mkTables (2 ^ 4) 65537 (2 ^ 5) 3) 4
      ∧ TableInv (rho 65537 (mkTables (2 ^ 4) 65537 (2 ^ 5) 3).rootsF) (2 ^ 4))
    ∧ RowWF (mkTables (2 ^ 4) 65537 (2 ^ 5) 3).q (mkTables (2 ^ 4) 65537 (2 ^ 5) 3).n
        ((List.range 16).map (fun i => 65536 - 4000 * i))
    ∧ RowWF (mkTables (2 ^ 4) 65537 (2 ^ 5) 3).q (mkTables (2 ^ 4) 65537 (2 ^ 5) 3).n
        ((List.range 16).map (fun i => i * i + 1)) :=
  ⟨T16_valid, ⟨by decide, by decide⟩, ⟨by decide, by decide⟩⟩

/-- an instance of `words_ring` obtained from the theorem (not by evaluation) -/
example :
    let T := mkTables (2 ^ 4) 65537 (2 ^ 5) 3
    let x := (List.range 16).map (fun i => 65536 - 4000 * i)
    let y := (List.range 16).map (fun i => i * i + 1)
    denote T true false (List.zipWith (fun u v => mulcoeffsmontgomeryvec_lane u v 0 T.q T.qinv) x y)
      = denote T true false x * denote T true true y :=
  (words_ring T16_valid.1 T16_valid.2 true false _ _ ⟨by decide, by decide⟩ ⟨by decide, by decide⟩).2.2.2

/-- TEST (evaluation): the word-level pipeline and the schoolbook product agree on these rows -/
example :
    let T := mkTables (2 ^ 4) 65537 (2 ^ 5) 3
    let a := (List.range 16).map (fun i => 65536 - 4000 * i)
    let b := (List.range 16).map (fun i => i * i + 1)
    inttStd T (List.zipWith (fun x y => MRed x y T.q T.qinv) (nttStd T a)
        ((nttStd T b).map (fun y => MForm y T.q T.bred))) = RPoly.rowMul T.q a b := by decide +kernel

end refinement

end Lattigo.Props.C01Ring

#print axioms Lattigo.Props.C01Ring.row_hom
#print axioms Lattigo.Props.C01Ring.row_bijective
#print axioms Lattigo.Props.C01Ring.row_closed
#print axioms Lattigo.Props.C01Ring.row_ring_laws
#print axioms Lattigo.Props.C01Ring.row_aut
#print axioms Lattigo.Props.C01Ring.row_monomial
#print axioms Lattigo.Props.C01Ring.wf_ops
#print axioms Lattigo.Props.C01Ring.rq_std_ops
#print axioms Lattigo.Props.C01Ring.wf_ring
#print axioms Lattigo.Props.C01Ring.wf_scale
#print axioms Lattigo.Props.C01Ring.wf_monomial
#print axioms Lattigo.Props.C01Ring.wf_aut
#print axioms Lattigo.Props.C01Ring.modInv_spec
#print axioms Lattigo.Props.C01Ring.wf_mont
#print axioms Lattigo.RPolyRing.WFPoly.instCommRing
#print axioms Lattigo.RPolyRing.WFPoly.ringEquiv
#print axioms Lattigo.RPolyRing.WFPoly.autRingHom
#print axioms Lattigo.Props.C01Ring.refine_mul
#print axioms Lattigo.Props.C01Ring.refine_abs_repr
#print axioms Lattigo.Props.C01Ring.refine_ops
#print axioms Lattigo.Props.C01Ring.words_ring
#print axioms Lattigo.Props.C01Ring.absPoly_wf
#print axioms Lattigo.Props.C01Ring.words_poly_ring
