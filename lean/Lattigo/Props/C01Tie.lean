import Lattigo.Proofs.SubRingOps
import Lattigo.Proofs.KernelLoop
/-!
  # C01 — tie between the model of the vector layer and the Go code (property theorems)

  Two gaps between `Model/Vec.lean` and `/repo/ring` are closed here by theorems over REGENERATED
  definitions (tools/go2lean rewrites `Gen/SubRingOps.lean`, `Gen/VecLanes.lean` from /repo on every
  `./check`, so these theorems are re-checked against the current source):

  1. **wrapper table** — `Vec.op` (hand-written: SubRing method name ↦ kernel lane with constants and
     argument order) agrees with the wrappers of ring/subring_ops.go (`vecOp_table`);
  2. **kernel loop** — the unrolled Go loop of a kernel, executed statement by statement on a memory in
     which the slice parameters may ALIAS in any pattern, computes the pointwise map of the kernel's
     lane over the initial contents (`kernel_loop_spec`, `kernel_loop_map3`): this is what `Vec.op`
     (`map3`/`map2` of the lane) assumes.
-/
namespace Lattigo.Props.C01Tie
open Lattigo Lattigo.Gen Lattigo.Vec Lattigo.KernelLoop

/-- For EVERY kernel-wrapping method of ring/subring_ops.go (the 36 names of the
regenerated string table `Gen.subRingOps`: method, kernel, actual arguments), `Vec.op name` is
`map3` (3-slice methods) resp. `map2` (2-slice methods) of the REGENERATED wrapper lane
`Gen.SubRing_<name>_lane s.q s.qinv s.bred …` — same kernel, same constants, same argument order. -/
theorem vecOp_table (s : Sub) (p1 p2 p3 : List Nat) (s0 s1 : Nat) :
    ∀ name ∈ subRingOps.map (·.1),
      (∃ f, (name, f) ∈ subRingTable3 s.q s.qinv s.bred s0 s1
          ∧ Vec.op s name p1 p2 p3 s0 s1 = some (map3 f p1 p2 p3))
      ∨ (∃ f, (name, f) ∈ subRingTable2 s.q s.qinv s.bred s0 s1
          ∧ Vec.op s name p1 p2 p3 s0 s1 = some (map2 f p1 p3)) :=
  Vec.vecOp_table s p1 p2 p3 s0 s1

/-- entry-wise forms (the 21 three-slice and the 15 two-slice wrappers) -/
theorem vecOp_table3 (s : Sub) (p1 p2 p3 : List Nat) (s0 s1 : Nat) :
    ∀ e ∈ subRingTable3 s.q s.qinv s.bred s0 s1,
      Vec.op s e.1 p1 p2 p3 s0 s1 = some (map3 e.2 p1 p2 p3) :=
  Vec.vecOp_table3 s p1 p2 p3 s0 s1

theorem vecOp_table2 (s : Sub) (p1 p2 p3 : List Nat) (s0 s1 : Nat) :
    ∀ e ∈ subRingTable2 s.q s.qinv s.bred s0 s1,
      Vec.op s e.1 p1 p2 p3 s0 s1 = some (map2 e.2 p1 p3) :=
  Vec.vecOp_table2 s p1 p2 p3 s0 s1

/-- the wrapper tables cover the string table exactly; every wrapper calls a translated kernel -/
theorem subRingOps_cover : (subRingOps.map (·.1)).Perm (subRingNames3 ++ subRingNames2) :=
  Vec.subRingOps_names_cover
theorem subRingOps_kernels : ∀ e ∈ subRingOps, e.2.1 ∈ kernelNames := by
  intro e he
  -- the numbers are the positions in `kernelNames` of the kernel each wrapper calls, in the order of
  -- `subRingOps`, so that the names are compared literal against literal.  Both tables are
  -- regenerated: a change of the wrappers (ring/subring_ops.go) or of the set of kernels
  -- (ring/vec_ops.go) is meant to break this proof; the positions are then
  -- `subRingOps.map fun e => kernelNames.idxOf e.2.1`
  have h : some e.2.1 ∈ [8, 3, 37, 34, 31, 33, 32, 16, 15, 14, 12, 26, 13, 25, 20, 22, 21, 18, 24, 23,
      19, 17, 2, 5, 7, 6, 4, 35, 30, 27, 29, 28, 36, 11, 10, 9].map (kernelNames[·]?) :=
    List.mem_map_of_mem (f := fun e => some e.2.1) he
  obtain ⟨i, -, hi⟩ := List.mem_map.1 h
  exact List.mem_of_getElem? hi

/-- non-vacuity: `MulCoeffsMontgomeryThenAdd` is in the table, with the Montgomery constant last -/
example : ("MulCoeffsMontgomeryThenAdd", "mulcoeffsmontgomerythenaddvec",
    ["p1", "p2", "p3", "s.Modulus", "s.MRedConstant"]) ∈ subRingOps := by
  simp only [subRingOps, List.mem_cons, true_or, or_true]
example : Vec.op (mkSub 97) "Sub" [5, 1] [7, 1] [0, 0] 0 0 = some [95, 0] := by decide

/-- For slice ids `p1 p2 p3` that may be EQUAL in any pattern, lanes that are
uniform (`Gen.K_uniform`) and `8 ∣ N`: after the sequential execution of
`for j := 0; j < N; j += 8 { z[0] = …; …; z[7] = … }` on the memory `m₀`,
`p3[i] = lane (m₀ p1 i) (m₀ p2 i) (m₀ p3 i)` for all `i < N` and nothing else changed. -/
theorem kernel_loop_spec {σ : Type} [DecidableEq σ] (lanes : Lanes) (lane : Nat → Nat → Nat → Nat)
    (hU : ∀ w1 w2 w3, lanes w1 w2 w3 = lanes8 (fun k => lane (w1 k) (w2 k) (w3 k)))
    (p1 p2 p3 : σ) (N : Nat) (h8 : 8 ∣ N) (m0 : Mem σ) :
    (∀ i, i < N → runLoop lanes p1 p2 p3 N m0 p3 i = lane (m0 p1 i) (m0 p2 i) (m0 p3 i))
    ∧ (∀ s i, ¬ (s = p3 ∧ i < N) → runLoop lanes p1 p2 p3 N m0 s i = m0 s i) :=
  runLoop_spec lanes lane hU p1 p2 p3 N h8 m0

/-- The content of the output slice after the loop is `Vec.map3 lane` of the
three INITIAL contents (what `Vec.op` computes), for every aliasing pattern. -/
theorem kernel_loop_map3 {σ : Type} [DecidableEq σ] (lanes : Lanes) (lane : Nat → Nat → Nat → Nat)
    (hU : ∀ w1 w2 w3, lanes w1 w2 w3 = lanes8 (fun k => lane (w1 k) (w2 k) (w3 k)))
    (p1 p2 p3 : σ) (N : Nat) (h8 : 8 ∣ N) (m0 : Mem σ) :
    content (runLoop lanes p1 p2 p3 N m0) p3 N
      = Vec.map3 lane (content m0 p1 N) (content m0 p2 N) (content m0 p3 N) :=
  runLoop_map3 lanes lane hU p1 p2 p3 N h8 m0

/-- 2-slice kernels: `Vec.map2` -/
theorem kernel_loop_map2 {σ : Type} [DecidableEq σ] (lanes : Lanes) (lane : Nat → Nat → Nat)
    (hU : ∀ w1 w2 w3, lanes w1 w2 w3 = lanes8 (fun k => lane (w1 k) (w3 k)))
    (p1 p2 p3 : σ) (N : Nat) (h8 : 8 ∣ N) (m0 : Mem σ) :
    content (runLoop lanes p1 p2 p3 N m0) p3 N = Vec.map2 lane (content m0 p1 N) (content m0 p3 N) := by
  have h := (runLoop_spec lanes (fun a _ c => lane a c) hU p1 p2 p3 N h8 m0).1
  unfold Vec.map2 content
  apply List.ext_getElem
  · simp
  · intro i h1 h2
    simp only [List.length_map, List.length_range] at h1
    simp [h i h1]

/-- **`SubRing.Add` in place** (`r.Add(p, p, p)`-style calls are common in lattigo): with
`p1 = p2 = p3 = p` the loop of `addvec` leaves `p[i] = addvec_lane (p₀[i]) (p₀[i]) (p₀[i]) q`. -/
theorem addvec_inplace {σ : Type} [DecidableEq σ] (q : Nat) (p : σ) (N : Nat) (h8 : 8 ∣ N)
    (m0 : Mem σ) (i : Nat) (hi : i < N) :
    runLoop (fun w1 w2 w3 => addvec_lanes w1 w2 w3 q) p p p N m0 p i
      = addvec_lane (m0 p i) (m0 p i) (m0 p i) q :=
  (runLoop_spec _ (fun a b c => addvec_lane a b c q) (fun w1 w2 w3 => addvec_uniform w1 w2 w3 q)
    p p p N h8 m0).1 i hi

/-- **`MulCoeffsMontgomery`** through its regenerated `_uniform` theorem, any aliasing -/
theorem mulcoeffsmontgomeryvec_loop_map3 {σ : Type} [DecidableEq σ] (q qinv : Nat) (p1 p2 p3 : σ)
    (N : Nat) (h8 : 8 ∣ N) (m0 : Mem σ) :
    content (runLoop (fun w1 w2 w3 => mulcoeffsmontgomeryvec_lanes w1 w2 w3 q qinv) p1 p2 p3 N m0) p3 N
      = Vec.map3 (fun a b c => mulcoeffsmontgomeryvec_lane a b c q qinv)
          (content m0 p1 N) (content m0 p2 N) (content m0 p3 N) :=
  runLoop_map3 _ _ (fun w1 w2 w3 => mulcoeffsmontgomeryvec_uniform w1 w2 w3 q qinv) p1 p2 p3 N h8 m0

/-- **`MulCoeffsMontgomeryLazyThenAddLazy`** (accumulating: reads `p3` before writing it; with
`p1 = p3` the accumulator is also a factor), any aliasing: the loop leaves literally what
`Vec.op "MulCoeffsMontgomeryLazyThenAddLazy"` returns on the initial contents (its entry in
`vecOp_table3`): model = loop semantics = regenerated wrapper. -/
theorem vecOp_is_loop_MulCoeffsMontgomeryLazyThenAddLazy {σ : Type} [DecidableEq σ] (s : Sub)
    (p1 p2 p3 : σ) (N : Nat) (h8 : 8 ∣ N) (m0 : Mem σ) (s0 s1 : Nat) :
    Vec.op s "MulCoeffsMontgomeryLazyThenAddLazy" (content m0 p1 N) (content m0 p2 N)
        (content m0 p3 N) s0 s1
      = some (content (runLoop
          (fun w1 w2 w3 => mulcoeffsmontgomerylazythenaddlazyvec_lanes w1 w2 w3 s.q s.qinv)
          p1 p2 p3 N m0) p3 N) := by
  rw [runLoop_map3 _ (fun a b c => mulcoeffsmontgomerylazythenaddlazyvec_lane a b c s.q s.qinv)
    (fun w1 w2 w3 => mulcoeffsmontgomerylazythenaddlazyvec_uniform w1 w2 w3 s.q s.qinv) p1 p2 p3 N h8 m0]
  exact vecOp_table3 s _ _ _ s0 s1
    ("MulCoeffsMontgomeryLazyThenAddLazy", fun a b c =>
      SubRing_MulCoeffsMontgomeryLazyThenAddLazy_lane s.q s.qinv s.bred a b c)
    (by simp only [subRingTable3, List.mem_cons, true_or, or_true])

/-- every one of the 38 kernels writes its last slice parameter (regenerated table) -/
theorem kernelSigs_out_last : ∀ k ∈ kernelSigs, k.2.1.getLast? = some k.2.2 := by decide

/-- non-vacuity / TEST: the loop run on a concrete 8-word memory with ALL THREE slices aliased
(`Bool` slice ids, everything is slice `true`) -/
example : content (runLoop (fun w1 w2 w3 => addvec_lanes w1 w2 w3 97) true true true 8
      (fun _ i => i + 40)) true 8
    = [80, 82, 84, 86, 88, 90, 92, 94] := by decide
example : (8 : Nat) ∣ 8 := by decide

end Lattigo.Props.C01Tie

#print axioms Lattigo.Props.C01Tie.vecOp_table
#print axioms Lattigo.Props.C01Tie.vecOp_table3
#print axioms Lattigo.Props.C01Tie.vecOp_table2
#print axioms Lattigo.Props.C01Tie.subRingOps_cover
#print axioms Lattigo.Props.C01Tie.subRingOps_kernels
#print axioms Lattigo.Props.C01Tie.kernel_loop_spec
#print axioms Lattigo.Props.C01Tie.kernel_loop_map3
#print axioms Lattigo.Props.C01Tie.kernel_loop_map2
#print axioms Lattigo.Props.C01Tie.addvec_inplace
#print axioms Lattigo.Props.C01Tie.mulcoeffsmontgomeryvec_loop_map3
#print axioms Lattigo.Props.C01Tie.vecOp_is_loop_MulCoeffsMontgomeryLazyThenAddLazy
#print axioms Lattigo.Props.C01Tie.kernelSigs_out_last
