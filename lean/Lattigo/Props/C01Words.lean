import Lattigo.Proofs.ModRed
import Lattigo.Proofs.Butterfly
import Lattigo.Proofs.Kernels
/-!
  # C01 — word level and lane level

  Property-level theorems about the REGENERATED definitions `Lattigo.Gen.*` (printed by
  `tools/go2lean` from `/repo/ring/modular_reduction.go`, `ring/ntt.go` (butterflies) and
  `ring/vec_ops.go` on every run), i.e. about what the Go source says today.

  * `W = 2^64`; `MontConst q qinv := (q * qinv) % W = 1`; `brc q` = `GenBRedConstant q`
    (`Model/BRedConst.lean`; math/big, hand-modelled).
  * A hypothesis `v < W` says "`v` is a uint64"; the other hypotheses are the input ranges.
    The bounds on `q`, each recorded next to its theorem:
      - Montgomery (`MRed`, `MRedLazy`, `IMForm`): `q` odd (via `MontConst`), `2q ≤ 2^64`
        (`IMForm`: `q < 2^64`), product `x·y < q·2^64`;
      - Barrett (`BRed`, `BRedLazy`, `MForm`): `2 ≤ q`, `2q ≤ 2^64`, ALL uint64 inputs;
        `BRedAdd(Lazy)`: `2 ≤ q` only.  `2q ≤ 2^64` is necessary for `BRed` (`BRed_large_q_counterexample`);
      - butterflies: `6q ≤ 2^64`; non-reducing NTT step from `< 6q`: `8q ≤ 2^64` (`q < 2^61`).
  * Discrepancies between doc comments and code, each with a witness proved below:
      - `negvec` (`SubRing.Neg`): `0 ↦ q` (not reduced)                        — `negvec_zero`;
      - `MRedLazy`/`MulCoeffsMontgomeryLazy`/`MulScalarMontgomeryLazy` doc `[0, 2q-1]`: `0` is never
        produced (true range `[1, 2q-1]`), harmless;
      - `IMFormLazy` doc `[0, 2q-1]`: true range `[1, q]`, `0 ↦ q`, harmless.
  * `MulCoeffsMontgomeryThenSubLazy` and `MulCoeffsMontgomeryLazyThenNeg` document `[0, 2q-1]`: the upper
    end is attained for every modulus (`thenSubLazy_max`, `lazyThenNeg_max`).
-/
namespace Lattigo.C01Words
open Lattigo Lattigo.Gen

/-- `2^16 + 1`. -/
abbrev qA : Nat := 65537
/-- `2^60 - 399`, a 60-bit prime `≡ 1 (mod 16)`. -/
abbrev qB : Nat := 1152921504606846577

theorem montA : MontConst qA (GenMRedConstant qA) := (GenMRedConstant_spec qA (by decide) (by decide)).1
theorem montB : MontConst qB (GenMRedConstant qB) := (GenMRedConstant_spec qB (by decide) (by decide)).1

theorem MRedLazy_spec (x y q qinv : Nat) (hq : 2 * q ≤ W) (hm : MontConst q qinv)
    (hxy : x * y < q * W) :
    (MRedLazy x y q qinv * W) % q = (x * y) % q
    ∧ MRedLazy x y q qinv < 2 * q ∧ 0 < MRedLazy x y q qinv :=
  Lattigo.MRedLazy_spec x y q qinv hq hm hxy
example := MRedLazy_spec (W - 1) (qB - 1) qB _ (by decide) montB (by decide)

theorem MRed_spec (x y q qinv : Nat) (hq : 2 * q ≤ W) (hm : MontConst q qinv)
    (hxy : x * y < q * W) :
    (MRed x y q qinv * W) % q = (x * y) % q ∧ MRed x y q qinv < q :=
  Lattigo.MRed_spec x y q qinv hq hm hxy
example := MRed_spec (W - 1) (qB - 1) qB _ (by decide) montB (by decide)

theorem CRed_spec (a q : Nat) (hq : 0 < q) (ha : a < 2 * q) (haW : a < W) : CRed a q = a % q :=
  Lattigo.CRed_spec a q hq ha haW
example := CRed_spec (2 * qB - 1) qB (by decide) (by decide) (by decide)

theorem BRedAdd_spec (a q : Nat) (hq : 1 < q) (ha : a < W) : BRedAdd a q (brc q) = a % q :=
  Lattigo.BRedAdd_spec a q hq ha
example := BRedAdd_spec (W - 1) qB (by decide) (by decide)
example := BRedAdd_spec (W - 1) 2 (by decide) (by decide)

theorem BRedAddLazy_spec (x q : Nat) (hq : 1 < q) (hx : x < W) :
    BRedAddLazy x q (brc q) % q = x % q ∧ BRedAddLazy x q (brc q) < 2 * q :=
  Lattigo.BRedAddLazy_spec x q hq hx
example := BRedAddLazy_spec (W - 1) qB (by decide) (by decide)

theorem BRed_spec (x y q : Nat) (hq : 1 < q) (h2q : 2 * q ≤ W) (hx : x < W) (hy : y < W) :
    BRed x y q (brc q) = (x * y) % q :=
  Lattigo.BRed_spec x y q hq h2q hx hy
example := BRed_spec (W - 1) (W - 1) qB (by decide) (by decide) (by decide) (by decide)
example := BRed_spec (W - 1) (W - 1) (2 ^ 63) (by decide) (by decide) (by decide) (by decide)

theorem BRedLazy_spec (x y q : Nat) (hq : 1 < q) (h2q : 2 * q ≤ W) (hx : x < W) (hy : y < W) :
    BRedLazy x y q (brc q) % q = (x * y) % q ∧ BRedLazy x y q (brc q) < 2 * q :=
  Lattigo.BRedLazy_spec x y q hq h2q hx hy
example := BRedLazy_spec (W - 1) (W - 1) qB (by decide) (by decide) (by decide) (by decide)

/-- `2q ≤ 2^64` cannot be dropped from `BRed_spec`: for `q = 3·2^62 + 1` the Go algorithm returns a
wrong residue (such a `q` is far outside what lattigo accepts; this only shows the hypothesis is
not an artefact of the proof). This is a test by evaluation, not a general statement. -/
theorem BRed_large_q_counterexample :
    BRed 18446736666302210877 18446740518153995979 (3 * 2 ^ 62 + 1) (brc (3 * 2 ^ 62 + 1))
      ≠ (18446736666302210877 * 18446740518153995979) % (3 * 2 ^ 62 + 1) := by decide

theorem MForm_spec (a q : Nat) (hq : 1 < q) (h2q : 2 * q ≤ W) (ha : a < W) :
    MForm a q (brc q) = (a * W) % q :=
  Lattigo.MForm_spec a q hq h2q ha
example := MForm_spec (W - 1) qB (by decide) (by decide) (by decide)

theorem MFormLazy_spec (a q : Nat) (hq : 1 < q) (h2q : 2 * q ≤ W) (ha : a < W) :
    MFormLazy a q (brc q) % q = (a * W) % q ∧ MFormLazy a q (brc q) < 2 * q :=
  Lattigo.MFormLazy_spec a q hq h2q ha
example := MFormLazy_spec (W - 1) qB (by decide) (by decide) (by decide)

theorem IMForm_spec (a q qinv : Nat) (hqW : q < W) (hm : MontConst q qinv) (ha : a < W) :
    (IMForm a q qinv * W) % q = a % q ∧ IMForm a q qinv < q :=
  Lattigo.IMForm_spec a q qinv hqW hm ha
example := IMForm_spec (W - 1) qB _ (by decide) montB (by decide)

theorem IMFormLazy_spec (a q qinv : Nat) (hqW : q < W) (hm : MontConst q qinv) (ha : a < W) :
    (IMFormLazy a q qinv * W) % q = a % q
    ∧ 0 < IMFormLazy a q qinv ∧ IMFormLazy a q qinv ≤ q :=
  Lattigo.IMFormLazy_spec a q qinv hqW hm ha
example := IMFormLazy_spec (W - 1) qB _ (by decide) montB (by decide)

theorem GenMRedConstant_spec (q : Nat) (hodd : q % 2 = 1) (hq : q < W) :
    MontConst q (GenMRedConstant q) ∧ GenMRedConstant q < W :=
  Lattigo.GenMRedConstant_spec q hodd hq
example := GenMRedConstant_spec (W - 1) (by decide) (by decide)
example : GenMRedConstant qA = 18446462603027742721 ∧ GenMRedConstant qB = 10682583464991261329 := by
  decide +kernel
/-- `GenBRedConstant q` (model `brc`) holds the two base-`2^64` digits of `⌊2^128/q⌋`, for `q ≥ 2`. -/
theorem brc_spec (q : Nat) (hq : 1 < q) :
    (brc q).1 * W + (brc q).2 = W * W / q ∧ (brc q).1 < W ∧ (brc q).2 < W ∧ (brc q).1 = W / q :=
  ⟨brc_combine q hq, (brc_lt q).1, (brc_lt q).2, brc_fst q hq⟩
example := brc_spec 2 (by decide)
/-- `GenBRedConstant 1` wraps to `[0, 0]` (`big.Int.Uint64` of `2^64`); hence `1 < q` above. -/
example : brc 1 = (0, 0) := by decide
example : brc qA = (281470681808895, 281470681808895) ∧ brc qB = (16, 102144) := by decide

theorem bfly_noreduce_range (U V' q B : Nat) (hU : U < B) (hV : V' < 2 * q) (hB : B + 2 * q ≤ W) :
    u64add U V' = U + V'
    ∧ u64sub (u64add U (2 * q)) V' = U + 2 * q - V'
    ∧ U + V' + 2 ≤ B + 2 * q
    ∧ U + 2 * q - V' < B + 2 * q
    ∧ (0 < V' → U + 2 * q - V' + 2 ≤ B + 2 * q) :=
  Lattigo.bfly_noreduce_range U V' q B hU hV hB
example := bfly_noreduce_range (6 * qB - 1) (2 * qB - 1) qB (6 * qB) (by decide) (by decide) (by decide)
example := bfly_noreduce_q (qB - 1) (2 * qB - 1) qB (by decide) (by decide) (by decide)
example := bfly_noreduce_3q (3 * qB - 1) (2 * qB - 1) qB (by decide) (by decide) (by decide)
example := bfly_noreduce_6q (6 * qB - 1) (2 * qB - 1) qB (by decide) (by decide) (by decide)

theorem butterfly_spec (U V Psi q qinv : Nat) (h6 : 6 * q ≤ W) (hm : MontConst q qinv)
    (hPsi : Psi < q) (hV : V < W) (hUW : U < W) (hU : U < 8 * q) :
    (butterfly U V Psi (2 * q) (4 * q) q qinv).1 + 2 ≤ 6 * q
    ∧ (butterfly U V Psi (2 * q) (4 * q) q qinv).2 + 2 ≤ 6 * q
    ∧ ((butterfly U V Psi (2 * q) (4 * q) q qinv).1 * W) % q = (U * W + V * Psi) % q
    ∧ ((butterfly U V Psi (2 * q) (4 * q) q qinv).2 * W + V * Psi) % q = (U * W) % q :=
  Lattigo.butterfly_spec U V Psi q qinv h6 hm hPsi hV hUW hU
example := butterfly_spec (8 * qB - 1) (8 * qB - 1) (qB - 1) qB _ (by decide) montB (by decide)
  (by decide) (by decide) (by decide)

theorem invbutterfly_spec (U V Psi q qinv : Nat) (h6 : 6 * q ≤ W) (hm : MontConst q qinv)
    (hPsi : Psi < q) (hU : U < 2 * q) (hV : V < 2 * q) :
    (invbutterfly U V Psi (2 * q) (4 * q) q qinv).1 < 2 * q
    ∧ (invbutterfly U V Psi (2 * q) (4 * q) q qinv).1 % q = (U + V) % q
    ∧ (invbutterfly U V Psi (2 * q) (4 * q) q qinv).2 < 2 * q
    ∧ 0 < (invbutterfly U V Psi (2 * q) (4 * q) q qinv).2
    ∧ ((invbutterfly U V Psi (2 * q) (4 * q) q qinv).2 * W) % q = ((U + 4 * q - V) * Psi) % q :=
  Lattigo.invbutterfly_spec U V Psi q qinv h6 hm hPsi hU hV
example := invbutterfly_spec (2 * qB - 1) 0 (qB - 1) qB _ (by decide) montB (by decide)
  (by decide) (by decide)

/-- The bound on `q` is real: with the 62-bit prime `4611686018427387617` (`4q < 2^64 < 6q`)
the reducing butterfly wraps: `U = 4q - 1 < 8q`,
`V = 2^64 - 1`, `Psi = q - 1` gives `X ≠ U + MRedLazy V Psi` as integers. Test by evaluation. -/
theorem butterfly_62bit_wraps :
    let q := 4611686018427387617
    let qinv := GenMRedConstant q
    (butterfly (4 * q - 1) (W - 1) (q - 1) (2 * q) (4 * q) q qinv).1
      ≠ (4 * q - 1) + MRedLazy (W - 1) (q - 1) q qinv := by decide +kernel

/-! ## the 38 kernels, lane level

  `Gen.K_uniform` (generated, `rfl`) states that the 8 printed lanes of kernel `K` are
  `lanes8 (fun k => K_lane …)`; `K_lane_spec` (Proofs/Kernels.lean) is the per-lane statement.
  One non-vacuity instance per kernel, at boundary inputs. -/

example := addvec_lane_spec (qB - 1) (qB - 1) 0 qB (by decide) (by decide) (by decide)
example := addlazyvec_lane_spec (W - 1) 1 0
example := subvec_lane_spec 0 (qB - 1) 0 qB (by decide) (by decide) (by decide) (by decide)
example := sublazyvec_lane_spec 0 qB 0 qB (by decide) (by decide)
example := negvec_lane_spec (qB - 1) 0 qB (by decide) (by decide)
example := reducevec_lane_spec (W - 1) 0 qB (by decide) (by decide)
example := reducelazyvec_lane_spec (W - 1) 0 qB (by decide) (by decide)
example := mulcoeffslazyvec_lane_spec (W - 1) (W - 1) 0
example := mulcoeffslazythenaddlazyvec_lane_spec (W - 1) (W - 1) (W - 1)
example := mulcoeffsbarrettvec_lane_spec (W - 1) (W - 1) 0 qB (by decide) (by decide) (by decide) (by decide)
example := mulcoeffsbarrettlazyvec_lane_spec (W - 1) (W - 1) 0 qB (by decide) (by decide) (by decide)
  (by decide)
example := mulcoeffsthenaddvec_lane_spec (W - 1) (W - 1) (qB - 1) qB (by decide) (by decide) (by decide)
  (by decide) (by decide)
example := mulcoeffsbarrettthenaddlazyvec_lane_spec (W - 1) (W - 1) (W - qB) qB (by decide) (by decide)
  (by decide) (by decide) (by decide)
example := mulcoeffsmontgomeryvec_lane_spec (qB - 1) (W - 1) 0 qB _ (by decide) montB (by decide)
example := mulcoeffsmontgomerylazyvec_lane_spec (qB - 1) (W - 1) 0 qB _ (by decide) montB (by decide)
example := mulcoeffsmontgomerythenaddvec_lane_spec (qB - 1) (W - 1) (qB - 1) qB _ (by decide) montB
  (by decide) (by decide)
example := mulcoeffsmontgomerythenaddlazyvec_lane_spec (qB - 1) (W - 1) (W - qB) qB _ (by decide) montB
  (by decide) (by decide)
example := mulcoeffsmontgomerylazythenaddlazyvec_lane_spec (qB - 1) (W - 1) (W - 2 * qB) qB _ (by decide)
  montB (by decide) (by decide)
example := mulcoeffsmontgomerythensubvec_lane_spec (qB - 1) (W - 1) (qB - 1) qB _ (by decide) montB
  (by decide) (by decide)
example := mulcoeffsmontgomerythensublazyvec_lane_spec (qB - 1) (W - 1) (qB - 1) qB _ (by decide) montB
  (by decide) (by decide)
example := mulcoeffsmontgomerylazythensublazyvec_lane_spec (qB - 1) (W - 1) (qB - 1) qB _ (by decide)
  montB (by decide) (by decide)
example := mulcoeffsmontgomerylazythenNegvec_lane_spec (qB - 1) (W - 1) 0 qB _ (by decide) montB
  (by decide)
example := addlazythenmulscalarmontgomeryvec_lane_spec (2 * qB - 1) (2 * qB - 1) (qB - 1) 0 qB _
  (by decide) montB (by decide) (by decide)
example := addscalarlazythenmulscalarmontgomeryvec_lane_spec (2 * qB - 1) (qB - 1) (qB - 1) 0 qB _
  (by decide) montB (by decide) (by decide)
example := addscalarvec_lane_spec (qB - 1) (qB - 1) 0 qB (by decide) (by decide) (by decide)
example := addscalarlazyvec_lane_spec (W - 1) (W - 1) 0
example := addscalarlazythenNegTwoModuluslazyvec_lane_spec (2 * qB) 0 0 qB (by decide) (by decide)
example := subscalarvec_lane_spec 0 (qB - 1) 0 qB (by decide) (by decide) (by decide) (by decide)
example := mulscalarmontgomeryvec_lane_spec (W - 1) (qB - 1) 0 qB _ (by decide) montB (by decide)
example := mulscalarmontgomerylazyvec_lane_spec (W - 1) (qB - 1) 0 qB _ (by decide) montB (by decide)
example := mulscalarmontgomerythenaddvec_lane_spec (W - 1) (qB - 1) (qB - 1) qB _ (by decide) montB
  (by decide) (by decide)
example := mulscalarmontgomerythenaddscalarvec_lane_spec (W - 1) (qB - 1) (qB - 1) 0 qB _ (by decide)
  montB (by decide) (by decide)
example := subthenmulscalarmontgomeryTwoModulusvec_lane_spec (2 * qB - 1) 0 (qB - 1) 0 qB _ (by decide)
  montB (by decide) (by decide) (by decide)
example := mformvec_lane_spec (W - 1) 0 qB (by decide) (by decide) (by decide)
example := mformlazyvec_lane_spec (W - 1) 0 qB (by decide) (by decide) (by decide)
example := imformvec_lane_spec (W - 1) 0 qB _ (by decide) montB (by decide)
example := ZeroVec_lane_spec 7
example := MaskVec_lane_spec (W - 1) 60 4 0

/-- `SubRing.Neg` ("p2 = -p1 (mod modulus)"): `negvec` maps `0` to `q`, which is not a reduced
residue. (`ring/vec_ops.go:103`.) -/
theorem negvec_zero (z q : Nat) (hW : q < W) : negvec_lane 0 z q = q :=
  negvec_lane_zero z q hW

/-- `SubRing.MulCoeffsMontgomeryThenSubLazy` documents `p3 ∈ [0, 2q-1]`; the upper end is attained
for every modulus: `p1 = 0`, `p3 = q - 1` gives `2q - 1`. (`ring/subring_ops.go:136`.) -/
theorem thenSubLazy_max (q qinv : Nat) (hq : 2 * q ≤ W) (hm : MontConst q qinv) :
    mulcoeffsmontgomerythensublazyvec_lane 0 0 (q - 1) q qinv = 2 * q - 1 := by
  have hq0 := hm.pos
  rw [mulcoeffsmontgomerythensublazyvec_lane_max (q - 1) q qinv hq hm (by omega)]
  omega
example : mulcoeffsmontgomerythensublazyvec_lane 0 0 (qB - 1) qB (GenMRedConstant qB) = 2 * qB - 1 :=
  thenSubLazy_max qB _ (by decide) montB

/-- `SubRing.MulCoeffsMontgomeryLazyThenNeg` documents `p3 ∈ [0, 2q-1]`; the upper end is attained
for every modulus: `p1 = 1`, `p2 = 2^64 mod q` gives `2q - 1`. (`ring/subring_ops.go:150`.) -/
theorem lazyThenNeg_max (z q qinv : Nat) (hq : 2 * q ≤ W) (hm : MontConst q qinv) :
    mulcoeffsmontgomerylazythenNegvec_lane 1 (W % q) z q qinv = 2 * q - 1 := by
  have hxy : 1 * (W % q) < q * W := mul_lt_qW (by decide) (Nat.mod_lt _ hm.pos)
  rw [(mulcoeffsmontgomerylazythenNegvec_lane_spec 1 (W % q) z q qinv hq hm hxy).1,
    MRedLazy_one q qinv hq hm]
example : mulcoeffsmontgomerylazythenNegvec_lane 1 6384 0 qB (GenMRedConstant qB) = 2 * qB - 1 :=
  lazyThenNeg_max 0 qB _ (by decide) montB

/-- The lower end `1` of `MRedLazy`'s true range `[1, 2q-1]` is attained for every modulus. -/
theorem MRedLazy_min (q qinv : Nat) (hq : 2 * q ≤ W) (hm : MontConst q qinv) :
    MRedLazy 1 (W % q) q qinv = 1 := MRedLazy_one q qinv hq hm

theorem IMFormLazy_zero (q qinv : Nat) (hqW : q < W) : IMFormLazy 0 q qinv = q := by
  unfold IMFormLazy
  simp only [mul64, u64mul, Nat.zero_mul, Nat.zero_mod, Nat.zero_div]
  exact u64sub_eq q 0 (Nat.zero_le q) hqW

#print axioms MRedLazy_spec
#print axioms MRed_spec
#print axioms CRed_spec
#print axioms BRedAdd_spec
#print axioms BRedAddLazy_spec
#print axioms BRed_spec
#print axioms BRedLazy_spec
#print axioms BRed_large_q_counterexample
#print axioms MForm_spec
#print axioms MFormLazy_spec
#print axioms IMForm_spec
#print axioms IMFormLazy_spec
#print axioms GenMRedConstant_spec
#print axioms brc_spec
#print axioms bfly_noreduce_range
#print axioms Lattigo.bfly_noreduce_q
#print axioms Lattigo.bfly_noreduce_3q
#print axioms Lattigo.bfly_noreduce_6q
#print axioms butterfly_spec
#print axioms invbutterfly_spec
#print axioms butterfly_62bit_wraps
#print axioms negvec_zero
#print axioms thenSubLazy_max
#print axioms lazyThenNeg_max
#print axioms MRedLazy_min
#print axioms IMFormLazy_zero
#print axioms addvec_lane_spec
#print axioms addlazyvec_lane_spec
#print axioms subvec_lane_spec
#print axioms sublazyvec_lane_spec
#print axioms negvec_lane_spec
#print axioms reducevec_lane_spec
#print axioms reducelazyvec_lane_spec
#print axioms mulcoeffslazyvec_lane_spec
#print axioms mulcoeffslazythenaddlazyvec_lane_spec
#print axioms mulcoeffsbarrettvec_lane_spec
#print axioms mulcoeffsbarrettlazyvec_lane_spec
#print axioms mulcoeffsthenaddvec_lane_spec
#print axioms mulcoeffsbarrettthenaddlazyvec_lane_spec
#print axioms mulcoeffsmontgomeryvec_lane_spec
#print axioms mulcoeffsmontgomerylazyvec_lane_spec
#print axioms mulcoeffsmontgomerythenaddvec_lane_spec
#print axioms mulcoeffsmontgomerythenaddlazyvec_lane_spec
#print axioms mulcoeffsmontgomerylazythenaddlazyvec_lane_spec
#print axioms mulcoeffsmontgomerythensubvec_lane_spec
#print axioms mulcoeffsmontgomerythensublazyvec_lane_spec
#print axioms mulcoeffsmontgomerylazythensublazyvec_lane_spec
#print axioms mulcoeffsmontgomerylazythenNegvec_lane_spec
#print axioms addlazythenmulscalarmontgomeryvec_lane_spec
#print axioms addscalarlazythenmulscalarmontgomeryvec_lane_spec
#print axioms addscalarvec_lane_spec
#print axioms addscalarlazyvec_lane_spec
#print axioms addscalarlazythenNegTwoModuluslazyvec_lane_spec
#print axioms subscalarvec_lane_spec
#print axioms mulscalarmontgomeryvec_lane_spec
#print axioms mulscalarmontgomerylazyvec_lane_spec
#print axioms mulscalarmontgomerythenaddvec_lane_spec
#print axioms mulscalarmontgomerythenaddscalarvec_lane_spec
#print axioms subthenmulscalarmontgomeryTwoModulusvec_lane_spec
#print axioms mformvec_lane_spec
#print axioms mformlazyvec_lane_spec
#print axioms imformvec_lane_spec
#print axioms ZeroVec_lane_spec
#print axioms MaskVec_lane_spec

end Lattigo.C01Words
