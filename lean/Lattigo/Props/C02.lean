import Lattigo.Proofs.ScalingRefine
import Lattigo.Proofs.BasisExtPrimes
import Lattigo.Proofs.DecompInt
import Lattigo.Proofs.ScalingNTT
import Lattigo.Proofs.BasisExtLimb
import Lattigo.Proofs.DecompLimb
import Lattigo.Proofs.BasisExtNTT
import Lattigo.Proofs.DecompNTT
import Lattigo.Proofs.BasisExtIndex
import Lattigo.Proofs.BasisExtEval

/-!
# C02 — RNS basis extension, rescaling and gadget decomposition match integer division

Two levels (DESIGN.md §5.2): **(A) integer level** — executable specification functions on residues
(`divFloorInt`, `divRoundInt`, `manyFloorInt`, `manyRoundInt`, `hpsY/hpsSum/hpsV/hpsOut`, `modDownRes`, `centerInt`,
`pow2Digit/pow2Recombine`, `rnsRecombine`; driver ops `int …`, compared with math/big); **(B) limb level** — the
bit-exact twins of the Go functions (Model/Scaling.lean, BasisExt.lean, Decomp.lean), tied limb for limb to the real
code by the correspondence.  (B) is PROVED to refine (A); status by clause of the property text:

**1. "Dividing by the last modulus (floored / rounded, once or several times, in or out of the NTT domain) yields exactly
the floored / rounded-half-up quotient" — proved for all inputs, all 8 functions, every ring degree `N = 2^K`, standard
ring.**  `divFloor_crt`, `divRound_crt`, `round_half_up`, `divFloorMany_int`, `divRoundMany_int` (integer level; for odd
moduli sequential rounding IS rounding by the product); `divFloor_limbs`, `divRound_limbs`, `divFloorMany_limbs`,
`divRoundMany_limbs`, `roundSeq_eq` (coefficient domain, from `MRed_spec`, `MForm_spec`, Fermat); `divFloorNTT_limbs`,
`divRoundNTT_limbs`, `divFloorManyNTT_limbs`, `divRoundManyNTT_limbs`, `divFloorNTT_coeffs` (NTT domain: rows = bit-exact
forward NTT of the residues of the quotient; from C01's `inttStd_nttStd`, the no-wrap theorem `nttCoreLazy_big_all` for
`NTTLazy` of ring `q_i` on residues of the LARGER `q_ℓ`, linearity of the exact network).  FINDINGS repaired in /repo:
C02-1 (`DivRoundByLastModulus` rewrote its input), C02-4 (`Div{Floor,Round}ByLastModulusNTT` off by one for `N < 16` and
on the conjugate-invariant ring: `divFloorNTT_small_ring_repaired`).
*Tied only*: the conjugate-invariant ring (`divFloorNTTX xfCI` …, driver op `divci`; `ring_generic_twins_std` shows the
generic twins are the proved functions on the standard ring) — the no-wrap theorem for the CI network (twist + `flagCI`
schedule) on large inputs is there (`NTT.nttCICoreLazy_big_all`, inputs `< M` with `M + 6q ≤ 2^64`); the refinement
itself is not carried over to the CI network.

**2. "Extending a centred value from basis Q to basis P returns a value congruent to it modulo the source modulus, the
exact centred representative below a quarter of it, never off by more than one multiple" — proved at limb level up to
ONE named hypothesis on the float index.**  Integer level, all inputs: `hps_sum`, `hps_v_is_floor`, `modUp_exact`,
`modUp_off_by_one`, `modUp_centered_exact`.  Limb level (`ModUpExact`, `ModUpQtoP/PtoQ`): `multSum_limb`,
`reconstruct_limb`, `modUpExact_limbs(_3p)`, `modUpExact_exact`, `modUp_limbs` — the whole Montgomery bookkeeping
(`qoverqiinvqi`, `qoverqimodp`, `vtimesqmodp`, 128-bit accumulation, lazy reduction, uint64 wrap) for ANY index `v ≤ #moduli`;
`modUp_within_one_multiple` — the property's sentence itself under `FidxApprox … 1` resp. `(1/4)`; `fidx_exact_iff`,
`fidx_of_approx` — the exact (iff) condition for the index to be exact, and its consequences.  NOT proved: `FidxApprox`
(Lean `Float` is opaque); the tie compares the index bit for bit, the probes `modup_*` check the sentence on the real code.

**3. "Dividing a value in basis QP by P (or by Q) returns the rounded quotient up to an error of at most 1" — same
status.**  `modDown_err`, `modDown_exact` (integer); `modDownQPtoQ_limbs`, `modDownQPtoP_limbs` (limb `≡ round − δ`,
`δ = hpsV − fidx`), `modDownQPtoQ_err_le_one`, `modDownQPtoQ_exact_of_quarter` (the sentence itself under `FidxApprox`);
`modDownQPtoQNTT_eq` (`N ≥ 16`: NTT-domain variant = NTT ∘ coefficient variant, any index); `evalModDown_domains`,
`evalModDown_noP` (`rlwe.Evaluator.ModDown`: all four domain combinations compute the same limbs; `N ≥ 16` with `P`,
every `N` without).  FINDINGS repaired: C02-3 (doc said floored), C02-5 (copy direction without `P`), C02-6 (doc).
*Tied only*: `ModDownQPtoQNTT` / `Evaluator.ModDown` for `N = 8` (there `INTTLazy` is lazy; harmless since
`reconstructRNS` reduces, but the proof uses `INTTLazy = INTT`) and on the conjugate-invariant ring; `ModDownQPtoP`
has the limb theorem but no `err_le_one` corollary (same proof with `Q`, `P` exchanged).

**4. "The digits of the RNS / power-of-two decomposition recombine to the polynomial modulo Q and are bounded by their
digit modulus" — proved** (HPS branch: up to the same named hypothesis).  `pow2_digit_lt`, `pow2_digits_recombine`,
`pow2_digits_too_few`, `maskVec_eq`; `rns_digits_recombine`; `decompose_single_limbs`, `decompose_multi_limbs`,
`decompose_multi_lt`, `decompose_digits_recombine(_single)`, `centred_digit`, `copy_digit`; `decomposeNTT_some`,
`decomposeNTT_rows`, `nttStd_unreduced` (every `N`).  `decompose_noP_counterexample`: the twin with `nbPi = 0` (how
`rlwe` called it without `P` before repair 3f60e57).  The digit bound `|d| ≤ Q_d/2 (+1 multiple)` is read off
`decompose_*_limbs` (`digitA`, `centeredRep`), not stated as one inequality.

**5. Small-norm extension (mechanism list of the property).**  `extendSmallNorm` (full strength, repaired limb of
`ringqp`), `extendSmallNorm_large_repaired`; `extendSmallNormNTTMontgomery_limb_partial` / `_contract` /
`_counterexample`: `rlwe.ExtendBasisSmallNormAndCenterNTTMontgomery` keeps the wrapping limb — correct for `|x| ≤ p`,
i.e. for every legal (small-norm) input; not a defect, an inconsistency.

Not covered: the IEEE-754 analysis (`FidxApprox`), runtime behaviour (aliasing other than the documented in-place
forms, concurrency), `N > 2^K` structure of `ring.Ring` objects; sizes: chains of distinct odd primes `< 2^61`
(`Chain`), targets with `(k+2)·p ≤ 2^64` (`Target`), `Σ q_i ≤ k·2^64`.
-/

namespace Lattigo.Props.C02
open Lattigo Lattigo.Scaling

/-! ## 1. Division by the last modulus -/

/-- Residue form of `divFloor_crt`: the per-modulus formula `out_i = (x_i − x_ℓ)·q_ℓ⁻¹ mod q_i` yields the residues of the
FLOORED quotient, for every chain of primes `qs`, every `q_ℓ` none of them divides, every `x`. -/
theorem divFloor_residues (qs : List Nat) (ql x : Nat)
    (hp : ∀ q ∈ qs, Nat.Prime q ∧ q < 2 ^ 64) (hnd : ∀ q ∈ qs, ¬ q ∣ ql) :
    divFloorInt qs ql (residues qs x) (x % ql) = residues qs (x / ql) :=
  divFloorInt_spec qs ql x hp hnd

/-- CRT form: the unique `y < Q_{ℓ-1}` with those residues IS `⌊x / q_ℓ⌋`. -/
theorem divFloor_crt (qs : List Nat) (ql x y : Nat)
    (hp : ∀ q ∈ qs, Nat.Prime q ∧ q < 2 ^ 64) (hnd : ∀ q ∈ qs, ¬ q ∣ ql) (hd : qs.Nodup)
    (hx : x < prodN qs * ql) (hy : y < prodN qs)
    (h : residues qs y = divFloorInt qs ql (residues qs x) (x % ql)) : y = x / ql :=
  Scaling.divFloor_crt qs ql x y hp hnd hd hx hy h

example : divFloorInt [97, 193] 257 (residues [97, 193] 1000000) (1000000 % 257) = residues [97, 193] (1000000 / 257) := by
  decide

/-- With the `(q_ℓ−1)/2` pre-addition the result is `⌊(x + (q_ℓ−1)/2)/q_ℓ⌋` (mod `Q_{ℓ-1}`:
for `x` within `q_ℓ/2` of `Q_ℓ` the quotient is `Q_{ℓ-1} ≡ 0`, i.e. the centred value −ε rounds to 0). -/
theorem divRound_crt (qs : List Nat) (ql x y : Nat)
    (hp : ∀ q ∈ qs, Nat.Prime q ∧ q < 2 ^ 64) (hnd : ∀ q ∈ qs, ¬ q ∣ ql) (hql : 0 < ql) (hd : qs.Nodup)
    (hy : y < prodN qs)
    (h : residues qs y = divRoundInt qs ql (residues qs x) (x % ql)) :
    y = ((x + half ql) / ql) % prodN qs :=
  Scaling.divRound_crt qs ql x y hp hnd hql hd hy h

/-- … and that quotient is round-half-up `⌊x/q + 1/2⌋ = ⌊(2x + q)/(2q)⌋` for odd `q`. -/
theorem round_half_up (q x : Nat) (hodd : q % 2 = 1) : (x + half q) / q = (2 * x + q) / (2 * q) :=
  half_round q x hodd

example : divRoundInt [97, 193] 257 (residues [97, 193] 1000200) (1000200 % 257)
    = residues [97, 193] ((2 * 1000200 + 257) / (2 * 257)) := by decide

/-- `divMany = iterate`, floored: `nb` successive divisions by the last moduli `back` = ONE floored division by
their product (`⌊⌊x/a⌋/b⌋ = ⌊x/(ab)⌋`). -/
theorem divFloorMany_int (front back : List Nat) (x : Nat)
    (hp : ∀ q ∈ front ++ back, Nat.Prime q ∧ q < 2 ^ 64) (hnd : (front ++ back).Nodup) :
    manyFloorInt back.length (front ++ back) (residues (front ++ back) x) = residues front (x / prodN back) :=
  manyFloorInt_spec front back x hp hnd

/-- `divMany = iterate`, rounded.  The property only claims per-step rounding; for ODD moduli (all lattigo
moduli are) the proof gives more: sequential round-half-up IS round-half-up by the product. -/
theorem divRoundMany_int (front back : List Nat) (x : Nat)
    (hp : ∀ q ∈ front ++ back, Nat.Prime q ∧ q < 2 ^ 64) (hnd : (front ++ back).Nodup)
    (hodd : ∀ q ∈ back, q % 2 = 1) :
    manyRoundInt back.length (front ++ back) (residues (front ++ back) x)
      = residues front ((x + half (prodN back)) / prodN back) :=
  manyRoundInt_spec front back x hp hnd hodd

example : manyFloorInt 2 [97, 193, 257, 769] (residues [97, 193, 257, 769] 3000000000)
    = residues [97, 193] (3000000000 / (257 * 769)) := by decide

/-- In general (an even divisor) sequential round-half-up is NOT rounding by the product: 1/2 → 1 → 1/2 → 1
but 1/4 → 0.  (test) -/
example : let rhu := fun (x q : Nat) => (2 * x + q) / (2 * q); rhu (rhu 1 2) 2 = 1 ∧ rhu 1 4 = 0 := by decide

/-- **Refinement, `DivFloorByLastModulus`**: on an admissible chain (distinct odd primes `< 2^61`) the limb-level
twin — `MRed` with the `RescaleConstants` entry `MForm(q_i − q_ℓ^(q_i−2))`, uint64 wrap-around, lazy
`2q_i − x_i + x_ℓ` — returns in every limb the residue of the floored quotient. -/
theorem divFloor_limbs (qs : List Nat) (hC : Chain qs) (level : Nat) (hl : level < qs.length)
    (p0 : Rows) (X : List Nat) (hrows : ∀ i, i ≤ level → row p0 i = X.map (· % modulus qs i)) :
    divFloor qs level p0 = (List.range level).map fun i => X.map fun x =>
      (x / modulus qs level) % modulus qs i :=
  Scaling.divFloor_limbs qs hC level hl p0 X hrows

/-- **Refinement, `DivRoundByLastModulus`** (rows of p1; p0 is an argument of the twin only, not a result:
the function does not touch it (repair C02-1 of /repo) — probe `div_input_unchanged`). -/
theorem divRound_limbs (qs : List Nat) (hC : Chain qs) (level : Nat) (hl : level < qs.length)
    (p0 : Rows) (X : List Nat) (hrows : ∀ i, i ≤ level → row p0 i = X.map (· % modulus qs i)) :
    divRound qs level p0 = (List.range level).map fun i => X.map fun x =>
      ((x + half (modulus qs level)) / modulus qs level) % modulus qs i :=
  Scaling.divRound_limbs qs hC level hl p0 X hrows

/-- **Refinement, `DivFloorByLastModulusMany`**, every `nbRescales ≤ level`. -/
theorem divFloorMany_limbs (qs : List Nat) (hC : Chain qs) (level nb : Nat) (hl : level < qs.length)
    (hnb : nb ≤ level) (p0 : Rows) (X : List Nat)
    (hrows : ∀ i, i ≤ level → row p0 i = X.map (· % modulus qs i)) :
    ∃ p1, divFloorMany qs level nb p0 = some p1 ∧ ∀ i, i ≤ level - nb →
      row p1 i = X.map fun x => (x / lastProd qs level nb) % modulus qs i :=
  Scaling.divFloorMany_limbs qs hC level nb hl hnb p0 X hrows

/-- **Refinement, `DivRoundByLastModulusMany`**, every `nbRescales ≤ level`; `roundSeq` is the `nb`-fold
round-half-up quotient, equal to round-half-up by the product (`roundSeq_eq`). -/
theorem divRoundMany_limbs (qs : List Nat) (hC : Chain qs) (level nb : Nat) (hl : level < qs.length)
    (hnb : nb ≤ level) (p0 : Rows) (X : List Nat)
    (hrows : ∀ i, i ≤ level → row p0 i = X.map (· % modulus qs i)) :
    ∃ p1, divRoundMany qs level nb p0 = some p1 ∧ ∀ i, i ≤ level - nb →
      row p1 i = X.map fun x => roundSeq qs level nb x % modulus qs i :=
  Scaling.divRoundMany_limbs qs hC level nb hl hnb p0 X hrows

theorem roundSeq_eq (qs : List Nat) (nb level x : Nat) (h : ∀ s, s < nb → modulus qs (level - s) % 2 = 1) :
    roundSeq qs level nb x = (x + half (lastProd qs level nb)) / lastProd qs level nb :=
  Scaling.roundSeq_eq qs nb level x h

/-- a `Chain` for the tests (non-vacuity of `Chain` and of the row hypotheses): `Q = [97, 193, 257]` -/
theorem chain_97_193_257 : Chain [97, 193, 257] :=
  ⟨by intro q hq; simp at hq; rcases hq with rfl | rfl | rfl <;> norm_num,
   by intro q hq; simp at hq; rcases hq with rfl | rfl | rfl <;> rfl,
   by intro q hq; simp at hq; rcases hq with rfl | rfl | rfl <;> norm_num,
   by decide⟩
example : Chain [97, 193, 257] := chain_97_193_257
example : divFloor [97, 193, 257] 2 [[1234567 % 97], [1234567 % 193], [1234567 % 257]]
    = [[1234567 / 257 % 97], [1234567 / 257 % 193]] := by decide +kernel

/-! ## 1b. Division by the last modulus, NTT-domain variants -/

/-- **Refinement, `DivFloorByLastModulusNTT`** (EVERY ring degree `N = 2^K`): if row `i ≤ level` of `p0` is the bit-exact
forward NTT (`NTT.nttStd`, tables `Valid`) of the residues `X mod q_i`, then row `i < level` of the result is, limb for
limb, the forward NTT of `⌊x / q_level⌋ mod q_i`.  Uses `inttStd_nttStd`, the no-wrap theorem `nttCoreLazy_big_all`
for `NTTLazy` of ring `q_i` on residues modulo the larger `q_level` (`N < 16`: the all-reducing schedule), linearity of
the exact network, and the coefficient-domain limb theorem.  (For the code before repair C02-4 of /repo the statement is
FALSE for `N < 16`: `divFloorNTT_small_ring_repaired`.) -/
theorem divFloorNTT_limbs (T : Tabs) (qs : List Nat) (level K : Nat) (hC : Chain qs)
    (hl : level < qs.length)
    (hT : ∀ i, i ≤ level → NTT.Valid (tab T i) K ∧ (tab T i).q = modulus qs i)
    (p0 : Rows) (X : List Nat) (hX : X.length = 2 ^ K)
    (hrows : ∀ i, i ≤ level → row p0 i = NTT.nttStd (tab T i) (X.map (· % modulus qs i))) :
    divFloorNTT T qs level p0 = (List.range level).map fun i =>
      NTT.nttStd (tab T i) (X.map fun x => (x / modulus qs level) % modulus qs i) :=
  Scaling.divFloorNTT_limbs T qs level K hC hl hT p0 X hX hrows

/-- **Refinement, `DivRoundByLastModulusNTT`** (EVERY ring degree `N = 2^K`): rows of the result = forward NTT of
`⌊(x + (q_level−1)/2) / q_level⌋ mod q_i`. -/
theorem divRoundNTT_limbs (T : Tabs) (qs : List Nat) (level K : Nat) (hC : Chain qs)
    (hl : level < qs.length)
    (hT : ∀ i, i ≤ level → NTT.Valid (tab T i) K ∧ (tab T i).q = modulus qs i)
    (p0 : Rows) (X : List Nat) (hX : X.length = 2 ^ K)
    (hrows : ∀ i, i ≤ level → row p0 i = NTT.nttStd (tab T i) (X.map (· % modulus qs i))) :
    divRoundNTT T qs level p0 = (List.range level).map fun i =>
      NTT.nttStd (tab T i)
        (X.map fun x => ((x + half (modulus qs level)) / modulus qs level) % modulus qs i) :=
  Scaling.divRoundNTT_limbs T qs level K hC hl hT p0 X hX hrows

/-- **Refinement, `DivFloorByLastModulusManyNTT`** (any `N = 2^K`, every `nbRescales ≤ level`): no panic; row
`i ≤ level − nb` of the result = forward NTT of `⌊x / (q_level ⋯ q_{level−nb+1})⌋ mod q_i`. -/
theorem divFloorManyNTT_limbs (T : Tabs) (qs : List Nat) (level K nb : Nat) (hC : Chain qs)
    (hl : level < qs.length) (hnb : nb ≤ level)
    (hT : ∀ i, i ≤ level → NTT.Valid (tab T i) K ∧ (tab T i).q = modulus qs i)
    (p0 : Rows) (X : List Nat) (hX : X.length = 2 ^ K)
    (hrows : ∀ i, i ≤ level → row p0 i = NTT.nttStd (tab T i) (X.map (· % modulus qs i))) :
    ∃ p1, divFloorManyNTT T qs level nb p0 = some p1 ∧ ∀ i, i ≤ level - nb →
      row p1 i = NTT.nttStd (tab T i) (X.map fun x => (x / lastProd qs level nb) % modulus qs i) :=
  Scaling.divFloorManyNTT_limbs T qs level K nb hC hl hnb hT p0 X hX hrows

/-- **Refinement, `DivRoundByLastModulusManyNTT`** (any `N = 2^K`, every `nbRescales ≤ level`): rows = forward NTT of
the `nb`-fold round-half-up
quotient (`roundSeq`, = round-half-up by the product: `roundSeq_eq`). -/
theorem divRoundManyNTT_limbs (T : Tabs) (qs : List Nat) (level K nb : Nat) (hC : Chain qs)
    (hl : level < qs.length) (hnb : nb ≤ level)
    (hT : ∀ i, i ≤ level → NTT.Valid (tab T i) K ∧ (tab T i).q = modulus qs i)
    (p0 : Rows) (X : List Nat) (hX : X.length = 2 ^ K)
    (hrows : ∀ i, i ≤ level → row p0 i = NTT.nttStd (tab T i) (X.map (· % modulus qs i))) :
    ∃ p1, divRoundManyNTT T qs level nb p0 = some p1 ∧ ∀ i, i ≤ level - nb →
      row p1 i = NTT.nttStd (tab T i) (X.map fun x => roundSeq qs level nb x % modulus qs i) :=
  Scaling.divRoundManyNTT_limbs T qs level K nb hC hl hnb hT p0 X hX hrows

/-- coefficient-domain reading: `INTT_i` of row `i < level` of `DivFloorByLastModulusNTT` is `⌊x/q_level⌋ mod q_i`
(same for the other three: `Scaling.divRoundNTT_coeffs`, `divFloorManyNTT_coeffs`, `divRoundManyNTT_coeffs`). -/
theorem divFloorNTT_coeffs (T : Tabs) (qs : List Nat) (level K : Nat) (hC : Chain qs)
    (hl : level < qs.length)
    (hT : ∀ i, i ≤ level → NTT.Valid (tab T i) K ∧ (tab T i).q = modulus qs i)
    (p0 : Rows) (X : List Nat) (hX : X.length = 2 ^ K)
    (hrows : ∀ i, i ≤ level → row p0 i = NTT.nttStd (tab T i) (X.map (· % modulus qs i)))
    (i : Nat) (hi : i < level) :
    NTT.inttStd (tab T i) (row (divFloorNTT T qs level p0) i)
      = X.map fun x => (x / modulus qs level) % modulus qs i :=
  Scaling.divFloorNTT_coeffs T qs level K hC hl hT p0 X hX hrows i hi

/-- **The small ring (`N = 8`) after repair C02-4 of /repo.**  FINDING (reproduced, repaired): `DivFloorByLastModulusNTT`
and `DivRoundByLastModulusNTT` took the last row through `INTTLazy`, which is really lazy (`MRedLazy`, range
`[1, 2q−1]`, `0 ↦ q_ℓ`) for `N < 16` and, on the conjugate-invariant ring, for EVERY `N`; that value was moved to the
other moduli as an integer, giving `⌊x/q_ℓ⌋ − 1` (the zero polynomial ↦ `−1` in every coefficient).  The repaired code
uses the reducing `INTT`, so does the twin, and on that witness the result is the zero polynomial.
The limb theorems above hold for every ring degree (the `N = 8` instances below go through
`divFloorNTT_limbs` / `divRoundNTT_limbs` with `K = 3`); the conjugate-invariant ring is covered by the ties `divci`
and the reference probes only. -/
theorem divFloorNTT_small_ring_repaired :
    let T8 := mkTabs 8 [97, 193] [5, 5]
    let qs := [97, 193]
    let X := List.replicate 8 0
    let p0 : Rows := [NTT.nttStd (tab T8 0) (List.replicate 8 0), NTT.nttStd (tab T8 1) (List.replicate 8 0)]
    Chain qs ∧ 1 < qs.length
    ∧ (∀ i, i ≤ 1 → NTT.Valid (tab T8 i) 3 ∧ (tab T8 i).q = modulus qs i)
    ∧ X.length = 2 ^ 3
    ∧ (∀ i, i ≤ 1 → row p0 i = NTT.nttStd (tab T8 i) (X.map (· % modulus qs i)))
    ∧ (divFloorNTT T8 qs 1 p0).map (NTT.inttStd (tab T8 0)) = [List.replicate 8 0]
    ∧ divFloorNTT T8 qs 1 p0 = (List.range 1).map fun i =>
        NTT.nttStd (tab T8 i) (X.map fun x => (x / modulus qs 1) % modulus qs i) :=
  Scaling.divFloorNTT_small_ring_repaired

/-- The ring-type-generic twins (used for the conjugate-invariant ties `divci`, `moddownnttci`, `decompnttci`)
ARE the standard-ring functions when instantiated with the standard transforms. -/
theorem ring_generic_twins_std :
    divFloorNTTX xfStd = divFloorNTT ∧ divRoundNTTX xfStd = divRoundNTT
    ∧ divFloorManyNTTX xfStd = divFloorManyNTT ∧ divRoundManyNTTX xfStd = divRoundManyNTT
    ∧ BasisExt.modDownQPtoQNTTX xfStd = BasisExt.modDownQPtoQNTT
    ∧ Decomp.decomposeNTTX xfStd = Decomp.decomposeNTT :=
  ⟨rfl, rfl, rfl, rfl, rfl, rfl⟩

-- N = 16, qs = [97, 193], level 1, X = 16 coefficients 1000·j + 7
example : divFloorNTT exT16 [97, 193] 1 exP0 = [NTT.nttStd (tab exT16 0) (exX.map fun x => (x / 193) % 97)] :=
  divFloorNTT_limbs exT16 [97, 193] 1 4 chain_97_193 (by decide) tabs16_ok exP0 exX rfl exP0_rows
example : divRoundNTT exT16 [97, 193] 1 exP0 = [NTT.nttStd (tab exT16 0) (exX.map fun x => ((x + 96) / 193) % 97)] :=
  divRoundNTT_limbs exT16 [97, 193] 1 4 chain_97_193 (by decide) tabs16_ok exP0 exX rfl exP0_rows
-- the smallest ring: N = 8 (`K = 3`), a non-zero polynomial
example : divFloorNTT exT8 [97, 193] 1 exP0_8 = [NTT.nttStd (tab exT8 0) (exX8.map fun x => (x / 193) % 97)] :=
  divFloorNTT_limbs exT8 [97, 193] 1 3 chain_97_193 (by decide) tabs8_ok exP0_8 exX8 rfl exP0_8_rows
example : divRoundNTT exT8 [97, 193] 1 exP0_8 = [NTT.nttStd (tab exT8 0) (exX8.map fun x => ((x + 96) / 193) % 97)] :=
  divRoundNTT_limbs exT8 [97, 193] 1 3 chain_97_193 (by decide) tabs8_ok exP0_8 exX8 rfl exP0_8_rows

/-! ## 2. Basis extension (HPS), ModDown, small-norm extension

Notation of the theorems: `qs` the source chain, `Q = prodN qs`, `x < Q` the (already shifted by `⌊Q/2⌋`, see
`modUp_centered_exact`) input, `ys = hpsY qs (residues qs x)` the values `y_i = [x·(Q/q_i)⁻¹]_{q_i}` the code
computes in `reconstructRNS` (`MRed` with `qoverqiinvqi`), `hpsSum = Σ y_i·(Q/q_i)` what `multSum` accumulates
modulo the target prime `p` (with `qoverqimodp`), `hpsOut … v p` what it writes after adding `vtimesqmodp[v]
= v·(−Q) mod p`.  The index `v` is an explicit parameter: the IEEE-754 computation of
`uint64(Σ float64(y_i)/float64(q_i))` is NOT modelled in theorems (it IS executed, bit-exactly, by the twin). -/

section BasisExt
open Lattigo.BasisExt

/-- `Σ y_i·(Q/q_i) = x + v·Q` with `0 ≤ v < #moduli`, for pairwise coprime moduli and ANY `y_i < q_i` with
`y_i·(Q/q_i) ≡ x (mod q_i)`. -/
theorem hps_sum (qs ys : List Nat) (x : Nat) (hne : qs ≠ [])
    (hc : qs.Pairwise Nat.Coprime) (hpos : ∀ q ∈ qs, 0 < q) (hx : x < prodN qs)
    (hy : List.Forall₂ (fun qi yi => yi < qi ∧ (yi * qStar qs qi) % qi = x % qi) qs ys) :
    hpsSum qs ys = x + hpsV qs ys * prodN qs ∧ hpsV qs ys < qs.length :=
  BasisExt.hps_sum qs ys x hne hc hpos hx hy

/-- `v = ⌊Σ y_i/q_i⌋` (the quantity the code approximates in floating point). -/
theorem hps_v_is_floor (qs ys : List Nat) (hpos : ∀ q ∈ qs, 0 < q) :
    hpsV qs ys = ⌊(List.zipWith (fun (qi yi : Nat) => (yi : ℚ) / (qi : ℚ)) qs ys).sum⌋₊ := by
  rw [← hps_v_rat qs ys hpos, Nat.floor_div_eq_div]
  rfl

/-- On a chain of distinct primes `< 2^64` with the code's own `y_i` (Fermat inverses):
if the correction index is the exact `v`, the output for EVERY target modulus `p` is `x mod p`. -/
theorem modUp_exact (qs : List Nat) (x p : Nat) (hne : qs ≠ [])
    (hp : ∀ q ∈ qs, Nat.Prime q ∧ q < 2 ^ 64) (hnd : qs.Nodup) (hx : x < prodN qs) (hp0 : 0 < p) :
    let ys := hpsY qs (residues qs x)
    hpsSum qs ys = x + hpsV qs ys * prodN qs ∧ hpsV qs ys < qs.length
      ∧ hpsOut qs ys (hpsV qs ys) p = x % p := by
  intro ys
  have hpos : ∀ q ∈ qs, 0 < q := fun q hq => (hp q hq).1.pos
  have hc := pairwise_coprime_of_primes qs (fun q hq => (hp q hq).1) hnd
  have hy := hpsY_ok qs x (hinv_of_primes qs hp hnd) hpos
  obtain ⟨h1, h2⟩ := BasisExt.hps_sum qs ys x hne hc hpos hx hy
  exact ⟨h1, h2, BasisExt.modUp_exact qs ys x p hc hpos hx hy hp0⟩

example : hpsV [3, 5, 7] (hpsY [3, 5, 7] (residues [3, 5, 7] 52)) = 1 := by decide

/-- An index one too large gives `x − Q`, one too small gives `x + Q`. -/
theorem modUp_off_by_one (qs ys : List Nat) (x p v : Nat)
    (hc : qs.Pairwise Nat.Coprime) (hpos : ∀ q ∈ qs, 0 < q) (hx : x < prodN qs)
    (hy : List.Forall₂ (fun qi yi => yi < qi ∧ (yi * qStar qs qi) % qi = x % qi) qs ys) (hp : 0 < p) :
    (v = hpsV qs ys + 1 → (hpsOut qs ys v p + prodN qs) % p = x % p)
    ∧ (v + 1 = hpsV qs ys → hpsOut qs ys v p = (x + prodN qs) % p) :=
  have h := index_cases (hpsOut_any qs ys x p v _ hc hpos hx hy hp (Nat.mod_mod _ _))
  ⟨h.2.1, fun hv => (Nat.mod_mod _ _).symm.trans (h.2.2 hv)⟩

/-- Named IEEE hypothesis: `t` is the float sum seen as a rational. If the shifted input
satisfies `Q/4 ≤ x < 3Q/4` — i.e. the centred value `x − ⌊Q/2⌋` is below `Q/4` in absolute value — and the float
error is below `1/4`, then `⌊t⌋` IS the exact index; with error below `1` it is never off by more than one. -/
theorem modUp_centered_exact (qs ys : List Nat) (x : Nat) (t : ℚ)
    (hc : qs.Pairwise Nat.Coprime) (hpos : ∀ q ∈ qs, 0 < q) (hx : x < prodN qs)
    (hy : List.Forall₂ (fun qi yi => yi < qi ∧ (yi * qStar qs qi) % qi = x % qi) qs ys) :
    (prodN qs ≤ 4 * x → 4 * x < 3 * prodN qs →
      |t - (List.zipWith (fun (qi yi : Nat) => (yi : ℚ) / (qi : ℚ)) qs ys).sum| < 1 / 4 → ⌊t⌋₊ = hpsV qs ys)
    ∧ (|t - (List.zipWith (fun (qi yi : Nat) => (yi : ℚ) / (qi : ℚ)) qs ys).sum| < 1 →
      ⌊t⌋₊ = hpsV qs ys ∨ ⌊t⌋₊ = hpsV qs ys + 1 ∨ ⌊t⌋₊ + 1 = hpsV qs ys) :=
  ⟨fun hlo hhi ht => BasisExt.modUp_centered_exact qs ys x t hc hpos hx hy hlo hhi ht,
   fun ht => modUp_never_off_by_more_than_one qs ys x t hc hpos hx hy ht⟩

/-- `(x_i − e_i)·P⁻¹ mod q_i` where `e_i` extends the centred `[x]_P` with an error of `δ`
multiples of `P`: the result is `round(x/P) − δ`; exact extension (`δ = 0`) gives the ROUNDED quotient
`⌊(x + ⌊P/2⌋)/P⌋` (all three `ModDown*`; the comment of `ModDownQPtoP` said "floored" before repair C02-3);
extension of the non-centred `[x]_P` would give the floored one. -/
theorem modDown_err (qi P c x ei : Nat) (δ : Int) (hqi : 0 < qi) (hc : (P * c) % qi = 1)
    (he : (ei : Int) % qi = (centeredRep P x + δ * P) % qi) :
    ((modDownRes qi c (x % qi) ei : Nat) : Int) % qi = ((((x + P / 2) / P : Nat) : Int) - δ) % qi :=
  BasisExt.modDown_err qi P c x ei δ hqi hc he

theorem modDown_exact (qi P c x ei : Nat) (hqi : 0 < qi) (hc : (P * c) % qi = 1) :
    ((ei : Int) % qi = centeredRep P x % qi → modDownRes qi c (x % qi) ei = ((x + P / 2) / P) % qi)
    ∧ (ei % qi = (x % P) % qi → modDownRes qi c (x % qi) ei = (x / P) % qi) :=
  ⟨modDown_round qi P c x ei hqi hc, modDown_floor qi P c x ei hqi hc⟩

example : modDownRes 7 1 (100 % 7) 2 = ((100 + 15 / 2) / 15) % 7 := by decide  -- test: q=7, P=15, x=100

/-- Full strength since repair C03-9 of /repo, which reduces `|x|` modulo `p` and maps `−0` to `0`:
for EVERY residue `c < q_0` the limb `ringqp.Ring.ExtendBasisSmallNormAndCenter` writes modulo `p` represents the
same signed integer as `c` modulo `q_0` — no relation between `|x|` and `p` is needed. -/
theorem extendSmallNorm (q0 p c : Nat) (hcq : c < q0) (hq : q0 < W) (hp0 : 0 < p) (hp : p < W) :
    ((extendSmallLimb q0 p c : Nat) : Int) % p = centerInt q0 c % p :=
  extendSmall_spec q0 p c hcq hq hp0 hp

example : extendSmallLimb 97 17 90 = 10 ∧ centerInt 97 90 = -7 := by decide

/-- The witness of the uint64 wrap (`x = −37`, i.e. `c = 60` mod `97`, `p = 17`; the unrepaired code wrote
`2^64 − 20 ≢ −37`): the repaired code writes `14 ≡ −37 (mod 17)`.  The harness PROBES the `extsmall … large`
lines against the centred value (key `C02/ExtendBasisSmallNormAndCenter/not-centred-value-mod-p`). -/
theorem extendSmallNorm_large_repaired :
    extendSmallLimb 97 17 60 = 14 ∧
    ((extendSmallLimb 97 17 60 : Nat) : Int) % (17 : Nat) = centerInt 97 60 % (17 : Nat) := by
  decide

/-- `rlwe.ExtendBasisSmallNormAndCenterNTTMontgomery` (core/rlwe/utils.go) has the wrapping limb code
(`extendSmallLimbWrap`, used by the twin `extendSmallNormNTTMont` between the INTT/IMForm and NTT/MForm steps): it
writes the centred value modulo `p` PROVIDED a negative value fits, `q_0 − c ≤ p` (its in-tree callers pass
secret keys, `|x| ≤ 1`) … -/
theorem extendSmallNormNTTMontgomery_limb_partial (q0 p c : Nat) (hcq : c < q0) (hq : q0 < W) (hp : p < W)
    (hfit : q0 / 2 < c → q0 - c ≤ p) :
    ((extendSmallLimbWrap q0 p c : Nat) : Int) % p = centerInt q0 c % p :=
  extendSmallWrap_spec q0 p c hcq hq hp hfit

example : (97 : Nat) / 2 < 90 → 97 - 90 ≤ 17 := by decide  -- test: the hypothesis is satisfiable

/-- … and the hypothesis is forced for that function: `p − 37` wraps on uint64. -/
theorem extendSmallNormNTTMontgomery_limb_counterexample :
    extendSmallLimbWrap 97 17 60 = W - 20 ∧
    ((extendSmallLimbWrap 97 17 60 : Nat) : Int) % (17 : Nat) ≠ centerInt 97 60 % (17 : Nat) := by
  decide

/-! ### 2b. Limb level ⊑ integer level for `ModUpExact`, `ModUpQtoP/PtoQ`, `ModDownQPtoQ/QPtoP`

`Q`, `P` are the full chains of the two rings; the source chain is `qs = Q[:n]` (`n = len(p1)` resp. `levelQ+1`), an
admissible `Chain` (distinct odd primes below `2^61`) with `Σ q_i ≤ k·2^64` (`k = 1` for `n ≤ 8`); targets are odd
primes with `(k+2)·p ≤ 2^64` (`Target P k`).  `fidx Q y` is the correction index AS THE CODE COMPUTES IT (IEEE-754,
`BasisExt.fidx`, the very expression of the twin); it is never analysed: every statement of this section (§2b) is
conditional on the named hypothesis `fidx … ≤ n` (the table lookup `vtimesqmodp[v]` is in range; true of every float sum of `n`
terms `≤ 1`) and exactness statements on `fidx … = hpsV …`. -/

/-- **`multSum`** (one lane, any index `v ≤ #Q`): `≡ hpsOut` and `< (k+2)·p`. -/
theorem multSum_limb (Q P : List Nat) (hC : Chain Q) (hne : Q ≠ []) (j : Nat) (hj : j < P.length)
    (hp : (P.getD j 0).Prime) (hodd : P.getD j 0 % 2 = 1) (k : Nat) (hk : Q.sum ≤ k * W)
    (hkp : (k + 2) * P.getD j 0 ≤ W) (ys : List Nat) (hlen : ys.length = Q.length)
    (hys : ∀ i, i < Q.length → ys.getD i 0 < Q.getD i 0) (v : Nat) (hv : v ≤ Q.length) :
    multSum ys v (P.getD j 0) (Gen.GenMRedConstant (P.getD j 0)) (genModUpConstants Q P).vtimesqmodp[j]!
        (genModUpConstants Q P).qoverqimodp[j]! % P.getD j 0 = hpsOut Q ys v (P.getD j 0)
    ∧ multSum ys v (P.getD j 0) (Gen.GenMRedConstant (P.getD j 0)) (genModUpConstants Q P).vtimesqmodp[j]!
        (genModUpConstants Q P).qoverqimodp[j]! < (k + 2) * P.getD j 0 :=
  (multSum_ok (r := 0) ⟨hC, hne, hj, hk, hp, hodd, hkp⟩ ys hlen hys v).symm.imp_left fun h => h hv

/-- **`reconstructRNS`** (one lane): the `y_i` of the code ARE `hpsY`, the index is `fidx`. -/
theorem reconstruct_limb (Q P : List Nat) (col : List Nat) (hn : col.length ≤ Q.length)
    (hC : Chain (Q.take col.length)) (hcol : ∀ x ∈ col, x < W) :
    reconstruct Q (Q.map Gen.GenMRedConstant) (genModUpConstants (Q.take col.length) P) col
      = (hpsY (Q.take col.length) col, fidx Q (hpsY (Q.take col.length) col)) :=
  reconstruct_eq Q P col hn hC hcol

/-- **`ModUpExact`, every limb**: `≡ Σ y_i·(Q/q_i) + v·(p_j − Q mod p_j) (mod p_j)` with `y = hpsY`, `v = fidx`,
and `< (k+2)·p_j`. -/
theorem modUpExact_limbs (Q P : List Nat) (levelP : Nat) (hlP : levelP < P.length) (p1 : Rows)
    (hpos : 0 < p1.length) (hn : p1.length ≤ Q.length) (hC : Chain (Q.take p1.length)) (k : Nat)
    (hk : (Q.take p1.length).sum ≤ k * W) (hT : Target P k) (hW : ∀ r ∈ p1, ∀ x ∈ r, x < W)
    (j : Nat) (hj : j ≤ levelP) :
    List.Forall₂ (fun col out =>
        fidx Q (hpsY (Q.take p1.length) col) ≤ p1.length →
          out % P.getD j 0
              = hpsOut (Q.take p1.length) (hpsY (Q.take p1.length) col)
                  (fidx Q (hpsY (Q.take p1.length) col)) (P.getD j 0)
            ∧ out < (k + 2) * P.getD j 0)
      (transpose p1) (row (modUpExact Q P (genModUpConstants (Q.take p1.length) P) levelP p1) j) :=
  BasisExt.modUpExact_limbs Q P levelP hlP p1 hpos hn hC k hk hT hW j hj

/-- the documented range: at most 8 source moduli below `2^61` ⇒ every limb `< 3·p_j`
(`Target P 1`: `3p ≤ 2^64`). -/
theorem modUpExact_limbs_3p (Q P : List Nat) (levelP : Nat) (hlP : levelP < P.length) (p1 : Rows)
    (hpos : 0 < p1.length) (hn : p1.length ≤ Q.length) (h8 : p1.length ≤ 8) (hC : Chain (Q.take p1.length))
    (hT : Target P 1) (hW : ∀ r ∈ p1, ∀ x ∈ r, x < W) (j : Nat) (hj : j ≤ levelP) :
    List.Forall₂ (fun col out =>
        fidx Q (hpsY (Q.take p1.length) col) ≤ p1.length →
          out % P.getD j 0
              = hpsOut (Q.take p1.length) (hpsY (Q.take p1.length) col)
                  (fidx Q (hpsY (Q.take p1.length) col)) (P.getD j 0)
            ∧ out < 3 * P.getD j 0)
      (transpose p1) (row (modUpExact Q P (genModUpConstants (Q.take p1.length) P) levelP p1) j) :=
  BasisExt.modUpExact_limbs Q P levelP hlP p1 hpos hn hC 1
    (sum_le_W _ hC.small (by rw [List.length_take]; omega)) hT hW j hj

/-- **`ModUpExact` with the exact / off-by-one index**: lanes = residues of `x < Qb`; `v` exact ⇒ `≡ x (mod p_j)`;
`v = hpsV + 1` ⇒ `≡ x − Qb`; `v + 1 = hpsV` ⇒ `≡ x + Qb`. -/
theorem modUpExact_exact (Q P : List Nat) (levelP : Nat) (hlP : levelP < P.length) (p1 : Rows)
    (hpos : 0 < p1.length) (hn : p1.length ≤ Q.length) (hC : Chain (Q.take p1.length)) (k : Nat)
    (hk : (Q.take p1.length).sum ≤ k * W) (hT : Target P k) (hW : ∀ r ∈ p1, ∀ x ∈ r, x < W)
    (xs : List Nat) (hxs : ∀ x ∈ xs, x < prodN (Q.take p1.length))
    (hcols : transpose p1 = xs.map (residues (Q.take p1.length))) (j : Nat) (hj : j ≤ levelP) :
    List.Forall₂ (fun x out =>
        (fidx Q (hpsY (Q.take p1.length) (residues (Q.take p1.length) x))
            = hpsV (Q.take p1.length) (hpsY (Q.take p1.length) (residues (Q.take p1.length) x)) →
          out % P.getD j 0 = x % P.getD j 0 ∧ out < (k + 2) * P.getD j 0)
        ∧ (fidx Q (hpsY (Q.take p1.length) (residues (Q.take p1.length) x))
            = hpsV (Q.take p1.length) (hpsY (Q.take p1.length) (residues (Q.take p1.length) x)) + 1 →
          (out + prodN (Q.take p1.length)) % P.getD j 0 = x % P.getD j 0 ∧ out < (k + 2) * P.getD j 0)
        ∧ (fidx Q (hpsY (Q.take p1.length) (residues (Q.take p1.length) x)) + 1
            = hpsV (Q.take p1.length) (hpsY (Q.take p1.length) (residues (Q.take p1.length) x)) →
          out % P.getD j 0 = (x + prodN (Q.take p1.length)) % P.getD j 0 ∧ out < (k + 2) * P.getD j 0))
      xs (row (modUpExact Q P (genModUpConstants (Q.take p1.length) P) levelP p1) j) :=
  BasisExt.modUpExact_exact Q P levelP hlP p1 hpos hn hC k hk hT hW xs hxs hcols j hj

/-- **`ModUpQtoP` / `ModUpPtoQ`** (`modUp P Q` is `ModUpPtoQ`): `X` the integer coefficients (`row polQ i = X mod q_i`),
`Qb = q_0⋯q_levelQ`.  Every limb of target row `j` is `≡ centeredRep Qb x + (hpsV − v)·Qb (mod p_j)` — the centred
representative of `[x]_Qb` plus `δ = hpsV − v` multiples of `Qb` — and `< (k+2)·p_j`. -/
theorem modUp_limbs (Q P : List Nat) (levelQ levelP : Nat) (hlQ : levelQ < Q.length) (hlP : levelP < P.length)
    (hC : Chain (Q.take (levelQ + 1))) (k : Nat) (hk : (Q.take (levelQ + 1)).sum ≤ k * W)
    (hT : Target P (k + 1)) (polQ : Rows) (X : List Nat)
    (hrows : ∀ i, i ≤ levelQ → row polQ i = X.map (· % Q.getD i 0)) (j : Nat) (hj : j ≤ levelP) :
    List.Forall₂ (fun x out =>
        fidx Q (hpsY (Q.take (levelQ + 1)) (residues (Q.take (levelQ + 1))
            ((x + prodN (Q.take (levelQ + 1)) / 2) % prodN (Q.take (levelQ + 1))))) ≤ levelQ + 1 →
          ((out : ℕ) : ℤ) % (P.getD j 0 : ℤ)
              = (centeredRep (prodN (Q.take (levelQ + 1))) x
                  + ((hpsV (Q.take (levelQ + 1)) (hpsY (Q.take (levelQ + 1)) (residues (Q.take (levelQ + 1))
                        ((x + prodN (Q.take (levelQ + 1)) / 2) % prodN (Q.take (levelQ + 1))))) : ℤ)
                    - (fidx Q (hpsY (Q.take (levelQ + 1)) (residues (Q.take (levelQ + 1))
                        ((x + prodN (Q.take (levelQ + 1)) / 2) % prodN (Q.take (levelQ + 1))))) : ℤ))
                    * (prodN (Q.take (levelQ + 1)) : ℤ)) % (P.getD j 0 : ℤ)
            ∧ out < (k + 2) * P.getD j 0)
      X (row (modUp Q P levelQ levelP polQ) j) :=
  BasisExt.modUp_limbs Q P levelQ levelP hlQ hlP hC k hk hT polQ X hrows j hj

/-- **`ModDownQPtoQ`**: `X` the integer coefficients in basis `QP`, `Pb = p_0⋯p_levelP`.  Every limb of row `i` of the
result is `< q_i` and `≡ ⌊(x + ⌊Pb/2⌋)/Pb⌋ − δ (mod q_i)`, `δ = hpsV − v` (`0` for the exact index): the residues of
`(x − ext([x]_Pb))·Pb⁻¹` of `modDown_err`.  (`hdisj`: no `q_i` is one of the `p_j`.) -/
theorem modDownQPtoQ_limbs (Q P : List Nat) (levelQ levelP : Nat) (hlQ : levelQ < Q.length)
    (hlP : levelP < P.length) (hCP : Chain (P.take (levelP + 1))) (k : Nat)
    (hk : (P.take (levelP + 1)).sum ≤ k * W) (hTQ : Target Q (k + 2))
    (hdisj : ∀ i, i ≤ levelQ → Q.getD i 0 ∉ P.take (levelP + 1)) (p1Q p1P : Rows) (X : List Nat)
    (hQ : ∀ i, i ≤ levelQ → row p1Q i = X.map (· % Q.getD i 0))
    (hP : ∀ j, j ≤ levelP → row p1P j = X.map (· % P.getD j 0)) (i : Nat) (hi : i ≤ levelQ) :
    List.Forall₂ (fun x out =>
        fidx P (hpsY (P.take (levelP + 1)) (residues (P.take (levelP + 1))
            ((x + prodN (P.take (levelP + 1)) / 2) % prodN (P.take (levelP + 1))))) ≤ levelP + 1 →
          ((out : ℕ) : ℤ) % (Q.getD i 0 : ℤ)
              = ((((x + prodN (P.take (levelP + 1)) / 2) / prodN (P.take (levelP + 1)) : ℕ) : ℤ)
                  - ((hpsV (P.take (levelP + 1)) (hpsY (P.take (levelP + 1)) (residues (P.take (levelP + 1))
                        ((x + prodN (P.take (levelP + 1)) / 2) % prodN (P.take (levelP + 1))))) : ℤ)
                    - (fidx P (hpsY (P.take (levelP + 1)) (residues (P.take (levelP + 1))
                        ((x + prodN (P.take (levelP + 1)) / 2) % prodN (P.take (levelP + 1))))) : ℤ)))
                % (Q.getD i 0 : ℤ)
            ∧ out < Q.getD i 0)
      X (row (modDownQPtoQ Q P levelQ levelP p1Q p1P) i) :=
  BasisExt.modDownQPtoQ_limbs Q P levelQ levelP hlQ hlP hCP k hk hTQ hdisj p1Q p1P X hQ hP i hi

/-- **`ModDownQPtoP`** (division by `Qb = q_0⋯q_levelQ`, result in basis `P`; ROUNDED, cf. repair C02-3). -/
theorem modDownQPtoP_limbs (Q P : List Nat) (levelQ levelP : Nat) (hlQ : levelQ < Q.length)
    (hlP : levelP < P.length) (hCQ : Chain (Q.take (levelQ + 1))) (k : Nat)
    (hk : (Q.take (levelQ + 1)).sum ≤ k * W) (hTP : Target P (k + 2))
    (hdisj : ∀ j, j ≤ levelP → P.getD j 0 ∉ Q.take (levelQ + 1)) (p1Q p1P : Rows) (X : List Nat)
    (hQ : ∀ i, i ≤ levelQ → row p1Q i = X.map (· % Q.getD i 0))
    (hP : ∀ j, j ≤ levelP → row p1P j = X.map (· % P.getD j 0)) (j : Nat) (hj : j ≤ levelP) :
    List.Forall₂ (fun x out =>
        fidx Q (hpsY (Q.take (levelQ + 1)) (residues (Q.take (levelQ + 1))
            ((x + prodN (Q.take (levelQ + 1)) / 2) % prodN (Q.take (levelQ + 1))))) ≤ levelQ + 1 →
          ((out : ℕ) : ℤ) % (P.getD j 0 : ℤ)
              = ((((x + prodN (Q.take (levelQ + 1)) / 2) / prodN (Q.take (levelQ + 1)) : ℕ) : ℤ)
                  - ((hpsV (Q.take (levelQ + 1)) (hpsY (Q.take (levelQ + 1)) (residues (Q.take (levelQ + 1))
                        ((x + prodN (Q.take (levelQ + 1)) / 2) % prodN (Q.take (levelQ + 1))))) : ℤ)
                    - (fidx Q (hpsY (Q.take (levelQ + 1)) (residues (Q.take (levelQ + 1))
                        ((x + prodN (Q.take (levelQ + 1)) / 2) % prodN (Q.take (levelQ + 1))))) : ℤ)))
                % (P.getD j 0 : ℤ)
            ∧ out < P.getD j 0)
      X (row (modDownQPtoP Q P levelQ levelP p1Q p1P) j) :=
  BasisExt.modDownQPtoP_limbs Q P levelQ levelP hlQ hlP hCQ k hk hTP hdisj p1Q p1P X hQ hP j hj

/-- **`ModDownQPtoQNTT` = NTT ∘ `ModDownQPtoQ` ∘ INTT** (`N = 2^K ≥ 16`): if the rows of `p1Q`, `p1P` are the bit-exact
forward NTTs of `X mod q_i`, `X mod p_j`, every row `i ≤ levelQ` of the result is the forward NTT of row `i` of
`modDownQPtoQ` on the coefficient-domain rows `coeffRows`; `modDownQPtoQ_limbs` then describes its `INTT`.  Holds
for EVERY value of the IEEE index. -/
theorem modDownQPtoQNTT_eq (TQ TP : Tabs) (Q P : List Nat) (levelQ levelP K : Nat) (hK : 4 ≤ K)
    (hlQ : levelQ < Q.length) (hlP : levelP < P.length)
    (hTQ : ∀ i, i ≤ levelQ → NTT.Valid (tab TQ i) K ∧ (tab TQ i).q = Q.getD i 0)
    (hTP : ∀ j, j ≤ levelP → NTT.Valid (tab TP j) K ∧ (tab TP j).q = P.getD j 0)
    (hCP : Chain (P.take (levelP + 1))) (k : Nat) (hk : (P.take (levelP + 1)).sum ≤ k * W)
    (hTgt : Target Q (k + 4)) (p1Q p1P : Rows) (X : List Nat) (hX : X.length = 2 ^ K)
    (hQ : ∀ i, i ≤ levelQ → row p1Q i = NTT.nttStd (tab TQ i) (X.map (· % Q.getD i 0)))
    (hP : ∀ j, j ≤ levelP → row p1P j = NTT.nttStd (tab TP j) (X.map (· % P.getD j 0)))
    (i : Nat) (hi : i ≤ levelQ) :
    row (modDownQPtoQNTT TQ TP Q P levelQ levelP p1Q p1P) i
      = NTT.nttStd (tab TQ i)
          (row (modDownQPtoQ Q P levelQ levelP (coeffRows Q levelQ X) (coeffRows P levelP X)) i) :=
  BasisExt.modDownQPtoQNTT_eq TQ TP Q P levelQ levelP K hK hlQ hlP hTQ hTP hCP k hk hTgt p1Q p1P X hX hQ hP i hi

/-- the one-prime rings `Q = [97]`, `P = [193]` (`N = 16`) of the tests of `modDownQPtoQNTT_eq`, `evalModDown_domains` -/
theorem tab16_97 (i : Nat) (hi : i ≤ 0) :
    NTT.Valid (tab (mkTabs 16 [97] [5]) i) 4 ∧ (tab (mkTabs 16 [97] [5]) i).q = [97].getD i 0 := by
  obtain rfl : i = 0 := by omega
  exact ⟨valid16_97, rfl⟩
theorem tab16_193 (i : Nat) (hi : i ≤ 0) :
    NTT.Valid (tab (mkTabs 16 [193] [5]) i) 4 ∧ (tab (mkTabs 16 [193] [5]) i).q = [193].getD i 0 := by
  obtain rfl : i = 0 := by omega
  exact ⟨valid16_193, rfl⟩
theorem chain_193 : Chain [193] :=
  ⟨by intro q hq; simp at hq; subst hq; norm_num, by intro q hq; simp at hq; subst hq; rfl,
   by intro q hq; simp at hq; subst hq; norm_num, by decide⟩
theorem target_97 : Target [97] (1 + 4) :=
  ⟨by intro q hq; simp at hq; subst hq; norm_num, by intro q hq; simp at hq; subst hq; rfl,
   by intro q hq; simp at hq; subst hq; decide⟩

example :
    row (modDownQPtoQNTT (mkTabs 16 [97] [5]) (mkTabs 16 [193] [5]) [97] [193] 0 0
          [NTT.nttStd (tab (mkTabs 16 [97] [5]) 0) (exX.map (· % 97))]
          [NTT.nttStd (tab (mkTabs 16 [193] [5]) 0) (exX.map (· % 193))]) 0
      = NTT.nttStd (tab (mkTabs 16 [97] [5]) 0)
          (row (modDownQPtoQ [97] [193] 0 0 (coeffRows [97] 0 exX) (coeffRows [193] 0 exX)) 0) :=
  modDownQPtoQNTT_eq (mkTabs 16 [97] [5]) (mkTabs 16 [193] [5]) [97] [193] 0 0 4 (by decide) (by decide) (by decide)
    tab16_97 tab16_193 chain_193 1 (by decide) target_97
    _ _ exX rfl
    (fun i hi => by have : i = 0 := by omega
                    subst this; rfl)
    (fun i hi => by have : i = 0 := by omega
                    subst this; rfl) 0 (by decide)

example : Chain [97, 193, 257] ∧ [97, 193, 257].sum ≤ 1 * W ∧ Target [769, 1153] 3 :=
  ⟨chain_97_193_257, by decide,
   ⟨by intro q hq; simp at hq; rcases hq with rfl | rfl <;> norm_num,
    by intro q hq; simp at hq; rcases hq with rfl | rfl <;> rfl,
    by intro q hq; simp at hq; rcases hq with rfl | rfl <;> decide⟩⟩
-- checked by the kernel: the Montgomery tables and one lane of `multSum` for x = 1234567, exact index 2
example : hpsV [97, 193, 257] (hpsY [97, 193, 257] (residues [97, 193, 257] 1234567)) = 2
    ∧ multSum (hpsY [97, 193, 257] (residues [97, 193, 257] 1234567)) 2 769 (Gen.GenMRedConstant 769)
        (genModUpConstants [97, 193, 257] [769, 1153]).vtimesqmodp[0]!
        (genModUpConstants [97, 193, 257] [769, 1153]).qoverqimodp[0]! % 769 = 1234567 % 769 := by
  decide +kernel
-- EVALUATION with the compiled IEEE arithmetic, not kernel-checked: the float index of the twin is the exact one on this
-- input, and the whole `modUpExact` row is `x mod p`
#guard fidx [97, 193, 257] (hpsY [97, 193, 257] (residues [97, 193, 257] 1234567)) = 2
#guard modUpExact [97, 193, 257] [769, 1153] (genModUpConstants [97, 193, 257] [769, 1153]) 1
    [[1234567 % 97], [1234567 % 193], [1234567 % 257]] = [[1234567 % 769 + 769], [1234567 % 1153]]

/-! ### 2c. The IEEE correction index: ONE named hypothesis; `Evaluator.ModDown`

`FidxApprox Q qs ys ε` — the index the code computes is `⌊t⌋` for some rational `t ≥ 0` with `|t − Σ y_i/q_i| < ε`
(the float sum read as a rational).  It implies the two hypotheses of §2b (`fidx ≤ #moduli`, `fidx = hpsV`):
`ε ≤ 1` gives the table lookup in range and an error of at most one; `ε ≤ 1/4` and a value below a quarter
of the source modulus give exactness.  Lean's `Float` is opaque to the kernel: `FidxApprox` itself (true with
`ε ≈ n·2⁻⁵²` for `n ≤ 32` binary64 additions of quotients `≤ 1`) cannot be proved; it is the ONLY unproved link between
the limb-level twins of the basis extension and the integer-level quotient, and the tie checks the index bit for bit. -/

/-- **exact condition (iff) under which the floor of an approximation `t` of `Σ y_i/q_i` is the exact index**: the
error `t − Σ` lies in `[−x/Q, 1 − x/Q)` (`x < Q` the input the `y_i` belong to). -/
theorem fidx_exact_iff (qs ys : List Nat) (x : Nat) (t : ℚ) (ht0 : 0 ≤ t)
    (hc : qs.Pairwise Nat.Coprime) (hpos : ∀ q ∈ qs, 0 < q) (hx : x < prodN qs)
    (hy : List.Forall₂ (fun qi yi => yi < qi ∧ (yi * qStar qs qi) % qi = x % qi) qs ys) :
    ⌊t⌋₊ = hpsV qs ys ↔
      -((x : ℚ) / (prodN qs : ℚ)) ≤ t - (List.zipWith (fun (qi yi : Nat) => (yi : ℚ) / (qi : ℚ)) qs ys).sum
      ∧ t - (List.zipWith (fun (qi yi : Nat) => (yi : ℚ) / (qi : ℚ)) qs ys).sum < 1 - (x : ℚ) / (prodN qs : ℚ) :=
  BasisExt.fidx_exact_iff qs ys x t ht0 hc hpos hx hy

/-- `ε ≤ 1` ⇒ the index is `≤ #moduli` (lookup in range) and off by at most one; `ε ≤ 1/4` and `Q/4 ≤ x < 3Q/4` ⇒ exact. -/
theorem fidx_of_approx (Q qs ys : List Nat) (x : Nat) (hne : qs ≠ [])
    (hc : qs.Pairwise Nat.Coprime) (hpos : ∀ q ∈ qs, 0 < q) (hx : x < prodN qs)
    (hy : List.Forall₂ (fun qi yi => yi < qi ∧ (yi * qStar qs qi) % qi = x % qi) qs ys) :
    (FidxApprox Q qs ys 1 → fidx Q ys ≤ qs.length
        ∧ (fidx Q ys = hpsV qs ys ∨ fidx Q ys = hpsV qs ys + 1 ∨ fidx Q ys + 1 = hpsV qs ys))
    ∧ (FidxApprox Q qs ys (1 / 4) → prodN qs ≤ 4 * x → 4 * x < 3 * prodN qs → fidx Q ys = hpsV qs ys) :=
  ⟨fun h => ⟨fidxApprox_le Q qs ys x hne hc hpos hx hy h, fidxApprox_cases Q qs ys x hc hpos hx hy h⟩,
   fun h hlo hhi => fidxApprox_exact Q qs ys x hc hpos hx hy hlo hhi h⟩

-- qs = [3,5,7], x = 52: Σ = 157/105, t = 3/2, ⌊t⌋ = 1 = hpsV
example : hpsV [3, 5, 7] [2, 2, 3] = 1 ∧ ∃ t : ℚ, 0 ≤ t ∧ (1 : ℕ) = ⌊t⌋₊
    ∧ |t - (List.zipWith (fun (qi yi : Nat) => (yi : ℚ) / (qi : ℚ)) [3, 5, 7] [2, 2, 3]).sum| < 1 / 4 :=
  ⟨by decide, 3 / 2, by norm_num, by norm_num [Nat.floor_eq_iff], by norm_num [abs_lt]⟩

/-- **`ModDownQPtoQ`: the rounded quotient up to an error of at most 1** — the property's sentence, every limb, with
only `FidxApprox … 1`: limb `< q_i` and `≡ ⌊(x + ⌊Pb/2⌋)/Pb⌋ + e (mod q_i)`, `|e| ≤ 1`. -/
theorem modDownQPtoQ_err_le_one (Q P : List Nat) (levelQ levelP : Nat) (hlQ : levelQ < Q.length)
    (hlP : levelP < P.length) (hCP : Chain (P.take (levelP + 1))) (k : Nat)
    (hk : (P.take (levelP + 1)).sum ≤ k * W) (hTQ : Target Q (k + 2))
    (hdisj : ∀ i, i ≤ levelQ → Q.getD i 0 ∉ P.take (levelP + 1)) (p1Q p1P : Rows) (X : List Nat)
    (hQ : ∀ i, i ≤ levelQ → row p1Q i = X.map (· % Q.getD i 0))
    (hP : ∀ j, j ≤ levelP → row p1P j = X.map (· % P.getD j 0)) (i : Nat) (hi : i ≤ levelQ) :
    List.Forall₂ (fun x out =>
        FidxApprox P (P.take (levelP + 1)) (hpsY (P.take (levelP + 1)) (residues (P.take (levelP + 1))
            ((x + prodN (P.take (levelP + 1)) / 2) % prodN (P.take (levelP + 1))))) 1 →
          out < Q.getD i 0 ∧ ∃ e : ℤ, |e| ≤ 1 ∧
            ((out : ℕ) : ℤ) % (Q.getD i 0 : ℤ)
              = ((((x + prodN (P.take (levelP + 1)) / 2) / prodN (P.take (levelP + 1)) : ℕ) : ℤ) + e)
                  % (Q.getD i 0 : ℤ))
      X (row (modDownQPtoQ Q P levelQ levelP p1Q p1P) i) :=
  BasisExt.modDownQPtoQ_err_le_one Q P levelQ levelP hlQ hlP hCP k hk hTQ hdisj p1Q p1P X hQ hP i hi

/-- **`ModDownQPtoQ`: EXACTLY the rounded quotient** when the centred remainder `[x]_Pb` is below `Pb/4` in absolute
value (`Pb ≤ 4x' < 3Pb`, `x' = (x + ⌊Pb/2⌋) mod Pb`) and the float error is below `1/4`. -/
theorem modDownQPtoQ_exact_of_quarter (Q P : List Nat) (levelQ levelP : Nat) (hlQ : levelQ < Q.length)
    (hlP : levelP < P.length) (hCP : Chain (P.take (levelP + 1))) (k : Nat)
    (hk : (P.take (levelP + 1)).sum ≤ k * W) (hTQ : Target Q (k + 2))
    (hdisj : ∀ i, i ≤ levelQ → Q.getD i 0 ∉ P.take (levelP + 1)) (p1Q p1P : Rows) (X : List Nat)
    (hQ : ∀ i, i ≤ levelQ → row p1Q i = X.map (· % Q.getD i 0))
    (hP : ∀ j, j ≤ levelP → row p1P j = X.map (· % P.getD j 0)) (i : Nat) (hi : i ≤ levelQ) :
    List.Forall₂ (fun x out =>
        FidxApprox P (P.take (levelP + 1)) (hpsY (P.take (levelP + 1)) (residues (P.take (levelP + 1))
            ((x + prodN (P.take (levelP + 1)) / 2) % prodN (P.take (levelP + 1))))) (1 / 4) →
        prodN (P.take (levelP + 1)) ≤ 4 * ((x + prodN (P.take (levelP + 1)) / 2) % prodN (P.take (levelP + 1))) →
        4 * ((x + prodN (P.take (levelP + 1)) / 2) % prodN (P.take (levelP + 1))) < 3 * prodN (P.take (levelP + 1)) →
          out = ((x + prodN (P.take (levelP + 1)) / 2) / prodN (P.take (levelP + 1))) % Q.getD i 0)
      X (row (modDownQPtoQ Q P levelQ levelP p1Q p1P) i) :=
  BasisExt.modDownQPtoQ_exact_of_quarter Q P levelQ levelP hlQ hlP hCP k hk hTQ hdisj p1Q p1P X hQ hP i hi

/-- **`ModUpQtoP` / `ModUpPtoQ`: never off by more than one multiple of the source modulus, exact below a quarter** —
the property's sentence for the limb-level twin: with `FidxApprox … 1` every limb is `≡ centeredRep Qb x + δ·Qb`,
`δ ∈ {−1,0,1}`; with `FidxApprox … (1/4)` and `Qb ≤ 4x' < 3Qb` (`|centred x| < Qb/4`) it is `≡ centeredRep Qb x`. -/
theorem modUp_within_one_multiple (Q P : List Nat) (levelQ levelP : Nat) (hlQ : levelQ < Q.length)
    (hlP : levelP < P.length) (hC : Chain (Q.take (levelQ + 1))) (k : Nat)
    (hk : (Q.take (levelQ + 1)).sum ≤ k * W) (hT : Target P (k + 1)) (polQ : Rows) (X : List Nat)
    (hrows : ∀ i, i ≤ levelQ → row polQ i = X.map (· % Q.getD i 0)) (j : Nat) (hj : j ≤ levelP) :
    List.Forall₂ (fun x out =>
        FidxApprox Q (Q.take (levelQ + 1)) (hpsY (Q.take (levelQ + 1)) (residues (Q.take (levelQ + 1))
            ((x + prodN (Q.take (levelQ + 1)) / 2) % prodN (Q.take (levelQ + 1))))) 1 →
          out < (k + 2) * P.getD j 0 ∧ ∃ δ : ℤ, (δ = -1 ∨ δ = 0 ∨ δ = 1) ∧
            ((out : ℕ) : ℤ) % (P.getD j 0 : ℤ)
              = (centeredRep (prodN (Q.take (levelQ + 1))) x + δ * (prodN (Q.take (levelQ + 1)) : ℤ))
                  % (P.getD j 0 : ℤ))
      X (row (modUp Q P levelQ levelP polQ) j)
    ∧ List.Forall₂ (fun x out =>
        FidxApprox Q (Q.take (levelQ + 1)) (hpsY (Q.take (levelQ + 1)) (residues (Q.take (levelQ + 1))
            ((x + prodN (Q.take (levelQ + 1)) / 2) % prodN (Q.take (levelQ + 1))))) (1 / 4) →
        prodN (Q.take (levelQ + 1)) ≤ 4 * ((x + prodN (Q.take (levelQ + 1)) / 2) % prodN (Q.take (levelQ + 1))) →
        4 * ((x + prodN (Q.take (levelQ + 1)) / 2) % prodN (Q.take (levelQ + 1))) < 3 * prodN (Q.take (levelQ + 1)) →
          ((out : ℕ) : ℤ) % (P.getD j 0 : ℤ) = centeredRep (prodN (Q.take (levelQ + 1))) x % (P.getD j 0 : ℤ)
          ∧ out < (k + 2) * P.getD j 0)
      X (row (modUp Q P levelQ levelP polQ) j) := by
  have hL : LaneOK (Q.take (levelQ + 1)) P j k 1 := .of_target (Nat.succ_pos _) hlQ hC hk hT hlP hj
  rw [modUp_row Q P levelQ levelP hlQ hC polQ X hrows j hj]
  exact ⟨forall₂_map_self _ _ X fun x _ hA => ⟨extLane_lt hL Q x, extLane_err_le_one hL Q x hA⟩,
    forall₂_map_self _ _ X fun x _ hA hlo hhi => ⟨extLane_exact hL Q x hA hlo hhi, extLane_lt hL Q x⟩⟩

/-- **`rlwe.Evaluator.ModDown` with a special modulus: the four `(ctQP.IsNTT, ct.IsNTT)` combinations compute ONE
quotient** (standard ring, `N = 2^K ≥ 16`).  `X` the integer coefficients; the inputs are the rows of `X` in the domain
`qpNTT` (`domRows`); the output rows of the twin `evalModDown`, read in the coefficient domain when `ctNTT`
(`readCoeff`), are — limb for limb, for every value of the IEEE index — the rows of `modDownQPtoQ` on the
coefficient-domain rows of `X`, which `modDownQPtoQ_err_le_one` identifies as the rounded quotient ±1. -/
theorem evalModDown_domains (TQ TP : Tabs) (Q P : List Nat) (levelQ levelP K : Nat) (hK : 4 ≤ K)
    (hlQ : levelQ < Q.length) (hlP : levelP < P.length)
    (hTQ : ∀ i, i ≤ levelQ → NTT.Valid (tab TQ i) K ∧ (tab TQ i).q = Q.getD i 0)
    (hTP : ∀ j, j ≤ levelP → NTT.Valid (tab TP j) K ∧ (tab TP j).q = P.getD j 0)
    (hCP : Chain (P.take (levelP + 1))) (k : Nat) (hk : (P.take (levelP + 1)).sum ≤ k * W)
    (hTgt : Target Q (k + 4)) (X : List Nat) (hX : X.length = 2 ^ K) (qpNTT ctNTT : Bool)
    (i : Nat) (hi : i ≤ levelQ) :
    readCoeff ctNTT (tab TQ i)
        (row (evalModDown xfStd TQ TP Q P levelQ (some levelP) qpNTT ctNTT
          (domRows qpNTT TQ Q levelQ X) (domRows qpNTT TP P levelP X)).1 i)
      = row (modDownQPtoQ Q P levelQ levelP (coeffRows Q levelQ X) (coeffRows P levelP X)) i :=
  BasisExt.evalModDown_domains TQ TP Q P levelQ levelP K hK hlQ hlP hTQ hTP hCP k hk hTgt X hX qpNTT ctNTT i hi

/-- **`Evaluator.ModDown` without special modulus** (`levelP = -1`): for all four domain combinations the output, read in
the coefficient domain, is `X mod q_i` (every ring degree; the copy direction was wrong before repair C02-5). -/
theorem evalModDown_noP (TQ TP : Tabs) (Q P : List Nat) (levelQ K : Nat)
    (hTQ : ∀ i, i ≤ levelQ → NTT.Valid (tab TQ i) K ∧ (tab TQ i).q = Q.getD i 0)
    (X : List Nat) (hX : X.length = 2 ^ K) (qpNTT ctNTT : Bool) (pP : Rows) (i : Nat) (hi : i ≤ levelQ) :
    readCoeff ctNTT (tab TQ i)
        (row (evalModDown xfStd TQ TP Q P levelQ none qpNTT ctNTT (domRows qpNTT TQ Q levelQ X) pP).1 i)
      = X.map (· % Q.getD i 0) :=
  BasisExt.evalModDown_noP TQ TP Q P levelQ K hTQ X hX qpNTT ctNTT pP i hi

-- NTT input → coefficient output
example :
    row (evalModDown xfStd (mkTabs 16 [97] [5]) (mkTabs 16 [193] [5]) [97] [193] 0 (some 0) true false
          (domRows true (mkTabs 16 [97] [5]) [97] 0 exX) (domRows true (mkTabs 16 [193] [5]) [193] 0 exX)).1 0
      = row (modDownQPtoQ [97] [193] 0 0 (coeffRows [97] 0 exX) (coeffRows [193] 0 exX)) 0 :=
  evalModDown_domains (mkTabs 16 [97] [5]) (mkTabs 16 [193] [5]) [97] [193] 0 0 4 (by decide) (by decide) (by decide)
    tab16_97 tab16_193 chain_193 1 (by decide) target_97
    exX rfl true false 0 (by decide)
-- N = 8: NTT input → NTT output is a copy; read back it is X mod 97
example : readCoeff true (tab exT8 0)
      (row (evalModDown xfStd exT8 [] [97, 193] [] 0 none true true (domRows true exT8 [97, 193] 0 exX8) []).1 0)
    = exX8.map (· % 97) :=
  evalModDown_noP exT8 [] [97, 193] [] 0 3 (fun i hi => by have : i = 0 := by omega
                                                           subst this; exact ⟨valid8_97, rfl⟩)
    exX8 rfl true true [] 0 (by decide)

/-- `rlwe.ExtendBasisSmallNormAndCenterNTTMontgomery`, contract form: the unrepaired limb code is right whenever the
centred value fits the target prime, `|x| ≤ p`.  This is the function's "small norm" contract: all in-tree callers
(`core/rlwe/keygenerator.go:216,266,271`, `circuits/ckks/bootstrapping/keys.go:100,103`) pass SECRET KEYS (ternary, or
a Gaussian bounded by `6σ`), far below any NTT-friendly prime (`p ≥ 2N + 1`).  So the wrap of
`extendSmallNormNTTMontgomery_limb_counterexample` is NOT reachable with legal inputs — not a defect, but an
inconsistency with `ringqp.Ring.ExtendBasisSmallNormAndCenter` since repair C03-9 (which reduces `|x|` modulo `p`). -/
theorem extendSmallNormNTTMontgomery_limb_contract (q0 p c : Nat) (hcq : c < q0) (hq : q0 < W) (hp : p < W)
    (hfit : (centerInt q0 c).natAbs ≤ p) :
    ((extendSmallLimbWrap q0 p c : Nat) : Int) % p = centerInt q0 c % p := by
  apply extendSmallWrap_spec q0 p c hcq hq hp
  intro hc
  unfold centerInt at hfit
  rw [if_pos hc] at hfit
  omega

example : (centerInt 97 96).natAbs ≤ 17 := by decide  -- test: the ternary coefficient −1

end BasisExt

/-! ## 3. Gadget decomposition -/

open Lattigo.Decomp in
/-- power-of-two digits (`MaskVec`) are `< 2^w` … -/
theorem pow2_digit_lt (w j x : Nat) : pow2Digit w j x < 2 ^ w := by
  rw [pow2Digit_eq]
  exact Nat.mod_lt _ (Nat.two_pow_pos w)

open Lattigo.Decomp in
/-- … and recombine to `x` as soon as `q ≤ 2^(w·n)`. -/
theorem pow2_digits_recombine (w n q x : Nat) (hq : q ≤ 2 ^ (w * n)) (hx : x < q) :
    pow2Recombine w n x = x := by
  rw [pow2Recombine_eq]
  exact Nat.mod_eq_of_lt (Nat.lt_of_lt_of_le hx hq)

example : Decomp.pow2Recombine 10 4 (2 ^ 30 + 5) = 2 ^ 30 + 5 := by decide  -- test: 4 digits suffice

open Lattigo.Decomp in
/-- The hypothesis `q ≤ 2^(w·n)` is needed: with `n = round(log2 q / w)` digits (what
`BaseTwoDecompositionVectorSize` computes from `round(log2 q)`) the top bit of `q = 2^30+δ` is lost. -/
theorem pow2_digits_too_few : pow2Recombine 10 3 (2 ^ 30 + 5) ≠ 2 ^ 30 + 5 := by decide

open Lattigo.Decomp in
/-- `ring.MaskVec(p, j·w, 2^w − 1, ·)` IS the `j`-th digit of every coefficient. -/
theorem maskVec_eq (w j : Nat) (p : List Nat) : maskVec (j * w) (2 ^ w - 1) p = p.map (pow2Digit w j) := rfl

set_option linter.unusedVariables false in  -- `hpos` is implied by `hinv`
open Lattigo.Decomp in
/-- RNS digits: if `d_i ≡ x (mod Q_i)` for pairwise coprime digit moduli then
`Σ_i d_i·(Q/Q_i)·[(Q/Q_i)⁻¹]_{Q_i} ≡ x (mod Q)` — signed digits (the centred ones the code produces, and the
ones that are off by one multiple of `Q_i`) included. -/
theorem rns_digits_recombine (Qs : List Nat) (inv : Nat → Nat) (x : Int) (ds : List Int)
    (hc : Qs.Pairwise Nat.Coprime) (hpos : ∀ Q ∈ Qs, 0 < Q)
    (hinv : ∀ Q ∈ Qs, ((prodN Qs / Q) * inv Q) % Q = 1)
    (hd : List.Forall₂ (fun (Q : Nat) (d : Int) => d % (Q : Int) = x % (Q : Int)) Qs ds) :
    rnsRecombine Qs inv ds % (prodN Qs : Int) = x % (prodN Qs : Int) :=
  rnsRecombine_modEq Qs inv x ds hc hinv hd

open Lattigo.Decomp in
/-- **Counterexample (limb-level twin of `DecomposeAndSplit`, as `rlwe` called it without special modulus —
repaired in /repo by `fix:` 3f60e57, which makes the caller pass `nbPi = 1`; the end-to-end probe
`keyswitch_noP_nopw2` watches the repaired behaviour, `DecomposeAndSplit` itself is unchanged).**
`gadgetProductSinglePAndBitDecompLazy` passed `nbPi = levelP + 1`; with `P = ∅` (`levelP = −1`) that is
`nbPi = 0`, so `lvlQStart = d·0 = 0`: digit 1 of `x = 393` (`≡ 5 mod 97, ≡ 7 mod 193`) is again `[x]_{97} = 5`
instead of `[x]_{193} = 7`, and the digits recombine to `5`, not to `393`.  With `nbPi = 1` all is well. -/
theorem decompose_noP_counterexample :
    let Q := [97, 193]
    let p0 : Scaling.Rows := [[393 % 97], [393 % 193]]
    let inv := fun Qi => invMod (prodN Q / Qi % Qi) Qi
    decomposeAndSplit Q [] false 1 0 0 0 p0 [[0], [0]] = some ([[5], [5]], [])
    ∧ decomposeAndSplit Q [] false 1 0 0 1 p0 [[0], [0]] = some ([[5], [5]], [])
    ∧ rnsRecombine Q inv [5, 5] % (prodN Q : Int) ≠ 393 % (prodN Q : Int)
    ∧ decomposeAndSplit Q [] false 1 0 1 1 p0 [[0], [0]] = some ([[7], [7]], [])
    ∧ rnsRecombine Q inv [5, 7] % (prodN Q : Int) = 393 % (prodN Q : Int) := by
  decide

/-! ### 3b. Limb level ⊑ integer level for `Decomposer.DecomposeAndSplit` -/

section DecompLimb
open Lattigo.Decomp Lattigo.BasisExt

/-- **`DecomposeAndSplit`, single-prime digit** (copy branch, `decompLvl < 0`): no panic; every limb of every Q-row and
P-row is `≡ digitA q_d (x mod q_d)` — the signed digit with the code's centring (`c ≥ q_d >> 1` is negative:
range `[−⌈q_d/2⌉, ⌊q_d/2⌋)`, `digitA_bounds`; `≡ x (mod q_d)`, `digitA_emod`) — and `≤` the row's modulus. -/
theorem decompose_single_limbs (Q P : List Nat) (hasP : Bool) (levelQ levelP nbPi d : Nat)
    (hdl : decompLvl levelQ nbPi d < 0) (hst : d * nbPi ≤ levelQ) (hlQ : levelQ < Q.length)
    (hlP : hasP = true → levelP < P.length)
    (hQ : ∀ m ∈ Q, 1 < m ∧ m < W) (hP : ∀ m ∈ P, 1 < m ∧ m < W)
    (p0Q prevQ : Rows) (X : List Nat)
    (hrow : row p0Q (d * nbPi) = X.map (· % Q.getD (d * nbPi) 0)) :
    ∃ outQ outP, decomposeAndSplit Q P hasP levelQ levelP nbPi d p0Q prevQ = some (outQ, outP)
      ∧ (∀ i, i ≤ levelQ → List.Forall₂ (fun x out =>
            ((out : ℕ) : ℤ) % (Q.getD i 0 : ℤ)
                = digitA (Q.getD (d * nbPi) 0) (x % Q.getD (d * nbPi) 0) % (Q.getD i 0 : ℤ)
              ∧ out ≤ Q.getD i 0) X (row outQ i))
      ∧ (hasP = true → ∀ j, j ≤ levelP → List.Forall₂ (fun x out =>
            ((out : ℕ) : ℤ) % (P.getD j 0 : ℤ)
                = digitA (Q.getD (d * nbPi) 0) (x % Q.getD (d * nbPi) 0) % (P.getD j 0 : ℤ)
              ∧ out ≤ P.getD j 0) X (row outP j)) :=
  Decomp.decompose_single_limbs Q P hasP levelQ levelP nbPi d hdl hst hlQ hlP hQ hP p0Q prevQ X hrow

/-- the copy branch is taken exactly when the digit has one modulus: for a valid digit index `decompLvl + 2` is the
number of moduli `min(d·nbPi + nbPi, levelQ+1) − d·nbPi` of the digit -/
theorem decompLvl_eq (levelQ nbPi d : Nat) (hnb : 0 < nbPi) (hd : d * nbPi ≤ levelQ) :
    decompLvl levelQ nbPi d = ((min (d * nbPi + nbPi) (levelQ + 1) - d * nbPi : ℕ) : ℤ) - 2 :=
  Decomp.decompLvl_eq levelQ nbPi d hnb hd

/-- **`DecomposeAndSplit`, multi-prime digit** (HPS branch with `reconstructRNSCentered`; `Q_d = Π dasGrp` the digit
modulus, `≥ 2` primes): no panic; every limb of every Q-row OUTSIDE the digit's own moduli and of every P-row
`j ≤ levelP` is `≡ centeredRep Q_d x + δ·Q_d (mod m)` (`δ = hpsV − v`, `v = fidx` the IEEE index, named hypothesis
`v ≤ #moduli`) and `< (k+2)·m`.  For the exact index the value is THE centred digit `d = centeredRep Q_d x`:
`d ≡ x (mod Q_d)`, `−⌊Q_d/2⌋ ≤ d < Q_d − ⌊Q_d/2⌋` (`centeredRep_emod`, `centeredRep_bounds`). -/
theorem decompose_multi_limbs (Q P : List Nat) (hasP : Bool) (levelQ levelP nbPi d : Nat) (hnb : 0 < nbPi)
    (hst : d * nbPi ≤ levelQ) (hlQ : levelQ < Q.length)
    (hcnt : 2 ≤ min (d * nbPi + nbPi) (levelQ + 1) - d * nbPi)
    (hC : Chain (dasGrp Q levelQ nbPi d)) (k : Nat) (hk : (dasGrp Q levelQ nbPi d).sum ≤ k * W)
    (hTQ : Target Q (k + 1)) (hTP : Target P (k + 1)) (hlP : levelP + 1 ≤ nbPi) (hnP : nbPi ≤ P.length)
    (p0Q prevQ : Rows) (X : List Nat)
    (hrows : ∀ i, d * nbPi ≤ i → i < min (d * nbPi + nbPi) (levelQ + 1) →
      row p0Q i = X.map (· % Q.getD i 0)) :
    ∃ outQ outP, decomposeAndSplit Q P hasP levelQ levelP nbPi d p0Q prevQ = some (outQ, outP)
      ∧ (∀ j, j ≤ levelQ → (j < d * nbPi ∨ min (d * nbPi + nbPi) (levelQ + 1) ≤ j) →
          List.Forall₂ (fun x out =>
            fidx (dasGrp Q levelQ nbPi d) (dasY (dasGrp Q levelQ nbPi d) x) ≤ (dasGrp Q levelQ nbPi d).length →
              ((out : ℕ) : ℤ) % (Q.getD j 0 : ℤ)
                  = (centeredRep (prodN (dasGrp Q levelQ nbPi d)) x
                      + ((hpsV (dasGrp Q levelQ nbPi d) (dasY (dasGrp Q levelQ nbPi d) x) : ℤ)
                          - (fidx (dasGrp Q levelQ nbPi d) (dasY (dasGrp Q levelQ nbPi d) x) : ℤ))
                        * (prodN (dasGrp Q levelQ nbPi d) : ℤ)) % (Q.getD j 0 : ℤ)
                ∧ out < (k + 2) * Q.getD j 0) X (row outQ j))
      ∧ (∀ j, j ≤ levelP →
          List.Forall₂ (fun x out =>
            fidx (dasGrp Q levelQ nbPi d) (dasY (dasGrp Q levelQ nbPi d) x) ≤ (dasGrp Q levelQ nbPi d).length →
              ((out : ℕ) : ℤ) % (P.getD j 0 : ℤ)
                  = (centeredRep (prodN (dasGrp Q levelQ nbPi d)) x
                      + ((hpsV (dasGrp Q levelQ nbPi d) (dasY (dasGrp Q levelQ nbPi d) x) : ℤ)
                          - (fidx (dasGrp Q levelQ nbPi d) (dasY (dasGrp Q levelQ nbPi d) x) : ℤ))
                        * (prodN (dasGrp Q levelQ nbPi d) : ℤ)) % (P.getD j 0 : ℤ)
                ∧ out < (k + 2) * P.getD j 0) X (row outP j)) :=
  Decomp.decompose_multi_limbs Q P hasP levelQ levelP nbPi d hnb hst hlQ hcnt hC k hk hTQ hTP hlP hnP
    p0Q prevQ X hrows

/-- the centred digit: `≡ x (mod Q_d)` and `|d| ≤ Q_d/2` (for odd `Q_d`: `−(Q_d−1)/2 ≤ d ≤ (Q_d−1)/2`) -/
theorem centred_digit (Qd x : Nat) (hQ : 0 < Qd) :
    centeredRep Qd x % (Qd : ℤ) = (x : ℤ) % (Qd : ℤ)
    ∧ -((Qd / 2 : ℕ) : ℤ) ≤ centeredRep Qd x ∧ centeredRep Qd x < (Qd : ℤ) - ((Qd / 2 : ℕ) : ℤ) :=
  ⟨centeredRep_emod Qd x, centeredRep_bounds Qd x hQ⟩

/-- the copy branch's digit: `≡ c (mod q_d)`, range `[−(q_d − ⌊q_d/2⌋), ⌊q_d/2⌋)` — for odd `q_d` the value
`(q_d−1)/2` is represented by `−(q_d+1)/2`, half a unit beyond `q_d/2` (centring `coeff ≥ q_d >> 1`,
ring/basis_extension.go:424; the HPS branch centres symmetrically). -/
theorem copy_digit (qd c : Nat) (hc : c < qd) :
    digitA qd c % (qd : ℤ) = (c : ℤ) % (qd : ℤ)
    ∧ -((qd : ℤ) - ((qd / 2 : ℕ) : ℤ)) ≤ digitA qd c ∧ digitA qd c < ((qd / 2 : ℕ) : ℤ) :=
  ⟨digitA_emod qd c, digitA_bounds qd c hc⟩

/-- **the digits `DecomposeAndSplit` writes recombine** (`rns_digits_recombine` applies): with digit moduli `Qs`
(pairwise coprime) and ANY index errors `δ`, the values `centeredRep Q_i x + δ_i·Q_i` the limbs are congruent to
satisfy `Σ d_i·(Q/Q_i)·[(Q/Q_i)⁻¹]_{Q_i} ≡ x (mod Q)`. -/
theorem decompose_digits_recombine (Qs : List Nat) (inv : Nat → Nat) (x : Nat) (δ : Nat → ℤ)
    (hc : Qs.Pairwise Nat.Coprime) (hpos : ∀ Q ∈ Qs, 0 < Q)
    (hinv : ∀ Q ∈ Qs, ((prodN Qs / Q) * inv Q) % Q = 1) :
    rnsRecombine Qs inv (Qs.map fun Qi => centeredRep Qi x + δ Qi * (Qi : ℤ)) % (prodN Qs : ℤ)
      = (x : ℤ) % (prodN Qs : ℤ) :=
  digits_recombine Qs inv x δ hc hpos hinv

set_option linter.unusedVariables false in  -- `hpos` is implied by `hinv`
theorem decompose_digits_recombine_single (Qs : List Nat) (inv : Nat → Nat) (x : Nat)
    (hc : Qs.Pairwise Nat.Coprime) (hpos : ∀ Q ∈ Qs, 0 < Q)
    (hinv : ∀ Q ∈ Qs, ((prodN Qs / Q) * inv Q) % Q = 1) :
    rnsRecombine Qs inv (Qs.map fun qd => digitA qd (x % qd)) % (prodN Qs : ℤ)
      = (x : ℤ) % (prodN Qs : ℤ) := by
  apply rnsRecombine_modEq Qs inv (x : ℤ) _ hc hinv
  rw [List.forall₂_map_right_iff, List.forall₂_same]
  intro qd _
  rw [digitA_emod, Int.natCast_mod, Int.emod_emod_of_dvd _ (dvd_refl _)]

/-- **reduced NTT of an unreduced row** (every `N = 2^K`, entries `< M`, `M + 4q ≤ 2^64`) = NTT of the row mod `q` -/
theorem nttStd_unreduced {T : NTT.Tables} {K : Nat} (hT : NTT.Valid T K) (M : Nat)
    (hM : M + 4 * T.q ≤ W) (a : List Nat) (ha : ∀ x ∈ a, x < M) :
    NTT.nttStd T a = NTT.nttStd T (a.map (· % T.q)) :=
  Decomp.nttStd_unreduced hT M hM a ha

/-- ranges of the HPS branch for EVERY value of the IEEE index: limbs `< (k+2)·m` -/
theorem decompose_multi_lt (Q P : List Nat) (hasP : Bool) (levelQ levelP nbPi d : Nat) (hnb : 0 < nbPi)
    (hst : d * nbPi ≤ levelQ) (hlQ : levelQ < Q.length)
    (hcnt : 2 ≤ min (d * nbPi + nbPi) (levelQ + 1) - d * nbPi)
    (hC : Chain (dasGrp Q levelQ nbPi d)) (k : Nat) (hk : (dasGrp Q levelQ nbPi d).sum ≤ k * W)
    (hTQ : Target Q (k + 1)) (hTP : Target P (k + 1)) (hlP : levelP + 1 ≤ nbPi) (hnP : nbPi ≤ P.length)
    (p0Q prevQ : Rows) (X : List Nat)
    (hrows : ∀ i, d * nbPi ≤ i → i < min (d * nbPi + nbPi) (levelQ + 1) →
      row p0Q i = X.map (· % Q.getD i 0))
    (outQ outP : Rows) (hout : decomposeAndSplit Q P hasP levelQ levelP nbPi d p0Q prevQ = some (outQ, outP)) :
    (∀ j, j ≤ levelQ → (j < d * nbPi ∨ min (d * nbPi + nbPi) (levelQ + 1) ≤ j) →
        ∀ y ∈ row outQ j, y < (k + 2) * Q.getD j 0)
    ∧ (∀ j, j ≤ levelP → ∀ y ∈ row outP j, y < (k + 2) * P.getD j 0) :=
  Decomp.decompose_multi_lt Q P hasP levelQ levelP nbPi d hnb hst hlQ hcnt hC k hk hTQ hTP hlP hnP p0Q prevQ X
    hrows outQ outP hout

/-- **`DecomposeNTT` succeeds** when `DecomposeAndSplit` does for every digit, and digit `d` is `dnOut` of that output
(`dnInv`/`dnNtt`: the coefficient-domain / NTT-domain form of the input `c2`). -/
theorem decomposeNTT_some (TQ TP : Tabs) (Q P : List Nat) (levelQ levelP nbPi size : Nat) (isNTT : Bool)
    (c2 : Rows) (A B : Nat → Rows)
    (h : ∀ d, d < size → decomposeAndSplit Q P true levelQ levelP nbPi d (dnInv TQ levelQ isNTT c2)
        ((List.range (levelQ + 1)).map fun _ => []) = some (A d, B d)) :
    decomposeNTT TQ TP Q P levelQ levelP nbPi size isNTT c2
      = some ((List.range size).map fun d =>
          dnOut TQ TP levelQ levelP nbPi d (dnNtt TQ levelQ isNTT c2) (A d) (B d)) :=
  Decomp.decomposeNTT_some TQ TP Q P levelQ levelP nbPi size isNTT c2 A B h

/-- **rows of a digit of `DecomposeNTT`** (every `N = 2^K`): inside the digit's own moduli the NTT-domain input row; elsewhere
the reduced forward NTT of `limb mod q` of the (unreduced, `< M q`) limbs `DecomposeAndSplit` wrote. -/
theorem decomposeNTT_rows (TQ TP : Tabs) (Q P : List Nat) (levelQ levelP nbPi d K : Nat)
    (ntt a b : Rows)
    (hTQ : ∀ i, i ≤ levelQ → NTT.Valid (tab TQ i) K ∧ (tab TQ i).q = Q.getD i 0)
    (hTP : ∀ j, j ≤ levelP → NTT.Valid (tab TP j) K ∧ (tab TP j).q = P.getD j 0)
    (M : Nat → Nat)
    (ha : ∀ x, x ≤ levelQ → ¬ (d * nbPi ≤ x ∧ x < d * nbPi + nbPi) →
      M (Q.getD x 0) + 4 * Q.getD x 0 ≤ W ∧ ∀ y ∈ row a x, y < M (Q.getD x 0))
    (hb : ∀ j, j ≤ levelP → M (P.getD j 0) + 4 * P.getD j 0 ≤ W ∧ ∀ y ∈ row b j, y < M (P.getD j 0)) :
    (∀ x, x ≤ levelQ → row (dnOut TQ TP levelQ levelP nbPi d ntt a b).1 x =
        if d * nbPi ≤ x ∧ x < d * nbPi + nbPi then row ntt x
        else NTT.nttStd (tab TQ x) ((row a x).map (· % Q.getD x 0)))
    ∧ (∀ j, j ≤ levelP → row (dnOut TQ TP levelQ levelP nbPi d ntt a b).2 j =
        NTT.nttStd (tab TP j) ((row b j).map (· % P.getD j 0))) := by
  unfold dnOut
  constructor
  · intro x hx
    rw [row_map_range _ _ x (by omega)]
    by_cases hin : d * nbPi ≤ x ∧ x < d * nbPi + nbPi
    · rw [if_pos hin, if_pos hin]
    · rw [if_neg hin, if_neg hin]
      obtain ⟨hv, hq⟩ := hTQ x hx
      obtain ⟨h1, h2⟩ := ha x hx hin
      rw [nttStd_unreduced hv (M (Q.getD x 0)) (by rw [hq]; exact h1) _ h2, hq]
  · intro j hj
    rw [row_map_range _ _ j (by omega)]
    obtain ⟨hv, hq⟩ := hTP j hj
    obtain ⟨h1, h2⟩ := hb j hj
    rw [nttStd_unreduced hv (M (P.getD j 0)) (by rw [hq]; exact h1) _ h2, hq]

-- q = 97, N = 16, a row with entries up to 3q − 1
example : NTT.nttStd (NTT.mkTables 16 97 32 5) ((List.range 16).map (· * 19 + 3))
    = NTT.nttStd (NTT.mkTables 16 97 32 5) (((List.range 16).map (· * 19 + 3)).map (· % 97)) :=
  nttStd_unreduced valid16_97 291 (by decide) ((List.range 16).map (· * 19 + 3)) (by decide)

-- Q = [97, 193, 257, 769], P = [1153, 12289], nbPi = 2: digit 0 = {97, 193} (HPS branch)
example : (0 : Nat) < 2 ∧ 0 * 2 ≤ 3 ∧ 2 ≤ min (0 * 2 + 2) (3 + 1) - 0 * 2
    ∧ dasGrp [97, 193, 257, 769] 3 2 0 = [97, 193] ∧ Chain [97, 193] ∧ [97, 193].sum ≤ 1 * W
    ∧ decompLvl 3 2 0 = 0 :=
  ⟨by decide, by decide, by decide, by decide, chain_97_193, by decide, by decide⟩
-- … and nbPi = 1 (copy branch): decompLvl 3 1 2 = −1
example : decompLvl 3 1 2 < 0 := by decide
-- checked by the kernel: one limb of the copy branch: x ≡ 150 (mod 193) is negative (150 ≥ 96): −43 ≡ 54 (mod 97)
example : splitLimb 193 97 150 = 54 ∧ digitA 193 150 = -43 := by decide
-- EVALUATION, IEEE index included: digit 0 of x = 9361 = ⌊Q_0/2⌋ + 1 (centred value −9360) in basis QP
#guard decomposeAndSplit [97, 193, 257, 769] [1153, 12289] true 3 1 2 0
    ([97, 193, 257, 769].map fun q => [9361 % q]) [[0], [0], [0], [0]]
  = some ([[49], [97], [257 - 9360 % 257], [769 - 9360 % 769]],
          [[1153 - 9360 % 1153], [12289 - 9360]])

end DecompLimb

end Lattigo.Props.C02

#print axioms Lattigo.Props.C02.divFloor_residues
#print axioms Lattigo.Props.C02.divFloor_crt
#print axioms Lattigo.Props.C02.divRound_crt
#print axioms Lattigo.Props.C02.round_half_up
#print axioms Lattigo.Props.C02.divFloorMany_int
#print axioms Lattigo.Props.C02.divRoundMany_int
#print axioms Lattigo.Props.C02.divFloor_limbs
#print axioms Lattigo.Props.C02.divRound_limbs
#print axioms Lattigo.Props.C02.divFloorMany_limbs
#print axioms Lattigo.Props.C02.divRoundMany_limbs
#print axioms Lattigo.Props.C02.roundSeq_eq
#print axioms Lattigo.Props.C02.hps_sum
#print axioms Lattigo.Props.C02.hps_v_is_floor
#print axioms Lattigo.Props.C02.modUp_exact
#print axioms Lattigo.Props.C02.modUp_off_by_one
#print axioms Lattigo.Props.C02.modUp_centered_exact
#print axioms Lattigo.Props.C02.modDown_err
#print axioms Lattigo.Props.C02.modDown_exact
#print axioms Lattigo.Props.C02.extendSmallNorm
#print axioms Lattigo.Props.C02.extendSmallNorm_large_repaired
#print axioms Lattigo.Props.C02.extendSmallNormNTTMontgomery_limb_partial
#print axioms Lattigo.Props.C02.extendSmallNormNTTMontgomery_limb_counterexample
#print axioms Lattigo.Props.C02.pow2_digit_lt
#print axioms Lattigo.Props.C02.pow2_digits_recombine
#print axioms Lattigo.Props.C02.pow2_digits_too_few
#print axioms Lattigo.Props.C02.maskVec_eq
#print axioms Lattigo.Props.C02.rns_digits_recombine
#print axioms Lattigo.Props.C02.decompose_noP_counterexample
#print axioms Lattigo.Props.C02.divFloorNTT_limbs
#print axioms Lattigo.Props.C02.divRoundNTT_limbs
#print axioms Lattigo.Props.C02.divFloorManyNTT_limbs
#print axioms Lattigo.Props.C02.divRoundManyNTT_limbs
#print axioms Lattigo.Props.C02.divFloorNTT_coeffs
#print axioms Lattigo.Props.C02.divFloorNTT_small_ring_repaired
#print axioms Lattigo.Props.C02.ring_generic_twins_std
#print axioms Lattigo.Props.C02.multSum_limb
#print axioms Lattigo.Props.C02.reconstruct_limb
#print axioms Lattigo.Props.C02.modUpExact_limbs
#print axioms Lattigo.Props.C02.modUpExact_limbs_3p
#print axioms Lattigo.Props.C02.modUpExact_exact
#print axioms Lattigo.Props.C02.modUp_limbs
#print axioms Lattigo.Props.C02.modDownQPtoQ_limbs
#print axioms Lattigo.Props.C02.modDownQPtoP_limbs
#print axioms Lattigo.Props.C02.modDownQPtoQNTT_eq
#print axioms Lattigo.Props.C02.decompose_single_limbs
#print axioms Lattigo.Props.C02.decompLvl_eq
#print axioms Lattigo.Props.C02.decompose_multi_limbs
#print axioms Lattigo.Props.C02.decompose_multi_lt
#print axioms Lattigo.Props.C02.nttStd_unreduced
#print axioms Lattigo.Props.C02.decomposeNTT_some
#print axioms Lattigo.Props.C02.decomposeNTT_rows
#print axioms Lattigo.Props.C02.centred_digit
#print axioms Lattigo.Props.C02.copy_digit
#print axioms Lattigo.Props.C02.decompose_digits_recombine
#print axioms Lattigo.Props.C02.decompose_digits_recombine_single
#print axioms Lattigo.Props.C02.fidx_exact_iff
#print axioms Lattigo.Props.C02.fidx_of_approx
#print axioms Lattigo.Props.C02.modDownQPtoQ_err_le_one
#print axioms Lattigo.Props.C02.modDownQPtoQ_exact_of_quarter
#print axioms Lattigo.Props.C02.modUp_within_one_multiple
#print axioms Lattigo.Props.C02.evalModDown_domains
#print axioms Lattigo.Props.C02.evalModDown_noP
#print axioms Lattigo.Props.C02.extendSmallNormNTTMontgomery_limb_contract
