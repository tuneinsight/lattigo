/-
  C03 — decryption inverts encryption with noise inside a two-sided bound.

  WHAT IS PROVED, for all inputs (theorem names in this file unless a file is given):

  1. Identities, for EVERY commutative ring as carrier, every Montgomery pair, every target of degree ≥ 1 (fresh or
     re-used), every flag / metadata combination, about the functions the driver executes (`Model/RLWE.lean`:
     `ezSk`, `ezPk`, `ezPkNoP` = `EncryptZero` per key kind, `addPtToCt`, `encrypt`, `decrypt`, `genPublicKey`):
     `dec_enc_sk` (+ `dec_enc_sk_denote`: the denoted noise is `e` for both values of `IsMontgomery`), `dec_enc_sk_deg0`
     (compressed target + its expansion with the drawn `a`), `wrong_key` + `unit_mul_bijective`, `genPublicKey_noise`,
     `dec_enc_pk_noP`, `dec_enc_pk_P` (abstract `ext`, `down`, `rem` with `P·down x = π x − π(rem x)`), `pk_deg0_panics`,
     `metadata_eq`, `encrypt_indep_transforms`.
  2. On the carrier the driver executes, standard ring (`RQ` with `ci = false`, plain `RPoly` values; hypotheses: odd
     moduli ≥ 2, well-formed inputs): `Props/C03Ring` (`dec_enc_sk_rpoly/_rq`, `wrong_key_*`, `dec_enc_pk_noP_*`,
     `genPublicKey_noise_rpoly`, `driver_dec_enc_sk`: the driver's `handleEnc`/`handleDec` are these functions after level
     truncation) and `Props/C03Stack` (`dec_enc_pk_P_closed`: `ext = RQ.extSmall`, `down = RQ.modDown`, `rem` = centred
     remainder, rounding identity PROVED; `dec_enc_pk_P_noise_closed`: the decryption error is the reduction of an integer
     polynomial `D` with `2P‖D‖∞ ≤ 2‖u·e_pk + e0 + s·e1‖∞ + P(1 + ‖s‖₁)`).
  3. The same shape for the other two key kinds, here: `dec_enc_sk_noise_closed` (error `e^Z`, `‖e^Z‖∞ ≤ B` comes back
     exactly), `dec_enc_pk_noP_noise_closed` (`‖noise‖∞ ≤ B(‖u‖₁ + 1 + ‖s‖₁)`), `dec_enc_pk_noP_noise_declared` (ternary `u`, `s`
     of Hamming weight `H`: `≤ B(n + 1 + H)`), at every level (= every chain `qs`), degree ≥ 1, metadata.
  4. The hypotheses on the sampled integer vectors DISCHARGED from the sampler models of C17 (tied bit for bit to
     `ring/sampler_*.go`): `dec_enc_sk_gauss_sampled` (error = what `gaussReadPlain` returns for ANY byte stream: noise
     `≤ round(bound)`), `sparse_secret_sampled` (`ternSparse` returns `ofInts` of a ternary vector with `‖·‖₁ = min(H, N)`).
  5. The conjugate-invariant carrier (`ci = true`): `dec_enc_sk_ci`, `dec_enc_pk_noP_ci` (via `Proofs/RLWECI.lean`: the
     product `RQ.ciMul` the driver executes is the product of the subring of `WFPoly qs (2n)` fixed by `X ↦ X⁻¹`,
     `RLWECI.emb_ciRowMul`, `foldC_hom`, `exists_foldC`).
  6. The acceptance rule for the distributions as a model function tied to `NewParameters` (`accept` lines):
     `RQ.acceptsBounds`; `RQ.accepted_ext_exact` (accepted ⇒ `extSmall` is exact on every vector within the bounds, every
     level, both ring types), `RQ.extSmall_ofInts`, `RQ.rejected_ext_wrong` (the rule is sharp) — `Proofs/RLWE.lean`.
  7. Norms in `Z[X]/(X^N+1)`: `negacyclic_norm`, `noise_upper_sk`, `noise_upper_pk_noP`, `noise_upper_pk_P`.

  Reading of the flags.  A model value is the stored polynomial pulled back to the coefficient domain with the
  Montgomery factor kept.  `denote M md x` is the polynomial it stands for: `ofM x` iff `md.isMont`.

  The model follows the code of /repo, which carries the repairs /verif/fixes/C03-1 … C03-12.  Without them the
  property is false; the probes that exhibit it stay in the harness and must hold (`dec_enc_noise_upper`,
  `encrypt_total`, `decrypt_degree7`, `pt_value_level`, `declared_std`, `error_limbs_consistent`,
  `unextendable_bound_rejected`, `keygen_reused_receiver`, `component_noise_present`, `decrypt_reused_receiver`).

  NOT proved:
  * public-key encryption WITH P on the conjugate-invariant carrier (`ext`/`down` act coefficientwise and
    `RQ.extSmall_ofInts` covers `ci = true`, but `dec_enc_pk_P_closed` is stated for `ci = false` only) and `wrong_key` /
    `genPublicKey` on `ci = true` (same transport as `dec_enc_sk_ci`, not written out);
  * the Gaussian big-number path and `Ternary{P}` secrets are not composed with item 3 (C17 proves their supports;
    only `gaussReadPlain` small path and `ternSparse` are composed here);
  * distributional statements of the property text (empirical standard deviation within a factor of nominal, two
    encryptions differ, wrong-key distance of the order of Q): labelled statistical probes (`noise_std`, `noise_nonzero`,
    `wrong_key_far`), no probability theory here; `wrong_key` gives the algebraic form `e + a(s' − s)` only;
  * `RPoly.toInts` / centred CRT of the driver is not related to `ZPoly` (the closed statements speak of `ofInts`);
  * evaluation-key components (property text: "every evaluation-key component"): C04; here only the probe family
    `keygen_reused_receiver`.
  Known finding (open): `ShallowCopy` of a `WithPRNG` encryptor draws `c1` from a fresh system PRNG (probe
  `shallowcopy_keeps_prng`, key `C03-shallowcopy-drops-prng`); ciphertexts stay valid under the key.
-/
import Lattigo.Proofs.RLWE
import Lattigo.Proofs.RLWENorm
import Lattigo.Props.C03Ring
import Lattigo.Props.C03Stack
import Lattigo.Props.C17
import Lattigo.Proofs.RLWECI
import Mathlib.Data.ZMod.Basic

namespace Lattigo.Props.C03
open Lattigo Lattigo.RLWE

variable {α : Type} [CommRing α] {μ : Type}

/-- Every target of degree ≥ 1 (fresh or re-used: `o0, o1, rest` arbitrary), every flag
    combination, every plaintext: `Decrypt(Encrypt(pt))` has the plaintext's metadata and the stored value
    `pt.value + e'`, `e' = e` resp. `MForm(e)` when the plaintext is flagged Montgomery — the fresh noise IS the
    sampled error. -/
theorem dec_enc_sk {M : Mont α} {R Rinv : α} (h : IsMont M R Rinv)
    (ntt intt : α → α) (pt : Pt α μ) (ct : Ct α μ) (o0 o1 : α) (rest : List α)
    (hct : ct.value = o0 :: o1 :: rest) (a e s : α) :
    (encrypt (ezSk M a e (M.toM s)) ntt intt (some pt) ct).bind (fun ct' => decrypt M ct' (M.toM s))
      = some { value := pt.value + montIf M pt.md.isMont e, md := pt.md } :=
  dec_enc_sk_gen h ntt intt pt ct o0 o1 rest hct a e s

example : IsMont (⟨(· * 2), (· * 4)⟩ : Mont (ZMod 7)) 2 4 := ⟨by decide, fun _ => rfl, fun _ => rfl⟩

/-- **Montgomery flag.** In terms of denoted polynomials the fresh noise is `e` for BOTH values of the flag. -/
theorem dec_enc_sk_denote {M : Mont α} {R Rinv : α} (h : IsMont M R Rinv) (pt : Pt α μ) (e : α) :
    denote M pt.md (pt.value + montIf M pt.md.isMont e) = denote M pt.md pt.value + e := by
  rw [denote_add h, denote_montIf h]

/-- two instances computed by the model: a degree-2 target over `Z` (a = s = 1, e = 0, m = 0), and a re-used
    degree-1 target over `Z/7` with `R = 2` and the Montgomery flag set (a = 3, s = 1, e = 1: denoted noise 1) -/
example : (encrypt (μ := Unit) (ezSk (⟨id, id⟩ : Mont Int) 1 0 1) id id
      (some ⟨0, ⟨(), false, false⟩⟩) ⟨[0, 0, 0], ⟨(), false, false⟩⟩).bind
    (fun ct' => decrypt ⟨id, id⟩ ct' 1) = some ⟨0, ⟨(), false, false⟩⟩ := by decide

example : (encrypt (μ := Unit) (ezSk (⟨(· * 2), (· * 4)⟩ : Mont (ZMod 7)) 3 1 (1 * 2)) id id
      (some ⟨0, ⟨(), true, true⟩⟩) ⟨[5, 6], ⟨(), false, false⟩⟩).bind
    (fun ct' => decrypt ⟨(· * 2), (· * 4)⟩ ct' (1 * 2)) = some ⟨2, ⟨(), true, true⟩⟩
    ∧ denote (⟨(· * 2), (· * 4)⟩ : Mont (ZMod 7)) (⟨(), true, true⟩ : MetaData Unit) 2 = 1 := by decide

/-- **degree-0 target** (compressed ciphertext, `c1` re-expanded from the PRNG by the receiver):
    the stored `c0` together with the drawn `a` decrypts to `m + e'`. -/
theorem dec_enc_sk_deg0 {M : Mont α} {R Rinv : α} (h : IsMont M R Rinv)
    (ntt intt : α → α) (pt : Pt α μ) (ct : Ct α μ) (o0 : α) (hct : ct.value = [o0]) (a e s : α) :
    ∃ c0, encrypt (ezSk M a e (M.toM s)) ntt intt (some pt) ct = some { value := [c0], md := pt.md } ∧
      decrypt M ({ value := [c0, a], md := pt.md } : Ct α μ) (M.toM s)
        = some { value := pt.value + montIf M pt.md.isMont e, md := pt.md } := by
  have hz := ezSk_deg0 h pt.md o0 a e s
  rw [← hct] at hz
  refine ⟨-(a * s) + montIf M pt.md.isMont e + pt.value, encrypt_value _ ntt intt pt ct _ _ hz, ?_⟩
  rw [decrypt_eq h s _ (by simp)]
  simp only [phase_encSk]

/-- Decrypting a fresh sk-ciphertext with another key `s'`: the distance to the plaintext is
    `e' + a·(s' − s)`; `a` is the uniform draw, so for `s' − s` a unit this is a uniform element shifted by `e'`
    (`unit_mul_bijective`). -/
theorem wrong_key {M : Mont α} {R Rinv : α} (h : IsMont M R Rinv)
    (ntt intt : α → α) (pt : Pt α μ) (ct : Ct α μ) (o0 o1 : α) (rest : List α)
    (hct : ct.value = o0 :: o1 :: rest) (a e s s' : α) :
    ∃ out, (encrypt (ezSk M a e (M.toM s)) ntt intt (some pt) ct).bind (fun ct' => decrypt M ct' (M.toM s'))
        = some out ∧ out.value - pt.value = montIf M pt.md.isMont e + a * (s' - s) ∧ out.md = pt.md :=
  wrong_key_gen h ntt intt pt ct o0 o1 rest hct a e s s'

theorem unit_mul_bijective (d : α) (dinv : α) (hd : d * dinv = 1) : Function.Bijective (fun a : α => a * d) := by
  constructor
  · intro x y hxy
    have := congrArg (· * dinv) hxy
    simpa [mul_assoc, hd] using this
  · intro y
    exact ⟨y * dinv, by simp [mul_assoc, mul_comm dinv d, hd]⟩

set_option linter.unusedSectionVars false in  -- `α` carries only the error `e`; its ring structure is not used
/-- The generated key satisfies `pk0 + pk1·s = e` after stripping the Montgomery factor. -/
theorem genPublicKey_noise {β : Type} [CommRing β] {M : Mont β} {R Rinv : β} (h : IsMont M R Rinv)
    (ext : α → β) (a : β) (e : α) (s : β) :
    let pk := genPublicKey M ext a e (M.toM s)
    M.ofM pk.1 + M.ofM pk.2 * s = ext e := genPublicKey_relation h ext a e s

/-- No auxiliary modulus, every target of degree ≥ 1 (fresh or re-used), every flag
    combination: stored result `m + N` resp. `m + MForm(N)`, `N = u·e_pk + e0 + e1·s`, where `pk0 + pk1·s = e_pk`;
    denoted noise `N` for both values of the Montgomery flag (`dec_enc_pk_denote`). -/
theorem dec_enc_pk_noP {M : Mont α} {R Rinv : α} (h : IsMont M R Rinv)
    (ntt intt : α → α) (pt : Pt α μ) (ct : Ct α μ) (o0 o1 : α) (rest : List α)
    (hct : ct.value = o0 :: o1 :: rest) (u e0 e1 pk0 pk1 epk s : α) (hpk : pk0 + pk1 * s = epk) :
    (encrypt (ezPkNoP M u e0 e1 (M.toM pk0) (M.toM pk1)) ntt intt (some pt) ct).bind
        (fun ct' => decrypt M ct' (M.toM s))
      = some { value := pt.value + montIf M pt.md.isMont (u * epk + e0 + e1 * s), md := pt.md } :=
  dec_enc_pk_noP_gen h ntt intt pt ct o0 o1 rest hct u e0 e1 pk0 pk1 epk s hpk

theorem dec_enc_pk_denote {M : Mont α} {R Rinv : α} (h : IsMont M R Rinv) (pt : Pt α μ) (N : α) :
    denote M pt.md (pt.value + montIf M pt.md.isMont N) = denote M pt.md pt.value + N :=
  dec_enc_sk_denote h pt N

/-- Auxiliary modulus present (the code uses its first prime only), every target of
    degree ≥ 1.  `π : R_{QP} → R_Q`, `ext` = `ExtendBasisSmallNormAndCenter`, `down` the rounded division with
    `P·down x = π x − π(rem x)` (`rem x` the centred residue mod P).  The stored result is `m + D` resp.
    `m + MForm(D)` (denoted noise `D` either way, `dec_enc_pk_denote`), and
    `P·D = π(u·e_pk + e0 + e1·s) − π(rem c0) − π(rem c1)·s`. -/
theorem dec_enc_pk_P {β : Type} [CommRing β] {MQ : Mont α} {R Rinv : α} (h : IsMont MQ R Rinv)
    {MQP : Mont β} {R' Rinv' : β} (h' : IsMont MQP R' Rinv')
    (π : β →+* α) (ext : α → β) (P : α) (down : β → α) (rem : β → β)
    (hdown : ∀ x, P * down x = π x - π (rem x))
    (ntt intt : α → α) (pt : Pt α μ) (ct : Ct α μ) (o0 o1 : α) (rest : List α)
    (hct : ct.value = o0 :: o1 :: rest)
    (u e0 e1 : α) (pk0 pk1 epk sQP : β) (hpk : pk0 + pk1 * sQP = epk) :
    let c0 := ext u * pk0 + ext e0
    let c1 := ext u * pk1 + ext e1
    let D := down c0 + π sQP * down c1
    (encrypt (ezPk MQ MQP ext down u e0 e1 (MQP.toM pk0) (MQP.toM pk1)) ntt intt (some pt) ct).bind
        (fun ct' => decrypt MQ ct' (MQ.toM (π sQP)))
      = some { value := pt.value + montIf MQ pt.md.isMont D, md := pt.md }
    ∧ P * D = π (ext u * epk + ext e0 + ext e1 * sQP) - π (rem c0) - π (rem c1) * π sQP :=
  ⟨dec_enc_pk_P_gen h ntt intt pt ct o0 o1 rest hct h' ext down u e0 e1 (π sQP) pk0 pk1,
    pk_P_noise π P down rem hdown (ext u) (ext e0) (ext e1) pk0 pk1 sQP epk hpk⟩

/-- non-vacuity of the rounding hypothesis: the integers, `P = 5`, rounded division, centred residue -/
example : ∀ x : Int, (5 : Int) * ((x + 2) / 5) = (RingHom.id Int) x - (RingHom.id Int) (x - 5 * ((x + 2) / 5)) := by
  intro x; simp

/-- **degree 0 under a public key**: there is no room for `c1`; the Go code indexes `ct.Value[1]` and panics
    (no error value).  Both variants. -/
theorem pk_deg0_panics {β : Type} [CommRing β] (MQ : Mont α) (MQP : Mont β) (ext : α → β) (down : β → α)
    (md : MetaData μ) (o0 : α) (u e0 e1 : α) (pk0M pk1M : β) (qk0M qk1M : α) :
    ezPk MQ MQP ext down u e0 e1 pk0M pk1M md [o0] = none ∧
    ezPkNoP MQ u e0 e1 qk0M qk1M md [o0] = none :=
  ⟨rfl, rfl⟩

/-- Whatever `EncryptZero` variant is used, if `Encrypt` then `Decrypt` succeed, the output
    metadata (plaintext part and both flags) is the plaintext's. -/
theorem metadata_eq (M : Mont α) (ez : MetaData μ → List α → Option (List α)) (ntt intt : α → α)
    (pt out : Pt α μ) (ct ct' : Ct α μ) (sM : α)
    (he : encrypt ez ntt intt (some pt) ct = some ct') (hd : decrypt M ct' sM = some out) :
    out.md = pt.md := by
  rw [decrypt_md M ct' sM out hd, encrypt_md ez ntt intt pt ct ct' he]

example : ∃ (pt out : Pt Int Unit) (ct ct' : Ct Int Unit),
    encrypt (ezSk ⟨id, id⟩ 1 0 1) id id (some pt) ct = some ct' ∧
    decrypt ⟨id, id⟩ ct' 1 = some out :=
  ⟨⟨5, ⟨(), true, false⟩⟩, ⟨5, ⟨(), true, false⟩⟩, ⟨[0, 0], ⟨(), false, false⟩⟩, ⟨[4, 1], ⟨(), true, false⟩⟩,
    by decide, by decide⟩

/-- `Encrypt` never takes the mixed branches of `addPtToCt` (the result is independent of the transforms). -/
theorem encrypt_indep_transforms (ez : MetaData μ → List α → Option (List α)) (ntt intt : α → α)
    (pt : Option (Pt α μ)) (ct : Ct α μ) : encrypt ez ntt intt pt ct = encrypt ez id id pt ct :=
  encrypt_flags_agree ez ntt intt id id pt ct

open Lattigo.ZPoly in
/-- **‖a·b‖∞ ≤ ‖a‖₁·‖b‖∞** in `Z[X]/(X^N+1)` (every N, every pair of coefficient lists). -/
theorem negacyclic_norm (a b : List Int) : normInf (mul a b) ≤ norm1 a * normInf b := normInf_mul_le a b

open Lattigo.ZPoly in
/-- Upper bound, secret key: the fresh noise is `e` (`dec_enc_sk`), so `‖noise‖∞ ≤ B_e` is the bound on the drawn error
    itself: the statement is the identity on that hypothesis (it holds the place of the sk case beside the two below). -/
theorem noise_upper_sk (e : List Int) (B : Nat) (he : normInf e ≤ B) : normInf e ≤ B := he

open Lattigo.ZPoly in
/-- Upper bound, public key without P: `‖u·e_pk + e0 + s·e1‖∞ ≤ B_e·(‖u‖₁ + 1 + ‖s‖₁)`. -/
theorem noise_upper_pk_noP (u epk e0 e1 s : List Int) (B : Nat)
    (hpk : normInf epk ≤ B) (h0 : normInf e0 ≤ B) (h1 : normInf e1 ≤ B) :
    normInf (add (add (mul u epk) e0) (mul s e1)) ≤ B * (norm1 u + 1 + norm1 s) :=
  ZPoly.noise_upper_pk_noP u epk e0 e1 s B hpk h0 h1

open Lattigo.ZPoly in
/-- Upper bound, public key with P: from `P·n = E − δ0 − s·δ1` (`dec_enc_pk_P`) and `2|δ| ≤ P`:
    `2P‖n‖∞ ≤ 2‖E‖∞ + P(1 + ‖s‖₁)`, with `‖E‖∞` bounded by `noise_upper_pk_noP`. -/
theorem noise_upper_pk_P (P : Nat) (n E d0 d1 s : List Int)
    (hrel : smul P n = sub (sub E d0) (mul s d1))
    (hd0 : 2 * normInf d0 ≤ P) (hd1 : 2 * normInf d1 ≤ P) :
    2 * (P * normInf n) ≤ 2 * normInf E + P * (1 + norm1 s) :=
  ZPoly.noise_upper_pk_P P n E d0 d1 s hrel hd0 hd1

open Lattigo.ZPoly in
/-- non-vacuity (and a sanity test of the product): N = 2, `(1 + 2X)(3 + 4X) = 3 + 10X + 8X² = −5 + 10X` -/
example : mul [1, 2] [3, 4] = [-5, 10] ∧ normInf (mul [1, 2] [3, 4]) ≤ norm1 [1, 2] * normInf [3, 4] := by decide

open Lattigo.ZPoly in
example : smul (5 : Nat) [1, -1] = sub (sub [7, -4] [2, 1]) (mul [1, 0] [0, 0]) ∧ 2 * normInf [2, 1] ≤ 5 := by decide

/-- test (not a theorem about all inputs): the integer product reduces to `RPoly.rowMul` modulo 97 on a sample -/
example : (ZPoly.mul [1, 2, 3, 4] [5, 6, 7, 96]).map (fun x => (x % 97).toNat)
    = RPoly.rowMul 97 [1, 2, 3, 4] [5, 6, 7, 96] := by decide

/-! ## the two-sided statement, closed on the carrier the driver executes

  `Props/C03Ring` transports the identities to `RPoly` values, `Props/C03Stack` closes the public-key-with-P case
  down to an integer noise polynomial.  Here the remaining two cases get the same shape: the sampled values are
  reductions (`RPoly.ofInts`) of INTEGER polynomials, as the samplers produce them, and the conclusion is
  "decryption returns `pt + ofInts(noise^Z)` (Montgomery form iff flagged) and `‖noise^Z‖∞ ≤` explicit bound",
  for every chain `qs` (= every level), every target of degree ≥ 1, every metadata / flag combination. -/

section closed
open Lattigo.ZPoly Lattigo.Transport Lattigo.RPolyRing Lattigo.StackKS
variable {qs : List ℕ} {n : ℕ} [Good qs n]

/-- Secret-key encryption: the error polynomial `e^Z` drawn from a distribution bounded by
    `B` (`‖e^Z‖∞ ≤ B`: truncated Gaussian ⇒ `B = ⌊bound⌉`, ternary ⇒ `B = 1`) comes back as the decryption error, exactly:
    `Decrypt(Encrypt(pt)).value = pt.value + [MForm] ofInts(e^Z)`, metadata of `pt`. -/
theorem dec_enc_sk_noise_closed (hodd : ∀ q ∈ qs, q % 2 = 1) (ntt intt : RPoly → RPoly) (pt : Pt RPoly μ)
    (ct : Ct RPoly μ) (o0 o1 : RPoly) (rest : List RPoly) (hct : ct.value = o0 :: o1 :: rest)
    (a s : RPoly) (eZ : List ℤ) (B : ℕ) (hel : eZ.length = n) (hB : normInf eZ ≤ B)
    (hpt : WFq qs n pt.value) (hctwf : ∀ p ∈ ct.value, WFq qs n p) (ha : WFq qs n a) (hs : WFq qs n s) :
    ∃ noiseZ : List ℤ, noiseZ.length = n ∧ normInf noiseZ ≤ B ∧
      (encrypt (ezSk rpMont a (RPoly.ofInts qs eZ) (rpMont.toM s)) ntt intt (some pt) ct).bind
          (fun ct' => decrypt rpMont ct' (rpMont.toM s))
        = some { value := pt.value + montIf rpMont pt.md.isMont (RPoly.ofInts qs noiseZ), md := pt.md } :=
  ⟨eZ, hel, hB, C03Ring.dec_enc_sk_rpoly hodd ntt intt pt ct o0 o1 rest hct a _ s hpt hctwf ha (ofInts_wf _ hel) hs⟩

/-- Public key without auxiliary modulus, everything the samplers draw given as integer
    polynomials: ephemeral secret `u^Z`, errors `e0^Z, e1^Z`, key error `e_pk^Z` (all errors bounded by `B`), secret `s^Z`;
    `pk = (e_pk − pk1·s, pk1)` for ANY `pk1`.  The decryption error is the reduction of the integer polynomial
    `u·e_pk + e0 + s·e1` and `‖·‖∞ ≤ B·(‖u‖₁ + 1 + ‖s‖₁)`. -/
theorem dec_enc_pk_noP_noise_closed (hodd : ∀ q ∈ qs, q % 2 = 1) (ntt intt : RPoly → RPoly) (pt : Pt RPoly μ)
    (ct : Ct RPoly μ) (o0 o1 : RPoly) (rest : List RPoly) (hct : ct.value = o0 :: o1 :: rest)
    (uZ e0Z e1Z epkZ sZ : List ℤ) (pk1 : RPoly) (B : ℕ)
    (hul : uZ.length = n) (he0l : e0Z.length = n) (he1l : e1Z.length = n) (hepkl : epkZ.length = n)
    (hsl : sZ.length = n) (hBpk : normInf epkZ ≤ B) (hB0 : normInf e0Z ≤ B) (hB1 : normInf e1Z ≤ B)
    (hpt : WFq qs n pt.value) (hctwf : ∀ p ∈ ct.value, WFq qs n p) (hpk1 : WFq qs n pk1) :
    let s := RPoly.ofInts qs sZ
    let pk0 := RPoly.ofInts qs epkZ - pk1 * s
    ∃ noiseZ : List ℤ, noiseZ.length = n ∧ normInf noiseZ ≤ B * (norm1 uZ + 1 + norm1 sZ) ∧
      (encrypt (ezPkNoP rpMont (RPoly.ofInts qs uZ) (RPoly.ofInts qs e0Z) (RPoly.ofInts qs e1Z)
            (rpMont.toM pk0) (rpMont.toM pk1)) ntt intt (some pt) ct).bind
          (fun ct' => decrypt rpMont ct' (rpMont.toM s))
        = some { value := pt.value + montIf rpMont pt.md.isMont (RPoly.ofInts qs noiseZ), md := pt.md } := by
  intro s pk0
  have hu : WFq qs n (RPoly.ofInts qs uZ) := ofInts_wf _ hul
  have he0 : WFq qs n (RPoly.ofInts qs e0Z) := ofInts_wf _ he0l
  have he1 : WFq qs n (RPoly.ofInts qs e1Z) := ofInts_wf _ he1l
  have hepk : WFq qs n (RPoly.ofInts qs epkZ) := ofInts_wf _ hepkl
  have hs : WFq qs n s := ofInts_wf _ hsl
  have hpk0 : WFq qs n pk0 := hepk.sub (hpk1.mul hs)
  have hpk : pk0 + pk1 * s = RPoly.ofInts qs epkZ := C03Stack.sub_mul_add_cancel hepk hpk1 hs
  have hm1 : (ZPoly.mul uZ epkZ).length = n := by rw [mul_length, hul]
  have hm2 : (ZPoly.mul sZ e1Z).length = n := by rw [mul_length, hsl]
  refine ⟨ZPoly.add (ZPoly.add (ZPoly.mul uZ epkZ) e0Z) (ZPoly.mul sZ e1Z),
    add_length _ _ (add_length _ _ hm1 he0l) hm2, ZPoly.noise_upper_pk_noP uZ epkZ e0Z e1Z sZ B hBpk hB0 hB1, ?_⟩
  rw [C03Ring.dec_enc_pk_noP_rpoly hodd ntt intt pt ct o0 o1 rest hct _ _ _ pk0 pk1 _ s hpk hpt hctwf hu he0 he1
    hpk0 hpk1 hs]
  rw [C03Stack.noise_order hu hepk he0 he1 hs, ofInts_add _ _ (add_length _ _ hm1 he0l) hm2, ofInts_add _ _ hm1 he0l,
    ofInts_mul _ _ hul hepkl, ofInts_mul _ _ hsl he1l]

/-- **with the declared distributions**: ternary ephemeral secret and ternary secret of Hamming weights `hu`, `H`
    (`‖·‖₁` IS the Hamming weight, `ZPoly.norm1_ternary`), errors bounded by `B`: the fresh public-key noise is at most
    `B·(hu + 1 + H) ≤ B·(n + 1 + H)` in every coefficient. -/
theorem dec_enc_pk_noP_noise_declared (hodd : ∀ q ∈ qs, q % 2 = 1) (ntt intt : RPoly → RPoly) (pt : Pt RPoly μ)
    (ct : Ct RPoly μ) (o0 o1 : RPoly) (rest : List RPoly) (hct : ct.value = o0 :: o1 :: rest)
    (uZ e0Z e1Z epkZ sZ : List ℤ) (pk1 : RPoly) (B H : ℕ)
    (hul : uZ.length = n) (he0l : e0Z.length = n) (he1l : e1Z.length = n) (hepkl : epkZ.length = n)
    (hsl : sZ.length = n) (hBpk : normInf epkZ ≤ B) (hB0 : normInf e0Z ≤ B) (hB1 : normInf e1Z ≤ B)
    (hut : Ternary uZ) (hst : Ternary sZ) (hH : hamming sZ = H)
    (hpt : WFq qs n pt.value) (hctwf : ∀ p ∈ ct.value, WFq qs n p) (hpk1 : WFq qs n pk1) :
    let s := RPoly.ofInts qs sZ
    let pk0 := RPoly.ofInts qs epkZ - pk1 * s
    ∃ noiseZ : List ℤ, noiseZ.length = n ∧ normInf noiseZ ≤ B * (n + 1 + H) ∧
      (encrypt (ezPkNoP rpMont (RPoly.ofInts qs uZ) (RPoly.ofInts qs e0Z) (RPoly.ofInts qs e1Z)
            (rpMont.toM pk0) (rpMont.toM pk1)) ntt intt (some pt) ct).bind
          (fun ct' => decrypt rpMont ct' (rpMont.toM s))
        = some { value := pt.value + montIf rpMont pt.md.isMont (RPoly.ofInts qs noiseZ), md := pt.md } := by
  intro s pk0
  obtain ⟨nz, hl, hb, heq⟩ := dec_enc_pk_noP_noise_closed hodd ntt intt pt ct o0 o1 rest hct uZ e0Z e1Z epkZ sZ pk1 B
    hul he0l he1l hepkl hsl hBpk hB0 hB1 hpt hctwf hpk1
  refine ⟨nz, hl, Nat.le_trans hb (Nat.mul_le_mul_left _ ?_), heq⟩
  rw [norm1_ternary uZ hut, norm1_ternary sZ hst, hH]
  have := hamming_le_length uZ
  omega

end closed

/-! ## the sampled values: hypotheses of the closed statements DISCHARGED from the sampler model (C17)

  `‖e^Z‖∞ ≤ B` and "ternary of Hamming weight H" above are hypotheses on integer vectors.  The sampler models of C17
  (`Sampler.gaussReadPlain`, `Sampler.ternSparse`, tied bit for bit to `ring/sampler_*.go`) are PROVED to write, on every
  level view, the reduced residues of ONE such integer vector (`C17.rns_consistent_gauss`, `C17.sparse_weight`).  The
  rows they return ARE `RPoly.ofInts` of it, so: -/

section sampled
open Lattigo.ZPoly Lattigo.Transport Lattigo.RPolyRing Lattigo.Sampler

theorem rows_eq_ofInts (qs : List ℕ) (r : List (List ℕ)) (x : List ℤ)
    (h : ∀ i, i < qs.length → r[i]? = some (x.map (resOf (qs.getD i 0)))) :
    (⟨qs, r.take qs.length⟩ : RPoly) = RPoly.ofInts qs x := by
  unfold RPoly.ofInts
  congr 1
  apply List.ext_getElem?
  intro i
  rw [List.getElem?_take, List.getElem?_map]
  by_cases hi : i < qs.length
  · rw [if_pos hi, h i hi, List.getElem?_eq_getElem hi, Option.map_some]
    have : qs.getD i 0 = qs[i] := by simp [List.getD_eq_getElem?_getD, hi]
    rw [this]
    rfl
  · rw [if_neg hi, List.getElem?_eq_none (by omega)]
    rfl

variable {qs : List ℕ} {n : ℕ} [Good qs n]

/-- Secret-key encryption with the error polynomial the Gaussian sampler model returns
    (`Read` on the level view `qs`, small-norm path, ANY PRNG byte stream, buffer state, `sigma`, `bound`): decryption
    returns `pt + [MForm] ofInts(noise^Z)` with `‖noise^Z‖∞ ≤ round(bound)` — no hypothesis on the error left. -/
theorem dec_enc_sk_gauss_sampled (hodd : ∀ q ∈ qs, q % 2 = 1) (hW : ∀ q ∈ qs, q < W)
    (orc : Slow) (fuel sigma bound : ℕ) (pol r : Poly) (st st' : Bytes) (b b' : Buf) (slow : Bool)
    (hb : BufInv b) (hpath : isBigPath sigma bound = false) (hrows : ∀ row ∈ pol, row.length = n)
    (hread : gaussReadPlain orc fuel .read sigma bound n qs pol st b = .ok (r, slow, st', b'))
    (ntt intt : RPoly → RPoly) (pt : Pt RPoly μ) (ct : Ct RPoly μ) (o0 o1 : RPoly) (rest : List RPoly)
    (hct : ct.value = o0 :: o1 :: rest) (a s : RPoly)
    (hpt : WFq qs n pt.value) (hctwf : ∀ p ∈ ct.value, WFq qs n p) (ha : WFq qs n a) (hs : WFq qs n s) :
    ∃ noiseZ : List ℤ, noiseZ.length = n ∧ normInf noiseZ ≤ roundBound bound ∧
      (encrypt (ezSk rpMont a ⟨qs, r.take qs.length⟩ (rpMont.toM s)) ntt intt (some pt) ct).bind
          (fun ct' => decrypt rpMont ct' (rpMont.toM s))
        = some { value := pt.value + montIf rpMont pt.md.isMont (RPoly.ofInts qs noiseZ), md := pt.md } := by
  have hq : ∀ q ∈ qs, 0 < q ∧ q < W := fun q hq => ⟨by have := Good.q_ge (qs := qs) (n := n) q hq; omega, hW q hq⟩
  obtain ⟨x, hxl, hxb, hxr⟩ := C17.rns_consistent_gauss orc fuel sigma bound n qs pol r st st' b b' slow hb hpath hq hrows hread
  rw [rows_eq_ofInts qs r x hxr]
  exact dec_enc_sk_noise_closed hodd ntt intt pt ct o0 o1 rest hct a s x (roundBound bound) hxl
    (normInf_le_iff.mpr hxb) hpt hctwf ha hs

/-- **secret of the declared Hamming weight**: what `ternSparse` (Xs = Ternary{H: hw}) returns is `ofInts` of a ternary
    vector with `‖·‖₁ = min(hw, N)` — the `Ternary s^Z`, `hamming s^Z = H` hypotheses of `dec_enc_pk_noP_noise_declared`. -/
theorem sparse_secret_sampled (hW : ∀ q ∈ qs, q < W) (fuel hw : ℕ) (pol r : Poly) (st st' : Bytes)
    (hrows : ∀ row ∈ pol, row.length = n) (h : ternSparse fuel .read false hw n qs pol st = .ok (r, st')) :
    ∃ sZ : List ℤ, sZ.length = n ∧ Ternary sZ ∧ hamming sZ = min hw n ∧ norm1 sZ = min hw n
      ∧ (⟨qs, r.take qs.length⟩ : RPoly) = RPoly.ofInts qs sZ := by
  have hq : ∀ q ∈ qs, 2 ≤ q ∧ q < W := fun q hq => ⟨Good.q_ge (qs := qs) (n := n) q hq, hW q hq⟩
  obtain ⟨x, hxl, hsup, hw', hxr⟩ := C17.sparse_weight fuel hw n qs pol r st st' hq hrows h
  have hham : hamming x = min hw n := by
    rw [← hw', hamming, List.countP_eq_length_filter]
  exact ⟨x, hxl, hsup, hham, by rw [norm1_ternary x hsup, hham], rows_eq_ofInts qs r x hxr⟩

/-- non-vacuity of `dec_enc_sk_gauss_sampled`: the C17 example run (σ = 3, bound = 18, N = 2, moduli 257 and 769, 1024 PRNG
    bytes) drew `e^Z = (−3, 0)`; all hypotheses hold and the theorem applies to a re-used degree-1 target. -/
example : ∃ noiseZ : List ℤ, noiseZ.length = 2 ∧ normInf noiseZ ≤ 18 ∧
    (encrypt (ezSk rpMont ⟨[257, 769], [[5, 6], [7, 8]]⟩ ⟨[257, 769], [[254, 0], [766, 0]]⟩
          (rpMont.toM ⟨[257, 769], [[1, 256], [1, 768]]⟩)) id id
        (some (⟨⟨[257, 769], [[10, 20], [10, 20]]⟩, ⟨(), true, true⟩⟩ : Pt RPoly Unit))
        ⟨[⟨[257, 769], [[1, 2], [3, 4]]⟩, ⟨[257, 769], [[0, 0], [0, 0]]⟩], ⟨(), false, false⟩⟩).bind
      (fun ct' => decrypt rpMont ct' (rpMont.toM ⟨[257, 769], [[1, 256], [1, 768]]⟩))
    = some { value := (⟨[257, 769], [[10, 20], [10, 20]]⟩ : RPoly)
        + montIf rpMont true (RPoly.ofInts [257, 769] noiseZ), md := ⟨(), true, true⟩ } := by
  have : Good [257, 769] 2 := ⟨by decide, by decide⟩
  have hread : gaussReadPlain ⟨fun _ _ => none, fun _ _ _ => false⟩ 10 .read
      (SF.ofBits64 4614388178203810202) (SF.ofBits64 4625816062258262835) 2 [257, 769] [[9, 9], [9, 9]]
      ([0, 0, 0, 0x20] ++ List.replicate 1020 0) Buf.new =
    .ok ([[254, 0], [766, 0]], false, [], { data := [0, 0, 0, 0x20] ++ List.replicate 1020 0, ptr := 16 })
    ∧ isBigPath (SF.ofBits64 4614388178203810202) (SF.ofBits64 4625816062258262835) = false
    ∧ roundBound (SF.ofBits64 4625816062258262835) = 18 := by
    decide +kernel
  have h := dec_enc_sk_gauss_sampled (qs := [257, 769]) (n := 2) (μ := Unit) (by decide) (by decide) _ 10 _ _
    [[9, 9], [9, 9]] _ _ _ _ _ _ BufInv.new hread.2.1 (by decide) hread.1 id id
    ⟨⟨[257, 769], [[10, 20], [10, 20]]⟩, ⟨(), true, true⟩⟩
    ⟨[⟨[257, 769], [[1, 2], [3, 4]]⟩, ⟨[257, 769], [[0, 0], [0, 0]]⟩], ⟨(), false, false⟩⟩ _ _ [] rfl
    ⟨[257, 769], [[5, 6], [7, 8]]⟩ ⟨[257, 769], [[1, 256], [1, 768]]⟩
    (by decide) (by decide) (by decide) (by decide)
  rw [hread.2.2] at h
  exact h

end sampled

/-! ## the conjugate-invariant carrier (`ci = true`: what the driver evaluates for `ring.ConjugateInvariant`)

  `Proofs/RLWECI.lean`: the well-formed conjugate-invariant values are the image, under a map preserving `+ * − neg` and
  the Montgomery pair, of the commutative ring `CI qs n` (the subring of `WFPoly qs (2n)` fixed by `X ↦ X⁻¹`); the product
  `RQ.ciMul` the driver executes (`take n (E a · E b)`) is the product of that ring (`RLWECI.emb_ciRowMul`).  Hence the
  identities hold verbatim on `RQ` values tagged `ci = true`, for odd moduli and well-formed inputs. -/

section ci
open Lattigo.RLWECI Lattigo.Transport Lattigo.RPolyRing Lattigo.Props.C03Ring
variable {qs : List ℕ} {n : ℕ} [Good qs n] [Good qs (2 * n)]

/-- a coefficient matrix read as an element of the conjugate-invariant ring -/
def ciq (p : RPoly) : RQ := ⟨true, p⟩

theorem exists_foldC_mem (l : List RPoly) (h : ∀ p ∈ l, WFq qs n p) :
    ∀ p ∈ l.map ciq, ∃ z : CI qs n, foldC z = p := fun p hp => by
  obtain ⟨x, hx, rfl⟩ := List.mem_map.1 hp
  exact exists_foldC x (h x hx)

/-- `dec_enc_sk` on the conjugate-invariant carrier, as the driver evaluates it: every chain of odd
    moduli, every `n ≥ 1`, every target of degree ≥ 1, every metadata. -/
theorem dec_enc_sk_ci (hodd : ∀ q ∈ qs, q % 2 = 1) (ntt intt : RQ → RQ) (pt : Pt RPoly μ)
    (ct : Ct RPoly μ) (o0 o1 : RPoly) (rest : List RPoly) (hct : ct.value = o0 :: o1 :: rest)
    (a e s : RPoly) (hpt : WFq qs n pt.value) (hctwf : ∀ p ∈ ct.value, WFq qs n p)
    (ha : WFq qs n a) (he : WFq qs n e) (hs : WFq qs n s) :
    (encrypt (ezSk RQ.mont (ciq a) (ciq e) (RQ.mont.toM (ciq s))) ntt intt (some (ptMap ciq pt))
        (ctMap ciq ct)).bind (fun ct' => decrypt RQ.mont ct' (RQ.mont.toM (ciq s)))
      = some { value := ciq pt.value + montIf RQ.mont pt.md.isMont (ciq e), md := pt.md } :=
  dec_enc_sk_image (foldC_hom hodd) foldC_montHom (isMont_montC hodd) ntt intt (ptMap ciq pt) (ctMap ciq ct) _ _ _
    (congrArg (List.map ciq) hct) (exists_foldC _ hpt) (exists_foldC_mem _ hctwf) (ciq a) (ciq e) (ciq s)
    (exists_foldC a ha) (exists_foldC e he) (exists_foldC s hs)

/-- `dec_enc_pk_noP` on the conjugate-invariant carrier. -/
theorem dec_enc_pk_noP_ci (hodd : ∀ q ∈ qs, q % 2 = 1) (ntt intt : RQ → RQ) (pt : Pt RPoly μ)
    (ct : Ct RPoly μ) (o0 o1 : RPoly) (rest : List RPoly) (hct : ct.value = o0 :: o1 :: rest)
    (u e0 e1 pk0 pk1 epk s : RPoly) (hpk : ciq pk0 + ciq pk1 * ciq s = ciq epk)
    (hpt : WFq qs n pt.value) (hctwf : ∀ p ∈ ct.value, WFq qs n p)
    (hu : WFq qs n u) (he0 : WFq qs n e0) (he1 : WFq qs n e1) (hpk0 : WFq qs n pk0)
    (hpk1 : WFq qs n pk1) (hs : WFq qs n s) :
    (encrypt (ezPkNoP RQ.mont (ciq u) (ciq e0) (ciq e1) (RQ.mont.toM (ciq pk0)) (RQ.mont.toM (ciq pk1)))
        ntt intt (some (ptMap ciq pt)) (ctMap ciq ct)).bind
        (fun ct' => decrypt RQ.mont ct' (RQ.mont.toM (ciq s)))
      = some { value := ciq pt.value + montIf RQ.mont pt.md.isMont (ciq u * ciq epk + ciq e0 + ciq e1 * ciq s),
               md := pt.md } :=
  dec_enc_pk_noP_image (foldC_hom hodd) foldC_montHom (isMont_montC hodd) ntt intt (ptMap ciq pt) (ctMap ciq ct) _ _ _
    (congrArg (List.map ciq) hct) (exists_foldC _ hpt) (exists_foldC_mem _ hctwf) (ciq u) (ciq e0) (ciq e1)
    (ciq pk0) (ciq pk1) (ciq epk) (ciq s) hpk (exists_foldC u hu) (exists_foldC e0 he0) (exists_foldC e1 he1)
    (exists_foldC pk0 hpk0) (exists_foldC pk1 hpk1) (exists_foldC s hs)

/-- non-vacuity: `qs = [97, 193]`, `n = 4` (ring `Z[X+X⁻¹]/(X^8+1)`), a re-used degree-2 target, Montgomery flag set -/
example : (encrypt (ezSk RQ.mont (ciq ⟨[97, 193], [[1, 2, 3, 4], [5, 6, 7, 8]]⟩) (ciq ⟨[97, 193], [[1, 0, 96, 2], [1, 0, 192, 2]]⟩)
        (RQ.mont.toM (ciq ⟨[97, 193], [[1, 96, 0, 1], [1, 192, 0, 1]]⟩))) id id
      (some (ptMap ciq (⟨⟨[97, 193], [[9, 8, 7, 6], [9, 8, 7, 6]]⟩, ⟨(), false, true⟩⟩ : Pt RPoly Unit)))
      (ctMap ciq ⟨[⟨[97, 193], [[0, 0, 0, 0], [0, 0, 0, 0]]⟩, ⟨[97, 193], [[3, 3, 3, 3], [4, 4, 4, 4]]⟩,
        ⟨[97, 193], [[5, 5, 5, 5], [6, 6, 6, 6]]⟩], ⟨(), true, false⟩⟩)).bind
    (fun ct' => decrypt RQ.mont ct' (RQ.mont.toM (ciq ⟨[97, 193], [[1, 96, 0, 1], [1, 192, 0, 1]]⟩)))
    = some { value := ciq ⟨[97, 193], [[9, 8, 7, 6], [9, 8, 7, 6]]⟩
        + montIf RQ.mont true (ciq ⟨[97, 193], [[1, 0, 96, 2], [1, 0, 192, 2]]⟩), md := ⟨(), false, true⟩ } := by
  have : Good [97, 193] 4 := ⟨by decide, by decide⟩
  have : Good [97, 193] (2 * 4) := ⟨by decide, by decide⟩
  exact dec_enc_sk_ci (qs := [97, 193]) (n := 4) (μ := Unit) (by decide) id id _ _ _ _ [_] rfl _ _ _
    (by decide) (by decide) (by decide) (by decide) (by decide)

end ci

/-! ### non-vacuity: `qs = [97, 193]`, `n = 8`, a re-used degree-2 target, Montgomery-flagged plaintext -/

section instance8
open Lattigo.ZPoly Lattigo.Transport Lattigo.RPolyRing Lattigo.Props.C03Ring

example : ∃ noiseZ : List ℤ, noiseZ.length = 8 ∧ normInf noiseZ ≤ 2 * (4 + 1 + 5) ∧
    (encrypt (ezPkNoP rpMont (RPoly.ofInts [97, 193] [1, 0, -1, 0, 1, 1, 0, 0]) (RPoly.ofInts [97, 193] [2, -1, 0, 1, 0, -2, 1, 0])
          (RPoly.ofInts [97, 193] [0, 1, -1, 0, 2, 0, 0, -1])
          (rpMont.toM (RPoly.ofInts [97, 193] [1, 0, -1, 0, 2, 0, -2, 1] - a8 * RPoly.ofInts [97, 193] [1, -1, 0, 1, 0, 0, -1, 1]))
          (rpMont.toM a8)) id id (some pt8) ct8).bind
        (fun ct' => decrypt rpMont ct' (rpMont.toM (RPoly.ofInts [97, 193] [1, -1, 0, 1, 0, 0, -1, 1])))
      = some { value := pt8.value + montIf rpMont pt8.md.isMont (RPoly.ofInts [97, 193] noiseZ), md := pt8.md } := by
  have h := dec_enc_pk_noP_noise_closed (qs := [97, 193]) (n := 8) (μ := Unit) (by decide) id id pt8 ct8 z8 z8 [a8] rfl
    [1, 0, -1, 0, 1, 1, 0, 0] [2, -1, 0, 1, 0, -2, 1, 0] [0, 1, -1, 0, 2, 0, 0, -1] [1, 0, -1, 0, 2, 0, -2, 1]
    [1, -1, 0, 1, 0, 0, -1, 1] a8 2 rfl rfl rfl rfl rfl (by decide) (by decide) (by decide)
    (by decide) (by decide) (by decide)
  obtain ⟨nz, hl, hb, heq⟩ := h
  exact ⟨nz, hl, Nat.le_trans hb (by decide), heq⟩

example : RQ.acceptsBounds 97 true 38 2 = true ∧ (∀ x ∈ ([19, -19, 0, 7] : List ℤ), 2 * x.natAbs ≤ 38) := by decide

end instance8

end Lattigo.Props.C03

#print axioms Lattigo.Props.C03.dec_enc_sk
#print axioms Lattigo.Props.C03.dec_enc_sk_denote
#print axioms Lattigo.Props.C03.dec_enc_sk_deg0
#print axioms Lattigo.Props.C03.wrong_key
#print axioms Lattigo.Props.C03.unit_mul_bijective
#print axioms Lattigo.Props.C03.genPublicKey_noise
#print axioms Lattigo.Props.C03.dec_enc_pk_noP
#print axioms Lattigo.Props.C03.dec_enc_pk_denote
#print axioms Lattigo.Props.C03.dec_enc_pk_P
#print axioms Lattigo.Props.C03.pk_deg0_panics
#print axioms Lattigo.Props.C03.metadata_eq
#print axioms Lattigo.Props.C03.encrypt_indep_transforms
#print axioms Lattigo.Props.C03.dec_enc_sk_noise_closed
#print axioms Lattigo.Props.C03.dec_enc_pk_noP_noise_closed
#print axioms Lattigo.Props.C03.dec_enc_pk_noP_noise_declared
#print axioms Lattigo.Props.C03.dec_enc_sk_gauss_sampled
#print axioms Lattigo.Props.C03.sparse_secret_sampled
#print axioms Lattigo.Props.C03.dec_enc_sk_ci
#print axioms Lattigo.Props.C03.dec_enc_pk_noP_ci
#print axioms Lattigo.RLWECI.emb_ciRowMul
#print axioms Lattigo.RLWE.RQ.accepted_ext_exact
#print axioms Lattigo.RLWE.RQ.extSmall_ofInts
#print axioms Lattigo.Props.C03.negacyclic_norm
#print axioms Lattigo.Props.C03.noise_upper_sk
#print axioms Lattigo.Props.C03.noise_upper_pk_noP
#print axioms Lattigo.Props.C03.noise_upper_pk_P
