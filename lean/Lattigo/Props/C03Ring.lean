/-
  C03 on the carrier the driver executes.

  `Props/C03.lean` proves `dec_enc_sk`, `wrong_key`, `dec_enc_pk_noP`, `dec_enc_pk_P`,
  `genPublicKey_noise` for the generic model functions of `Model/RLWE.lean` over EVERY commutative
  ring.  The driver (`Driver/C03.lean`) runs the same functions on `RLWE.RQ` (an `RPoly` with a ring
  tag).  Here the theorems are instantiated at the commutative ring `WFPoly qs n` of well-formed
  `RPoly`s (`Proofs/RPolyRing.lean`) and transported to PLAIN `RPoly` / `RQ` values:

    hypotheses  = well-formedness of the INPUTS (`WFq qs n a` : `a.qs = qs ∧ a.WF n`), odd moduli
                  (for the Montgomery pair `2^64`);
    conclusion  = the same identity, between `RPoly` (resp. `RQ`) values computed by the model
                  functions with the driver's Montgomery pair.

  * naturality of every model function of `Model/RLWE.lean` w.r.t. maps preserving `+ * − neg` and the Montgomery
    pair (`…_nat`) — of every function, not only of the recursive `hornerMont`, because the statements are wanted along
    four maps (`val`, `std`, `valQ`, `RLWECI.foldC`; cf. the header of `Proofs/RPolyTransport.lean`);
  * `enc_dec_image`, whence `dec_enc_sk_image`, `dec_enc_pk_noP_image`: the identities of `Proofs/RLWE.lean` for inputs
    in the image of a commutative ring under such a map;
  * `…_rpoly`: carrier `RPoly`, Montgomery pair `rpMont`; `dec_enc_pk_P_rpoly` with `ext`, `down` ABSTRACT
    functions on `RPoly` subject to closure, `pk_P_noise_rpoly` with `down`, `rem` subject to closure and to the rounding
    identity `P·down x = π x − π(rem x)` on well-formed `x`.
    That the driver's `RQ.extSmall [p0]` / `RQ.modDown (l+1)` satisfy them (CRT reconstruction `RPoly.crt`, centred
    remainder) is arithmetic of C02, proved in `Props/C03Stack` (`dec_enc_pk_P_closed`);
  * `…_rq`: carrier `RQ`, `ci = false`, Montgomery pair `RQ.mont` — literally what the driver evaluates;
  * the driver: `Driver.C03.handleDec/handleEnc` call `RQ.decryptAt/RQ.encryptAt`, and these are
    `decrypt`/`encrypt ∘ ezSk` on the level-truncated values (`driver_dec_enc_sk`);
  * a concrete instance (`qs = [97, 193]`, `n = 8`), from the theorems and by evaluation.

  Not here:
  * the norm statements (`negacyclic_norm`, `noise_upper_*`) are about `ZPoly` (integer
    coefficient lists), not about the carrier: nothing to transport; `RPoly.toInts` is not related
    to `ZPoly` here.
  * the conjugate-invariant carrier (`ci = true`, `ciRowMul`) is in `Props/C03` (`dec_enc_sk_ci`,
    `dec_enc_pk_noP_ci`, by the same image lemmas along `RLWECI.foldC`).
-/
import Lattigo.Proofs.RPolyTransport
import Lattigo.Proofs.RLWE
import Driver.C03

set_option linter.unusedSectionVars false

namespace Lattigo.Props.C03Ring
open Lattigo Lattigo.RLWE Lattigo.RPolyRing Lattigo.Transport

section naturality
variable {α β : Type} [Add α] [Mul α] [Neg α] [Sub α] [Add β] [Mul β] [Neg β] [Sub β]
variable {μ : Type}

def ptMap (φ : α → β) (p : Pt α μ) : Pt β μ := ⟨φ p.value, p.md⟩
def ctMap (φ : α → β) (c : Ct α μ) : Ct β μ := ⟨c.value.map φ, c.md⟩

variable {φ : α → β} (hφ : OpsHom φ) {M : Mont α} {M' : Mont β} (hM : MontHom φ M M')
include hφ hM

theorem mulMont_nat (x y : α) : mulMont M' (φ x) (φ y) = φ (mulMont M x y) := by
  simp only [mulMont, hM.ofM, hφ.mul]

omit hφ in
theorem montIf_nat (b : Bool) (x : α) : montIf M' b (φ x) = φ (montIf M b x) := by
  cases b <;> simp [montIf, hM.toM]

omit hM in
theorem clearTail_nat (l : List α) : clearTail (l.map φ) = (clearTail l).map φ := by
  match l with
  | [] => rfl
  | [_] => rfl
  | a :: b :: rest => simp [clearTail, hφ.sub, Function.comp_def]

theorem encryptZeroSk_nat (b : Bool) (old : List α) (a e sM : α) :
    encryptZeroSk M' b (old.map φ) (φ a) (φ e) (φ sM) = (encryptZeroSk M b old a e sM).map (List.map φ) := by
  match old with
  | [] => rfl
  | [_] => simp [encryptZeroSk, mulMont_nat hφ hM, montIf_nat hM, hφ.add, hφ.neg]
  | _ :: _ :: rest => simp [encryptZeroSk, mulMont_nat hφ hM, montIf_nat hM, hφ.add, hφ.neg]

theorem encryptZeroPkNoP_nat (b : Bool) (old : List α) (u e0 e1 pk0M pk1M : α) :
    encryptZeroPkNoP M' b (old.map φ) (φ u) (φ e0) (φ e1) (φ pk0M) (φ pk1M)
      = (encryptZeroPkNoP M b old u e0 e1 pk0M pk1M).map (List.map φ) := by
  match old with
  | [] => rfl
  | [_] => rfl
  | _ :: _ :: rest => simp [encryptZeroPkNoP, mulMont_nat hφ hM, ← hφ.add, montIf_nat hM]

theorem ezSk_nat (a e sM : α) (md : MetaData μ) (old : List α) :
    ezSk M' (φ a) (φ e) (φ sM) md (old.map φ) = (ezSk M a e sM md old).map (List.map φ) := by
  simp only [ezSk, clearTail_nat hφ, encryptZeroSk_nat hφ hM]

theorem ezPkNoP_nat (u e0 e1 pk0M pk1M : α) (md : MetaData μ) (old : List α) :
    ezPkNoP M' (φ u) (φ e0) (φ e1) (φ pk0M) (φ pk1M) md (old.map φ)
      = (ezPkNoP M u e0 e1 pk0M pk1M md old).map (List.map φ) := by
  simp only [ezPkNoP, clearTail_nat hφ, encryptZeroPkNoP_nat hφ hM]

omit hM in
/-- `Encrypt` never reaches the mixed branches of `addPtToCt`, so no compatibility of the transforms
is needed -/
theorem encrypt_nat (ez : MetaData μ → List α → Option (List α)) (ez' : MetaData μ → List β → Option (List β))
    (hez : ∀ md old, ez' md (old.map φ) = (ez md old).map (List.map φ))
    (ntt intt : α → α) (ntt' intt' : β → β) (pt : Option (Pt α μ)) (ct : Ct α μ) :
    encrypt ez' ntt' intt' (pt.map (ptMap φ)) (ctMap φ ct) = (encrypt ez ntt intt pt ct).map (ctMap φ) := by
  cases pt with
  | none =>
    simp only [encrypt, Option.map_none, ctMap, hez]
    cases ez ct.md ct.value <;> simp [ctMap]
  | some pt =>
    simp only [encrypt, Option.map_some, ctMap, ptMap, hez]
    cases ez pt.md ct.value with
    | none => rfl
    | some v =>
      cases hb : pt.md.isNTT <;> cases v <;> simp [addPtToCt, ctMap, hφ.add]

theorem hornerMont_nat (sM : α) (l : List α) :
    hornerMont M' (φ sM) (l.map φ) = (hornerMont M sM l).map φ := by
  cases l with
  | nil => rfl
  | cons top rest =>
    simp only [hornerMont, List.map_cons, Option.map_some]
    congr 1
    induction rest generalizing top with
    | nil => rfl
    | cons c r ih =>
      simp only [List.map_cons, List.foldl_cons]
      rw [mulMont_nat hφ hM, ← hφ.add, ih]

theorem decrypt_nat (ct : Ct α μ) (sM : α) :
    decrypt M' (ctMap φ ct) (φ sM) = (decrypt M ct sM).map (ptMap φ) := by
  simp only [decrypt, ctMap, ← List.map_reverse, hornerMont_nat hφ hM]
  cases hornerMont M sM ct.value.reverse <;> simp [ptMap]

theorem enc_dec_nat (ez : MetaData μ → List α → Option (List α)) (ez' : MetaData μ → List β → Option (List β))
    (hez : ∀ md old, ez' md (old.map φ) = (ez md old).map (List.map φ))
    (ntt intt : α → α) (ntt' intt' : β → β) (pt : Option (Pt α μ)) (ct : Ct α μ) (sM : α) :
    (encrypt ez' ntt' intt' (pt.map (ptMap φ)) (ctMap φ ct)).bind (fun c => decrypt M' c (φ sM))
      = ((encrypt ez ntt intt pt ct).bind (fun c => decrypt M c sM)).map (ptMap φ) := by
  rw [encrypt_nat hφ ez ez' hez ntt intt ntt' intt' pt ct]
  cases encrypt ez ntt intt pt ct with
  | none => rfl
  | some c => simp only [Option.map_some, Option.bind_some, decrypt_nat hφ hM]

theorem genPublicKey_nat {γ : Type} (ext : γ → α) (ext' : γ → β) (a : α) (e : γ) (sM : α)
    (hext : ext' e = φ (ext e)) :
    genPublicKey M' ext' (φ a) e (φ sM) = Prod.map φ φ (genPublicKey M ext a e sM) := by
  simp only [genPublicKey, encryptZeroSkQP, Prod.map, hext, mulMont_nat hφ hM, hM.toM, hφ.sub]

end naturality

section twoCarriers
variable {μ α β α' β' : Type} [Add α] [Mul α] [Neg α] [Sub α] [Add β] [Mul β] [Neg β] [Sub β]
    [Add α'] [Mul α'] [Neg α'] [Sub α'] [Add β'] [Mul β'] [Neg β'] [Sub β']
    {φ : α → α'} {ψ : β → β'} (hφ : OpsHom φ) (hψ : OpsHom ψ)
    {MQ : Mont α} {MQ' : Mont α'} (hMQ : MontHom φ MQ MQ')
    {MQP : Mont β} {MQP' : Mont β'} (hMQP : MontHom ψ MQP MQP')
    (ext : α → β) (ext' : α' → β') (hext : ∀ x, ext' (φ x) = ψ (ext x))
    (down : β → α) (down' : β' → α') (hdown : ∀ x, down' (ψ x) = φ (down x))
include hψ hMQ hMQP hext hdown

theorem encryptZeroPk_nat (b : Bool) (old : List α) (u e0 e1 : α) (pk0M pk1M : β) :
    encryptZeroPk MQ' MQP' ext' down' b (old.map φ) (φ u) (φ e0) (φ e1) (ψ pk0M) (ψ pk1M)
      = (encryptZeroPk MQ MQP ext down b old u e0 e1 pk0M pk1M).map (List.map φ) := by
  match old with
  | [] => rfl
  | [_] => rfl
  | _ :: _ :: rest =>
    simp [encryptZeroPk, hext, mulMont_nat hψ hMQP, ← hψ.add, hdown, montIf_nat hMQ]

include hφ

theorem ezPk_nat (u e0 e1 : α) (pk0M pk1M : β) (md : MetaData μ) (old : List α) :
    ezPk MQ' MQP' ext' down' (φ u) (φ e0) (φ e1) (ψ pk0M) (ψ pk1M) md (old.map φ)
      = (ezPk MQ MQP ext down u e0 e1 pk0M pk1M md old).map (List.map φ) := by
  simp only [ezPk, clearTail_nat hφ, encryptZeroPk_nat hψ hMQ hMQP ext ext' hext down down' hdown]

end twoCarriers

theorem map_eq_cons2 {α β : Type} {f : α → β} {l : List α} {x y : β} {r : List β}
    (h : l.map f = x :: y :: r) : ∃ x' y' r', l = x' :: y' :: r' := by
  match l, h with
  | x' :: y' :: r', _ => exact ⟨x', y', r', rfl⟩

section image
variable {α β : Type} [CommRing α] [Add β] [Mul β] [Neg β] [Sub β] {μ : Type}
variable {φ : α → β} (hφ : OpsHom φ) {M : Mont α} {M' : Mont β} (hM : MontHom φ M M') {R Rinv : α}
  (h : IsMont M R Rinv) (ntt intt : β → β) (pt : Pt β μ) (ct : Ct β μ) (o0 o1 : β) (rest : List β)
  (hct : ct.value = o0 :: o1 :: rest) (hpt : ∃ x, φ x = pt.value) (hctr : ∀ p ∈ ct.value, ∃ x, φ x = p)
include hφ hM h hct hpt hctr

omit h in
/-- Transport of a `Decrypt ∘ Encrypt` identity along `φ`: if `ez'` is `ez` seen through `φ` and the identity holds on `α`
for every plaintext and every target of degree ≥ 1, then it holds on `β` for a plaintext and a target in the image. -/
theorem enc_dec_image (ez : MetaData μ → List α → Option (List α)) (ez' : MetaData μ → List β → Option (List β))
    (hez : ∀ md old, ez' md (old.map φ) = (ez md old).map (List.map φ)) (sM N : α)
    (hgen : ∀ (pt : Pt α μ) (ct : Ct α μ) (o0 o1 : α) (rest : List α), ct.value = o0 :: o1 :: rest →
      (encrypt ez id id (some pt) ct).bind (fun ct' => decrypt M ct' sM)
        = some { value := pt.value + montIf M pt.md.isMont N, md := pt.md }) :
    (encrypt ez' ntt intt (some pt) ct).bind (fun ct' => decrypt M' ct' (φ sM))
      = some { value := pt.value + montIf M' pt.md.isMont (φ N), md := pt.md } := by
  obtain ⟨pv, pmd⟩ := pt
  obtain ⟨pv, rfl⟩ : ∃ x, φ x = pv := hpt
  obtain ⟨cv, cmd⟩ := ct
  obtain ⟨cv, rfl⟩ : ∃ l : List α, l.map φ = cv := exists_map_eq hctr
  obtain ⟨o0', o1', rest', hct'⟩ := map_eq_cons2 hct
  have hn := enc_dec_nat hφ hM ez ez' hez id id ntt intt (some ⟨pv, pmd⟩) ⟨cv, cmd⟩ sM
  rw [hgen ⟨pv, pmd⟩ ⟨cv, cmd⟩ o0' o1' rest' hct'] at hn
  refine hn.trans ?_
  rw [Option.map_some, ptMap, hφ.add, ← montIf_nat hM]

theorem dec_enc_sk_image (a e s : β) (ha : ∃ x, φ x = a) (he : ∃ x, φ x = e) (hs : ∃ x, φ x = s) :
    (encrypt (ezSk M' a e (M'.toM s)) ntt intt (some pt) ct).bind (fun ct' => decrypt M' ct' (M'.toM s))
      = some { value := pt.value + montIf M' pt.md.isMont e, md := pt.md } := by
  obtain ⟨a, rfl⟩ := ha
  obtain ⟨e, rfl⟩ := he
  obtain ⟨s, rfl⟩ := hs
  rw [← hM.toM]
  exact enc_dec_image hφ hM ntt intt pt ct o0 o1 rest hct hpt hctr _ _ (ezSk_nat hφ hM a e (M.toM s)) (M.toM s) e
    (fun pt ct o0 o1 rest hct => dec_enc_sk_gen h id id pt ct o0 o1 rest hct a e s)

theorem dec_enc_pk_noP_image (u e0 e1 pk0 pk1 epk s : β) (hpk : pk0 + pk1 * s = epk) (hu : ∃ x, φ x = u)
    (he0 : ∃ x, φ x = e0) (he1 : ∃ x, φ x = e1) (hpk0 : ∃ x, φ x = pk0) (hpk1 : ∃ x, φ x = pk1)
    (hs : ∃ x, φ x = s) :
    (encrypt (ezPkNoP M' u e0 e1 (M'.toM pk0) (M'.toM pk1)) ntt intt (some pt) ct).bind
        (fun ct' => decrypt M' ct' (M'.toM s))
      = some { value := pt.value + montIf M' pt.md.isMont (u * epk + e0 + e1 * s), md := pt.md } := by
  subst hpk
  obtain ⟨u, rfl⟩ := hu
  obtain ⟨e0, rfl⟩ := he0
  obtain ⟨e1, rfl⟩ := he1
  obtain ⟨pk0, rfl⟩ := hpk0
  obtain ⟨pk1, rfl⟩ := hpk1
  obtain ⟨s, rfl⟩ := hs
  rw [← hM.toM, ← hM.toM, ← hM.toM]
  refine (enc_dec_image hφ hM ntt intt pt ct o0 o1 rest hct hpt hctr _ _
    (ezPkNoP_nat hφ hM u e0 e1 (M.toM pk0) (M.toM pk1)) (M.toM s) _
    (fun pt ct o0 o1 rest hct => dec_enc_pk_noP_gen h id id pt ct o0 o1 rest hct u e0 e1 pk0 pk1 _ s rfl)).trans ?_
  simp only [hφ.add, hφ.mul]

end image

section rpoly
variable {qs : List ℕ} {n : ℕ} [Good qs n] {μ : Type}

theorem rpMont_toM_ofM (hodd : ∀ q ∈ qs, q % 2 = 1) (x : RPoly) (hx : WFq qs n x) :
    rpMont.toM (rpMont.ofM x) = x ∧ WFq qs n (rpMont.ofM x) := by
  obtain ⟨x', rfl⟩ := exists_lift x hx
  exact ⟨congrArg val (toM_ofM (WFPoly.isMont_mont_of_odd hodd) x'), val_wf (WFPoly.mont.ofM x')⟩

theorem rpMont_wf (x : RPoly) (hx : WFq qs n x) : WFq qs n (rpMont.toM x) ∧ WFq qs n (rpMont.ofM x) := by
  obtain ⟨x', rfl⟩ := exists_lift x hx
  exact ⟨val_wf (WFPoly.mont.toM x'), val_wf (WFPoly.mont.ofM x')⟩

theorem montIf_push (b : Bool) (x : WFPoly qs n) :
    val (montIf WFPoly.mont b x) = montIf rpMont b (val x) := (montIf_nat val_montHom b x).symm

theorem exists_lift_pt (pt : Pt RPoly μ) (h : WFq qs n pt.value) :
    ∃ pt' : Pt (WFPoly qs n) μ, ptMap val pt' = pt := by
  obtain ⟨v, hv⟩ := exists_lift pt.value h
  exact ⟨⟨v, pt.md⟩, by cases pt; simp only [ptMap] at hv ⊢; rw [hv]⟩

theorem exists_lift_ct (ct : Ct RPoly μ) (h : ∀ p ∈ ct.value, WFq qs n p) :
    ∃ ct' : Ct (WFPoly qs n) μ, ctMap val ct' = ct := by
  obtain ⟨v, hv⟩ := CanLift.prf (β := List (WFPoly qs n)) ct.value h
  exact ⟨⟨v, ct.md⟩, by cases ct; simp only [ctMap] at hv ⊢; rw [hv]⟩

/-- `Decrypt(Encrypt(pt))` computed by the model on `RPoly` values with the
driver's Montgomery pair: stored value `pt.value + e'`, `e' = e` resp. `MForm(e)`; metadata of `pt`.
Hypotheses: odd moduli, well-formed inputs. -/
theorem dec_enc_sk_rpoly (hodd : ∀ q ∈ qs, q % 2 = 1) (ntt intt : RPoly → RPoly) (pt : Pt RPoly μ)
    (ct : Ct RPoly μ) (o0 o1 : RPoly) (rest : List RPoly) (hct : ct.value = o0 :: o1 :: rest)
    (a e s : RPoly) (hpt : WFq qs n pt.value) (hctwf : ∀ p ∈ ct.value, WFq qs n p)
    (ha : WFq qs n a) (he : WFq qs n e) (hs : WFq qs n s) :
    (encrypt (ezSk rpMont a e (rpMont.toM s)) ntt intt (some pt) ct).bind
        (fun ct' => decrypt rpMont ct' (rpMont.toM s))
      = some { value := pt.value + montIf rpMont pt.md.isMont e, md := pt.md } :=
  dec_enc_sk_image val_hom val_montHom (WFPoly.isMont_mont_of_odd hodd) ntt intt pt ct o0 o1 rest hct
    (exists_lift _ hpt) (fun p hp => exists_lift p (hctwf p hp)) a e s (exists_lift a ha) (exists_lift e he)
    (exists_lift s hs)

/-- Decrypting with another key `s'`: distance to the plaintext `e' + a·(s' − s)`. -/
theorem wrong_key_rpoly (hodd : ∀ q ∈ qs, q % 2 = 1) (ntt intt : RPoly → RPoly) (pt : Pt RPoly μ)
    (ct : Ct RPoly μ) (o0 o1 : RPoly) (rest : List RPoly) (hct : ct.value = o0 :: o1 :: rest)
    (a e s s' : RPoly) (hpt : WFq qs n pt.value) (hctwf : ∀ p ∈ ct.value, WFq qs n p)
    (ha : WFq qs n a) (he : WFq qs n e) (hs : WFq qs n s) (hs' : WFq qs n s') :
    ∃ out, (encrypt (ezSk rpMont a e (rpMont.toM s)) ntt intt (some pt) ct).bind
          (fun ct' => decrypt rpMont ct' (rpMont.toM s')) = some out
      ∧ out.value - pt.value = montIf rpMont pt.md.isMont e + a * (s' - s) ∧ out.md = pt.md
      ∧ WFq qs n out.value := by
  obtain ⟨a, rfl⟩ := exists_lift a ha
  obtain ⟨e, rfl⟩ := exists_lift e he
  obtain ⟨s, rfl⟩ := exists_lift s hs
  obtain ⟨s', rfl⟩ := exists_lift s' hs'
  obtain ⟨pt, rfl⟩ := exists_lift_pt pt hpt
  obtain ⟨ct, rfl⟩ := exists_lift_ct ct hctwf
  obtain ⟨o0', o1', rest', hct'⟩ := map_eq_cons2 hct
  obtain ⟨out, h1, h2, h3⟩ :=
    wrong_key_gen (WFPoly.isMont_mont_of_odd hodd) id id pt ct o0' o1' rest' hct' a e s s'
  have hn := enc_dec_nat val_hom val_montHom _ _ (ezSk_nat val_hom val_montHom a e (WFPoly.mont.toM s))
    id id ntt intt (some pt) ct (WFPoly.mont.toM s')
  rw [h1, val_montHom.toM, val_montHom.toM] at hn
  refine ⟨ptMap val out, hn, ?_, h3, val_wf out.value⟩
  have := congrArg val h2
  rwa [val_hom.sub, val_hom.add, val_hom.mul, val_hom.sub, montIf_push] at this

/-- Public key without auxiliary modulus: stored result `m + N` resp.
`m + MForm(N)`, `N = u·e_pk + e0 + e1·s`, where `pk0 + pk1·s = e_pk`. -/
theorem dec_enc_pk_noP_rpoly (hodd : ∀ q ∈ qs, q % 2 = 1) (ntt intt : RPoly → RPoly) (pt : Pt RPoly μ)
    (ct : Ct RPoly μ) (o0 o1 : RPoly) (rest : List RPoly) (hct : ct.value = o0 :: o1 :: rest)
    (u e0 e1 pk0 pk1 epk s : RPoly) (hpk : pk0 + pk1 * s = epk)
    (hpt : WFq qs n pt.value) (hctwf : ∀ p ∈ ct.value, WFq qs n p)
    (hu : WFq qs n u) (he0 : WFq qs n e0) (he1 : WFq qs n e1) (hpk0 : WFq qs n pk0)
    (hpk1 : WFq qs n pk1) (hs : WFq qs n s) :
    (encrypt (ezPkNoP rpMont u e0 e1 (rpMont.toM pk0) (rpMont.toM pk1)) ntt intt (some pt) ct).bind
        (fun ct' => decrypt rpMont ct' (rpMont.toM s))
      = some { value := pt.value + montIf rpMont pt.md.isMont (u * epk + e0 + e1 * s), md := pt.md } :=
  dec_enc_pk_noP_image val_hom val_montHom (WFPoly.isMont_mont_of_odd hodd) ntt intt pt ct o0 o1 rest hct
    (exists_lift _ hpt) (fun p hp => exists_lift p (hctwf p hp)) u e0 e1 pk0 pk1 epk s hpk (exists_lift u hu)
    (exists_lift e0 he0) (exists_lift e1 he1) (exists_lift pk0 hpk0) (exists_lift pk1 hpk1) (exists_lift s hs)

/-- The generated public key satisfies `pk0 + pk1·s = ext e` after
stripping the Montgomery factor (`qs` = the moduli of `R_{QP}`; `ext e` = the extended error). -/
theorem genPublicKey_noise_rpoly {γ : Type} (hodd : ∀ q ∈ qs, q % 2 = 1) (ext : γ → RPoly) (a : RPoly)
    (e : γ) (s : RPoly) (ha : WFq qs n a) (he : WFq qs n (ext e)) (hs : WFq qs n s) :
    let pk := genPublicKey rpMont ext a e (rpMont.toM s)
    rpMont.ofM pk.1 + rpMont.ofM pk.2 * s = ext e ∧ WFq qs n pk.1 ∧ WFq qs n pk.2 := by
  obtain ⟨a, rfl⟩ := exists_lift a ha
  obtain ⟨s, rfl⟩ := exists_lift s hs
  have hg := genPublicKey_relation (WFPoly.isMont_mont_of_odd (qs := qs) (n := n) hodd)
    (fun _ : γ => lift (ext e) he) a e s
  have hn := genPublicKey_nat val_hom val_montHom (fun _ => lift (ext e) he) ext a e (WFPoly.mont.toM s) rfl
  rw [val_montHom.toM] at hn
  intro pk
  rw [show pk = _ from hn]
  refine ⟨?_, val_wf _, val_wf _⟩
  have := congrArg val hg
  simpa only [Prod.map, val_hom.add, val_hom.mul, val_montHom.ofM, val_lift] using this

end rpoly

section withP
variable {qs ps : List ℕ} {n : ℕ} [Good qs n] [Good (qs ++ ps) n] {μ : Type}

/-- `R_Q` = well-formed polynomials over `qs`, `R_{QP}` over `qs ++ ps`.  `ext`, `down` are ANY functions on `RPoly`
that respect well-formedness (for the driver: `RQ.extSmall [p0]`, `RQ.modDown (l+1)`). -/
theorem dec_enc_pk_P_rpoly (hodd : ∀ q ∈ qs ++ ps, q % 2 = 1) (ext down : RPoly → RPoly)
    (hext : ∀ x, WFq qs n x → WFq (qs ++ ps) n (ext x))
    (hdwf : ∀ x, WFq (qs ++ ps) n x → WFq qs n (down x))
    (ntt intt : RPoly → RPoly) (pt : Pt RPoly μ) (ct : Ct RPoly μ) (o0 o1 : RPoly) (rest : List RPoly)
    (hct : ct.value = o0 :: o1 :: rest) (u e0 e1 s pk0 pk1 : RPoly)
    (hpt : WFq qs n pt.value) (hctwf : ∀ p ∈ ct.value, WFq qs n p)
    (hu : WFq qs n u) (he0 : WFq qs n e0) (he1 : WFq qs n e1) (hs : WFq qs n s)
    (hpk0 : WFq (qs ++ ps) n pk0) (hpk1 : WFq (qs ++ ps) n pk1) :
    (encrypt (ezPk rpMont rpMont ext down u e0 e1 (rpMont.toM pk0) (rpMont.toM pk1)) ntt intt
        (some pt) ct).bind (fun ct' => decrypt rpMont ct' (rpMont.toM s))
      = some { value := pt.value + montIf rpMont pt.md.isMont
                 (down (ext u * pk0 + ext e0) + s * down (ext u * pk1 + ext e1)),
               md := pt.md } := by
  have hoddQ : ∀ q ∈ qs, q % 2 = 1 := fun q hq => hodd q (List.mem_append_left _ hq)
  obtain ⟨u, rfl⟩ := exists_lift u hu
  obtain ⟨e0, rfl⟩ := exists_lift e0 he0
  obtain ⟨e1, rfl⟩ := exists_lift e1 he1
  obtain ⟨s, rfl⟩ := exists_lift s hs
  obtain ⟨pk0, rfl⟩ := exists_lift pk0 hpk0
  obtain ⟨pk1, rfl⟩ := exists_lift pk1 hpk1
  -- the abstract functions, restricted to well-formed values
  let ext' : WFPoly qs n → WFPoly (qs ++ ps) n := fun x => lift (ext (val x)) (hext _ (val_wf x))
  let down' : WFPoly (qs ++ ps) n → WFPoly qs n := fun x => lift (down (val x)) (hdwf _ (val_wf x))
  have hn := enc_dec_image val_hom val_montHom ntt intt pt ct o0 o1 rest hct (exists_lift _ hpt)
    (fun p hp => exists_lift p (hctwf p hp)) _ _
    (ezPk_nat (μ := μ) val_hom val_hom val_montHom val_montHom ext' ext (fun _ => rfl) down' down (fun _ => rfl)
      u e0 e1 (WFPoly.mont.toM pk0) (WFPoly.mont.toM pk1)) (WFPoly.mont.toM s) _
    (fun pt ct o0 o1 rest hct => dec_enc_pk_P_gen (WFPoly.isMont_mont_of_odd hoddQ) id id pt ct o0 o1 rest hct
      (WFPoly.isMont_mont_of_odd hodd) ext' down' u e0 e1 s pk0 pk1)
  rw [val_montHom.toM, val_montHom.toM, val_montHom.toM] at hn
  exact hn

/-- `π` keeps the rows of `Q` (`takeRows qs.length`); `down`, `rem` are ANY functions on `RPoly` that respect
well-formedness and satisfy the rounding identity `P·down x = π x − π(rem x)` on well-formed `x` (that the driver's
`RQ.modDown (l+1)` does is C02's arithmetic: `C03Stack.dec_enc_pk_P_closed`).  Then `P` times the decryption error of
`dec_enc_pk_P_rpoly` (`U`, `E0`, `E1` the extended `u`, `e0`, `e1`) is the QP-noise minus the two residues. -/
theorem pk_P_noise_rpoly (P : RPoly) (down rem : RPoly → RPoly)
    (hdwf : ∀ x, WFq (qs ++ ps) n x → WFq qs n (down x))
    (hrwf : ∀ x, WFq (qs ++ ps) n x → WFq (qs ++ ps) n (rem x))
    (hP : WFq qs n P)
    (hdown : ∀ x, WFq (qs ++ ps) n x →
      P * down x = takeRows qs.length x - takeRows qs.length (rem x))
    (U E0 E1 pk0 pk1 sQP epk : RPoly) (hpk : pk0 + pk1 * sQP = epk)
    (hU : WFq (qs ++ ps) n U) (hE0 : WFq (qs ++ ps) n E0) (hE1 : WFq (qs ++ ps) n E1)
    (hpk0 : WFq (qs ++ ps) n pk0) (hpk1 : WFq (qs ++ ps) n pk1) (hs : WFq (qs ++ ps) n sQP) :
    P * (down (U * pk0 + E0) + takeRows qs.length sQP * down (U * pk1 + E1))
      = takeRows qs.length (U * epk + E0 + E1 * sQP) - takeRows qs.length (rem (U * pk0 + E0))
        - takeRows qs.length (rem (U * pk1 + E1)) * takeRows qs.length sQP := by
  subst hpk
  obtain ⟨U, rfl⟩ := exists_lift U hU
  obtain ⟨E0, rfl⟩ := exists_lift E0 hE0
  obtain ⟨E1, rfl⟩ := exists_lift E1 hE1
  obtain ⟨pk0, rfl⟩ := exists_lift pk0 hpk0
  obtain ⟨pk1, rfl⟩ := exists_lift pk1 hpk1
  obtain ⟨sQP, rfl⟩ := exists_lift sQP hs
  obtain ⟨P, rfl⟩ := exists_lift P hP
  let down' : WFPoly (qs ++ ps) n → WFPoly qs n := fun x => lift (down (val x)) (hdwf _ (val_wf x))
  let rem' : WFPoly (qs ++ ps) n → WFPoly (qs ++ ps) n := fun x => lift (rem (val x)) (hrwf _ (val_wf x))
  exact congrArg val (pk_P_noise (projQ (qs := qs) (ps := ps)) P down' rem'
    (fun x => val_injective (hdown (val x) (val_wf x))) U E0 E1 pk0 pk1 sQP _ rfl)

end withP

section rq
variable {qs : List ℕ} {n : ℕ} [Good qs n] {μ : Type}

/-- `dec_enc_sk_rpoly` on `RQ`: literally the expression the driver evaluates (after level truncation) -/
theorem dec_enc_sk_rq (hodd : ∀ q ∈ qs, q % 2 = 1) (ntt intt : RQ → RQ) (pt : Pt RPoly μ)
    (ct : Ct RPoly μ) (o0 o1 : RPoly) (rest : List RPoly) (hct : ct.value = o0 :: o1 :: rest)
    (a e s : RPoly) (hpt : WFq qs n pt.value) (hctwf : ∀ p ∈ ct.value, WFq qs n p)
    (ha : WFq qs n a) (he : WFq qs n e) (hs : WFq qs n s) :
    (encrypt (ezSk RQ.mont (std a) (std e) (RQ.mont.toM (std s))) ntt intt (some (ptMap std pt))
        (ctMap std ct)).bind (fun ct' => decrypt RQ.mont ct' (RQ.mont.toM (std s)))
      = some (ptMap std { value := pt.value + montIf rpMont pt.md.isMont e, md := pt.md }) := by
  have hn := enc_dec_nat std_hom std_montHom _ _ (ezSk_nat std_hom std_montHom a e (rpMont.toM s))
    id id ntt intt (some pt) ct (rpMont.toM s)
  rw [dec_enc_sk_rpoly hodd id id pt ct o0 o1 rest hct a e s hpt hctwf ha he hs] at hn
  exact hn

theorem wrong_key_rq (hodd : ∀ q ∈ qs, q % 2 = 1) (ntt intt : RQ → RQ) (pt : Pt RPoly μ)
    (ct : Ct RPoly μ) (o0 o1 : RPoly) (rest : List RPoly) (hct : ct.value = o0 :: o1 :: rest)
    (a e s s' : RPoly) (hpt : WFq qs n pt.value) (hctwf : ∀ p ∈ ct.value, WFq qs n p)
    (ha : WFq qs n a) (he : WFq qs n e) (hs : WFq qs n s) (hs' : WFq qs n s') :
    ∃ out : Pt RPoly μ, (encrypt (ezSk RQ.mont (std a) (std e) (RQ.mont.toM (std s))) ntt intt
          (some (ptMap std pt)) (ctMap std ct)).bind
          (fun ct' => decrypt RQ.mont ct' (RQ.mont.toM (std s'))) = some (ptMap std out)
      ∧ out.value - pt.value = montIf rpMont pt.md.isMont e + a * (s' - s) ∧ out.md = pt.md := by
  obtain ⟨out, h1, h2, h3, _⟩ :=
    wrong_key_rpoly hodd id id pt ct o0 o1 rest hct a e s s' hpt hctwf ha he hs hs'
  have hn := enc_dec_nat std_hom std_montHom _ _ (ezSk_nat std_hom std_montHom a e (rpMont.toM s))
    id id ntt intt (some pt) ct (rpMont.toM s')
  rw [h1] at hn
  exact ⟨out, hn, h2, h3⟩

theorem dec_enc_pk_noP_rq (hodd : ∀ q ∈ qs, q % 2 = 1) (ntt intt : RQ → RQ) (pt : Pt RPoly μ)
    (ct : Ct RPoly μ) (o0 o1 : RPoly) (rest : List RPoly) (hct : ct.value = o0 :: o1 :: rest)
    (u e0 e1 pk0 pk1 epk s : RPoly) (hpk : pk0 + pk1 * s = epk)
    (hpt : WFq qs n pt.value) (hctwf : ∀ p ∈ ct.value, WFq qs n p)
    (hu : WFq qs n u) (he0 : WFq qs n e0) (he1 : WFq qs n e1) (hpk0 : WFq qs n pk0)
    (hpk1 : WFq qs n pk1) (hs : WFq qs n s) :
    (encrypt (ezPkNoP RQ.mont (std u) (std e0) (std e1) (RQ.mont.toM (std pk0)) (RQ.mont.toM (std pk1)))
        ntt intt (some (ptMap std pt)) (ctMap std ct)).bind
        (fun ct' => decrypt RQ.mont ct' (RQ.mont.toM (std s)))
      = some (ptMap std { value := pt.value + montIf rpMont pt.md.isMont (u * epk + e0 + e1 * s),
                          md := pt.md }) := by
  have hn := enc_dec_nat std_hom std_montHom _ _
    (ezPkNoP_nat std_hom std_montHom u e0 e1 (rpMont.toM pk0) (rpMont.toM pk1))
    id id ntt intt (some pt) ct (rpMont.toM s)
  rw [dec_enc_pk_noP_rpoly hodd id id pt ct o0 o1 rest hct u e0 e1 pk0 pk1 epk s hpk hpt hctwf hu he0 he1
    hpk0 hpk1 hs] at hn
  exact hn

end rq

section driver
open Driver.C03
variable {qs : List ℕ} {n : ℕ} [Good qs n] {μ : Type}

/-- what the handler prints for a result of `RQ.encryptAt` / `RQ.decryptAt` (copied from the handlers) -/
def showEnc : RQ.Res (Nat × Ct RQ String) → String
  | .err => "err"
  | .panic => "panic"
  | .ok (l, r) => s!"ok lvl={l} ntt={b2s r.md.isNTT} mont={b2s r.md.isMont} meta={r.md.pt} ct={showPolys r.value}"

def showDec : RQ.Res (Nat × Pt RQ String) → String
  | .err => "err"
  | .panic => "panic"
  | .ok (l, r) => s!"ok lvl={l} ntt={b2s r.md.isNTT} mont={b2s r.md.isMont} meta={r.md.pt} pt={Driver.showMat r.value.p.c}"

theorem showEnc_eq (x : RQ.Res (Nat × Ct RQ String)) :
    (match x with
      | .err => some "err"
      | .panic => some "panic"
      | .ok (l, r) =>
        some s!"ok lvl={l} ntt={b2s r.md.isNTT} mont={b2s r.md.isMont} meta={r.md.pt} ct={showPolys r.value}")
      = some (showEnc x) := by
  cases x <;> rfl

/-- **the `dec` handler calls `RQ.decryptAt`** on the parsed values and prints its result -/
theorem handleDec_calls (h : Hdr) (toks : List String) (lc lpt : Nat) (ntt mont : Bool) (md : String)
    (cts : List RQ) (skq : RQ)
    (h1 : getNat toks "lc" = some lc) (h2 : getNat toks "lpt" = some lpt)
    (h3 : getBool toks "ntt" = some ntt) (h4 : getBool toks "mont" = some mont)
    (h5 : Driver.kv? toks "meta" = some md) (h6 : (Driver.kv? toks "ct").bind (parsePolys h) = some cts)
    (h7 : getQ h toks "skq" = some skq) :
    handleDec h toks
      = some (showDec (RQ.decryptAt skq lc lpt { value := cts, md := { pt := md, isNTT := ntt, isMont := mont } })) := by
  simp only [handleDec, h1, h2, h3, h4, h5, h6, h7, Option.bind_eq_bind, Option.bind_some, showDec]
  cases RQ.decryptAt skq lc lpt { value := cts, md := { pt := md, isNTT := ntt, isMont := mont } } <;> rfl

/-- **the `enc` handler with `key=sk` and a plaintext calls `RQ.encryptAt`** on the parsed values -/
theorem handleEnc_sk_calls (h : Hdr) (toks : List String) (lc lp : Nat) (cntt cmont pntt pmont : Bool)
    (cmeta pmeta : String) (old : List RQ) (v a e0 skq : RQ)
    (h1 : Driver.kv? toks "key" = some "sk") (h2 : getNat toks "lc" = some lc)
    (h3 : getBool toks "cntt" = some cntt) (h4 : getBool toks "cmont" = some cmont)
    (h5 : Driver.kv? toks "cmeta" = some cmeta) (h6 : (Driver.kv? toks "old").bind (parsePolys h) = some old)
    (h7 : getBool toks "haspt" = some true) (h8 : getNat toks "lp" = some lp)
    (h9 : getBool toks "pntt" = some pntt) (h10 : getBool toks "pmont" = some pmont)
    (h11 : Driver.kv? toks "pmeta" = some pmeta) (h12 : getQ h toks "pt" = some v)
    (h13 : getQ h toks "a" = some a) (h14 : getQ h toks "e0" = some e0) (h15 : getQ h toks "skq" = some skq) :
    handleEnc h toks
      = some (showEnc (RQ.encryptAt (.sk skq) (!h.p.isEmpty) (h.p.headD 1) lc (some lp)
          { a := a, u := zeroRQ h (min lp lc), e0 := e0, e1 := zeroRQ h (min lp lc) }
          (some { value := v, md := { pt := pmeta, isNTT := pntt, isMont := pmont } })
          { value := old, md := { pt := cmeta, isNTT := cntt, isMont := cmont } })) := by
  -- `rw`, not `simp`: `simp` spends seconds reducing the match on the string literal `"sk"`
  unfold handleEnc
  rw [h1, h2, h3, h4, h5, h6, h7, h8, h9, h10, h11, h12, h13, h14, h15]
  exact showEnc_eq _

/-- the parsed polynomials of a standard-ring line (`ci=0`) are `std` of plain `RPoly`s -/
theorem mkRQ_std (qsAll : List ℕ) (m : List (List ℕ)) :
    mkRQ false qsAll m = std { qs := qsAll.take m.length, c := m } := rfl

theorem atLevel_val (x : WFPoly qs n) (l : ℕ) (hl : qs.length ≤ l + 1) : (val x).atLevel l = val x := by
  obtain ⟨⟨xqs, xc⟩, h1, h2, _⟩ := x
  simp only at h1 h2
  subst h1
  simp only [val, RPoly.atLevel]
  rw [List.take_of_length_le hl, List.take_of_length_le (by rw [h2]; exact hl)]

theorem atLevel_wfq {Q : List ℕ} {p : RPoly} (h : WFq Q n p) (l : ℕ) : WFq (Q.take (l + 1)) n (p.atLevel l) :=
  takeRows_take_wf h (l + 1)

/-- the map `WFPoly qs n → RQ` the driver's values come from -/
def valQ (x : WFPoly qs n) : RQ := std (val x)

theorem valQ_hom : OpsHom (valQ (qs := qs) (n := n)) := by
  show OpsHom (fun x : WFPoly qs n => std (val x))
  exact OpsHom.comp std_hom val_hom
theorem valQ_montHom : MontHom (valQ (qs := qs) (n := n)) WFPoly.mont RQ.mont := by
  show MontHom (fun x : WFPoly qs n => std (val x)) _ _
  exact MontHom.comp std_montHom val_montHom

/-- The functions the handlers call (`handleEnc_sk_calls`, `handleDec_calls`):
`RQ.encryptAt` under a secret key with a plaintext, then `RQ.decryptAt` of its output at the output
level.  `level = min lp lc`; the hypotheses are well-formedness (over the moduli `qs` of that level, all
odd) of the level-truncated inputs — `atLevel_wfq` derives them from well-formedness over the full chain. -/
theorem driver_dec_enc_sk (hodd : ∀ q ∈ qs, q % 2 = 1) (hasP : Bool) (p0 lc lp : ℕ) (sQ a e0 : RPoly)
    (u e1 : RQ) (pt : Pt RPoly μ) (ct : Ct RPoly μ) (o0 o1 : RPoly) (rest : List RPoly)
    (hct : ct.value = o0 :: o1 :: rest) (hlen : qs.length ≤ min lp lc + 1)
    (hs : WFq qs n (sQ.atLevel (min lp lc))) (ha : WFq qs n a) (he : WFq qs n e0)
    (hpt : WFq qs n (pt.value.atLevel (min lp lc)))
    (hctwf : ∀ p ∈ ct.value, WFq qs n (p.atLevel (min lp lc))) :
    ∃ ct', RQ.encryptAt (.sk (std sQ)) hasP p0 lc (some lp) { a := std a, u := u, e0 := std e0, e1 := e1 }
        (some (ptMap std pt)) (ctMap std ct) = .ok (min lp lc, ct')
      ∧ RQ.decryptAt (std sQ) (min lp lc) (min lp lc) ct'
        = .ok (min lp lc, ptMap std { value := pt.value.atLevel (min lp lc) + montIf rpMont pt.md.isMont e0,
                                      md := pt.md }) := by
  -- the level occurs in the goal, in the hypotheses and, after unfolding, inside `encryptAt`/`decryptAt` (as `min lp lc`
  -- and as `min level level`): one name for it everywhere, so that the rewrites below meet one and the same term
  generalize hlvl : min lp lc = level at *
  obtain ⟨a', rfl⟩ := exists_lift a ha
  obtain ⟨e', rfl⟩ := exists_lift e0 he
  obtain ⟨sM, hsM⟩ := exists_lift _ hs
  obtain ⟨pv, hpv⟩ := exists_lift _ hpt
  obtain ⟨cv, hcv⟩ := CanLift.prf (β := List (WFPoly qs n)) (ct.value.map (·.atLevel level))
    (List.forall_mem_map.2 hctwf)
  obtain ⟨o0', o1', rest', hcv'⟩ := map_eq_cons2 (hcv.trans (congrArg _ hct))
  -- the secret whose stored (Montgomery) form is the truncated key
  have hI := WFPoly.isMont_mont_of_odd (qs := qs) (n := n) hodd
  let pt' : Pt (WFPoly qs n) μ := { value := pv, md := pt.md }
  let ct' : Ct (WFPoly qs n) μ := { value := cv, md := ct.md }
  have hg := dec_enc_sk_gen hI id id pt' ct' o0' o1' rest' hcv' a' e' (WFPoly.mont.ofM sM)
  rw [toM_ofM hI] at hg
  obtain ⟨c, hc1, hc2⟩ := Option.bind_eq_some_iff.1 hg
  have hn1 := encrypt_nat valQ_hom _ _ (ezSk_nat valQ_hom valQ_montHom a' e' sM) id id id id (some pt') ct'
  rw [hc1] at hn1
  have hn2 := decrypt_nat valQ_hom valQ_montHom c sM
  rw [hc2] at hn2
  -- the arguments `encryptAt` builds are the images of the lifted ones
  have hkey : (std sQ).atLevel level = valQ sM := congrArg std hsM.symm
  have hctA : ({ value := (ctMap std ct).value.map (·.atLevel level), md := (ctMap std ct).md } : Ct RQ μ)
      = ctMap valQ ct' := by
    have : cv.map valQ = (cv.map val).map std := (List.map_map ..).symm
    simp only [ctMap, ct', this, hcv, List.map_map]
    rfl
  have hptA : (Option.map (fun p : Pt RQ μ => ({ value := p.value.atLevel level, md := p.md } : Pt RQ μ))
      (some (ptMap std pt))) = Option.map (ptMap valQ) (some pt') := by
    exact congrArg (fun v => some ({ value := std v, md := pt.md } : Pt RQ μ)) hpv.symm
  refine ⟨ctMap valQ c, ?_, ?_⟩
  · have hne : (ctMap std ct).value.isEmpty = false := by simp [ctMap, hct]
    simp only [RQ.encryptAt, hne, hlvl, Bool.false_eq_true, if_false]
    rw [hctA, hptA]
    -- what is left of `encryptAt` after the `simp only`, with the key still to be rewritten
    show (match encrypt (ezSk RQ.mont (valQ a') (valQ e') ((std sQ).atLevel level)) id id
        (Option.map (ptMap valQ) (some pt')) (ctMap valQ ct') with
      | some r => RQ.Res.ok (level, r) | none => RQ.Res.panic) = _
    rw [hkey, hn1]
    rfl
  · -- `decryptAt` truncates the ciphertext once more: the identity, since by `hlen` the chain `qs` ends at that level
    have hid : (ctMap valQ c).value.map (·.atLevel level) = (ctMap valQ c).value := by
      rw [ctMap, List.map_map]
      exact List.map_congr_left fun x _ => congrArg std (atLevel_val x level hlen)
    simp only [RQ.decryptAt, Nat.min_self, hid]
    show (match decrypt RQ.mont (ctMap valQ c) ((std sQ).atLevel level) with
      | some r => RQ.Res.ok (level, r) | none => RQ.Res.panic) = _
    rw [hkey, hn2]
    simp only [Option.map_some, ptMap, valQ, pt', val_hom.add, montIf_push, hpv]

end driver

section concrete

instance good8 : Good [97, 193] 8 := ⟨by decide, by decide⟩

def a8 : RPoly := ⟨[97, 193], [[1, 2, 3, 4, 5, 6, 7, 8], [10, 20, 30, 40, 50, 60, 70, 80]]⟩
def e8 : RPoly := ⟨[97, 193], [[1, 0, 96, 0, 2, 0, 95, 1], [1, 0, 192, 0, 2, 0, 191, 1]]⟩
def s8 : RPoly := ⟨[97, 193], [[1, 96, 0, 1, 0, 0, 96, 1], [1, 192, 0, 1, 0, 0, 192, 1]]⟩
def s8' : RPoly := ⟨[97, 193], [[0, 1, 1, 0, 96, 0, 0, 1], [0, 1, 1, 0, 192, 0, 0, 1]]⟩
def m8 : RPoly := ⟨[97, 193], [[5, 6, 7, 8, 9, 10, 11, 12], [5, 6, 7, 8, 9, 10, 11, 12]]⟩
def z8 : RPoly := RPoly.zero [97, 193] 8
def pt8 : Pt RPoly Unit := ⟨m8, ⟨(), true, true⟩⟩
def ct8 : Ct RPoly Unit := ⟨[z8, z8, a8], ⟨(), false, false⟩⟩

/-- the hypotheses of the `…_rpoly` theorems hold for these values (decidable) -/
example : (∀ q ∈ [97, 193], q % 2 = 1) ∧ WFq [97, 193] 8 a8 ∧ WFq [97, 193] 8 e8 ∧ WFq [97, 193] 8 s8
    ∧ WFq [97, 193] 8 pt8.value ∧ ∀ p ∈ ct8.value, WFq [97, 193] 8 p := by decide

/-- an instance of `dec_enc_sk_rpoly` obtained FROM THE THEOREM (degree-2 target, Montgomery flag set) -/
example : (encrypt (ezSk rpMont a8 e8 (rpMont.toM s8)) id id (some pt8) ct8).bind
      (fun ct' => decrypt rpMont ct' (rpMont.toM s8))
    = some { value := m8 + montIf rpMont true e8, md := ⟨(), true, true⟩ } :=
  dec_enc_sk_rpoly (qs := [97, 193]) (n := 8) (by decide) id id pt8 ct8 z8 z8 [a8] rfl a8 e8 s8
    (by decide) (by decide) (by decide) (by decide) (by decide)

/-- TEST (evaluation of the model on these values): the same identity, and the value of the right-hand side -/
example : (encrypt (ezSk rpMont a8 e8 (rpMont.toM s8)) id id (some pt8) ct8).bind
      (fun ct' => decrypt rpMont ct' (rpMont.toM s8))
    = some { value := m8 + montIf rpMont true e8, md := ⟨(), true, true⟩ } := by decide +kernel

example : m8 + montIf rpMont true e8
    = ⟨[97, 193], [[66, 6, 43, 8, 34, 10, 83, 73], [89, 6, 116, 8, 177, 10, 36, 96]]⟩ := by decide +kernel

/-- TEST: wrong key — the distance to the plaintext is `e' + a·(s' − s)` on these values -/
example : ((encrypt (ezSk rpMont a8 e8 (rpMont.toM s8)) id id (some pt8) ct8).bind
      (fun ct' => decrypt rpMont ct' (rpMont.toM s8'))).map (fun out => out.value - m8)
    = some (montIf rpMont true e8 + a8 * (s8' - s8)) := by decide +kernel

/-- the driver-level theorem applies to these values (levels `lc = lp = 1`, chain `[97, 193]`) -/
example : ∃ ct', RQ.encryptAt (.sk (std (rpMont.toM s8))) false 1 1 (some 1)
      { a := std a8, u := std z8, e0 := std e8, e1 := std z8 } (some (ptMap std pt8)) (ctMap std ct8) = .ok (1, ct')
    ∧ RQ.decryptAt (std (rpMont.toM s8)) 1 1 ct'
      = .ok (1, ptMap std { value := m8.atLevel 1 + montIf rpMont true e8, md := ⟨(), true, true⟩ }) :=
  driver_dec_enc_sk (qs := [97, 193]) (n := 8) (by decide) false 1 1 1 (rpMont.toM s8) a8 e8 (std z8) (std z8)
    pt8 ct8 z8 z8 [a8] rfl (by decide) (by decide +kernel) (by decide) (by decide) (by decide) (by decide)

end concrete

end Lattigo.Props.C03Ring

#print axioms Lattigo.Props.C03Ring.dec_enc_sk_rpoly
#print axioms Lattigo.Props.C03Ring.wrong_key_rpoly
#print axioms Lattigo.Props.C03Ring.dec_enc_pk_noP_rpoly
#print axioms Lattigo.Props.C03Ring.genPublicKey_noise_rpoly
#print axioms Lattigo.Props.C03Ring.dec_enc_pk_P_rpoly
#print axioms Lattigo.Props.C03Ring.pk_P_noise_rpoly
#print axioms Lattigo.Props.C03Ring.dec_enc_sk_rq
#print axioms Lattigo.Props.C03Ring.wrong_key_rq
#print axioms Lattigo.Props.C03Ring.dec_enc_pk_noP_rq
#print axioms Lattigo.Props.C03Ring.driver_dec_enc_sk
#print axioms Lattigo.Props.C03Ring.handleDec_calls
#print axioms Lattigo.Props.C03Ring.handleEnc_sk_calls
