/-
  C03 ⟵ C02: public-key encryption with the auxiliary modulus, the rounding hypothesis DISCHARGED.

  `Props/C03Ring.dec_enc_pk_P_rpoly` and `pk_P_noise_rpoly` take ABSTRACT `ext`, `down`, `rem`, the second with the
  rounding identity `P·down x = π x − π(rem x)` as a hypothesis.  Here they are the functions the model (`RLWE.RQ.encryptZeroAt`) calls:
  `ext = RQ.extSmall ps`, `down = RQ.modDown #qs`, `rem = StackKS.remC` (the centred remainder modulo `P`: C02's
  `centeredRep P` of the CRT value of every coefficient), `P = Π ps` as a constant of `R_Q`, and the identity is PROVED
  (`StackKS.rq_modDown_closed`: `RPoly.crt` reconstructs by C02's `hps_sum_eq`, `P·P⁻¹ = 1` by `modInv_spec`), for every
  chain `qs ++ ps` of pairwise coprime odd moduli, every `n ≥ 1`, all well-formed inputs.  `RQ.modDown` uses no
  floating point: there is NO hypothesis on any index.

  * `dec_enc_pk_P_closed` : decryption of an encryption under the public key is `pt + D`,
        `P·D = π(ext u·e_pk + ext e0 + ext e1·s) − π(rem c0) − π(rem c1)·π s`,
        `rem c_i ≡ c_i (mod P)`, `2‖rem c_i‖∞ ≤ P`;
  * `dec_enc_pk_P_rq`     : the same about the expression the driver evaluates on its carrier `RQ`;
  * `extR_ofInts`         : `ExtendBasisSmallNormAndCenter` of the reduction of a small integer polynomial is its
        reduction modulo `QP` (`2|x| < q₀`; C02's `extendSmallNorm` at the level of the model);
  * `dec_enc_pk_P_noise_closed` : with `u, e0, e1, e_pk, s` reductions of integer polynomials, `D = ofInts D^Z` with
        `2P‖D^Z‖∞ ≤ 2‖u·e_pk + e0 + s·e1‖∞ + P(1 + ‖s‖₁)` — `ZPoly.noise_upper_pk_P` with `hrel`, `hd0`, `hd1` derived
        (through `Proofs/StackKSZ`: `ofInts : Z[X]/(X^n+1) → R_q` is a ring homomorphism).
-/
import Lattigo.Props.C03Ring
import Lattigo.Proofs.StackKSExact
import Lattigo.Proofs.StackKSNoise
import Mathlib.Data.List.GetD

set_option linter.unusedSectionVars false

namespace Lattigo.Props.C03Stack
open Lattigo Lattigo.RLWE Lattigo.RPolyRing Lattigo.Transport Lattigo.Props.C03Ring Lattigo.StackKS
open Lattigo.Scaling (prodN)

/-- the model's basis extension / rounded division, on plain `RPoly` values (standard ring) -/
def extR (ps : List ℕ) (x : RPoly) : RPoly := (RQ.extSmall ps (std x)).p
def downR (nQ : ℕ) (x : RPoly) : RPoly := (RQ.modDown nQ (std x)).p

theorem std_extR (ps : List ℕ) (x : RPoly) : RQ.extSmall ps (std x) = std (extR ps x) := rfl
theorem std_downR (nQ : ℕ) (x : RPoly) : RQ.modDown nQ (std x) = std (downR nQ x) := rfl

section ext
variable {qs ps : List ℕ} {n : ℕ}

theorem append_rows_wf (xc rowsP : List (List ℕ)) (hx : WFq qs n ⟨qs, xc⟩) (hP : WFq ps n ⟨ps, rowsP⟩) :
    WFq (qs ++ ps) n ⟨qs ++ ps, xc ++ rowsP⟩ := by
  have hl : xc.length = qs.length := hx.c_length
  have hlP : rowsP.length = ps.length := hP.c_length
  refine ⟨rfl, ?_, fun i hi => ?_⟩
  · show (xc ++ rowsP).length = (qs ++ ps).length
    rw [List.length_append, List.length_append, hl, hlP]
  · have hi2 : i < qs.length + ps.length := by rw [← List.length_append]; exact hi
    show RowWF ((qs ++ ps)[i]) n ((xc ++ rowsP).getD i [])
    by_cases hlt : i < qs.length
    · rw [List.getElem_append_left hlt, List.getD_append _ _ _ _ (by omega : i < xc.length)]
      exact hx.row i hlt
    · have hj : i - qs.length < ps.length := by omega
      rw [List.getElem_append_right (by omega), List.getD_append_right _ _ _ _ (by omega : xc.length ≤ i), hl]
      exact hP.row (i - qs.length) hj

/-- `ExtendBasisSmallNormAndCenter` maps well-formed values of `R_Q` to well-formed values of `R_{QP}` -/
theorem extR_wf [hg : Good (qs ++ ps) n] (hqs : qs ≠ []) {x : RPoly} (hx : WFq qs n x) :
    WFq (qs ++ ps) n (extR ps x) := by
  have hhead : (x.c.headD []).length = n := headD_length hx hqs
  obtain ⟨xq, xc⟩ := x
  have h1 : xq = qs := hx.qs_eq
  subst h1
  show WFq (xq ++ ps) n ⟨xq ++ ps, xc ++ ps.map _⟩
  refine append_rows_wf xc _ hx ⟨rfl, by simp, fun i hi => ?_⟩
  have hi' : i < ps.length := hi
  have hp2 : 2 ≤ ps[i] := hg.q_ge _ (List.mem_append_right _ (List.getElem_mem hi'))
  show RowWF ps[i] n ((ps.map _).getD i [])
  rw [List.getD_eq_getElem?_getD, List.getElem?_map, List.getElem?_eq_getElem hi']
  exact RowWF.map _ (fun c => by split <;> exact Nat.mod_lt _ (by omega)) hhead

end ext

section closed
variable {qs ps : List ℕ} {n : ℕ} [hgq : Good qs n] [hg : Good (qs ++ ps) n] {μ : Type}

theorem cenZ_partP_bound {x : RPoly} (hx : WFq (qs ++ ps) n x) :
    ∀ c ∈ cenZ (KS.partP qs.length x), 2 * c.natAbs ≤ prodN ps := by
  have hq : (KS.partP qs.length x).qs = ps := (partP_wf hx).1
  have := cenZ_bound (KS.partP qs.length x)
    (by rw [hq]; exact Scaling.prodN_pos ps (pos_of_ge2 (good_right hg).q_ge))
  rwa [hq] at this

/-- Public-key encryption with the auxiliary modulus followed by decryption, with the
model's own `ExtendBasisSmallNormAndCenter` (`extR`), `ModDownQPtoQ` (`downR`) and centred remainder (`remC`):
the plaintext comes back plus `D`, where `P·D` is the encryption noise modulo `QP` minus the centred remainders
modulo `P` of the two components; the remainders are congruent to the components modulo `P` and bounded by `P/2`. -/
theorem dec_enc_pk_P_closed (hqs : qs ≠ []) (hps : ps ≠ []) (hco : (qs ++ ps).Pairwise Nat.Coprime)
    (hodd : ∀ q ∈ qs ++ ps, q % 2 = 1)
    (ntt intt : RPoly → RPoly) (pt : Pt RPoly μ) (ct : Ct RPoly μ) (o0 o1 : RPoly) (rest : List RPoly)
    (hct : ct.value = o0 :: o1 :: rest)
    (u e0 e1 : RPoly) (pk0 pk1 epk sQP : RPoly) (hpk : pk0 + pk1 * sQP = epk)
    (hpt : WFq qs n pt.value) (hctwf : ∀ p ∈ ct.value, WFq qs n p)
    (hu : WFq qs n u) (he0 : WFq qs n e0) (he1 : WFq qs n e1)
    (hpk0 : WFq (qs ++ ps) n pk0) (hpk1 : WFq (qs ++ ps) n pk1) (hs : WFq (qs ++ ps) n sQP) :
    let π := takeRows qs.length
    let P := constQ qs n (RPoly.prod ps)
    let c0 := extR ps u * pk0 + extR ps e0
    let c1 := extR ps u * pk1 + extR ps e1
    let D := downR qs.length c0 + π sQP * downR qs.length c1
    ((encrypt (ezPk rpMont rpMont (extR ps) (downR qs.length) u e0 e1 (rpMont.toM pk0) (rpMont.toM pk1))
          ntt intt (some pt) ct).bind (fun ct' => decrypt rpMont ct' (rpMont.toM (π sQP)))
        = some { value := pt.value + montIf rpMont pt.md.isMont D, md := pt.md })
      ∧ P * D = π (extR ps u * epk + extR ps e0 + extR ps e1 * sQP)
                  - π (remC qs ps c0) - π (remC qs ps c1) * π sQP
      ∧ KS.partP qs.length (remC qs ps c0) = KS.partP qs.length c0
      ∧ KS.partP qs.length (remC qs ps c1) = KS.partP qs.length c1
      ∧ (∀ c ∈ cenZ (KS.partP qs.length c0), 2 * c.natAbs ≤ prodN ps)
      ∧ (∀ c ∈ cenZ (KS.partP qs.length c1), 2 * c.natAbs ≤ prodN ps) := by
  intro π P c0 c1 D
  have hcop := coprime_prod_of_pairwise hco
  have hpsc := (List.pairwise_append.1 hco).2.1
  have hpge : ∀ p ∈ ps, 2 ≤ p := (good_right hg).q_ge
  have hext : ∀ x, WFq qs n x → WFq (qs ++ ps) n (extR ps x) := fun x hx => extR_wf hqs hx
  have hclosed : ∀ x, WFq (qs ++ ps) n x →
      P * downR qs.length x = takeRows qs.length x - takeRows qs.length (remC qs ps x)
        ∧ WFq qs n (downR qs.length x) := fun x hx => rq_modDown_closed hps hpsc hcop false hx
  have hc0 : WFq (qs ++ ps) n c0 := ((hext u hu).mul hpk0).add (hext e0 he0)
  have hc1 : WFq (qs ++ ps) n c1 := ((hext u hu).mul hpk1).add (hext e1 he1)
  exact ⟨dec_enc_pk_P_rpoly hodd (extR ps) (downR qs.length) hext (fun x hx => (hclosed x hx).2) ntt intt pt ct o0 o1
      rest hct u e0 e1 (π sQP) pk0 pk1 hpt hctwf hu he0 he1 (takeRows_wf hs) hpk0 hpk1,
    pk_P_noise_rpoly P (downR qs.length) (remC qs ps) (fun x hx => (hclosed x hx).2) (fun x hx => remC_wf hx hps)
      (constQ_wf _) (fun x hx => (hclosed x hx).1) _ _ _ pk0 pk1 sQP epk hpk (hext u hu) (hext e0 he0) (hext e1 he1)
      hpk0 hpk1 hs,
    partP_remC hc0 hps hpsc hpge, partP_remC hc1 hps hpsc hpge, cenZ_partP_bound hc0, cenZ_partP_bound hc1⟩

/-- `dec_enc_pk_P_closed`, first part, about the expression the driver evaluates on its carrier `RQ`
(`RQ.encryptZeroAt`, key `pk`, `hasP`: `ezPk mont mont (extSmall ps) (modDown #qs) …`, standard ring) -/
theorem dec_enc_pk_P_rq (hqs : qs ≠ []) (hps : ps ≠ []) (hco : (qs ++ ps).Pairwise Nat.Coprime)
    (hodd : ∀ q ∈ qs ++ ps, q % 2 = 1)
    (ntt intt : RQ → RQ) (pt : Pt RPoly μ) (ct : Ct RPoly μ) (o0 o1 : RPoly) (rest : List RPoly)
    (hct : ct.value = o0 :: o1 :: rest)
    (u e0 e1 : RPoly) (pk0 pk1 epk sQP : RPoly) (hpk : pk0 + pk1 * sQP = epk)
    (hpt : WFq qs n pt.value) (hctwf : ∀ p ∈ ct.value, WFq qs n p)
    (hu : WFq qs n u) (he0 : WFq qs n e0) (he1 : WFq qs n e1)
    (hpk0 : WFq (qs ++ ps) n pk0) (hpk1 : WFq (qs ++ ps) n pk1) (hs : WFq (qs ++ ps) n sQP) :
    let π := takeRows qs.length
    let c0 := extR ps u * pk0 + extR ps e0
    let c1 := extR ps u * pk1 + extR ps e1
    let D := downR qs.length c0 + π sQP * downR qs.length c1
    (encrypt (ezPk RQ.mont RQ.mont (RQ.extSmall ps) (RQ.modDown qs.length) (std u) (std e0) (std e1)
          (RQ.mont.toM (std pk0)) (RQ.mont.toM (std pk1))) ntt intt (some (ptMap std pt)) (ctMap std ct)).bind
        (fun ct' => decrypt RQ.mont ct' (RQ.mont.toM (std (π sQP))))
      = some (ptMap std { value := pt.value + montIf rpMont pt.md.isMont D, md := pt.md }) := by
  intro π c0 c1 D
  have hn := enc_dec_nat std_hom std_montHom _ _
    (ezPk_nat (μ := μ) std_hom std_hom std_montHom std_montHom (extR ps) (RQ.extSmall ps) (std_extR ps)
      (downR qs.length) (RQ.modDown qs.length) (std_downR qs.length) u e0 e1 (rpMont.toM pk0) (rpMont.toM pk1))
    id id ntt intt (some pt) ct (rpMont.toM (π sQP))
  rw [(dec_enc_pk_P_closed hqs hps hco hodd id id pt ct o0 o1 rest hct u e0 e1 pk0 pk1 epk sQP hpk hpt hctwf hu
    he0 he1 hpk0 hpk1 hs).1] at hn
  exact hn

end closed

section noise
open Lattigo.ZPoly
variable {qs ps : List ℕ} {n : ℕ} [hgq : Good qs n] [hg : Good (qs ++ ps) n] {μ : Type}

/-- **`ExtendBasisSmallNormAndCenter` of the reduction of a small integer polynomial is its reduction modulo `QP`**
(`RQ.extSmall_ofInts` on the standard ring) -/
theorem extR_ofInts (hqs : qs ≠ []) (hps : ∀ p ∈ ps, 0 < p) (v : List ℤ)
    (h1 : ∀ x ∈ v, 2 * x.natAbs < qs.headD 1) :
    extR ps (RPoly.ofInts qs v) = RPoly.ofInts (qs ++ ps) v := by
  obtain ⟨q0, qs', rfl⟩ := List.exists_cons_of_ne_nil hqs
  exact congrArg RQ.p (RQ.extSmall_ofInts false q0 qs' ps hps v h1)

theorem pk_recombine {eu ee0 ee1 pk0 pk1 s epk : RPoly} (h1 : WFq qs n eu) (h2 : WFq qs n ee0)
    (h3 : WFq qs n ee1) (h4 : WFq qs n pk0) (h5 : WFq qs n pk1) (h6 : WFq qs n s) (hpk : pk0 + pk1 * s = epk) :
    (eu * pk0 + ee0) + (eu * pk1 + ee1) * s = eu * epk + ee0 + ee1 * s := by
  subst hpk
  obtain ⟨eu, rfl⟩ := exists_lift eu h1
  obtain ⟨ee0, rfl⟩ := exists_lift ee0 h2
  obtain ⟨ee1, rfl⟩ := exists_lift ee1 h3
  obtain ⟨pk0, rfl⟩ := exists_lift pk0 h4
  obtain ⟨pk1, rfl⟩ := exists_lift pk1 h5
  obtain ⟨s, rfl⟩ := exists_lift s h6
  exact congrArg val (by ring : (eu * pk0 + ee0) + (eu * pk1 + ee1) * s = eu * (pk0 + pk1 * s) + ee0 + ee1 * s)

theorem sub_mul_add_cancel {E b s : RPoly} (hE : WFq qs n E) (hb : WFq qs n b) (hs : WFq qs n s) :
    (E - b * s) + b * s = E := by
  obtain ⟨E, rfl⟩ := exists_lift E hE
  obtain ⟨b, rfl⟩ := exists_lift b hb
  obtain ⟨s, rfl⟩ := exists_lift s hs
  exact congrArg val (sub_add_cancel E (b * s))

theorem sub_sub_mul {a b c s : RPoly} (ha : WFq qs n a) (hb : WFq qs n b) (hc : WFq qs n c)
    (hs : WFq qs n s) : a - b - c * s = a - (b + c * s) :=
  congrArg val (sub_sub (lift a ha) (lift b hb) (lift c hc * lift s hs))

theorem noise_order {u e a b s : RPoly} (hu : WFq qs n u) (he : WFq qs n e) (ha : WFq qs n a)
    (hb : WFq qs n b) (hs : WFq qs n s) : u * e + a + b * s = u * e + a + s * b := by
  obtain ⟨u, rfl⟩ := exists_lift u hu
  obtain ⟨e, rfl⟩ := exists_lift e he
  obtain ⟨a, rfl⟩ := exists_lift a ha
  obtain ⟨b, rfl⟩ := exists_lift b hb
  obtain ⟨s, rfl⟩ := exists_lift s hs
  exact congrArg val (by ring : u * e + a + b * s = u * e + a + s * b)

set_option linter.unusedVariables false in
/-- Setting of `dec_enc_pk_P_closed` with `u`, `e0`, `e1` the reductions of SMALL integer polynomials (`2|x| < q₀`:
ternary `u`, Gaussian errors), the secret and the key error the reductions of `s^Z`, `e_pk^Z`.  The decryption error `D` is
the reduction of an INTEGER polynomial `D^Z` with

      `2·P·‖D^Z‖∞ ≤ 2·‖u·e_pk + e0 + s·e1‖∞ + P·(1 + ‖s‖₁)`

(`ZPoly.noise_upper_pk_P` with its hypotheses `hrel`, `hd0`, `hd1` DERIVED; `‖u·e_pk + e0 + s·e1‖∞` is bounded by
`noise_upper_pk_noP`).  No hypothesis on any index: `RQ.modDown` reconstructs exactly.
`hpW` and the second conjunct of `hsmall` (`|x| ≤ p_k`) are not needed: `RQ.extSmall` reduces the magnitude modulo `p`,
so the extension of a value with `2|x| < q₀` is exact for EVERY `p > 0` (`RLWE.ext_coeff`). -/
theorem dec_enc_pk_P_noise_closed (hqs : qs ≠ []) (hps : ps ≠ []) (hco : (qs ++ ps).Pairwise Nat.Coprime)
    (hodd : ∀ q ∈ qs ++ ps, q % 2 = 1) (hpW : ∀ p ∈ ps, p < RQ.Rword)
    (uZ e0Z e1Z epkZ sZ : List ℤ) (pk1 : RPoly)
    (hul : uZ.length = n) (he0l : e0Z.length = n) (he1l : e1Z.length = n) (hepkl : epkZ.length = n)
    (hsl : sZ.length = n) (hpk1 : WFq (qs ++ ps) n pk1)
    (hsmall : ∀ v ∈ [uZ, e0Z, e1Z], (∀ x ∈ v, 2 * x.natAbs < qs.headD 1) ∧ ∀ x ∈ v, ∀ p ∈ ps, x.natAbs ≤ p) :
    let L := qs ++ ps
    let π := takeRows qs.length
    let u := RPoly.ofInts qs uZ
    let e0 := RPoly.ofInts qs e0Z
    let e1 := RPoly.ofInts qs e1Z
    let sQP := RPoly.ofInts L sZ
    let pk0 := RPoly.ofInts L epkZ - pk1 * sQP
    let c0 := extR ps u * pk0 + extR ps e0
    let c1 := extR ps u * pk1 + extR ps e1
    let D := downR qs.length c0 + π sQP * downR qs.length c1
    ∃ DZ : List ℤ, DZ.length = n ∧ D = RPoly.ofInts qs DZ
      ∧ 2 * (prodN ps * normInf DZ)
          ≤ 2 * normInf (ZPoly.add (ZPoly.add (ZPoly.mul uZ epkZ) e0Z) (ZPoly.mul sZ e1Z))
            + prodN ps * (1 + norm1 sZ) := by
  intro L π u e0 e1 sQP pk0 c0 c1 D
  have hcop := coprime_prod_of_pairwise hco
  have hpsc := (List.pairwise_append.1 hco).2.1
  have hpge : ∀ p ∈ ps, 2 ≤ p := (good_right hg).q_ge
  have hgp : Good ps n := good_right hg
  have hu : WFq qs n u := ofInts_wf _ hul
  have he0 : WFq qs n e0 := ofInts_wf _ he0l
  have he1 : WFq qs n e1 := ofInts_wf _ he1l
  have hs : WFq L n sQP := ofInts_wf _ hsl
  have hepk : WFq L n (RPoly.ofInts L epkZ) := ofInts_wf _ hepkl
  have hpk0 : WFq L n pk0 := hepk.sub (hpk1.mul hs)
  have hxu : extR ps u = RPoly.ofInts L uZ := extR_ofInts hqs (pos_of_ge2 hpge) uZ (hsmall uZ (by simp)).1
  have hxe0 : extR ps e0 = RPoly.ofInts L e0Z := extR_ofInts hqs (pos_of_ge2 hpge) e0Z (hsmall e0Z (by simp)).1
  have hxe1 : extR ps e1 = RPoly.ofInts L e1Z := extR_ofInts hqs (pos_of_ge2 hpge) e1Z (hsmall e1Z (by simp)).1
  have hxuw : WFq L n (extR ps u) := extR_wf hqs hu
  have hxe0w : WFq L n (extR ps e0) := extR_wf hqs he0
  have hxe1w : WFq L n (extR ps e1) := extR_wf hqs he1
  have hc0 : WFq L n c0 := (hxuw.mul hpk0).add hxe0w
  have hc1 : WFq L n c1 := (hxuw.mul hpk1).add hxe1w
  have hcl0 := rq_modDown_closed (qs := qs) (ps := ps) (n := n) hps hpsc hcop false hc0
  have hcl1 := rq_modDown_closed (qs := qs) (ps := ps) (n := n) hps hpsc hcop false hc1
  have hpk : pk0 + pk1 * sQP = RPoly.ofInts L epkZ := sub_mul_add_cancel hepk hpk1 hs
  -- the noise modulo `QP` and its integer preimage
  set EZ := ZPoly.add (ZPoly.add (ZPoly.mul uZ epkZ) e0Z) (ZPoly.mul sZ e1Z) with hEZ
  have hm1 : (ZPoly.mul uZ epkZ).length = n := by rw [mul_length, hul]
  have hm2 : (ZPoly.mul sZ e1Z).length = n := by rw [mul_length, hsl]
  have hEZl : EZ.length = n := add_length _ _ (add_length _ _ hm1 he0l) hm2
  have hEpoly : extR ps u * RPoly.ofInts L epkZ + extR ps e0 + extR ps e1 * sQP = RPoly.ofInts L EZ := by
    rw [noise_order hxuw hepk hxe0w hxe1w hs, hxu, hxe0, hxe1, hEZ,
      ofInts_add _ _ (add_length _ _ hm1 he0l) hm2, ofInts_add _ _ hm1 he0l, ofInts_mul _ _ hul hepkl,
      ofInts_mul _ _ hsl he1l]
  have hsum : c0 + c1 * sQP = RPoly.zero L n + RPoly.ofInts L EZ := by
    rw [← hEpoly, pk_recombine hxuw hxe0w hxe1w hpk0 hpk1 hs hpk]
    exact congrArg val (zero_add (lift _ (((hxuw.mul hepk).add hxe0w).add (hxe1w.mul hs)))).symm
  set δ0 := cenZ (KS.partP qs.length c0) with hδ0
  set δ1 := cenZ (KS.partP qs.length c1) with hδ1
  have hδ0l : δ0.length = n := cenZ_length (partP_wf hc0) hps
  have hδ1l : δ1.length = n := cenZ_length (partP_wf hc1) hps
  -- the division: `remC c_i = ofInts L δ_i` by definition, and the identity modulo `QP` has no gadget term
  obtain ⟨hsm, hν⟩ := exact_div_pair hco hEZl hδ0l hδ1l hsl hc0 hc1 WFq.zero (partP_remC hc0 hps hpsc hpge)
    (partP_remC hc1 hps hpsc hpge) partP_zero hsum
  have hml : (ZPoly.mul sZ δ1).length = n := by rw [mul_length, hsl]
  refine ⟨(ZPoly.sub (ZPoly.sub EZ δ0) (ZPoly.mul sZ δ1)).map (· / ((prodN ps : ℕ) : ℤ)),
    by rw [List.length_map, sub_length _ _ (sub_length _ _ hEZl hδ0l) hml], ?_, ?_⟩
  · have hDw : WFq qs n D := hcl0.2.add ((takeRows_wf hs).mul hcl1.2)
    have hclosed := pk_P_noise_rpoly (constQ qs n (RPoly.prod ps)) (downR qs.length) (remC qs ps)
      (fun x hx => (rq_modDown_closed hps hpsc hcop false hx).2) (fun x hx => remC_wf hx hps) (constQ_wf _)
      (fun x hx => (rq_modDown_closed hps hpsc hcop false hx).1) _ _ _ pk0 pk1 sQP _ hpk hxuw hxe0w hxe1w hpk0 hpk1 hs
    have hPD : constQ qs n (RPoly.prod ps) * D
        = RPoly.ofInts qs EZ - (RPoly.ofInts qs δ0 + RPoly.ofInts qs δ1 * RPoly.ofInts qs sZ) := by
      rw [hclosed, hEpoly, sub_sub_mul (takeRows_wf (ofInts_wf _ hEZl)) (takeRows_wf (remC_wf hc0 hps))
        (takeRows_wf (remC_wf hc1 hps)) (takeRows_wf hs)]
      show _ - (takeRows qs.length (RPoly.ofInts L δ0) + takeRows qs.length (RPoly.ofInts L δ1) * _) = _
      rw [takeRows_ofInts, takeRows_ofInts, takeRows_ofInts, takeRows_ofInts]
    calc D = KS.pinvElt qs ps n * (constQ qs n (RPoly.prod ps) * D) :=
          (cancel_inv (pinvElt_wf ps) (constQ_wf (RPoly.prod ps)) hDw (pinvElt_mul_constQ hcop)).1.symm
      _ = KS.pinvElt qs ps n
            * (RPoly.ofInts qs EZ - (RPoly.ofInts qs δ0 + RPoly.ofInts qs δ1 * RPoly.ofInts qs sZ)) := by rw [hPD]
      _ = _ := hν
  · exact ZPoly.noise_upper_pk_P (prodN ps) _ EZ δ0 δ1 sZ hsm (two_normInf_le_of (cenZ_partP_bound hc0))
      (two_normInf_le_of (cenZ_partP_bound hc1))

end noise

section concrete

instance : Good [97] 8 := ⟨by decide, by decide⟩
instance : Good ([97] ++ [193]) 8 := ⟨by decide, by decide⟩

/-- ternary `u`, small errors, a public key `(pk0, pk1)` over `QP` with `pk0 + pk1·s = e_pk` -/
def u8 : RPoly := RPoly.ofInts [97] [1, 0, -1, 0, 1, 1, 0, -1]
def e08 : RPoly := RPoly.ofInts [97] [2, -1, 0, 1, 0, -2, 1, 0]
def e18 : RPoly := RPoly.ofInts [97] [0, 1, -1, 0, 2, 0, 0, -1]
def sQP8 : RPoly := RPoly.ofInts [97, 193] [1, -1, 0, 1, 0, 0, -1, 1]
def pk18 : RPoly := ⟨[97, 193], [[1, 2, 3, 4, 5, 6, 7, 8], [10, 20, 30, 40, 50, 60, 70, 80]]⟩
def epk8 : RPoly := RPoly.ofInts [97, 193] [1, 0, -1, 0, 2, 0, -2, 1]
def pk08 : RPoly := epk8 - pk18 * sQP8
def m8 : RPoly := ⟨[97], [[5, 6, 7, 8, 9, 10, 11, 12]]⟩
def z8 : RPoly := RPoly.zero [97] 8
def pt8 : Pt RPoly Unit := ⟨m8, ⟨(), true, true⟩⟩
def ct8 : Ct RPoly Unit := ⟨[z8, z8], ⟨(), false, false⟩⟩

theorem hyps8 : ([97] : List ℕ) ≠ [] ∧ ([193] : List ℕ) ≠ [] ∧ ([97] ++ [193] : List ℕ).Pairwise Nat.Coprime
    ∧ (∀ q ∈ ([97] ++ [193] : List ℕ), q % 2 = 1) ∧ pk08 + pk18 * sQP8 = epk8
    ∧ WFq [97] 8 pt8.value ∧ (∀ p ∈ ct8.value, WFq [97] 8 p) ∧ WFq [97] 8 u8 ∧ WFq [97] 8 e08 ∧ WFq [97] 8 e18
    ∧ WFq ([97] ++ [193]) 8 pk08 ∧ WFq ([97] ++ [193]) 8 pk18 ∧ WFq ([97] ++ [193]) 8 sQP8 := by
  refine ⟨by decide, by decide, by decide, by decide, by decide +kernel, by decide +kernel, by decide +kernel,
    by decide +kernel, by decide +kernel, by decide +kernel, by decide +kernel, by decide +kernel, by decide +kernel⟩

/-- the instance obtained FROM THE THEOREM (`RQ.modDown` is exact: everything is kernel-evaluable) -/
theorem instance8 :
    let π := takeRows 1
    let c0 := extR [193] u8 * pk08 + extR [193] e08
    let c1 := extR [193] u8 * pk18 + extR [193] e18
    let D := downR 1 c0 + π sQP8 * downR 1 c1
    ((encrypt (ezPk rpMont rpMont (extR [193]) (downR 1) u8 e08 e18 (rpMont.toM pk08) (rpMont.toM pk18))
          id id (some pt8) ct8).bind (fun ct' => decrypt rpMont ct' (rpMont.toM (π sQP8)))
        = some { value := m8 + montIf rpMont true D, md := ⟨(), true, true⟩ })
      ∧ constQ [97] 8 (RPoly.prod [193]) * D
          = π (extR [193] u8 * epk8 + extR [193] e08 + extR [193] e18 * sQP8)
            - π (remC [97] [193] c0) - π (remC [97] [193] c1) * π sQP8 := by
  obtain ⟨hqs, hps, hco, hodd, hpk, hpt, hct, hu, he0, he1, hpk0, hpk1, hs⟩ := hyps8
  have h := dec_enc_pk_P_closed (qs := [97]) (ps := [193]) (n := 8) hqs hps hco hodd id id pt8 ct8 z8 z8 [] rfl
    u8 e08 e18 pk08 pk18 epk8 sQP8 hpk hpt hct hu he0 he1 hpk0 hpk1 hs
  exact ⟨h.1, h.2.1⟩

/-- TEST (kernel evaluation of the model on these values): the decrypted value, the noise term `D` and the centred
remainders (all entries `≤ 96 = ⌊193/2⌋` in absolute value) -/
example :
    let c0 := extR [193] u8 * pk08 + extR [193] e08
    let c1 := extR [193] u8 * pk18 + extR [193] e18
    let D := downR 1 c0 + takeRows 1 sQP8 * downR 1 c1
    ((encrypt (ezPk rpMont rpMont (extR [193]) (downR 1) u8 e08 e18 (rpMont.toM pk08) (rpMont.toM pk18))
          id id (some pt8) ct8).bind (fun ct' => decrypt rpMont ct' (rpMont.toM (takeRows 1 sQP8)))
        = some { value := m8 + montIf rpMont true D, md := ⟨(), true, true⟩ })
      ∧ (∀ c ∈ cenZ (KS.partP 1 c0), 2 * c.natAbs ≤ 193) ∧ (∀ c ∈ cenZ (KS.partP 1 c1), 2 * c.natAbs ≤ 193)
      ∧ RPoly.toInts D = [0, 0, 0, 0, -1, 0, 1, -1] := by decide +kernel

/-- the noise instance: the integer lists behind `u8`, `e08`, `e18`, `epk8`, `sQP8` -/
def u8Z : List ℤ := [1, 0, -1, 0, 1, 1, 0, -1]
def e08Z : List ℤ := [2, -1, 0, 1, 0, -2, 1, 0]
def e18Z : List ℤ := [0, 1, -1, 0, 2, 0, 0, -1]
def epk8Z : List ℤ := [1, 0, -1, 0, 2, 0, -2, 1]
def s8Z : List ℤ := [1, -1, 0, 1, 0, 0, -1, 1]

/-- obtained FROM THE THEOREM: the decryption error of `instance8` is the reduction of an integer polynomial of norm
`≤ (2·‖u·e_pk + e0 + s·e1‖∞ + 193·(1 + ‖s‖₁))/(2·193)` -/
theorem instance8_noise :
    let c0 := extR [193] u8 * pk08 + extR [193] e08
    let c1 := extR [193] u8 * pk18 + extR [193] e18
    let D := downR 1 c0 + takeRows 1 sQP8 * downR 1 c1
    ∃ DZ : List ℤ, DZ.length = 8 ∧ D = RPoly.ofInts [97] DZ
      ∧ 2 * (193 * ZPoly.normInf DZ)
          ≤ 2 * ZPoly.normInf (ZPoly.add (ZPoly.add (ZPoly.mul u8Z epk8Z) e08Z) (ZPoly.mul s8Z e18Z))
            + 193 * (1 + ZPoly.norm1 s8Z) := by
  obtain ⟨hqs, hps, hco, hodd, -, -, -, -, -, -, -, hpk1, -⟩ := hyps8
  exact dec_enc_pk_P_noise_closed (qs := [97]) (ps := [193]) (n := 8) hqs hps hco hodd (by decide) u8Z e08Z e18Z epk8Z
    s8Z pk18 (by decide) (by decide) (by decide) (by decide) (by decide) hpk1 (by decide)

/-- TEST (kernel evaluation): the numbers — `‖D‖∞ = 1`, numerator norm `7`, `‖s‖₁ = 5`: `2·193·1 = 386 ≤ 2·7 + 193·6 = 1172` -/
example : ZPoly.normInf (ZPoly.add (ZPoly.add (ZPoly.mul u8Z epk8Z) e08Z) (ZPoly.mul s8Z e18Z)) = 7
    ∧ ZPoly.norm1 s8Z = 5 := by decide +kernel

end concrete

end Lattigo.Props.C03Stack

#print axioms Lattigo.Props.C03Stack.extR_wf
#print axioms Lattigo.Props.C03Stack.dec_enc_pk_P_closed
#print axioms Lattigo.Props.C03Stack.dec_enc_pk_P_rq
#print axioms Lattigo.Props.C03Stack.instance8
#print axioms Lattigo.Props.C03Stack.extR_ofInts
#print axioms Lattigo.Props.C03Stack.dec_enc_pk_P_noise_closed
#print axioms Lattigo.Props.C03Stack.instance8_noise
