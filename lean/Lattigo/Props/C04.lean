/-
  C04 — evaluation keys re-encrypt faithfully for every key parameterisation.

  STATE OF THE PROOFS (files: this one, `C04Ring` [transport to `RPoly`], `C04Noise` [norms], `C04Stack`
  [hypotheses discharged from C02], `C04Gen` [digit counts vs the generated code]).

  A. Proved for ALL inputs (no hypothesis beyond well-formed values over pairwise coprime moduli ≥ 2, degree ≥ 1,
     key generated by the model of the shape the parameters prescribe, ciphertext at the key's level):
     * key with special modulus `P` (#P ≥ 1, any `BaseTwoDecomposition`): `C04Stack.keyswitch_phase_closed`,
       `gadgetProduct_phase_closed`, `relin_phase_closed`, `automorphism_phase_closed`
       (`phase(KS c, s_out) = phase(c, s_in) + ν`, `P·ν = E − rem x₀ − rem x₁·s_out`, `rem x ≡ x (mod P)`);
     * key WITHOUT `P` (parameters without `P`, or `LevelP = -1`): `keyswitch_phase_closed_noP` (§5) — exact, `ν = E`;
     * hoisted products = plain products on such keys: `hoisted_eq_plain_closed` (§5), so the closed theorems hold
       verbatim for `GadgetProductHoisted{,Lazy}`, `AutomorphismHoisted`;
     * lazy `uint64` accumulation never wraps, for any number of digits (word level, op `gplazyw`):
       `gpLazySlot_exact`, `gpLazySlot_exact_bound`, `gpLazySlot_exact_small`, `gpLazySlot_montgomery`, `gpLazyLimb_exact` (§6);
     * ring-degree switch small → large: `embedR` is a ring homomorphism on well-formed values
       (`embedR_add`, `embedR_mul`), `degree_up_phase_rpoly` (§7);
     * key material: `gadget_row`, `expand_eq` (compressed-then-expanded = uncompressed; `C04Ring.expand_eq_rpoly`),
       digit counts `digitCount_sufficient`, `digits_recombine_code`, (G) itself `gadget_identity` /
       `StackKS.gadget_closed`; `hoisted_eq_plain_R`; `KeyMeta.derived` is the identity (derived key forms).
     * generic algebra for every commutative ring: `keyswitch_phase_QP`, `keyswitch_phase`, `keyswitch_decrypts`,
       `relin_phase`, `automorphism_phase`, `automorphismHoistedLazy_phase`, `degree_up_phase`, `degree_down_phase`.
  B. Proved under a NAMED hypothesis:
     * noise bound `2P‖ν‖∞ ≤ 2·n·B·ΣD_ij + P(1+h)`: `C04Stack.keyswitch_noise_closed` under `FloatExactPoly` (the IEEE
       index of `reconstructRNS` equals the exact floor; monitored by the bit-exact tie; only the SIZE of the
       remainder needs it, the phase identity does not);
     * `degree_down_phase` (large → small): `ρ = projectR` additive and `R_small`-linear is a hypothesis (the model
       function `projectR` is tied, not proved linear);
     * `gpLazySlot_*`: digit words `< 6p` (documented `NTTLazy` range), or `p ≤ F+1`, or the numeric margin condition of
       `gpLazySlot_exact_bound` (probe `lazy_digit_range` evaluates the disjunction on every tied limb); key words reduced.
  C. Tied only (model = code on the explored inputs): ciphertext level BELOW the key level (`evkAtLevel`), the
     NTT-flag combinations of `ModDown` (proved for the limb-level twin in C02: `evalModDown_domains`, `evalModDown_noP`), `GenGaloisKey`'s index for `galEl⁻¹`, `Expand` regenerating the stream,
     `AutomorphismHoistedLazy` with a receiver at a higher `LevelP`, derived key forms (`keymeta`).
  D. Probed only (no model of the ciphertext arithmetic): ring packing (`Split`, `Merge`, `Extract{,Naive}`, `Expand`,
     `Pack`, `Repack{,Naive}`; only the index set `Expand` returns is modelled and tied: `expandKeys`, op `expandidx`),
     recycled receivers, rejection of malformed calls, automorphisms on the conjugate-invariant ring.
  E. Not covered: ring swap standard ↔ conjugate-invariant (`ckks.DomainSwitcher`), `#Q > 20`, `LogN > 6` in the tie.

  Defects repaired in /repo, each with theorems about the defective formula: digit count `⌈round(log2 q)/w⌉`
  (`digitCountRoundLog2_*`, fix C04-1), `DecomposeAndSplit(…, nbPi = 0, …)` for keys without `P`
  (`decomposeRNS_nbPi0_ignores_index`, `nbPi0_gadget_identity_counterexample`, fix C04-2); `AutomorphismHoistedLazy` with a
  key at `LevelP = -1` adding the gadget product's second component instead of `c0` (fix C04-7; the model
  `automorphismHoistedLazy` is the repaired behaviour, ops `autl`, `autlmd`); also repaired, not modelled:
  `PiOverflowMargin(-1)` panic (C04-3), ring packing: `Repack` odd-only classes (C04-4), coefficient-domain inputs (C04-5),
  index sets that are not multiples of their smallest gap (C04-6).
-/
import Lattigo.Proofs.Gadget
import Lattigo.Proofs.GadgetDigits
import Lattigo.Proofs.GadgetIdentity
import Lattigo.Proofs.KeySwitch
import Lattigo.Proofs.KeySwitchHoisted
import Lattigo.Proofs.KeySwitchDigits
import Lattigo.Props.C04Ring
import Lattigo.Props.C04Noise
import Lattigo.Props.C04Gen
import Lattigo.Props.C04Stack
import Lattigo.Proofs.KeySwitchClosed
import Lattigo.Proofs.KeySwitchLazy
import Lattigo.Proofs.KeySwitchDegree
import Mathlib.Data.ZMod.Basic
import Mathlib.Tactic.NormNum

set_option linter.unusedSectionVars false

namespace Lattigo.KS.C04

open Lattigo Lattigo.KS

/-! ## 1. Key material -/

/-- `phase(evk[i][j], s_out) = P·g_{ij}·s_in + e_{ij}` for the key `genEvaluationKey`
    produces — stated on the generated key itself, entry by entry. -/
theorem gadget_row {α : Type} [CommRing α] (pg : Nat → Nat → α) (sIn sOut : α)
    (samples : List (List (α × α))) :
    (genEvaluationKey pg sIn sOut samples).map (fun r => r.map fun k => phase k sOut)
      = List.zipWith (fun pr er => List.zipWith (fun p e => p * sIn + e) pr er)
          (pgMat pg samples) (eMat samples) :=
  C04Ring.gadget_row_gen pg sIn sOut samples

example : phase (evkRow (3 : ℤ) 1 2 (7 * 5)) 2 = 7 * 5 + 1 := KS.gadget_row 3 1 2 (7 * 5)

/-- compressed-then-expanded = generated uncompressed from the same `(a_{ij}, e_{ij})`
    (the `a` stream regenerated from the seed is `aMat samples`: same PRNG, same call order). -/
theorem expand_eq {α : Type} [CommRing α] (pg : Nat → Nat → α) (sIn sOut : α)
    (samples : List (List (α × α))) :
    expand (compress (genEvaluationKey pg sIn sOut samples)) (aMat samples)
      = genEvaluationKey pg sIn sOut samples := KS.expand_eq pg sIn sOut samples

example : expand (compress (genEvaluationKey (fun _ _ => (1 : ℤ)) 2 3 [[(4, 5), (6, 7)], [(8, 9)]]))
    (aMat [[((4 : ℤ), (5 : ℤ)), (6, 7)], [(8, 9)]])
    = genEvaluationKey (fun _ _ => (1 : ℤ)) 2 3 [[(4, 5), (6, 7)], [(8, 9)]] := expand_eq _ _ _ _

/-! ## 2. Key switching -/

/-- `Σ d_{ij}·phase(evk[i][j]) = P·c·s_in + Σ d_{ij}·e_{ij}` under (G) -/
theorem keyswitch_phase_QP {α : Type} [CommRing α] (pg : Nat → Nat → α) (P c sIn sOut : α)
    (samples : List (List (α × α))) (d : List (List α))
    (hG : wsumMat 0 d (pgMat pg samples) = P * c) :
    phase (dotMat 0 d (genEvaluationKey pg sIn sOut samples)) sOut
      = P * c * sIn + wsumMat 0 d (eMat samples) :=
  KS.keyswitch_phase_QP pg P c sIn sOut samples d hG

/-- non-vacuity: `P = 3`, base-2 gadget `3·2^j`, `c = 5 = 1 + 2·2`, digits `[1, 2]` -/
example : wsumMat (0 : ℤ) [[1, 2]] (pgMat (fun _ j => 3 * 2 ^ j) [[((10 : ℤ), (1 : ℤ)), (20, -1)]])
    = 3 * 5 := by
  norm_num [wsumMat, wsumRow, pgMat, idxMatFrom, idxRowFrom]

/-- After `ModDown` (`A = R_{QP} →π B = R_Q`), under (G) and (R):
    `phase(KS(c), s_out) = c·s_in + ν`. -/
theorem keyswitch_phase {A B : Type} [CommRing A] [CommRing B] (π : A →+* B)
    (pg : Nat → Nat → A) (P c sIn sOut : A) (samples : List (List (A × A))) (d : List (List A))
    (pinv rho0 rho1 ν : B)
    (hG : wsumMat 0 d (pgMat pg samples) = P * c) (hP : π P * pinv = 1)
    (hR : π (wsumMat 0 d (eMat samples)) - (rho0 + rho1 * π sOut) = π P * ν) :
    let x := dotMat 0 d (genEvaluationKey pg sIn sOut samples)
    phase (modDown pinv (π x.1) rho0, modDown pinv (π x.2) rho1) (π sOut) = π c * π sIn + ν :=
  KS.keyswitch_phase π pg P c sIn sOut samples d pinv rho0 rho1 ν hG hP hR

/-- non-vacuity of (G), `π P · P⁻¹ = 1` and (R) together: `A = ℤ`, `B = ZMod 7`, `P = 3`, `P⁻¹ = 5`;
    `E = 1·1 + 2·(−1) = −1`, `ρ₀ = 2`, `ρ₁ = 0`: `E − ρ₀ = −3 = 3·(−1)`. -/
example : (Int.castRingHom (ZMod 7)) 3 * 5 = 1
    ∧ (Int.castRingHom (ZMod 7)) (wsumMat (0 : ℤ) [[1, 2]] (eMat [[((10 : ℤ), (1 : ℤ)), (20, -1)]]))
        - ((2 : ZMod 7) + 0 * (Int.castRingHom (ZMod 7)) 4) = (Int.castRingHom (ZMod 7)) 3 * (-1) := by
  constructor
  · decide
  · simp only [wsumMat, wsumRow, eMat, List.map]
    decide

/-- `ApplyEvaluationKey`: the output decrypts under `s_out` to the input's phase
    under `s_in` plus the rounded noise. -/
theorem keyswitch_decrypts {A B : Type} [CommRing A] [CommRing B] (π : A →+* B)
    (pg : Nat → Nat → A) (P c1 sIn sOut : A) (samples : List (List (A × A))) (d : List (List A))
    (pinv rho0 rho1 ν c0 : B)
    (hG : wsumMat 0 d (pgMat pg samples) = P * c1) (hP : π P * pinv = 1)
    (hR : π (wsumMat 0 d (eMat samples)) - (rho0 + rho1 * π sOut) = π P * ν) :
    let x := dotMat 0 d (genEvaluationKey pg sIn sOut samples)
    let ks := (modDown pinv (π x.1) rho0, modDown pinv (π x.2) rho1)
    phase (applyEvaluationKey ks (c0, π c1)) (π sOut) = phase (c0, π c1) (π sIn) + ν :=
  applyEvaluationKey_phase _ (c0, π c1) (π sIn) (π sOut) ν
    (KS.keyswitch_phase π pg P c1 sIn sOut samples d pinv rho0 rho1 ν hG hP hR)

/-- With `genRelinearizationKey` (input key `s²`, output key `s`) the relinearised
    ciphertext decrypts under `s` to `c0 + c1·s + c2·s² + ν`. -/
theorem relin_phase {A B : Type} [CommRing A] [CommRing B] (π : A →+* B)
    (pg : Nat → Nat → A) (P c2 s : A) (samples : List (List (A × A))) (d : List (List A))
    (pinv rho0 rho1 ν c0 c1 : B)
    (hG : wsumMat 0 d (pgMat pg samples) = P * c2) (hP : π P * pinv = 1)
    (hR : π (wsumMat 0 d (eMat samples)) - (rho0 + rho1 * π s) = π P * ν) :
    let x := dotMat 0 d (genRelinearizationKey pg s samples)
    let ks := (modDown pinv (π x.1) rho0, modDown pinv (π x.2) rho1)
    phase (relinearize ks (c0, c1, π c2)) (π s) = c0 + c1 * π s + π c2 * (π s * π s) + ν := by
  have h := KS.keyswitch_phase π pg P c2 (s * s) s samples d pinv rho0 rho1 ν hG hP hR
  simp only [map_mul] at h
  exact KS.relin_phase _ (c0, c1, π c2) (π s) ν h

/-- With `genGaloisKey` (the key encrypts `s` under `σ⁻¹(s)`),
    `phase(Aut_g ct, s) = σ_g(phase(ct, s)) + σ_g(ν)` for every ring endomorphism `σ_g` of `R_Q` that
    is compatible with the one used on `R_{QP}` at key generation (`σB (π (σinvA s)) = π s`). -/
theorem automorphism_phase {A B : Type} [CommRing A] [CommRing B] (π : A →+* B) (σB : B →+* B)
    (σinvA : A → A) (pg : Nat → Nat → A) (P c1 s : A) (samples : List (List (A × A)))
    (d : List (List A)) (pinv rho0 rho1 ν c0 : B)
    (hσ : σB (π (σinvA s)) = π s)
    (hG : wsumMat 0 d (pgMat pg samples) = P * c1) (hP : π P * pinv = 1)
    (hR : π (wsumMat 0 d (eMat samples)) - (rho0 + rho1 * π (σinvA s)) = π P * ν) :
    let x := dotMat 0 d (genGaloisKey σinvA pg s samples)
    let ks := (modDown pinv (π x.1) rho0, modDown pinv (π x.2) rho1)
    phase (automorphism σB ks (c0, π c1)) (π s) = σB (phase (c0, π c1) (π s)) + σB ν :=
  KS.automorphism_phase σB (fun _ => π (σinvA s)) _ (c0, π c1) (π s) ν hσ
    (KS.keyswitch_phase π pg P c1 s (σinvA s) samples d pinv rho0 rho1 ν hG hP hR)

/-- non-vacuity of `hσ` with a non-trivial automorphism: `B = ℤ × ℤ`, `σ` = swap -/
example : ((RingEquiv.prodComm : ℤ × ℤ ≃+* ℤ × ℤ) : ℤ × ℤ →+* ℤ × ℤ)
    ((RingHom.id (ℤ × ℤ)) ((fun p : ℤ × ℤ => (p.2, p.1)) (1, 2))) = (RingHom.id (ℤ × ℤ)) (1, 2) := rfl

/-- `AutomorphismHoistedLazy` (no division by `P`): `phase = σ(P·phase(ct, s) + E)` in `R_{QP}` -/
theorem automorphismHoistedLazy_phase {α : Type} [CommRing α] (σ : α →+* α) (σinv : α → α)
    (pg : Nat → Nat → α) (P c0 c1 s : α) (samples : List (List (α × α))) (d : List (List α))
    (hσ : σ (σinv s) = s) (hG : wsumMat 0 d (pgMat pg samples) = P * c1) :
    phase (automorphismHoistedLazy σ (dotMat 0 d (genGaloisKey σinv pg s samples)) (P * c0)) s
      = σ (P * phase (c0, c1) s + wsumMat 0 d (eMat samples)) :=
  KS.automorphismHoistedLazy_phase σ σinv _ P c0 c1 s _ hσ (KS.keyswitch_phase_QP pg P c1 s (σinv s) samples d hG)

/-- Generic form: with one entry per key row the hoisted product IS the plain inner
    product with the same digits. -/
theorem hoisted_eq_plain {α : Type} [CommRing α] (decomp : List α) (evk : List (List (α × α)))
    (h : ∀ r ∈ evk, r.length = 1) :
    gadgetProductHoistedLazy 0 decomp evk = dotMat 0 (decomp.map fun d => [d]) evk :=
  gadgetProductHoistedLazy_eq 0 decomp evk h

example : ∀ r ∈ [[((1 : ℤ), (2 : ℤ))], [(3, 4)]], r.length = 1 := by decide

/-- **degree switch, small → large** (`ApplyEvaluationKey` with `N_in < N_out`): `ι : Y ↦ X^{N/n}` a ring
    homomorphism, key from `ι(s_small)` to `s_large`. -/
theorem degree_up_phase {A β : Type} [CommRing A] [CommRing β] (ι : β →+* A) (ksOf : A → A × A)
    (ct : β × β) (sS : β) (sL ν : A)
    (hks : phase (ksOf (ι ct.2)) sL = ι ct.2 * ι sS + ν) :
    phase (applyEvaluationKeyUp ι ksOf ct) sL = ι (phase ct sS) + ν := by
  simp only [applyEvaluationKeyUp]
  rw [applyEvaluationKey_phase (ksOf (ι ct.2)) (ι ct.1, ι ct.2) (ι sS) sL ν hks]
  simp [phase]

/-- **degree switch, large → small**: `ρ` additive and `R_small`-linear. -/
theorem degree_down_phase {A β : Type} [CommRing A] [CommRing β] (ι : β → A) (ρ : A →+ β)
    (hρ : ∀ x s, ρ (x * ι s) = ρ x * s) (ks ct : A × A) (sL : A) (sS : β) (ν : A)
    (hks : phase ks (ι sS) = ct.2 * sL + ν) :
    phase (applyEvaluationKeyDown ρ ks ct) sS = ρ (phase ct sL) + ρ ν := by
  have h := applyEvaluationKey_phase ks ct sL (ι sS) ν hks
  simp only [applyEvaluationKeyDown]
  simp only [phase] at h ⊢
  rw [← hρ, ← map_add, h, map_add]

/-- non-vacuity of `hρ`: `A = ℤ × ℤ ⊇ β = ℤ` (diagonal), `ρ` = first projection -/
example : ∀ (x : ℤ × ℤ) (s : ℤ),
    (AddMonoidHom.fst ℤ ℤ) (x * (fun t : ℤ => ((t, t) : ℤ × ℤ)) s) = (AddMonoidHom.fst ℤ ℤ) x * s := by
  intro x s; rfl

/-! ## 3. The gadget identity and the digits -/

/-- (G) for the code's RNS row layout (see `Proofs/GadgetIdentity.lean`) -/
theorem gadget_identity {ι : Type} {R : ι → Type} [∀ k, CommRing (R k)] {β : Type}
    (grp : ι → Nat) (P : ∀ k, R k) (b : Nat → ∀ k, R k) (c : ∀ k, R k)
    (samples : List (List β)) (d : List (List (∀ k, R k)))
    (hrec : ∀ k, wsumRow 0 ((d.getD (grp k) []).map fun x => x k)
              (idxRowFrom (fun _ j => b j k) 0 0 (samples.getD (grp k) [])) = c k) :
    wsumMat 0 d (pgMat (fun i j => fun k => if grp k = i then P k * b j k else 0) samples) = P * c :=
  KS.gadget_identity grp P b c samples d hrec

/-- non-vacuity: two rows (`ι = Bool`, both `ℤ`), row `false` in group 0, row `true` in group 1,
    `c = (5, 6)`, base 2 digits `5 = 1 + 0·2 + 1·4`, `6 = 0 + 1·2 + 1·4` -/
example : ∀ k : Bool,
    wsumRow 0 ((([[fun _ => 1, fun _ => 0, fun _ => 1], [fun _ => 0, fun _ => 1, fun _ => 1]] :
        List (List (Bool → ℤ))).getD ((fun k : Bool => if k then 1 else 0) k) []).map fun x => x k)
      (idxRowFrom (fun _ j => (2 : ℤ) ^ j) 0 0
        (([[(), (), ()], [(), (), ()]] : List (List Unit)).getD
          ((fun k : Bool => if k then 1 else 0) k) []))
      = (fun k : Bool => if k then (6 : ℤ) else 5) k := by
  intro k; cases k <;> norm_num [wsumRow, idxRowFrom]

/-- `q ≤ 2^{w·n}` ⇒ the `n` shift/mask digits of every `x < q` reassemble `x` -/
theorem digits_recombine (w n q x : Nat) (hq : q ≤ 2 ^ (w * n)) (hx : x < q) :
    recombine w n x = x := KS.digits_recombine w n x (Nat.lt_of_lt_of_le hx hq)

example : (97 : Nat) ≤ 2 ^ (3 * 3) ∧ (77 : Nat) < 97 := by decide

/-- The code's `BaseTwoDecompositionVectorSize` entry
    `n = ⌈bitlen(q)/w⌉` always covers the modulus: `q ≤ 2^{w·n}`. -/
theorem digitCount_sufficient (q w : Nat) (hw : 0 < w) : q ≤ 2 ^ (w * baseTwoDigits q w) :=
  KS.digitCount_sufficient q w hw

example : baseTwoDigits 1207959937 10 = 4 := baseTwoDigits_witness

/-- Hence every residue `x < q` is reassembled exactly from the digits the
    code extracts (`MaskVec`) with the count the code allots. -/
theorem digits_recombine_code (q w x : Nat) (hw : 0 < w) (hx : x < q) :
    recombine w (baseTwoDigits q w) x = x := KS.digits_recombine_code q w x hw hx

example : (0 : Nat) < 10 ∧ (2 : Nat) ^ 30 < 1207959937 := by norm_num

/-- the count `⌈round(log2 q)/w⌉` of lattigo before fix C04-1 does not always cover the modulus -/
theorem digitCountRoundLog2_counterexample :
    ¬ (∀ q w : Nat, 0 < w → q ≤ 2 ^ (w * baseTwoDigitsRoundLog2 q w)) :=
  KS.digitCountRoundLog2_counterexample

/-- … a residue loses its top bit at the witness prime of the harness -/
theorem digitsRoundLog2_recombine_counterexample :
    ∃ q w x : Nat, 0 < w ∧ x < q ∧ recombine w (baseTwoDigitsRoundLog2 q w) x ≠ x :=
  KS.digitsRoundLog2_recombine_counterexample

/-- … and where exactly that count is sufficient -/
theorem digitCountRoundLog2_sufficient_iff (q k w : Nat) (hw : 0 < w) (h1 : 2 ^ k < q)
    (h2 : q < 2 ^ (k + 1)) :
    q ≤ 2 ^ (w * baseTwoDigitsRoundLog2 q w) ↔ (2 ^ (2 * k + 1) ≤ q * q ∨ ¬ w ∣ k) :=
  KS.digitCountRoundLog2_sufficient_iff q k w hw h1 h2

example : (2 : Nat) ^ 30 < 1207959937 ∧ 1207959937 < 2 ^ 31 := by norm_num

/-! ## 4. Keys without `P`, `BaseTwoDecomposition = 0`; the executable model on the witnesses of the two repaired defects -/

/-- With `nbPi = 1` — what `gadgetProductSinglePAndBitDecompLazy` passes to
    `DecomposeAndSplit`, with or without `P` — the RNS digit `i` of a canonical `c` coincides with `c` on
    row `i`: the row-wise recombination hypothesis of `gadget_identity` (`grp k = k`, `b_0 = 1`). -/
theorem noP_gadget_identity (qsP : List Nat) (i : Nat) (c : RPoly) (hi : i < c.qs.length)
    (hcanon : ∀ x ∈ c.c.getD i [], x < c.qs.getD i 1) :
    (decomposeRNS qsP 1 i c).c.getD i [] = c.c.getD i [] := by
  have hneg : (if c.qs.length - 1 + 1 > 1 * (i + 1) then ((1 : Nat) : Int) - 2
      else (((c.qs.length - 1) % 1 : Nat) : Int) - 1) < 0 := StackKS.dLvl_one_neg c.qs.length i
  simp only [decomposeRNS, hneg, if_true, Nat.mul_one]
  rw [StackKS.ofInts_row _ _ i (by simp; omega)]
  have hq : (c.qs ++ qsP).getD i 1 = c.qs.getD i 1 := by
    simp [List.getD, List.getElem?_append_left hi]
  rw [hq]
  exact map_centerSingle _ _ hcanon

def cNoP : RPoly := ⟨[5, 7], [[1], [3]]⟩

example : (1 : Nat) < cNoP.qs.length ∧ ∀ x ∈ cNoP.c.getD 1 [], x < cNoP.qs.getD 1 1 := by decide

/-- …and (G) on the executable model, on the witness of the defect repaired by fix C04-2: `Q = 5·7`, no `P`, `N = 1`,
    `c = (1 mod 5, 3 mod 7)`, the digits `decompose` produces. -/
theorem noP_gadget_identity_instance :
    wsumMat (RPoly.zero [5, 7] 1) (decompose [] 0 [1, 1] cNoP)
      (pgMat (pgElt [5, 7] [] 1 0) [[()], [()]]) = cNoP := by decide

/-- `DecomposeAndSplit` must not be called with `nbPi = 0`: the digit then does not depend on `i` (every RNS digit is
    read from row 0); before fix C04-2 the caller did exactly that for keys without `P`. -/
theorem decomposeRNS_nbPi0_ignores_index (qsP : List Nat) (i : Nat) (c : RPoly) :
    decomposeRNS qsP 0 i c = decomposeRNS qsP 0 0 c := by
  simp [decomposeRNS]

/-- … and (G) fails with those digits on the same instance -/
theorem nbPi0_gadget_identity_counterexample :
    wsumMat (RPoly.zero [5, 7] 1) [[decomposeRNS [] 0 0 cNoP], [decomposeRNS [] 0 1 cNoP]]
      (pgMat (pgElt [5, 7] [] 1 0) [[()], [()]]) ≠ cNoP := by decide

/-- (G) on the executable model, on the witness of the defect repaired by fix C04-1: `q = 1207959937`, no `P`, `w = 10`,
    `c = 2^30 < q`; the code allots 4 digits and `Σ_j d_j·2^{10j} = c`. -/
def cTop : RPoly := ⟨[1207959937], [[2 ^ 30]]⟩

theorem bitDecomp_gadget_identity_instance :
    wsumMat (RPoly.zero [1207959937] 1)
      (decompose [] 10 (gadgetShape [1207959937] 0 0 10) cTop)
      (pgMat (pgElt [1207959937] [] 1 10) [[(), (), (), ()]]) = cTop := by
  have hs : gadgetShape [1207959937] 0 0 10 = [4] := by
    simp [gadgetShape, baseRNSDecompositionVectorSize, baseTwoDecompositionVectorSize,
      baseTwoDigits_witness]
  rw [hs]
  decide

/-- … with the 3 digits of the count `⌈round(log2 q)/w⌉` (G) fails on the same instance -/
theorem bitDecompRoundLog2_gadget_identity_counterexample :
    wsumMat (RPoly.zero [1207959937] 1) (decompose [] 10 [3] cTop)
      (pgMat (pgElt [1207959937] [] 1 10) [[(), (), ()]]) ≠ cTop := by decide

/-- `GadgetProduct` and `GadgetProductHoisted` fed with
    `DecomposeNTT(·, ·, nbPi = levelP+1, c)` agree for every key with one entry per row, at least one
    special prime, and — for a single special prime — a ciphertext level not above the key's number of rows. -/
theorem hoisted_eq_plain_R (qsP : List Nat) (nQkey : Nat) (evk : List (List (RPoly × RPoly)))
    (c : RPoly) (hP : 1 ≤ qsP.length) (hrow : ∀ r ∈ evk, r.length = 1)
    (hc : 1 ≤ c.qs.length) (hlen : qsP.length = 1 → c.qs.length ≤ evk.length) :
    gadgetProductR qsP 0 nQkey evk c = gadgetProductHoistedR qsP qsP.length nQkey evk c := by
  simp only [gadgetProductR, gadgetProductHoistedR, KS.hoisted_eq_plain_R qsP nQkey evk c hP hrow hc hlen]


/-! ## 5. Closed theorems for keys without `P` and for the hoisted products -/

open Lattigo.RPolyRing Lattigo.Transport Lattigo.KS.C04Ring Lattigo.StackKS in
/-- `ApplyEvaluationKey` with a key without special modulus, any
`BaseTwoDecomposition`: `phase(KS(c0,c1), s_out) = phase((c0,c1), s_in) + Σ d_ij·e_ij`, exactly; every hypothesis is
well-formedness or the shape of the key. -/
theorem keyswitch_phase_closed_noP {qs : List ℕ} {n : ℕ} [Good qs n] (hqs : qs ≠ [])
    (hco : qs.Pairwise Nat.Coprime) (w : ℕ) (sIn sOut : RPoly) (samples : List (List (RPoly × RPoly)))
    (c0 c1 : RPoly) (hsIn : WFq qs n sIn) (hsOut : WFq qs n sOut) (hsm : WFpairs qs n samples)
    (hc0 : WFq qs n c0) (hc1 : WFq qs n c1)
    (hshape : samples.map List.length = gadgetShape qs (qs.length - 1) 0 w) :
    let key := genEvaluationKey (pgElt qs [] n w) sIn sOut samples
    let d := decompose [] w (key.map List.length) c1
    let E := wsumMat (RPoly.zero qs n) d (eMat samples)
    phase (applyEvaluationKey (gadgetProductR [] w qs.length key c1) (c0, c1)) sOut = phase (c0, c1) sIn + E
      ∧ WFq qs n E :=
  Closed.keyswitch_phase_closed_noP hqs hco w sIn sOut samples c0 c1 hsIn hsOut hsm hc0 hc1 hshape

section instNoP
open Lattigo.RPolyRing Lattigo.Transport Lattigo.KS.C04Ring

/-- two rows (one per prime of `Q = [97, 193]`), base-`2^4` digits: `⌈7/4⌉ = 2` and `⌈8/4⌉ = 2` entries -/
def samplesNoP : List (List (RPoly × RPoly)) := [[(a8, e8), (e8, a8)], [(sIn8, e8), (a8, sOut8)]]

theorem hyps_noP : ([97, 193] : List ℕ) ≠ [] ∧ ([97, 193] : List ℕ).Pairwise Nat.Coprime
    ∧ WFq [97, 193] 8 sIn8 ∧ WFq [97, 193] 8 sOut8 ∧ WFpairs [97, 193] 8 samplesNoP
    ∧ WFq [97, 193] 8 e8 ∧ WFq [97, 193] 8 a8
    ∧ samplesNoP.map List.length = gadgetShape [97, 193] ([97, 193].length - 1) 0 4 := by
  refine ⟨by decide, by decide, by decide +kernel, by decide +kernel, by decide +kernel, by decide +kernel,
    by decide +kernel, by decide +kernel⟩

/-- the instance obtained FROM THE THEOREM (no `P`, `w = 4`, two primes) -/
example :
    let key := genEvaluationKey (pgElt [97, 193] [] 8 4) sIn8 sOut8 samplesNoP
    let d := decompose [] 4 (key.map List.length) a8
    phase (applyEvaluationKey (gadgetProductR [] 4 2 key a8) (e8, a8)) sOut8
      = phase (e8, a8) sIn8 + wsumMat (RPoly.zero [97, 193] 8) d (eMat samplesNoP) := by
  obtain ⟨hqs, hco, hsIn, hsOut, hsm, hc0, hc1, hshape⟩ := hyps_noP
  exact (keyswitch_phase_closed_noP (qs := [97, 193]) (n := 8) hqs hco 4 sIn8 sOut8 samplesNoP e8 a8 hsIn hsOut hsm hc0
    hc1 hshape).1

end instNoP

open Lattigo.RPolyRing Lattigo.Transport Lattigo.KS.C04Ring in
/-- On a key generated by the model (`BaseTwoDecomposition = 0`, #P ≥ 1, prescribed
shape) and a ciphertext at the key's level, `GadgetProductHoisted{,Lazy}` on `DecomposeNTT(·,·,nbPi = #P, c)` IS
`GadgetProduct{,Lazy}`: the row-shape hypotheses of `hoisted_eq_plain_R` are derived from the shape. -/
theorem hoisted_eq_plain_closed {qs ps : List ℕ} {n : ℕ} [Good qs n] [Good (qs ++ ps) n] (hqs : qs ≠ [])
    (hps : ps ≠ []) (sIn sOut : RPoly) (samples : List (List (RPoly × RPoly))) (c1 : RPoly) (hc1 : WFq qs n c1)
    (hshape : samples.map List.length = gadgetShape qs (qs.length - 1) ps.length 0) :
    let key := genEvaluationKey (pgElt qs ps n 0) sIn sOut samples
    gadgetProductHoistedR ps ps.length qs.length key c1 = gadgetProductR ps 0 qs.length key c1
      ∧ gadgetProductHoistedLazyR ps ps.length qs.length key c1 = gadgetProductLazyR ps 0 qs.length key c1 :=
  Closed.hoisted_eq_plain_closed hqs hps sIn sOut samples c1 hc1 hshape

/-- instance: the hypotheses are those of `C04Stack.hyps_a` (`Q = [97]`, `P = [193]`) -/
example :
    gadgetProductHoistedR [193] 1 1 (genEvaluationKey (pgElt [97] [193] 8 0) C04Ring.sIn8 C04Ring.sOut8 C04Ring.samples8)
        C04Ring.c8
      = gadgetProductR [193] 0 1 (genEvaluationKey (pgElt [97] [193] 8 0) C04Ring.sIn8 C04Ring.sOut8 C04Ring.samples8)
        C04Ring.c8 :=
  (hoisted_eq_plain_closed (qs := [97]) (ps := [193]) (n := 8) C04Stack.hyps_a.1 C04Stack.hyps_a.2.1 C04Ring.sIn8
    C04Ring.sOut8 C04Ring.samples8 C04Ring.c8 C04Stack.hyps_a.2.2.2.2.2.2.2.1 C04Stack.hyps_a.2.2.2.2.2.2.2.2).1

/-! ## 6. The lazy `uint64` accumulators never wrap (word level, tie `gplazyw`) -/

/-- One NTT slot of one limb of `GadgetProduct{,Hoisted}Lazy`: with the code's margin
(`QiOverflowMargin >> 1` resp. `PiOverflowMargin >> 1` of the limb's own family), primes of at most 61 bits, reduced
key words and digit words in the `NTTLazy` range `[0, 6p)`, the accumulator is the exact sum modulo `p` of the lazy
Montgomery products — for every number of terms. -/
theorem gpLazySlot_exact (p mrc : Nat) (fam : List Nat) (hp : 0 < p) (hmem : p ∈ fam) (hfam : ∀ q ∈ fam, 8 * q ≤ W)
    (rs cs : List Nat) (hr : ∀ r ∈ rs, r < p) (hc : ∀ c ∈ cs, c < 6 * p) :
    RGSW.lazySlot p mrc (RGSW.lazyMargin fam) rs cs =
      (List.zipWith (fun r c => Gen.MRedLazy r c p mrc) rs cs).sum % p :=
  KS.gpLazySlot_exact p mrc fam hp hmem hfam rs cs hr hc

/-- non-vacuity: a 61-bit prime, margin `F = 4`, NINE terms (two mid-loop reductions), maximal words -/
example : (2305843009213693921 : Nat) ∈ [2305843009213693921] ∧ (∀ q ∈ [2305843009213693921], 8 * q ≤ W)
    ∧ RGSW.lazyMargin [2305843009213693921] = 4
    ∧ (∀ r ∈ List.replicate 9 2305843009213693920, r < 2305843009213693921)
    ∧ (∀ c ∈ List.replicate 9 (6 * 2305843009213693921 - 1), c < 6 * 2305843009213693921) := by
  refine ⟨by decide, by decide, by decide, ?_, ?_⟩ <;> intro x hx <;> rw [List.eq_of_mem_replicate hx] <;> decide

/-- General form: digit words below any `Y`, numeric margin condition
`(p−1) + F·(p + ⌊p·Y/2^64⌋) < 2^64` (what the probe `lazy_digit_range` evaluates on every tied limb) -/
theorem gpLazySlot_exact_bound (p mrc Y : Nat) (fam : List Nat) (hp : 0 < p) (h8 : 8 * p ≤ W) (hY : Y ≤ W)
    (hF : 1 ≤ RGSW.lazyMargin fam) (hB : (p - 1) + RGSW.lazyMargin fam * (p + p * Y / W) < W)
    (rs cs : List Nat) (hr : ∀ r ∈ rs, r < p) (hc : ∀ c ∈ cs, c < Y) :
    RGSW.lazySlot p mrc (RGSW.lazyMargin fam) rs cs =
      (List.zipWith (fun r c => Gen.MRedLazy r c p mrc) rs cs).sum % p :=
  KS.gpLazySlot_exact_bound p mrc Y fam hp h8 hY hF hB rs cs hr hc

/-- non-vacuity: the limb observed in the harness (24-bit prime in a family with a 55-bit prime, `w = 29`) -/
example : 8 * 16777153 ≤ W ∧ (2 : Nat) ^ 29 ≤ W ∧ 1 ≤ RGSW.lazyMargin [16777153, 36028797018963841]
    ∧ (16777153 - 1) + RGSW.lazyMargin [16777153, 36028797018963841] * (16777153 + 16777153 * 2 ^ 29 / W) < W := by
  decide

/-- Small primes (`p ≤ F + 1`; holds when every prime of the family is `< 2^31.5`): arbitrary
digit words -/
theorem gpLazySlot_exact_small (p mrc : Nat) (fam : List Nat) (hp : 2 ≤ p) (hmem : p ∈ fam)
    (hm : MontConst p mrc) (h2p : 2 * p ≤ W) (hsmall : p ≤ RGSW.lazyMargin fam + 1)
    (rs cs : List Nat) (hr : ∀ r ∈ rs, r < p) (hc : ∀ c ∈ cs, c < W) :
    RGSW.lazySlot p mrc (RGSW.lazyMargin fam) rs cs =
      (List.zipWith (fun r c => Gen.MRedLazy r c p mrc) rs cs).sum % p :=
  KS.gpLazySlot_exact_small p mrc fam hp hmem hm h2p hsmall rs cs hr hc

example : MontConst 97 11790702397628785569 ∧ (97 : Nat) ≤ RGSW.lazyMargin [97, 193] + 1 := by
  refine ⟨by unfold MontConst; decide, by decide⟩

/-- The exact sum is the Montgomery-domain inner product:
`slot·2^64 ≡ Σ key_k·digit_k (mod p)`, `slot < p` -/
theorem gpLazySlot_montgomery (p mrc : Nat) (fam : List Nat) (hp : 0 < p) (hmem : p ∈ fam)
    (hfam : ∀ q ∈ fam, 8 * q ≤ W) (hm : MontConst p mrc)
    (rs cs : List Nat) (hr : ∀ r ∈ rs, r < p) (hc : ∀ c ∈ cs, c < 6 * p) :
    RGSW.lazySlot p mrc (RGSW.lazyMargin fam) rs cs * W % p = (List.zipWith (fun r c => r * c) rs cs).sum % p
      ∧ RGSW.lazySlot p mrc (RGSW.lazyMargin fam) rs cs < p :=
  KS.gpLazySlot_montgomery p mrc fam hp hmem hfam hm rs cs hr hc

/-- The whole limb the driver op `gplazyw` computes -/
theorem gpLazyLimb_exact (p mrc : Nat) (fam : List Nat) (hp : 0 < p) (hmem : p ∈ fam)
    (hfam : ∀ q ∈ fam, 8 * q ≤ W) (R C : List (List Nat))
    (hR : ∀ row ∈ R, ∀ x ∈ row, x < p) (hC : ∀ row ∈ C, ∀ x ∈ row, x < 6 * p) :
    gpLazyLimb p mrc fam R C
      = (List.zip (RPoly.transpose R) (RPoly.transpose C)).map fun (rs, cs) =>
          (List.zipWith (fun r c => Gen.MRedLazy r c p mrc) rs cs).sum % p :=
  KS.gpLazyLimb_exact p mrc fam hp hmem hfam R C hR hC

/-! ## 7. Ring-degree switch, small → large, on the executable model -/

open Lattigo.RPolyRing Lattigo.Transport in
/-- **embedR is a ring homomorphism** on well-formed values (`Y ↦ X^{gap}`) -/
theorem embedR_hom {qs : List ℕ} {n gap : ℕ} [Good qs n] (hgap : 1 ≤ gap) {a b : RPoly}
    (ha : WFq qs n a) (hb : WFq qs n b) :
    embedR gap (a + b) = embedR gap a + embedR gap b ∧ embedR gap (a * b) = embedR gap a * embedR gap b
      ∧ WFq qs (gap * n) (embedR gap a) :=
  ⟨Degree.embedR_add hgap ha hb, Degree.embedR_mul hgap ha hb, Degree.embedR_wf hgap ha⟩

open Lattigo.RPolyRing Lattigo.Transport in
/-- The `applyup` op: no hypothesis on the embedding is left -/
theorem degree_up_phase_rpoly {qs : List ℕ} {n gap : ℕ} [Good qs n] (hgap : 1 ≤ gap) (ksOf : RPoly → RPoly × RPoly)
    (c0 c1 sS sL ν : RPoly) (hc0 : WFq qs n c0) (hc1 : WFq qs n c1) (hsS : WFq qs n sS)
    (hsL : WFq qs (gap * n) sL) (hν : WFq qs (gap * n) ν)
    (hk0 : WFq qs (gap * n) (ksOf (embedR gap c1)).1) (hk1 : WFq qs (gap * n) (ksOf (embedR gap c1)).2)
    (hks : phase (ksOf (embedR gap c1)) sL = embedR gap c1 * embedR gap sS + ν) :
    phase (applyEvaluationKeyUp (embedR gap) ksOf (c0, c1)) sL = embedR gap (phase (c0, c1) sS) + ν :=
  Degree.degree_up_phase_rpoly hgap ksOf c0 c1 sS sL ν hc0 hc1 hsS hsL hν hk0 hk1 hks

/-- non-vacuity: `n = 4 → 8` (`gap = 2`), `Q = [97, 193]`; `embedR` of a product computed both ways -/
example : embedR 2 ((⟨[97, 193], [[1, 2, 3, 4], [5, 6, 7, 8]]⟩ : RPoly) * ⟨[97, 193], [[96, 0, 1, 5], [192, 7, 0, 1]]⟩)
    = embedR 2 ⟨[97, 193], [[1, 2, 3, 4], [5, 6, 7, 8]]⟩ * embedR 2 ⟨[97, 193], [[96, 0, 1, 5], [192, 7, 0, 1]]⟩ := by
  decide +kernel

/-! ## 8. `RingPackingEvaluator.Expand`: index arithmetic (model `expandKeys`, tie `expandidx`) -/

/-- TEST (evaluation over a sample, not a general theorem): for every `logGap ≤ logN ≤ 6` the loop of `Expand` returns
exactly the multiples of `2^logGap` below `2^logN` -/
example : ∀ logN ∈ List.range 7, ∀ logGap ∈ List.range (logN + 1),
    expandKeys logN logGap = (List.range (2 ^ (logN - logGap))).map (· * 2 ^ logGap) := by decide +kernel

end Lattigo.KS.C04

open Lattigo.KS.C04 in
#print axioms Lattigo.KS.C04.gadget_row
#print axioms Lattigo.KS.C04.expand_eq
#print axioms Lattigo.KS.C04.keyswitch_phase_QP
#print axioms Lattigo.KS.C04.keyswitch_phase
#print axioms Lattigo.KS.C04.keyswitch_decrypts
#print axioms Lattigo.KS.C04.relin_phase
#print axioms Lattigo.KS.C04.automorphism_phase
#print axioms Lattigo.KS.C04.automorphismHoistedLazy_phase
#print axioms Lattigo.KS.C04.hoisted_eq_plain
#print axioms Lattigo.KS.C04.gadget_identity
#print axioms Lattigo.KS.C04.digits_recombine
#print axioms Lattigo.KS.C04.digitCount_sufficient
#print axioms Lattigo.KS.C04.digits_recombine_code
#print axioms Lattigo.KS.C04.digitCountRoundLog2_counterexample
#print axioms Lattigo.KS.C04.digitsRoundLog2_recombine_counterexample
#print axioms Lattigo.KS.C04.digitCountRoundLog2_sufficient_iff
#print axioms Lattigo.KS.C04.noP_gadget_identity
#print axioms Lattigo.KS.C04.noP_gadget_identity_instance
#print axioms Lattigo.KS.C04.decomposeRNS_nbPi0_ignores_index
#print axioms Lattigo.KS.C04.nbPi0_gadget_identity_counterexample
#print axioms Lattigo.KS.C04.bitDecomp_gadget_identity_instance
#print axioms Lattigo.KS.C04.bitDecompRoundLog2_gadget_identity_counterexample
#print axioms Lattigo.KS.C04.hoisted_eq_plain_R
#print axioms Lattigo.KS.C04.degree_up_phase
#print axioms Lattigo.KS.C04.degree_down_phase
#print axioms Lattigo.KS.C04.keyswitch_phase_closed_noP
#print axioms Lattigo.KS.C04.hoisted_eq_plain_closed
#print axioms Lattigo.KS.C04.gpLazySlot_exact
#print axioms Lattigo.KS.C04.gpLazySlot_exact_bound
#print axioms Lattigo.KS.C04.gpLazySlot_exact_small
#print axioms Lattigo.KS.C04.gpLazySlot_montgomery
#print axioms Lattigo.KS.C04.gpLazyLimb_exact
#print axioms Lattigo.KS.C04.embedR_hom
#print axioms Lattigo.KS.C04.degree_up_phase_rpoly
