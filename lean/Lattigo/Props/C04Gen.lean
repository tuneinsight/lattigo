/-
  Property C04 — the decomposition sizes the key-switch model uses are the REGENERATED ones.

  `Props/C04.lean` is stated about `Lattigo.KS` (`Model/Gadget.lean`), whose digit counts
  `baseRNSDecompositionVectorSize`, `baseTwoDecompositionVectorSize` (and `gadgetShape` built from them)
  were transcribed by hand from `core/rlwe/params.go`.  `Lattigo/Gen/Params.lean` is printed from that
  file on every `./check C04`; the hand-written counts are proved equal to the generated ones for all inputs
  (levels and bases below `2^62`, moduli below `2^64`) in `Proofs/GenParams` (`BaseRNS_eq`, `BaseTwo_eq`: `levelP` is the
  word of the `int` `nP - 1`; `nP = 0`: no `P`, `levelP = -1`), and the shape built from them below, so a change of the Go
  formulas breaks an obligation here.
-/
import Lattigo.Proofs.GenParams

namespace Lattigo.Props.C04Gen
open Lattigo Lattigo.Gen.Params Lattigo.Proofs.GenParams

example : KS.baseRNSDecompositionVectorSize 6 3 = BaseRNSDecompositionVectorSize 6 (i64ofInt 2) :=
  (BaseRNS_eq 6 3 (by norm_num) (by norm_num)).symm

example : KS.baseTwoDecompositionVectorSize [65537, 1152921504606847009] 1 10
    = BaseTwoDecompositionVectorSize [65537, 1152921504606847009] 1 (i64ofInt 0) 10 :=
  (BaseTwo_eq _ 1 1 10 (by norm_num) (by norm_num) (by decide)).symm

/-- the shape of a gadget ciphertext (`NewGadgetCiphertext`: rows × digits) of the C04 model, from the
    regenerated counts. -/
theorem gadgetShape_gen (qs : List Nat) (levelQ nP w : Nat) (hq : levelQ < 2 ^ 62) (hp : nP < 2 ^ 62)
    (hw : w < 2 ^ 62) (hqs : ∀ q ∈ qs, q < W) :
    KS.gadgetShape qs levelQ nP w
      = (List.range (BaseRNSDecompositionVectorSize levelQ (i64ofInt ((nP : Int) - 1)))).map fun i =>
          (BaseTwoDecompositionVectorSize qs levelQ (i64ofInt ((nP : Int) - 1)) w).getD i 0 := by
  unfold KS.gadgetShape
  rw [← BaseRNS_eq levelQ nP hq hp, ← BaseTwo_eq qs levelQ nP w hp hw hqs]

end Lattigo.Props.C04Gen

#print axioms Lattigo.Props.C04Gen.gadgetShape_gen
