/-
  C04 — "noise below the bound implied by the key's decomposition parameters".

  `Props/C04.lean` proves the EXACT phase identity `phase(KS(c), s_out) = c·s_in + ν` with
  `P·ν = Σ_{i,j} d_ij·e_ij − ρ₀ − ρ₁·s_out` (hypothesis (R) there: `ρ₀, ρ₁` the centred remainders modulo `P`
  of the two accumulators).  Here the size of `ν`, over the integer ring `Z[X]/(X^N+1)` = `Lattigo.ZPoly`
  (coefficient lists; the carrier in which the noise lives once `|ν| < Q/2`):

      ‖ν‖∞ ≤ (N·B·Σ_{i,j} D_ij)/P + (1 + h)/2          (exactly: 2P‖ν‖∞ ≤ 2N·B·ΣD + P(1+h))

  with `N` the ring degree, `B ≥ ‖e_ij‖∞` the error bound, `h ≥ ‖s_out‖₁` (Hamming weight for a ternary secret),
  and `D_ij ≥ ‖d_ij‖∞` the digit magnitude, which the decomposition parameters fix:

      D_ij = q_i − ⌊q_i/2⌋ = ⌈q_i/2⌉   single-prime RNS digit (copy branch of `DecomposeAndSplit`, `centerSingle`),
      D_ij = ⌊Q_i/2⌋                   multi-prime RNS digit, `Q_i = Π` of the ≤ `nbPi` primes of digit `i`
                                       (HPS branch with the exact index, `centeredRep`; an index error `δ` of the
                                       float path adds `|δ|·Q_i`, see `Props/C02.decompose_multi_limbs`),
      D_ij = 2^w − 1                   base-`2^w` digit (`MaskVec`, unsigned).

  Without auxiliary modulus (`P = 1`, no division): `‖ν‖∞ ≤ N·B·ΣD` (`keyswitch_noise_bound_noP`).

  Relation to the harness: `c04PS.ksNoiseBound` (harness/c04_util.go) tests
      N·(B_e+1)·Σ D'_ij / P + (N+1)/2 + 2    with D' = ⌊Q_i/2⌋ + 1 (RNS) resp. 2^w (base two), secret weight ≤ N;
  every term is ≥ the corresponding term of `keyswitch_noise_bound_div` (`⌊Q_i/2⌋+1 ≥ ⌈q_i/2⌉`, `2^w ≥ 2^w−1`,
  `(N+1)/2 + 2 ≥ ⌊(1+h)/2⌋ + 1` for `h ≤ N`), so the probe's bound is ≥ the theorem's: no false alarm possible.

  `ZPoly` is not registered as a `CommRing` instance: the hypothesis `hrel` below is the ZPoly reading of (R).  It is
  derived for the executable model by `StackKS.exact_div_pair` (`Proofs/StackKSNoise`), which
  `C04Stack.keyswitch_noise_closed` calls.
-/
import Lattigo.Proofs.NoiseNorm
import Lattigo.Model.KeySwitch
import Lattigo.Props.C02

namespace Lattigo.KS.C04
open Lattigo Lattigo.ZPoly

/-- copy branch (`centerSingle`, the model's single-prime digit): `|d| ≤ q − ⌊q/2⌋ = ⌈q/2⌉` -/
theorem centerSingle_natAbs_le (q x : Nat) (hx : x < q) : (centerSingle q x).natAbs ≤ q - q / 2 := by
  unfold centerSingle
  split <;> omega

/-- the same through C02's `copy_digit` (`digitA` of the limb-level twin is the same function) -/
theorem centerSingle_eq_digitA (q x : Nat) : centerSingle q x = Decomp.digitA q x := by
  unfold centerSingle Decomp.digitA
  rfl

theorem digitA_natAbs_le (q x : Nat) (hx : x < q) : (Decomp.digitA q x).natAbs ≤ q - q / 2 := by
  have h := (Lattigo.Props.C02.copy_digit q x hx).2
  omega

/-- HPS branch with the exact index (C02 `centred_digit`): `|d| ≤ ⌊Q_d/2⌋` -/
theorem centeredRep_natAbs_le (Qd x : Nat) (hQ : 0 < Qd) : (BasisExt.centeredRep Qd x).natAbs ≤ Qd / 2 := by
  have h := (Lattigo.Props.C02.centred_digit Qd x hQ).2
  omega

/-- HPS branch with an index error `δ` of the float path (`hpsV − fidx`, C02 `decompose_multi_limbs`): the value the
    limbs are congruent to is `centeredRep + δ·Q_d`, so `|d| ≤ ⌊Q_d/2⌋ + |δ|·Q_d` (`δ = 0` for the exact index; the
    float index is exact except within `~2^-50·Q_d` of a multiple of `Q_d`, where `|δ| = 1`) -/
theorem centeredRep_err_natAbs_le (Qd x : Nat) (δ : Int) (hQ : 0 < Qd) :
    (BasisExt.centeredRep Qd x + δ * (Qd : Int)).natAbs ≤ Qd / 2 + δ.natAbs * Qd := by
  have h1 := Int.natAbs_add_le (BasisExt.centeredRep Qd x) (δ * (Qd : Int))
  have h2 := centeredRep_natAbs_le Qd x hQ
  rw [Int.natAbs_mul, Int.natAbs_natCast] at h1
  omega

/-- the model's `bitDigit` is C02's `pow2Digit` (`MaskVec`) -/
theorem bitDigit_eq_pow2Digit (w j x : Nat) : bitDigit w j x = Decomp.pow2Digit w j x := by
  unfold bitDigit Decomp.pow2Digit Gen.MaskVec_lane u64and u64shr
  rw [Nat.shiftRight_eq_div_pow]

/-- base-`2^w` digit (C02 `pow2_digit_lt`): `0 ≤ d ≤ 2^w − 1` -/
theorem bitDigit_le (w j x : Nat) : bitDigit w j x ≤ 2 ^ w - 1 := by
  have h := Lattigo.Props.C02.pow2_digit_lt w j x
  rw [bitDigit_eq_pow2Digit]
  omega

/-- the signed coefficient list `decomposeRNS` hands to `ofInts` for a single-prime digit -/
def rnsDigitZ (q : Nat) (row : List Nat) : List Int := row.map (centerSingle q)

/-- the coefficient list `decomposeBits` hands to `ofInts` -/
def bitDigitZ (w j : Nat) (row : List Nat) : List Int := row.map fun x => ((bitDigit w j x : Nat) : Int)

/-- multi-prime digit with the exact index, from the CRT values `xs` of the digit's residues -/
def hpsDigitZ (Qd : Nat) (xs : List Nat) : List Int := xs.map (BasisExt.centeredRep Qd)

theorem normInf_rnsDigitZ (q : Nat) (row : List Nat) (h : ∀ x ∈ row, x < q) :
    normInf (rnsDigitZ q row) ≤ q - q / 2 :=
  normInf_map_le _ _ _ fun x hx => centerSingle_natAbs_le q x (h x hx)

theorem normInf_bitDigitZ (w j : Nat) (row : List Nat) : normInf (bitDigitZ w j row) ≤ 2 ^ w - 1 :=
  normInf_map_le _ _ _ fun x _ => by
    have := bitDigit_le w j x
    omega

theorem normInf_hpsDigitZ (Qd : Nat) (xs : List Nat) (hQ : 0 < Qd) : normInf (hpsDigitZ Qd xs) ≤ Qd / 2 :=
  normInf_map_le _ _ _ fun x _ => centeredRep_natAbs_le Qd x hQ

theorem digitsBounded_single {α : Type} (N : Nat) (f : Nat → α → List Int) (D : Nat → Nat) (as : List Nat)
    (ls : List α) (h : List.Forall₂ (fun a l => (f a l).length ≤ N ∧ normInf (f a l) ≤ D a) as ls) :
    DigitsBounded N (List.zipWith (fun a l => [f a l]) as ls) (as.map fun a => [D a]) := by
  unfold DigitsBounded
  induction h with
  | nil => exact List.Forall₂.nil
  | cons hq _ ih => exact List.Forall₂.cons (List.Forall₂.cons hq List.Forall₂.nil) ih

theorem bitRow_bounded (N w : Nat) (row : List Nat) (hl : row.length ≤ N) (js : List Nat) :
    List.Forall₂ (fun d D => d.length ≤ N ∧ normInf d ≤ D) (js.map fun j => bitDigitZ w j row)
      (List.replicate js.length (2 ^ w - 1)) := by
  induction js with
  | nil => exact List.Forall₂.nil
  | cons j js ih =>
    exact List.Forall₂.cons ⟨by simpa [bitDigitZ] using hl, normInf_bitDigitZ w j row⟩ ih

/-- digit matrix of `gadgetProductSinglePAndBitDecompLazy` with base-`2^w` digits, row `i` carrying `nJ_i` digits:
    `D_ij = 2^w − 1` -/
theorem digitsBounded_pow2 (N w : Nat) (nJ : List Nat) (rows : List (List Nat))
    (h : List.Forall₂ (fun (_ : Nat) (row : List Nat) => row.length ≤ N) nJ rows) :
    DigitsBounded N (List.zipWith (fun n row => (List.range n).map fun j => bitDigitZ w j row) nJ rows)
      (nJ.map fun n => List.replicate n (2 ^ w - 1)) := by
  unfold DigitsBounded
  induction h with
  | nil => exact List.Forall₂.nil
  | @cons n row nJ rows hq _ ih =>
    refine List.Forall₂.cons ?_ ih
    have := bitRow_bounded N w row hq (List.range n)
    simpa using this

theorem sumSum_single (D : Nat → Nat) (as : List Nat) : sumSum (as.map fun a => [D a]) = (as.map D).sum := by
  simp [sumSum, Function.comp_def]

theorem sumSum_pow2 (w : Nat) (nJ : List Nat) :
    sumSum (nJ.map fun n => List.replicate n (2 ^ w - 1)) = nJ.sum * (2 ^ w - 1) := by
  induction nJ with
  | nil => simp [sumSum]
  | cons n ns ih =>
    simp only [sumSum, List.map_cons, List.sum_cons] at ih ⊢
    rw [ih, List.sum_replicate_nat, Nat.add_mul]

/-- `P·ν = Σ_{i,j} d_ij·e_ij − ρ₀ − s·ρ₁` with centred remainders (`2‖ρ‖∞ ≤ P`),
    digits `‖d_ij‖∞ ≤ D_ij` on `≤ N` coefficients, errors `‖e_ij‖∞ ≤ B`, output secret `‖s‖₁ ≤ h`:
    `2P·‖ν‖∞ ≤ 2·N·B·Σ D_ij + P·(1 + h)`, i.e. `‖ν‖∞ ≤ (N·B·ΣD)/P + (1 + h)/2`. -/
theorem keyswitch_noise_bound (N P B h : Nat) (ds es : List (List (List Int))) (Dss : List (List Nat))
    (ν ρ0 ρ1 s : List Int) (hd : DigitsBounded N ds Dss) (he : ErrBounded B es)
    (hrel : smul P ν = sub (sub (dotMatZ N ds es) ρ0) (mul s ρ1))
    (h0 : 2 * normInf ρ0 ≤ P) (h1 : 2 * normInf ρ1 ≤ P) (hs : norm1 s ≤ h) :
    2 * (P * normInf ν) ≤ 2 * (N * B * sumSum Dss) + P * (1 + h) :=
  rounding_bound P ν _ ρ0 ρ1 s _ h hrel h0 h1 (normInf_dotMatZ_le_of_bounds N B ds es Dss hd he) hs

/-- floor form: `‖ν‖∞ ≤ ⌊N·B·ΣD / P⌋ + ⌊(1 + h)/2⌋ + 1` -/
theorem keyswitch_noise_bound_div (N P B h : Nat) (ds es : List (List (List Int))) (Dss : List (List Nat))
    (ν ρ0 ρ1 s : List Int) (hP : 0 < P) (hd : DigitsBounded N ds Dss) (he : ErrBounded B es)
    (hrel : smul P ν = sub (sub (dotMatZ N ds es) ρ0) (mul s ρ1))
    (h0 : 2 * normInf ρ0 ≤ P) (h1 : 2 * normInf ρ1 ≤ P) (hs : norm1 s ≤ h) :
    normInf ν ≤ N * B * sumSum Dss / P + (1 + h) / 2 + 1 :=
  le_div_of_two_mul P _ _ h hP (keyswitch_noise_bound N P B h ds es Dss ν ρ0 ρ1 s hd he hrel h0 h1 hs)

/-- key without auxiliary modulus (no division, `keyswitch_phase_QP` read in `R_Q`): `‖Σ d_ij e_ij‖∞ ≤ N·B·ΣD` -/
theorem keyswitch_noise_bound_noP (N B : Nat) (ds es : List (List (List Int))) (Dss : List (List Nat))
    (hd : DigitsBounded N ds Dss) (he : ErrBounded B es) :
    normInf (dotMatZ N ds es) ≤ N * B * sumSum Dss :=
  normInf_dotMatZ_le_of_bounds N B ds es Dss hd he

/-- single-prime RNS digits (`BaseTwoDecomposition = 0`, at most one special prime): `D_i = ⌈q_i/2⌉` -/
theorem keyswitch_noise_bound_rns (N P B h : Nat) (qs : List Nat) (rows : List (List Nat))
    (es : List (List (List Int))) (ν ρ0 ρ1 s : List Int)
    (hrows : List.Forall₂ (fun q row => row.length ≤ N ∧ ∀ x ∈ row, x < q) qs rows) (he : ErrBounded B es)
    (hrel : smul P ν = sub (sub (dotMatZ N (List.zipWith (fun q row => [rnsDigitZ q row]) qs rows) es) ρ0) (mul s ρ1))
    (h0 : 2 * normInf ρ0 ≤ P) (h1 : 2 * normInf ρ1 ≤ P) (hs : norm1 s ≤ h) :
    2 * (P * normInf ν) ≤ 2 * (N * B * (qs.map fun q => q - q / 2).sum) + P * (1 + h) := by
  rw [← sumSum_single]
  -- digit matrix of `gadgetProductSinglePAndBitDecompLazy` with `BaseTwoDecomposition = 0` (one single-prime digit
  -- per row, `decompose … w = 0` with one entry per row) and its bound matrix `D_i0 = q_i − ⌊q_i/2⌋`
  exact keyswitch_noise_bound N P B h _ es _ ν ρ0 ρ1 s (digitsBounded_single N rnsDigitZ _ qs rows
    (hrows.imp fun q row hq => ⟨by simpa [rnsDigitZ] using hq.1, normInf_rnsDigitZ q row hq.2⟩)) he hrel h0 h1 hs

/-- multi-prime RNS digits (≥ 2 special primes, exact HPS index): `D_i = ⌊Q_i/2⌋`, `Q_i` the digit modulus -/
theorem keyswitch_noise_bound_hps (N P B h : Nat) (Qs : List Nat) (cols : List (List Nat))
    (es : List (List (List Int))) (ν ρ0 ρ1 s : List Int)
    (hcols : List.Forall₂ (fun Q xs => xs.length ≤ N ∧ 0 < Q) Qs cols) (he : ErrBounded B es)
    (hrel : smul P ν = sub (sub (dotMatZ N (List.zipWith (fun Q xs => [hpsDigitZ Q xs]) Qs cols) es) ρ0) (mul s ρ1))
    (h0 : 2 * normInf ρ0 ≤ P) (h1 : 2 * normInf ρ1 ≤ P) (hs : norm1 s ≤ h) :
    2 * (P * normInf ν) ≤ 2 * (N * B * (Qs.map fun Q => Q / 2).sum) + P * (1 + h) := by
  rw [← sumSum_single]
  -- … with multi-prime digits (`gadgetProductMultiplePLazy`, exact index): `D_i0 = ⌊Q_i/2⌋`
  exact keyswitch_noise_bound N P B h _ es _ ν ρ0 ρ1 s (digitsBounded_single N hpsDigitZ _ Qs cols
    (hcols.imp fun Q xs hq => ⟨by simpa [hpsDigitZ] using hq.1, normInf_hpsDigitZ Q xs hq.2⟩)) he hrel h0 h1 hs

/-- base-`2^w` digits, `nJ_i` per row (`Σ nJ_i` digits in total): `D_ij = 2^w − 1` -/
theorem keyswitch_noise_bound_pow2 (N P B h w : Nat) (nJ : List Nat) (rows : List (List Nat))
    (es : List (List (List Int))) (ν ρ0 ρ1 s : List Int)
    (hrows : List.Forall₂ (fun (_ : Nat) (row : List Nat) => row.length ≤ N) nJ rows) (he : ErrBounded B es)
    (hrel : smul P ν = sub (sub (dotMatZ N
        (List.zipWith (fun n row => (List.range n).map fun j => bitDigitZ w j row) nJ rows) es) ρ0) (mul s ρ1))
    (h0 : 2 * normInf ρ0 ≤ P) (h1 : 2 * normInf ρ1 ≤ P) (hs : norm1 s ≤ h) :
    2 * (P * normInf ν) ≤ 2 * (N * B * (nJ.sum * (2 ^ w - 1))) + P * (1 + h) := by
  rw [← sumSum_pow2]
  exact keyswitch_noise_bound N P B h _ es _ ν ρ0 ρ1 s (digitsBounded_pow2 N w nJ rows hrows) he hrel h0 h1 hs

/-- `relin_phase` is `keyswitch_phase` with input key `s²` and output key `s`; the noise
    `ν` added to `c0 + c1·s + c2·s²` obeys the same bound with `h ≥ ‖s‖₁` (the digits are those of `c2`). -/
theorem relin_noise_bound (N P B h : Nat) (ds es : List (List (List Int))) (Dss : List (List Nat))
    (ν ρ0 ρ1 s : List Int) (hd : DigitsBounded N ds Dss) (he : ErrBounded B es)
    (hrel : smul P ν = sub (sub (dotMatZ N ds es) ρ0) (mul s ρ1))
    (h0 : 2 * normInf ρ0 ≤ P) (h1 : 2 * normInf ρ1 ≤ P) (hs : norm1 s ≤ h) :
    2 * (P * normInf ν) ≤ 2 * (N * B * sumSum Dss) + P * (1 + h) :=
  keyswitch_noise_bound N P B h ds es Dss ν ρ0 ρ1 s hd he hrel h0 h1 hs

/-- In `automorphism_phase` the key switch goes to `σ_{g'}(s)` (`g' = g⁻¹`) and the
    noise that appears is `σ_g(ν)`.  `σ` does not increase `‖·‖₁` nor `‖·‖∞`, so the bound is the key-switching
    bound with the weight of `s` itself. -/
theorem automorphism_noise_bound (N P B h g g' : Nat) (ds es : List (List (List Int))) (Dss : List (List Nat))
    (ν ρ0 ρ1 s : List Int) (hd : DigitsBounded N ds Dss) (he : ErrBounded B es)
    (hrel : smul P ν = sub (sub (dotMatZ N ds es) ρ0) (mul (autZ g' s) ρ1))
    (h0 : 2 * normInf ρ0 ≤ P) (h1 : 2 * normInf ρ1 ≤ P) (hs : norm1 s ≤ h) :
    2 * (P * normInf (autZ g ν)) ≤ 2 * (N * B * sumSum Dss) + P * (1 + h) := by
  have hb := keyswitch_noise_bound N P B h ds es Dss ν ρ0 ρ1 (autZ g' s) hd he hrel h0 h1
    (Nat.le_trans (norm1_autZ_le g' s) hs)
  have := Nat.mul_le_mul_left P (normInf_autZ_le g ν)
  omega

/-- `N = 2`, `Q = 7·11`, `P = 5`, `B = 1`, ternary `s = 1` (`h = 1`): digits of `c = (5, 2 | 10, 3)` are
    `[-2, 2]`, `[-1, 3]` (`D = 4, 6`), errors `[1,-1]`, `[-1,1]`: `Σ d e = [-2, 0] = 5·[-1, 0] + [2, 2] + 1·[1, -2]`;
    the theorem gives `2·5·‖ν‖∞ = 10 ≤ 2·(2·1·10) + 5·2 = 50`. -/
example :
    let qs := [7, 11]
    let rows := [[5, 2], [10, 3]]
    let es : List (List (List Int)) := [[[1, -1]], [[-1, 1]]]
    List.Forall₂ (fun q row => row.length ≤ 2 ∧ ∀ x ∈ row, x < q) qs rows ∧ ErrBounded 1 es ∧
    smul (5 : Nat) [-1, 0] = sub (sub (dotMatZ 2 (List.zipWith (fun q row => [rnsDigitZ q row]) qs rows) es) [2, 2])
      (mul [1, 0] [1, -2]) ∧
    2 * normInf [2, 2] ≤ 5 ∧ 2 * normInf [1, -2] ≤ 5 ∧ norm1 [1, 0] ≤ 1 ∧
    2 * (5 * normInf [-1, 0]) ≤ 2 * (2 * 1 * ([7, 11].map fun q => q - q / 2).sum) + 5 * (1 + 1) := by
  refine ⟨?_, ?_, by decide, by decide, by decide, by decide, by decide⟩
  · exact List.Forall₂.cons (by decide) (List.Forall₂.cons (by decide) List.Forall₂.nil)
  · unfold ErrBounded; decide

/-- base-4 digits (`w = 2`) of the row `[11, 6]` modulo `13`: `[3, 2]`, `[2, 1]`, all `≤ 2^2 − 1` -/
example : (List.range 2).map (fun j => bitDigitZ 2 j [11, 6]) = [[3, 2], [2, 1]]
    ∧ sumSum ([2].map fun n => List.replicate n (2 ^ 2 - 1)) = 6 := by decide

/-- `σ_3` on `N = 4`: `‖σ_3 ν‖∞ = ‖ν‖∞` and the secret keeps its weight -/
example : normInf (autZ 3 [1, -2, 0, 1]) = 2 ∧ norm1 (autZ 3 [1, 0, -1, 0]) = 2 := by decide

end Lattigo.KS.C04

#print axioms Lattigo.KS.C04.centerSingle_natAbs_le
#print axioms Lattigo.KS.C04.centeredRep_natAbs_le
#print axioms Lattigo.KS.C04.centeredRep_err_natAbs_le
#print axioms Lattigo.KS.C04.bitDigit_le
#print axioms Lattigo.KS.C04.keyswitch_noise_bound
#print axioms Lattigo.KS.C04.keyswitch_noise_bound_div
#print axioms Lattigo.KS.C04.keyswitch_noise_bound_noP
#print axioms Lattigo.KS.C04.keyswitch_noise_bound_rns
#print axioms Lattigo.KS.C04.keyswitch_noise_bound_hps
#print axioms Lattigo.KS.C04.keyswitch_noise_bound_pow2
#print axioms Lattigo.KS.C04.relin_noise_bound
#print axioms Lattigo.KS.C04.automorphism_noise_bound
