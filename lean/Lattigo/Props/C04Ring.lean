/-
  C04 on the carrier the driver executes.

  `Props/C04.lean` proves `gadget_row`, `expand_eq`, `keyswitch_phase_QP`, `keyswitch_phase`,
  `keyswitch_decrypts`, `relin_phase`, `automorphism_phase`, `automorphismHoistedLazy_phase` for the
  generic functions of `Model/Gadget.lean`, `Model/KeySwitch.lean` over EVERY commutative ring; the
  driver (`Driver/C04.lean`) runs them on plain `RPoly` values.  Here they are instantiated at the
  commutative ring `WFPoly qs n` (`Proofs/RPolyRing.lean`) and transported to `RPoly`:

    hypotheses = well-formedness of the INPUTS (`WFq qs n a` : `a.qs = qs ∧ a.WF n`) + the hypotheses
                 (G), (R) of the generic theorems, stated on the `RPoly` values;
    conclusion = the same identity between `RPoly` values computed by the model functions
                 (`0` is `RPoly.zero qs n`, `1` is `rpOne qs n`, `σ_g` is `RPoly.aut g`, `π` keeps the `Q` rows).

  1. naturality (`…_push`) of the list recursions of the model w.r.t. maps preserving `+ * − neg`;
  2. `gadget_row` for a generated key over every commutative ring (`gadget_row_gen`, cited by `Props/C04.lean`);
  3. the `…_rpoly` theorems, in three independent pieces:
     * the inner product with a generated key modulo `QP` (`keyswitch_phase_QP_rpoly`, `gadget_row_rpoly`) — the only
       statements in which lists of ring elements are carried through `val`;
     * the `ModDown` step `R_{QP} → R_Q` (`modDown_phase_rpoly`): `π` = `takeRows` preserves `+ *` on plain values, so
       the identity modulo `QP` is reduced to the rows of `Q` without lifting, and the division by `P` is an identity of
       the one ring `R_Q` (`KS.modDown_phase_eq`);
     * what `applyEvaluationKey`, `relinearize`, `automorphism`, `automorphismHoistedLazy` do to the phase of a pair
       (`…_phase_wf`; the second and the fourth at their one use): identities of one ring in a few elements,
       instantiated at `lift x hx`;
  4. the driver: `gadgetProductLazyR` / `gadgetProductR` (ops `gpl`, `gp`, `apply`, `relin`, `aut`) on a well-formed
     ciphertext at the key's level ARE `dotMat ∘ decompose` and its generic `modDown` (`gadgetProductR_eq`, `modDownR_eq`
     for every input; `gadgetProductLazyR_of_wf`, `gadgetProductR_of_wf`), the `apply` handler computes `applyEvaluationKey` of it (`handleKs_apply_calls`), the driver's
     gadget vector `pgElt` is well formed (`pgElt_wf`), and for that expression the phase theorem holds with the driver's
     own digits / `P⁻¹` / centred remainders (`driver_apply_phase`);
  5. a concrete instance (`qs = [97, 193]`, `n = 8`).

  NOT transported / left as hypotheses (reason):
  * (G) `Σ d_ij·P·g_ij = P·c` for the digits `decompose` produces and (R)
    `π E − ρ₀ − ρ₁·s = P·ν` for `ρ = modUpPtoQ` (centred remainder; `floatIndex` uses IEEE doubles)
    are hypotheses on the `RPoly` values, as in the generic theorems: they are arithmetic of C02 /
    `gadget_identity`, not ring identities.  `π P · pinv = 1` likewise.  All three are discharged for the model's own
    digits, `pinvElt` and `modUpPtoQ` in `Props/C04Stack` (from `Proofs/StackKS*`: `gadget_closed`, `hP_closed`;
    `gadgetProductLazy_closed`, `gadgetProduct_closed`).
  * `degree_up_phase` is transported in `Proofs/KeySwitchDegree` (`embedR` is a ring homomorphism between the rings of
    the two degrees on well-formed values); `degree_down_phase` needs `projectR` to be a linear retraction: not
    transported.
  * `gadget_identity`, `digits_*`, `digitCount_*`, `noP_*`, `hoisted_eq_plain_R` are already statements
    about `Nat`/`RPoly` (nothing to transport).
-/
import Lattigo.Proofs.RPolyTransport
import Lattigo.Proofs.KeySwitch
import Lattigo.Proofs.KeySwitchHoisted
import Lattigo.Proofs.KeySwitchPush
import Lattigo.Proofs.StackKS
import Driver.C04

set_option linter.unusedSectionVars false

namespace Lattigo.KS.C04Ring
open Lattigo Lattigo.KS Lattigo.RPolyRing Lattigo.Transport

/-! ## 1. Naturality of the model functions (push a map inside) -/

section naturality
variable {α β : Type} [Add α] [Mul α] [Neg α] [Sub α] [Add β] [Mul β] [Neg β] [Sub β]
variable {φ : α → β} (hφ : OpsHom φ)
include hφ

theorem encZero_push (a e s : α) : Prod.map φ φ (encZero a e s) = encZero (φ a) (φ e) (φ s) := by
  simp only [encZero, Prod.map, hφ.sub, hφ.mul]

theorem genRowFrom_push (pg : Nat → Nat → α) (sIn sOut : α) (i : Nat) :
    ∀ (j : Nat) (row : List (α × α)),
      (genRowFrom pg sIn sOut i j row).map (Prod.map φ φ)
        = genRowFrom (fun i j => φ (pg i j)) (φ sIn) (φ sOut) i j (row.map (Prod.map φ φ))
  | _, [] => rfl
  | j, (a, e) :: rest => by
      simp only [genRowFrom, List.map_cons, evkRow, encZero, Prod.map_apply, hφ.add, hφ.sub, hφ.mul]
      rw [genRowFrom_push pg sIn sOut i (j + 1) rest]

theorem genFrom_push (pg : Nat → Nat → α) (sIn sOut : α) :
    ∀ (i : Nat) (m : List (List (α × α))),
      (genFrom pg sIn sOut i m).map (List.map (Prod.map φ φ))
        = genFrom (fun i j => φ (pg i j)) (φ sIn) (φ sOut) i (m.map (List.map (Prod.map φ φ)))
  | _, [] => rfl
  | i, row :: rest => by
      simp only [genFrom, List.map_cons, genRowFrom_push hφ]
      rw [genFrom_push pg sIn sOut (i + 1) rest]

theorem dotRow_push (z : α) : ∀ (d : List α) (k : List (α × α)),
    Prod.map φ φ (dotRow z d k) = dotRow (φ z) (d.map φ) (k.map (Prod.map φ φ))
  | [], _ => by simp [dotRow]
  | _ :: _, [] => by simp [dotRow]
  | x :: xs, (b, a) :: ks => by
      have ih := dotRow_push z xs ks
      simp only [Prod.map, Prod.ext_iff] at ih
      simp only [dotRow, List.map_cons, Prod.map, hφ.add, hφ.mul, ih.1, ih.2]

theorem dotMat_push (z : α) : ∀ (d : List (List α)) (k : List (List (α × α))),
    Prod.map φ φ (dotMat z d k) = dotMat (φ z) (d.map (List.map φ)) (k.map (List.map (Prod.map φ φ)))
  | [], _ => by simp [dotMat]
  | _ :: _, [] => by simp [dotMat]
  | di :: ds, ei :: es => by
      have ih := dotMat_push z ds es
      have hr := dotRow_push hφ z di ei
      simp only [Prod.map, Prod.ext_iff] at ih hr
      simp only [dotMat, List.map_cons, Prod.map, hφ.add, ih.1, ih.2, hr.1, hr.2]

end naturality

/-! ### the spec-side views -/

section views
variable {α β γ δ : Type}

theorem idxRowFrom_shape (g : γ → δ) (f : Nat → Nat → α) (i : Nat) : ∀ (j : Nat) (row : List γ),
    idxRowFrom f i j (row.map g) = idxRowFrom f i j row
  | _, [] => rfl
  | j, _ :: rest => by simp only [idxRowFrom, List.map_cons, idxRowFrom_shape g f i (j + 1) rest]

theorem idxMatFrom_shape (g : γ → δ) (f : Nat → Nat → α) : ∀ (i : Nat) (m : List (List γ)),
    idxMatFrom f i (m.map (List.map g)) = idxMatFrom f i m
  | _, [] => rfl
  | i, row :: rest => by
      simp only [idxMatFrom, List.map_cons, idxRowFrom_shape, idxMatFrom_shape g f (i + 1) rest]

/-- `pgMat` only looks at the shape of the sample matrix -/
theorem pgMat_shape (g : γ → δ) (pg : Nat → Nat → α) (m : List (List γ)) :
    pgMat pg (m.map (List.map g)) = pgMat pg m := idxMatFrom_shape g pg 0 m

theorem eMat_push (φ : α → β) (m : List (List (α × α))) :
    (eMat m).map (List.map φ) = eMat (m.map (List.map (Prod.map φ φ))) := by
  simp [eMat, Function.comp_def]

theorem aMat_push (φ : α → β) (m : List (List (α × α))) :
    (aMat m).map (List.map φ) = aMat (m.map (List.map (Prod.map φ φ))) := by
  simp [aMat, Function.comp_def]

end views

/-! ## 2. `gadget_row` over every commutative ring (cited by `Props/C04.lean`) -/

section gen

theorem gadget_row_gen {α : Type} [CommRing α] (pg : Nat → Nat → α) (sIn sOut : α)
    (samples : List (List (α × α))) :
    (genEvaluationKey pg sIn sOut samples).map (fun r => r.map fun k => phase k sOut)
      = List.zipWith (fun pr er => List.zipWith (fun p e => p * sIn + e) pr er)
          (pgMat pg samples) (eMat samples) := by
  suffices h : ∀ (i : Nat) (m : List (List (α × α))),
      (genFrom pg sIn sOut i m).map (fun r => r.map fun k => phase k sOut)
        = List.zipWith (fun pr er => List.zipWith (fun p e => p * sIn + e) pr er)
            (idxMatFrom pg i m) (eMat m) from h 0 samples
  have hrow : ∀ (i j : Nat) (row : List (α × α)),
      (genRowFrom pg sIn sOut i j row).map (fun k => phase k sOut)
        = List.zipWith (fun p e => p * sIn + e) (idxRowFrom pg i j row) (row.map Prod.snd) := by
    intro i j row
    induction row generalizing j with
    | nil => rfl
    | cons ae rest ih =>
      obtain ⟨a, e⟩ := ae
      simp only [genRowFrom, idxRowFrom, List.map_cons, List.zipWith_cons_cons, KS.gadget_row, ih]
  intro i m
  induction m generalizing i with
  | nil => rfl
  | cons row rest ih =>
    simp only [genFrom, idxMatFrom, eMat, List.map_cons, List.zipWith_cons_cons, hrow] at ih ⊢
    rw [ih]

end gen

/-! ## 3. The theorems on `RPoly` values -/

/-- every entry of a matrix of polynomials / of sample pairs is well formed -/
def WFmat (qs : List ℕ) (n : ℕ) (d : List (List RPoly)) : Prop := ∀ r ∈ d, ∀ p ∈ r, WFq qs n p
def WFpairs (qs : List ℕ) (n : ℕ) (m : List (List (RPoly × RPoly))) : Prop :=
  ∀ r ∈ m, ∀ p ∈ r, WFq qs n p.1 ∧ WFq qs n p.2

instance (qs : List ℕ) (n : ℕ) (d : List (List RPoly)) : Decidable (WFmat qs n d) := by
  unfold WFmat; infer_instance
instance (qs : List ℕ) (n : ℕ) (m : List (List (RPoly × RPoly))) : Decidable (WFpairs qs n m) := by
  unfold WFpairs; infer_instance

section rpoly
variable {qs : List ℕ} {n : ℕ} [Good qs n]

theorem applyEvaluationKey_phase_wf {ks : RPoly × RPoly} {c0 c1 sIn sOut ν : RPoly} (hk0 : WFq qs n ks.1)
    (hk1 : WFq qs n ks.2) (hc0 : WFq qs n c0) (hc1 : WFq qs n c1) (hsIn : WFq qs n sIn) (hsOut : WFq qs n sOut)
    (hν : WFq qs n ν) (hks : phase ks sOut = c1 * sIn + ν) :
    phase (applyEvaluationKey ks (c0, c1)) sOut = phase (c0, c1) sIn + ν :=
  congrArg val (KS.applyEvaluationKey_phase (lift ks.1 hk0, lift ks.2 hk1) (lift c0 hc0, lift c1 hc1) (lift sIn hsIn)
    (lift sOut hsOut) (lift ν hν) (val_injective hks))

theorem automorphism_phase_wf (g : ℕ) (hg : Odd g) (hgc : Nat.Coprime g n) {ks : RPoly × RPoly}
    {c0 c1 s s' ν : RPoly} (hk0 : WFq qs n ks.1) (hk1 : WFq qs n ks.2) (hc0 : WFq qs n c0) (hc1 : WFq qs n c1)
    (hs : WFq qs n s) (hs' : WFq qs n s') (hν : WFq qs n ν) (hσ : s'.aut g = s)
    (hks : phase ks s' = c1 * s + ν) :
    phase (automorphism (fun y => y.aut g) ks (c0, c1)) s = (phase (c0, c1) s).aut g + ν.aut g :=
  congrArg val (KS.automorphism_phase (WFPoly.autRingHom g hg hgc) (fun _ => lift s' hs') (lift ks.1 hk0, lift ks.2 hk1)
    (lift c0 hc0, lift c1 hc1) (lift s hs) (lift ν hν) (val_injective hσ) (val_injective hks))

/-- `phase(evk[i][j], s_out) = P·g_ij·s_in + e_ij`, entry by entry, for the key the
model generates on `RPoly` values. -/
theorem gadget_row_rpoly (pg : Nat → Nat → RPoly) (sIn sOut : RPoly) (samples : List (List (RPoly × RPoly)))
    (hpg : ∀ i j, WFq qs n (pg i j)) (hsIn : WFq qs n sIn) (hsOut : WFq qs n sOut)
    (hsm : WFpairs qs n samples) :
    (genEvaluationKey pg sIn sOut samples).map (fun r => r.map fun k => phase k sOut)
      = List.zipWith (fun pr er => List.zipWith (fun p e => p * sIn + e) pr er)
          (pgMat pg samples) (eMat samples) := by
  lift pg to ℕ → ℕ → WFPoly qs n using hpg
  lift sIn to WFPoly qs n using hsIn
  lift sOut to WFPoly qs n using hsOut
  lift samples to List (List (WFPoly qs n × WFPoly qs n)) using hsm
  have h := congrArg (List.map (List.map val)) (gadget_row_gen pg sIn sOut samples)
  -- the matrix of phases is a `zipWith` of `zipWith`s: `val` goes through the outer one by the inner one
  rw [MP.zipWith_push _ _ _ _ _ (MP.zipWith_push (fun p e => p * sIn + e) (fun p e => p * val sIn + e) val val val
      fun _ _ => rfl), pgMat_push, eMat_push] at h
  simpa only [genEvaluationKey, pgMat_shape, ← genFrom_push val_hom, List.map_map, Function.comp_def, phase, val_add,
    val_mul, Prod.map_fst, Prod.map_snd] using h

/-- no hypothesis at all (the statement only uses the list structure) -/
theorem expand_eq_rpoly (pg : Nat → Nat → RPoly) (sIn sOut : RPoly) (samples : List (List (RPoly × RPoly))) :
    expand (compress (genEvaluationKey pg sIn sOut samples)) (aMat samples)
      = genEvaluationKey pg sIn sOut samples := KS.expand_eq pg sIn sOut samples

/-- Under (G), the inner product `x` of the digit matrix with the generated key and `E = Σ d_ij·e_ij` are well formed and
`x` has phase `P·c·s_in + E` under `s_out` — an identity between `RPoly` values. -/
theorem keyswitch_phase_QP_rpoly (pg : Nat → Nat → RPoly) (P c sIn sOut : RPoly)
    (samples : List (List (RPoly × RPoly))) (d : List (List RPoly))
    (hpg : ∀ i j, WFq qs n (pg i j)) (hP : WFq qs n P) (hc : WFq qs n c) (hsIn : WFq qs n sIn)
    (hsOut : WFq qs n sOut) (hsm : WFpairs qs n samples) (hd : WFmat qs n d)
    (hG : wsumMat (RPoly.zero qs n) d (pgMat pg samples) = P * c) :
    let x := dotMat (RPoly.zero qs n) d (genEvaluationKey pg sIn sOut samples)
    let E := wsumMat (RPoly.zero qs n) d (eMat samples)
    WFq qs n x.1 ∧ WFq qs n x.2 ∧ WFq qs n E ∧ phase x sOut = P * c * sIn + E := by
  lift pg to ℕ → ℕ → WFPoly qs n using hpg
  lift P to WFPoly qs n using hP
  lift c to WFPoly qs n using hc
  lift sIn to WFPoly qs n using hsIn
  lift sOut to WFPoly qs n using hsOut
  lift samples to List (List (WFPoly qs n × WFPoly qs n)) using hsm
  lift d to List (List (WFPoly qs n)) using hd
  have hG' : wsumMat 0 d (pgMat pg samples) = P * c := val_injective (by
    simpa only [wsumMat_push val_hom, pgMat_push, pgMat_shape, val_mul, val_zero] using hG)
  have hx := dotMat_push val_hom (0 : WFPoly qs n) d (genEvaluationKey pg sIn sOut samples)
  have hE := wsumMat_push val_hom (0 : WFPoly qs n) d (eMat samples)
  simp only [genEvaluationKey, genFrom_push val_hom, val_zero, eMat_push] at hx hE ⊢
  rw [← hx, ← hE]
  exact ⟨val_wf _, val_wf _, val_wf _, by
    simpa only [phase, val_add, val_mul, Prod.map_fst, Prod.map_snd, genEvaluationKey] using
      congrArg val (KS.keyswitch_phase_QP pg P c sIn sOut samples d hG')⟩

/-- `σ = RPoly.aut g` (`g` odd, coprime to `n`), level `QP`. -/
theorem automorphismHoistedLazy_phase_rpoly (g : ℕ) (hg : Odd g) (hgc : Nat.Coprime g n)
    (σinv : RPoly → RPoly) (pg : Nat → Nat → RPoly) (P c0 c1 s : RPoly)
    (samples : List (List (RPoly × RPoly))) (d : List (List RPoly))
    (hσwf : ∀ x, WFq qs n x → WFq qs n (σinv x))
    (hpg : ∀ i j, WFq qs n (pg i j)) (hP : WFq qs n P) (hc0 : WFq qs n c0) (hc1 : WFq qs n c1)
    (hs : WFq qs n s) (hsm : WFpairs qs n samples) (hd : WFmat qs n d)
    (hσ : (σinv s).aut g = s)
    (hG : wsumMat (RPoly.zero qs n) d (pgMat pg samples) = P * c1) :
    phase (automorphismHoistedLazy (fun x => x.aut g)
        (dotMat (RPoly.zero qs n) d (genGaloisKey σinv pg s samples)) (P * c0)) s
      = (P * phase (c0, c1) s + wsumMat (RPoly.zero qs n) d (eMat samples)).aut g := by
  obtain ⟨hx1, hx2, hE, hQP⟩ :=
    keyswitch_phase_QP_rpoly pg P c1 s (σinv s) samples d hpg hP hc1 hs (hσwf s hs) hsm hd hG
  exact congrArg val (KS.automorphismHoistedLazy_phase (WFPoly.autRingHom g hg hgc) (fun _ => lift _ (hσwf s hs))
    (lift _ hx1, lift _ hx2) (lift P hP) (lift c0 hc0) (lift c1 hc1) (lift s hs) (lift _ hE) (val_injective hσ)
    (val_injective hQP))

end rpoly

/-! ### the `ModDown` step: from `R_{QP}` (moduli `qs ++ ps`) to `R_Q` (moduli `qs`) -/

section withP
variable {qs ps : List ℕ} {n : ℕ} [Good qs n] [Good (qs ++ ps) n]

/-- An accumulator `x` modulo `QP` with phase `P·c·t + E` under `s` becomes,
after division by `P` with remainders `ρ`, a well-formed pair modulo `Q` with phase `π c·π t + ν` under `π s`, whenever
`π P·pinv = 1` and (R) `π E − (ρ₀ + ρ₁·π s) = π P·ν`.  The identity is reduced to the rows of `Q` on the plain values
(`takeRows` preserves `+ *` without any well-formedness), then divided by `P` in the one ring `R_Q`. -/
theorem modDown_phase_rpoly {x : RPoly × RPoly} {P c t s E pinv rho0 rho1 ν : RPoly}
    (hx0 : WFq (qs ++ ps) n x.1) (hx1 : WFq (qs ++ ps) n x.2) (hPw : WFq (qs ++ ps) n P) (hc : WFq (qs ++ ps) n c)
    (ht : WFq (qs ++ ps) n t) (hs : WFq (qs ++ ps) n s) (hE : WFq (qs ++ ps) n E)
    (hpinv : WFq qs n pinv) (hr0 : WFq qs n rho0) (hr1 : WFq qs n rho1) (hν : WFq qs n ν)
    (hx : phase x s = P * c * t + E) (hP : takeRows qs.length P * pinv = rpOne qs n)
    (hR : takeRows qs.length E - (rho0 + rho1 * takeRows qs.length s) = takeRows qs.length P * ν) :
    let ks := (modDown pinv (takeRows qs.length x.1) rho0, modDown pinv (takeRows qs.length x.2) rho1)
    WFq qs n ks.1 ∧ WFq qs n ks.2
      ∧ phase ks (takeRows qs.length s) = takeRows qs.length c * takeRows qs.length t + ν := by
  have hπ := takeRows_hom qs.length
  have hQ := congrArg (takeRows qs.length) hx
  simp only [phase, hπ.add, hπ.mul] at hQ
  exact ⟨((takeRows_wf hx0).sub hr0).mul hpinv, ((takeRows_wf hx1).sub hr1).mul hpinv,
    congrArg val (modDown_phase_eq (lift _ (takeRows_wf hPw)) (lift pinv hpinv) (lift _ (takeRows_wf hs))
      (lift _ (takeRows_wf hx0)) (lift _ (takeRows_wf hx1)) (lift rho0 hr0) (lift rho1 hr1) (lift _ (takeRows_wf hc))
      (lift _ (takeRows_wf ht)) (lift _ (takeRows_wf hE)) (lift ν hν) (val_injective hP) (val_injective hQ)
      (val_injective hR))⟩

/-- `σ_g = RPoly.aut g` on `R_Q` (`g` odd, coprime to `n`); the Galois key
re-encrypts `s` under `σinvA s` (any well-formedness-preserving map on `R_{QP}` with
`σ_g(π(σinvA s)) = π s`, e.g. `RPoly.aut g⁻¹`):
`phase(Aut_g ct, s) = σ_g(phase(ct, s)) + σ_g(ν)`. -/
theorem automorphism_phase_rpoly (g : ℕ) (hg : Odd g) (hgc : Nat.Coprime g n) (σinvA : RPoly → RPoly)
    (pg : Nat → Nat → RPoly) (P c1 s : RPoly)
    (samples : List (List (RPoly × RPoly))) (d : List (List RPoly)) (pinv rho0 rho1 ν c0 : RPoly)
    (hσwf : ∀ x, WFq (qs ++ ps) n x → WFq (qs ++ ps) n (σinvA x))
    (hpg : ∀ i j, WFq (qs ++ ps) n (pg i j)) (hPw : WFq (qs ++ ps) n P) (hc : WFq (qs ++ ps) n c1)
    (hs : WFq (qs ++ ps) n s) (hsm : WFpairs (qs ++ ps) n samples)
    (hd : WFmat (qs ++ ps) n d) (hpinv : WFq qs n pinv) (hr0 : WFq qs n rho0) (hr1 : WFq qs n rho1)
    (hν : WFq qs n ν) (hc0 : WFq qs n c0)
    (hσ : (takeRows qs.length (σinvA s)).aut g = takeRows qs.length s)
    (hG : wsumMat (RPoly.zero (qs ++ ps) n) d (pgMat pg samples) = P * c1)
    (hP : takeRows qs.length P * pinv = rpOne qs n)
    (hR : takeRows qs.length (wsumMat (RPoly.zero (qs ++ ps) n) d (eMat samples))
          - (rho0 + rho1 * takeRows qs.length (σinvA s)) = takeRows qs.length P * ν) :
    let x := dotMat (RPoly.zero (qs ++ ps) n) d (genGaloisKey σinvA pg s samples)
    let ks := (modDown pinv (takeRows qs.length x.1) rho0, modDown pinv (takeRows qs.length x.2) rho1)
    phase (automorphism (fun y => y.aut g) ks (c0, takeRows qs.length c1)) (takeRows qs.length s)
      = (phase (c0, takeRows qs.length c1) (takeRows qs.length s)).aut g + ν.aut g := by
  have hsO := hσwf s hs
  obtain ⟨hx1, hx2, hE, hQP⟩ := keyswitch_phase_QP_rpoly pg P c1 s (σinvA s) samples d hpg hPw hc hs hsO hsm hd hG
  obtain ⟨hk0, hk1, hks⟩ := modDown_phase_rpoly hx1 hx2 hPw hc hs hsO hE hpinv hr0 hr1 hν hQP hP hR
  exact automorphism_phase_wf g hg hgc hk0 hk1 hc0 (takeRows_wf hc) (takeRows_wf hs) (takeRows_wf hsO) hν hσ hks

end withP

/-! ## 4. The driver -/

section driver
open Driver.C04

/-- `gadgetProductR` (ops `gp`, `apply`, `relin`, `aut`, `applyup`, `applydown`) is `ModDown` of the inner
product `dotMat` of the digit matrix `decompose` with the key — the expression the theorems are about -/
theorem gadgetProductR_eq (qsP : List ℕ) (w nQkey : ℕ) (evk : List (List (RPoly × RPoly))) (c : RPoly) :
    gadgetProductR qsP w nQkey evk c
      = (modDownR c.qs.length
          (dotMat (RPoly.zero (c.qs ++ qsP) (c.c.headD []).length)
            (decompose qsP w (evk.map List.length) c) (evkAtLevel nQkey (c.qs.length - 1) evk)).1,
         modDownR c.qs.length
          (dotMat (RPoly.zero (c.qs ++ qsP) (c.c.headD []).length)
            (decompose qsP w (evk.map List.length) c) (evkAtLevel nQkey (c.qs.length - 1) evk)).2) := rfl

/-- with a non-empty `P` part, `Evaluator.ModDown` is the generic `modDown` with `π = ` first `nQ` rows,
`pinv = pinvElt`, `ρ = modUpPtoQ` of the `P` rows -/
theorem modDownR_eq (nQ : ℕ) (x : RPoly) (h : (x.qs.drop nQ).isEmpty = false) :
    modDownR nQ x
      = modDown (pinvElt (x.qs.take nQ) (x.qs.drop nQ) ((x.c.take nQ).headD []).length) (takeRows nQ x)
          (modUpPtoQ (x.qs.take nQ) (partP nQ x)) := by
  simp only [modDownR, partQ, partP, h, Bool.false_eq_true, if_false]
  rfl

/-- **the `apply` handler calls `applyEvaluationKey ∘ gadgetProductR`** on the parsed `RPoly` values -/
theorem handleKs_apply_calls (n q p lq lp w isNTT galEl nbPi shape evk ct : String)
    (nv : ℕ) (Q P : List ℕ) (lqv : ℕ) (lpv : ℤ) (wv gv nbv : ℕ) (shapev : List ℕ)
    (evkP ctP : List (List (List ℕ))) (c0 c1 : RPoly)
    (h1 : n.toNat? = some nv) (h2 : Driver.parseVec? q = some Q) (h3 : Driver.parseVec? p = some P)
    (h4 : lq.toNat? = some lqv) (h5 : lp.toInt? = some lpv) (h6 : w.toNat? = some wv)
    (h7 : galEl.toNat? = some gv) (h8 : nbPi.toNat? = some nbv) (h9 : Driver.parseVec? shape = some shapev)
    (h10 : parsePolys? evk = some evkP) (h11 : parsePolys? ct = some ctP)
    (hct : ctP.map (mkPoly (Q.take (ctP.headD []).length)) = [c0, c1]) :
    handleKs "apply" [n, q, p, lq, lp, w, isNTT, galEl, nbPi, shape, evk, ct]
      = some (showPolys
          [(applyEvaluationKey (gadgetProductR (levels Q P lqv lpv).2 wv (levels Q P lqv lpv).1.length
              (reshape shapev (pairs (evkP.map (mkPoly ((levels Q P lqv lpv).1 ++ (levels Q P lqv lpv).2))))) c1)
              (c0, c1)).1,
           (applyEvaluationKey (gadgetProductR (levels Q P lqv lpv).2 wv (levels Q P lqv lpv).1.length
              (reshape shapev (pairs (evkP.map (mkPoly ((levels Q P lqv lpv).1 ++ (levels Q P lqv lpv).2))))) c1)
              (c0, c1)).2]) := by
  -- one parser at a time, without rewriting inside the twelve branches of the handler
  refine MP.bind_of_eq_some h1 (MP.bind_of_eq_some h2 (MP.bind_of_eq_some h3 (MP.bind_of_eq_some h4
    (MP.bind_of_eq_some h5 (MP.bind_of_eq_some h6 (MP.bind_of_eq_some h7 (MP.bind_of_eq_some h8
      (MP.bind_of_eq_some h9 (MP.bind_of_eq_some h10 (MP.bind_of_eq_some h11 ?_))))))))))
  simp only [hct]

theorem pgElt_wf (qsQ qsP : List ℕ) (n w i j : ℕ) [hg : Good (qsQ ++ qsP) n] :
    WFq (qsQ ++ qsP) n (pgElt qsQ qsP n w i j) := by
  unfold pgElt
  exact StackKS.constPoly_wf' _ (by simp)

end driver

section driverPhase
variable {qs ps : List ℕ} {n : ℕ} [Good qs n] [Good (qs ++ ps) n]

theorem polyAtLevel_self (k : ℕ) (hk : 1 ≤ k) (a : RPoly) : polyAtLevel k (k - 1) a = a := by
  unfold polyAtLevel
  rw [Nat.sub_add_cancel hk, List.take_append_drop, List.take_append_drop]

theorem evkAtLevel_self (k : ℕ) (hk : 1 ≤ k) (evk : List (List (RPoly × RPoly))) :
    evkAtLevel k (k - 1) evk = evk := by
  unfold evkAtLevel
  simp only [polyAtLevel_self k hk, List.map_id', Prod.mk.eta]

/-- `GadgetProductLazy` on a well-formed `c` at the key's level is the accumulator `Σ d_ij·evk_ij` (`ps = []` allowed) -/
theorem gadgetProductLazyR_of_wf (hqs : qs ≠ []) (w : ℕ) (key : List (List (RPoly × RPoly))) {c : RPoly}
    (hc : WFq qs n c) :
    gadgetProductLazyR ps w qs.length key c
      = dotMat (RPoly.zero (qs ++ ps) n) (decompose ps w (key.map List.length) c) key := by
  show dotMat (RPoly.zero (c.qs ++ ps) (c.c.headD []).length) (decompose ps w (key.map List.length) c)
    (evkAtLevel qs.length (c.qs.length - 1) key) = _
  rw [hc.1, StackKS.headD_length hc hqs, evkAtLevel_self qs.length (List.length_pos_of_ne_nil hqs)]

/-- `GadgetProduct` with a non-empty `P` part is the generic `modDown` of the accumulator `x` (`GadgetProductLazy`), with
`π = ` the rows of `Q`, `pinv = pinvElt`, `ρ = modUpPtoQ` of the `P` rows -/
theorem gadgetProductR_of_wf (hqs : qs ≠ []) (hps : ps ≠ []) (w : ℕ) (key : List (List (RPoly × RPoly))) {c : RPoly}
    (hc : WFq qs n c) {x : RPoly × RPoly} (hx : gadgetProductLazyR ps w qs.length key c = x)
    (hx0 : WFq (qs ++ ps) n x.1) (hx1 : WFq (qs ++ ps) n x.2) :
    gadgetProductR ps w qs.length key c
      = (modDown (pinvElt qs ps n) (takeRows qs.length x.1) (modUpPtoQ qs (partP qs.length x.1)),
         modDown (pinvElt qs ps n) (takeRows qs.length x.2) (modUpPtoQ qs (partP qs.length x.2))) := by
  show (modDownR c.qs.length (gadgetProductLazyR ps w qs.length key c).1,
    modDownR c.qs.length (gadgetProductLazyR ps w qs.length key c).2) = _
  rw [hx, hc.1, StackKS.modDownR_of_wf hqs hps hx0, StackKS.modDownR_of_wf hqs hps hx1]

/-- The `apply` op of the driver (`handleKs_apply_calls`):
`applyEvaluationKey (gadgetProductR …) (c0, c1)` with the key `genEvaluationKey pg sIn sOut samples` at the
ciphertext's level, the driver's OWN digits `decompose`, `P⁻¹ = pinvElt` and centred remainders `modUpPtoQ`.
Under (G), `π P·pinv = 1`, (R) stated for these values, the output decrypts under `π s_out` to the input's phase
under `π s_in` plus `ν`. -/
theorem driver_apply_phase (hqs : qs ≠ []) (hps : ps ≠ []) (w : ℕ) (pg : Nat → Nat → RPoly)
    (P cQP sIn sOut : RPoly) (samples : List (List (RPoly × RPoly))) (c0 c1 ν : RPoly)
    (hpg : ∀ i j, WFq (qs ++ ps) n (pg i j)) (hPw : WFq (qs ++ ps) n P) (hcQP : WFq (qs ++ ps) n cQP)
    (hsIn : WFq (qs ++ ps) n sIn) (hsOut : WFq (qs ++ ps) n sOut) (hsm : WFpairs (qs ++ ps) n samples)
    (hc0 : WFq qs n c0) (hc1 : WFq qs n c1) (hν : WFq qs n ν) (hlift : takeRows qs.length cQP = c1) :
    let key := genEvaluationKey pg sIn sOut samples
    let d := decompose ps w (key.map List.length) c1
    let x := dotMat (RPoly.zero (qs ++ ps) n) d key
    WFmat (qs ++ ps) n d →
    wsumMat (RPoly.zero (qs ++ ps) n) d (pgMat pg samples) = P * cQP →
    takeRows qs.length P * pinvElt qs ps n = rpOne qs n →
    takeRows qs.length (wsumMat (RPoly.zero (qs ++ ps) n) d (eMat samples))
      - (modUpPtoQ qs (partP qs.length x.1) + modUpPtoQ qs (partP qs.length x.2) * takeRows qs.length sOut)
      = takeRows qs.length P * ν →
    phase (applyEvaluationKey (gadgetProductR ps w qs.length key c1) (c0, c1)) (takeRows qs.length sOut)
      = phase (c0, c1) (takeRows qs.length sIn) + ν := by
  intro key d x hd hG hP hR
  obtain ⟨hx0, hx1, hE, hQP⟩ := keyswitch_phase_QP_rpoly pg P cQP sIn sOut samples d hpg hPw hcQP hsIn hsOut hsm hd hG
  obtain ⟨hk0, hk1, hks⟩ := modDown_phase_rpoly hx0 hx1 hPw hcQP hsIn hsOut hE (StackKS.pinvElt_wf ps)
    (StackKS.modUpPtoQ_wf hx0 hps) (StackKS.modUpPtoQ_wf hx1 hps) hν hQP hP hR
  rw [hlift] at hks
  rw [gadgetProductR_of_wf hqs hps w key hc1 (gadgetProductLazyR_of_wf hqs w key hc1) hx0 hx1]
  exact applyEvaluationKey_phase_wf hk0 hk1 hc0 hc1 (takeRows_wf hsIn) (takeRows_wf hsOut) hν hks

end driverPhase

/-! ## 5. A concrete instance: `Q = [97]`, `P = [193]`, `n = 8`, the driver's own gadget vector and digits -/

section concrete

instance good8 : Good [97, 193] 8 := ⟨by decide, by decide⟩
instance good8Q : Good [97] 8 := ⟨by decide, by decide⟩
instance good8QP : Good ([97] ++ [193]) 8 := good8

def a8 : RPoly := ⟨[97, 193], [[1, 2, 3, 4, 5, 6, 7, 8], [10, 20, 30, 40, 50, 60, 70, 80]]⟩
def e8 : RPoly := ⟨[97, 193], [[1, 0, 96, 0, 2, 0, 95, 1], [1, 0, 192, 0, 2, 0, 191, 1]]⟩
def sIn8 : RPoly := ⟨[97, 193], [[1, 96, 0, 1, 0, 0, 96, 1], [1, 192, 0, 1, 0, 0, 192, 1]]⟩
def sOut8 : RPoly := ⟨[97, 193], [[0, 1, 1, 0, 96, 0, 0, 1], [0, 1, 1, 0, 192, 0, 0, 1]]⟩
/-- the ciphertext component to be switched, in `R_Q` -/
def c8 : RPoly := ⟨[97], [[90, 3, 50, 7, 0, 96, 48, 49]]⟩
/-- the driver's gadget vector `P·g_ij` and digit matrix for `c8` (`w = 0`: RNS digits) -/
def pg8 : Nat → Nat → RPoly := pgElt [97] [193] 8 0
def d8 : List (List RPoly) := decompose [193] 0 [1] c8
def samples8 : List (List (RPoly × RPoly)) := [[(a8, e8)]]

/-- hypotheses of `keyswitch_phase_QP_rpoly` on these values: well-formedness and (G) with
`P = pg8 0 0` (the constant `193`), `c = ` the centred lift of `c8` -/
theorem hyps8 : WFq [97, 193] 8 sIn8 ∧ WFq [97, 193] 8 sOut8
    ∧ WFpairs [97, 193] 8 samples8 ∧ WFmat [97, 193] 8 d8 ∧ WFq [97, 193] 8 ((d8.headD []).headD a8) := by
  decide +kernel

theorem hG8 : wsumMat (RPoly.zero [97, 193] 8) d8 (pgMat pg8 samples8) = pg8 0 0 * (d8.headD []).headD a8 := by
  decide +kernel

/-- an instance of `keyswitch_phase_QP_rpoly` obtained FROM THE THEOREM, all hypotheses discharged -/
example : phase (dotMat (RPoly.zero [97, 193] 8) d8 (genEvaluationKey pg8 sIn8 sOut8 samples8)) sOut8
    = pg8 0 0 * (d8.headD []).headD a8 * sIn8 + wsumMat (RPoly.zero [97, 193] 8) d8 (eMat samples8) :=
  (keyswitch_phase_QP_rpoly (qs := [97, 193]) (n := 8) pg8 (pg8 0 0) _ sIn8 sOut8 samples8 d8
    (fun i j => pgElt_wf [97] [193] 8 0 i j) (pgElt_wf [97] [193] 8 0 0 0) hyps8.2.2.2.2 hyps8.1 hyps8.2.1
    hyps8.2.2.1 hyps8.2.2.2.1 hG8).2.2.2

/-- TEST (evaluation): `keyswitch_phase_QP` on these values -/
example : phase (dotMat (RPoly.zero [97, 193] 8) d8 (genEvaluationKey pg8 sIn8 sOut8 samples8)) sOut8
    = pg8 0 0 * (d8.headD []).headD a8 * sIn8 + wsumMat (RPoly.zero [97, 193] 8) d8 (eMat samples8) := by
  decide +kernel

/-- TEST (evaluation): `gadget_row` on these values -/
example : (genEvaluationKey pg8 sIn8 sOut8 samples8).map (fun r => r.map fun k => phase k sOut8)
    = [[pg8 0 0 * sIn8 + e8]] := by decide +kernel

end concrete

end Lattigo.KS.C04Ring

#print axioms Lattigo.KS.C04Ring.gadget_row_rpoly
#print axioms Lattigo.KS.C04Ring.expand_eq_rpoly
#print axioms Lattigo.KS.C04Ring.keyswitch_phase_QP_rpoly
#print axioms Lattigo.KS.C04Ring.automorphism_phase_rpoly
#print axioms Lattigo.KS.C04Ring.automorphismHoistedLazy_phase_rpoly
#print axioms Lattigo.KS.C04Ring.gadgetProductR_eq
#print axioms Lattigo.KS.C04Ring.modDownR_eq
#print axioms Lattigo.KS.C04Ring.handleKs_apply_calls
#print axioms Lattigo.KS.C04Ring.driver_apply_phase
#print axioms Lattigo.KS.C04Ring.pgElt_wf
