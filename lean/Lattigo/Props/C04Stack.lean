/-
  C04 ⟵ C02: the key-switching phase theorem with its arithmetic hypotheses DISCHARGED.

  `Props/C04Ring.driver_apply_phase` states `phase(KS(c), s_out) = phase(c, s_in) + ν` for the driver's `apply` op under
  three hypotheses on the `RPoly` values:
    (G)  `Σ d_ij·P·g_ij = P·c`                (gadget recombination),
    (P)  `π P · pinv = 1`,
    (R)  `π E − ρ₀ − ρ₁·s = π P · ν`           (exact division, `ρ = ` centred remainders modulo `P`).
  Here they are PROVED, for every chain `qs ++ ps` of pairwise coprime moduli `≥ 2` (in particular pairwise distinct
  primes, `pairwise_coprime_of_primes`), every ring degree `n ≥ 1`, every `BaseTwoDecomposition w`, every number of
  special primes `#ps ≥ 1`, all well-formed inputs and every key of the shape the parameters prescribe:

    (G) `StackKS.gadget_closed`  — from `decomposeRNSZ_emod` (C02's `hps_sum_eq` through `centerHalf_emod`, EVERY value of
        the IEEE index), `bits_recomb` (`digits_recombine`) and `KS.gadget_identity`;
    (P) `StackKS.hP_closed`      — from `RPolyRing.modInv_spec`;
    (R) ring algebra from (P); `ρ_i = π(rem x_i)` with `rem x ≡ x (mod P)` for every IEEE index (`partP_rem`) and
        `2‖rem x‖∞ ≤ P` under the NAMED IEEE hypothesis `FloatExactPoly` (`remZ_bound`) — the hypothesis
        `fidx … = hpsV …` of `Props/C02` (`StackKS.floatExact_iff_fidx`), needed ONLY for the size of the remainder.

  `gadgetProductLazy_closed` : the accumulator of `GadgetProductLazy` modulo `QP` (every `ps`, also `[]`): well formed,
     `phase = P·c·s_in + Σ d_ij·e_ij` — (G) discharged.
  `gadgetProduct_closed`     : `GadgetProduct` = `ModDown` of it (`C04Ring.modDown_phase_rpoly`, (P), (R) discharged):
     `phase(GP(c), π s_out) = c·π s_in + ν`.  `keyswitch_phase_closed`, `gadgetProduct_phase_closed`, `relin_phase_closed`,
     `automorphism_phase_closed` (ops `apply`, `gp`, `relin`, `aut`) are what `applyEvaluationKey`, `relinearize`,
     `automorphism` do to that pair (`C04Ring.…_phase_wf`); hypotheses = well-formedness + shape of the key.
  `keyswitch_noise_closed` : with errors / output secret given by signed coefficient lists (`ofInts`), the noise `ν` is the
     reduction of an INTEGER polynomial `ν^Z` with `2P‖ν^Z‖∞ ≤ 2·n·B·ΣD_ij + P(1 + h)`: `keyswitch_noise_bound` (Props/C04Noise)
     with `hrel`, `h0`, `h1`, `hd` all DERIVED (the ZPoly reading of (R) that `C04Noise` takes as a hypothesis is proved
     from the identity modulo `QP` + `rem x ≡ x (mod P)` + the homomorphism `ofInts : Z[X]/(X^n+1) → R_q` of
     `Proofs/StackKSZ`).  Remaining: the named IEEE hypothesis `FloatExactPoly` on the two accumulators (and on the
     blocks of multi-prime digits when `#ps ≥ 2`).
  Not covered here: the hoisted variants (`DecomposeNTT` digits with a caller-chosen `nbPi`) and keys without `P`
  (`Proofs/KeySwitchClosed`: the lazy product at `ps = []`, no division), the ring-degree switches.
-/
import Lattigo.Props.C04Ring
import Lattigo.Props.C04Noise
import Lattigo.Proofs.StackKSGadget
import Lattigo.Proofs.StackKSNoise

set_option linter.unusedSectionVars false

namespace Lattigo.KS.C04Stack
open Lattigo Lattigo.KS Lattigo.RPolyRing Lattigo.Transport Lattigo.KS.C04Ring Lattigo.StackKS Driver.C04

/-! ## 1. The phase theorem, closed -/

section phase
variable {qs ps : List ℕ} {n : ℕ} [hgq : Good qs n] [hg : Good (qs ++ ps) n]

/-- **the lazy gadget product, closed** (`GadgetProductLazy`, modulo `QP`; `ps = []` allowed): for a key generated by the
model from `(sIn, sOut, samples)` of the prescribed shape and a well-formed `c`, the accumulator `x = Σ d_ij·evk_ij` is
well formed and `phase(x, s_out) = P·c·s_in + Σ d_ij·e_ij` — (G) discharged.  `GadgetProduct` divides this by `P`
(`gadgetProduct_closed`), a key without `P` returns it as it is, `AutomorphismHoistedLazy` adds `P·c0` to it. -/
theorem gadgetProductLazy_closed (hqs : qs ≠ []) (hco : qs.Pairwise Nat.Coprime) (w : ℕ)
    (sIn sOut : RPoly) (samples : List (List (RPoly × RPoly))) (c1 : RPoly)
    (hsIn : WFq (qs ++ ps) n sIn) (hsOut : WFq (qs ++ ps) n sOut) (hsm : WFpairs (qs ++ ps) n samples)
    (hc1 : WFq qs n c1)
    (hshape : samples.map List.length = gadgetShape qs (qs.length - 1) ps.length w) :
    let key := genEvaluationKey (pgElt qs ps n w) sIn sOut samples
    let d := decompose ps w (key.map List.length) c1
    let z := RPoly.zero (qs ++ ps) n
    let x := dotMat z d key
    let E := wsumMat z d (eMat samples)
    gadgetProductLazyR ps w qs.length key c1 = x
      ∧ WFmat (qs ++ ps) n d ∧ WFq (qs ++ ps) n x.1 ∧ WFq (qs ++ ps) n x.2 ∧ WFq (qs ++ ps) n E
      ∧ phase x sOut = constQ (qs ++ ps) n (RPoly.prod ps) * extZ ps n c1 * sIn + E := by
  intro key d z x E
  have hpg : ∀ i j, WFq (qs ++ ps) n (pgElt qs ps n w i j) := fun i j => pgElt_wf qs ps n w i j
  have hdeq : d = decompose ps w (samples.map List.length) c1 := by
    show decompose _ _ _ _ = _; rw [genEvaluationKey_lengths]
  have hd : WFmat (qs ++ ps) n d := by rw [hdeq]; exact decompose_wf ps hqs w _ hc1
  exact ⟨gadgetProductLazyR_of_wf hqs w key hc1, hd,
    keyswitch_phase_QP_rpoly _ _ _ sIn sOut samples d hpg (constQ_wf _) (extZ_wf ps hc1) hsIn hsOut hsm hd
      (by rw [hdeq]; exact gadget_closed hqs hco w hc1 samples hshape)⟩

/-- **the gadget product, closed** (`GadgetProduct` = `ModDown` of the lazy product, `ps ≠ []`): components and noise
well formed, `phase(GP(c), π s_out) = c·π s_in + ν`, `P·ν = π E − (ρ₀ + ρ₁·π s_out)`; every user of the product starts here -/
theorem gadgetProduct_closed (hqs : qs ≠ []) (hps : ps ≠ []) (hco : (qs ++ ps).Pairwise Nat.Coprime) (w : ℕ)
    (sIn sOut : RPoly) (samples : List (List (RPoly × RPoly))) (c1 : RPoly)
    (hsIn : WFq (qs ++ ps) n sIn) (hsOut : WFq (qs ++ ps) n sOut) (hsm : WFpairs (qs ++ ps) n samples)
    (hc1 : WFq qs n c1)
    (hshape : samples.map List.length = gadgetShape qs (qs.length - 1) ps.length w) :
    let key := genEvaluationKey (pgElt qs ps n w) sIn sOut samples
    let d := decompose ps w (key.map List.length) c1
    let z := RPoly.zero (qs ++ ps) n
    let x := dotMat z d key
    let Y := takeRows qs.length (wsumMat z d (eMat samples))
      - (modUpPtoQ qs (partP qs.length x.1) + modUpPtoQ qs (partP qs.length x.2) * takeRows qs.length sOut)
    let ν := pinvElt qs ps n * Y
    let gp := gadgetProductR ps w qs.length key c1
    WFq qs n gp.1 ∧ WFq qs n gp.2 ∧ WFq qs n ν ∧ phase gp (takeRows qs.length sOut) = c1 * takeRows qs.length sIn + ν
      ∧ constQ qs n (RPoly.prod ps) * ν = Y := by
  intro key d z x Y ν gp
  obtain ⟨hl, -, hx1, hx2, hE, hQP⟩ :=
    gadgetProductLazy_closed hqs (List.pairwise_append.1 hco).1 w sIn sOut samples c1 hsIn hsOut hsm hc1 hshape
  have hr0 : WFq qs n (modUpPtoQ qs (partP qs.length x.1)) := modUpPtoQ_wf hx1 hps
  have hr1 : WFq qs n (modUpPtoQ qs (partP qs.length x.2)) := modUpPtoQ_wf hx2 hps
  have hpinv : WFq qs n (pinvElt qs ps n) := pinvElt_wf ps
  have hY : WFq qs n Y := (takeRows_wf hE).sub (hr0.add (hr1.mul (takeRows_wf hsOut)))
  have hP : constQ qs n (RPoly.prod ps) * pinvElt qs ps n = rpOne qs n := hP_closed ps (coprime_prod_of_pairwise hco)
  have hν : constQ qs n (RPoly.prod ps) * ν = Y := (cancel_inv (constQ_wf _) hpinv hY hP).1
  have e : gp = _ := gadgetProductR_of_wf hqs hps w key hc1 hl hx1 hx2
  rw [e]
  obtain ⟨hk0, hk1, hks⟩ := modDown_phase_rpoly hx1 hx2 (constQ_wf _) (extZ_wf ps hc1) hsIn hsOut hE hpinv hr0 hr1
    (hpinv.mul hY) hQP (by rw [takeRows_constQ]; exact hP) (by rw [takeRows_constQ]; exact hν.symm)
  rw [takeRows_extZ ps hc1] at hks
  exact ⟨hk0, hk1, hpinv.mul hY, hks, hν⟩

/-- The driver's `apply` op (`applyEvaluationKey ∘ gadgetProductR`, `handleKs_apply_calls`)
with a key generated by the model (`genEvaluationKey` with the model's gadget vector `pgElt`) of the shape the
parameters prescribe, on well-formed inputs over pairwise coprime moduli:

  `phase(KS(c0, c1), π s_out) = phase((c0, c1), π s_in) + ν`,  `P·ν = π(Σ d_ij·e_ij) − π(rem x₀) − π(rem x₁)·π s_out`,

where `x = Σ d_ij·evk_ij` is the accumulator modulo `QP`, `rem x_i` the model's centred remainder modulo `P`, which
satisfies `rem x_i ≡ x_i (mod P)`.  No hypothesis (G), (P), (R) and no hypothesis on the IEEE index is left. -/
theorem keyswitch_phase_closed (hqs : qs ≠ []) (hps : ps ≠ []) (hco : (qs ++ ps).Pairwise Nat.Coprime) (w : ℕ)
    (sIn sOut : RPoly) (samples : List (List (RPoly × RPoly))) (c0 c1 : RPoly)
    (hsIn : WFq (qs ++ ps) n sIn) (hsOut : WFq (qs ++ ps) n sOut) (hsm : WFpairs (qs ++ ps) n samples)
    (hc0 : WFq qs n c0) (hc1 : WFq qs n c1)
    (hshape : samples.map List.length = gadgetShape qs (qs.length - 1) ps.length w) :
    let key := genEvaluationKey (pgElt qs ps n w) sIn sOut samples
    let d := decompose ps w (key.map List.length) c1
    let z := RPoly.zero (qs ++ ps) n
    let x := dotMat z d key
    let E := wsumMat z d (eMat samples)
    let Y := takeRows qs.length E
      - (takeRows qs.length (rem qs ps x.1) + takeRows qs.length (rem qs ps x.2) * takeRows qs.length sOut)
    let ν := pinvElt qs ps n * Y
    phase (applyEvaluationKey (gadgetProductR ps w qs.length key c1) (c0, c1)) (takeRows qs.length sOut)
        = phase (c0, c1) (takeRows qs.length sIn) + ν
      ∧ constQ qs n (RPoly.prod ps) * ν = Y
      ∧ partP qs.length (rem qs ps x.1) = partP qs.length x.1
      ∧ partP qs.length (rem qs ps x.2) = partP qs.length x.2
      ∧ WFq qs n ν := by
  intro key d z x E
  rw [takeRows_rem, takeRows_rem]
  intro Y ν
  obtain ⟨hk0, hk1, hν, hks, hY⟩ := gadgetProduct_closed hqs hps hco w sIn sOut samples c1 hsIn hsOut hsm hc1 hshape
  obtain ⟨-, -, hx1, hx2, -, -⟩ :=
    gadgetProductLazy_closed hqs (List.pairwise_append.1 hco).1 w sIn sOut samples c1 hsIn hsOut hsm hc1 hshape
  have hpsc := (List.pairwise_append.1 hco).2.1
  have hpge : ∀ p ∈ ps, 2 ≤ p := (good_right hg).q_ge
  exact ⟨applyEvaluationKey_phase_wf hk0 hk1 hc0 hc1 (takeRows_wf hsIn) (takeRows_wf hsOut) hν hks, hY,
    partP_rem hx1 hps hpsc hpge, partP_rem hx2 hps hpsc hpge, hν⟩

/-! ### the other users of the gadget product: `GadgetProduct` itself, `Relinearize`, `Automorphism` -/

/-- `GadgetProduct`, op `gp`: `phase(GP(c), π s_out) = c·π s_in + ν` -/
theorem gadgetProduct_phase_closed (hqs : qs ≠ []) (hps : ps ≠ []) (hco : (qs ++ ps).Pairwise Nat.Coprime) (w : ℕ)
    (sIn sOut : RPoly) (samples : List (List (RPoly × RPoly))) (c1 : RPoly)
    (hsIn : WFq (qs ++ ps) n sIn) (hsOut : WFq (qs ++ ps) n sOut) (hsm : WFpairs (qs ++ ps) n samples)
    (hc1 : WFq qs n c1)
    (hshape : samples.map List.length = gadgetShape qs (qs.length - 1) ps.length w) :
    let key := genEvaluationKey (pgElt qs ps n w) sIn sOut samples
    let d := decompose ps w (key.map List.length) c1
    let z := RPoly.zero (qs ++ ps) n
    let x := dotMat z d key
    let ν := pinvElt qs ps n * (takeRows qs.length (wsumMat z d (eMat samples))
      - (modUpPtoQ qs (partP qs.length x.1) + modUpPtoQ qs (partP qs.length x.2) * takeRows qs.length sOut))
    phase (gadgetProductR ps w qs.length key c1) (takeRows qs.length sOut)
      = c1 * takeRows qs.length sIn + ν :=
  (gadgetProduct_closed hqs hps hco w sIn sOut samples c1 hsIn hsOut hsm hc1 hshape).2.2.2.1

/-- `Relinearize`, op `relin`: with the model's relinearisation key (`s² → s`),
`phase(Relin(c0, c1, c2), π s) = c0 + c1·π s + c2·(π s)² + ν` -/
theorem relin_phase_closed (hqs : qs ≠ []) (hps : ps ≠ []) (hco : (qs ++ ps).Pairwise Nat.Coprime) (w : ℕ)
    (s : RPoly) (samples : List (List (RPoly × RPoly))) (c0 c1 c2 : RPoly)
    (hs : WFq (qs ++ ps) n s) (hsm : WFpairs (qs ++ ps) n samples)
    (hc0 : WFq qs n c0) (hc1 : WFq qs n c1) (hc2 : WFq qs n c2)
    (hshape : samples.map List.length = gadgetShape qs (qs.length - 1) ps.length w) :
    let key := genRelinearizationKey (pgElt qs ps n w) s samples
    let d := decompose ps w (key.map List.length) c2
    let z := RPoly.zero (qs ++ ps) n
    let x := dotMat z d key
    let ν := pinvElt qs ps n * (takeRows qs.length (wsumMat z d (eMat samples))
      - (modUpPtoQ qs (partP qs.length x.1) + modUpPtoQ qs (partP qs.length x.2) * takeRows qs.length s))
    phase (relinearize (gadgetProductR ps w qs.length key c2) (c0, c1, c2)) (takeRows qs.length s)
      = c0 + c1 * takeRows qs.length s + c2 * (takeRows qs.length s * takeRows qs.length s) + ν := by
  obtain ⟨hk0, hk1, hν, hks, -⟩ := gadgetProduct_closed hqs hps hco w (s * s) s samples c2 (hs.mul hs) hs hsm hc2 hshape
  rw [(takeRows_hom qs.length).mul] at hks
  exact congrArg val (KS.relin_phase (lift _ hk0, lift _ hk1) (lift c0 hc0, lift c1 hc1, lift c2 hc2)
    (lift _ (takeRows_wf hs)) (lift _ hν) (val_injective hks))

/-- `Automorphism`, op `aut`: with the model's Galois key for `g` (`s → σinvA s`, any
well-formedness-preserving `σinvA` with `σ_g(π(σinvA s)) = π s`, e.g. `RPoly.aut g⁻¹`),
`phase(Aut_g(c0, c1), π s) = σ_g(phase((c0, c1), π s)) + σ_g(ν)` -/
theorem automorphism_phase_closed (hqs : qs ≠ []) (hps : ps ≠ []) (hco : (qs ++ ps).Pairwise Nat.Coprime) (w : ℕ)
    (g : ℕ) (hg1 : Odd g) (hgc : Nat.Coprime g n) (σinvA : RPoly → RPoly)
    (hσwf : ∀ x, WFq (qs ++ ps) n x → WFq (qs ++ ps) n (σinvA x))
    (s : RPoly) (samples : List (List (RPoly × RPoly))) (c0 c1 : RPoly)
    (hs : WFq (qs ++ ps) n s) (hsm : WFpairs (qs ++ ps) n samples) (hc0 : WFq qs n c0) (hc1 : WFq qs n c1)
    (hσ : (takeRows qs.length (σinvA s)).aut g = takeRows qs.length s)
    (hshape : samples.map List.length = gadgetShape qs (qs.length - 1) ps.length w) :
    let key := genGaloisKey σinvA (pgElt qs ps n w) s samples
    let d := decompose ps w (key.map List.length) c1
    let z := RPoly.zero (qs ++ ps) n
    let x := dotMat z d key
    let ν := pinvElt qs ps n * (takeRows qs.length (wsumMat z d (eMat samples))
      - (modUpPtoQ qs (partP qs.length x.1)
          + modUpPtoQ qs (partP qs.length x.2) * takeRows qs.length (σinvA s)))
    phase (automorphism (fun y => y.aut g) (gadgetProductR ps w qs.length key c1) (c0, c1)) (takeRows qs.length s)
      = (phase (c0, c1) (takeRows qs.length s)).aut g + ν.aut g := by
  obtain ⟨hk0, hk1, hν, hks, -⟩ :=
    gadgetProduct_closed hqs hps hco w s (σinvA s) samples c1 hs (hσwf s hs) hsm hc1 hshape
  exact automorphism_phase_wf g hg1 hgc hk0 hk1 hc0 hc1 (takeRows_wf hs) (takeRows_wf (hσwf s hs)) hν hσ hks

end phase

/-! ## 2. The noise bound, closed -/

section noise
open Lattigo.ZPoly
variable {qs ps : List ℕ} {n : ℕ} [hgq : Good qs n] [hg : Good (qs ++ ps) n]

theorem neg_zero_mul {y : RPoly} (hy : WFq ps n y) [Good ps n] : -(RPoly.zero ps n * y) = RPoly.zero ps n :=
  congrArg val (show -((0 : WFPoly ps n) * lift y hy) = 0 by rw [zero_mul, neg_zero])

set_option linter.unusedVariables false in  -- `hodd` is not needed: 2|centeredRep M x| ≤ M for every M > 0
/-- Setting of `keyswitch_phase_closed`, with the errors of the key and the output secret
given by their signed coefficient lists (`e_ij = ofInts e^Z_ij`, `‖e^Z_ij‖∞ ≤ B`; `s_out = ofInts s^Z`, `‖s^Z‖₁ ≤ h` — this is
how the driver builds them).  Under the NAMED IEEE hypothesis on the two accumulators (`FloatExactPoly`: the index of
`ModUpPtoQ` is the exact one) and, for a key with several special primes, on the blocks of the multi-prime digits, the
noise added by the key switch is the reduction of an INTEGER polynomial `ν^Z` with

      `2·P·‖ν^Z‖∞ ≤ 2·n·B·Σ_{i,j} D_ij + P·(1 + h)`,      i.e.  `‖ν^Z‖∞ ≤ n·B·ΣD/P + (1 + h)/2`,

`D_ij = digitBounds` (`⌈q_i/2⌉`, `⌊Q_i/2⌋`, `2^w − 1`).  `Props/C04Noise.keyswitch_noise_bound` with ALL its hypotheses
(`hrel` included: the exact division by `P` is `StackKS.exact_div_pair` on the phase identity modulo `QP`, with the CRT
congruence `rem x ≡ x (mod P)`) discharged.  The centred remainders are small for every modulus: `2|ρ| ≤ P` and the bound
`⌊Q_i/2⌋` of a multi-prime digit hold for even and odd products alike (`StackKS.two_mul_centeredRep_natAbs_le`). -/
theorem keyswitch_noise_closed (hqs : qs ≠ []) (hps : ps ≠ []) (hco : (qs ++ ps).Pairwise Nat.Coprime)
    (hodd : ∀ q ∈ qs ++ ps, q % 2 = 1) (w : ℕ) (sIn : RPoly) (sZ : List ℤ)
    (samples : List (List (RPoly × RPoly))) (eZ : List (List (List ℤ))) (c0 c1 : RPoly) (B h : ℕ)
    (hsIn : WFq (qs ++ ps) n sIn) (hsZ : sZ.length = n) (hsm : WFpairs (qs ++ ps) n samples)
    (hc0 : WFq qs n c0) (hc1 : WFq qs n c1)
    (hshape : samples.map List.length = gadgetShape qs (qs.length - 1) ps.length w)
    (heZ : eMat samples = eZ.map (List.map (RPoly.ofInts (qs ++ ps))))
    (hel : ∀ r ∈ eZ, ∀ e ∈ r, e.length = n) (heB : ErrBounded B eZ) (hsn : norm1 sZ ≤ h) :
    let sOut := RPoly.ofInts (qs ++ ps) sZ
    let key := genEvaluationKey (pgElt qs ps n w) sIn sOut samples
    let d := decompose ps w (key.map List.length) c1
    let x := dotMat (RPoly.zero (qs ++ ps) n) d key
    FloatExactPoly (partP qs.length x.1) → FloatExactPoly (partP qs.length x.2) →
    (ps.length ≥ 2 → ∀ i, ¬ dLvl qs.length ps.length i < 0 →
      FloatExactPoly (block (i * ps.length) (min (i * ps.length + ps.length) (qs.length - 1 + 1) - i * ps.length) c1)) →
    ∃ νZ : List ℤ, νZ.length = n
      ∧ phase (applyEvaluationKey (gadgetProductR ps w qs.length key c1) (c0, c1)) (takeRows qs.length sOut)
          = phase (c0, c1) (takeRows qs.length sIn) + RPoly.ofInts qs νZ
      ∧ 2 * (Scaling.prodN ps * normInf νZ)
          ≤ 2 * (n * B * sumSum (digitBounds qs ps.length w (samples.map List.length)))
            + Scaling.prodN ps * (1 + h) := by
  intro sOut key d x hf0 hf1 hfd
  have hsOut : WFq (qs ++ ps) n sOut := ofInts_wf _ hsZ
  obtain ⟨hphase, -, hp0, hp1, -⟩ := keyswitch_phase_closed hqs hps hco w sIn sOut samples c0 c1 hsIn hsOut
    hsm hc0 hc1 hshape
  obtain ⟨-, -, hx1, hx2, -, hQP⟩ :=
    gadgetProductLazy_closed hqs (List.pairwise_append.1 hco).1 w sIn sOut samples c1 hsIn hsOut hsm hc1 hshape
  have hpsc := (List.pairwise_append.1 hco).2.1
  have hpge : ∀ p ∈ ps, 2 ≤ p := (good_right hg).q_ge
  have hdeq : d = decompose ps w (samples.map List.length) c1 := by
    show decompose _ _ _ _ = _; rw [genEvaluationKey_lengths]
  let dZ := decomposeZ ps.length w (samples.map List.length) c1
  have hdZeq : d = dZ.map (List.map (RPoly.ofInts (qs ++ ps))) := by
    rw [hdeq, decompose_eq_ofInts, hc1.1]
  have hdl : ∀ r ∈ dZ, ∀ e ∈ r, e.length = n := decomposeZ_length hqs _ w _ hc1
  obtain ⟨hEZ, hEZl⟩ := wsumMat_ofInts (qs := qs ++ ps) (n := n) dZ eZ hdl hel
  let EZ := dotMatZ n dZ eZ
  have hE : wsumMat (RPoly.zero (qs ++ ps) n) d (eMat samples) = RPoly.ofInts (qs ++ ps) EZ := by
    rw [hdZeq, heZ]; exact hEZ
  let ρ0 := remZ (partP qs.length x.1)
  let ρ1 := remZ (partP qs.length x.2)
  have hρ0l : ρ0.length = n := remZ_length (partP_wf hx1) hps
  have hρ1l : ρ1.length = n := remZ_length (partP_wf hx2) hps
  -- the phase identity modulo `QP`; its gadget term vanishes on the `P` rows
  rw [hE] at hQP hphase
  obtain ⟨hrel, hν⟩ := exact_div_pair (qs := qs) hco hEZl hρ0l hρ1l hsZ hx1 hx2
    (((constQ_wf _).mul (extZ_wf ps hc1)).mul hsIn) hp0 hp1 (partP_constQ_mul (extZ_wf ps hc1) hsIn) hQP
  refine ⟨(ZPoly.sub (ZPoly.sub EZ ρ0) (ZPoly.mul sZ ρ1)).map (· / ((Scaling.prodN ps : ℕ) : ℤ)),
    by rw [List.length_map]; exact sub_length _ _ (sub_length _ _ hEZl hρ0l) (by rw [mul_length, hsZ]), ?_, ?_⟩
  · -- `ν = P⁻¹·(π E − (π(rem x₀) + π(rem x₁)·π s_out))`, all four the reductions of integer lists
    rw [hphase, ← hν, ← takeRows_ofInts qs ps EZ, ← takeRows_ofInts qs ps ρ0, ← takeRows_ofInts qs ps ρ1,
      ← takeRows_ofInts qs ps sZ]
    rfl
  · have h0 : 2 * normInf ρ0 ≤ Scaling.prodN ps :=
      two_normInf_le_of (remZ_bound (partP_wf hx1) hpsc hpge hf0)
    have h1 : 2 * normInf ρ1 ≤ Scaling.prodN ps :=
      two_normInf_le_of (remZ_bound (partP_wf hx2) hpsc hpge hf1)
    have hdb := digitsBounded_decomposeZ hqs (List.pairwise_append.1 hco).1 ps.length w (samples.map List.length) hc1 hfd
    exact Lattigo.KS.C04.keyswitch_noise_bound n (Scaling.prodN ps) B h dZ eZ _ _ ρ0 ρ1 sZ hdb heB hrel h0 h1 hsn

end noise

/-! ## 3. Concrete instances (`n = 8`), every remaining hypothesis discharged -/

section concrete

def c08 : RPoly := ⟨[97], [[1, 2, 3, 4, 5, 6, 7, 8]]⟩

/-- (a) `Q = [97]`, `P = [193]`, RNS digits (`w = 0`): the hypotheses of `keyswitch_phase_closed` -/
theorem hyps_a : ([97] : List ℕ) ≠ [] ∧ ([193] : List ℕ) ≠ [] ∧ ([97] ++ [193] : List ℕ).Pairwise Nat.Coprime
    ∧ WFq ([97] ++ [193]) 8 sIn8 ∧ WFq ([97] ++ [193]) 8 sOut8 ∧ WFpairs ([97] ++ [193]) 8 samples8
    ∧ WFq [97] 8 c08 ∧ WFq [97] 8 c8
    ∧ samples8.map List.length = gadgetShape [97] ([97].length - 1) [193].length 0 := by
  refine ⟨by decide, by decide, by decide, by decide +kernel, by decide +kernel, by decide +kernel,
    by decide +kernel, by decide +kernel, by decide⟩

/-- the instance obtained FROM THE THEOREM: the driver's `apply` on these values decrypts, under `π s_out`, to the
input's phase under `π s_in` plus `ν = P⁻¹·(π E − ρ₀ − ρ₁·π s_out)`, and `P·ν = π E − ρ₀ − ρ₁·π s_out` -/
theorem instance_a :
    let key := genEvaluationKey (pgElt [97] [193] 8 0) sIn8 sOut8 samples8
    let d := decompose [193] 0 (key.map List.length) c8
    let z := RPoly.zero ([97] ++ [193]) 8
    let x := dotMat z d key
    let Y := takeRows 1 (wsumMat z d (eMat samples8))
      - (takeRows 1 (rem [97] [193] x.1) + takeRows 1 (rem [97] [193] x.2) * takeRows 1 sOut8)
    phase (applyEvaluationKey (gadgetProductR [193] 0 1 key c8) (c08, c8)) (takeRows 1 sOut8)
        = phase (c08, c8) (takeRows 1 sIn8) + pinvElt [97] [193] 8 * Y
      ∧ constQ [97] 8 (RPoly.prod [193]) * (pinvElt [97] [193] 8 * Y) = Y := by
  obtain ⟨hqs, hps, hco, hsIn, hsOut, hsm, hc0, hc1, hshape⟩ := hyps_a
  have h := keyswitch_phase_closed (qs := [97]) (ps := [193]) (n := 8) hqs hps hco 0 sIn8 sOut8 samples8 c08 c8 hsIn
    hsOut hsm hc0 hc1 hshape
  exact ⟨h.1, h.2.1⟩

/-- three samples for the base-`2^3` key of `Q = [97]` (`⌈7/3⌉ = 3` digits) -/
def samples8b : List (List (RPoly × RPoly)) := [[(a8, e8), (e8, a8), (sIn8, e8)]]

/-- (b) base-`2^3` digits -/
theorem instance_b :
    let key := genEvaluationKey (pgElt [97] [193] 8 3) sIn8 sOut8 samples8b
    let d := decompose [193] 3 (key.map List.length) c8
    let z := RPoly.zero ([97] ++ [193]) 8
    let x := dotMat z d key
    let Y := takeRows 1 (wsumMat z d (eMat samples8b))
      - (takeRows 1 (rem [97] [193] x.1) + takeRows 1 (rem [97] [193] x.2) * takeRows 1 sOut8)
    phase (applyEvaluationKey (gadgetProductR [193] 3 1 key c8) (c08, c8)) (takeRows 1 sOut8)
        = phase (c08, c8) (takeRows 1 sIn8) + pinvElt [97] [193] 8 * Y
      ∧ constQ [97] 8 (RPoly.prod [193]) * (pinvElt [97] [193] 8 * Y) = Y := by
  obtain ⟨hqs, hps, hco, hsIn, hsOut, -, hc0, hc1, -⟩ := hyps_a
  have h := keyswitch_phase_closed (qs := [97]) (ps := [193]) (n := 8) hqs hps hco 3 sIn8 sOut8 samples8b c08 c8 hsIn
    hsOut (by decide +kernel) hc0 hc1 (by decide)
  exact ⟨h.1, h.2.1⟩

/-- TEST (EVALUATION with the compiled IEEE arithmetic — `modDownR` goes through `floatIndex`; not kernel-checked):
the conclusion of `instance_a` / `instance_b` on the values, and the named IEEE hypothesis on the two accumulators -/
def concl8 (w : ℕ) (samples : List (List (RPoly × RPoly))) : Bool :=
  let key := genEvaluationKey (pgElt [97] [193] 8 w) sIn8 sOut8 samples
  let d := decompose [193] w (key.map List.length) c8
  let z := RPoly.zero ([97] ++ [193]) 8
  let x := dotMat z d key
  let E := wsumMat z d (eMat samples)
  let Y := takeRows 1 E - (takeRows 1 (rem [97] [193] x.1) + takeRows 1 (rem [97] [193] x.2) * takeRows 1 sOut8)
  let ν := pinvElt [97] [193] 8 * Y
  phase (applyEvaluationKey (gadgetProductR [193] w 1 key c8) (c08, c8)) (takeRows 1 sOut8)
      == phase (c08, c8) (takeRows 1 sIn8) + ν
    && constQ [97] 8 (RPoly.prod [193]) * ν == Y

#guard concl8 0 samples8
#guard concl8 3 samples8b

/-- (c) the noise bound on the values of (a): integer errors / secret behind `samples8`, `sOut8` -/
def e8Z : List ℤ := [1, 0, -1, 0, 2, 0, -2, 1]
def sOut8Z : List ℤ := [0, 1, 1, 0, -1, 0, 0, 1]

theorem hyps_c : sOut8 = RPoly.ofInts ([97] ++ [193]) sOut8Z ∧ sOut8Z.length = 8
    ∧ eMat samples8 = [[e8Z]].map (List.map (RPoly.ofInts ([97] ++ [193])))
    ∧ (∀ r ∈ [[e8Z]], ∀ e ∈ r, e.length = 8) ∧ ZPoly.ErrBounded 2 [[e8Z]] ∧ ZPoly.norm1 sOut8Z ≤ 4
    ∧ (∀ q ∈ ([97] ++ [193] : List ℕ), q % 2 = 1) := by
  refine ⟨by decide +kernel, by decide, by decide +kernel, by decide, ?_, by decide, by decide⟩
  unfold ZPoly.ErrBounded; decide

instance (xP : RPoly) : Decidable (FloatExactPoly xP) := by
  unfold FloatExactPoly FloatExact; infer_instance

/-- the instance obtained FROM THE THEOREM: every hypothesis discharged except the NAMED IEEE hypothesis on the two
accumulators (Lean's kernel cannot evaluate `Float`; it is evaluated with the compiled arithmetic below) -/
theorem instance_c :
    let key := genEvaluationKey (pgElt [97] [193] 8 0) sIn8 (RPoly.ofInts ([97] ++ [193]) sOut8Z) samples8
    let d := decompose [193] 0 (key.map List.length) c8
    let x := dotMat (RPoly.zero ([97] ++ [193]) 8) d key
    FloatExactPoly (partP 1 x.1) → FloatExactPoly (partP 1 x.2) →
    ∃ νZ : List ℤ, νZ.length = 8
      ∧ phase (applyEvaluationKey (gadgetProductR [193] 0 1 key c8) (c08, c8))
            (takeRows 1 (RPoly.ofInts ([97] ++ [193]) sOut8Z))
          = phase (c08, c8) (takeRows 1 sIn8) + RPoly.ofInts [97] νZ
      ∧ 2 * (193 * ZPoly.normInf νZ) ≤ 2 * (8 * 2 * 49) + 193 * (1 + 4) := by
  intro key d x h0 h1
  obtain ⟨hqs, hps, hco, hsIn, -, hsm, hc0, hc1, hshape⟩ := hyps_a
  obtain ⟨-, hsZ, heZ, hel, heB, hsn, hodd⟩ := hyps_c
  exact keyswitch_noise_closed (qs := [97]) (ps := [193]) (n := 8) hqs hps hco hodd 0 sIn8 sOut8Z samples8 [[e8Z]] c08
    c8 2 4 hsIn hsZ hsm hc0 hc1 hshape heZ hel heB hsn h0 h1 (fun h => absurd h (by decide))

/-- TEST (EVALUATION, compiled IEEE arithmetic): the named hypothesis holds on the two accumulators, and the noise
`ν^Z = (E^Z − ρ₀ − s·ρ₁)/P` computed over the integers reduces to the model's `ν` and meets the bound
(`‖ν^Z‖∞ = 1 ≤ (2·8·2·49 + 193·5)/(2·193) = 6.56…`) -/
def noise8 : Bool :=
  let key := genEvaluationKey (pgElt [97] [193] 8 0) sIn8 sOut8 samples8
  let d := decompose [193] 0 (key.map List.length) c8
  let x := dotMat (RPoly.zero ([97] ++ [193]) 8) d key
  let dZ := decomposeZ 1 0 (samples8.map List.length) c8
  let W := ZPoly.sub (ZPoly.sub (ZPoly.dotMatZ 8 dZ [[e8Z]]) (remZ (partP 1 x.1)))
    (ZPoly.mul sOut8Z (remZ (partP 1 x.2)))
  let νZ := W.map (· / 193)
  decide (FloatExactPoly (partP 1 x.1)) && decide (FloatExactPoly (partP 1 x.2))
    && ZPoly.smul 193 νZ == W
    && phase (applyEvaluationKey (gadgetProductR [193] 0 1 key c8) (c08, c8)) (takeRows 1 sOut8)
        == phase (c08, c8) (takeRows 1 sIn8) + RPoly.ofInts [97] νZ
    && decide (2 * (193 * ZPoly.normInf νZ) ≤ 2 * (8 * 2 * 49) + 193 * (1 + 4))
    && ZPoly.normInf νZ == 1

#guard noise8

/-- (d) TWO special primes: `Q = [97, 193]`, `P = [257, 769]` — the digit is the multi-prime HPS digit of `{97, 193}`
(`reconstructRNSCentered` with the IEEE index); the phase theorem needs NO hypothesis on that index -/
instance : Good ([97, 193] ++ [257, 769]) 8 := ⟨by decide, by decide⟩

def L4 : List ℕ := [97, 193] ++ [257, 769]
def sIn4 : RPoly := RPoly.ofInts L4 [1, -1, 0, 1, 0, 0, -1, 1]
def sOut4 : RPoly := RPoly.ofInts L4 [0, 1, 1, 0, -1, 0, 0, 1]
def a4 : RPoly := RPoly.ofInts L4 [123456, 7891011, 121314, 15161718, 192021, 22232425, 262728, 29303132]
def e4 : RPoly := RPoly.ofInts L4 [1, 0, -1, 0, 2, 0, -2, 1]
def samples4 : List (List (RPoly × RPoly)) := [[(a4, e4)]]
def c04 : RPoly := RPoly.ofInts [97, 193] [1, 2, 3, 4, 5, 6, 7, 8]
def c14 : RPoly := RPoly.ofInts [97, 193] [9000, -8000, 7000, -6000, 5000, -4000, 3000, -2000]

theorem instance_d :
    let key := genEvaluationKey (pgElt [97, 193] [257, 769] 8 0) sIn4 sOut4 samples4
    let d := decompose [257, 769] 0 (key.map List.length) c14
    let z := RPoly.zero ([97, 193] ++ [257, 769]) 8
    let x := dotMat z d key
    let Y := takeRows 2 (wsumMat z d (eMat samples4))
      - (takeRows 2 (rem [97, 193] [257, 769] x.1) + takeRows 2 (rem [97, 193] [257, 769] x.2) * takeRows 2 sOut4)
    phase (applyEvaluationKey (gadgetProductR [257, 769] 0 2 key c14) (c04, c14)) (takeRows 2 sOut4)
        = phase (c04, c14) (takeRows 2 sIn4) + pinvElt [97, 193] [257, 769] 8 * Y := by
  exact (keyswitch_phase_closed (qs := [97, 193]) (ps := [257, 769]) (n := 8) (by decide) (by decide) (by decide) 0 sIn4
    sOut4 samples4 c04 c14 (by decide +kernel) (by decide +kernel) (by decide +kernel) (by decide +kernel)
    (by decide +kernel) (by decide)).1

-- TEST (EVALUATION): the conclusion of `instance_d`; the noise `ν` is small (`‖ν‖∞ ≤ 1`)
#guard
  let key := genEvaluationKey (pgElt [97, 193] [257, 769] 8 0) sIn4 sOut4 samples4
  let d := decompose [257, 769] 0 (key.map List.length) c14
  let z := RPoly.zero ([97, 193] ++ [257, 769]) 8
  let x := dotMat z d key
  let Y := takeRows 2 (wsumMat z d (eMat samples4))
    - (takeRows 2 (rem [97, 193] [257, 769] x.1) + takeRows 2 (rem [97, 193] [257, 769] x.2) * takeRows 2 sOut4)
  let ν := pinvElt [97, 193] [257, 769] 8 * Y
  phase (applyEvaluationKey (gadgetProductR [257, 769] 0 2 key c14) (c04, c14)) (takeRows 2 sOut4)
      == phase (c04, c14) (takeRows 2 sIn4) + ν
    && RPoly.infNorm (RPoly.toInts ν) ≤ 1

end concrete

end Lattigo.KS.C04Stack

#print axioms Lattigo.KS.C04Stack.keyswitch_phase_closed
#print axioms Lattigo.KS.C04Stack.instance_a
#print axioms Lattigo.KS.C04Stack.instance_b
#print axioms Lattigo.KS.C04Stack.gadgetProduct_phase_closed
#print axioms Lattigo.KS.C04Stack.relin_phase_closed
#print axioms Lattigo.KS.C04Stack.automorphism_phase_closed
#print axioms Lattigo.KS.C04Stack.keyswitch_noise_closed
#print axioms Lattigo.KS.C04Stack.instance_c
#print axioms Lattigo.KS.C04Stack.instance_d
