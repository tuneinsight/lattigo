/-
  C05 — BGV/BFV evaluation is an exact ring homomorphism modulo t.

  Model: `Lattigo.BGV.step` (lean/Lattigo/Model/BGV.lean), executed by the driver on every `C05 step` tie line of
  harness/c05.go.  A register carries level, degree, scale and the raw slots; `msg r = slots·scale⁻¹ ∈ Z_t^n` is what
  `Decoder.Decode(Decrypt(ct))` returns.  The model follows /repo HEAD, i.e. the code AFTER the `fix:` commits C05-1 … C05-10,
  C13-1, C09-2 and c4c05cd (scale-invariant `Rescale` copies op0).

  PROVED FOR ALL INPUTS (every prime `t < 2^64`, every chain none of whose primes is ≡ 0 mod t, every slot count, all
  register contents, every operand kind and receiver placement):
    * scale algebra: `matchScales_spec` (the Euclid loop as coded: `r0·s0 ≡ r1·s1`, both units), `match_contract`
      (MatchScalesAndLevel: EQUAL recorded scales, common level, degrees and decoded messages unchanged),
      `rescale_scale`, `rescale_scale_invariant`, `mul_scale`, `mul_scale_invariant`, `kSI_spec` (`t ∣ 1 + k·Q_ℓ`),
      `meta_*` (level/degree/scale of every result, decision logic stated outright), `inv_mul`/`modExp_fermat`;
    * `step_sound` / `program_sound`: decoding with the RECORDED scale gives the slot-wise Z_t result, for every
      single-result op and, by induction, for straight-line programs; `errors_*`: the documented refusals are `err`;
    * the link to ciphertext limbs, as identities over EVERY commutative ring — instantiated in C05Ring at the RNS ring
      `WFPoly qs n` of C01 —: `phase_add`, `phase_mul`, `phase_mul_noise`, `phase_match`, and for the scale-invariant
      (BFV) tensoring `phase_mul_si` (exact decomposition of `T·ct₀⊗ct₁` into `Q·(encoding of k·m₀m₁ + noise) +
      remainder`) with `round_div_error` / `floor_div_error` (what dividing by `Q` and rounding does to one coefficient).

  TIED ONLY (model = implementation on the explored inputs): that the real evaluator's limbs decrypt and decode to the
  register the model computes (level, degree, scale, decoded slots) — the `step` lines incl. `out=inp1`,
  malformed calls, all operand kinds; `match` lines (the pair `(r0, r1)` of `matchScalesBinary`).

  NOT COVERED: (1) no limb-level model of the evaluator: `Add/Sub/Mul/Rescale` on RNS limbs are not shown to refine
  `step` (the phase identities + C01 kernels + the C07 round trip are the ingredients; the composition, which needs the
  noise bound as an invariant, is not assembled); (2) the noise budget is a hypothesis of the property: the harness enforces
  an a-priori bound, nothing is proved about noise growth (`phase_mul_noise`, `phase_mul_si` give the exact noise TERMS,
  not norms); (3) `Err.outside` cases (`DropLevel` below 0, `Relinearize` into degree 0) are outside the model;
  (4) known finding C05-scale-matching-multiplies-by-uncentred-representative is a noise property, invisible to `step`.
-/
import Lattigo.Proofs.BGVProgram
import Lattigo.Proofs.BGVTensor
import Lattigo.Proofs.EncoderTRound
import Lattigo.Props.C05Ring
import Mathlib.Tactic.NormNum.Prime

namespace Lattigo.BGV.C05
open Lattigo.BGV

/-- a 3-prime chain with `t = 257` used in the examples -/
def cEx0 : Cfg := { t := 257, qs := [65537, 12289, 40961], n := 2, si := false, rlk := true }

/-- `matchScalesBinary` as coded returns `(r0, r1)` with `r0·s0 ≡ r1·s1 (mod t)`, both invertible. -/
theorem matchScales_spec {t : Nat} [Fact t.Prime] (ht : t < 2 ^ 64) (s0 s1 : Nat)
    (h0 : (s0 : ZMod t) ≠ 0) (h1 : (s1 : ZMod t) ≠ 0) :
    ((matchScales t s0 s1).1 : ZMod t) * s0 = ((matchScales t s0 s1).2 : ZMod t) * s1
    ∧ ((matchScales t s0 s1).1 : ZMod t) ≠ 0 ∧ ((matchScales t s0 s1).2 : ZMod t) ≠ 0 :=
  Lattigo.BGV.matchScales_spec ht s0 s1 h0 h1

example : (matchScales 257 3 5).1 * 3 % 257 = (matchScales 257 3 5).2 * 5 % 257 := by decide

/-- `Rescale`: scale' = scale·q_ℓ⁻¹ (mod t), level' = level − 1, degree of op0 WHATEVER the degree of the
    receiver (fix C05-6: the receiver is resized), message unchanged. -/
theorem rescale_scale (c : Cfg) [Fact c.t.Prime] (ht : c.t < 2 ^ 64) (hQ : ∀ q ∈ c.qs, (q : ZMod c.t) ≠ 0)
    (o : Out) (a r : Reg) (ha : (a.scale : ZMod c.t) ≠ 0) (hsi : c.si = false)
    (h : step c .rescale o a .none = .ok [r]) :
    (r.scale : ZMod c.t) = (a.scale : ZMod c.t) * ((c.qs.getD a.level 1 : Nat) : ZMod c.t)⁻¹
    ∧ r.level + 1 = a.level ∧ r.degree = a.degree ∧ msg c.t r = msg c.t a := by
  have := rescaleOp_sound c ht hQ o a r ha h
  exact ⟨(this.2.2.1 hsi).1, (this.2.2.1 hsi).2.1, (this.2.2.1 hsi).2.2, this.1⟩

/-- `tensorStandard`: scale' = s0·s1 (mod t); degree 2 (1 with relinearisation) for ct×ct, op0's degree otherwise. -/
theorem mul_scale (c : Cfg) (relin : Bool) (a b r : Reg) (lvl : Nat)
    (h : tensorStd c relin a b lvl = .ok [r]) :
    r.level = lvl ∧ r.scale = a.scale * b.scale % c.t
    ∧ r.degree = (if a.degree = 1 ∧ b.degree = 1 then (if relin then 1 else 2) else a.degree) := by
  unfold tensorStd at h
  obtain ⟨-, h⟩ := ok_of_ite_err h
  by_cases h1 : a.degree = 1 ∧ b.degree = 1
  · rw [if_pos h1] at h ⊢
    obtain ⟨-, h⟩ := ok_of_ite_err h
    cases h
    exact ⟨rfl, rfl, rfl⟩
  · rw [if_neg h1] at h ⊢
    cases h
    exact ⟨rfl, rfl, rfl⟩

/-- `tensorScaleInvariant`: scale' = s0·s1·(t − Q_ℓ mod t)⁻¹ (mod t) (`MulScaleInvariant` of evaluator.go:1045). -/
theorem mul_scale_invariant (c : Cfg) (relin : Bool) (a b r : Reg) (lvl : Nat)
    (h : tensorSI c relin a b lvl = .ok [r]) :
    r.level = lvl ∧ r.scale = a.scale * b.scale % c.t * inv c.t (c.t - qModT c lvl) % c.t
    ∧ r.degree = (if relin then 1 else 2) ∧ a.degree = 1 ∧ b.degree = 1 := by
  unfold tensorSI at h
  obtain ⟨-, h⟩ := ok_of_ite_err h
  obtain ⟨h1, h⟩ := ok_of_ite_err h
  obtain ⟨-, h⟩ := ok_of_ite_err h
  cases h
  exact ⟨rfl, rfl, rfl, by omega, by omega⟩

/-- `Rescale` on a scale-invariant (BFV-style) evaluator: the receiver becomes a copy of op0. -/
theorem rescale_scale_invariant (c : Cfg) [Fact c.t.Prime] (ht : c.t < 2 ^ 64) (hQ : ∀ q ∈ c.qs, (q : ZMod c.t) ≠ 0)
    (o : Out) (a r : Reg) (ha : (a.scale : ZMod c.t) ≠ 0) (hsi : c.si = true)
    (h : step c .rescale o a .none = .ok [r]) : r = a :=
  (rescaleOp_sound c ht hQ o a r ha h).2.2.2 hsi

/-! ## meta_spec: level / degree / scale of the output, decision logic stated outright -/

/-- Add/Sub of two elements with EQUAL scales: level = min of the three levels, degree = max of the
    two operand degrees (`InitOutputBinaryOp`; the receiver is resized to it), scale unchanged. -/
theorem meta_add_same (c : Cfg) (isSub : Bool) (o : Out) (a rb r : Reg) (hs : a.scale = rb.scale)
    (h : addSub c isSub o a (.reg rb) = .ok [r]) :
    r.level = min (min a.level rb.level) (outReg c o a (max a.degree rb.degree) (min a.level rb.level)).level
    ∧ r.degree = max a.degree rb.degree
    ∧ r.scale = a.scale := by
  unfold addSub at h
  simp only [Arg.reg?] at h
  obtain ⟨-, h⟩ := ok_of_ite_err h
  rw [if_pos hs] at h
  cases h
  exact ⟨rfl, rfl, rfl⟩

/-- Add/Sub with DIFFERENT scales: both operands are multiplied by the `matchScalesBinary` pair and
    the output scale is `s0·r0`. -/
theorem meta_add_matched (c : Cfg) (isSub : Bool) (o : Out) (a rb r : Reg) (hs : a.scale ≠ rb.scale)
    (h : addSub c isSub o a (.reg rb) = .ok [r]) :
    r.level = min (min a.level rb.level) (outReg c o a (max a.degree rb.degree) (min a.level rb.level)).level
    ∧ r.degree = max a.degree rb.degree
    ∧ r.scale = a.scale * (matchScales c.t a.scale rb.scale).1 % c.t := by
  unfold addSub at h
  simp only [Arg.reg?] at h
  obtain ⟨-, h⟩ := ok_of_ite_err h
  rw [if_neg hs] at h
  cases h
  exact ⟨rfl, rfl, rfl⟩

/-- a `uint64` scalar operand of Add/Sub (the other scalar kinds take the same branch of `addSub`): level =
    min(op0, opOut), degree and scale of op0 (`opOut.Scale = op0.Scale`, fix C05-2). -/
theorem meta_add_scalar (c : Cfg) (isSub : Bool) (o : Out) (a r : Reg) (x : Nat)
    (h : addSub c isSub o a (.u64 x) = .ok [r]) :
    r.level = min a.level (outReg c o a a.degree a.level).level ∧ r.degree = a.degree
    ∧ r.scale = a.scale := by
  unfold addSub at h
  simp only [Arg.reg?, Arg.isScalar, if_true] at h
  cases h
  exact ⟨rfl, rfl, rfl⟩

theorem meta_relin (c : Cfg) (o : Out) (a r : Reg) (h : step c .relin o a .none = .ok [r]) :
    r.degree = 1 ∧ r.scale = a.scale ∧ a.degree = 2 ∧ c.rlk = true ∧ msg c.t r = msg c.t a := by
  have := relinOp_sound c o a r h
  exact ⟨this.2.2.1, this.2.1, this.2.2.2.1, this.2.2.2.2, this.1⟩

theorem meta_drop (c : Cfg) (o : Out) (a r : Reg) (k : Nat) (h : step c .drop o a (.k k) = .ok [r]) :
    r.level = a.level - k ∧ k ≤ a.level ∧ r.degree = a.degree ∧ r.scale = a.scale ∧ msg c.t r = msg c.t a := by
  have := dropOp_sound c.t a k r h
  exact ⟨this.2.2.1, this.2.2.2.2, this.2.2.2.1, this.2.1, this.1⟩

/-- `MatchScalesAndLevel(ct0, ct1)`: afterwards both ciphertexts carry THE SAME recorded scale
    (equal as `uint64`, not only modulo `t`), sit at the common level `min(ℓ0, ℓ1)`, keep their degrees, and decode —
    each with its new recorded scale — to the messages they held before.  (The last clause is what excludes recording
    `scale·|r|` with the centred factor while multiplying the limbs by `r`; probe `match_decode`.) -/
theorem match_contract (c : Cfg) [Fact c.t.Prime] (ht : c.t < 2 ^ 64) (o : Out) (a b r1 r2 : Reg)
    (ha : (a.scale : ZMod c.t) ≠ 0) (hb : (b.scale : ZMod c.t) ≠ 0)
    (h : step c .matchSL o a (.reg b) = .ok [r1, r2]) :
    r1.scale = r2.scale ∧ r1.level = min a.level b.level ∧ r2.level = min a.level b.level
    ∧ r1.degree = a.degree ∧ r2.degree = b.degree ∧ msg c.t r1 = msg c.t a ∧ msg c.t r2 = msg c.t b := by
  have hs := matchOp_sound c ht a b r1 r2 ha hb h
  have h' : matchOp c a b = .ok [r1, r2] := h
  unfold matchOp at h'
  simp only at h'
  cases h'
  refine ⟨?_, rfl, rfl, rfl, rfl, hs.1, hs.2.1⟩
  have := (ZMod.natCast_eq_natCast_iff' _ _ _).mp hs.2.2.1
  simpa [Nat.mod_mod] using this

/-- `MatchScalesAndLevel`: both ciphertexts end at the common level min(ℓ0, ℓ1), with scales equal modulo `t` and
    unchanged messages (a corollary of `match_contract`, which gives the scales equal as `uint64`). -/
theorem meta_match (c : Cfg) [Fact c.t.Prime] (ht : c.t < 2 ^ 64) (o : Out) (a b r1 r2 : Reg)
    (ha : (a.scale : ZMod c.t) ≠ 0) (hb : (b.scale : ZMod c.t) ≠ 0)
    (h : step c .matchSL o a (.reg b) = .ok [r1, r2]) :
    msg c.t r1 = msg c.t a ∧ msg c.t r2 = msg c.t b ∧ (r1.scale : ZMod c.t) = (r2.scale : ZMod c.t)
    ∧ r1.level = min a.level b.level ∧ r2.level = min a.level b.level := by
  have := match_contract c ht o a b r1 r2 ha hb h
  exact ⟨this.2.2.2.2.2.1, this.2.2.2.2.2.2, by rw [this.1], this.2.1, this.2.2.1⟩

example : step cEx0 .matchSL .inp { level := 2, degree := 1, scale := 3, slots := [6, 9] }
      (.reg { level := 1, degree := 2, scale := 5, slots := [10, 20] })
    = .ok [{ level := 1, degree := 1, scale := 15, slots := [30, 45] },
           { level := 1, degree := 2, scale := 15, slots := [30, 60] }] := by decide +kernel

/-- `MulThenAdd` / `MulRelinThenAdd` with an element operand: level, degree and the scale bookkeeping of the
    accumulator (kept if it already equals `s0·s1`, multiplied by the `matchScalesBinary` factor otherwise) -/
theorem meta_mta (c : Cfg) (relin : Bool) (a b R r : Reg) (lvl : Nat) (h : accReg c relin a b R lvl = .ok [r]) :
    r.level = lvl ∧ r.degree = accDegree relin a b R
    ∧ r.scale = (if R.scale = a.scale * b.scale % c.t then R.scale
                 else R.scale * (matchScales c.t (a.scale * b.scale % c.t) R.scale).2 % c.t) := by
  unfold accReg at h
  obtain ⟨-, h⟩ := ok_of_ite_err h
  obtain ⟨-, h⟩ := ok_of_ite_err h
  by_cases heq : R.scale = a.scale * b.scale % c.t
  · rw [if_pos heq] at h ⊢
    cases h
    exact ⟨rfl, rfl, rfl⟩
  · rw [if_neg heq] at h ⊢
    cases h
    exact ⟨rfl, rfl, rfl⟩

/-! ## errors_spec: the documented failure conditions give `err` -/

/-- two degree-0 elements (`InitOutputBinaryOp`: total degree 0): `Add`, `Sub`, `mulStd` without and `mulInv` with
    relinearisation refuse -/
theorem errors_plaintext_only (c : Cfg) (o : Out) (a rb : Reg) (ha : a.degree = 0) (hb : rb.degree = 0) :
    step c .add o a (.reg rb) = .error .err ∧ step c .sub o a (.reg rb) = .error .err
    ∧ mulStd c false o a (.reg rb) 0 = .error .err ∧ mulInv c true o a (.reg rb) 0 = .error .err := by
  refine ⟨?_, ?_, ?_, ?_⟩ <;> simp [step, addSub, mulStd, mulInv, Arg.reg?, binChk, ha, hb]

/-- operand degree too high for a product -/
theorem errors_degree_too_high (c : Cfg) (relin : Bool) (o : Out) (a rb : Reg) (d : Nat)
    (h : a.degree + rb.degree > 2) :
    mulStd c relin o a (.reg rb) d = .error .err ∧ mulInv c relin o a (.reg rb) d = .error .err := by
  have h1 : ¬ a.degree + rb.degree ≤ 2 := by omega
  refine ⟨?_, ?_⟩ <;> simp [mulStd, mulInv, Arg.reg?, binChk, h1]

/-- no level left to rescale; output too small -/
theorem errors_rescale (c : Cfg) (o : Out) (a : Reg) (hsi : c.si = false) :
    (a.level = 0 → step c .rescale o a .none = .error .err)
    ∧ ((outReg c o a a.degree a.level).level + 1 < a.level → step c .rescale o a .none = .error .err) := by
  refine ⟨?_, ?_⟩
  · intro h; simp [step, rescaleOp, hsi, h]
  · intro h
    have h0 : a.level ≠ 0 := by omega
    simp [step, rescaleOp, hsi, h, h0]

/-- no relinearisation key: the relinearising tensorings and accumulation of two degree-1 elements, and
    `Relinearize`, refuse -/
theorem errors_no_rlk (c : Cfg) (o : Out) (a rb : Reg) (lvl : Nat) (hk : c.rlk = false)
    (ha : a.degree = 1) (hb : rb.degree = 1) :
    tensorStd c true a rb lvl = .error .err ∧ tensorSI c true a rb lvl = .error .err
    ∧ accReg c true a rb rb lvl = .error .err ∧ step c .relin o a .none = .error .err := by
  refine ⟨?_, ?_, ?_, ?_⟩ <;> simp [tensorStd, tensorSI, accReg, step, relinOp, hk, ha, hb]

/-- `[]uint64` operand longer than the slot count (`Encode` fails): `Add`, `Sub` and `mulStd` without
    relinearisation refuse -/
theorem errors_vector_too_long (c : Cfg) (o : Out) (a : Reg) (v : List Nat) (h : v.length > c.n) :
    step c .add o a (.vu v) = .error .err ∧ step c .sub o a (.vu v) = .error .err
    ∧ mulStd c false o a (.vu v) 0 = .error .err := by
  refine ⟨?_, ?_, ?_⟩ <;> simp [step, addSub, mulStd, Arg.reg?, Arg.isScalar, Arg.isVec, Arg.vec?, h]

/-- Every operation that returns one register computes the Z_t operation on the decoded messages. -/
theorem step_sound (c : Cfg) [Fact c.t.Prime] (ht : c.t < 2 ^ 64) (hQ : ∀ q ∈ c.qs, (q : ZMod c.t) ≠ 0)
    (op : Op) (o : Out) (a : Reg) (b : Arg) (r : Reg) (H : StepHyp c op o a b)
    (h : step c op o a b = .ok [r]) :
    msg c.t r = sem c.t op (msg c.t a) (argMsg c.t c.n a b) (msg c.t (outReg c o a 0 0))
    ∧ (r.scale : ZMod c.t) ≠ 0 :=
  Lattigo.BGV.step_sound c ht hQ op o a b r H h

/-- Straight-line programs: the final decoded register file equals the Z_t interpreter's. -/
theorem program_sound (c : Cfg) [Fact c.t.Prime] (ht : c.t < 2 ^ 64) (hQ : ∀ q ∈ c.qs, (q : ZMod c.t) ≠ 0)
    (prog : List Instr) (rf rf' : List Reg) (hg : AllGood c.t rf) (h : run c prog rf = .ok rf') :
    rf'.map (msg c.t) = runZ c.t c.n prog (rf.map (msg c.t)) ∧ AllGood c.t rf' :=
  Lattigo.BGV.program_sound c ht hQ prog rf rf' hg h

/-- the scalar literals mean the integers they denote -/
theorem scalar_cast {t : Nat} [NeZero t] (z : Int) (x : Nat) :
    ((Arg.scalar t (.big z) : Nat) : ZMod t) = (z : ZMod t)
    ∧ ((Arg.scalar t (.i64 z) : Nat) : ZMod t) = (z : ZMod t)
    ∧ ((Arg.scalar t (.int z) : Nat) : ZMod t) = (z : ZMod t)
    ∧ ((Arg.scalar t (.u64 x) : Nat) : ZMod t) = (x : ZMod t) := by
  refine ⟨ofInt_cast z, ofInt_cast z, ofInt_cast z, ?_⟩
  simp [Arg.scalar, ZMod.natCast_mod]

/-! ### non-vacuity: a depth-2 program on a 3-prime chain -/

def cEx : Cfg := { t := 257, qs := [65537, 12289, 40961], n := 2, si := false, rlk := true }
def rfEx : List Reg :=
  [ { level := 2, degree := 1, scale := 1, slots := [3, 200] },
    { level := 2, degree := 1, scale := 7, slots := [35, 14] },
    { level := 0, degree := 1, scale := 1, slots := [0, 0] },
    { level := 0, degree := 1, scale := 1, slots := [0, 0] } ]          -- messages [5, 2] at scale 7
def progEx : List Instr :=
  [ { op := .mulRelin, a := 0, b := .idx 1, out := .new 2 },
    { op := .rescale, a := 2, b := .imm .none, out := .inp },
    { op := .add, a := 2, b := .imm (.i64 (-258)), out := .inp },
    { op := .mulRelin, a := 2, b := .idx 0, out := .new 3 },
    { op := .rescale, a := 3, b := .imm .none, out := .inp } ]

instance : Fact (Nat.Prime cEx.t) := ⟨by norm_num [cEx]⟩

example : ((run cEx progEx rfEx).toOption.bind fun rf => (rf.map (val cEx.t))[3]?) = some [42, 130] := by
  decide +kernel

theorem cEx_hQ : ∀ q ∈ cEx.qs, (q : ZMod cEx.t) ≠ 0 := by
  intro q hq
  simp [cEx] at hq
  rcases hq with rfl | rfl | rfl <;> decide

/-- `kSI_spec` on the example chain, FROM THE THEOREM; and the value: `k = 216` at level 1 -/
example : cEx.t ∣ 1 + inv cEx.t (cEx.t - qModT cEx 1) * (cEx.qs.take 2).prod :=
  kSI_spec cEx (by decide) cEx_hQ 1

example : inv cEx.t (cEx.t - qModT cEx 1) = 216 ∧ (1 + 216 * (65537 * 12289)) % 257 = 0 := by decide +kernel

example : AllGood cEx.t rfEx := by
  intro r hr
  simp [rfEx] at hr
  rcases hr with rfl | rfl | rfl | rfl <;> decide

example : ∀ q ∈ cEx.qs, (q : ZMod cEx.t) ≠ 0 := cEx_hQ

/-! ## calls whose behaviour the `fix:` commits C05-1 … C05-10 and C13-1 settle (the model mirrors the code after them) -/

/-- `AddNew(ct, 5)` with ct.Scale = 2 (message 3): the result carries op0's scale and decodes to 8
    (fix C05-2: `opOut.Scale = op0.Scale`; read at scale 1 the same slots would decode to 16). -/
theorem scalar_out_scale_fixed :
    step cEx .add .new { level := 2, degree := 1, scale := 2, slots := [6, 0] } (.u64 5)
      = .ok [{ level := 2, degree := 1, scale := 2, slots := [16, 10] }]
    ∧ val cEx.t { level := 2, degree := 1, scale := 2, slots := [16, 10] } = [8, 5]
    ∧ val cEx.t { level := 2, degree := 1, scale := 2, slots := [6, 0] } = [3, 0] := by
  refine ⟨?_, ?_, ?_⟩ <;> decide +kernel

/-- `Sub(ct₁, ct₂)` with equal scales and deg ct₂ > deg ct₁ is an ordinary modelled call (fix C05-3
    negates the copied limbs); its value is given by `step_sound`. -/
theorem sub_higher_degree_modelled (c : Cfg) (o : Out) (a rb : Reg) (hs : a.scale = rb.scale)
    (hd : rb.degree > a.degree) :
    (step c .sub o a (.reg rb)).toOption.map (fun l => l.map fun r => (r.scale, r.slots))
      = some [(a.scale, vsub c.t a.slots rb.slots)] := by
  have h1 : a.degree + rb.degree ≠ 0 := by omega
  simp only [step, addSub, Arg.reg?, hs, h1, if_true, if_false, ok1, Except.toOption, Option.map_some, List.map]

/-- `MulThenAdd(op0, scalar, opOut)`: level min(ℓ0, ℓout), degree max(d0, dout), accumulator's scale
    (fix C13-1: the receiver is resized to these, also for ℓ0 < ℓout or dout > d0); stated for a `uint64` scalar. -/
theorem mta_scalar_meta (c : Cfg) (a R : Reg) (x : Nat) :
    (step c .mta (.into R) a (.u64 x)).toOption.map (fun l => l.map fun r => (r.level, r.degree, r.scale))
      = some [(min a.level R.level, max a.degree R.degree, R.scale)] := by
  simp [step, accOp, Arg.reg?, Arg.isScalar, ok1, Except.toOption]

/-- a degree-0 `*rlwe.Ciphertext` as op0 of a product is an error (fix C05-9) -/
theorem errors_deg0_op0 (c : Cfg) (relin : Bool) (a b r : Reg) (lvl : Nat) (ha : a.degree = 0) :
    tensorStd c relin a b lvl = .error .err ∧ tensorSI c relin a b lvl = .error .err
    ∧ accReg c relin a b r lvl = .error .err := by
  refine ⟨?_, ?_, ?_⟩ <;> simp [tensorStd, tensorSI, accReg, ha]

/-! ## the inverse of the scale: `ring.ModExp(scale, t − 2, t)` (Fermat) -/

/-- The two transcriptions of `ring.ModExp` are the same function (`modExp_eq_powMod`), hence `val` (what C05's
    registers decode to) multiplies by exactly the factor `DecodeRingT` uses. -/
theorem inv_eq_scaleInv (t s : Nat) : inv t s = EncoderT.scaleInv t s := (modExp_eq_powMod s (t - 2) t).symm

/-- for every prime `t < 2^64` and every `s` not divisible by `t`,
    `s · ModExp(s, t−2, t) ≡ 1 (mod t)`. -/
theorem modExp_fermat (t s : Nat) (ht : t.Prime) (h64 : t < 2 ^ 64) (hs : ¬ t ∣ s) :
    s * NTT.modExp s (t - 2) t % t = 1 := NTT.mul_modExp_sub_two s t ht h64 hs

theorem inv_mul (t s : Nat) (ht : t.Prime) (h64 : t < 2 ^ 64) (hs : ¬ t ∣ s) : s * inv t s % t = 1 := by
  rw [inv_eq_scaleInv]; exact EncoderT.scaleInv_spec t s ht h64 hs

/-- decoding a register built from decoded slots returns them: `val (ofDecoded v) = v mod t`.
    (TRAP: the lemma of `EncoderT.mulScalar` applies to `BGV.vscale` only because the two definitions have the same
    body, `·.map fun x => x * c % t`; likewise `inv_eq_scaleInv` rests on `inv`/`scaleInv` being `ModExp(s, t−2, t)`
    in both models.  Reordering either body breaks these two proofs, nothing else.) -/
theorem val_ofDecoded (t level degree scale : Nat) (v : List Nat) (ht : t.Prime) (h64 : t < 2 ^ 64)
    (hs : ¬ t ∣ scale) : val t (Reg.ofDecoded t level degree scale v) = v.map (· % t) := by
  exact EncoderT.mulScalar_inv_mod t scale (inv t scale) (inv_mul t scale ht h64 hs) v

example : 7 * inv 257 7 % 257 = 1 ∧ val 257 (Reg.ofDecoded 257 2 1 7 [5, 258]) = [5, 1] := by decide +kernel

/-- the factor `k = inv t (t − Q_ℓ mod t)` that `tensorScaleInvariant` / `MulScaleInvariant` put on the scale
    (`mul_scale_invariant`) is `(−Q_ℓ)⁻¹ mod t`: `t ∣ 1 + k·Q_ℓ`, so `T⁻¹ mod Q_ℓ = (1 + k·Q_ℓ)/t` as an integer. -/
theorem kSI_spec (c : Cfg) [Fact c.t.Prime] (ht : c.t < 2 ^ 64) (hQ : ∀ q ∈ c.qs, (q : ZMod c.t) ≠ 0) (l : Nat) :
    c.t ∣ 1 + inv c.t (c.t - qModT c l) * (c.qs.take (l + 1)).prod :=
  Lattigo.BGV.kSI_spec c ht hQ l

/-- exactness of the scale-invariant tensoring, before the division: over any commutative ring,
    with `T·T⁻¹ = 1 + k·Q` (`kSI_spec`).
    The quotient by `Q` is the `T⁻¹`-encoding of `k·x₀x₁` (the factor `k` of `tensorSI` on slots and scale) with noise
    `k(x₀e₁+x₁e₀)`; the remainder `R` costs at most `‖R‖/Q + 1/2` per coefficient after rounding (`round_div_error`). -/
theorem phase_mul_si {α : Type} [CommRing α] (T Tinv k Q x0 x1 e0 e1 : α) (h : T * Tinv = 1 + k * Q) :
    T * (Tinv * x0 + e0) * (Tinv * x1 + e1)
      = Q * (Tinv * (k * (x0 * x1)) + k * (x0 * e1 + x1 * e0))
        + (Tinv * (x0 * x1) + (x0 * e1 + x1 * e0) + T * e0 * e1) :=
  Lattigo.BGV.phase_mul_si T Tinv k Q x0 x1 e0 e1 h

/-- rounding `A = Q·B + R` to `⌊(2A+Q)/(2Q)⌋` with `|R| ≤ M`: `2Q·|result − B| ≤ 2M + Q` -/
theorem round_div_error (A B R Q M : ℤ) (hQ : 0 < Q) (h : A = Q * B + R) (hlo : -M ≤ R) (hhi : R ≤ M) :
    -(2 * M + Q) ≤ 2 * Q * ((2 * A + Q) / (2 * Q) - B) ∧ 2 * Q * ((2 * A + Q) / (2 * Q) - B) ≤ 2 * M + Q :=
  Lattigo.BGV.round_div_error A B R Q M hQ h hlo hhi

theorem floor_div_error (A B R Q : ℤ) (hQ : 0 < Q) (h : A = Q * B + R) : A / Q = B + R / Q :=
  Lattigo.BGV.floor_div_error A B R Q hQ h

/-- instance over `ℤ`: `t = 17`, `Q = 97`, `k = 7` (`1 + 7·97 = 680 = 17·40`), messages 3, 5, noises 2, −1 -/
example : (17 : ℤ) * (40 * 3 + 2) * (40 * 5 + -1)
    = 97 * (40 * (7 * (3 * 5)) + 7 * (3 * -1 + 5 * 2)) + (40 * (3 * 5) + (3 * -1 + 5 * 2) + 17 * 2 * -1) :=
  phase_mul_si 17 40 7 97 3 5 2 (-1) (by norm_num)

/-! ## abstract phase identities (link to ciphertexts): phase(ct) = T⁻¹·Δ·m + e over any commutative ring -/

theorem phase_add {α : Type} [CommRing α] (Tinv Δ m1 m2 e1 e2 : α) :
    (Tinv * Δ * m1 + e1) + (Tinv * Δ * m2 + e2) = Tinv * Δ * (m1 + m2) + (e1 + e2) :=
  phase_add_gen Tinv Δ m1 m2 e1 e2

/-- `tensorStandard` multiplies by `T`. -/
theorem phase_mul {α : Type} [CommRing α] (T Tinv Δ1 Δ2 m1 m2 : α) (hT : T * Tinv = 1) :
    T * (Tinv * Δ1 * m1) * (Tinv * Δ2 * m2) = Tinv * (Δ1 * Δ2) * (m1 * m2) :=
  phase_mul_gen T Tinv Δ1 Δ2 m1 m2 hT

/-- with noise: the product's noise is Δ₁m₁e₂ + Δ₂m₂e₁ + T·e₁e₂ -/
theorem phase_mul_noise {α : Type} [CommRing α] (T Tinv Δ1 Δ2 m1 m2 e1 e2 : α) (hT : T * Tinv = 1) :
    T * (Tinv * Δ1 * m1 + e1) * (Tinv * Δ2 * m2 + e2)
      = Tinv * (Δ1 * Δ2) * (m1 * m2) + (Δ1 * m1 * e2 + Δ2 * m2 * e1 + T * e1 * e2) :=
  phase_mul_noise_gen T Tinv Δ1 Δ2 m1 m2 e1 e2 hT

/-- scale matching: r0·(T⁻¹Δ₀m) and r1·(T⁻¹Δ₁m') live at the common scale when r0Δ₀ = r1Δ₁ -/
theorem phase_match {α : Type} [CommRing α] (Tinv Δ0 Δ1 r0 r1 m m' : α) (h : r0 * Δ0 = r1 * Δ1) :
    r0 * (Tinv * Δ0 * m) + r1 * (Tinv * Δ1 * m') = Tinv * (r0 * Δ0) * (m + m') :=
  phase_match_gen Tinv Δ0 Δ1 r0 r1 m m' h

end Lattigo.BGV.C05

#print axioms Lattigo.BGV.C05.matchScales_spec
#print axioms Lattigo.BGV.C05.rescale_scale
#print axioms Lattigo.BGV.C05.rescale_scale_invariant
#print axioms Lattigo.BGV.C05.mul_scale
#print axioms Lattigo.BGV.C05.mul_scale_invariant
#print axioms Lattigo.BGV.C05.meta_add_same
#print axioms Lattigo.BGV.C05.meta_add_matched
#print axioms Lattigo.BGV.C05.meta_add_scalar
#print axioms Lattigo.BGV.C05.meta_relin
#print axioms Lattigo.BGV.C05.meta_drop
#print axioms Lattigo.BGV.C05.meta_match
#print axioms Lattigo.BGV.C05.match_contract
#print axioms Lattigo.BGV.C05.meta_mta
#print axioms Lattigo.BGV.C05.kSI_spec
#print axioms Lattigo.BGV.C05.phase_mul_si
#print axioms Lattigo.BGV.C05.round_div_error
#print axioms Lattigo.BGV.C05.floor_div_error
#print axioms Lattigo.BGV.C05.errors_plaintext_only
#print axioms Lattigo.BGV.C05.errors_degree_too_high
#print axioms Lattigo.BGV.C05.errors_rescale
#print axioms Lattigo.BGV.C05.errors_no_rlk
#print axioms Lattigo.BGV.C05.errors_vector_too_long
#print axioms Lattigo.BGV.C05.step_sound
#print axioms Lattigo.BGV.C05.program_sound
#print axioms Lattigo.BGV.C05.scalar_cast
#print axioms Lattigo.BGV.C05.scalar_out_scale_fixed
#print axioms Lattigo.BGV.C05.sub_higher_degree_modelled
#print axioms Lattigo.BGV.C05.mta_scalar_meta
#print axioms Lattigo.BGV.C05.errors_deg0_op0
#print axioms Lattigo.BGV.C05.inv_eq_scaleInv
#print axioms Lattigo.BGV.C05.modExp_fermat
#print axioms Lattigo.BGV.C05.inv_mul
#print axioms Lattigo.BGV.C05.val_ofDecoded
#print axioms Lattigo.BGV.C05.phase_add
#print axioms Lattigo.BGV.C05.phase_mul
#print axioms Lattigo.BGV.C05.phase_mul_noise
#print axioms Lattigo.BGV.C05.phase_match
