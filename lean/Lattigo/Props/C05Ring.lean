/-
  C05 on the ring the ciphertexts live in.

  `Props/C05.lean` (§ abstract phase identities) links a register of the BGV/BFV evaluator model to the RNS
  limbs of the ciphertext through `phase(ct) = T⁻¹·Δ·m + e`, with four identities proved over EVERY commutative
  ring: `phase_add`, `phase_mul`, `phase_mul_noise`, `phase_match`.  Here they are instantiated at
  `α := WFPoly qs n` (`Proofs/RPolyRing.lean`: the well-formed RNS polynomials modulo `X^n+1` over the chain
  `qs`, a `CommRing` whose operations are the model's) and transported to plain `RPoly` values:

    hypotheses = well-formedness of the inputs (`WFq qs n x`) + the hypothesis of the generic theorem stated
                 on the `RPoly` values (`T * Tinv = rpOne qs n`, resp. `r0 * Δ0 = r1 * Δ1`);
    conclusion = the same identity between `RPoly` values computed with the model's `+ *`.

  The generic identities are `phase_*_gen` of `Proofs/BGVPhase.lean`; `Props/C05.lean` states them under the names of
  the property.

  Vacuity check: no hypothesis quantifies over abstract maps.  `T * Tinv = 1` IS satisfiable in `WFPoly qs n`
  exactly when the plaintext modulus is a unit modulo every `q_i`: `tInv_spec` gives the inverse for the
  constant polynomials (`constR`), instantiated below with `T = 17`, `qs = [97, 193]`; `r0·Δ0 = r1·Δ1` is what
  `matchScales_spec` provides modulo `t`.

  NOT applicable: there is no `…_calls` theorem — `Driver/C05.lean` runs `BGV.step` on registers
  (level, degree, scale, slot values in `Z_t`), never on `RPoly`.  `matchScales_spec`, `rescale_scale`, `meta_*`,
  `errors_*`, `step_sound`, `program_sound`, … are statements about that data (`Nat`, `ZMod t`): nothing to
  transport.
-/
import Lattigo.Proofs.RPolyTransport
import Lattigo.Proofs.BGVPhase
import Mathlib.Tactic.Ring
import Mathlib.Tactic.LinearCombination

namespace Lattigo.BGV.C05Ring
open Lattigo Lattigo.RPolyRing Lattigo.Transport

section rpoly
variable {qs : List ℕ} {n : ℕ} [Good qs n]

theorem phase_add_rpoly (Tinv Δ m1 m2 e1 e2 : RPoly) (hTi : WFq qs n Tinv) (hΔ : WFq qs n Δ)
    (hm1 : WFq qs n m1) (hm2 : WFq qs n m2) (he1 : WFq qs n e1) (he2 : WFq qs n e2) :
    (Tinv * Δ * m1 + e1) + (Tinv * Δ * m2 + e2) = Tinv * Δ * (m1 + m2) + (e1 + e2) :=
  congrArg val (phase_add_gen (lift Tinv hTi) (lift Δ hΔ) (lift m1 hm1) (lift m2 hm2) (lift e1 he1) (lift e2 he2))

/-- `tensorStandard` multiplies by `T`. -/
theorem phase_mul_rpoly (T Tinv Δ1 Δ2 m1 m2 : RPoly) (hT : WFq qs n T) (hTi : WFq qs n Tinv)
    (hΔ1 : WFq qs n Δ1) (hΔ2 : WFq qs n Δ2) (hm1 : WFq qs n m1) (hm2 : WFq qs n m2)
    (hTT : T * Tinv = rpOne qs n) :
    T * (Tinv * Δ1 * m1) * (Tinv * Δ2 * m2) = Tinv * (Δ1 * Δ2) * (m1 * m2) :=
  congrArg val (phase_mul_gen (lift T hT) (lift Tinv hTi) (lift Δ1 hΔ1) (lift Δ2 hΔ2) (lift m1 hm1) (lift m2 hm2)
    (val_injective hTT))

/-- With noise: the product's noise is `Δ₁m₁e₂ + Δ₂m₂e₁ + T·e₁e₂` -/
theorem phase_mul_noise_rpoly (T Tinv Δ1 Δ2 m1 m2 e1 e2 : RPoly) (hT : WFq qs n T) (hTi : WFq qs n Tinv)
    (hΔ1 : WFq qs n Δ1) (hΔ2 : WFq qs n Δ2) (hm1 : WFq qs n m1) (hm2 : WFq qs n m2)
    (he1 : WFq qs n e1) (he2 : WFq qs n e2) (hTT : T * Tinv = rpOne qs n) :
    T * (Tinv * Δ1 * m1 + e1) * (Tinv * Δ2 * m2 + e2)
      = Tinv * (Δ1 * Δ2) * (m1 * m2) + (Δ1 * m1 * e2 + Δ2 * m2 * e1 + T * e1 * e2) :=
  congrArg val (phase_mul_noise_gen (lift T hT) (lift Tinv hTi) (lift Δ1 hΔ1) (lift Δ2 hΔ2) (lift m1 hm1)
    (lift m2 hm2) (lift e1 he1) (lift e2 he2) (val_injective hTT))

/-- Scale matching: `r0·(T⁻¹Δ₀m)` and `r1·(T⁻¹Δ₁m')` live at the common scale when
`r0·Δ₀ = r1·Δ₁` -/
theorem phase_match_rpoly (Tinv Δ0 Δ1 r0 r1 m m' : RPoly) (hTi : WFq qs n Tinv) (hΔ0 : WFq qs n Δ0)
    (hΔ1 : WFq qs n Δ1) (hr0 : WFq qs n r0) (hr1 : WFq qs n r1) (hm : WFq qs n m) (hm' : WFq qs n m')
    (h : r0 * Δ0 = r1 * Δ1) :
    r0 * (Tinv * Δ0 * m) + r1 * (Tinv * Δ1 * m') = Tinv * (r0 * Δ0) * (m + m') :=
  congrArg val (phase_match_gen (lift Tinv hTi) (lift Δ0 hΔ0) (lift Δ1 hΔ1) (lift r0 hr0) (lift r1 hr1)
    (lift m hm) (lift m' hm') (val_injective h))

/-! ### the hypothesis `T * Tinv = 1` is satisfiable: constants coprime to every modulus -/

/-- the constant polynomial with residue `k q` modulo `q` (the value of `WFPoly.constNat k`) -/
def constR (qs : List ℕ) (n : ℕ) (k : ℕ → ℕ) : RPoly := { qs := qs, c := qs.map fun q => scalarRow q n (k q) }

theorem val_constNat (k : ℕ → ℕ) : val (WFPoly.constNat (qs := qs) (n := n) k) = constR qs n k := rfl

theorem constR_wf (k : ℕ → ℕ) : WFq qs n (constR qs n k) := val_wf (WFPoly.constNat k)

/-- For a plaintext modulus `t` coprime to every `q ∈ qs`, the constant `T = t` and the constant
`T⁻¹ = (t⁻¹ mod q)_q` computed by the model's `RPoly.modInv` satisfy the hypothesis of `phase_mul*`. -/
theorem tInv_spec (t : ℕ) (hc : ∀ q ∈ qs, Nat.Coprime t q) :
    constR qs n (fun _ => t) * constR qs n (fun q => RPoly.modInv t q) = rpOne qs n := by
  have hg : Good qs n := inferInstance
  have h := WFPoly.constNat_mul_eq_one (qs := qs) (n := n) (fun _ => t) (fun q => RPoly.modInv t q)
    (fun q hq => modInv_spec t q (hg.q_ge q hq) (hc q hq))
  exact congrArg val h

end rpoly

section concrete

instance good8 : Good [97, 193] 8 := ⟨by decide, by decide⟩

def T8 : RPoly := constR [97, 193] 8 (fun _ => 17)
def Tinv8 : RPoly := constR [97, 193] 8 (fun q => RPoly.modInv 17 q)
/-- scales `Δ₁ = 3`, `Δ₂ = 5` (constants), two messages and two noise polynomials -/
def D1 : RPoly := constR [97, 193] 8 (fun _ => 3)
def D2 : RPoly := constR [97, 193] 8 (fun _ => 5)
def m1 : RPoly := ⟨[97, 193], [[1, 2, 3, 4, 5, 6, 7, 8], [1, 2, 3, 4, 5, 6, 7, 8]]⟩
def m2 : RPoly := ⟨[97, 193], [[16, 0, 1, 0, 0, 2, 0, 9], [16, 0, 1, 0, 0, 2, 0, 9]]⟩
def e1 : RPoly := RPoly.ofInts [97, 193] [1, 0, -1, 0, 2, 0, -2, 1]
def e2 : RPoly := RPoly.ofInts [97, 193] [0, 1, 0, -1, 0, 1, 0, -1]

theorem hTT8 : T8 * Tinv8 = rpOne [97, 193] 8 := tInv_spec 17 (by decide)

theorem hyps8 : WFq [97, 193] 8 m1 ∧ WFq [97, 193] 8 m2 ∧ WFq [97, 193] 8 e1 ∧ WFq [97, 193] 8 e2 := by
  decide +kernel

/-- an instance of `phase_mul_noise_rpoly` obtained FROM THE THEOREM, all hypotheses discharged -/
theorem phase_mul_noise8 : T8 * (Tinv8 * D1 * m1 + e1) * (Tinv8 * D2 * m2 + e2)
    = Tinv8 * (D1 * D2) * (m1 * m2) + (D1 * m1 * e2 + D2 * m2 * e1 + T8 * e1 * e2) :=
  phase_mul_noise_rpoly (qs := [97, 193]) (n := 8) T8 Tinv8 D1 D2 m1 m2 e1 e2 (constR_wf _) (constR_wf _)
    (constR_wf _) (constR_wf _) hyps8.1 hyps8.2.1 hyps8.2.2.1 hyps8.2.2.2 hTT8

example : T8 * (Tinv8 * D1 * m1 + e1) * (Tinv8 * D2 * m2 + e2)
    = Tinv8 * (D1 * D2) * (m1 * m2) + (D1 * m1 * e2 + D2 * m2 * e1 + T8 * e1 * e2) :=
  phase_mul_noise8

/-- scale matching with `r0 = 5`, `r1 = 3`: `5·3 = 3·5` (commutativity of `WFPoly`, whose constants `D1`, `D2` are) -/
example : D2 * (Tinv8 * D1 * m1) + D1 * (Tinv8 * D2 * m2) = Tinv8 * (D2 * D1) * (m1 + m2) :=
  phase_match_rpoly (qs := [97, 193]) (n := 8) Tinv8 D1 D2 D2 D1 m1 m2 (constR_wf _) (constR_wf _) (constR_wf _)
    (constR_wf _) (constR_wf _) hyps8.1 hyps8.2.1
    (congrArg val (mul_comm (WFPoly.constNat (qs := [97, 193]) (n := 8) fun _ => 5) (WFPoly.constNat fun _ => 3)))

/-- `T·T⁻¹ = 1` and `phase_mul_noise` on these values; the inverse constants are evaluated -/
example : T8 * Tinv8 = rpOne [97, 193] 8
    ∧ Tinv8 = ⟨[97, 193], [[40, 0, 0, 0, 0, 0, 0, 0], [159, 0, 0, 0, 0, 0, 0, 0]]⟩
    ∧ T8 * (Tinv8 * D1 * m1 + e1) * (Tinv8 * D2 * m2 + e2)
        = Tinv8 * (D1 * D2) * (m1 * m2) + (D1 * m1 * e2 + D2 * m2 * e1 + T8 * e1 * e2) :=
  ⟨hTT8, by decide +kernel, phase_mul_noise8⟩

end concrete

end Lattigo.BGV.C05Ring

#print axioms Lattigo.BGV.C05Ring.phase_add_rpoly
#print axioms Lattigo.BGV.C05Ring.phase_mul_rpoly
#print axioms Lattigo.BGV.C05Ring.phase_mul_noise_rpoly
#print axioms Lattigo.BGV.C05Ring.phase_match_rpoly
#print axioms Lattigo.BGV.C05Ring.tInv_spec
