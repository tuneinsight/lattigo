import Lattigo.Proofs.CKKSMeta
import Lattigo.Proofs.CKKSDyadic
import Lattigo.Proofs.CKKSAlign
import Lattigo.Proofs.CKKSPhase
import Lattigo.Proofs.CKKSDefects
import Lattigo.Proofs.CKKSFixedPoint
import Lattigo.Proofs.CKKSError
import Lattigo.Proofs.CKKSMetaTable
import Mathlib.Analysis.Normed.Field.Lemmas
import Lattigo.Props.C06Ring
/-!
# C06 — CKKS evaluation: scale / level bookkeeping, phase semantics, error bounds  (property theorems)

The executable model is `Lattigo.CKKS.step` (`Model/CKKS.lean`): for every public `ckks.Evaluator` call the output
metadata (level, degree, scale as an exact dyadic with `big.Float`'s 128-bit rounding, `LogDimensions.Cols`) and the
integer effect on every component of the result.  `Driver/C06.lean` executes it; `harness/c06.go` ties both, bit for
bit, to `schemes/ckks/evaluator.go` (metadata + multipliers read back from transparent ciphertexts).

State of the clauses of the property text
* "scale and level recorded on every output are exactly those the operation documents" —
  PROVED for all inputs on the model: `meta_spec_*` (every operation incl. the vector, `…ThenAdd` and receiver forms),
  `meta_New_*` (the `…New` forms: the receiver matters only through its level), `rescale_scale_exact(_two)`,
  `scale_mul/div_correctly_rounded` (the rounding of `Scale.Mul/Div` is a correct rounding, relative error ≤ 2^-128),
  `const_scale_*`, `lcpr_one_or_two`, `mulThenAdd_scale_*` (the scale-matching decision table of `MulThenAdd`).
  Where the code deviates from the documented behaviour the model follows the code and the deviation is a theorem with
  a concrete witness (`*_counterexample`: known findings of the code as it stands) or, where the code carries the
  fixes `C06-1…6`, a positive statement (`*_fixed`).
* "decrypting and decoding gives the slot-wise result … with an error no larger than the bound implied by the scales,
  the rescaling roundings and the accumulated noise" —
  PROVED in exact arithmetic for every operation as an explicit bound (`error_bound_*`, § error bounds): the value a
  ciphertext decodes to in one slot is `σ(phase)/Δ` for a coordinate `σ` of the canonical embedding (any ring
  homomorphism into a normed field); the bounds are composed from the phase identities `phase_*` (every commutative
  ring; on RNS polynomials: `Props/C06Ring.lean`), the rounding remainder of `Rescale` (`rescale_remainder`: ≤ 1/2 per
  coefficient after division; `embedding_bound`: ≤ N/2 per slot), the constant rounding (`rnsConst_error`) and the
  alignment error (`add_alignment_error`).  The noise terms themselves (fresh encryption, key switching) enter as the
  hypotheses `ea`, `‖σ eks‖`: they are C03/C04's theorems, not re-derived here.  NOT modelled: reduction modulo `Q`
  (the bounds hold as long as the message fits, which the probes check), the float64/`big.Float` FFT of the encoder
  (C07), so "decode" is the exact embedding.  The end-to-end statement on the real code is the probe
  `program_precision` (+ `history`, `rescale-chain`, `addelt-degree-scale`), with a bound of the same shape.
* rotation / conjugation: metadata only (`meta_spec_rotate`); slot semantics and keys are C11.

Tied only (no general theorem): the driver op `params` (`encodingPrecision`, `levelsConsumed` from the default scale;
only `lcpr_one_or_two` is proved); the integer effects of `mtasc/mtavec/setscale/addsc` (characterised by the
decision theorems `mulThenAdd_scalar_scale` and by witnesses, not by a closed per-component formula as for `addElt`
(`add_alignment`), `mulScalar`, `scaleUp`; for `mtaelt` the whole result is `Proofs/CKKSMeta.mulThenAddElt_ok`: the
multiplier of `mtaEltScale` — decision table `mulThenAdd_scale_*` — on every component the receiver had, but no
`meta_spec_*` theorem states the effect).  Every other driver op has a `meta_spec_*` statement.
Probed only: input immutability (`inputs_unchanged`), output independence (`output_independent`), no panics.
-/
namespace Lattigo.Props.C06
open Lattigo.CKKS

/-- Add/Sub (element operand): min level, the larger degree of the operands, **max** scale. -/
theorem meta_spec_add {P : Params} {sub : Bool} {a b o : Meta} {r : Res} (h : step P (.addElt sub a b o) = .ok r) :
    r.md.level = min (min a.level b.level) o.level ∧ r.md.degree = max a.degree b.degree ∧
    r.md.scale = a.scale.max b.scale ∧ r.md.logSlots = max a.logSlots b.logSlots := addElt_meta h
example : ∃ r, step toyP (.addElt false ⟨2, 1, dy 48 0, 4⟩ ⟨2, 1, dy 16 0, 4⟩ ⟨2, 1, dy 16 0, 4⟩) = .ok r :=
  ⟨_, add_int_ratio_witness⟩

/-- Add/Sub (vector operand): encoded at the operand's scale. -/
theorem meta_spec_addVec {P : Params} {a o : Meta} {len : Nat} {r : Res} (h : step P (.addVec a o len) = .ok r) :
    r.md = ⟨min a.level o.level, a.degree, a.scale, a.logSlots⟩ ∧ len ≤ 2 ^ a.logSlots := by
  rw [step, addVec] at h
  obtain ⟨hok, h⟩ := ok_of_ite_err h
  cases h
  simp [encodeOk] at hok
  exact ⟨rfl, hok.2⟩
example : step toyP (.addVec ⟨2, 1, dy 16 0, 3⟩ ⟨2, 1, dy 16 0, 4⟩ 8) = .ok ⟨⟨2, 1, dy 16 0, 3⟩, []⟩ := by decide +kernel

/-- Add/Sub (scalar operand): min level, the operand's degree, scale and dimensions — whatever the
    receiver was allocated with (fix C06-1). -/
theorem meta_spec_addScalar {P : Params} {sub : Bool} {a o : Meta} {re im : SD} {r : Res}
    (h : step P (.addScalar sub a o re im) = .ok r) :
    r.md.level = min a.level o.level ∧ r.md.degree = a.degree ∧ r.md.scale = a.scale ∧
    r.md.logSlots = a.logSlots := addScalar_meta h
/-- fix C06-1 of finding `C06/addsc-receiver-scale-not-set`: `AddNew(ct, 1)` with `ct.Scale = 64` and a receiver allocated
    at the default scale 16: the constant is added at scale 64 and the output is recorded at scale 64. -/
theorem addScalar_scale_fixed :
    step toyP (.addScalar false ⟨2, 1, dy 64 0, 4⟩ ⟨2, 1, dy 16 0, 4⟩ (sd 1 0) (sd 0 0))
      = .ok ⟨⟨2, 1, dy 64 0, 4⟩, [64, 0, 1, 1]⟩ := by decide +kernel

/-- Add/Sub (scalar operand), in place: metadata unchanged. -/
theorem meta_spec_addScalar_inplace {P : Params} {sub : Bool} {a : Meta} {re im : SD} {r : Res}
    (h : step P (.addScalar sub a a re im) = .ok r) : r.md = a := by
  rw [step, addScalar] at h
  cases h; cases a; simp
example : ∃ r, step toyP (.addScalar false ⟨2, 1, dy 16 0, 4⟩ ⟨2, 1, dy 16 0, 4⟩ (sd 1 0) (sd 0 0)) = .ok r :=
  ⟨_, rfl⟩

/-- Mul / MulRelin (element operand): product of the scales (rounded to 128 bits), degree 2 without and
    1 with relinearisation. -/
theorem meta_spec_mul {P : Params} {relin : Bool} {a b o : Meta} {r : Res} (h : step P (.mulElt relin a b o) = .ok r) :
    r.md.level = min (min a.level b.level) o.level ∧ r.md.scale = smul a.scale b.scale ∧
    r.md.logSlots = max a.logSlots b.logSlots ∧
    r.md.degree = (if a.degree = 1 ∧ b.degree = 1 then (if relin then 1 else 2) else max a.degree b.degree) ∧
    0 < a.degree + b.degree ∧ a.degree + b.degree ≤ 2 := by
  obtain ⟨rfl, hd⟩ := mulElt_ok h
  exact ⟨rfl, rfl, rfl, rfl, hd⟩
example : step toyP (.mulElt true ⟨2, 1, dy 16 0, 4⟩ ⟨1, 1, dy 4 0, 3⟩ ⟨2, 1, dy 16 0, 4⟩) = .ok ⟨⟨1, 1, dy 64 0, 4⟩, []⟩ := by
  decide +kernel

/-- Mul (scalar): scale times `1` for Gaussian integers, times the `lcpr` current primes otherwise; the
    constants are the fixed-point conversions at that factor. -/
theorem meta_spec_mulScalar {P : Params} {a o : Meta} {re im : SD} {r : Res} (h : step P (.mulScalar a o re im) = .ok r) :
    ∃ s, scalarScale P (min a.level o.level) re im = .ok s ∧
      r.md = ⟨min a.level o.level, a.degree, smul a.scale s, a.logSlots⟩ ∧
      r.eff = perComp a.degree (fun _ => [centerMod (consts P re im s).1 (P.bigQ (min a.level o.level)),
               centerMod (consts P re im s).2 (P.bigQ (min a.level o.level))]) := by
  rw [step, mulScalar] at h
  obtain ⟨s, hs, h⟩ := ok_of_bind h
  cases h
  exact ⟨s, hs, rfl, rfl⟩
example : ∃ r, step toyP (.mulScalar ⟨2, 1, dy 16 0, 4⟩ ⟨2, 1, dy 16 0, 4⟩ (sd 1 (-1)) (sd (-1) (-2))) = .ok r :=
  ⟨_, mulScalar_witness.2⟩

/-- the RNS constant of a scalar operand (`bigComplexToRNSScalar`): `round(c·S)` up to the floating-point
    error of `max(prec,128)` bits. -/
theorem rnsConst_error (xprec : ℕ) (x : SD) (scale : Dy) (hx : 0 < x.mag.m) (hs : 0 < scale.m) :
    ∃ n : ℕ, rnsConst xprec x scale = (if x.neg then -(n : ℤ) else (n : ℤ)) ∧
      |(n : ℚ) - x.mag.val * scale.val|
        ≤ 1 / 2 + 3 * (2 : ℚ) ^ (-((Nat.max xprec scalePrec : ℕ) : ℤ)) * (x.mag.val * scale.val + 1) :=
  fixedPoint_error _ x scale (le_trans (by decide : 1 ≤ scalePrec) (Nat.le_max_right _ _)) hx hs
example : rnsConst 53 (sd (-1) (-2)) (dy 1019 0) = -255 := by decide +kernel

/-- constant scaling factor: one prime, resp. two primes (PREC128). -/
theorem const_scale_one {P : Params} {level : Nat} (h : P.lcpr = 1) :
    primeScale P level = .ok (Dy.ofNat (P.q level)) := by
  unfold primeScale
  simp [h, List.range_succ]
/-- two primes per rescale (PREC128): `q_level · q_{level-1}`, the product rounded to 128 bits. -/
theorem const_scale_two {P : Params} {level : Nat} (h : P.lcpr = 2) (hl : 1 ≤ level) :
    primeScale P level = .ok (smul (Dy.ofNat (P.q level)) (Dy.ofNat (P.q (level - 1)))) := by
  unfold primeScale
  have : ¬ (level + 1 < 2) := by omega
  simp [h, this, List.range_succ]
/-- `Parameters.LevelsConsumedPerRescaling` is 1 or 2. -/
theorem lcpr_one_or_two (d : Dy) : levelsConsumed d = 1 ∨ levelsConsumed d = 2 := by
  unfold levelsConsumed
  dsimp only
  split <;> simp

/-- Rescale: `lcpr` levels, the scale divided successively by the consumed primes. -/
theorem meta_spec_rescale {P : Params} {a : Meta} {r : Res} (h : step P (.rescale a) = .ok r) :
    P.lcpr ≤ a.level ∧ r.md.level = a.level - P.lcpr ∧ r.md.degree = a.degree ∧ r.md.logSlots = a.logSlots ∧
    r.md.scale = (List.range P.lcpr).foldl (fun s i => sdiv s (Dy.ofNat (P.q (a.level - i)))) a.scale :=
  rescale_meta h
example : ∃ r, step toyP (.rescale ⟨2, 1, dy (16 * 1019) 0, 4⟩) = .ok r := ⟨_, rescale_witness.1⟩
theorem rescale_err_iff {P : Params} {a : Meta} : (∃ e, step P (.rescale a) = .error e) ↔ a.level < P.lcpr :=
  Lattigo.CKKS.rescale_err_iff

/-- Rescale with one prime: new level = old − 1, new scale = the correctly rounded (128-bit,
    nearest-even) quotient `old / q_level`: relative error ≤ 2^-128. -/
theorem rescale_scale_exact {P : Params} {a : Meta} {r : Res} (h1 : P.lcpr = 1) (h : step P (.rescale a) = .ok r)
    (ha : 0 < a.scale.m) (hq : 0 < (Dy.ofNat (P.q a.level)).m) :
    r.md.level + 1 = a.level ∧ r.md.scale = sdiv a.scale (Dy.ofNat (P.q a.level)) ∧
    |r.md.scale.val - a.scale.val / (Dy.ofNat (P.q a.level)).val|
      ≤ a.scale.val / (Dy.ofNat (P.q a.level)).val * (2 : ℚ) ^ (-(128 : ℤ)) := by
  obtain ⟨hl, hlev, -, -, hs⟩ := rescale_meta h
  rw [h1] at hl hlev hs
  simp [List.range_succ] at hs
  exact ⟨by omega, hs, hs ▸ Dy.div_spec 128 _ _ ha hq⟩
example : (Dy.ofNat (toyP.q 2)).m = 1019 ∧ (Dy.ofNat (toyP.q 2)).val = 1019 := by
  constructor
  · decide +kernel
  · rw [Dy.ofNat, Dy.norm_val]; norm_num [toyP, Params.q]

/-- two primes per rescale: two successive correctly rounded divisions. -/
theorem rescale_scale_exact_two {P : Params} {a : Meta} {r : Res} (h2 : P.lcpr = 2) (h : step P (.rescale a) = .ok r) :
    r.md.level + 2 = a.level ∧
    r.md.scale = sdiv (sdiv a.scale (Dy.ofNat (P.q a.level))) (Dy.ofNat (P.q (a.level - 1))) := by
  obtain ⟨hl, hlev, -, -, hs⟩ := rescale_meta h
  rw [h2] at hl hlev hs
  simp [List.range_succ] at hs
  exact ⟨by omega, hs⟩
example : ∃ r, step toyP2 (.rescale ⟨2, 1, dy (16 * 1019 * 1013) 0, 4⟩) = .ok r := ⟨_, rescale_witness.2.1⟩

/-- the rounding used by `Scale.Mul` / `Scale.Div` is correct (half an ulp at 128 bits). -/
theorem scale_mul_correctly_rounded (a b : Dy) (ha : 0 < a.m) (hb : 0 < b.m) :
    |(smul a b).val - a.val * b.val| ≤ a.val * b.val * (2 : ℚ) ^ (-(128 : ℤ)) := Dy.mul_spec 128 a b ha hb
theorem scale_div_correctly_rounded (a b : Dy) (ha : 0 < a.m) (hb : 0 < b.m) :
    |(sdiv a b).val - a.val / b.val| ≤ a.val / b.val * (2 : ℚ) ^ (-(128 : ℤ)) := Dy.div_spec 128 a b ha hb
example : (0 : ℕ) < (dy 3 5).m := by decide +kernel

/-- RescaleTo: the level only drops, by the number of primes the effect reports; level 0 is refused. -/
theorem meta_spec_rescaleTo {P : Params} {a : Meta} {m : Dy} {r : Res} (h : step P (.rescaleTo a m) = .ok r) :
    r.md.level ≤ a.level ∧ r.md.degree = a.degree ∧ r.md.logSlots = a.logSlots ∧
    r.eff = [((a.level - r.md.level : Nat) : Int)] ∧ 0 < a.level := by
  rw [step, rescaleTo] at h
  obtain ⟨-, h⟩ := ok_of_ite_err h
  obtain ⟨-, h⟩ := ok_of_ite_err h
  obtain ⟨hl, h⟩ := ok_of_ite_err h
  have hle := (rescaleToLoop_le P (sdiv m (Dy.ofNat 2)) a.level 0 a.scale).1
  cases h
  refine ⟨Nat.sub_le _ _, rfl, rfl, ?_, by omega⟩
  rw [show a.level - (a.level - _) = _ from Nat.sub_sub_self (by omega)]
example : step toyP (.rescaleTo ⟨2, 1, dy (16 * 1019) 0, 4⟩ (dy 16 0)) = .ok ⟨⟨1, 1, dy 16 0, 4⟩, [1]⟩ := by decide +kernel

/-- SetScale records the requested scale (see `setScale_counterexample` for what the content does). -/
theorem meta_spec_setScale {P : Params} {a : Meta} {t : Dy} {r : Res} (h : step P (.setScale a t) = .ok r) :
    r.md.scale = t := by
  rw [step, setScale] at h
  obtain ⟨s, -, h⟩ := ok_of_bind h
  obtain ⟨r', -, h⟩ := ok_of_bind h
  cases h
  rfl
example : ∃ r, step toyP (.setScale ⟨2, 1, dy 16 0, 4⟩ (dy 20 0)) = .ok r := ⟨_, setScale_ok_witness⟩

/-- DropLevel: at most the current level can be dropped. -/
theorem meta_spec_dropLevel {P : Params} {a : Meta} {n : Nat} {r : Res} (h : step P (.dropLevel a n) = .ok r) :
    n ≤ a.level ∧ r.md = { a with level := a.level - n } := by
  rw [step, dropLevel] at h
  obtain ⟨hl, h⟩ := ok_of_ite_err h
  cases h; exact ⟨by omega, rfl⟩
example : ∃ r, step toyP (.dropLevel ⟨2, 1, dy 16 0, 4⟩ 1) = .ok r := ⟨_, rfl⟩

/-- Rotate: degree 1 only, metadata of the input at the common level; a missing Galois key is an error. -/
theorem meta_spec_rotate {P : Params} {k : Int} {a o : Meta} {r : Res} (h : step P (.rotate k a o) = .ok r) :
    a.degree = 1 ∧ o.degree = 1 ∧ r.md.scale = a.scale ∧ r.md.degree = 1 ∧ r.md.logSlots = a.logSlots ∧
    r.md.level = (if galoisElement P k = 1 then a.level else min a.level o.level) ∧
    (galoisElement P k ≠ 1 → P.galEls.contains (galoisElement P k) = true) := automorphism_meta h
example : step toyP (.rotate 1 ⟨2, 1, dy 16 0, 4⟩ ⟨1, 1, dy 16 0, 4⟩) = .ok ⟨⟨1, 1, dy 16 0, 4⟩, []⟩ := by decide +kernel
/-- Conjugate is an error in the conjugate-invariant ring. -/
theorem conjugate_conjInv_err {P : Params} {a o : Meta} (h : P.conjInv = true) :
    step P (.conjugate a o) = .error .err := by
  rw [step, conjugate, if_pos h]
/-- Relinearize: degree 2 in, degree 1 out at the common level; needs the relinearisation key. -/
theorem meta_spec_relinearize {P : Params} {a o : Meta} {r : Res} (h : step P (.relinearize a o) = .ok r) :
    a.degree = 2 ∧ P.hasRlk = true ∧ r.md = { a with level := min a.level o.level, degree := 1 } := by
  rw [step, relinearize] at h
  obtain ⟨h2, h⟩ := ok_of_ite_err h
  obtain ⟨hk, h⟩ := ok_of_ite_err h
  cases h
  exact ⟨by omega, by simpa using hk, rfl⟩
example : ∃ r, step toyP (.relinearize ⟨2, 2, dy 16 0, 4⟩ ⟨2, 1, dy 16 0, 4⟩) = .ok r := ⟨_, rfl⟩

/-- MulThenAdd / MulRelinThenAdd (element operands): fresh receiver, total degree 1 or 2, min level; the recorded
    scale is the receiver's or the product scale (`mulThenAdd_scale_*` say which). -/
theorem meta_spec_mulThenAdd {P : Params} {relin : Bool} {al : Alias} {a b o : Meta} {r : Res}
    (h : step P (.mtaElt relin al a b o) = .ok r) :
    al = .fresh ∧ 0 < a.degree + b.degree ∧ a.degree + b.degree ≤ 2 ∧
    r.md.level = min (min a.level b.level) o.level ∧ r.md.logSlots = max a.logSlots b.logSlots ∧
    (r.md.scale = o.scale ∨ r.md.scale = smul a.scale b.scale) := by
  obtain ⟨v, hv, rfl, hal, h0, h2⟩ := mulThenAddElt_ok h
  exact ⟨hal, h0, h2, rfl, rfl, mtaEltScale_scale hv⟩
example : ∃ r, step toyP (.mtaElt true .fresh ⟨2, 1, dy 16 0, 4⟩ ⟨2, 1, dy 4 0, 4⟩ ⟨2, 1, dy 16 0, 4⟩) = .ok r :=
  ⟨_, mulThenAdd_int_ratio_witness⟩

/-- MulThenAdd (scalar): min level, the receiver keeps its higher-degree terms, the receiver is not the
    operand, `op0.Scale ≤ opOut.Scale` (fixes C06-2, C06-3). -/
theorem meta_spec_mulThenAddScalar {P : Params} {al : Alias} {a o : Meta} {re im : SD} {r : Res}
    (h : step P (.mtaScalar al a o re im) = .ok r) :
    al = .fresh ∧ r.md.level = min a.level o.level ∧ r.md.degree = max a.degree o.degree ∧
    r.md.logSlots = a.logSlots ∧ a.scale.cmp o.scale ≠ .gt := by
  rw [step, mulThenAddScalar] at h
  dsimp only at h
  obtain ⟨hal, h⟩ := ok_of_ite_err h
  obtain ⟨v, hv, h⟩ := ok_of_bind h
  cases h
  refine ⟨by simpa using hal, rfl, rfl, rfl, fun hgt => ?_⟩
  rw [mtaScale_gt hgt] at hv
  cases hv
/-- fix C06-2 of findings `C06/mtasc-receiver-level-kept`, `C06/mta-receiver-degree-cut`: `MulThenAdd(ct@level 1, 3,
    out@level 2 of degree 2)` is evaluated at level 1 and keeps degree 2; fix C06-3 of finding
    `C06/mtasc-receiver-is-operand`: the receiver must differ from `op0`. -/
theorem mulThenAddScalar_fixed :
    step toyP (.mtaScalar .fresh ⟨1, 1, dy 16 0, 4⟩ ⟨2, 2, dy 16 0, 4⟩ (sd 3 0) (sd 0 0))
      = .ok ⟨⟨1, 2, dy 16 0, 4⟩, [1, 3, 0, 1, 3, 0, 1, 0, 0]⟩ ∧
    step toyP (.mtaScalar .out0 ⟨2, 1, dy 16 0, 4⟩ ⟨2, 1, dy 16 0, 4⟩ (sd 1 (-1)) (sd 0 0)) = .error .err := by
  decide +kernel

/-- Every component: for unequal scales the code computes `k0·a ± k1·b` recorded at the
    larger scale, `(k0, k1) = alignMult` (`⌊Δ_big/Δ_small⌋` — 128-bit rounded quotient, truncated, rounded to
    the encoding precision by `ToComplex` — on the operand of the *smaller* scale, `1` on the other).
    Component `i` of the result is `k0·a_i ± k1·b_i` up to the smaller degree and the **scale-matched**
    operand of higher degree alone above it; the receiver's previous content does not survive.
    (The harness reads exactly these integers from all components of transparent ciphertexts.) -/
theorem add_alignment {P : Params} {sub : Bool} {a b o : Meta} {r : Res} (h : step P (.addElt sub a b o) = .ok r) :
    r.md.scale = a.scale.max b.scale ∧
    r.eff = perComp (max a.degree b.degree) (fun i =>
      if i ≤ min a.degree b.degree then
        [centerMod (alignMult P a b).1 (P.bigQ r.md.level), centerMod (sgn sub (alignMult P a b).2) (P.bigQ r.md.level), 0]
      else if b.degree < a.degree then [centerMod (alignMult P a b).1 (P.bigQ r.md.level), 0, 0]
      else [0, centerMod (sgn sub (alignMult P a b).2) (P.bigQ r.md.level), 0]) :=
  ⟨(addElt_meta h).2.2.1, by
    rw [step, addElt] at h
    obtain ⟨-, h⟩ := ok_of_ite_err h
    cases h
    cases hc : a.scale.cmp b.scale
    · rw [alignMult_lt hc]
    · rw [alignMult_eq hc]
    · rw [alignMult_gt hc]⟩
/-- operands of different degree and integer scale ratio 3: every component of the higher-degree operand
    is multiplied by 3, including the ones the other operand does not have. -/
theorem add_alignment_higher_degree :
    step toyP (.addElt false ⟨2, 2, dy 16 0, 4⟩ ⟨2, 1, dy 48 0, 4⟩ ⟨2, 2, dy 16 0, 4⟩)
      = .ok ⟨⟨2, 2, dy 48 0, 4⟩, [3, 1, 0, 3, 1, 0, 3, 0, 0]⟩ ∧
    step toyP (.addElt true ⟨2, 0, dy 48 0, 4⟩ ⟨2, 1, dy 16 0, 4⟩ ⟨2, 1, dy 16 0, 4⟩)
      = .ok ⟨⟨2, 1, dy 48 0, 4⟩, [1, -3, 0, 0, -3, 0]⟩ := by decide +kernel

/-- decoded value of the aligned sum and the relative error `(ρ − k)/ρ`, `ρ = Δ_b/Δ_a`, `k = ⌊ρ⌋`:
    zero iff the ratio is an integer, otherwise in `(0, 1/(k+1))`.  For the multiplier of `add_alignment`, `hk` and `hk1`
    are `CKKS.align_multiplier_floor` (with `sdiv`'s 128-bit rounded ratio for `ρ`), and the operand it is applied to is
    the one of smaller value by `CKKS.Dy.cmp_lt_iff`; the statement here is about rationals and takes them as hypotheses. -/
theorem add_alignment_error (va vb Δa Δb : ℚ) (k : ℕ) (ha : 0 < Δa) (hb : 0 < Δb)
    (hk : (k : ℚ) ≤ Δb / Δa) (hk1 : Δb / Δa < k + 1) (h1 : 1 ≤ k) :
    ((k : ℚ) * (va * Δa) + vb * Δb) / Δb = (va + vb) - va * ((Δb / Δa - k) / (Δb / Δa)) ∧
    0 ≤ (Δb / Δa - k) / (Δb / Δa) ∧ (Δb / Δa - k) / (Δb / Δa) < 1 / ((k : ℚ) + 1) ∧
    ((Δb / Δa - k) / (Δb / Δa) = 0 ↔ Δb / Δa = k) := by
  have hk0 : (1 : ℚ) ≤ (k : ℚ) := by exact_mod_cast h1
  constructor
  · have h1 : Δa ≠ 0 := ne_of_gt ha
    have h2 : Δb ≠ 0 := ne_of_gt hb
    field_simp
    ring
  · -- the rest is about the ratio `ρ = Δb/Δa` alone
    generalize Δb / Δa = ρ at hk hk1 ⊢
    have hρ : 0 < ρ := by linarith
    refine ⟨div_nonneg (by linarith) hρ.le, ?_, ?_⟩
    · rw [div_lt_div_iff₀ hρ (by linarith)]
      linarith [mul_pos (show (0 : ℚ) < k by linarith) (show (0 : ℚ) < k + 1 - ρ by linarith)]
    · rw [div_eq_zero_iff, sub_eq_zero, or_iff_left hρ.ne']
example : ((1 : ℕ) : ℚ) ≤ (24 : ℚ) / 16 ∧ (24 : ℚ) / 16 < (1 : ℕ) + 1 := by norm_num

/-- non-integer ratio `1.5`: the model (and the code) multiply by `1`; the sum `0.25 + 0.5` decodes to
    `2/3` instead of `3/4` (relative alignment error `1/3` on the first operand).  Not documented on
    `Add`; finding `C06/add-noninteger-scale-ratio`. -/
theorem add_alignment_counterexample :
    step toyP (.addElt false ⟨2, 1, dy 24 0, 4⟩ ⟨2, 1, dy 16 0, 4⟩ ⟨2, 1, dy 16 0, 4⟩) = .ok ⟨⟨2, 1, dy 24 0, 4⟩, [1, 1, 0, 1, 1, 0]⟩
    ∧ ((1 : ℚ) * ((1 / 2) * 24) + 1 * ((1 / 4) * 16)) / 24 = 2 / 3 := ⟨by decide +kernel, by norm_num⟩

/-! ## defects of the bookkeeping (negations, with witnesses on the model) -/

/-- `C06/setscale-noninteger-ratio-ge2`: `SetScale(ct@16, 40)` (ratio 2.5): the content is multiplied by
    `round(2.5·1019) = 2548`, **no** prime is divided out (`16 < 40/2`), the scale is recorded as `40`: the content is
    `1019` times too large.  `C06/setscale-ratio-below-2-over-q`: `SetScale(ct@2^14, 16)`: the constant is scaled by one
    prime (`round(2^-10·1019) = 1`), but `RescaleTo` works on the recorded scale `2^14·1019` and divides by two primes
    (`2^14/1013 ≥ 8`): the ciphertext lands at level 0 and its content is `≈ 1013` times too small. -/
theorem setScale_counterexample :
    step toyP (.setScale ⟨2, 1, dy 16 0, 4⟩ (dy 40 0)) = .ok ⟨⟨2, 1, dy 40 0, 4⟩, [2548, 2548]⟩ ∧
    step toyP (.setScale ⟨2, 1, dy 1 14, 4⟩ (dy 16 0)) = .ok ⟨⟨0, 1, dy 16 0, 4⟩, [0, 0]⟩ := by
  decide +kernel

/-- `C06/mta-scaleup-noninteger-ratio`: `MulRelinThenAdd` with `opOut.Scale = 10`, product scale `16·4 = 64`
    (ratio 6.4): the receiver is multiplied by `round(6.4·1019) = 6522` and recorded at scale 64: its previous content
    is `1019` times too large. -/
theorem mulThenAdd_counterexample :
    step toyP (.mtaElt true .fresh ⟨2, 1, dy 16 0, 4⟩ ⟨2, 1, dy 4 0, 4⟩ ⟨2, 1, dy 10 0, 4⟩)
      = .ok ⟨⟨2, 1, dy 64 0, 4⟩, [6522, 6522]⟩ := by decide +kernel

/-- `C06/scaleup-truncates-scale`: `ScaleUp(ct, 2.5)`: content times 2, recorded scale times 2.5. -/
theorem scaleUp_counterexample :
    step toyP (.scaleUp ⟨2, 1, dy 16 0, 4⟩ ⟨2, 1, dy 16 0, 4⟩ (dy 5 (-1))) = .ok ⟨⟨2, 1, dy 40 0, 4⟩, [2, 2]⟩ := by
  decide +kernel

/-- documented errors / regular results where the findings `C06/panic:…` had panics.  Fix C06-5 of
    `C06/panic:prec128-level0-constant-scaling`: with two primes per rescale a non-integer constant at level 0 is an
    error.  Fix C06-6 of `C06/panic:rescaleto-consumes-all-levels`: a scale of the size of `Q` and a tiny minimum
    scale: the loop stops at level 0 (one prime consumed), `q_0` is kept. -/
theorem no_panics_fixed :
    step toyP2 (.mulScalar ⟨0, 1, dy 16 0, 4⟩ ⟨0, 1, dy 16 0, 4⟩ (sd 1 (-1)) (sd 0 0)) = .error .err ∧
    step toyP (.rescaleTo ⟨1, 1, dy 1 30, 4⟩ (dy 1 0)) = .ok ⟨⟨0, 1, sdiv (dy 1 30) (dy 1013 0), 4⟩, [1]⟩ := by
  decide +kernel
/-- `RescaleTo` is total on ciphertexts of level ≥ 1 with positive scales. -/
theorem rescaleTo_total {P : Params} {a : Meta} {m : Dy} (hm : m.m ≠ 0) (hs : a.scale.m ≠ 0) (hl : a.level ≠ 0) :
    ∃ r, step P (.rescaleTo a m) = .ok r := Lattigo.CKKS.rescaleTo_total hm hs hl
example : (dy 1 0).m ≠ 0 := by decide +kernel
/-- constant scaling at a level that is too low is an error. -/
theorem const_scale_low_level_is_error {P : Params} (h : P.lcpr = 2) : primeScale P 0 = .error .err := by
  unfold primeScale; simp [h]


/-! ## the rest of the metadata table: vector operands, `…New` forms, `MulThenAdd` scale matching -/

/-- Mul (vector): encoded at the `lcpr` current primes; level / degree / dimensions as for a scalar. -/
theorem meta_spec_mulVec {P : Params} {a o : Meta} {len : Nat} {r : Res} (h : step P (.mulVec a o len) = .ok r) :
    ∃ s, primeScale P (min a.level o.level) = .ok s ∧
      r.md = ⟨min a.level o.level, a.degree, smul a.scale s, a.logSlots⟩ ∧ len ≤ 2 ^ a.logSlots ∧ 0 < a.degree := by
  rw [step, mulVec] at h
  obtain ⟨s, hs, h⟩ := ok_of_bind h
  obtain ⟨hok, h⟩ := ok_of_ite_err h
  obtain ⟨rfl, hpos, -⟩ := mulElt_ok h
  simp [encodeOk] at hok
  exact ⟨s, hs, by simp, hok.2, by simpa using hpos⟩
example : step toyP (.mulVec ⟨2, 1, dy 16 0, 3⟩ ⟨2, 1, dy 16 0, 4⟩ 8) = .ok ⟨⟨2, 1, ⟨1019, 4⟩, 3⟩, []⟩ := by
  decide +kernel

/-- MulThenAdd (vector): fresh receiver, minimum level, `op0`'s dimensions, length check, `op0.Scale ≤ opOut.Scale`. -/
theorem meta_spec_mulThenAddVec {P : Params} {al : Alias} {a o : Meta} {len : Nat} {r : Res}
    (h : step P (.mtaVec al a o len) = .ok r) :
    al = .fresh ∧ r.md.level = min a.level o.level ∧ r.md.logSlots = a.logSlots ∧ len ≤ 2 ^ a.logSlots ∧
    a.scale.cmp o.scale ≠ .gt := by
  change mulThenAddVec P al a o len = .ok r at h
  unfold mulThenAddVec at h
  dsimp only at h
  obtain ⟨-, h⟩ := ok_of_ite_err h
  obtain ⟨v, hv, h⟩ := ok_of_bind h
  obtain ⟨hok, h⟩ := ok_of_ite_err h
  obtain ⟨r', hr', h⟩ := ok_of_bind h
  obtain ⟨w, -, h⟩ := ok_of_bind h
  cases h
  obtain ⟨-, -, rfl, hfresh, -, -⟩ := mulThenAddElt_ok hr'
  simp [encodeOk] at hok
  refine ⟨hfresh, by simp, by simp, hok.2, fun hgt => ?_⟩
  rw [mtaScale_gt hgt] at hv
  cases hv
example : step toyP (.mtaVec .fresh ⟨2, 1, dy 16 0, 3⟩ ⟨2, 1, dy 16 0, 3⟩ 8)
    = .ok ⟨⟨2, 1, ⟨1019, 4⟩, 3⟩, [1019, 1019]⟩ := by decide +kernel

/-- Conjugate: as Rotate with the Galois element `NthRoot − 1`, standard ring only. -/
theorem meta_spec_conjugate {P : Params} {a o : Meta} {r : Res} (h : step P (.conjugate a o) = .ok r) :
    P.conjInv = false ∧ a.degree = 1 ∧ o.degree = 1 ∧ r.md.scale = a.scale ∧ r.md.degree = 1 ∧
    r.md.logSlots = a.logSlots ∧ r.md.level = (if P.nthRoot - 1 = 1 then a.level else min a.level o.level) := by
  rw [step, conjugate] at h
  obtain ⟨hci, h⟩ := ok_of_ite_err h
  obtain ⟨h1, h2, h3, h4, h5, h6, -⟩ := automorphism_meta h
  exact ⟨by simpa using hci, h1, h2, h3, h4, h5, h6⟩
example : step { toyP with galEls := [5, 25, 63] } (.conjugate ⟨2, 1, dy 16 0, 4⟩ ⟨1, 1, dy 16 0, 4⟩)
    = .ok ⟨⟨1, 1, dy 16 0, 4⟩, []⟩ := by decide +kernel

/-- ScaleUp: the content is multiplied by `⌊scale⌋` (as uint64), the recorded scale by `scale`
    (`scaleUp_counterexample`). -/
theorem meta_spec_scaleUp {P : Params} {a o : Meta} {s : Dy} {r : Res} (h : step P (.scaleUp a o s) = .ok r) :
    r.md = ⟨min a.level o.level, a.degree, smul a.scale s, a.logSlots⟩ ∧
    r.eff = perComp a.degree (fun _ => [centerMod (bigIntConst P s.toU64) (P.bigQ (min a.level o.level))]) := by
  rw [step, scaleUp] at h
  cases h
  exact ⟨rfl, rfl⟩

/-- the `…New` forms (`AddNew`, `SubNew`, `MulNew`, `MulRelinNew`, `ScaleUpNew`, `RotateNew`,
    `RelinearizeNew`): the receiver enters the result only through its level (rotation: and its degree), so a
    receiver allocated as `NewCiphertext(op0.Degree(), op0.Level())` at ANY scale / dimensions gives the table above
    with `o.level = a.level`. -/
theorem meta_New_add {P : Params} {sub : Bool} {a b o o' : Meta} (h : o.level = o'.level) :
    step P (.addElt sub a b o) = step P (.addElt sub a b o') := by simp only [step, addElt, h]
/-- `AddNew/SubNew` with a scalar. -/
theorem meta_New_addScalar {P : Params} {sub : Bool} {a o o' : Meta} {re im : SD} (h : o.level = o'.level) :
    step P (.addScalar sub a o re im) = step P (.addScalar sub a o' re im) := by simp only [step, addScalar, h]
/-- `AddNew/SubNew` with a vector. -/
theorem meta_New_addVec {P : Params} {a o o' : Meta} {len : Nat} (h : o.level = o'.level) :
    step P (.addVec a o len) = step P (.addVec a o' len) := by simp only [step, addVec, h]
/-- `MulNew`, `MulRelinNew`. -/
theorem meta_New_mul {P : Params} {relin : Bool} {a b o o' : Meta} (h : o.level = o'.level) :
    step P (.mulElt relin a b o) = step P (.mulElt relin a b o') := by simp only [step, mulElt, h]
/-- `MulNew` with a scalar. -/
theorem meta_New_mulScalar {P : Params} {a o o' : Meta} {re im : SD} (h : o.level = o'.level) :
    step P (.mulScalar a o re im) = step P (.mulScalar a o' re im) := by simp only [step, mulScalar, h]
/-- `MulNew` with a vector. -/
theorem meta_New_mulVec {P : Params} {a o o' : Meta} {len : Nat} (h : o.level = o'.level) :
    step P (.mulVec a o len) = step P (.mulVec a o' len) := by simp only [step, mulVec, mulElt, h]
/-- `ScaleUpNew`. -/
theorem meta_New_scaleUp {P : Params} {a o o' : Meta} {s : Dy} (h : o.level = o'.level) :
    step P (.scaleUp a o s) = step P (.scaleUp a o' s) := by simp only [step, scaleUp, h]
/-- `RotateNew`: the receiver's degree is checked as well. -/
theorem meta_New_rotate {P : Params} {k : Int} {a o o' : Meta} (h : o.level = o'.level) (hd : o.degree = o'.degree) :
    step P (.rotate k a o) = step P (.rotate k a o') := by simp only [step, rotate, automorphism, h, hd]
/-- `RelinearizeNew`. -/
theorem meta_New_relinearize {P : Params} {a o o' : Meta} (h : o.level = o'.level) :
    step P (.relinearize a o) = step P (.relinearize a o') := by simp only [step, relinearize, h]
/-- `AddNew/SubNew`, `MulNew/MulRelinNew`: the lower of the operands' levels; `AddNew(ct, scalar)`: `op0`'s metadata. -/
theorem meta_New_levels {P : Params} {sub relin : Bool} {a b : Meta} {ds : Dy} {lm : Nat} :
    (∀ r, step P (.addElt sub a b (newRecv a ds lm)) = .ok r → r.md.level = min a.level b.level) ∧
    (∀ r, step P (.mulElt relin a b (newRecv a ds lm)) = .ok r → r.md.level = min a.level b.level) ∧
    (∀ re im r, step P (.addScalar sub a (newRecv a ds lm) re im) = .ok r → r.md = a) := by
  refine ⟨fun r h => ?_, fun r h => ?_, fun re im r h => ?_⟩
  · rw [(addElt_meta h).1, newRecv_level]
    omega
  · obtain ⟨rfl, -⟩ := mulElt_ok h
    simp [newRecv_level]
  · obtain ⟨h1, h2, h3, h4⟩ := addScalar_meta h
    rw [newRecv_level, Nat.min_self] at h1
    cases r with | mk md eff => cases md; cases a; simp_all
example : step toyP (.addScalar false ⟨2, 1, dy 64 0, 3⟩ (newRecv ⟨2, 1, dy 64 0, 3⟩ (dy 16 0) 4) (sd 1 0) (sd 0 0))
    = .ok ⟨⟨2, 1, dy 64 0, 3⟩, [64, 0, 1, 1]⟩ := by decide +kernel

/-- MulThenAdd scale matching (element operands): the receiver is left alone if its scale is not below the
    product scale or if the ratio is below 2; otherwise it is multiplied by the RNS constant of the ratio and
    recorded at the product scale. -/
theorem mulThenAdd_scale_ge {P : Params} {level : Nat} {a b o : Meta}
    (h : o.scale.lt (smul a.scale b.scale) = false) : mtaEltScale P level a b o = .ok (1, o.scale) := by
  unfold mtaEltScale; simp [h, pure, Except.pure]
/-- ratio below 2 (as a float64): nothing is rescaled although the scales differ (known finding). -/
theorem mulThenAdd_scale_lt2 {P : Params} {level : Nat} {a b o : Meta} (h : o.scale.lt (smul a.scale b.scale) = true)
    (h2 : (toF64 (sdiv (smul a.scale b.scale) o.scale)).cmp (Dy.ofNat 2) = .lt) :
    mtaEltScale P level a b o = .ok (1, o.scale) := by
  unfold mtaEltScale; simp [h, h2, pure, Except.pure]
/-- ratio ≥ 2: the receiver is multiplied by the RNS constant of the ratio (at factor `1` if the ratio is an
    integer, at the current prime(s) otherwise — the known finding) and recorded at the product scale. -/
theorem mulThenAdd_scale_up {P : Params} {level : Nat} {a b o : Meta} {s : Dy}
    (h : o.scale.lt (smul a.scale b.scale) = true)
    (h2 : (toF64 (sdiv (smul a.scale b.scale) o.scale)).cmp (Dy.ofNat 2) ≠ .lt)
    (hs : scalarScale P level ⟨false, sdiv (smul a.scale b.scale) o.scale⟩ ⟨false, Dy.zero⟩ = .ok s) :
    mtaEltScale P level a b o
      = .ok ((consts P ⟨false, sdiv (smul a.scale b.scale) o.scale⟩ ⟨false, Dy.zero⟩ s).1, smul a.scale b.scale) := by
  unfold mtaEltScale
  have : ((toF64 (sdiv (smul a.scale b.scale) o.scale)).cmp (Dy.ofNat 2) != .lt) = true := by
    simpa using h2
  simp [h, this, hs, bind, Except.bind, pure, Except.pure]
example : mtaEltScale toyP 2 ⟨2, 1, dy 16 0, 4⟩ ⟨2, 1, dy 4 0, 4⟩ ⟨2, 1, dy 16 0, 4⟩ = .ok (4, dy 64 0) := by decide +kernel
/-- scalar / vector operands: equal scales and a Gaussian integer ↦ factor 1; equal scales otherwise ↦ receiver and
    constant scaled by the current prime(s); `op0.Scale < opOut.Scale` ↦ constant at the quotient; `>` ↦ error. -/
theorem mulThenAdd_scalar_scale {P : Params} {level : Nat} {a o : Meta} :
    (a.scale.cmp o.scale = .eq → mtaScale P level true a o = .ok (Dy.one, 1, o.scale)) ∧
    (∀ s, a.scale.cmp o.scale = .eq → primeScale P level = .ok s →
      mtaScale P level false a o = .ok (s, bigIntConst P s.toNat, smul (smul o.scale Dy.one) s)) ∧
    (∀ isInt, a.scale.cmp o.scale = .lt → mtaScale P level isInt a o = .ok (sdiv o.scale a.scale, 1, o.scale)) ∧
    (∀ isInt, a.scale.cmp o.scale = .gt → mtaScale P level isInt a o = .error .err) := by
  unfold mtaScale
  refine ⟨fun h => ?_, fun s h hs => ?_, fun isInt h => ?_, fun isInt h => ?_⟩
  · simp [h]
  · simp [h, hs, bind, Except.bind]
  · simp [h]
  · simp [h]
/-- in the `<` case the product lands at `op0.Scale·S`, equal to the receiver's scale up to a relative `2^-128`. -/
theorem mulThenAdd_scalar_scale_match (a o : Dy) (ha : 0 < a.m) (ho : 0 < o.m) :
    |a.val * (sdiv o a).val - o.val| ≤ o.val * (2 : ℚ) ^ (-(128 : ℤ)) := by
  have hapos : 0 < a.val := (Dy.val_pos_iff a).mpr ha
  rw [show a.val * (sdiv o a).val - o.val = a.val * ((sdiv o a).val - o.val / a.val) by
    rw [mul_sub, mul_div_cancel₀ _ hapos.ne'], abs_mul, abs_of_pos hapos]
  calc a.val * |(sdiv o a).val - o.val / a.val| ≤ a.val * (o.val / a.val * (2 : ℚ) ^ (-(128 : ℤ))) :=
        mul_le_mul_of_nonneg_left (Dy.div_spec 128 o a ho ha) hapos.le
    _ = o.val * (2 : ℚ) ^ (-(128 : ℤ)) := by rw [← mul_assoc, mul_div_cancel₀ _ hapos.ne']
example : (0 : ℕ) < (dy 3 5).m ∧ (0 : ℕ) < (dy 7 9).m := by decide +kernel

/-! ## error bounds (exact arithmetic; `σ` one coordinate of the canonical embedding, `decode σ s Δ c = σ(phase s c)/Δ`) -/
section
variable {α : Type*} [CommRing α] {K : Type*} [NormedField K] {σ : α →+* K}

/-- Add at equal scales: the errors add. -/
theorem error_bound_Add {s : α} {Δ : K} {a b : Ct α} {va vb : K} {ea eb : ℝ}
    (ha : ‖decode σ s Δ a - va‖ ≤ ea) (hb : ‖decode σ s Δ b - vb‖ ≤ eb) :
    ‖decode σ s Δ (Ct.lin 1 1 a b) - (va + vb)‖ ≤ ea + eb := by
  rw [decode_add]; exact error_sum ha hb
/-- Sub at equal scales: the errors add. -/
theorem error_bound_Sub {s : α} {Δ : K} {a b : Ct α} {va vb : K} {ea eb : ℝ}
    (ha : ‖decode σ s Δ a - va‖ ≤ ea) (hb : ‖decode σ s Δ b - vb‖ ≤ eb) :
    ‖decode σ s Δ (Ct.lin 1 (-1) a b) - (va - vb)‖ ≤ ea + eb := by
  rw [decode_sub, sub_sub_sub_comm]
  exact (norm_sub_le _ _).trans (add_le_add ha hb)
/-- unequal scales: `κ = k·Δa/Δb`; the last term is the alignment error, zero iff `k·Δa = Δb`. -/
theorem error_bound_AddAligned {s k : α} {Δa Δb : K} {a b : Ct α} {va vb : K} {ea eb : ℝ} (hΔa : Δa ≠ 0) (hΔb : Δb ≠ 0)
    (ha : ‖decode σ s Δa a - va‖ ≤ ea) (hb : ‖decode σ s Δb b - vb‖ ≤ eb) :
    ‖decode σ s Δb (Ct.lin k 1 a b) - (va + vb)‖
      ≤ ‖σ k * Δa / Δb‖ * ea + eb + ‖va‖ * ‖σ k * Δa / Δb - 1‖ := by
  rw [decode_lin σ s k 1 Δa Δb Δb a b hΔa hΔb, map_one, one_mul, div_self hΔb, one_mul]
  exact (error_sum (error_scaled ha) hb).trans_eq (add_right_comm _ _ _)
/-- Mul (tensor product, recorded at `Δa·Δb`). -/
theorem error_bound_Mul {s : α} {Δa Δb : K} {a b : Ct α} {va vb : K} {ea eb : ℝ} (h2a : a.c2 = 0) (h2b : b.c2 = 0)
    (ha : ‖decode σ s Δa a - va‖ ≤ ea) (hb : ‖decode σ s Δb b - vb‖ ≤ eb) :
    ‖decode σ s (Δa * Δb) (Ct.tensor a b) - va * vb‖ ≤ ‖va‖ * eb + ‖vb‖ * ea + ea * eb := by
  rw [decode_mul σ s Δa Δb a b h2a h2b]; exact error_prod ha hb
/-- MulRelin: the key-switch error `eks = k0 + k1·s − a1·b1·s²` adds `‖σ eks‖ / ‖Δa·Δb‖`. -/
theorem error_bound_MulRelin {s k0 k1 : α} {Δa Δb : K} {a b : Ct α} {va vb : K} {ea eb : ℝ}
    (h2a : a.c2 = 0) (h2b : b.c2 = 0) (ha : ‖decode σ s Δa a - va‖ ≤ ea) (hb : ‖decode σ s Δb b - vb‖ ≤ eb) :
    ‖decode σ s (Δa * Δb) (Ct.relin k0 k1 (Ct.tensor a b)) - va * vb‖
      ≤ ‖va‖ * eb + ‖vb‖ * ea + ea * eb + ‖σ (k0 + k1 * s - a.c1 * b.c1 * s ^ 2)‖ / ‖Δa * Δb‖ := by
  rw [decode_mulRelin σ s k0 k1 Δa Δb a b h2a h2b, add_sub_right_comm, ← norm_div]
  exact (norm_add_le _ _).trans (add_le_add (error_prod ha hb) le_rfl)
/-- Mul by a constant `cv`, encoded as the ring element `c` at the factor `S` (`‖σ c / S − cv‖ ≤ η`:
    `rnsConst_error` gives `η ≤ (1/2 + 3·2^-P(|cv|S+1))/S` per component). -/
theorem error_bound_MulScalar {s c : α} {Δ S : K} {a : Ct α} {va cv : K} {ea η : ℝ}
    (ha : ‖decode σ s Δ a - va‖ ≤ ea) (hc : ‖σ c / S - cv‖ ≤ η) :
    ‖decode σ s (Δ * S) (Ct.smul c a) - cv * va‖ ≤ ‖cv‖ * ea + ‖va‖ * η + η * ea := by
  rw [decode_smul]; exact error_prod hc ha
/-- Add of a constant `cv` encoded as `c` at the ciphertext's scale. -/
theorem error_bound_AddScalar {s c : α} {Δ : K} {a : Ct α} {va cv : K} {ea η : ℝ}
    (ha : ‖decode σ s Δ a - va‖ ≤ ea) (hc : ‖σ c / Δ - cv‖ ≤ η) :
    ‖decode σ s Δ (Ct.addConst c a) - (va + cv)‖ ≤ ea + η := by
  rw [decode_addConst]; exact error_sum ha hc
/-- Rescale with the scale divided by `q` exactly; `‖σ(r0 + r1·s)‖ ≤ N·(q/2)·(1 + ‖σ s‖)` by `rescale_remainder`,
    `embedding_bound` and `rescale_remainder_bound`, i.e. at most `N(1+‖σ s‖)/2` units of the new phase. -/
theorem error_bound_Rescale {s q c0 c1 c0' c1' r0 r1 : α} {Δ : K} {v : K} {e : ℝ}
    (h0 : q * c0' = c0 - r0) (h1 : q * c1' = c1 - r1) (h : ‖decode σ s Δ ⟨c0, c1, 0⟩ - v‖ ≤ e) :
    ‖decode σ s (Δ / σ q) ⟨c0', c1', 0⟩ - v‖ ≤ e + ‖σ (r0 + r1 * s)‖ / ‖Δ‖ := by
  rw [decode_rescale σ s q c0 c1 c0' c1' r0 r1 Δ h0 h1, sub_right_comm, ← norm_div]
  exact (norm_sub_le _ _).trans (add_le_add h le_rfl)
/-- the remainder term of `error_bound_Rescale` from bounds on the two embedded remainder polynomials. -/
theorem rescale_remainder_bound {s r0 r1 : α} {R : ℝ} (h0 : ‖σ r0‖ ≤ R) (h1 : ‖σ r1‖ ≤ R) :
    ‖σ (r0 + r1 * s)‖ ≤ R * (1 + ‖σ s‖) := by
  rw [map_add, map_mul, mul_one_add]
  exact (norm_add_le _ _).trans
    (add_le_add h0 ((norm_mul_le _ _).trans (mul_le_mul_of_nonneg_right h1 (norm_nonneg _))))
theorem embedding_bound (N : ℕ) (r : ℕ → K) (ζ : K) (B : ℝ) (hζ : ‖ζ‖ = 1) (hr : ∀ i < N, ‖r i‖ ≤ B) :
    ‖∑ i ∈ Finset.range N, r i * ζ ^ i‖ ≤ N * B := Lattigo.CKKS.embedding_bound N r ζ B hζ hr
/-- decoding with the recorded (128-bit rounded) scale `Δ'` instead of the exact one. -/
theorem error_bound_RecordedScale {s : α} {Δ Δ' : K} {c : Ct α} {v : K} {e : ℝ} (hΔ : Δ ≠ 0)
    (h : ‖decode σ s Δ c - v‖ ≤ e) :
    ‖decode σ s Δ' c - v‖ ≤ ‖Δ / Δ'‖ * e + ‖v‖ * ‖Δ / Δ' - 1‖ := by
  rw [decode_scale σ s Δ Δ' c hΔ]; exact error_scaled h
/-- MulThenAdd (element operands): `λ = kOut·Δo/(Δa·Δb)` is `1` when the scales match (`mtaEltScale`: integer
    ratio) — otherwise the receiver's old value is off by the factor `λ`. -/
theorem error_bound_MulThenAdd {s kOut : α} {Δo Δa Δb : K} {o a b : Ct α} {vo va vb : K} {eo ea eb : ℝ}
    (h2a : a.c2 = 0) (h2b : b.c2 = 0) (hΔo : Δo ≠ 0)
    (ho : ‖decode σ s Δo o - vo‖ ≤ eo) (ha : ‖decode σ s Δa a - va‖ ≤ ea) (hb : ‖decode σ s Δb b - vb‖ ≤ eb) :
    ‖decode σ s (Δa * Δb) (Ct.lin kOut 1 o (Ct.tensor a b)) - (vo + va * vb)‖
      ≤ ‖σ kOut * Δo / (Δa * Δb)‖ * eo + ‖vo‖ * ‖σ kOut * Δo / (Δa * Δb) - 1‖
        + (‖va‖ * eb + ‖vb‖ * ea + ea * eb) := by
  rw [decode_mulThenAdd σ s kOut Δo Δa Δb o a b h2a h2b hΔo]
  exact error_sum (error_scaled ho) (error_prod ha hb)
/-- MulThenAdd (scalar operand `cv` encoded as `c` at the factor `S`, receiver multiplied by `kOut`). -/
theorem error_bound_MulThenAddScalar {s kOut c : α} {Δo Δ S : K} {o a : Ct α} {vo va cv : K} {eo ea η : ℝ}
    (hΔo : Δo ≠ 0) (hΔ : Δ ≠ 0)
    (ho : ‖decode σ s Δo o - vo‖ ≤ eo) (ha : ‖decode σ s Δ a - va‖ ≤ ea) (hc : ‖σ c / S - cv‖ ≤ η) :
    ‖decode σ s (Δ * S) (Ct.lin kOut c o a) - (vo + cv * va)‖
      ≤ ‖σ kOut * Δo / (Δ * S)‖ * eo + ‖vo‖ * ‖σ kOut * Δo / (Δ * S) - 1‖
        + (‖cv‖ * ea + ‖va‖ * η + η * ea) := by
  rw [decode_lin σ s kOut c Δo Δ (Δ * S) o a hΔo hΔ, mul_comm Δ S, mul_div_mul_right _ _ hΔ]
  exact error_sum (error_scaled ho) (error_prod hc ha)
end
/-- the hypotheses are satisfiable (`α = ℤ`, `K = ℝ`, `σ` the cast, secret `s = 1`): `(3,5)` decodes to `2` at
    scale 4 exactly, `(7,-1)` to `3` at scale 2 within `0`; the product bound then gives `6` within `0`. -/
example : ‖decode (Int.castRingHom ℝ) (1 : ℤ) ((4 : ℝ) * 2) (Ct.tensor ⟨3, 5, 0⟩ ⟨7, -1, 0⟩) - 2 * 3‖
    ≤ ‖(2 : ℝ)‖ * 0 + ‖(3 : ℝ)‖ * 0 + 0 * 0 :=
  error_bound_Mul rfl rfl (by simp [decode, phase]; norm_num) (by simp [decode, phase]; norm_num)

/-! ## phase-level semantics (any commutative ring) -/
section
variable {α : Type*} [CommRing α]

theorem phase_Add (s : α) (a b : Ct α) : phase s (Ct.lin 1 1 a b) = phase s a + phase s b := phase_add s a b
theorem phase_Sub (s : α) (a b : Ct α) : phase s (Ct.lin 1 (-1) a b) = phase s a - phase s b := phase_sub s a b
theorem phase_AddAligned (s k0 k1 : α) (a b : Ct α) :
    phase s (Ct.lin k0 k1 a b) = k0 * phase s a + k1 * phase s b := phase_lin s k0 k1 a b
theorem phase_Mul (s : α) (a b : Ct α) (ha : a.c2 = 0) (hb : b.c2 = 0) :
    phase s (Ct.tensor a b) = phase s a * phase s b := phase_tensor s a b ha hb
theorem phase_MulRelin (s k0 k1 : α) (a b : Ct α) (ha : a.c2 = 0) (hb : b.c2 = 0) :
    phase s (Ct.relin k0 k1 (Ct.tensor a b)) = phase s a * phase s b + (k0 + k1 * s - a.c1 * b.c1 * s ^ 2) :=
  phase_mulRelin s k0 k1 a b ha hb
theorem phase_MulScalar (s c : α) (a : Ct α) : phase s (Ct.smul c a) = c * phase s a := phase_smul s c a
theorem phase_AddScalar (s c : α) (a : Ct α) : phase s (Ct.addConst c a) = phase s a + c := phase_addConst s c a
theorem phase_MulThenAdd (s kOut : α) (o a b : Ct α) (ha : a.c2 = 0) (hb : b.c2 = 0) :
    phase s (Ct.lin kOut 1 o (Ct.tensor a b)) = kOut * phase s o + phase s a * phase s b :=
  phase_mulThenAdd s kOut o a b ha hb
theorem phase_Rescale (s q c0 c1 c0' c1' r0 r1 : α) (h0 : q * c0' = c0 - r0) (h1 : q * c1' = c1 - r1) :
    q * phase s ⟨c0', c1', 0⟩ = phase s ⟨c0, c1, 0⟩ - (r0 + r1 * s) := phase_rescale s q c0 c1 c0' c1' r0 r1 h0 h1
end
example : phase (2 : ℤ) (Ct.tensor ⟨3, 5, 0⟩ ⟨7, 11, 0⟩) = (3 + 5 * 2) * (7 + 11 * 2) := by
  rw [phase_Mul _ _ _ rfl rfl]; simp [phase]

/-- `Rescale` on one integer coefficient: `x = q·round(x/q) + r`, `−⌊q/2⌋ ≤ r < q − ⌊q/2⌋`, `|2r| ≤ q`. -/
theorem rescale_remainder (x : Int) (q : Nat) (hq : 0 < q) :
    (∃ r : Int, x = (q : Int) * divRound x q + r ∧ -((q / 2 : Nat) : Int) ≤ r ∧ r < (q : Int) - ((q / 2 : Nat) : Int)) ∧
    |2 * (x - (q : Int) * divRound x q)| ≤ (q : Int) := by
  refine ⟨divRound_spec x q hq, ?_⟩
  obtain ⟨r, hx, hlo, hhi⟩ := divRound_spec x q hq
  rw [abs_le]
  omega
example : divRound 2548 1019 = 3 ∧ divRound (-509) 1019 = 0 ∧ divRound (-510) 1019 = -1 := by decide

end Lattigo.Props.C06

#print axioms Lattigo.Props.C06.meta_spec_add
#print axioms Lattigo.Props.C06.meta_spec_addVec
#print axioms Lattigo.Props.C06.meta_spec_addScalar_inplace
#print axioms Lattigo.Props.C06.meta_spec_mul
#print axioms Lattigo.Props.C06.meta_spec_mulScalar
#print axioms Lattigo.Props.C06.rnsConst_error
#print axioms Lattigo.Props.C06.const_scale_one
#print axioms Lattigo.Props.C06.const_scale_two
#print axioms Lattigo.Props.C06.lcpr_one_or_two
#print axioms Lattigo.Props.C06.meta_spec_rescale
#print axioms Lattigo.Props.C06.rescale_err_iff
#print axioms Lattigo.Props.C06.rescale_scale_exact
#print axioms Lattigo.Props.C06.rescale_scale_exact_two
#print axioms Lattigo.Props.C06.scale_mul_correctly_rounded
#print axioms Lattigo.Props.C06.scale_div_correctly_rounded
#print axioms Lattigo.Props.C06.meta_spec_rescaleTo
#print axioms Lattigo.Props.C06.meta_spec_setScale
#print axioms Lattigo.Props.C06.meta_spec_dropLevel
#print axioms Lattigo.Props.C06.meta_spec_rotate
#print axioms Lattigo.Props.C06.conjugate_conjInv_err
#print axioms Lattigo.Props.C06.meta_spec_relinearize
#print axioms Lattigo.Props.C06.meta_spec_mulThenAdd
#print axioms Lattigo.Props.C06.meta_spec_mulThenAddScalar
#print axioms Lattigo.Props.C06.add_alignment
#print axioms Lattigo.Props.C06.add_alignment_higher_degree
#print axioms Lattigo.Props.C06.add_alignment_error
#print axioms Lattigo.Props.C06.add_alignment_counterexample
#print axioms Lattigo.Props.C06.meta_spec_addScalar
#print axioms Lattigo.Props.C06.addScalar_scale_fixed
#print axioms Lattigo.Props.C06.setScale_counterexample
#print axioms Lattigo.Props.C06.mulThenAdd_counterexample
#print axioms Lattigo.Props.C06.mulThenAddScalar_fixed
#print axioms Lattigo.Props.C06.scaleUp_counterexample
#print axioms Lattigo.Props.C06.no_panics_fixed
#print axioms Lattigo.Props.C06.rescaleTo_total
#print axioms Lattigo.Props.C06.const_scale_low_level_is_error
#print axioms Lattigo.Props.C06.phase_Add
#print axioms Lattigo.Props.C06.phase_Sub
#print axioms Lattigo.Props.C06.phase_AddAligned
#print axioms Lattigo.Props.C06.phase_Mul
#print axioms Lattigo.Props.C06.phase_MulRelin
#print axioms Lattigo.Props.C06.phase_MulScalar
#print axioms Lattigo.Props.C06.phase_AddScalar
#print axioms Lattigo.Props.C06.phase_MulThenAdd
#print axioms Lattigo.Props.C06.phase_Rescale
#print axioms Lattigo.Props.C06.rescale_remainder
#print axioms Lattigo.Props.C06.meta_spec_mulVec
#print axioms Lattigo.Props.C06.meta_spec_scaleUp
#print axioms Lattigo.Props.C06.meta_New_add
#print axioms Lattigo.Props.C06.meta_New_addScalar
#print axioms Lattigo.Props.C06.meta_New_addVec
#print axioms Lattigo.Props.C06.meta_New_mul
#print axioms Lattigo.Props.C06.meta_New_mulScalar
#print axioms Lattigo.Props.C06.meta_New_mulVec
#print axioms Lattigo.Props.C06.meta_New_scaleUp
#print axioms Lattigo.Props.C06.meta_New_rotate
#print axioms Lattigo.Props.C06.meta_New_relinearize
#print axioms Lattigo.Props.C06.meta_New_levels
#print axioms Lattigo.Props.C06.mulThenAdd_scale_ge
#print axioms Lattigo.Props.C06.mulThenAdd_scale_lt2
#print axioms Lattigo.Props.C06.mulThenAdd_scale_up
#print axioms Lattigo.Props.C06.mulThenAdd_scalar_scale
#print axioms Lattigo.Props.C06.mulThenAdd_scalar_scale_match
#print axioms Lattigo.Props.C06.error_bound_Add
#print axioms Lattigo.Props.C06.error_bound_Sub
#print axioms Lattigo.Props.C06.error_bound_AddAligned
#print axioms Lattigo.Props.C06.error_bound_Mul
#print axioms Lattigo.Props.C06.error_bound_MulRelin
#print axioms Lattigo.Props.C06.error_bound_MulScalar
#print axioms Lattigo.Props.C06.error_bound_AddScalar
#print axioms Lattigo.Props.C06.error_bound_Rescale
#print axioms Lattigo.Props.C06.rescale_remainder_bound
#print axioms Lattigo.Props.C06.embedding_bound
#print axioms Lattigo.Props.C06.error_bound_RecordedScale
#print axioms Lattigo.Props.C06.error_bound_MulThenAdd
#print axioms Lattigo.Props.C06.error_bound_MulThenAddScalar
#print axioms Lattigo.Props.C06.meta_spec_mulThenAddVec
#print axioms Lattigo.Props.C06.meta_spec_conjugate
