/-
  C06 on the ring the ciphertexts live in.

  `Props/C06.lean` (§ phase-level semantics) / `Proofs/CKKSPhase.lean` prove `phase_Add`, `phase_Sub`,
  `phase_AddAligned`, `phase_Mul`, `phase_MulRelin`, `phase_MulScalar`, `phase_AddScalar`, `phase_MulThenAdd`,
  `phase_Rescale` (and `CKKS.phase_mulThenAddScalar`) for degree-≤2 ciphertexts `Ct α` over EVERY commutative ring `α`
  (`phase`, `Ct.lin`, `Ct.tensor`, … are defined with the ring operations of `α`).  Here they are instantiated
  at `α := WFPoly qs n` (`Proofs/RPolyRing.lean`) and transported to triples of plain `RPoly` values:

    `phaseR s c = c0 + c1·s + c2·(s·s)`, `linR`, `tensorR`, `smulR`, `addConstR`, `relinR` : the SAME component
    formulas written with the model's `+ *` on `RPoly` (`1` is `rpOne qs n`, `0` is `RPoly.zero qs n`);
    hypotheses = well-formedness of the inputs (`WFq qs n s`, `WFct qs n a` : the three components) + the
                 hypotheses of the generic theorems stated on the `RPoly` values;
    conclusion = the same identity between `RPoly` values.

  Vacuity check: no generic theorem quantifies over abstract maps.  The hypotheses (`c2 = 0` for the operands
  of a product; `q·c0' = c0 − r0`, `q·c1' = c1 − r1` for `Rescale`) are met by the concrete instance at the end of the file.

  NOT applicable: there is no `…_calls` theorem — `Driver/C06.lean` runs `CKKS.step` on metadata and integer
  effects (`Meta`, `Dy`, `Int`), never on `RPoly`.  `meta_spec_*`, `add_alignment*`, `rescale_*`,
  `rnsConst_error`, `*_counterexample`, `rescale_remainder` are statements about that data: nothing to transport.
  (`phase_Rescale` is the ring-level shape of `Rescale`; that `DivRoundByLastModulus` produces `c'`, `r` of this
  form is C02's arithmetic, as in the generic statement.)
-/
import Lattigo.Proofs.RPolyTransport
import Lattigo.Proofs.CKKSPhase

namespace Lattigo.Props.C06Ring
open Lattigo Lattigo.CKKS Lattigo.RPolyRing Lattigo.Transport

/-! ## The component formulas on a carrier that only has `+ *` -/

section defs
variable {α : Type} [Add α] [Mul α]

/-- `⟨ct, (1, s, s²)⟩ = c0 + c1·s + c2·(s·s)` -/
def phaseR (s : α) (c : Ct α) : α := c.c0 + c.c1 * s + c.c2 * (s * s)
/-- `evaluateInPlace`: `k0·a + k1·b` component-wise -/
def linR (k0 k1 : α) (a b : Ct α) : Ct α := ⟨k0 * a.c0 + k1 * b.c0, k0 * a.c1 + k1 * b.c1, k0 * a.c2 + k1 * b.c2⟩
/-- the tensor product of two degree-1 ciphertexts -/
def tensorR (a b : Ct α) : Ct α := ⟨a.c0 * b.c0, a.c0 * b.c1 + a.c1 * b.c0, a.c1 * b.c1⟩
def smulR (c : α) (a : Ct α) : Ct α := ⟨c * a.c0, c * a.c1, c * a.c2⟩
def addConstR (c : α) (a : Ct α) : Ct α := ⟨a.c0 + c, a.c1, a.c2⟩
/-- relinearisation: `(k0, k1)` the output of the gadget product of `c2`; `z` the zero polynomial -/
def relinR (z k0 k1 : α) (a : Ct α) : Ct α := ⟨a.c0 + k0, a.c1 + k1, z⟩

def ctMap {β : Type} (φ : α → β) (c : Ct α) : Ct β := ⟨φ c.c0, φ c.c1, φ c.c2⟩

end defs

/-- the three components of a ciphertext are well formed -/
def WFct (qs : List ℕ) (n : ℕ) (c : Ct RPoly) : Prop := WFq qs n c.c0 ∧ WFq qs n c.c1 ∧ WFq qs n c.c2

instance (qs : List ℕ) (n : ℕ) (c : Ct RPoly) : Decidable (WFct qs n c) := by unfold WFct; infer_instance

section rpoly
variable {qs : List ℕ} {n : ℕ} [Good qs n]

omit [Good qs n] in
theorem exists_lift_ct (c : Ct RPoly) (h : WFct qs n c) : ∃ c' : Ct (WFPoly qs n), ctMap val c' = c :=
  ⟨⟨lift c.c0 h.1, lift c.c1 h.2.1, lift c.c2 h.2.2⟩, rfl⟩

/-- the generic definitions on `WFPoly qs n` are the component formulas on the underlying values -/
theorem val_phase (s : WFPoly qs n) (c : Ct (WFPoly qs n)) : val (phase s c) = phaseR (val s) (ctMap val c) := by
  simp only [phase, pow_two]; rfl
theorem ctMap_lin (k0 k1 : WFPoly qs n) (a b : Ct (WFPoly qs n)) :
    ctMap val (Ct.lin k0 k1 a b) = linR (val k0) (val k1) (ctMap val a) (ctMap val b) := rfl
theorem ctMap_tensor (a b : Ct (WFPoly qs n)) :
    ctMap val (Ct.tensor a b) = tensorR (ctMap val a) (ctMap val b) := rfl
theorem ctMap_smul (c : WFPoly qs n) (a : Ct (WFPoly qs n)) :
    ctMap val (Ct.smul c a) = smulR (val c) (ctMap val a) := rfl
theorem ctMap_addConst (c : WFPoly qs n) (a : Ct (WFPoly qs n)) :
    ctMap val (Ct.addConst c a) = addConstR (val c) (ctMap val a) := rfl
theorem ctMap_relin (k0 k1 : WFPoly qs n) (a : Ct (WFPoly qs n)) :
    ctMap val (Ct.relin k0 k1 a) = relinR (RPoly.zero qs n) (val k0) (val k1) (ctMap val a) := rfl

theorem c2_zero_lift (a : Ct (WFPoly qs n)) (h : (ctMap val a).c2 = RPoly.zero qs n) : a.c2 = 0 :=
  val_injective h

/-- closure of well-formedness under the evaluator's component formulas -/
theorem WFct.lin {k0 k1 : RPoly} {a b : Ct RPoly} (hk0 : WFq qs n k0) (hk1 : WFq qs n k1)
    (ha : WFct qs n a) (hb : WFct qs n b) : WFct qs n (linR k0 k1 a b) :=
  ⟨(hk0.mul ha.1).add (hk1.mul hb.1), (hk0.mul ha.2.1).add (hk1.mul hb.2.1), (hk0.mul ha.2.2).add (hk1.mul hb.2.2)⟩
theorem WFct.tensor {a b : Ct RPoly} (ha : WFct qs n a) (hb : WFct qs n b) : WFct qs n (tensorR a b) :=
  ⟨ha.1.mul hb.1, (ha.1.mul hb.2.1).add (ha.2.1.mul hb.1), ha.2.1.mul hb.2.1⟩
theorem WFq.phase {s : RPoly} {c : Ct RPoly} (hs : WFq qs n s) (hc : WFct qs n c) : WFq qs n (phaseR s c) :=
  (hc.1.add (hc.2.1.mul hs)).add (hc.2.2.mul (hs.mul hs))

/-- `evaluateInPlace` with the alignment multipliers `k0`, `k1` -/
theorem phase_AddAligned_rpoly (s k0 k1 : RPoly) (a b : Ct RPoly) (hs : WFq qs n s) (hk0 : WFq qs n k0)
    (hk1 : WFq qs n k1) (ha : WFct qs n a) (hb : WFct qs n b) :
    phaseR s (linR k0 k1 a b) = k0 * phaseR s a + k1 * phaseR s b := by
  obtain ⟨a, rfl⟩ := exists_lift_ct a ha
  obtain ⟨b, rfl⟩ := exists_lift_ct b hb
  simpa only [val_phase, ctMap_lin, val_add, val_mul, val_lift] using
    congrArg val (phase_lin (lift s hs) (lift k0 hk0) (lift k1 hk1) a b)

theorem phase_Add_rpoly (s : RPoly) (a b : Ct RPoly) (hs : WFq qs n s) (ha : WFct qs n a) (hb : WFct qs n b) :
    phaseR s (linR (rpOne qs n) (rpOne qs n) a b) = phaseR s a + phaseR s b := by
  obtain ⟨a, rfl⟩ := exists_lift_ct a ha
  obtain ⟨b, rfl⟩ := exists_lift_ct b hb
  simpa only [val_phase, ctMap_lin, val_add, val_one, val_lift] using congrArg val (phase_add (lift s hs) a b)

theorem phase_Sub_rpoly (s : RPoly) (a b : Ct RPoly) (hs : WFq qs n s) (ha : WFct qs n a) (hb : WFct qs n b) :
    phaseR s (linR (rpOne qs n) (-rpOne qs n) a b) = phaseR s a - phaseR s b := by
  obtain ⟨a, rfl⟩ := exists_lift_ct a ha
  obtain ⟨b, rfl⟩ := exists_lift_ct b hb
  simpa only [val_phase, ctMap_lin, val_sub, val_one, val_neg, val_lift] using
    congrArg val (phase_sub (lift s hs) a b)

theorem phase_Mul_rpoly (s : RPoly) (a b : Ct RPoly) (hs : WFq qs n s) (ha : WFct qs n a) (hb : WFct qs n b)
    (ha2 : a.c2 = RPoly.zero qs n) (hb2 : b.c2 = RPoly.zero qs n) :
    phaseR s (tensorR a b) = phaseR s a * phaseR s b := by
  obtain ⟨a, rfl⟩ := exists_lift_ct a ha
  obtain ⟨b, rfl⟩ := exists_lift_ct b hb
  simpa only [val_phase, ctMap_tensor, val_mul, val_lift] using
    congrArg val (phase_tensor (lift s hs) a b (c2_zero_lift a ha2) (c2_zero_lift b hb2))

/-- product of the phases plus the key-switch error term `k0 + k1·s − a1·b1·s²` -/
theorem phase_MulRelin_rpoly (s k0 k1 : RPoly) (a b : Ct RPoly) (hs : WFq qs n s) (hk0 : WFq qs n k0)
    (hk1 : WFq qs n k1) (ha : WFct qs n a) (hb : WFct qs n b)
    (ha2 : a.c2 = RPoly.zero qs n) (hb2 : b.c2 = RPoly.zero qs n) :
    phaseR s (relinR (RPoly.zero qs n) k0 k1 (tensorR a b))
      = phaseR s a * phaseR s b + (k0 + k1 * s - a.c1 * b.c1 * (s * s)) := by
  obtain ⟨a, rfl⟩ := exists_lift_ct a ha
  obtain ⟨b, rfl⟩ := exists_lift_ct b hb
  have h := congrArg val (phase_mulRelin (lift s hs) (lift k0 hk0) (lift k1 hk1) a b (c2_zero_lift a ha2)
    (c2_zero_lift b hb2))
  rw [val_phase, ctMap_relin, ctMap_tensor, val_add, val_mul, val_phase, val_phase, pow_two] at h
  exact h

/-- `evaluateWithScalar`; a complex constant is the ring element `re + im·X^{n/2}` -/
theorem phase_MulScalar_rpoly (s c : RPoly) (a : Ct RPoly) (hs : WFq qs n s) (hc : WFq qs n c)
    (ha : WFct qs n a) : phaseR s (smulR c a) = c * phaseR s a := by
  obtain ⟨a, rfl⟩ := exists_lift_ct a ha
  simpa only [val_phase, ctMap_smul, val_mul, val_lift] using congrArg val (phase_smul (lift s hs) (lift c hc) a)

theorem phase_AddScalar_rpoly (s c : RPoly) (a : Ct RPoly) (hs : WFq qs n s) (hc : WFq qs n c)
    (ha : WFct qs n a) : phaseR s (addConstR c a) = phaseR s a + c := by
  obtain ⟨a, rfl⟩ := exists_lift_ct a ha
  simpa only [val_phase, ctMap_addConst, val_add, val_lift] using
    congrArg val (phase_addConst (lift s hs) (lift c hc) a)

/-- element operand: `opOut ← kOut·opOut + op0 ⊗ op1` -/
theorem phase_MulThenAdd_rpoly (s kOut : RPoly) (o a b : Ct RPoly) (hs : WFq qs n s) (hk : WFq qs n kOut)
    (ho : WFct qs n o) (ha : WFct qs n a) (hb : WFct qs n b)
    (ha2 : a.c2 = RPoly.zero qs n) (hb2 : b.c2 = RPoly.zero qs n) :
    phaseR s (linR kOut (rpOne qs n) o (tensorR a b)) = kOut * phaseR s o + phaseR s a * phaseR s b := by
  obtain ⟨o, rfl⟩ := exists_lift_ct o ho
  obtain ⟨a, rfl⟩ := exists_lift_ct a ha
  obtain ⟨b, rfl⟩ := exists_lift_ct b hb
  simpa only [val_phase, ctMap_lin, ctMap_tensor, val_add, val_mul, val_one, val_lift] using
    congrArg val (phase_mulThenAdd (lift s hs) (lift kOut hk) o a b (c2_zero_lift a ha2) (c2_zero_lift b hb2))

/-- scalar operand: `opOut ← kOut·opOut + c·op0` -/
theorem phase_MulThenAddScalar_rpoly (s kOut c : RPoly) (o a : Ct RPoly) (hs : WFq qs n s) (hk : WFq qs n kOut)
    (hc : WFq qs n c) (ho : WFct qs n o) (ha : WFct qs n a) :
    phaseR s (linR kOut c o a) = kOut * phaseR s o + c * phaseR s a :=
  phase_AddAligned_rpoly s kOut c o a hs hk hc ho ha

/-- `h0`, `h1`: the component-wise rounded division of `Rescale`, `r0`, `r1` the remainder polynomials. -/
theorem phase_Rescale_rpoly (s q c0 c1 c0' c1' r0 r1 : RPoly) (hs : WFq qs n s) (hq : WFq qs n q)
    (hc0 : WFq qs n c0) (hc1 : WFq qs n c1) (hc0' : WFq qs n c0') (hc1' : WFq qs n c1')
    (hr0 : WFq qs n r0) (hr1 : WFq qs n r1)
    (h0 : q * c0' = c0 - r0) (h1 : q * c1' = c1 - r1) :
    q * phaseR s ⟨c0', c1', RPoly.zero qs n⟩ = phaseR s ⟨c0, c1, RPoly.zero qs n⟩ - (r0 + r1 * s) := by
  have h := congrArg val (phase_rescale (lift s hs) (lift q hq) (lift c0 hc0) (lift c1 hc1) (lift c0' hc0')
    (lift c1' hc1') (lift r0 hr0) (lift r1 hr1) (val_injective h0) (val_injective h1))
  rw [val_mul, val_phase, val_sub, val_phase, val_add, val_mul] at h
  exact h

end rpoly

section concrete

instance good8 : Good [97, 193] 8 := ⟨by decide, by decide⟩

def z8 : RPoly := RPoly.zero [97, 193] 8
def s8 : RPoly := RPoly.ofInts [97, 193] [1, -1, 0, 1, 0, 0, -1, 1]
def a8 : Ct RPoly :=
  ⟨⟨[97, 193], [[1, 2, 3, 4, 5, 6, 7, 8], [10, 20, 30, 40, 50, 60, 70, 80]]⟩,
   ⟨[97, 193], [[8, 7, 6, 5, 4, 3, 2, 1], [80, 70, 60, 50, 40, 30, 20, 10]]⟩, z8⟩
def b8 : Ct RPoly :=
  ⟨⟨[97, 193], [[90, 3, 50, 7, 0, 96, 48, 49], [5, 6, 7, 8, 9, 10, 11, 12]]⟩,
   RPoly.ofInts [97, 193] [0, 1, 0, -1, 0, 1, 0, -1], z8⟩
/-- "gadget product" outputs of the relinearisation (any well-formed pair) -/
def k08 : RPoly := RPoly.ofInts [97, 193] [3, 0, -2, 0, 0, 7, 0, 0]
def k18 : RPoly := RPoly.ofInts [97, 193] [0, 0, 5, 0, -1, 0, 0, 2]
/-- `Rescale`: divisor `q = 5` (a constant), quotients `c'`, remainders `r`, `c = q·c' + r` -/
def q8 : RPoly := (rpOne [97, 193] 8).scale 5
def c0p8 : RPoly := RPoly.ofInts [97, 193] [3, -4, 0, 1, 9, 0, 0, -2]
def c1p8 : RPoly := RPoly.ofInts [97, 193] [1, 1, -6, 0, 0, 2, 0, 0]
def r08 : RPoly := RPoly.ofInts [97, 193] [2, -2, 1, 0, -1, 0, 2, 1]
def r18 : RPoly := RPoly.ofInts [97, 193] [0, 1, -1, 2, -2, 0, 0, 1]

theorem hyps8 : WFq [97, 193] 8 s8 ∧ WFct [97, 193] 8 a8 ∧ WFct [97, 193] 8 b8 ∧ WFq [97, 193] 8 k08
    ∧ WFq [97, 193] 8 k18 ∧ a8.c2 = RPoly.zero [97, 193] 8 ∧ b8.c2 = RPoly.zero [97, 193] 8 := by
  decide +kernel

theorem hypsR8 : WFq [97, 193] 8 q8 ∧ WFq [97, 193] 8 c0p8 ∧ WFq [97, 193] 8 c1p8 ∧ WFq [97, 193] 8 r08
    ∧ WFq [97, 193] 8 r18 ∧ WFq [97, 193] 8 (q8 * c0p8 + r08) ∧ WFq [97, 193] 8 (q8 * c1p8 + r18)
    ∧ q8 * c0p8 = (q8 * c0p8 + r08) - r08 ∧ q8 * c1p8 = (q8 * c1p8 + r18) - r18 := by
  decide +kernel

/-- instances obtained FROM THE THEOREMS, all hypotheses discharged: `MulRelin` and `Rescale` -/
example : phaseR s8 (relinR (RPoly.zero [97, 193] 8) k08 k18 (tensorR a8 b8))
    = phaseR s8 a8 * phaseR s8 b8 + (k08 + k18 * s8 - a8.c1 * b8.c1 * (s8 * s8)) :=
  phase_MulRelin_rpoly s8 k08 k18 a8 b8 hyps8.1 hyps8.2.2.2.1 hyps8.2.2.2.2.1 hyps8.2.1 hyps8.2.2.1
    hyps8.2.2.2.2.2.1 hyps8.2.2.2.2.2.2

example : q8 * phaseR s8 ⟨c0p8, c1p8, RPoly.zero [97, 193] 8⟩
    = phaseR s8 ⟨q8 * c0p8 + r08, q8 * c1p8 + r18, RPoly.zero [97, 193] 8⟩ - (r08 + r18 * s8) :=
  phase_Rescale_rpoly s8 q8 _ _ c0p8 c1p8 r08 r18 hyps8.1 hypsR8.1 hypsR8.2.2.2.2.2.1 hypsR8.2.2.2.2.2.2.1
    hypsR8.2.1 hypsR8.2.2.1 hypsR8.2.2.2.1 hypsR8.2.2.2.2.1 hypsR8.2.2.2.2.2.2.2.1 hypsR8.2.2.2.2.2.2.2.2

/-- TEST (evaluation of the model on these values): `Mul`, `MulRelin`, `Add` with multipliers, and the
value is not trivial -/
example : phaseR s8 (tensorR a8 b8) = phaseR s8 a8 * phaseR s8 b8
    ∧ phaseR s8 (relinR (RPoly.zero [97, 193] 8) k08 k18 (tensorR a8 b8))
        = phaseR s8 a8 * phaseR s8 b8 + (k08 + k18 * s8 - a8.c1 * b8.c1 * (s8 * s8))
    ∧ phaseR s8 (linR k08 k18 a8 b8) = k08 * phaseR s8 a8 + k18 * phaseR s8 b8
    ∧ phaseR s8 (tensorR a8 b8) ≠ RPoly.zero [97, 193] 8 := by decide +kernel

end concrete

end Lattigo.Props.C06Ring

#print axioms Lattigo.Props.C06Ring.val_phase
#print axioms Lattigo.Props.C06Ring.phase_AddAligned_rpoly
#print axioms Lattigo.Props.C06Ring.phase_Add_rpoly
#print axioms Lattigo.Props.C06Ring.phase_Sub_rpoly
#print axioms Lattigo.Props.C06Ring.phase_Mul_rpoly
#print axioms Lattigo.Props.C06Ring.phase_MulRelin_rpoly
#print axioms Lattigo.Props.C06Ring.phase_MulScalar_rpoly
#print axioms Lattigo.Props.C06Ring.phase_AddScalar_rpoly
#print axioms Lattigo.Props.C06Ring.phase_MulThenAdd_rpoly
#print axioms Lattigo.Props.C06Ring.phase_MulThenAddScalar_rpoly
#print axioms Lattigo.Props.C06Ring.phase_Rescale_rpoly
