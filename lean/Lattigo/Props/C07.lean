/-
  C07 (integer half) — the BGV/BFV encoder is inverse to the decoder on the whole message space.

  Model: `Lattigo.EncoderT` (lean/Lattigo/Model/EncoderT.lean), executed by the driver on every `C07 bgv …`
  tie line of harness/c07_bgv.go (EncodeRingT, DecodeRingT, Encode, Decode; all levels, gap ≥ 1, batched and
  coefficient domain).  The CKKS half of C07 is in Props/C07CKKS.lean.

  Hypotheses that remain, stated once: `NTT.Valid T K` (C01: the plaintext modulus `t = T.q` is prime,
  `8t ≤ 2^64`, Montgomery/Barrett constants and mutually inverse root tables of the ring of degree
  `n = 2^K`; `tables_invariant` shows that the tables the code generates for a prime `t ≡ 1 (mod 2n)`
  satisfy it), `K ≥ 1`, and a scale not divisible by `t`.  Everything else (the index table is a
  permutation, NTT ∘ INTT = id, INTT returns reduced values, `scale · ModExp(scale, t−2, t) ≡ 1`) is proved.

  `RingQ2T ∘ RingT2Q = id` is proved for every level and gap (`ringQ2T_ringT2Q`; `RPoly.modInv`, `RPoly.crt` are proved
  correct), and `Decoder.Decode ∘ Encoder.Encode` through `R_Q` for batched / coefficient-domain, `[]uint64` / `[]int64`
  (`decode_encode_*`), under `ParamsOK` (pairwise coprime moduli `> 1` coprime to `t`, `N = n·g`, `2(t−1) < Q`; at
  level > 0 the size conditions follow from the `t ≤ Q[0]` check of `bgv.NewParameters`, `size_of_level_pos`).

  "Encoded plaintexts multiply slot-wise" is proved in the plaintext ring `Z_t[Y]/(Y^n+1)` (`encode_mul`, `⊛ = RPoly.rowMul t`)
  AND for the plaintexts `Encode` produces in `R_Q` (`encode_mul_RQ`: product of `R_Q`, times `T`, `Decode`; every level and gap)
  under the no-wrap bound `2·n·(t−1)² + 1 < Q` (`ringQ2T_mul`); without that bound the integer product wraps modulo `Q` and the
  statement is false (the harness probe `encode_mul` only runs levels where it holds).

  `Embed` / `EmbedScale` (the representation handed to linear transformations / polynomial evaluation): canonical rows are
  `embed` / `embedP` (tied, all four (IsNTT, IsMontgomery) combinations, ring.Poly and ringqp.Poly Q and P parts);
  `embed_scaleUp_eq_encode`, `embedScale_qp_same_integer` + `embedScale_qp_lift` (fix C07-5: Q and P parts are residues of ONE
  integer polynomial, a lift of `T⁻¹·m`), `embed_qp_plain`.  That NTT / ·2^64 are applied according to the metadata is the
  probes `embed_metadata`, `embed_mont_mul` and the tie (the harness undoes them per the metadata), not a theorem.

  NOT covered: float-free but size-dependent behaviour of `ring.ModUpExact` near ±Q/2 (modelled exact; probe `modupexact_zone`);
  known finding C07-bgv-level0-t-above-half-q0 (`t ≤ Q[0]` accepted although level-0 decoding needs `2(t−1) < Q[0]`:
  `level0_large_t_counterexample`).
-/
import Lattigo.Proofs.EncoderT
import Lattigo.Proofs.EncoderTPerm
import Lattigo.Proofs.EncoderTRound
import Lattigo.Proofs.EncoderTMul
import Lattigo.Proofs.EncoderTMulQ
import Lattigo.Props.C01NTT
import Lattigo.Props.C07CKKS
import Lattigo.Props.C07Ring

namespace Lattigo.EncoderT.C07
open Lattigo Lattigo.EncoderT

/-- For EVERY plaintext ring degree `n = 2^K`, `K ≥ 1`, the index table built by
    `permuteMatrix` (`perm[i] = brv_K((5^i mod 2n)>>1)`, `perm[i+n/2] = n−1−perm[i]`) is a permutation of
    `[0, n)`: `5` has order `n/2` modulo `2n` and `±5^i` exhausts the odd residues. -/
theorem permuteMatrix_perm (K : ℕ) (hK : 1 ≤ K) : (permuteMatrix K).Perm (List.range (2 ^ K)) :=
  Lattigo.EncoderT.permuteMatrix_perm K hK

/-- the same, unfolded: `n` entries, pairwise distinct, all `< n` -/
theorem permuteMatrix_ok (K : ℕ) (hK : 1 ≤ K) :
    (permuteMatrix K).length = 2 ^ K ∧ (permuteMatrix K).Nodup ∧ ∀ p ∈ permuteMatrix K, p < 2 ^ K :=
  ⟨permuteMatrix_length K hK, permuteMatrix_nodup K hK, permuteMatrix_lt K hK⟩

example : permuteMatrix 4 = [0, 4, 3, 7, 1, 5, 2, 6, 15, 11, 12, 8, 14, 10, 13, 9] := by decide +kernel

/-- The direction the decoder needs (C01's `intt_ntt` is the other one): over the
    plaintext ring, `NTT(INTT(x)) = x` for every reduced `x` of length `n`, and `INTT(x)` is reduced. -/
theorem ntt_intt (T : NTT.Tables) (K : ℕ) (hT : NTT.Valid T K) (x : List ℕ) (hlen : x.length = T.n)
    (hx : ∀ e ∈ x, e < T.q) :
    NTT.nttStd T (NTT.inttStd T x) = x ∧ (NTT.inttStd T x).length = T.n ∧ ∀ e ∈ NTT.inttStd T x, e < T.q :=
  have hr : RPolyRefine.Red T x := ⟨hlen, hx⟩
  ⟨RPolyRefine.nttStd_inttStd hT x hr, (hr.intt hT).len, (hr.intt hT).lt⟩

/-- The inverse `DecodeRingT` computes, `ring.ModExp(scale, t−2, t)`, IS the inverse of
    `scale` modulo a prime `t < 2^64` whenever `t ∤ scale`. -/
theorem modExp_fermat (t s : ℕ) (ht : t.Prime) (h64 : t < 2 ^ 64) (hs : ¬ t ∣ s) :
    s * NTT.modExp s (t - 2) t % t = 1 := NTT.mul_modExp_sub_two s t ht h64 hs

example : 5 * NTT.modExp 5 (257 - 2) 257 % 257 = 1 := by decide +kernel

set_option linter.unusedVariables false in  -- `hlen` is not needed: both sides are cut to `len`
/-- `[]uint64`: `DecodeRingT(EncodeRingT(v, scale), scale) = v mod t`, unspecified
    slots 0, for every ring degree `n = 2^K ≥ 2`, every `len v ≤ n` (longer inputs are rejected: `none`), every
    output length, every scale not divisible by `t`, any stale buffer content.  Only `Valid T K` is assumed. -/
theorem decode_encode_T (T : NTT.Tables) (K : ℕ) (hT : NTT.Valid T K) (hK : 1 ≤ K)
    (vals buf p : List ℕ) (scale len : ℕ) (hbuf : buf.length = T.n) (hs : ¬ T.q ∣ scale) (hlen : len ≤ T.n)
    (henc : encodeRingTU T (permuteMatrix K) vals scale buf = some p) :
    decodeRingTU T (permuteMatrix K) scale p len
      = ((vals.map (· % T.q)) ++ List.replicate (T.n - vals.length) 0).take len := by
  have hl := permuteMatrix_length_n hT hK
  rw [decode_encode_T_valid T K hT (permuteMatrix K) vals buf p scale len (permuteMatrix_nodup K hK)
    (permuteMatrix_lt_n hT hK) hbuf hs henc, hl]

set_option linter.unusedVariables false in  -- `hlen` is not needed: both sides are cut to `len`
/-- the same for any index table without repetition (the form used by `encode_mul`) -/
theorem decode_encode_T_anyperm (T : NTT.Tables) (K : ℕ) (hT : NTT.Valid T K) (perm vals buf p : List ℕ)
    (scale len : ℕ) (hperm : perm.Nodup) (hplt : ∀ q ∈ perm, q < T.n) (hbuf : buf.length = T.n)
    (hs : ¬ T.q ∣ scale) (hlen : len ≤ perm.length)
    (henc : encodeRingTU T perm vals scale buf = some p) :
    decodeRingTU T perm scale p len
      = ((vals.map (· % T.q)) ++ List.replicate (perm.length - vals.length) 0).take len :=
  decode_encode_T_valid T K hT perm vals buf p scale len hperm hplt hbuf hs henc

/-- `decode_encode_T` with the tables the code generates: `t` prime, `t ≡ 1 (mod 2n)`, `8t ≤ 2^64`,
    `g` the quadratic non-residue (primitive root) found by `generateNTTConstants`. -/
theorem decode_encode_T_mkTables (K t g : ℕ) (hK : 1 ≤ K) (ht : t.Prime) (h8 : 8 * t ≤ W)
    (hdiv : 2 ^ (K + 1) ∣ t - 1) (hg : g ^ ((t - 1) / 2) % t = t - 1)
    (vals buf p : List ℕ) (scale len : ℕ) (hbuf : buf.length = 2 ^ K) (hs : ¬ t ∣ scale) (hlen : len ≤ 2 ^ K)
    (henc : encodeRingTU (NTT.mkTables (2 ^ K) t (2 ^ (K + 1)) g) (permuteMatrix K) vals scale buf = some p) :
    decodeRingTU (NTT.mkTables (2 ^ K) t (2 ^ (K + 1)) g) (permuteMatrix K) scale p len
      = ((vals.map (· % t)) ++ List.replicate (2 ^ K - vals.length) 0).take len :=
  decode_encode_T (NTT.mkTables (2 ^ K) t (2 ^ (K + 1)) g) K
    (Lattigo.Props.C01NTT.tables_invariant K t g ht h8 hdiv hg).1 hK vals buf p scale len hbuf hs hlen henc

set_option linter.unusedVariables false in  -- `hlen` is not needed: both sides are cut to `len`
/-- `[]int64` input, `[]uint64` output: every Go `int64` (MinInt64 included) comes back as
    its Euclidean residue `c mod t ∈ [0,t)`.  (No `Reduce` on this path: the residue `t` produced for negative
    multiples of `t` is absorbed by the lazy range of INTT; stale buffer content is overwritten because the
    index table is a full permutation.) -/
theorem decode_encode_T_int64 (T : NTT.Tables) (K : ℕ) (hT : NTT.Valid T K) (hK : 1 ≤ K)
    (vals : List ℤ) (buf p : List ℕ) (scale len : ℕ) (hbuf : buf.length = T.n)
    (hv : ∀ c ∈ vals, -(2 ^ 63 : ℤ) ≤ c ∧ c < (2 ^ 63 : ℤ)) (hs : ¬ T.q ∣ scale) (hlen : len ≤ T.n)
    (henc : encodeRingTI T (permuteMatrix K) vals scale buf = some p) :
    decodeRingTU T (permuteMatrix K) scale p len
      = ((vals.map fun c => (c % (T.q : ℤ)).toNat) ++ List.replicate (T.n - vals.length) 0).take len := by
  rw [decode_encode_T T K hT hK _ buf p scale len hbuf hs hlen
      (encodeRingTI_eq_U T K hT (permuteMatrix K) buf p vals scale (permuteMatrix_nodup K hK)
        (permuteMatrix_lt_n hT hK) (permuteMatrix_length_n hT hK) hbuf hv henc),
    map_mod_mod, i64Slot_map_mod T.q hT.q_pos vals hv, List.length_map]

/-- `[]int64` in and out: the decoded value is `center(c mod t)`; by `decode_signed_range` it
    is congruent to `c` and lies in `[−(t+1)/2, (t+1)/2)`; by `decode_signed_exact` it IS `c` whenever
    `−(t − ⌊t/2⌋) ≤ c < ⌊t/2⌋`. -/
theorem decode_encode_T_signed (T : NTT.Tables) (K : ℕ) (hT : NTT.Valid T K) (hK : 1 ≤ K)
    (vals : List ℤ) (buf p : List ℕ) (scale len : ℕ) (hbuf : buf.length = T.n)
    (hv : ∀ c ∈ vals, -(2 ^ 63 : ℤ) ≤ c ∧ c < (2 ^ 63 : ℤ)) (hs : ¬ T.q ∣ scale) (hlen : len ≤ T.n)
    (henc : encodeRingTI T (permuteMatrix K) vals scale buf = some p) :
    decodeRingTI T (permuteMatrix K) scale p len
      = (((vals.map fun c => (c % (T.q : ℤ)).toNat) ++ List.replicate (T.n - vals.length) 0).take len).map
          (centerI64 T.q) := by
  unfold decodeRingTI
  rw [decode_encode_T_int64 T K hT hK vals buf p scale len hbuf hv hs hlen henc]

theorem decode_signed_exact (t : ℕ) (c : ℤ) (ht : 0 < t) (hlo : -((t : ℤ) - ((t / 2 : ℕ) : ℤ)) ≤ c)
    (hhi : c < ((t / 2 : ℕ) : ℤ)) : centerI64 t (c % (t : ℤ)).toNat = c :=
  centre_res t (t / 2) c (Nat.div_lt_self ht one_lt_two).le (by omega) hhi

set_option linter.unusedVariables false in  -- `hlen` is not needed: both sides are cut to `len`
/-- Plaintext ring: the negacyclic product `⊛ = RPoly.rowMul t` of two encodings, decoded at
    any scale `s ≡ s₁·s₂ (mod t)` with `t ∤ s`, is the slot-wise product modulo `t` (zero where either input
    is unspecified).  `hinv` is C01's table invariant (`tables_invariant` provides it together with `Valid`). -/
theorem encode_mul (T : NTT.Tables) (K : ℕ) (hT : NTT.Valid T K)
    (hinv : NTT.TableInv (NTT.rho T.q T.rootsF) (2 ^ K)) (hK : 1 ≤ K)
    (u v buf1 buf2 pu pv : List ℕ) (su sv s len : ℕ)
    (hbuf1 : buf1.length = T.n) (hbuf2 : buf2.length = T.n)
    (hs : s % T.q = su * sv % T.q) (hsd : ¬ T.q ∣ s) (hlen : len ≤ T.n)
    (hencu : encodeRingTU T (permuteMatrix K) u su buf1 = some pu)
    (hencv : encodeRingTU T (permuteMatrix K) v sv buf2 = some pv) :
    decodeRingTU T (permuteMatrix K) s (RPoly.rowMul T.q pu pv) len
      = (List.zipWith (fun a b => a * b % T.q)
          ((u.map (· % T.q)) ++ List.replicate (T.n - u.length) 0)
          ((v.map (· % T.q)) ++ List.replicate (T.n - v.length) 0)).take len := by
  rw [encode_mul_T T K hT hinv (permuteMatrix K) u v buf1 buf2 pu pv su sv s len (permuteMatrix_nodup K hK)
    (permuteMatrix_lt_n hT hK) hbuf1 hbuf2 hs hsd hencu hencv, permuteMatrix_length_n hT hK]

/-- signed decode (`[]int64`): the value returned for a residue `x` is congruent to `x` modulo `t` and lies in
    `[−(t+1)/2, (t+1)/2)`; the rule in the code is `x ≥ t>>1 → x − t` (so `(t−1)/2` comes back NEGATIVE). -/
theorem decode_signed_range (t x : Nat) (hx : x < t) :
    (centerI64 t x - (x : Int)) % (t : Int) = 0
    ∧ -(((t + 1) / 2 : Nat) : Int) ≤ centerI64 t x ∧ centerI64 t x < (((t + 1) / 2 : Nat) : Int) := by
  unfold centerI64
  by_cases h : x ≥ t / 2
  · rw [if_pos h]
    refine ⟨?_, by omega, by omega⟩
    rw [show (x : Int) - t - x = -(t : Int) by ring, Int.neg_emod_self]
  · rw [if_neg h]
    exact ⟨by simp, by omega, by omega⟩

theorem decode_signed_boundary (t : Nat) (hodd : t % 2 = 1) :
    centerI64 t ((t - 1) / 2) = -(((t + 1) / 2 : Nat) : Int) := by
  unfold centerI64
  rw [if_pos (show (t - 1) / 2 ≥ t / 2 by omega)]
  omega

example : centerI64 257 128 = -129 ∧ centerI64 257 127 = 127 := by decide

/-- signed encode: every `int64` (MinInt64 included) is mapped to a residue congruent to it, in `[0, t]`. -/
theorem encode_signed (t : Nat) (c : Int) (ht : 0 < t) (hlo : -(2 ^ 63 : Int) ≤ c) (hhi : c < (2 ^ 63 : Int)) :
    ((i64Slot t c : Nat) : Int) ≡ c [ZMOD (t : Int)] ∧ i64Slot t c ≤ t := i64Slot_spec t c ht hlo hhi

/-- the residue is `t`, not `0`, for negative multiples of `t` (the value INTT receives is unreduced) -/
example : i64Slot 257 (-257) = 257 ∧ i64Slot 257 (-9223372036854775808) = 128 ∧ i64Slot 257 (-258) = 256 := by
  decide

/-- the instances `k ≤ 8` of `permuteMatrix_ok` -/
theorem permuteMatrix_ok_upto8 : ∀ k < 9, 0 < k →
    (permuteMatrix k).length = 2 ^ k ∧ (permuteMatrix k).Nodup ∧ ∀ p ∈ permuteMatrix k, p < 2 ^ k :=
  fun k _ hk => permuteMatrix_ok k hk

/-- level-0 branch of `RingQ2T ∘ RingT2Q`, per coefficient: exact whenever `2(t−1) < q0`. -/
theorem ringQ2T_ringT2Q_level0_coeff (t q0 p tinv : Nat) (ht : 0 < t) (hp : p < t) (hq : 2 * (t - 1) < q0)
    (htinv : (tinv % q0) * (t % q0) % q0 = 1) :
    (((p * (tinv % q0) % q0) * (t % q0) % q0 + q0 / 2) % q0 % t + t - q0 / 2 % t) % t = p := by
  have h1 : (p * (tinv % q0) % q0) * (t % q0) % q0 = p := by
    rw [Nat.mod_mul_mod, mul_assoc, Nat.mul_mod, htinv, mul_one, Nat.mod_mod, Nat.mod_eq_of_lt (by omega)]
  -- `half_res` on the reduced residue `p`; `2(t−1) < q0` keeps `p + q0/2` below `q0`
  rw [h1, Nat.mod_eq_of_lt (show p + q0 / 2 < q0 by omega)]
  show diffT t (p + q0 / 2) (q0 / 2) = p
  rw [diffT_res t _ _ ht, Nat.cast_add, add_sub_cancel_right, res_natCast, Nat.mod_eq_of_lt hp]

/-- The extended-Euclid inverse (fuel `2(log₂ m + 2)` suffices) and the CRT
    reconstruction of `Model/RPoly.lean` are correct. -/
theorem modInv_spec (a m : ℕ) (hm : 1 < m) (hc : Nat.Coprime a m) : (a * RPoly.modInv a m) % m = 1 :=
  Lattigo.EncoderT.modInv_spec a m hm hc

theorem crt_spec (qs : List ℕ) (hc : qs.Pairwise Nat.Coprime) (h1 : ∀ q ∈ qs, 1 < q) (x : ℕ)
    (hx : x < RPoly.prod qs) : RPoly.crt qs (qs.map (x % ·)) = x := Lattigo.EncoderT.crt_spec qs hc h1 x hx

/-- `RingQ2T ∘ RingT2Q = id`, every level (`qs` = the moduli at that level; one modulus: the
    `AddScalar/Reduce/SubScalar` branch, several: `ModUpExact` / `PolyToBigintCentered` via CRT), every gap
    `g = N/n ≥ 1`, every reduced plaintext polynomial.  `hQ'` concerns the branch `level > 0 ∧ gap > 1` only. -/
theorem ringQ2T_ringT2Q (qs : List ℕ) (t n g : ℕ) (p : List ℕ) (hne : qs ≠ [])
    (hc : qs.Pairwise Nat.Coprime) (h1 : ∀ q ∈ qs, 1 < q) (hct : ∀ q ∈ qs, Nat.Coprime t q)
    (ht : 0 < t) (hn : 0 < n) (hg : 0 < g) (hpl : p.length = n) (hp : ∀ e ∈ p, e < t)
    (hQ : 2 * (t - 1) < RPoly.prod qs)
    (hQ' : 1 < qs.length → g ≠ 1 → t ≤ RPoly.prod qs / 2) :
    ringQ2T t n (ringT2Q qs t (n * g) true p) = p :=
  Lattigo.EncoderT.ringQ2T_ringT2Q qs t n g p hne hc h1 hct ht hn hg hpl hp hQ hQ'

/-- at level > 0 both size conditions follow from `t ≤ Q[0]` (checked by `bgv.NewParameters`) -/
theorem size_of_level_pos (q0 q1 : ℕ) (l : List ℕ) (t : ℕ) (h1 : ∀ q ∈ q0 :: q1 :: l, 1 < q) (ht : t ≤ q0) :
    2 * (t - 1) < RPoly.prod (q0 :: q1 :: l) ∧ t ≤ RPoly.prod (q0 :: q1 :: l) / 2 := by
  have hl : 0 < l.prod := by
    rw [← Scaling.prodN_eq_prod]
    exact Scaling.prodN_pos l (fun a ha => by have := h1 a (by simp [ha]); omega)
  have h2 : 2 * 1 ≤ q1 * l.prod := Nat.mul_le_mul (h1 q1 (by simp)) hl
  have h3 : q0 * 2 ≤ q0 * (q1 * l.prod) := Nat.mul_le_mul_left q0 (by omega)
  have hq0 := h1 q0 (by simp)
  rw [rprod_eq, List.prod_cons, List.prod_cons]
  generalize q0 * (q1 * l.prod) = Q at h3 ⊢
  omega

/-- MODEL-LEVEL REMARK (not reachable through `bgv.NewParameters`, which enforces `t ≤ Q[0]`): `hQ'` cannot be dropped
    from `ringQ2T_ringT2Q`.  With `t = 11`, `Q = 3·7 = 2t − 1`, gap 2, the residue `10 = ⌊Q/2⌋` is centred to `10 − 21`
    by `PolyToBigintCentered` (`x ≥ Q>>1`) and decodes to `0`; the gap-1 branch and a single modulus `23` return it. -/
theorem levelpos_gap_boundary_counterexample :
    ringQ2T 11 2 (ringT2Q [3, 7] 11 4 true [10, 3]) = [0, 3]
    ∧ ringQ2T 11 2 (ringT2Q [3, 7] 11 2 true [10, 3]) = [10, 3]
    ∧ ringQ2T 11 2 (ringT2Q [23] 11 4 true [10, 3]) = [10, 3] := by decide +kernel

/-- the hypothesis `2(t−1) < q0` is necessary: with `t = 13 ≤ q0 = 17` (accepted by `bgv.NewParameters`,
    which only checks `t ≤ Q[0]`), the residue 12 is NOT recovered at level 0. -/
theorem level0_large_t_counterexample :
    ringQ2T 13 8 (ringT2Q [17] 13 8 true [12, 0, 0, 0, 0, 0, 0, 0]) ≠ [12, 0, 0, 0, 0, 0, 0, 0]
    ∧ ringQ2T 13 8 (ringT2Q [53] 13 8 true [12, 0, 0, 0, 0, 0, 0, 0]) = [12, 0, 0, 0, 0, 0, 0, 0] := by
  decide +kernel

/-- an encoder instance built the way `NewEncoder` does (index table = `permuteMatrix K`) satisfies `ParamsOK` -/
theorem paramsOK_mk (P : Params) (K g : ℕ) (hK : 1 ≤ K) (hT : NTT.Valid P.T K) (hperm : P.perm = permuteMatrix K)
    (hN : P.bigN = P.T.n * g) (hg : 0 < g) (hne : P.qs ≠ []) (hc : P.qs.Pairwise Nat.Coprime)
    (h1 : ∀ q ∈ P.qs, 1 < q) (hct : ∀ q ∈ P.qs, Nat.Coprime P.T.q q)
    (hQ : 2 * (P.T.q - 1) < RPoly.prod P.qs)
    (hQ' : 1 < P.qs.length → g ≠ 1 → P.T.q ≤ RPoly.prod P.qs / 2) : ParamsOK P K g where
  valid := hT
  perm_nodup := by rw [hperm]; exact permuteMatrix_nodup K hK
  perm_lt := by rw [hperm]; exact permuteMatrix_lt_n hT hK
  perm_full := by rw [hperm]; exact permuteMatrix_length_n hT hK
  bigN_eq := hN
  g_pos := hg
  qs_ne := hne
  qs_coprime := hc
  qs_gt := h1
  qs_t := hct
  hQ := hQ
  hQ' := hQ'

set_option linter.unusedVariables false in  -- `hlen` is not needed: both sides are cut to `len`
/-- `Encoder.Encode` then `Encoder.Decode`, batched, `[]uint64`: every vector no longer than the
    slot count comes back modulo `t`, zero in the unspecified slots — any level, any gap, any scale with `t ∤ scale`. -/
theorem decode_encode_batched (P : Params) (K g : ℕ) (h : ParamsOK P K g) (v : List ℕ) (scale len : ℕ)
    (a : RPoly) (hs : ¬ P.T.q ∣ scale) (hlen : len ≤ P.T.n) (henc : encode P true scale (.u v) = some a) :
    decodeU P true scale a len = ((v.map (· % P.T.q)) ++ List.replicate (P.T.n - v.length) 0).take len := by
  unfold encode at henc
  simp only [if_true, Option.map_eq_some_iff] at henc
  obtain ⟨pT, hpT, rfl⟩ := henc
  obtain ⟨hl, hlt⟩ := encodeRingTU_shape P.T K h.valid P.perm v _ pT scale (by simp) hpT
  unfold decodeU
  simp only [if_true]
  rw [h.roundQ pT hl hlt,
    decode_encode_T_valid P.T K h.valid P.perm v _ pT scale len h.perm_nodup h.perm_lt (by simp) hs
      hpT, h.perm_full]

set_option linter.unusedVariables false in  -- `hlen` is not needed: both sides are cut to `len`
/-- batched, `[]int64` in / `[]int64` out: `center(c mod t)` (see `decode_signed_range`, `decode_signed_exact`) -/
theorem decode_encode_batched_signed (P : Params) (K g : ℕ) (h : ParamsOK P K g) (v : List ℤ) (scale len : ℕ)
    (a : RPoly) (hv : ∀ c ∈ v, -(2 ^ 63 : ℤ) ≤ c ∧ c < (2 ^ 63 : ℤ)) (hs : ¬ P.T.q ∣ scale)
    (hlen : len ≤ P.T.n) (henc : encode P true scale (.i v) = some a) :
    decodeI P true scale a len
      = (((v.map fun c => (c % (P.T.q : ℤ)).toNat) ++ List.replicate (P.T.n - v.length) 0).take len).map
          (centerI64 P.T.q) := by
  unfold decodeI
  unfold encode at henc
  simp only [if_true, Option.map_eq_some_iff] at henc
  obtain ⟨pT, hpT, rfl⟩ := henc
  have hU := encodeRingTI_eq_U P.T K h.valid P.perm _ pT v scale h.perm_nodup h.perm_lt h.perm_full
    (by simp) hv hpT
  rw [decode_encode_batched P K g h ((v.map (i64Slot P.T.q)).map (· % P.T.q)) scale len
      (ringT2Q P.qs P.T.q P.bigN true pT) hs hlen (by unfold encode; simp only [if_true]; rw [hU]; rfl),
    map_mod_mod, i64Slot_map_mod P.T.q h.valid.q_pos v hv, List.length_map]

/-- coefficient domain (`IsBatched = false`), `[]uint64` -/
theorem decode_encode_coeff (P : Params) (K g : ℕ) (h : ParamsOK P K g) (v : List ℕ) (scale len : ℕ)
    (a : RPoly) (hs : ¬ P.T.q ∣ scale) (henc : encode P false scale (.u v) = some a) :
    decodeU P false scale a len = ((v.map (· % P.T.q)) ++ List.replicate (P.T.n - v.length) 0).take len := by
  unfold encode at henc
  simp only [Bool.false_eq_true, if_false] at henc
  by_cases hvl : v.length > P.T.n
  · simp [hvl] at henc
  · simp only [hvl, if_false, Option.map_some, Option.some.injEq] at henc
    subst henc
    unfold decodeU
    simp only [Bool.false_eq_true, if_false]
    rw [h.roundQ _ (by rw [mulScalar_length]; simp; omega) (mulScalar_lt _ _ h.valid.q_pos _),
      mulScalar_inv_mod _ _ _ (scaleInv_valid h.valid scale hs)]
    simp

/-- coefficient domain, `[]int64` in / `[]int64` out -/
theorem decode_encode_coeff_signed (P : Params) (K g : ℕ) (h : ParamsOK P K g) (v : List ℤ) (scale len : ℕ)
    (a : RPoly) (hv : ∀ c ∈ v, -(2 ^ 63 : ℤ) ≤ c ∧ c < (2 ^ 63 : ℤ)) (hs : ¬ P.T.q ∣ scale)
    (henc : encode P false scale (.i v) = some a) :
    decodeI P false scale a len
      = (((v.map fun c => (c % (P.T.q : ℤ)).toNat) ++ List.replicate (P.T.n - v.length) 0).take len).map
          (centerI64 P.T.q) := by
  unfold decodeI
  rw [decode_encode_coeff P K g h (v.map (i64Slot P.T.q)) scale len a hs
      (by unfold encode at henc ⊢; simpa only [Bool.false_eq_true, if_false, List.length_map] using henc),
    i64Slot_map_mod P.T.q h.valid.q_pos v hv, List.length_map]

/-- `Encode` on a batched plaintext IS `EmbedScale(values, scaleUp = true, pt.MetaData, pt.Value)` (encoder.go:133):
    in canonical form both are `RingT2Q(T⁻¹·EncodeRingT(values))`.  `Embed`/`EmbedScale` then only change the
    REPRESENTATION (NTT if `IsNTT`, ·2^64 if `IsMontgomery`), which the tie lines undo according to the metadata
    and the probes `embed_metadata` / `embed_mont_mul` check on the raw output. -/
theorem embed_scaleUp_eq_encode (P : Params) (scale : Nat) (vals : Vals) :
    embed P P.qs true scale vals = encode P true scale vals := by
  cases vals <;> rfl

/-- Reduced plaintext polynomials `p₁, p₂ ∈ Z_t[Y]/(Y^n+1)` lifted to `R_Q` by `RingT2Q` (gap
    `g`, times `T⁻¹ mod Q`): `RingQ2T(T·(lift p₁ · lift p₂)) = p₁ ⊛ p₂ (mod t)`, for every level and gap, provided the
    integer negacyclic product does not wrap modulo `Q`: `2·n·(t−1)² + 1 < Q`. -/
theorem ringQ2T_mul (qs : List ℕ) (t n g : ℕ) (pa pb : List ℕ) (hne : qs ≠ [])
    (hc : qs.Pairwise Nat.Coprime) (h1 : ∀ q ∈ qs, 1 < q) (hct : ∀ q ∈ qs, Nat.Coprime t q)
    (ht : 0 < t) (hn : 0 < n) (hg : 0 < g) (hal : pa.length = n) (hbl : pb.length = n)
    (ha : ∀ e ∈ pa, e < t) (hb : ∀ e ∈ pb, e < t)
    (hB : 2 * (n * ((t - 1) * (t - 1))) + 1 < RPoly.prod qs) :
    ringQ2T t n (RPoly.scale (ringT2Q qs t (n * g) true pa * ringT2Q qs t (n * g) true pb) t)
      = RPoly.rowMul t pa pb :=
  Lattigo.EncoderT.ringQ2T_mul qs t n g pa pb hne hc h1 hct ht hn hg hal hbl ha hb hB

/-- The clause "encoded plaintexts multiply slot-wise", on the plaintexts the library produces.
    `Encode` two vectors at scales `s₁`, `s₂` into `a, b ∈ R_Q` (any level / gap satisfying `ParamsOK`); `Decode` at a
    scale `s ≡ s₁s₂ (mod t)`, `t ∤ s`, of `T·(a·b)` — product of `R_Q`, one factor `T` for the second `T⁻¹` — returns
    the slot-wise product, zero where either vector is unspecified; hypothesis: `2·n·(t−1)² + 1 < Q` (no wrap). -/
theorem encode_mul_RQ (P : Params) (K g : ℕ) (h : ParamsOK P K g)
    (hinv : NTT.TableInv (NTT.rho P.T.q P.T.rootsF) (2 ^ K))
    (hB : 2 * (P.T.n * ((P.T.q - 1) * (P.T.q - 1))) + 1 < RPoly.prod P.qs)
    (u v : List ℕ) (su sv s len : ℕ) (a b : RPoly)
    (hs : s % P.T.q = su * sv % P.T.q) (hsd : ¬ P.T.q ∣ s) (hlen : len ≤ P.T.n)
    (henca : encode P true su (.u u) = some a) (hencb : encode P true sv (.u v) = some b) :
    decodeU P true s (RPoly.scale (a * b) P.T.q) len
      = (List.zipWith (fun x y => x * y % P.T.q)
          ((u.map (· % P.T.q)) ++ List.replicate (P.T.n - u.length) 0)
          ((v.map (· % P.T.q)) ++ List.replicate (P.T.n - v.length) 0)).take len :=
  Lattigo.EncoderT.encode_mul_RQ P K g h hinv hB u v su sv s len a b hs hsd hlen henca hencb

/-! ### `EmbedScale` into a `ringqp.Poly`: the Q part and the P part hold the same integers (fix C07-5) -/

/-- With `scaleUp`, every row of the Q part (`RingT2Q`) and of the P part
    (`ringT2P`) is the residue of ONE integer polynomial `X = gapEmbed(p)·(T⁻¹ mod Q_level)`: the pair is an element
    of `R_QP` (fix C07-5: the P part is reduced modulo the moduli of `P`, with the inverse modulo `Q_level`). -/
theorem embedScale_qp_same_integer (qs ps : List ℕ) (t N : ℕ) (p : List ℕ) :
    (ringT2Q qs t N true p).c
      = qs.map (fun q => ((gapEmbed (N / p.length) N p).map
          (· * RPoly.modInv (t % RPoly.prod qs) (RPoly.prod qs))).map (· % q))
    ∧ (ringT2P qs ps t N true p).c
      = ps.map (fun m => ((gapEmbed (N / p.length) N p).map
          (· * RPoly.modInv (t % RPoly.prod qs) (RPoly.prod qs))).map (· % m)) := by
  unfold ringT2Q ringT2P
  simp only [if_true, List.map_map]
  refine ⟨?_, ?_⟩ <;>
  · apply List.map_congr_left
    intro m _
    apply List.map_congr_left
    intro x _
    simp only [Function.comp, Nat.mul_mod_mod]

/-- … and that integer polynomial is a lift of `T⁻¹·m`: `T·X ≡ gapEmbed(p) (mod Q_level)` coefficient-wise -/
theorem embedScale_qp_lift (qs : List ℕ) (t : ℕ) (hne : qs ≠ []) (h1 : ∀ q ∈ qs, 1 < q)
    (hct : ∀ q ∈ qs, Nat.Coprime t q) (x : ℕ) :
    (t * (x * RPoly.modInv (t % RPoly.prod qs) (RPoly.prod qs))) % RPoly.prod qs = x % RPoly.prod qs := by
  have hinv := tinv_mul_modQ qs t hne h1 hct
  have e : t * (x * RPoly.modInv (t % RPoly.prod qs) (RPoly.prod qs))
      = x * (t * RPoly.modInv (t % RPoly.prod qs) (RPoly.prod qs)) := by ring
  have h2 : t * RPoly.modInv (t % RPoly.prod qs) (RPoly.prod qs) % RPoly.prod qs = 1 := by
    rw [← Nat.mod_mul_mod]; exact hinv
  rw [e, Nat.mul_mod, h2, Nat.mul_one, Nat.mod_mod]

/-- without `scaleUp` (`Embed`) both parts are the plain residues of the gap embedding -/
theorem embed_qp_plain (qs ps : List ℕ) (t N : ℕ) (p : List ℕ) :
    (ringT2Q qs t N false p).c = qs.map (fun q => (gapEmbed (N / p.length) N p).map (· % q))
    ∧ (ringT2P qs ps t N false p).c = ps.map (fun m => (gapEmbed (N / p.length) N p).map (· % m)) := by
  unfold ringT2Q ringT2P
  simp

/-- `n = 8`, `t = 17`, `ψ` from `g = 3`: the generated tables satisfy `Valid` and the table invariant -/
def T8 : NTT.Tables := NTT.mkTables (2 ^ 3) 17 (2 ^ 4) 3

theorem T8_valid : NTT.Valid T8 3 ∧ NTT.TableInv (NTT.rho T8.q T8.rootsF) (2 ^ 3) :=
  Lattigo.Props.C01NTT.tables_invariant 3 17 3 (by norm_num) (by decide) (by decide) (by decide)

/-- the hypotheses of `decode_encode_T` / `encode_mul` are met by a concrete instance … -/
example : NTT.Valid T8 3 ∧ (List.replicate 8 9).length = T8.n ∧ ¬ T8.q ∣ 5 ∧ 5 % T8.q = 6 * 15 % T8.q := by
  refine ⟨T8_valid.1, by decide, by decide, by decide⟩

/-- … on which the conclusions can be watched (evaluation) -/
example : (encodeRingTU T8 (permuteMatrix 3) [3, 20, 16] 5 (List.replicate 8 9)).map
      (fun p => decodeRingTU T8 (permuteMatrix 3) 5 p 8) = some [3, 3, 16, 0, 0, 0, 0, 0] := by
  decide +kernel

example : (encodeRingTI T8 (permuteMatrix 3) [-17, -1, -9223372036854775808, 8] 5 (List.replicate 8 99)).map
      (fun p => decodeRingTI T8 (permuteMatrix 3) 5 p 5) = some [0, -1, -9, -9, 0] := by
  decide +kernel

example : (do
      let pu ← encodeRingTU T8 (permuteMatrix 3) [3, 20, 16] 6 (List.replicate 8 9)
      let pv ← encodeRingTU T8 (permuteMatrix 3) [2, 5, 16, 7] 15 (List.replicate 8 1)
      pure (decodeRingTU T8 (permuteMatrix 3) 5 (RPoly.rowMul T8.q pu pv) 8))
    = some [6, 15, 1, 0, 0, 0, 0, 0] := by
  decide +kernel

/-- an encoder instance at level 1 (`Q = 97·193`), `N = 16 = 2n`: `ParamsOK` holds … -/
def P8 : Params := { T := T8, perm := permuteMatrix 3, bigN := 16, qs := [97, 193] }

theorem P8_ok : ParamsOK P8 3 2 :=
  paramsOK_mk P8 3 2 (by decide) T8_valid.1 rfl (by decide) (by decide) (by decide) (by decide) (by decide)
    (by decide) (by decide) (by decide)

example : ParamsOK P8 3 2 := P8_ok

/-- … and the conclusions can be watched (evaluation) -/
example : (encode P8 true 5 (.u [3, 20, 16])).map (fun a => decodeU P8 true 5 a 8)
      = some [3, 3, 16, 0, 0, 0, 0, 0]
    ∧ (encode P8 true 5 (.i [-3, 20, -17, 8])).map (fun a => decodeI P8 true 5 a 6) = some [-3, 3, 0, -9, 0, 0]
    ∧ (encode P8 false 5 (.u [3, 20, 16])).map (fun a => decodeU P8 false 5 a 8)
      = some [3, 3, 16, 0, 0, 0, 0, 0] := by
  decide +kernel

/-- `encode_mul_RQ` on `P8` (`n = 8`, `t = 17`, `Q = 97·193 = 18721 > 2·8·16² + 1`, gap 2): an instance obtained
    FROM THE THEOREM, hypotheses discharged (`s = 5 ≡ 6·15`) -/
def a8 : RPoly := (encode P8 true 6 (.u [3, 20, 16])).getD default
def b8 : RPoly := (encode P8 true 15 (.u [2, 5, 16, 7])).getD default

example : decodeU P8 true 5 (RPoly.scale (a8 * b8) 17) 8
    = (List.zipWith (fun x y => x * y % 17)
        (([3, 20, 16] : List ℕ).map (· % 17) ++ List.replicate (8 - 3) 0)
        (([2, 5, 16, 7] : List ℕ).map (· % 17) ++ List.replicate (8 - 4) 0)).take 8 :=
  encode_mul_RQ P8 3 2 P8_ok T8_valid.2 (by decide) [3, 20, 16] [2, 5, 16, 7] 6 15 5 8 a8 b8 (by decide) (by decide) (by decide)
    (by decide +kernel) (by decide +kernel)

/-- TEST (evaluation): the decoded product, and the Q / P parts of `EmbedScale(scaleUp)` for `P = [257]` -/
example : decodeU P8 true 5 (RPoly.scale (a8 * b8) 17) 8 = [6, 15, 1, 0, 0, 0, 0, 0]
    ∧ ((embedP P8 [257] true 5 (.u [3, 20, 16])).map (·.c))
        = ((encodeRingTU T8 (permuteMatrix 3) [3, 20, 16] 5 (List.replicate 8 0)).map fun p =>
            [(gapEmbed 2 16 p).map (· * RPoly.modInv (17 % 18721) 18721 % 257)]) := by
  decide +kernel

/-- a 16-bit instance of the hypotheses: the Fermat prime `65537`, `n = 16` -/
example : NTT.Valid (NTT.mkTables (2 ^ 4) 65537 (2 ^ 5) 3) 4 :=
  (Lattigo.Props.C01NTT.tables_invariant 4 65537 3 (by norm_num) (by decide) (by decide) (by decide +kernel)).1

end Lattigo.EncoderT.C07

#print axioms Lattigo.EncoderT.C07.permuteMatrix_perm
#print axioms Lattigo.EncoderT.C07.permuteMatrix_ok
#print axioms Lattigo.EncoderT.C07.ntt_intt
#print axioms Lattigo.EncoderT.C07.modExp_fermat
#print axioms Lattigo.EncoderT.C07.decode_encode_T
#print axioms Lattigo.EncoderT.C07.decode_encode_T_anyperm
#print axioms Lattigo.EncoderT.C07.decode_encode_T_mkTables
#print axioms Lattigo.EncoderT.C07.decode_encode_T_int64
#print axioms Lattigo.EncoderT.C07.decode_encode_T_signed
#print axioms Lattigo.EncoderT.C07.decode_signed_exact
#print axioms Lattigo.EncoderT.C07.encode_mul
#print axioms Lattigo.EncoderT.C07.T8_valid
#print axioms Lattigo.EncoderT.C07.modInv_spec
#print axioms Lattigo.EncoderT.C07.crt_spec
#print axioms Lattigo.EncoderT.C07.ringQ2T_ringT2Q
#print axioms Lattigo.EncoderT.C07.size_of_level_pos
#print axioms Lattigo.EncoderT.C07.levelpos_gap_boundary_counterexample
#print axioms Lattigo.EncoderT.C07.paramsOK_mk
#print axioms Lattigo.EncoderT.C07.decode_encode_batched
#print axioms Lattigo.EncoderT.C07.decode_encode_batched_signed
#print axioms Lattigo.EncoderT.C07.decode_encode_coeff
#print axioms Lattigo.EncoderT.C07.decode_encode_coeff_signed
#print axioms Lattigo.EncoderT.C07.decode_signed_range
#print axioms Lattigo.EncoderT.C07.decode_signed_boundary
#print axioms Lattigo.EncoderT.C07.encode_signed
#print axioms Lattigo.EncoderT.C07.embed_scaleUp_eq_encode
#print axioms Lattigo.EncoderT.C07.ringQ2T_mul
#print axioms Lattigo.EncoderT.C07.encode_mul_RQ
#print axioms Lattigo.EncoderT.C07.embedScale_qp_same_integer
#print axioms Lattigo.EncoderT.C07.embedScale_qp_lift
#print axioms Lattigo.EncoderT.C07.embed_qp_plain
#print axioms Lattigo.EncoderT.C07.permuteMatrix_ok_upto8
#print axioms Lattigo.EncoderT.C07.ringQ2T_ringT2Q_level0_coeff
#print axioms Lattigo.EncoderT.C07.level0_large_t_counterexample
