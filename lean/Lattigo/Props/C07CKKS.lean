import Lattigo.Proofs.EncoderC
import Lattigo.Proofs.CKKSFixedPoint
import Lattigo.Proofs.EncoderCFFT
import Mathlib.RingTheory.RootsOfUnity.Complex
/-!
# C07 (approximate half) — CKKS encoder / decoder  (property theorems)

Model: `Lattigo.EncoderC` (+ `Lattigo.CKKS.fixedPoint`), executed by `Driver/C07CKKS.lean`, tied to
`schemes/ckks/encoder.go`, `utils.go` by `harness/c07_ckks.go`.

State of the clauses of the property text (CKKS sentence)
* "approximate encoding followed by decoding returns every input vector up to the rounding error of the fixed-point
  conversion at the plaintext scale plus the floating-point error of the encoder's working precision, for every slot
  count (sparse packing), both ring types, both paths, slot and coefficient domains" —
  - exact part, PROVED for all inputs: the special DFT and its inverse are mutually inverse in exact arithmetic
    (`special_dft_decode_encode`, `special_dft_encode_decode`: any field with a primitive `2N`-th root; sparse packing
    `special_dft_sparse`; the conjugate-invariant ring is the case `2N` with a `4N`-th root); the slots sit at pairwise
    distinct odd exponents (`orbit_injective`, `rotGroup_nodup`, `conj_exponents_disjoint`, `bitRev_perm`);
  - rounding part, PROVED: `fixedpoint_roundtrip` (exact rationals, `≤ 1/(2Δ)` per coefficient), `fixedPoint_exact`
    (equal to round-half-away(x·Δ) whenever the working precision holds the product: boundary magnitudes 2^52…2^100
    tied on every path), `singleFloat64_eq_fixedPoint` (the model of the float64 path is `fixedPoint 53`; its two
    branches are one term in the model), `fixedPoint_error` (the conversion AS PERFORMED with `P`-bit floats — the
    function the driver executes: `1/2 + 3·2^-P(|x|Δ+1)`),
    `slot_error_of_coeff_error` (coefficient error `B` ⇒ slot error `≤ N·B`), `encode_slot_error` (their composition);
  - NOT modelled: the butterfly network of `SpecialFFT/IFFT*` and its floating-point error (the exact transform above
    is its specification; the float64 / big.Float implementation is tied on exactly representable cases by `encslot`,
    `encpoly` and measured by the probes `decode_encode_precision`, `encoder_precision_history`).
* "public decoding additionally rounds every value to a multiple of the requested precision" — PROVED on the model
  function: `decodePublic_multiple`, `decodePublic_nearest` (a nearest multiple, ties away from zero
  `roundHalfAway_tie`); tied on both precision paths (`roundprec`); coefficient-domain `DecodePublic` ignores
  `logprec` (known finding).
* "encoded plaintexts multiply slot-wise" — consequence of `special_dft_decode_encode` + evaluation being a ring
  homomorphism; stated for the ring in C06 (`phase_Mul`); here probed (`encode_mul_slotwise`).
Tied only: `enccoef`, `encslot`, `encpoly` layouts (`embedCoeffs`: `encodePoly_conjInv_discards_imag` is the only general
statement), `bitrev`.
-/
namespace Lattigo.Props.C07CKKS
open Lattigo.EncoderC

/-- `|decode_fp (encode_fp x Δ) − x| ≤ 1/(2Δ)` on exact rationals
    (`x = xn/xd`, `Δ = sn/sd`, `decode_fp c = c/Δ`). -/
theorem fixedpoint_roundtrip (xn : ℤ) (xd sn sd : ℕ) (hxd : 0 < xd) (hsn : 0 < sn) (hsd : 0 < sd) :
    |(encodeFP xn xd sn sd : ℚ) / ((sn : ℚ) / sd) - (xn : ℚ) / xd| ≤ 1 / (2 * ((sn : ℚ) / sd)) :=
  Lattigo.EncoderC.fixedpoint_roundtrip xn xd sn sd hxd hsn hsd
example : encodeFP (-5) 8 (2 ^ 10) 1 = -640 ∧ encodeFP 1 3 1024 1 = 341 ∧ encodeFP (-1) 2 1 1 = -1 := by decide

/-- The conversion the code performs (`Lattigo.CKKS.fixedPoint`, executed by the driver for
    `*ToFixedPointCRT`; `P` = working precision: 53 on the float64 path, `values[0].Prec()` resp.
    `max(prec,128)` on the `big.Float` paths): the integer has the sign of `x` and
    `| |c| − |x|·Δ | ≤ 1/2 + 3·2^-P·(|x|·Δ + 1)` — fixed-point rounding plus the floating-point error of
    the working precision, as the property states. -/
theorem fixedPoint_error (P : ℕ) (x : Lattigo.CKKS.SD) (scale : Lattigo.CKKS.Dy) (hP : 1 ≤ P)
    (hx : 0 < x.mag.m) (hs : 0 < scale.m) :
    ∃ n : ℕ, Lattigo.CKKS.fixedPoint P x scale = (if x.neg then -(n : ℤ) else (n : ℤ)) ∧
      |(n : ℚ) - x.mag.val * scale.val| ≤ 1 / 2 + 3 * (2 : ℚ) ^ (-(P : ℤ)) * (x.mag.val * scale.val + 1) :=
  Lattigo.CKKS.fixedPoint_error P x scale hP hx hs
example : Lattigo.CKKS.fixedPoint 53 ⟨true, ⟨5, -3⟩⟩ ⟨1, 10⟩ = -640 := by decide +kernel

/-- conjugate-invariant ring: the imaginary parts of the inputs do not influence the encoded plaintext
    (tie `ckks encpoly`: the harness feeds inputs with non-zero imaginary parts). -/
theorem encodePoly_conjInv_discards_imag (N slots : ℕ) (re im im' : List ℤ) :
    encodePoly N true slots re im = encodePoly N true slots re im' := rfl
example : encodePoly 8 true 2 [3, -5] [7, 7] = [3, 0, 0, 0, -5, 0, 0, 0] ∧
    encodePoly 8 false 2 [3, -5] [7, 9] = [3, 0, -5, 0, 7, 0, 9, 0] := by decide

section
variable {K : Type*} [Field K] {ζ : K} {N : ℕ}

/-- decode ∘ encode = id: for every slot vector `v` the polynomial `interpOdd v` takes the value `v t` at the
    `t`-th odd power of a primitive `2N`-th root (every `N`, hence every ring degree and every slot count). -/
theorem special_dft_decode_encode (hζ : IsPrimitiveRoot ζ (2 * N)) (hN : 0 < N) (hNK : (N : K) ≠ 0) (v : ℕ → K)
    (t : ℕ) (ht : t < N) : evalOdd ζ N (interpOdd ζ N v) t = v t := evalOdd_interpOdd hζ hN hNK v t ht
/-- encode ∘ decode = id on coefficient vectors. -/
theorem special_dft_encode_decode (hζ : IsPrimitiveRoot ζ (2 * N)) (hN : 0 < N) (hNK : (N : K) ≠ 0) (m : ℕ → K)
    (k : ℕ) (hk : k < N) : interpOdd ζ N (evalOdd ζ N m) k = m k := interpOdd_evalOdd hζ hN hNK m k hk
/-- sparse packing: plaintexts in `Y = X^gap`, ring degree `gap·N'`. -/
theorem special_dft_sparse {gap N' : ℕ} (hζ : IsPrimitiveRoot ζ (2 * (gap * N'))) (hg : 0 < gap) (hN : 0 < N')
    (hNK : (N' : K) ≠ 0) (v : ℕ → K) (t : ℕ) (ht : t < N') :
    evalOdd (ζ ^ gap) N' (interpOdd (ζ ^ gap) N' v) t = v t :=
  evalOdd_interpOdd (hζ.pow (by positivity) (by ring)) hN hNK v t ht
end
/-- the hypotheses are met by `ℂ`, `ζ = e^{2πi/8}`, `N = 4`. -/
example (v : ℕ → ℂ) (t : ℕ) (ht : t < 4) :
    evalOdd (Complex.exp (2 * Real.pi * Complex.I / (8 : ℕ))) 4 (interpOdd (Complex.exp (2 * Real.pi * Complex.I / (8 : ℕ))) 4 v) t = v t :=
  special_dft_decode_encode (N := 4) (Complex.isPrimitiveRoot_exp 8 (by norm_num)) (by norm_num) (by norm_num) v t ht

/-- coefficient error `≤ B` each ⇒ slot error `≤ N·B` (any normed field, `‖ζ‖ = 1`). -/
theorem slot_error_of_coeff_error {K : Type*} [NormedField K] (ζ : K) (N : ℕ) (hζ : ‖ζ‖ = 1) (m δ : ℕ → K) (B : ℝ)
    (hδ : ∀ k < N, ‖δ k‖ ≤ B) (t : ℕ) :
    ‖evalOdd ζ N (fun k => m k + δ k) t - evalOdd ζ N m t‖ ≤ N * B :=
  Lattigo.EncoderC.slot_error_of_coeff_error ζ N hζ m δ B hδ t
/-- Encode then Decode, rounding only: if the stored coefficients differ from the exact ones `interpOdd v` by at
    most `B` each (`B = 1/(2Δ)` by `fixedpoint_roundtrip`), every decoded slot differs from `v t` by at most `N·B`. -/
theorem encode_slot_error {K : Type*} [NormedField K] {ζ : K} {N : ℕ} (hζ : IsPrimitiveRoot ζ (2 * N)) (hN : 0 < N)
    (hNK : (N : K) ≠ 0) (v δ : ℕ → K) (B : ℝ) (hδ : ∀ k < N, ‖δ k‖ ≤ B) (t : ℕ) (ht : t < N) :
    ‖evalOdd ζ N (fun k => interpOdd ζ N v k + δ k) t - v t‖ ≤ N * B := by
  have h1 := Lattigo.EncoderC.slot_error_of_coeff_error ζ N
    (norm_root_eq_one (by omega : 0 < 2 * N) hζ.pow_eq_one) (interpOdd ζ N v) δ B hδ t
  rwa [evalOdd_interpOdd hζ hN hNK v t ht] at h1

/-- slot `i` and the conjugate of slot `j` use different exponents (`5^i ≢ −5^j mod 2^k`). -/
theorem conj_exponents_disjoint (k : ℕ) (hk : 2 ≤ k) (i j : ℕ) : (5 ^ i + 5 ^ j) % 2 ^ k ≠ 0 := by
  intro h
  have hd : 2 ^ 2 ∣ 5 ^ i + 5 ^ j := (pow_dvd_pow 2 hk).trans (Nat.dvd_of_mod_eq_zero h)
  have hi := five_pow_mod4 i
  have hj := five_pow_mod4 j
  omega

/-- `decodePublic`: no multiple of `2^-logprec` is closer to the decoded value. -/
theorem decodePublic_nearest (num : ℤ) (den logprec : ℕ) (hd : 0 < den) (k' : ℤ) :
    |(roundToPrec num den logprec : ℚ) / 2 ^ logprec - (num : ℚ) / den|
      ≤ |(k' : ℚ) / 2 ^ logprec - (num : ℚ) / den| := by
  unfold roundToPrec
  have h := roundHalfAway_nearest_int (num * 2 ^ logprec) den hd k'
  have hp : (0 : ℚ) < 2 ^ logprec := by positivity
  have e : ∀ c : ℚ, c / 2 ^ logprec - (num : ℚ) / den = (c - ((num * 2 ^ logprec : ℤ) : ℚ) / den) / 2 ^ logprec := by
    intro c; push_cast; field_simp
  rw [e, e, abs_div, abs_div, abs_of_pos hp]
  exact div_le_div_of_nonneg_right h hp.le
theorem roundHalfAway_tie (h : ℤ) : roundHalfAway (2 * h + 1) 2 = if 0 ≤ 2 * h + 1 then h + 1 else h :=
  Lattigo.EncoderC.roundHalfAway_tie h
example : roundToPrec (-3) 8 2 = -2 ∧ roundToPrec 3 8 2 = 2 ∧ roundToPrec (-23) 10 0 = -2 := by decide

/-- Exactness: when the working precision holds `|x|·Δ` and `|x|·Δ + 1/2`, the integer the code writes is exactly
    the round-half-away-from-zero of `x·Δ` (`n ≤ |x|Δ + 1/2 < n + 1`, sign of `x`); its residues are
    `fixedPointRNS = (±n) mod q_i` by definition and the centred lift returns `±n` for `n < Q/2` (`centerLift_roundtrip`). -/
theorem fixedPoint_exact (P : ℕ) (x : Lattigo.CKKS.SD) (scale : Lattigo.CKKS.Dy) (hx : 0 < x.mag.m) (hs : 0 < scale.m)
    (h1 : Lattigo.CKKS.bitLen (x.mag.m * scale.m) ≤ P)
    (h2 : Lattigo.CKKS.bitLen (Lattigo.CKKS.addHalf (Lattigo.CKKS.Dy.mul P x.mag scale)).m ≤ P) :
    ∃ n : ℕ, Lattigo.CKKS.fixedPoint P x scale = (if x.neg then -(n : ℤ) else (n : ℤ)) ∧
      (n : ℚ) ≤ x.mag.val * scale.val + 1 / 2 ∧ x.mag.val * scale.val + 1 / 2 < n + 1 :=
  Lattigo.CKKS.fixedPoint_exact P x scale hx hs h1 h2
/-- instance at the word boundary: `x = −2^19`, `Δ = 2^45` (`|x|Δ = 2^64`), 128-bit path: hypotheses hold, result `−2^64`. -/
example : Lattigo.CKKS.bitLen ((⟨true, ⟨1, 19⟩⟩ : Lattigo.CKKS.SD).mag.m * (⟨1, 45⟩ : Lattigo.CKKS.Dy).m) ≤ 128 ∧
    Lattigo.CKKS.bitLen (Lattigo.CKKS.addHalf (Lattigo.CKKS.Dy.mul 128 ⟨1, 19⟩ ⟨1, 45⟩)).m ≤ 128 ∧
    Lattigo.CKKS.fixedPoint 128 ⟨true, ⟨1, 19⟩⟩ ⟨1, 45⟩ = -(2 ^ 64 : ℤ) ∧
    singleFloat64 ⟨false, ⟨1, 19⟩⟩ ⟨1, 45⟩ = (2 ^ 64 : ℤ) := by decide +kernel
/-- The model `singleFloat64` of `SingleFloat64ToFixedPointCRT` is `fixedPoint 53`.  The model writes the same term
    `u.toNat` for the `big.Float` branch (from `2^64` on) and for the word branch `uint64(value + 0.5)` below it, so this
    says nothing about the threshold; that the two branches of the Go code agree is tied by the harness, not proved. -/
theorem singleFloat64_eq_fixedPoint (x : Lattigo.CKKS.SD) (scale : Lattigo.CKKS.Dy) :
    singleFloat64 x scale = Lattigo.CKKS.fixedPoint 53 x scale := by
  unfold singleFloat64 Lattigo.CKKS.fixedPoint
  split
  · rfl
  · simp
theorem fixedPointRNS_residues (P : ℕ) (x : Lattigo.CKKS.SD) (scale : Lattigo.CKKS.Dy) (qs : List ℕ) :
    fixedPointRNS P x scale qs = qs.map (fun (q : ℕ) => (Lattigo.CKKS.fixedPoint P x scale % (q : ℤ)).toNat) := rfl

/-- Arbitrary-precision Decode divides by the scale itself: for `|c| < 2^P` the value returned for a coefficient
    `c` is the correctly rounded (`P` bits, relative error ≤ 2^-P) quotient `c/scale`, for EVERY 128-bit scale
    (products of primes, scales left by a rescale, …), with the sign of `c`. -/
theorem decodeFP_correctly_rounded (P : ℕ) (c : ℤ) (scale : Lattigo.CKKS.Dy) (hc : c ≠ 0) (hs : 0 < scale.m)
    (hb : Lattigo.CKKS.bitLen c.natAbs ≤ P) :
    (decodeFP P c scale).neg = decide (c < 0) ∧
    |(decodeFP P c scale).mag.val - (c.natAbs : ℚ) / scale.val|
      ≤ (c.natAbs : ℚ) / scale.val * (2 : ℚ) ^ (-(P : ℤ)) := by
  refine ⟨rfl, ?_⟩
  have hn : 0 < c.natAbs := Int.natAbs_pos.mpr hc
  -- `c` is held exactly, and the quotient is `Dy.div P`
  have hxv : (Lattigo.CKKS.roundRat P c.natAbs 1 0).val = (c.natAbs : ℚ) := by
    rw [Lattigo.CKKS.roundRat_exact P c.natAbs 0 hn hb, zpow_zero, mul_one]
  have hxm := (Lattigo.CKKS.Dy.val_pos_iff _).mp (by rw [hxv]; exact_mod_cast hn)
  have h := Lattigo.CKKS.Dy.div_spec P _ scale hxm hs
  rw [hxv] at h
  exact h
example : decodeFP 64 (-18551838483) ⟨35184372088321, 0⟩ = ⟨true, Lattigo.CKKS.roundRat 64 18551838483 35184372088321 0⟩ := by
  decide +kernel

/-- the rounding is to nearest, half away from zero (`trunc(x ± 1/2)`). -/
theorem roundHalfAway_nearest (num : ℤ) (den : ℕ) (hd : 0 < den) :
    |(roundHalfAway num den : ℚ) - (num : ℚ) / den| ≤ 1 / 2 := roundHalfAway_spec num den hd
example : roundHalfAway 5 2 = 3 ∧ roundHalfAway (-5) 2 = -3 ∧ roundHalfAway 7 3 = 2 := by decide

set_option linter.unusedVariables false in -- `hQ` is not needed: `hlo` and `hhi` contradict each other for `Q = 0`
/-- residues followed by the centred lift (`polyTo*CRT`) return the coefficient on the centred range. -/
theorem centerLift_roundtrip (c : ℤ) (Q : ℕ) (hQ : 0 < Q) (hlo : -((Q : ℤ) - (Q / 2 : ℕ)) ≤ c)
    (hhi : c < ((Q / 2 : ℕ) : ℤ)) : centerLift (c % (Q : ℤ)).toNat Q = c := by
  unfold centerLift
  by_cases hc : 0 ≤ c
  · rw [Int.emod_eq_of_lt hc (by omega), if_neg (by omega)]; omega
  · rw [← Int.add_mul_emod_self_left c Q 1, mul_one, Int.emod_eq_of_lt (by omega) (by omega), if_pos (by omega)]
    omega
example : centerLift ((-3 : ℤ) % (17 : ℕ)).toNat 17 = -3 := by decide

/-- `decodePublic` publishes a multiple of `2^-logprec`, within `2^-(logprec+1)` of the value. -/
theorem decodePublic_multiple (num : ℤ) (den logprec : ℕ) (hd : 0 < den) :
    ((roundToPrec num den logprec : ℚ) / 2 ^ logprec) * 2 ^ logprec = (roundToPrec num den logprec : ℚ) ∧
    |(roundToPrec num den logprec : ℚ) / 2 ^ logprec - (num : ℚ) / den| ≤ 1 / (2 * 2 ^ logprec) := by
  refine ⟨div_mul_cancel₀ _ (by positivity), abs_div_sub_le (by positivity) ?_⟩
  have h := roundHalfAway_spec (num * 2 ^ logprec) den hd
  rwa [Int.cast_mul, Int.cast_pow, Int.cast_ofNat, mul_div_right_comm] at h
example : roundToPrec 1 3 4 = 5 ∧ roundToPrec (-3) 32 4 = -2 := by decide

/-- the table `rotGroup` built by `NewEncoder` is `i ↦ 5^i mod m`. -/
theorem rotGroup_is_orbit (m : ℕ) (hm : 1 < m) (i : ℕ) (hi : i < m / 4) :
    (rotGroup m)[i]? = some (5 ^ i % m) := by
  rw [rotGroup_eq m hm]
  simp [hi]
example : rotGroup 32 = [1, 5, 25, 29, 17, 21, 9, 13] := by decide

/-- Orbit property (`m = 2^k`, `n = m/4` slots): the `5^j` are pairwise distinct modulo `m`, so the
    slot ↦ root map of the special FFT is injective: `rotGroup` enumerates the orbit of 5 without repetition. -/
theorem orbit_injective (k : ℕ) (hk : 2 ≤ k) (i j : ℕ) (hi : i < 2 ^ (k - 2)) (hj : j < 2 ^ (k - 2))
    (h : 5 ^ i % 2 ^ k = 5 ^ j % 2 ^ k) : i = j := five_pow_injective k hk i j hi hj h
theorem rotGroup_nodup (k : ℕ) (hk : 2 ≤ k) : (rotGroup (2 ^ k)).Nodup := Lattigo.EncoderC.rotGroup_nodup k hk
/-- 5 has order exactly `2^(k-2)` modulo `2^k` (no smaller positive exponent gives 1). -/
theorem five_order (k : ℕ) (hk : 2 ≤ k) (d : ℕ) (hd : 0 < d) (hlt : d < 2 ^ (k - 2)) : 5 ^ d % 2 ^ k ≠ 1 := by
  intro h
  have h0 : 5 ^ 0 % 2 ^ k = 1 := Nat.mod_eq_of_lt (Nat.one_lt_two_pow (by omega))
  exact hd.ne' (five_pow_injective k hk d 0 hlt (by positivity) (h.trans h0.symm))
example : (2 : ℕ) ≤ 6 ∧ (3 : ℕ) < 2 ^ (6 - 2) := by decide

/-- `utils.BitReverse64` restricted to `bits` bits is a permutation of `[0, 2^bits)`. -/
theorem bitRev_perm (b : ℕ) :
    (∀ i, bitRev b i < 2 ^ b) ∧ (∀ i j, i < 2 ^ b → j < 2 ^ b → bitRev b i = bitRev b j → i = j) :=
  ⟨isBitRev.lt b, isBitRev.inj b⟩
example : (List.range 8).map (bitRev 3) = [0, 4, 2, 6, 1, 5, 3, 7] := by decide

end Lattigo.Props.C07CKKS

#print axioms Lattigo.Props.C07CKKS.fixedpoint_roundtrip
#print axioms Lattigo.Props.C07CKKS.roundHalfAway_nearest
#print axioms Lattigo.Props.C07CKKS.centerLift_roundtrip
#print axioms Lattigo.Props.C07CKKS.decodePublic_multiple
#print axioms Lattigo.Props.C07CKKS.rotGroup_is_orbit
#print axioms Lattigo.Props.C07CKKS.orbit_injective
#print axioms Lattigo.Props.C07CKKS.rotGroup_nodup
#print axioms Lattigo.Props.C07CKKS.five_order
#print axioms Lattigo.Props.C07CKKS.encodePoly_conjInv_discards_imag
#print axioms Lattigo.Props.C07CKKS.fixedPoint_error
#print axioms Lattigo.Props.C07CKKS.bitRev_perm
#print axioms Lattigo.Props.C07CKKS.special_dft_decode_encode
#print axioms Lattigo.Props.C07CKKS.special_dft_encode_decode
#print axioms Lattigo.Props.C07CKKS.special_dft_sparse
#print axioms Lattigo.Props.C07CKKS.slot_error_of_coeff_error
#print axioms Lattigo.Props.C07CKKS.encode_slot_error
#print axioms Lattigo.Props.C07CKKS.conj_exponents_disjoint
#print axioms Lattigo.Props.C07CKKS.decodePublic_nearest
#print axioms Lattigo.Props.C07CKKS.roundHalfAway_tie
#print axioms Lattigo.Props.C07CKKS.fixedPoint_exact
#print axioms Lattigo.Props.C07CKKS.singleFloat64_eq_fixedPoint
#print axioms Lattigo.Props.C07CKKS.fixedPointRNS_residues
#print axioms Lattigo.Props.C07CKKS.decodeFP_correctly_rounded
