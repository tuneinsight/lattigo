/-
  C07 (integer half) and the plaintext ring.

  Unlike C03/C04/C05/C06/C11/C13/C14/C16/C20, the C07 theorems are NOT generic over a commutative ring:
  `encode_mul` (`Proofs/EncoderTMul.lean`, `Props/C07.lean`) is already a statement about the executable
  negacyclic row product `RPoly.rowMul t` of the plaintext ring `Z_t[Y]/(Y^n+1)` (only the linearity of the exact
  forward network, `RPolyRefine.fwdZ_map`, is generic, and it is used at `ZMod t`).  There is therefore nothing to
  instantiate.  What this file adds is the link with the ring of C01:

  * an encoded plaintext, read as the one-row `RPoly` `plainPoly t p = ⟨[t], [p]⟩`, is WELL FORMED
    (`encode_wf`), i.e. an element of the commutative ring `WFPoly [t] n` (`Proofs/RPolyRing.lean`);
  * `RPoly.rowMul t` IS the product of that ring (`plainPoly_mul`), hence `encode_mul_rpoly`: decoding the RING
    product of two encodings gives the slot-wise product — and, from the ring laws, the same for the
    product taken in the other order (`encode_mul_rpoly_comm`);
  * the driver's `decode` handler computes `decodeU` / `decodeI` on the parsed `RPoly` (`handleBgv_decode_calls`),
    the functions `EncoderT.C07.decode_encode_*` are about;
  * a concrete instance (`t = 97`, `n = 8`).

  Not here: `encode_mul` for the lifted plaintexts in `R_Q` is `EncoderT.C07.encode_mul_RQ` (`Props/C07.lean`); it
  needs the no-wrap bound `2·n·(t−1)² + 1 < Q` on the integer product: arithmetic, not a ring identity.
-/
import Lattigo.Proofs.RPolyTransport
import Lattigo.Proofs.EncoderTMul
import Lattigo.Proofs.EncoderTPerm
import Lattigo.Proofs.NTTTables
import Driver.C07
import Mathlib.Tactic.NormNum.Prime

namespace Lattigo.EncoderT.C07Ring
open Lattigo Lattigo.EncoderT Lattigo.NTT Lattigo.RPolyRing Lattigo.Transport

/-- a plaintext polynomial of `Z_t[Y]/(Y^n+1)` as a one-row `RPoly` -/
def plainPoly (t : ℕ) (p : List ℕ) : RPoly := ⟨[t], [p]⟩

/-- the product of the ring is the row product `encode_mul` is about -/
theorem plainPoly_mul (t : ℕ) (a b : List ℕ) :
    plainPoly t a * plainPoly t b = plainPoly t (RPoly.rowMul t a b) := rfl

theorem plainPoly_wf {t n : ℕ} {p : List ℕ} (hl : p.length = n) (hlt : ∀ e ∈ p, e < t) :
    WFq [t] n (plainPoly t p) := by
  refine ⟨rfl, rfl, fun i hi => ?_⟩
  have hi0 : i = 0 := by simpa [plainPoly] using hi
  subst hi0
  exact ⟨hl, hlt⟩

section
variable {T : Tables} {K : ℕ}

/-- the plaintext modulus and degree of valid tables are admissible ring parameters -/
theorem good_of_valid (hT : Valid T K) : Good [T.q] T.n :=
  ⟨by rw [hT.n_eq]; exact Nat.one_le_two_pow, fun q hq => by
    rw [List.mem_singleton] at hq; subst hq; exact hT.prime.two_le⟩

/-- Whatever `EncodeRingT` returns (any values, scale, stale buffer of the right length) is a
well-formed element of the plaintext ring. -/
theorem encode_wf (hT : Valid T K) (perm u buf pu : List ℕ) (su : ℕ) (hbuf : buf.length = T.n)
    (henc : encodeRingTU T perm u su buf = some pu) : WFq [T.q] T.n (plainPoly T.q pu) := by
  obtain ⟨hl, hlt⟩ := encodeRingTU_shape T K hT perm u buf pu su hbuf henc
  exact plainPoly_wf hl hlt

set_option linter.unusedVariables false in  -- `hlen` is not needed: both sides are cut to `len`
/-- For every pair of vectors encoded at scales `s₁`, `s₂` (any stale buffers) into
`p₁`, `p₂` — well-formed elements of the commutative ring `WFPoly [t] n` — and every decoding scale
`s ≡ s₁·s₂ (mod t)`, `t ∤ s`: decoding the product `p₁ * p₂` OF THE RING gives the slot-wise product. -/
theorem encode_mul_rpoly (hT : Valid T K) (hinv : TableInv (rho T.q T.rootsF) (2 ^ K)) (hK : 1 ≤ K)
    (u v buf1 buf2 pu pv : List ℕ) (su sv s len : ℕ)
    (hbuf1 : buf1.length = T.n) (hbuf2 : buf2.length = T.n)
    (hs : s % T.q = su * sv % T.q) (hsd : ¬ T.q ∣ s) (hlen : len ≤ T.n)
    (hencu : encodeRingTU T (permuteMatrix K) u su buf1 = some pu)
    (hencv : encodeRingTU T (permuteMatrix K) v sv buf2 = some pv) :
    WFq [T.q] T.n (plainPoly T.q pu) ∧ WFq [T.q] T.n (plainPoly T.q pv)
    ∧ decodeRingTU T (permuteMatrix K) s ((plainPoly T.q pu * plainPoly T.q pv).c.headD []) len
      = (List.zipWith (fun a b => a * b % T.q)
          ((u.map (· % T.q)) ++ List.replicate (T.n - u.length) 0)
          ((v.map (· % T.q)) ++ List.replicate (T.n - v.length) 0)).take len := by
  refine ⟨encode_wf hT _ u buf1 pu su hbuf1 hencu, encode_wf hT _ v buf2 pv sv hbuf2 hencv, ?_⟩
  rw [plainPoly_mul]
  have := encode_mul_T T K hT hinv (permuteMatrix K) u v buf1 buf2 pu pv su sv s len (permuteMatrix_nodup K hK)
    (permuteMatrix_lt_n hT hK) hbuf1 hbuf2 hs hsd hencu hencv
  rwa [permuteMatrix_length_n hT hK] at this

/-- … and, the ring being commutative, for the product taken in the other order: the SAME plaintext. -/
theorem encode_mul_rpoly_comm (hT : Valid T K) (perm u v buf1 buf2 pu pv : List ℕ) (su sv : ℕ)
    (hbuf1 : buf1.length = T.n) (hbuf2 : buf2.length = T.n)
    (hencu : encodeRingTU T perm u su buf1 = some pu) (hencv : encodeRingTU T perm v sv buf2 = some pv) :
    plainPoly T.q pu * plainPoly T.q pv = plainPoly T.q pv * plainPoly T.q pu := by
  have : Good [T.q] T.n := good_of_valid hT
  exact congrArg val (mul_comm (lift _ (encode_wf hT perm u buf1 pu su hbuf1 hencu))
    (lift _ (encode_wf hT perm v buf2 pv sv hbuf2 hencv)))

end

section driver
open Driver Driver.C07

/-- the `decode` handler computes `decodeU` / `decodeI` of the parsed `RPoly` `⟨P.qs, rows⟩` -/
theorem handleBgv_decode_calls (rest : List String) (P : Params) (scale batched len : ℕ) (kind : String)
    (rows : List (List ℕ))
    (h1 : params? rest = some P) (h2 : nat? rest "scale" = some scale) (h3 : nat? rest "batched" = some batched)
    (h4 : kv? rest "kind" = some kind) (h5 : nat? rest "len" = some len)
    (h6 : (kv? rest "rows").bind parseMat? = some rows) :
    handleBgv ("decode" :: rest)
      = some (if kind == "u" then showVec (decodeU P (batched == 1) scale { qs := P.qs, c := rows } len)
              else showIVec (decodeI P (batched == 1) scale { qs := P.qs, c := rows } len)) := by
  simp only [handleBgv, h1, h2, h3, h4, h5, h6, Option.bind_eq_bind, Option.bind_some, Option.pure_def]

end driver

section concrete

def T8 : Tables := mkTables (2 ^ 3) 97 (2 ^ (3 + 1)) 5

theorem T8_valid : Valid T8 3 ∧ TableInv (rho T8.q T8.rootsF) (2 ^ 3) :=
  have h := mkTables_all 3 97 5 (by norm_num) (by decide) (by decide) (by decide +kernel)
  ⟨h.1, h.2.1⟩

def pu8 : List ℕ := (encodeRingTU T8 (permuteMatrix 3) [3, 20, 16] 6 (List.replicate 8 9)).getD []
def pv8 : List ℕ := (encodeRingTU T8 (permuteMatrix 3) [2, 5, 16, 7] 15 (List.replicate 8 1)).getD []

/-- an instance of `encode_mul_rpoly` obtained FROM THE THEOREM (`s = 90 = 6·15`) -/
example : decodeRingTU T8 (permuteMatrix 3) 90 ((plainPoly 97 pu8 * plainPoly 97 pv8).c.headD []) 8
    = (List.zipWith (fun a b => a * b % 97)
        (([3, 20, 16] : List ℕ).map (· % 97) ++ List.replicate (8 - 3) 0)
        (([2, 5, 16, 7] : List ℕ).map (· % 97) ++ List.replicate (8 - 4) 0)).take 8 :=
  (encode_mul_rpoly T8_valid.1 T8_valid.2 (by norm_num) [3, 20, 16] [2, 5, 16, 7] (List.replicate 8 9)
    (List.replicate 8 1) pu8 pv8 6 15 90 8 rfl rfl (by decide) (by decide) (by decide)
    (by decide +kernel) (by decide +kernel)).2.2

/-- TEST (evaluation of the model): the decoded product is `[6, 3, 62, 0, …]`, the encodings are well formed -/
example : decodeRingTU T8 (permuteMatrix 3) 90 ((plainPoly 97 pu8 * plainPoly 97 pv8).c.headD []) 8
      = [6, 3, 62, 0, 0, 0, 0, 0]
    ∧ WFq [97] 8 (plainPoly 97 pu8) ∧ WFq [97] 8 (plainPoly 97 pv8) := by decide +kernel

end concrete

end Lattigo.EncoderT.C07Ring

#print axioms Lattigo.EncoderT.C07Ring.plainPoly_mul
#print axioms Lattigo.EncoderT.C07Ring.encode_wf
#print axioms Lattigo.EncoderT.C07Ring.encode_mul_rpoly
#print axioms Lattigo.EncoderT.C07Ring.encode_mul_rpoly_comm
#print axioms Lattigo.EncoderT.C07Ring.handleBgv_decode_calls
