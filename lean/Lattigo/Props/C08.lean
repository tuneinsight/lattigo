/-
  C08 — serialization is faithful, size-exact, stream-composable and fails cleanly.

  All statements are about the definitions of `Lattigo/Model/Codec.lean` that the driver executes
  (`enc`, `size`, `marshalBinary`, `dec`, `decC`, `decS`, `decMany`, `decInto`, `allocs`, `goFields`),
  for EVERY format `f : Fmt` (structural induction), hence for every serialisable lattigo type
  (`goTypes`, 34 Go types, all the types of /repo that have `WriteTo`/`ReadFrom`) and every value,
  of any size. The model follows /repo HEAD (fixes C08-A … C08-V committed); the tie lines
  (`enc size wt marshal dec decc decs many into fields`) check on every run that it does.

  PROVED FOR ALL INPUTS, by clause of the property text
    "exactly the announced number of bytes"
      size_exact, size_exact_wt      `BinarySize()` = bytes `WriteTo` writes, for every value that has
                                     the shape of its type (any combination of optional fields)
      marshal_binary_exact           `MarshalBinary` = those same bytes, `BinarySize()` of them
    "identical through every writing entry point"
      (the model has ONE encoder; that the entry points agree is probed: `writers_agree`,
       `window_write`, `writer_fails`; `marshal` is tied)
    "reading back reproduces the object and consumes exactly the bytes written; back-to-back"
      roundtrip, back_to_back        exact consumption, k objects on one stream
      signed_byte_roundtrip, signed_byte_range, signed_field_roundtrip   `LogDimensions`
    "into a fresh object or into one that previously held any other value"
      recv_indep                     for every lattigo type, every prior state of the receiver
      recv_indep_clean, recv_indep_fresh
    "does not depend on how the transport fragments the byte stream"
      short_count_indep              a transport returning ARBITRARY short counts (io.Reader
                                     contract) read through `io.ReadFull` loops: same value, same
                                     remainder, whatever the counts
      short_count_roundtrip          … and exactly `size f v` = `BinarySize()` bytes are consumed
      chunk_indep, chunked_roundtrip the same for the byte-wise read-full reader
      single_read_counterexample     the hypothesis "every block is read with a read-full loop" is
                                     needed: one `Read` per block decodes 258 or 2 from the same bytes
    "a stream that ends early … results in an error, never a partial object"
      trunc_err                      no proper prefix of an encoding is accepted
    "corrupted length field … never an unbounded allocation"
      bounded_alloc                  on EVERY input, requests ≤ max(input length, 2^20), for the
                                     reader that knows its unread bytes (`UnmarshalBinary`)
      bounded_alloc_honest           the checks never reject an honest input (its hypothesis `PosElems`
                                     holds of every lattigo format: `fmtOf_posElems`)
    completeness of the codec list
      codec_fields_complete          every serialisable Go type has a format, and its declared field
                                     list has exactly one Go field per value-carrying leaf of the
                                     format; the tie `fields` compares that list with Go reflection
    enc_bytes                        encodings are byte strings

  HYPOTHESES THE PROOFS FORCE, and the known findings behind them
    * `Shape`/`WT` ask opaque blocks to have the announced width. `rlwe.Scale` prints its numbers
      with `Text('e', 39)`, 45 characters only while the decimal exponent has two digits:
      KNOWN FINDING `C08/rlwe.Scale.BinarySize/assumes-two-digit-exponent`.
    * `WT` asks signed byte fields to be in [-128, 127] and block lengths ≤ 2^20: outside, the
      real encoders return an error (after fixes C08-U/V/C); the model's `enc` is only specified on `WT`.
    * `bounded_alloc` is about the reader that knows how many bytes are left; on a `bufio.Reader`
      a count cannot be checked before `make`:
      KNOWN FINDING `C08/structs.Vector.ReadFrom/unchecked-length`.

  TIED ONLY (model = code on the explored inputs): the byte layouts themselves (`enc`/`dec` of each
  format against `WriteTo`/`ReadFrom`), `size` against `BinarySize`, `decInto` against decoding into
  dirty receivers, `goFields` against reflection.
  PROBED ONLY (no model): bufio internals and reader buffer sizes (`reader_size`), `buffer.Buffer`
  windows (`window_write`), writer failures, panics/crashes on corrupted headers (`corrupt_length`),
  the JSON-only types (scheme `Parameters`, bootstrapping/mod1/dft literals), `math/big` number texts.
  NOT COVERED: `ReadFrom` on a plain `io.Reader` wraps a private `bufio.Reader` and reads ahead
  (documented by the library; KNOWN FINDING
  `C08/ReadFrom(io.Reader)/private-bufio-overreads-next-object`): exact reader position afterwards
  holds for `buffer.Reader`s only.
-/
import Lattigo.Proofs.Codec
import Lattigo.Proofs.CodecRecv
import Lattigo.Proofs.CodecAlloc
import Lattigo.Proofs.CodecStream

namespace Lattigo.C08
open Lattigo.Codec

/-! ### a small, concrete ciphertext (non-vacuity witness for every theorem below) -/

/-- the 45-character text `big.Float.Text('e', 39)` prints for 0 -/
def zeroText : Val := .bytes (strBytes "0.000000000000000000000000000000000000000e+00")
/-- metadata `Scale = (0, mod 0)`, `IsBatched`, `LogDimensions = (-1, 3)`, `IsNTT` -/
def metaEx : Val :=
  .pair (.pair (.pair zeroText zeroText) (.pair (.num 1) (.pair (.num 0) (.pair (.int (-1)) (.int 3)))))
    (.pair (.num 1) (.num 0))
/-- a degree-1 ciphertext at level 0 over `N = 2` with metadata -/
def ctEx : Val :=
  .pair (.some metaEx)
    (.list [.list [.list [.num 5, .num 18446744073709551615]], .list [.list [.num 0, .num 7]]])

theorem ctEx_wt : WT ciphertext ctEx := wtb_sound _ _ (by decide +kernel)

/-- a key of degree 1 (two polynomials per entry) that carries a seed, as a key expanded without
    clearing its seed does; not `WT` but `Shape`d. -/
def expandedKeyEx : Val :=
  .pair (.pair (.num 0) (.list [.list [.list [.pair (.list []) (.list []), .pair (.list []) (.list [])]]]))
    (.some (.bytes (List.replicate 32 7)))

/-- a plain (degree 1) key without seed, empty polynomials -/
def plainKeyEx : Val :=
  .pair (.pair (.num 0) (.list [.list [.list [.pair (.list []) (.list []), .pair (.list []) (.list [])]]]))
    .none

/-- a ciphertext without metadata, `N = 1` -/
def ctNoMeta : Val := .pair .none (.list [.list [.list [.num 4]]])

/-- `WriteTo` writes exactly `BinarySize()` bytes, for every value that has the
    shape of its type: no range condition, any combination of optional fields. -/
theorem size_exact (f : Fmt) (v : Val) (h : Shape f v) : (enc f v).length = size f v :=
  size_exact_shape f v h

theorem size_exact_wt (f : Fmt) (v : Val) (h : WT f v) : (enc f v).length = size f v :=
  Codec.size_exact f v h

theorem ctEx_size : size ciphertext ctEx = 1 + 277 + 8 + 2 * (8 + (8 + 2 * 8)) := by decide +kernel

example : (enc ciphertext ctEx).length = size ciphertext ctEx := size_exact_wt _ _ ctEx_wt
example : size ciphertext ctEx = 1 + 277 + 8 + 2 * (8 + (8 + 2 * 8)) := ctEx_size

/-- the expanded key that carries a seed (before fix C08-G `BinarySize` announces 32 bytes more
    for it than `WriteTo` writes) is covered by `size_exact`: it is not well-typed … -/
example : ¬ WT evalKey expandedKeyEx := by
  rintro ⟨x, y, hv, _, ⟨hp, _⟩ | ⟨_, hn⟩⟩ <;> cases hv
  · exact absurd hp (by decide)
  · cases hn

/-- … but it has the shape of a key, and its announced size is what is written. -/
example : (enc evalKey expandedKeyEx).length = size evalKey expandedKeyEx := by decide +kernel

/-- Decoding the encoding of `v` followed by any bytes `rest` gives back `v`
    and leaves exactly `rest`. -/
theorem roundtrip (f : Fmt) (v : Val) (rest : List Nat) (h : WT f v) :
    dec f (enc f v ++ rest) = some (v, rest) :=
  Codec.roundtrip f v rest h

example : dec ciphertext (enc ciphertext ctEx ++ [1, 2, 3]) = some (ctEx, [1, 2, 3]) :=
  roundtrip _ _ _ ctEx_wt

/-- Any number of objects written one after the other are read back one
    after the other, in order, consuming exactly what was written. -/
theorem back_to_back (f : Fmt) (vs : List Val) (rest : List Nat) (h : ∀ v ∈ vs, WT f v) :
    decMany f vs.length ((vs.map (enc f)).flatten ++ rest) = some (vs, rest) :=
  decN_flatten (dec f) (enc f) vs (fun x hx r => Codec.roundtrip f x r (h x hx)) rest

example : decMany ciphertext 3 (enc ciphertext ctEx ++ enc ciphertext ctEx ++ enc ciphertext ctEx)
    = some ([ctEx, ctEx, ctEx], []) := by
  have := back_to_back ciphertext [ctEx, ctEx, ctEx] [] (by
    intro v hv; simp at hv; subst hv; exact ctEx_wt)
  simpa using this

/-- Every proper prefix of an encoding is rejected: never a partial object. -/
theorem trunc_err (f : Fmt) (v : Val) (k : Nat) (h : WT f v) (hk : k < (enc f v).length) :
    dec f ((enc f v).take k) = none :=
  Codec.trunc_err f v k h hk

example : dec ciphertext ((enc ciphertext ctEx).take 300) = none :=
  trunc_err _ _ _ ctEx_wt (by rw [Codec.size_exact _ _ ctEx_wt, ctEx_size]; decide)

/-- The decoded value and the unread remainder depend only on the
    concatenation of the chunks. -/
theorem chunk_indep (f : Fmt) (cs₁ cs₂ : List (List Nat)) (h : cs₁.flatten = cs₂.flatten) :
    (decC f cs₁).map (fun p => (p.1, p.2.flatten)) = (decC f cs₂).map (fun p => (p.1, p.2.flatten)) := by
  rw [decC_eq_dec, decC_eq_dec, h]

/-- However `enc f v ++ rest` is cut into chunks, the chunked decoder
    returns `v` and a remainder whose concatenation is `rest`. -/
theorem chunked_roundtrip (f : Fmt) (v : Val) (rest : List Nat) (cs : List (List Nat))
    (h : WT f v) (hcs : cs.flatten = enc f v ++ rest) :
    (decC f cs).map (fun p => (p.1, p.2.flatten)) = some (v, rest) := by
  rw [decC_eq_dec, hcs, Codec.roundtrip f v rest h]

example : (decC u64 [[1], [], [0, 0], [0, 0, 0, 0, 0, 9]]).map (fun p => (p.1, p.2.flatten))
    = some (.num 1, [9]) :=
  chunked_roundtrip u64 (.num 1) [9] _ (by simp [u64, WT]) (by decide)

/-- `decS` reads every fixed-width block with an `io.ReadFull` loop over a
    transport that returns arbitrary short counts (`readOnce`; `readFullLoop_step`). Whatever the
    counts — two deliveries `cs₁`, `cs₂` of the same bytes — the decoded value and the unread
    remainder are the same, and they are what the flat decoder gives on the bytes. -/
theorem short_count_indep (f : Fmt) (cs₁ cs₂ : List (List Nat)) (h : cs₁.flatten = cs₂.flatten) :
    (decS f cs₁).map (fun p => (p.1, p.2.flatten)) = (decS f cs₂).map (fun p => (p.1, p.2.flatten)) ∧
    (decS f cs₁).map (fun p => (p.1, p.2.flatten)) = dec f cs₁.flatten := by
  rw [decS_eq_dec, decS_eq_dec, h]; exact ⟨rfl, rfl⟩

/-- However the transport cuts `enc f v ++ rest`, the decoder returns
    `v`, leaves exactly `rest` unread, and has consumed exactly `size f v` (`BinarySize()`) bytes. -/
theorem short_count_roundtrip (f : Fmt) (v : Val) (rest : List Nat) (cs : List (List Nat))
    (h : WT f v) (hcs : cs.flatten = enc f v ++ rest) :
    ∃ cs', decS f cs = some (v, cs') ∧ cs'.flatten = rest ∧
      cs.flatten.length - cs'.flatten.length = size f v := by
  have h1 := decS_eq_dec f cs
  rw [hcs, Codec.roundtrip f v rest h] at h1
  obtain ⟨⟨v', cs'⟩, hd, he⟩ := Option.map_eq_some_iff.mp h1
  obtain ⟨rfl, rfl⟩ : v' = v ∧ cs'.flatten = rest := Prod.mk.inj he
  exact ⟨cs', hd, rfl, by rw [hcs, List.length_append, Codec.size_exact f _ h]; omega⟩

theorem flatten_singletons (l : List Nat) : (l.map fun b => [b]).flatten = l := by
  induction l with
  | nil => rfl
  | cons b l ih => simp [ih]

/-- delivered one byte at a time -/
example : ∃ cs', decS ciphertext ((enc ciphertext ctEx).map fun b => [b]) = some (ctEx, cs') ∧
    cs'.flatten = [] ∧
    ((enc ciphertext ctEx).map fun b => [b]).flatten.length - cs'.flatten.length = size ciphertext ctEx :=
  short_count_roundtrip ciphertext ctEx [] _ ctEx_wt (by rw [flatten_singletons]; simp)

/-- The read-full loop is necessary: a decoder that issues ONE
    `Read` per block and does not look at the count (`readSingle`; the pattern of `MetaData.ReadFrom` and
    `Parameters.ReadFrom` before fixes C08-B/C, and of `buffer.ReadUint8Slice`, finding
    `C08/buffer.ReadUint8Slice/single-Read-call-short-read`) decodes the same two bytes to 258 or to
    2 depending on how they are delivered. -/
theorem single_read_counterexample :
    [[2, 1]].flatten = [[2], [1]].flatten ∧
    (decG readSingle u16 [[2, 1]]).map (fun p => p.1) = some (.num 258) ∧
    (decG readSingle u16 [[2], [1]]).map (fun p => p.1) = some (.num 2) :=
  ⟨rfl, rfl, rfl⟩

/-- For every value that has the shape of its type, `MarshalBinary`
    (a buffer of `BinarySize()` bytes filled by `WriteTo`, returned whole) is exactly the bytes
    `WriteTo` writes, and there are `BinarySize()` of them. -/
theorem marshal_binary_exact (f : Fmt) (v : Val) (h : Shape f v) :
    marshalBinary f v = some (enc f v) ∧ (enc f v).length = size f v :=
  have hs := size_exact_shape f v h
  ⟨by simp [marshalBinary, hs], hs⟩

example : marshalBinary ciphertext ctEx = some (enc ciphertext ctEx) :=
  (marshal_binary_exact _ _ (WT_shape _ _ ctEx_wt)).1

/-- Every serialisable Go type (`goTypes`: the 34 types with
    `WriteTo`/`ReadFrom`, incl. the generic containers) has an entry in `goFields` whose format
    exists and whose list of serialised Go fields has exactly one entry per value-carrying leaf of
    that format. The tie `fields` checks on every run that this list, plus the declared derived
    fields, is exactly what Go reflection finds in the type. -/
theorem codec_fields_complete (g : String) (hg : g ∈ goTypes) :
    ∃ ty ser der f, goFields g = some (ty, ser, der) ∧ fmtOf ty = some f ∧ ser.length = leafCount f := by
  have h := fields_complete g hg
  unfold fieldsOK at h
  split at h
  · rename_i ty ser der hgf
    split at h
    · rename_i f hf
      exact ⟨ty, ser, der, f, hgf, hf, by simpa using h⟩
    · simp at h
  · simp at h

example : ∃ ty ser der f, goFields "rlwe.Ciphertext" = some (ty, ser, der) ∧ fmtOf ty = some f ∧
    ser.length = leafCount f := codec_fields_complete _ (by decide +kernel)
example : leafCount ciphertext = 9 := by decide

/-- All entries of an encoding are `< 256` (given byte literals in the format
    and byte blocks in the value). -/
theorem enc_bytes (f : Fmt) (v : Val) (hf : FmtBytes f) (hv : ValBytes f v) : IsBytes (enc f v) :=
  enc_isBytes f v hf hv

/-! ### signed one-byte fields (`PlaintextMetaData.LogDimensions`) -/

/-- The convention of the wire format: an `int` in `[-128, 127]` is
    stored as its two's-complement byte (`uint8(z)`) and read back with `int(int8(b))`; this is
    the identity on the whole signed range. -/
theorem signed_byte_roundtrip (z : Int) (h1 : -128 ≤ z) (h2 : z ≤ 127) :
    toByte z < 256 ∧ fromByte (toByte z) = z :=
  ⟨toByte_lt z, fromByte_toByte z h1 h2⟩

/-- Conversely every byte decodes into `[-128, 127]` and re-encodes to
    itself: the decoder can never produce `256 + v` for a negative `v`. -/
theorem signed_byte_range (n : Nat) (h : n < 256) :
    -128 ≤ fromByte n ∧ fromByte n ≤ 127 ∧ toByte (fromByte n) = n :=
  ⟨(fromByte_range n h).1, (fromByte_range n h).2, toByte_fromByte n h⟩

/-- The field as it sits on the wire (two hex digits). -/
theorem signed_field_roundtrip (z : Int) (h1 : -128 ≤ z) (h2 : z ≤ 127) (rest : List Nat) :
    dec .shex2 (enc .shex2 (.int z) ++ rest) = some (.int z, rest) :=
  Codec.roundtrip .shex2 (.int z) rest ⟨z, rfl, h1, h2⟩

example : enc .shex2 (.int (-1)) = strBytes "ff" ∧ enc .shex2 (.int (-128)) = strBytes "80" ∧
    enc .shex2 (.int 127) = strBytes "7f" := by decide
example : dec .shex2 (strBytes "ff") = some (.int (-1), []) := by rfl
/-- outside the range the encoder (Go `uint8(z)`) truncates: 200 comes back as -56. This is why
    `WT` asks for `[-128, 127]` (see the probe `byte_field_range`). -/
example : dec .shex2 (enc .shex2 (.int 200)) = some (.int (-56), []) := by rfl

/-- On EVERY input `bs`, every allocation the decoder requests before
    having read the data is at most `max bs.length 2^20` elements (the reader knows how many
    bytes are left: `UnmarshalBinary`, `ReadFrom(*buffer.Buffer)`). -/
theorem bounded_alloc (f : Fmt) (bs : List Nat) : ∀ a ∈ allocs f bs, a ≤ max bs.length blockMax :=
  allocs_bounded f bs

/-- a count of 2^40 with no data behind it: `Vector[uint64].ReadFrom` requests nothing and rejects
    it (before fix C08-P it requests 2^40 slots). -/
example : allocs (vecOf u64) (leBytes 8 (2 ^ 40)) = [] ∧ dec (vecOf u64) (leBytes 8 (2 ^ 40)) = none := by
  constructor <;> rfl

/-- The checks never reject an honest input: on the encoding of a
    well-typed value (followed by anything) the requests are exactly the element counts of
    the slices and blocks of the value. -/
theorem bounded_alloc_honest (f : Fmt) (hp : PosElems f) (v : Val) (rest : List Nat) (h : WT f v) :
    allocs f (enc f v ++ rest) = lens f v :=
  allocs_honest f hp v rest h

example : allocs ciphertext (enc ciphertext ctEx) = [2, 1, 2, 1, 2] := by
  rw [← List.append_nil (enc ciphertext ctEx),
    bounded_alloc_honest _ posElems_ciphertext _ _ ctEx_wt]; decide

/-- The decoder run on a freshly allocated object computes `dec`. -/
theorem recv_indep_fresh (f : Fmt) (bs : List Nat) : decInto f .unit bs = dec f bs :=
  decInto_fresh f bs

/-- For every format without sticky flags, kept optionals, merging maps
    and kept conditional suffixes, the decoder's result does not depend on the receiver. -/
theorem recv_indep_clean (f : Fmt) (hc : Clean f) (r : Val) (bs : List Nat) :
    decInto f r bs = dec f bs :=
  decInto_clean f hc r bs

/-- For every lattigo type, every prior state `r` of the receiving object and
    every input: decoding into the object gives what decoding the bytes alone gives. -/
theorem recv_indep (name : String) (f : Fmt) (hf : fmtOf name = some f) (r : Val) (bs : List Nat) :
    decInto f r bs = dec f bs :=
  decInto_clean f (fmtOf_clean name f hf) r bs

/-- receivers holding flags, metadata, a seed or a map entry that the input does not have: nothing
    of it stays (before fixes C08-D/E/F/J/K/L it does). -/
example : decInto ctMeta (.pair (.num 1) (.num 0)) (enc ctMeta (.pair (.num 0) (.num 0)))
    = some (.pair (.num 0) (.num 0), []) := by
  rw [recv_indep_clean _ (by decide), ← List.append_nil (enc _ _)]
  exact roundtrip _ _ _ (wtb_sound _ _ (by decide +kernel))
example : decInto ciphertext ctEx (enc ciphertext ctNoMeta) = some (ctNoMeta, []) := by rfl
example : decInto evalKey expandedKeyEx (enc evalKey plainKeyEx) = some (plainKeyEx, []) := by rfl
example : decInto (mapOf u8) (.list [.pair (.num 3) (.num 9)]) (enc (mapOf u8) (.list [.pair (.num 5) (.num 1)]))
    = some (.list [.pair (.num 5) (.num 1)], []) := by rfl
example (r : Val) (bs : List Nat) : decInto ciphertext r bs = dec ciphertext bs :=
  recv_indep "ct" ciphertext rfl r bs

/-- the leaky decoder flavours are expressible, and they do leak: a `sticky` flag (the
    decoder of `CiphertextMetaData` before fix C08-D) keeps a flag that is set in the receiver. -/
example : decInto (.hex2 .sticky) (.num 1) [48, 48] = some (.num 1, []) ∧
    dec (.hex2 .sticky) [48, 48] = some (.num 0, []) := by constructor <;> rfl

end Lattigo.C08

#print axioms Lattigo.C08.ctEx_wt
#print axioms Lattigo.C08.size_exact
#print axioms Lattigo.C08.size_exact_wt
#print axioms Lattigo.C08.roundtrip
#print axioms Lattigo.C08.back_to_back
#print axioms Lattigo.C08.trunc_err
#print axioms Lattigo.C08.chunk_indep
#print axioms Lattigo.C08.chunked_roundtrip
#print axioms Lattigo.C08.short_count_indep
#print axioms Lattigo.C08.short_count_roundtrip
#print axioms Lattigo.C08.single_read_counterexample
#print axioms Lattigo.C08.marshal_binary_exact
#print axioms Lattigo.C08.codec_fields_complete
#print axioms Lattigo.C08.enc_bytes
#print axioms Lattigo.C08.signed_byte_roundtrip
#print axioms Lattigo.C08.signed_byte_range
#print axioms Lattigo.C08.signed_field_roundtrip
#print axioms Lattigo.C08.bounded_alloc
#print axioms Lattigo.C08.bounded_alloc_honest
#print axioms Lattigo.C08.recv_indep_fresh
#print axioms Lattigo.C08.recv_indep_clean
#print axioms Lattigo.C08.recv_indep
