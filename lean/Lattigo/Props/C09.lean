/-
  C09 — operations leave their inputs intact and are insensitive to output aliasing / history.

  What is proved here is about `Lattigo/Model/Store.lean`: a transcription of the READ/WRITE ORDER of
  the Go routines that branch on pointer identity or write the output before they have finished
  reading an operand, over abstract locations (roles `op0 op1 out` mapped to objects by an aliasing
  pattern, evaluator scratch buffers with ARBITRARY prior content) and UNINTERPRETED arithmetic
  (`Interp.fn : Fn → List α → α` is universally quantified; the few algebraic laws a routine relies
  on when it swaps operands / takes the squaring path are explicit hypotheses, `TensorLaws`,
  `ScaleLaws`, and are shown to hold for the driver's `Int` interpretation).

  Theorem shape (`…_alias_sound`): for every aliasing pattern the routine accepts, every store
  (hence every scratch content and every previous content of a distinct output):
     store'[out] = F(store[op0], store[op1])  ∧  ∀ x ∉ {out} ∪ scratch, store'[x] = store[x]
  with F the closed form of the all-distinct run.

  Where a version of the code is NOT alias-safe / input-preserving / history-free the negation is proved
  (`…_counterexample`) together with the exact value that version computes.  The programs of the model are those of
  HEAD of /repo; the version before the commit named is modelled beside it under the name given:
    * bgv.tensorScaleInvariant, out = op1      — output Scale = sinv(scale0, scale0)
                                                 [before a817070: `bgvTensorSIProgOld`]
    * bgv.matchScaleThenEvaluateInPlace, out = op1 — op1 overwritten before it is read
                                                 [before 48fb64a: `bgvMatchScaleProgOld`]
    * bgv.Add / bgv.Mul (*big.Int)             — caller's big.Int rewritten   [before 914a9ce: `bgvAddBigProgOld`, `bgvMulBigProgOld`]
    * ring.DivRoundByLastModulus               — input polynomial rewritten   [before 64e1afc: `divRoundProgOld`]
    * ct+ct Add/Sub into an output of larger previous degree — stale polynomial kept  [before fix C09-2: `addIntoOld`]
    * ckks/bgv Mul, MulRelin (and MulThenAdd, MulRelinThenAdd) of two degree-1 ciphertexts into a receiver of
      degree 0 — PANIC: `c0, c1 = opOut.Value[0], opOut.Value[1]` taken before the receiver is resized
      [before e9e846c (patch fixes/C09-6): `tensorGenD`; HEAD: `tensorGenDFixed`; `tensor_receiver_degree0_counterexample`]
    * rlwe.Element.Resize testing the level of `Value[0]` only: a receiver whose `Value[0]` already is at the target
      level keeps the other polynomials at their level (longer: stale limbs; shorter: the operation panics)
      [before 114cfa0 (patch fixes/C09-7): `resizeShape` / `shapeAfter`; HEAD: `resizeShapeFixed` / `shapeAfterFixed`;
       `resize_level_malformed_counterexample`, hypothesis of `history_free_level`; `history_free_level_fixed` has none]
  Each is replayed on the real code by a harness probe (harness/c09.go, c09_degree.go).

  Degrees: `ckksAddProg` (ckks.Add/Sub, element operand) and `tensorGenD` (ckks.mulRelin, bgv.tensorStandard) take
  the degree of every object (0, 1 or 2) and thread it through `Element.Resize`; the `alias_sound_*_degrees`
  theorems hold for EVERY assignment of degrees ≤ 2 to the three objects (operands and previous receiver).
  Levels: `OpS.shapeAfter` follows the `Resize` calls of every modelled operation on the list of the levels of the
  receiver's polynomials; `history_free_level`: after an accepted call all of them are at the documented level.
  PartialTracesSum: alias soundness and independence from buffers/receiver for EVERY n ≥ 1 (loop invariant of
  the log n + HW(n) tree in Proofs/StorePTS.lean).

  Metadata: `initBinaryMeta` / `initUnaryMeta` (InitOutputBinaryOp / InitOutputUnaryOp) write IsNTT, IsBatched and the two
  components of LogDimensions of the receiver field by field; every binary `Op` executes them before its arithmetic
  (`Op.prog = metaProg ++ valueProg`), and the `alias` tie compares these fields too (`Op.outFields`); the harness
  runs the alias patterns with operands whose LogDimensions differ, in both orders.  `alias_sound_meta`: aliased =
  fresh for the metadata component of every such operation.

  Frame and history-freeness are GENERAL theorems over the program syntax (Proofs/Store.lean, StoreFrame.lean): `frame_general`
  (`Prog.writesWithin`), `history_free_general` (`Prog.readsFrom`), instantiated for EVERY modelled operation:
  `inputs_unchanged_modelled` (any objects in the roles, any store, any n, any number of digits),
  `frame_ckks_addSub_all_degrees` / `frame_tensor_all_degrees` (every degree, no bound), `history_free_modelled`.
  Operation families beyond the evaluators: `encryptSkProg` (Encrypt under a secret key into a reused receiver),
  `decryptProg` (NTT and coefficient domain), `ckgGenShareProg`, `evkGenShareProg` (with / without auxiliary modulus,
  any number of base-two digits) — transcribed from core/rlwe/encryptor.go, decryptor.go, multiparty/keygen_cpk.go,
  keygen_evk.go; ties `inputs <op>`, `hist <op>`.

  The `example`s between the theorems show that the hypotheses of the theorem above them can be met (for the `Int`
  interpretation of the driver, or a concrete pattern).

  STATUS.  Proved for all inputs (uninterpreted arithmetic, every store): all `alias_sound_*`, `frame_*`,
  `inputs_unchanged_modelled`, `history_free_*`, `alias_sound_meta`, the `*_counterexample`s.  Under named hypotheses:
  `TensorLaws`, `ScaleLaws`, `DegLaws`, `hcopy` (algebraic laws of the ring / scale arithmetic the routines rely on when
  they swap operands; discharged for the driver's `Int` interpretation in Proofs/StoreInt.lean, not for RNS
  polynomials); `alias_sound_*_degrees` for degrees ≤ 2 (`hdeg`; the frame theorems have no bound);
  `history_free_modelled` for EvaluationKeyGenProtocol.GenShare with ≤ 3 digits (`hev`, which its proof does not use:
  `modelled_readsFrom` of Proofs/StoreFrame.lean holds for any number of digits; frame: any number).
  Tied only (model = code on the explored calls): the outcome classes `alias`, `inputs`, `hist`, `addhist`, `aliasd`,
  `shape` — that the transcribed read/write order IS the code's is what the tie checks.
  Probed only (no model): every other public operation (rotations, rescaling, linear transformations, polynomial
  evaluators incl. two PolynomialVector evaluations with different slot mappings, rgsw, ring.Div*, encoders, key
  generator, EVERY function of every multiparty protocol: `inputs_unchanged` of all arguments incl. secret keys and
  CRPs); `alias_naming/…` (the receiver named as the SAME object through `x.El()` / an rlwe.ElementInterface);
  `output_independent/…` (no shared polynomial storage / MetaData struct between output and inputs, incl. degenerate
  arguments and the …New forms).  A SECOND HEADER over the same storage (`&rlwe.Ciphertext{Element: *x.El()}`) is another
  object: statistics `second_header_*` only (fixes/not-applied/C09-8).

  Not covered: coefficient-level aliasing inside one ring operation (C01); degrees ≥ 3 in the value theorems (but
  `ckksAdd_sound` of Proofs/StoreDeg.lean: ckks.Add/Sub for every degree below `fScale` and every assignment of
  objects other than the scratch `bct`); the CONTENT of the limbs a level change drops or appends
  (`ring.Poly.Resize`, probes only); public-key encryption, the hoisted /
  lazy linear-transformation paths and the polynomial evaluators have no Store program; "all histories of previous
  calls" is covered by the arbitrary initial store of the theorems for modelled operations and by sampled histories
  (used + poisoned evaluator, reused receivers) for the others.
-/
import Lattigo.Proofs.StoreInt
import Lattigo.Proofs.StorePTS
import Lattigo.Proofs.StoreShape
import Lattigo.Proofs.StoreMeta
import Lattigo.Proofs.StoreFrame

namespace Lattigo.Props.C09
open Lattigo.Store

variable {α : Type}

/-- ckks.Evaluator.evaluateInPlace (Add/Sub with scale alignment): all five patterns. -/
theorem alias_sound_ckks_evaluateInPlace (I : Interp α) (h : ScaleLaws I) (al : Alias) (σ : Store α) :
    let p := al.pat
    let σ' := ckksEval I p σ
    let sa := σ (L p.op0 fScale); let sb := σ (L p.op1 fScale)
    σ' (L p.out 0) = ckksEvalF I (I.cmp sa sb) sa sb (σ (L p.op0 0)) (σ (L p.op1 0)) ∧
    σ' (L p.out 1) = ckksEvalF I (I.cmp sa sb) sa sb (σ (L p.op0 1)) (σ (L p.op1 1)) ∧
    σ' (L p.out fScale) = I.fn .smax [sa, sb] ∧
    ∀ x, Untouched p x → σ' x = σ x := by
  have frame : ∀ (p : Pat) (c : Ordering), (ckksEvalProg p c).writesWithin (evalObjs p) = true → ∀ x, Untouched p x →
      run I (ckksEvalProg p c) σ x = σ x := fun p c hw x hx => Untouched.frame I hw σ x hx
  cases al
  case op0Op1 | allEq =>
    simp only [ckksEval, Alias.pat, h.cmpRefl]
    exact ⟨rfl, rfl, rfl, frame _ _ rfl⟩
  all_goals
    simp only [ckksEval, Alias.pat]
    rcases hc : I.cmp (σ.get (L 0 fScale)) (σ.get (L 1 fScale)) with _ | _ | _ <;>
    refine ⟨rfl, rfl, ?_, frame _ _ rfl⟩
  all_goals first | rfl | skip
  -- the operand that is the receiver was rescaled in place and has taken the scale of the other
  · show I.fn .smax [I.fn .copy [σ ⟨1, fScale⟩], σ ⟨1, fScale⟩] = _
    rw [h.copyId, h.maxIdem, h.maxLt _ _ hc]; rfl
  · show I.fn .smax [σ ⟨0, fScale⟩, I.fn .copy [σ ⟨0, fScale⟩]] = _
    rw [h.copyId, h.maxIdem, h.maxGt _ _ hc]; rfl

example : ScaleLaws intI := intI_scaleLaws

/-- ckks.mulRelin (relin = false), all five patterns. -/
theorem alias_sound_ckks_mul (I : Interp α) (h : TensorLaws I .mform) (al : Alias) (σ : Store α) : type_of% (tensor_alias_sound I .mform h al σ) :=
  tensor_alias_sound I .mform h al σ

/-- ckks.mulRelin (relin = true), all five patterns. -/
theorem alias_sound_ckks_mulRelin (I : Interp α) (h : TensorLaws I .mform) (al : Alias) (σ : Store α) : type_of% (tensorRelin_alias_sound I .mform h al σ) :=
  tensorRelin_alias_sound I .mform h al σ

/-- bgv.tensorStandard, without / with relinearisation, all five patterns. -/
theorem alias_sound_bgv_tensorStandard (I : Interp α) (h : TensorLaws I .mulT) (al : Alias) (σ : Store α) : type_of% (tensor_alias_sound I .mulT h al σ) :=
  tensor_alias_sound I .mulT h al σ

theorem alias_sound_bgv_tensorStandard_relin (I : Interp α) (h : TensorLaws I .mulT) (al : Alias)
    (σ : Store α) : type_of% (tensorRelin_alias_sound I .mulT h al σ) := tensorRelin_alias_sound I .mulT h al σ

example : TensorLaws intI .mform := intI_tensorLaws_mform
example : TensorLaws intI .mulT := intI_tensorLaws_mulT

/-- bgv.tensorScaleInvariant: the three polynomials are right under all five patterns … -/
theorem alias_sound_bgv_tensorScaleInvariant_poly (I : Interp α) (h : TensorLaws I .mform)
    (hM : TensorLaws I .mformM) (al : Alias) (σ : Store α) : type_of% (bgvTensorSI_poly_alias_sound I h hM al σ) := bgvTensorSI_poly_alias_sound I h hM al σ

example : TensorLaws intI .mformM := intI_tensorLaws_mformM

/-- … and so is the output scale (HEAD, commit a817070: `ct1.Scale`, not `tmp1Q0.Scale`). -/
theorem alias_sound_bgv_tensorScaleInvariant_scale (I : Interp α) (relin : Bool) (al : Alias) (σ : Store α) :
    run I (bgvTensorSIProg relin al.pat) σ (L al.pat.out fScale) =
      I.fn .sinv [σ (L al.pat.op0 fScale), σ (L al.pat.op1 fScale)] := by
  cases al <;> cases relin <;> rfl

/-- BEFORE commit a817070 (`bgvTensorSIProgOld`) the scale was right under every pattern except `out = op1` … -/
theorem alias_sound_bgv_tensorScaleInvariant_scale_partial (I : Interp α) (relin : Bool) (al : Alias)
    (hal : al ≠ .outOp1) (σ : Store α) :
    run I (bgvTensorSIProgOld relin al.pat) σ (L al.pat.out fScale) =
      I.fn .sinv [σ (L al.pat.op0 fScale), σ (L al.pat.op1 fScale)] := by
  cases al <;> cases relin <;> first | exact absurd rfl hal | rfl

example : Alias.outOp0 ≠ Alias.outOp1 := by decide

/-- … and WRONG for `out = op1`: the full statement was false of the code before the fix. -/
theorem bgv_tensorScaleInvariant_outOp1_counterexample :
    ∃ σ : Store Int, run intI (bgvTensorSIProgOld false Alias.outOp1.pat) σ (L 1 fScale) ≠
      intI.fn .sinv [σ (L 0 fScale), σ (L 1 fScale)] := by
  refine ⟨testStore, ?_⟩
  rw [bgvTensorSIOld_outOp1_scale]
  decide

/-- bgv.matchScaleThenEvaluateInPlace (HEAD, commit 48fb64a: `el1` is copied first when it is the
    receiver): sound for all five patterns. -/
theorem alias_sound_bgv_matchScale (I : Interp α) (hcopy : ∀ x, I.fn .copy [x] = x) (al : Alias) (σ : Store α) :
    type_of% (bgvMatchScale_alias_sound I hcopy al σ) := bgvMatchScale_alias_sound I hcopy al σ

/-- BEFORE commit 48fb64a (`bgvMatchScaleProgOld`): sound for distinct / out = op0 / op0 = op1 only … -/
theorem alias_sound_bgv_matchScale_partial (I : Interp α) (al : Alias)
    (hal : al ≠ .outOp1 ∧ al ≠ .allEq) (σ : Store α) :
    type_of% (bgvMatchScaleOld_alias_sound I al hal σ) := bgvMatchScaleOld_alias_sound I al hal σ

example : Alias.outOp0 ≠ Alias.outOp1 ∧ Alias.outOp0 ≠ Alias.allEq := by decide

/-- … FALSE for `out = op1` (which bgv.Add/Sub accepted without error). -/
theorem bgv_matchScale_outOp1_counterexample :
    ∃ σ : Store Int, run intI (bgvMatchScaleProgOld Alias.outOp1.pat) σ (L 1 0) ≠
      matchF intI (σ (L 0 fScale)) (σ (L 1 fScale)) (σ (L 0 0)) (σ (L 1 0)) := by
  refine ⟨testStore, ?_⟩
  rw [bgvMatchScaleOld_outOp1_value _ _ 0 (Or.inl rfl)]
  decide

/-- bgv.Add / bgv.Mul (*big.Int) (since commits 914a9ce, 5801a27): right result, receiver scale set,
    the caller's number intact. -/
theorem bgv_addBigInt_sound (I : Interp α) (hcopy : ∀ x, I.fn .copy [x] = x) (al : Alias)
    (hal : al = .distinct ∨ al = .outOp0) (σ : Store α) :
    type_of% (bgvAddBig_sound I hcopy al hal σ) := bgvAddBig_sound I hcopy al hal σ

theorem bgv_mulBigInt_sound (I : Interp α) (al : Alias) (hal : al = .distinct ∨ al = .outOp0) (σ : Store α) :
    type_of% (bgvMulBig_sound I al hal σ) := bgvMulBig_sound I al hal σ

/-- BEFORE commit 914a9ce (`…ProgOld`) the caller's big.Int was rewritten. -/
theorem bgv_addBigInt_inputs_counterexample :
    ∃ σ : Store Int, run intI (bgvAddBigProgOld Alias.distinct.pat) σ (L bigArg 0) ≠ σ (L bigArg 0) := by
  refine ⟨testStore, ?_⟩
  rw [bgvAddBigOld_result]
  decide

theorem bgv_mulBigInt_inputs_counterexample :
    ∃ σ : Store Int, run intI (bgvMulBigProgOld Alias.distinct.pat) σ (L bigArg 0) ≠ σ (L bigArg 0) := by
  refine ⟨testStore, ?_⟩
  rw [bgvMulBigOld_result]
  decide

/-- rlwe.Evaluator.Automorphism: distinct and in-place. -/
theorem alias_sound_rlwe_automorphism (I : Interp α) (al : Alias) (hal : al = .distinct ∨ al = .outOp0)
    (σ : Store α) : type_of% (rlweAut_alias_sound I al hal σ) := rlweAut_alias_sound I al hal σ

/-- rlwe.PartialTracesSum (InnerSum/Replicate): for EVERY n and pattern only `out`, BuffCt, BuffQP are written. -/
theorem rlwe_partialTracesSum_frame (I : Interp α) (n : Nat) (p : Pat) (σ : Store α) (x : Loc)
    (hx : x.obj ≠ p.out ∧ x.obj ≠ bqp ∧ x.obj ≠ bct) : run I (rlwePTSProg n p) σ x = σ x :=
  writesWithin_frame I _ _ (rlwePTSProg_writes n p) σ x (by simpa using hx)

/-- rlwe.PartialTracesSum, EVERY n ≥ 1: the call with `opOut == ctIn` (object 0) yields in every result field
    what the call with a distinct receiver (object 2) yields; the two stores only have to agree on the INPUT
    object — the previous content of the evaluator buffers and of the distinct receiver is arbitrary in both. -/
theorem alias_sound_rlwe_partialTracesSum (I : Interp α) (hcopy : ∀ x, I.fn .copy [x] = x)
    (n : Nat) (hn : 1 ≤ n) (σ σd : Store α) (hagree : ∀ x : Loc, x.obj = 0 → σd x = σ x) (f : Nat)
    (hf : f = 0 ∨ f = 1 ∨ f = fScale ∨ f = fMeta) :
    run I (rlwePTSProg n Alias.outOp0.pat) σ (L 0 f) = run I (rlwePTSProg n Alias.distinct.pat) σd (L 2 f) := by
  rw [rlwePTS_alias_sound I hcopy n hn σ σ (fun _ _ => rfl) f hf]
  exact (rlwePTS_history_free I n hn Alias.distinct.pat σd σ hagree f hf).symm

/-- rlwe.PartialTracesSum is history-free, every n ≥ 1, every pattern: the result fields depend on the fields
    of the input object only (no residue of BuffCt / BuffQP / the receiver). -/
theorem history_free_rlwe_partialTracesSum (I : Interp α) (n : Nat) (hn : 1 ≤ n) (p : Pat) (σ σ' : Store α)
    (h : ∀ x : Loc, x.obj = p.op0 → σ x = σ' x) (f : Nat) (hf : f = 0 ∨ f = 1 ∨ f = fScale ∨ f = fMeta) :
    run I (rlwePTSProg n p) σ (L p.out f) = run I (rlwePTSProg n p) σ' (L p.out f) :=
  rlwePTS_history_free I n hn p σ σ' h f hf

/-- the instance n ≤ 8 of `rlwePTS_alias_sound`, with stores that agree everywhere but on the distinct receiver
    (the bound `n ≤ 8` is not used). -/
theorem alias_sound_rlwe_partialTracesSum_partial (I : Interp α) (hcopy : ∀ x, I.fn .copy [x] = x)
    (n : Nat) (hn : 1 ≤ n ∧ n ≤ 8) (σ σd : Store α) (hagree : ∀ x, x.obj ≠ 2 → σd x = σ x) (f : Nat)
    (hf : f = 0 ∨ f = 1 ∨ f = fScale ∨ f = fMeta) :
    run I (rlwePTSProg n Alias.outOp0.pat) σ (L 0 f) = run I (rlwePTSProg n Alias.distinct.pat) σd (L 2 f) :=
  rlwePTS_alias_sound I hcopy n hn.1 σ σd hagree f hf

example : (1 : Nat) ≤ 4096 := by decide
example : ∀ x : Int, intI.fn .copy [x] = x := fun _ => rfl

/-- ring.DivRoundByLastModulus as of HEAD (commit 64e1afc and later): alias-sound, input intact. -/
theorem alias_sound_ring_divRound (I : Interp α) (al : Alias) (hal : al = .distinct ∨ al = .outOp0)
    (σ : Store α) : type_of% (divRound_alias_sound I al hal σ) := divRound_alias_sound I al hal σ

/-- the version before commit 64e1afc (`divRoundProgOld`) rewrites its input. -/
theorem ring_divRound_pre64e1afc_inputs_counterexample :
    ∃ σ : Store Int, run intI (divRoundProgOld Alias.distinct.pat) σ (L 0 2) ≠ σ (L 0 2) := by
  refine ⟨testStore, ?_⟩
  rw [(divRoundOld_input_rewritten intI testStore).1]
  decide

/-- the result part of `alias_sound_ring_divRound`. -/
theorem ring_divRound_result (I : Interp α) (al : Alias) (hal : al = .distinct ∨ al = .outOp0) (σ : Store α) :
    let p := al.pat
    let σ' := run I (divRoundProg p) σ
    σ' (L p.out 0) = divF I (σ (L p.op0 2)) (σ (L p.op0 0)) ∧
    σ' (L p.out 1) = divF I (σ (L p.op0 2)) (σ (L p.op0 1)) :=
  ⟨(divRound_alias_sound I al hal σ).1, (divRound_alias_sound I al hal σ).2.1⟩

/-- = `ring_divRound_pre64e1afc_inputs_counterexample`, under the name DESIGN.md cites -/
theorem ring_divRound_inputs_counterexample :
    ∃ σ : Store Int, run intI (divRoundProgOld Alias.distinct.pat) σ (L 0 2) ≠ σ (L 0 2) :=
  ring_divRound_pre64e1afc_inputs_counterexample

/-- ring.DivRoundByLastModulusNTT: alias-sound and input-preserving (it goes through `buff`). -/
theorem alias_sound_ring_divRoundNTT (I : Interp α) (al : Alias) (hal : al = .distinct ∨ al = .outOp0)
    (σ : Store α) : type_of% (divRoundNTT_alias_sound I al hal σ) := divRoundNTT_alias_sound I al hal σ

/-- Element.Resize never rewrites a polynomial that stays. -/
theorem resize_keeps_prefix (z : α) (d : Nat) (v : List α) (i : Nat) (hi : i < min v.length (d + 1)) :
    (resize z d v)[i]? = v[i]? := by
  unfold resize
  split
  · simp [List.getElem?_take]; omega
  · rw [List.getElem?_append_left (by omega)]

example : (2 : Nat) < min [1, 2, 3, 4].length (2 + 1) := by decide

/-- ct+ct Add (code with fix C09-2) is history-free: the previous content and degree of the receiver
    do not matter. -/
theorem add_history_free (z : α) (add : α → α → α) (op0 op1 out : List α) (h0 : op0 ≠ []) :
    addInto z add op0 op1 out = addLists add op0 op1 := by
  have h0' : 0 < op0.length := List.length_pos_iff.mpr h0
  exact append_drop_resize z _ out _ (by rw [addLists_length]; omega)

example : ([1, 2] : List Int) ≠ [] := by decide

/-- BEFORE fix C09-2 (`addIntoOld`): history-free only when the receiver's previous degree does not
    exceed the operands' … -/
theorem add_history_free_partial (z : α) (add : α → α → α) (op0 op1 out : List α)
    (h : out.length ≤ max op0.length op1.length) (h0 : op0 ≠ []) :
    addIntoOld z add op0 op1 out = addLists add op0 op1 := by
  have h0' : 0 < op0.length := List.length_pos_iff.mpr h0
  exact append_drop_resize z _ out _ (by rw [addLists_length]; omega)

example : [7, 8].length ≤ max [1, 2].length [10, 20].length ∧ [1, 2] ≠ ([] : List Int) := by decide

/-- … and NOT otherwise (degree-2 receiver reused for a degree-1 sum kept its third polynomial). -/
theorem add_history_counterexample :
    addIntoOld (0 : Int) (· + ·) [1, 2] [10, 20] [7, 8, 9] = [11, 22, 9] ∧
    addIntoOld (0 : Int) (· + ·) [1, 2] [10, 20] [0, 0] = [11, 22] := by
  decide

/-! ### frame and history-freeness as general theorems over the program syntax -/

/-- GENERAL FRAME: a program every step of which writes into one of the listed objects leaves every location of every
    other object unchanged (one theorem over the syntax; `Prog.writesWithin` is decidable). -/
theorem frame_general (I : Interp α) (p : Prog) (objs : List Nat) (h : p.writesWithin objs = true)
    (σ : Store α) (x : Loc) (hx : x.obj ∉ objs) : run I p σ x = σ x := writesWithin_frame I p objs h σ x hx

/-- EVERY modelled operation — the evaluator routines, Encrypt under a secret key, Decrypt, PublicKeyGenProtocol.GenShare,
    EvaluationKeyGenProtocol.GenShare with any number of digits, PartialTracesSum for any n — whatever objects play
    the roles op0/op1/out (not only the five aliasing patterns) and whatever the store: only the receiver and the
    evaluator / encryptor / decryptor / protocol buffers are written. -/
theorem inputs_unchanged_modelled (I : Interp α) (op : Op) (p : Pat) (σ : Store α) (x : Loc)
    (hx : x.obj ≠ p.out) (hs : x.obj ∉ scratchObjs) : op.exec I p σ x = σ x :=
  writesWithin_frame I _ _ (modelled_frame I op p σ) σ x (by simp [hx, hs])

example : (3 : Nat) ≠ Alias.distinct.pat.out ∧ (3 : Nat) ∉ scratchObjs := by decide

/-- the degree-aware programs, EVERY degree of the operands and of the receiver (no bound), every role assignment. -/
theorem frame_ckks_addSub_all_degrees (sub : Bool) (p : Pat) (deg : Nat → Nat) (cmp : Ordering) :
    Prog.writesWithin (p.out :: scratchObjs) (ckksAddProg sub p deg cmp) = true :=
  ckksAddProg_writes sub p deg cmp _ (List.mem_cons_self ..) (List.mem_cons_of_mem _ bct_mem_scratchObjs)

theorem frame_tensor_all_degrees (bgv relin : Bool) (p : Pat) (deg : Nat → Nat) (prog : Prog) (d : Nat)
    (h : tensorGenDFixed bgv relin p deg = .ok (prog, d)) : Prog.writesWithin (p.out :: scratchObjs) prog = true := by
  have ho : p.out ∈ p.out :: scratchObjs := List.mem_cons_self ..
  have hq : bq ∈ p.out :: scratchObjs := List.mem_cons_of_mem _ bq_mem_scratchObjs
  have hqp : bqp ∈ p.out :: scratchObjs := List.mem_cons_of_mem _ bqp_mem_scratchObjs
  unfold tensorGenDFixed at h
  split at h
  · cases h
    rw [writesWithin_append, tensorProg_writes _ _ _ _ ho hq hqp, Bool.and_true]
    split <;> exact resizeSteps_writes _ _ _ _ ho
  · exact tensorGenD_writes bgv relin p deg prog d h _ ho hq hqp

/-- GENERAL HISTORY-FREENESS: if every step reads only input objects or what an earlier step wrote
    (`Prog.readsFrom`, decidable), two runs from stores that agree on the input objects agree on every written location. -/
theorem history_free_general (I : Interp α) (p : Prog) (ins : List Nat) (h : Prog.readsFrom ins [] p = true)
    (σ σ' : Store α) (hagree : ∀ x : Loc, x.obj ∈ ins → σ x = σ' x) (x : Loc) (hx : Written p x) :
    run I p σ x = run I p σ' x := by
  have hr := readsFrom_Reads ins p [] h
  refine run_agree I p _ σ σ' hr ?_ x (Or.inr hx)
  intro y hy
  rcases hy with hy | hy
  · exact hagree y hy
  · cases hy

/-- … instantiated: every modelled operation with a fixed program, every aliasing pattern, every outcome of the scale
    comparison — the result does not depend on the previous content of the receiver or of any buffer.
    (PartialTracesSum, every n: `history_free_rlwe_partialTracesSum`; the bound `hev` on the digits is not used.) -/
theorem history_free_modelled (I : Interp α) (op : Op) (hop : ∀ n, op ≠ .rlwePTS n)
    (hev : ∀ b d, op = .evkGenShare b d → d ≤ 3) (al : Alias) (σ σ' : Store α)
    (hagree : ∀ x : Loc, x.obj ∈ al.pat.ins → σ x = σ' x) (x : Loc)
    (hx : Written (op.prog I al.pat σ) x) : op.exec I al.pat σ x = op.exec I al.pat σ' x := by
  have hprog : op.prog I al.pat σ' = op.prog I al.pat σ := by
    cases op <;> try rfl
    -- ckksEval: the comparison reads the scales of the operands, which are inputs
    simp only [Op.prog, Op.valueProg]
    rw [hagree (L al.pat.op0 fScale) (by simp [Pat.ins, L]), hagree (L al.pat.op1 fScale) (by simp [Pat.ins, L])]
  unfold Op.exec
  rw [hprog]
  exact history_free_general I _ _ (modelled_readsFrom I op hop al σ) σ σ' hagree x hx

example : Written (Op.encryptSk.prog intI Alias.distinct.pat testStore) (L 2 0) :=
  ⟨st (L 2 0) .neg [L 2 0], by decide, rfl⟩

/-- not vacuous: the in-place variant of EvaluationKeyGenProtocol.GenShare rewrites the caller's secret key. -/
theorem genShare_inplace_inputs_counterexample :
    ∃ σ : Store Int, run intI (evkGenShareProgInPlace 1 Alias.distinct.pat) σ (L 0 0) ≠ σ (L 0 0) :=
  ⟨testStore, by decide⟩

/-! ### metadata under aliasing -/

/-- InitOutputBinaryOp: under every aliasing pattern the receiver's IsNTT, IsBatched, LogDimensions.Rows/Cols are
    `metaF` (IsNTT, IsBatched of op0; componentwise maximum of the operands' dimensions BEFORE the call), and
    nothing but these four fields of the receiver is written. -/
theorem alias_sound_meta_init (I : Interp α) (hcopy : ∀ x, I.fn .copy [x] = x) (al : Alias) (σ : Store α) :
    type_of% (initBinaryMeta_alias_sound I hcopy al σ) := initBinaryMeta_alias_sound I hcopy al σ

/-- ALIASED = FRESH FOR THE METADATA of every complete binary operation of the model (ckks Add/Sub, Mul, MulRelin;
    bgv Mul, MulRelin, MulScaleInvariant, MulRelinScaleInvariant, Add/Sub with scale matching), every pattern. -/
theorem alias_sound_meta (I : Interp α) (hcopy : ∀ x, I.fn .copy [x] = x) (op : Op) (hb : op.isBinary = true)
    (al : Alias) (σ : Store α) (f : Nat) (hf : f ∈ metaFields) :
    op.exec I al.pat σ (L al.pat.out f) = metaF I σ al.pat f := by
  unfold Op.exec
  rw [Op.prog_binary I op hb, run_append]
  rw [run_frame]
  · exact (initBinaryMeta_alias_sound I hcopy al σ).1 f hf
  · intro s hs e
    have := valueProg_no_meta I op hb al σ
    rw [List.all_eq_true] at this
    have h20 := of_decide_eq_true (this s hs)
    rw [e] at h20
    simp only [metaFields, fRows, fCols, fBatched, fNTT, List.mem_cons, List.mem_nil_iff, or_false] at hf
    simp only [L, fRows] at h20
    omega

example : Op.ckksMulRelin.isBinary = true ∧ fCols ∈ metaFields := by decide

/-- the statement is not vacuous: initialising `opOut.LogDimensions = op0.LogDimensions` first and taking the maximum
    with op1 afterwards (never the code of /repo) is NOT alias-sound for `out = op1`. -/
theorem meta_overwrite_first_counterexample :
    ∃ σ : Store Int, run intI (initBinaryMetaOverwriteFirst Alias.outOp1.pat) σ (L 1 fCols) ≠
      metaF intI σ Alias.outOp1.pat fCols := by
  refine ⟨testStore, ?_⟩
  rw [initBinaryMetaOverwriteFirst_outOp1]
  decide

/-! ### degrees 0/1/2 -/

/-- ckks.Add / ckks.Sub with an element operand: EVERY aliasing pattern, EVERY degree ≤ 2 of op0, op1 and of the
    receiver before the call (`deg`), every outcome of the scale comparison: polynomial `i ≤ max(d0, d1)` of the
    receiver is the closed form `ckksAddF` (sum/difference on the common polynomials, the scaled copy of the
    longer operand above, negated for Sub when it is op1's), the scale is the maximum, nothing but the receiver
    and the buffers is written. -/
theorem alias_sound_ckks_addSub_degrees (I : Interp α) (sub : Bool) (hS : ScaleLaws I) (hD : DegLaws I sub)
    (al : Alias) (deg : Nat → Nat) (hdeg : ∀ o, deg o ≤ 2) (σ : Store α) :
    type_of% (ckksAdd_alias_sound I sub hS hD al deg hdeg σ) := ckksAdd_alias_sound I sub hS hD al deg hdeg σ

example : DegLaws intI false ∧ DegLaws intI true := ⟨intI_degLaws false, intI_degLaws true⟩
example : ∀ o, (fun o : Nat => if o = 0 then 1 else 2) o ≤ 2 := by intro o; simp only; split <;> decide

/-- BEFORE commit e9e846c (`tensorGenD`; HEAD: `alias_sound_tensor_degrees_fixed`).
    ckks.Mul/MulRelin (`bgv = false`) and bgv.Mul/MulRelin (`bgv = true`), operands of degree 0/1/2: whenever the
    code accepts the call (`TensorAccepted`), under every pattern and whatever degree the receiver had, the
    receiver has the documented degree `tensorDegF` and the polynomials `tensorDF`. -/
theorem alias_sound_tensor_degrees (I : Interp α) (bgv relin : Bool) (hT : TensorLaws I (preOf bgv)) (al : Alias)
    (deg : Nat → Nat) (hdeg : ∀ o, deg o ≤ 2)
    (hacc : TensorAccepted bgv (deg al.pat.op0) (deg al.pat.op1) (deg al.pat.out)) (σ : Store α) :
    type_of% (tensorD_alias_sound I bgv relin hT al deg hdeg hacc σ) :=
  tensorD_alias_sound I bgv relin hT al deg hdeg hacc σ

example : TensorLaws intI (preOf false) ∧ TensorLaws intI (preOf true) :=
  ⟨intI_tensorLaws_mform, intI_tensorLaws_mulT⟩
example : TensorAccepted true 2 0 1 ∧ TensorAccepted false 0 2 0 ∧ TensorAccepted false 1 1 2 := by
  unfold TensorAccepted; decide

/-- the calls the code rejects with an error … -/
theorem tensor_degrees_rejected (bgv relin : Bool) (p : Pat) (deg : Nat → Nat)
    (h : deg p.op0 + deg p.op1 = 0 ∨ deg p.op0 + deg p.op1 > 2 ∨ (bgv = true ∧ deg p.op0 = 0)) :
    tensorGenD bgv relin p deg = .err := by
  rw [tensorGenD_eq, if_pos h]

/-- … and the history dependence BEFORE commit e9e846c: the SAME operands (two degree-1 ciphertexts) were
    multiplied into a receiver that previously had degree 1 or 2, but PANICKED with a receiver of degree 0 — in
    ckks.mulRelin and in bgv.tensorStandard, with and without relinearisation
    (finding C09/mul-receiver-degree0-panics, fixed). -/
theorem tensor_receiver_degree0_counterexample (bgv relin : Bool) (p : Pat) (deg : Nat → Nat)
    (h0 : deg p.op0 = 1) (h1 : deg p.op1 = 1) (ho : deg p.out = 0) :
    tensorGenD bgv relin p deg = .panic := by
  rw [tensorGenD_eq, if_neg, if_pos ⟨h0, h1⟩, if_pos ho]
  rintro (h | h | h)
  · omega
  · omega
  · exact absurd h.2 (by omega)

example : (fun o : Nat => if o = 2 then 0 else 1) Alias.distinct.pat.op0 = 1 ∧
    (fun o : Nat => if o = 2 then 0 else 1) Alias.distinct.pat.out = 0 := by decide

/-- nothing else panics, and with patch fixes/C09-6 nothing does -/
theorem tensor_panics_only_receiver_degree0 (bgv relin : Bool) (p : Pat) (deg : Nat → Nat)
    (h : tensorGenD bgv relin p deg = .panic) : deg p.op0 = 1 ∧ deg p.op1 = 1 ∧ deg p.out = 0 :=
  tensorD_panic_only bgv relin p deg h

theorem tensor_fixed_no_panic (bgv relin : Bool) (p : Pat) (deg : Nat → Nat) :
    tensorGenDFixed bgv relin p deg ≠ .panic := by
  unfold tensorGenDFixed
  split
  · intro h; cases h
  · rename_i hc
    intro h
    have := tensorD_panic_only bgv relin p deg h
    apply hc
    refine ⟨this.1, this.2.1, this.2.2, ?_⟩
    rintro ⟨_, h0⟩
    rw [this.1] at h0
    cases h0

/-- HEAD (commit e9e846c, `tensorGenDFixed`, the routine the `aliasd` tie executes): alias soundness holds for
    EVERY previous degree of the receiver — the products are history-free in the degree. -/
theorem alias_sound_tensor_degrees_fixed (I : Interp α) (bgv relin : Bool) (hT : TensorLaws I (preOf bgv))
    (al : Alias) (deg : Nat → Nat) (hdeg : ∀ o, deg o ≤ 2)
    (hacc : ¬(deg al.pat.op0 + deg al.pat.op1 = 0 ∨ deg al.pat.op0 + deg al.pat.op1 > 2) ∧
      ¬(bgv = true ∧ deg al.pat.op0 = 0)) (σ : Store α) :
    type_of% (tensorDFixed_alias_sound I bgv relin hT al deg hdeg hacc σ) :=
  tensorDFixed_alias_sound I bgv relin hT al deg hdeg hacc σ

example : ¬((1 : Nat) + 1 = 0 ∨ 1 + 1 > 2) ∧ ¬(false = true ∧ (1 : Nat) = 0) := by decide

/-! ### levels -/

set_option linter.unusedVariables false in  -- `hne` is not needed: `Resize` on shapes treats the empty shape like any other
/-- BEFORE commit 114cfa0 (`shapeAfter`; HEAD: `history_free_level_fixed`, without the hypothesis on the receiver).
    HISTORY-FREE LEVEL (and degree): for every modelled operation (Add/Sub, Mul/MulRelin of ckks and bgv,
    the scale-invariant products, the *big.Int operations, Automorphism, PartialTracesSum), every aliasing
    pattern and all shapes: when the call is accepted, every polynomial of the receiver is at the documented
    level `docLevel` and the receiver has the documented degree — whatever degree and level it had before,
    provided its polynomials were all at one level, or `Value[0]` was not already at the target level. -/
theorem history_free_level (op : OpS) (p : Pat) (sh : Nat → Shape) (hne : ∀ o, sh o ≠ [])
    (hrecv : Uniform (sh p.out) ∨
      (sh p.out).level ≠ op.docLevel (sh p.op0).level (sh p.op1).level (sh p.out).level)
    (r : Shape) (hr : op.shapeAfter p sh = .ok r) :
    r = List.replicate (op.docDegree (sh p.op0).degree (sh p.op1).degree (sh p.out).degree + 1)
          (op.docLevel (sh p.op0).level (sh p.op1).level (sh p.out).level) :=
  shapeAfter_documented op p sh hrecv r hr

example : Uniform [2, 2, 2] ∧ (OpS.ckksMul false).shapeAfter Alias.distinct.pat
    (patShape Alias.distinct.pat [2, 2] [1, 1] [2, 2, 2]) = .ok [1, 1, 1] := by
  refine ⟨?_, by decide⟩
  intro x hx; simp [Shape.level] at hx ⊢; exact hx

set_option linter.unusedVariables false in  -- `hne`, `hne'` are not needed: `Resize` on shapes treats the empty shape like any other
/-- two well-formed receivers for which the documented level is the same (e.g. both at least at the level of the
    operands) yield the same shape: level and degree of the result do not depend on the receiver's past. -/
theorem history_free_level_receivers (op : OpS) (p : Pat) (sh sh' : Nat → Shape)
    (hne : ∀ o, sh o ≠ []) (hne' : ∀ o, sh' o ≠ [])
    (h0 : sh p.op0 = sh' p.op0) (h1 : sh p.op1 = sh' p.op1)
    (hU : Uniform (sh p.out)) (hU' : Uniform (sh' p.out))
    (hl : op.docLevel (sh p.op0).level (sh p.op1).level (sh p.out).level =
          op.docLevel (sh p.op0).level (sh p.op1).level (sh' p.out).level)
    (r r' : Shape) (hr : op.shapeAfter p sh = .ok r) (hr' : op.shapeAfter p sh' = .ok r') : r = r' := by
  rw [shapeAfter_documented op p sh (Or.inl hU) r hr, shapeAfter_documented op p sh' (Or.inl hU') r' hr',
    ← h0, ← h1, ← hl, docDegree_indepG _ _ op p sh r hr, docDegree_indepG _ _ op p sh' r' hr']

example : OpS.addLike.docLevel 1 1 2 = OpS.addLike.docLevel 1 1 1 := by decide

/-- the hypothesis of `history_free_level` could not be dropped for the code before commit 114cfa0: a receiver
    `[1, 2]` (`Value[0]` already at the target level 1, `Value[1]` one limb longer) kept its shape through Add; a
    receiver `[2, 1]` with operands at level 2 made the operation PANIC (finding
    C09/resize-skips-polynomials-when-first-at-level, fixed). -/
theorem resize_level_malformed_counterexample :
    OpS.addLike.shapeAfter Alias.distinct.pat (patShape Alias.distinct.pat [1, 1] [1, 1] [1, 2]) = .ok [1, 2] ∧
    OpS.addLike.shapeAfter Alias.distinct.pat (patShape Alias.distinct.pat [2, 2] [2, 2] [2, 1]) = .panic ∧
    OpS.addLike.shapeAfter Alias.distinct.pat (patShape Alias.distinct.pat [1, 1] [1, 1] [2, 2]) = .ok [1, 1] := by
  decide

/-- with patch fixes/C09-7 `Resize` yields the documented shape from ANY previous shape. -/
theorem resize_fixed_history_free (s : Shape) (degree level : Nat) :
    resizeShapeFixed s degree level = List.replicate (degree + 1) level :=
  resizeShapeFixed_replicate s degree level

set_option linter.unusedVariables false in  -- `hne` is not needed: `Resize` on shapes treats the empty shape like any other
/-- HEAD (commits e9e846c, 114cfa0; `shapeAfterFixed`, what the `shape` tie executes): HISTORY-FREE LEVEL AND
    DEGREE without any hypothesis on the receiver — for every modelled operation, every aliasing pattern and all
    shapes, when the call is accepted every polynomial of the receiver is at the documented level and the receiver
    has the documented degree, whatever it held before; and no modelled operation panics. -/
theorem history_free_level_fixed (op : OpS) (p : Pat) (sh : Nat → Shape) (hne : ∀ o, sh o ≠ [])
    (r : Shape) (hr : op.shapeAfterFixed p sh = .ok r) :
    r = List.replicate (op.docDegree (sh p.op0).degree (sh p.op1).degree (sh p.out).degree + 1)
          (op.docLevel (sh p.op0).level (sh p.op1).level (sh p.out).level) :=
  shapeAfterFixed_documented op p sh r hr

theorem shape_fixed_no_panic (op : OpS) (p : Pat) (sh : Nat → Shape) : op.shapeAfterFixed p sh ≠ .panic := by
  unfold OpS.shapeAfterFixed
  rcases shapeAfterG_cases resizeShapeFixed true (fun _ _ => True) (fun s d l _ => resizeShapeFixed_replicate s d l)
    (fun _ _ _ => trivial) op p sh trivial with h | ⟨h, _⟩ | h
  · rw [h]; exact fun e => nomatch e
  · cases h
  · rw [h]; exact fun e => nomatch e

example : (OpS.ckksMul true).shapeAfterFixed Alias.distinct.pat
    (patShape Alias.distinct.pat [2, 2] [1, 1] [1, 2]) = .ok [1, 1] := by decide

/-- the model's tie functions follow HEAD -/
theorem tie_follows_head : headFix6 = true ∧ headFix7 = true ∧
    (∀ op p sh, OpS.shapeAfterHead op p sh = OpS.shapeAfterFixed op p sh) := ⟨rfl, rfl, fun _ _ _ => rfl⟩

-- TESTS (a `decide` over samples, not theorems about all inputs): the driver's predictions
example : predictAlias .bgvMatchScale .outOp1 6 2 = .sameAsFresh := by decide
example : predictAlias .bgvTensorSI .outOp1 6 2 = .sameAsFresh := by decide
example : predictAlias .ckksEval .outOp1 2 6 = .sameAsFresh := by decide
example : predictInputs .divRound 4 4 = .sameAsFresh := by decide
example : predictAliasD .ckksSub .outOp0 1 2 1 2 6 = .sameAsFresh := by decide
example : predictAliasD .bgvMul .outOp1 2 0 0 4 4 = .sameAsFresh := by decide
example : predictAliasD .ckksMulRelin .distinct 1 1 0 4 4 = (if headFix6 then .sameAsFresh else .panic) := by decide

end Lattigo.Props.C09

open Lattigo.Props.C09 in
#print axioms alias_sound_ckks_evaluateInPlace
#print axioms Lattigo.Props.C09.alias_sound_ckks_mul
#print axioms Lattigo.Props.C09.alias_sound_ckks_mulRelin
#print axioms Lattigo.Props.C09.alias_sound_bgv_tensorStandard
#print axioms Lattigo.Props.C09.alias_sound_bgv_tensorStandard_relin
#print axioms Lattigo.Props.C09.alias_sound_bgv_tensorScaleInvariant_poly
#print axioms Lattigo.Props.C09.alias_sound_bgv_tensorScaleInvariant_scale
#print axioms Lattigo.Props.C09.alias_sound_bgv_tensorScaleInvariant_scale_partial
#print axioms Lattigo.Props.C09.bgv_tensorScaleInvariant_outOp1_counterexample
#print axioms Lattigo.Props.C09.alias_sound_bgv_matchScale
#print axioms Lattigo.Props.C09.alias_sound_bgv_matchScale_partial
#print axioms Lattigo.Props.C09.bgv_addBigInt_sound
#print axioms Lattigo.Props.C09.bgv_mulBigInt_sound
#print axioms Lattigo.Props.C09.bgv_matchScale_outOp1_counterexample
#print axioms Lattigo.Props.C09.bgv_addBigInt_inputs_counterexample
#print axioms Lattigo.Props.C09.bgv_mulBigInt_inputs_counterexample
#print axioms Lattigo.Props.C09.alias_sound_rlwe_automorphism
#print axioms Lattigo.Props.C09.rlwe_partialTracesSum_frame
#print axioms Lattigo.Props.C09.alias_sound_rlwe_partialTracesSum
#print axioms Lattigo.Props.C09.history_free_rlwe_partialTracesSum
#print axioms Lattigo.Props.C09.alias_sound_rlwe_partialTracesSum_partial
#print axioms Lattigo.Props.C09.frame_general
#print axioms Lattigo.Props.C09.inputs_unchanged_modelled
#print axioms Lattigo.Props.C09.frame_ckks_addSub_all_degrees
#print axioms Lattigo.Props.C09.frame_tensor_all_degrees
#print axioms Lattigo.Props.C09.history_free_general
#print axioms Lattigo.Props.C09.history_free_modelled
#print axioms Lattigo.Props.C09.genShare_inplace_inputs_counterexample
#print axioms Lattigo.Props.C09.alias_sound_meta_init
#print axioms Lattigo.Props.C09.alias_sound_meta
#print axioms Lattigo.Props.C09.meta_overwrite_first_counterexample
#print axioms Lattigo.Props.C09.alias_sound_ckks_addSub_degrees
#print axioms Lattigo.Props.C09.alias_sound_tensor_degrees
#print axioms Lattigo.Props.C09.tensor_degrees_rejected
#print axioms Lattigo.Props.C09.tensor_receiver_degree0_counterexample
#print axioms Lattigo.Props.C09.tensor_panics_only_receiver_degree0
#print axioms Lattigo.Props.C09.tensor_fixed_no_panic
#print axioms Lattigo.Props.C09.alias_sound_tensor_degrees_fixed
#print axioms Lattigo.Props.C09.history_free_level
#print axioms Lattigo.Props.C09.history_free_level_receivers
#print axioms Lattigo.Props.C09.resize_level_malformed_counterexample
#print axioms Lattigo.Props.C09.resize_fixed_history_free
#print axioms Lattigo.Props.C09.history_free_level_fixed
#print axioms Lattigo.Props.C09.shape_fixed_no_panic
#print axioms Lattigo.Props.C09.tie_follows_head
#print axioms Lattigo.Props.C09.alias_sound_ring_divRound
#print axioms Lattigo.Props.C09.ring_divRound_result
#print axioms Lattigo.Props.C09.ring_divRound_inputs_counterexample
#print axioms Lattigo.Props.C09.ring_divRound_pre64e1afc_inputs_counterexample
#print axioms Lattigo.Props.C09.alias_sound_ring_divRoundNTT
#print axioms Lattigo.Props.C09.resize_keeps_prefix
#print axioms Lattigo.Props.C09.add_history_free
#print axioms Lattigo.Props.C09.add_history_free_partial
#print axioms Lattigo.Props.C09.add_history_counterexample
