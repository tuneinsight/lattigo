/-
  C10 — copies are complete, independent and safe to use concurrently.

  What the model is: `Lattigo/Model/Copy.lean`
    * `table`: for every copy constructor of the anchor list, the class of every field of the copy
      relative to the original.  The harness recomputes the observable part of this classification
      by a reflection walk (pointer identity of every slice / map / pointer, recursively) on the real
      objects and the two must agree line by line, so a field added later, or a copy that starts
      sharing a buffer, breaks the tie.
    * `applyCtor`: a copy constructor as a function on records with explicit addresses.
    * `Sched`, `runSched`, `proj`: agents (goroutines) executing steps `(reads, writes, f)` on one
      store `Loc → α`; a schedule is an arbitrary interleaving.

  What is proved: `copy_behaves_same` (general: two instances of one operation that share everything but their scratch
  and read scratch only after writing it give the same results; `copy_behaves_same_row`: from a table row whose fields are
  kept or `owned`), the OWNERSHIP DISCIPLINE makes interference impossible (`noninterference`), copy
  constructors following their row produce fresh, pairwise distinct addresses for `owned` fields
  (`copy_owned_fresh`), equal `config` fields (`copy_config_eq`), and deep copies share no address
  with the original (`deep_copy_disjoint`).

  Completeness of the table: every `table` line is produced by a reflection walk over ALL fields of the struct, so a field
  the model does not classify breaks the tie; `table_complete/*` probes scan the source under test for every copy
  constructor and require a row (or a listed exemption: slice / map receivers); `table_names_nodup`,
  `table_rows_strictly_sorted`.  Ring-level views (`AtLevel`, `ConjugateInvariantRing`, `StandardRing`, `ringqp.Ring.AtLevel`)
  have rows on the full ring and on views, and probes at every level.

  What the model CANNOT exhibit — named limits:
    * the Go memory model: `runSched` is sequentially consistent and steps are atomic.  A data race
      (two goroutines touching the same word without synchronisation, one of them writing; in
      particular concurrent writes to a Go `map`, which the runtime turns into a fatal error) has no
      counterpart in the model.  The theorem says: IF the footprints are disjoint and shared data
      is read-only THEN every interleaving equals the sequential runs; for the real code this
      hypothesis is exactly "no data race on the explored operations", which the harness checks by
      reflection (classification), by differential runs with 2…16 goroutines, and — as a supporting
      search only — under the race detector.
    * where the code LEAVES the discipline the theorem does not apply; these rows are listed by
      `not_concurrentSafe_rows` (every one of them is a constructor that shares scratch buffers or
      PRNG state and whose doc comment says "cannot be used concurrently": the `WithKey` of the rlwe, bgv and ckks
      evaluators and of the encryptor, `Encryptor.WithPRNG`, samplers' `AtLevel`; exception: `rlwe.Encryptor.WithKey`, whose comment does
      not say so — known finding `C10/Encryptor.WithKey/shares-state-undocumented`).
    * history: before fix C10-4 `rlwe.Evaluator.ShallowCopy` shared the Go map `automorphismIndex`, which
      `CheckAndGetGaloisKey` filled lazily (`sharedCache`): the harness crashed a child process with
      "fatal error: concurrent map read and map write" and the race detector pointed at
      core/rlwe/evaluator.go:120/121.  With the fix the map is never written after construction
      (`sharedRO`) and the row is concurrent-safe; `noninterference_needs_readonly_counterexample`
      keeps the reason why the read-only hypothesis cannot be dropped.
    * the rows follow HEAD of /repo, which carries these repairs: `EvaluationKey.CopyNew` copies `Seed` (C10-1),
      `bgv.Evaluator.WithKey` keeps `ScaleInvariant` (C10-2), `mpckks.MaskedLinearTransformationProtocol.ShallowCopy`
      keeps `noise` (C10-3), `MetaData.CopyNew` copies `Scale`'s big numbers (C10-5: `Ciphertext/Plaintext.CopyNew`
      rows are `owned`).
    * the second half of `table`: the circuits / ring-packing / blind-rotation / ringqp layers and the remaining
      multiparty constructors.  `dft.Evaluator`, `mod1.Evaluator` and `blindrot.Evaluator` have no copy
      constructor: their rows describe the copy idiom (`NewEvaluator` over a shallow copy of the ckks evaluator / a second
      instance); `bootstrapping.Evaluator.ShallowCopy` rebuilds its dft and mod1 evaluators over the copy's own ckks
      evaluator (harness probe `internal_wiring/…`: pointer identity of every inner evaluator) and has one row per
      configuration of the optional fields (`[N1<N2]`: xPow2N1/xPow2InvN1 set, `[ConjugateInvariant]`: DomainSwitcher
      set, `[SkDebug]`).
    * defects these rows exhibited, repaired in /repo (the rows follow HEAD; the harness probes keep their keys):
        - `mpckks.MaskedLinearTransformationProtocol.WithParams` dropped `noise` (class `dropped`, then listed by
          `incomplete_rows_eq`): the re-targeted protocol could not be re-targeted again (nil distribution → panic).
          Key `C10/mpckks.MaskedLinearTransformationProtocol.WithParams/drops-noise`; fixed: 62bef1b (C10-7), row `config`.
        - `ringqp.UniformSampler.AtLevel` shares buffers / read pointers / PRNG with the receiver (class `nestedScratch`,
          listed by `not_concurrentSafe_rows_eq`) while its comment called it "a shallow copy".
          Key `C10/ringqp.UniformSampler.AtLevel/shares-state-undocumented`; fixed: 0eeaffe (C10-9, documentation).
        - `ringqp.UniformSampler.WithPRNG` panicked on a sampler without Q part, which every other method supports.
          Key `C10/ringqp.UniformSampler.WithPRNG/nil-samplerQ`; fixed: 68cd377 (C10-8; the row is for the Q+P configuration).
        - not a copy defect: `bootstrapping.Evaluator.BootstrapMany` panicked when it had to pack two or
          more ciphertexts above level 0 (the original and its copy alike).
          Key `C10/bootstrapping.BootstrapMany/packing-above-level-0-panics`; fixed: 582ab46 (C10-10).
    * known finding kept: `rlwe.Encryptor.ShallowCopy` builds a fresh encryptor and therefore forgets a
      PRNG installed with `WithPRNG` (`C10/Encryptor.ShallowCopy/drops-WithPRNG`; in the table this is the
      `rng` class of `prng` and the `nested` samplers: by construction a shallow copy has fresh randomness).
-/
import Lattigo.Proofs.Copy
import Lattigo.Proofs.CopyBehave
import Lattigo.Proofs.StringMatch

namespace Lattigo.Props.C10
open Lattigo.Copy

/-- `config` fields are equal in the copy. -/
theorem copy_config_eq (r : Row) (next fresh : Nat) (o : Obj) (k : Nat) (f : Field)
    (hf : o[k]? = some f) (hc : classOf r f.name = .config) :
    (applyCtor r next fresh o)[k]? = some f := copy_keeps_eq r next fresh o k f hf (by rw [hc]; rfl)

example : classOf [("prec", .config)] "prec" = .config := by decide

/-- `owned` fields of the copy live at fresh addresses: not below the allocator mark (hence not an
    address of the original or of any earlier copy), pairwise distinct, same content. -/
theorem copy_owned_fresh (r : Row) (next fresh : Nat) (o : Obj) (k k' : Nat) (f f' : Field)
    (hf : o[k]? = some f) (hc : classOf r f.name = .owned)
    (hf' : o[k']? = some f') (hc' : classOf r f'.name = .owned) (hk : k ≠ k') :
    ∃ g g', (applyCtor r next fresh o)[k]? = some g ∧ (applyCtor r next fresh o)[k']? = some g' ∧
      next ≤ g.addr ∧ next ≤ g'.addr ∧ g.addr ≠ g'.addr ∧ g.val = f.val ∧ g'.val = f'.val := by
  refine ⟨_, _, copy_owned_addr r next fresh o k f hf hc, copy_owned_addr r next fresh o k' f' hf' hc', ?_⟩
  simp; omega

example : ([⟨"a", 1, 5⟩, ⟨"b", 2, 6⟩] : Obj)[0]? = some ⟨"a", 1, 5⟩ ∧
    classOf [("a", .owned), ("b", .owned)] "a" = .owned := by decide

/-- a deep copy (`CopyNew` whose row is `owned` for every reference) shares no address with the
    original. -/
theorem deep_copy_disjoint (r : Row) (next fresh : Nat) (o : Obj)
    (hdeep : ∀ f ∈ o, classOf r f.name = .owned ∨
      f.addr = 0 ∧ (classOf r f.name = .config ∨ classOf r f.name = .absent))
    (hnext : ∀ f ∈ o, f.addr < next) :
    ∀ (k : Nat) (g : Field), (applyCtor r next fresh o)[k]? = some g → g.addr ≠ 0 →
      ∀ f ∈ o, g.addr ≠ f.addr := by
  intro k g hg hg0 f' hf'
  obtain ⟨f, hf, hgeq⟩ := applyCtor_get r next fresh o k g hg
  rcases hdeep f (List.mem_of_getElem? hf) with hc | ⟨ha, hc | hc⟩
  · have : g.addr = next + k := by simp [hgeq, hc, copyField]
    have := hnext f' hf'
    omega
  · exfalso; apply hg0; simp [hgeq, hc, copyField, ha]
  · exfalso; apply hg0; simp [hgeq, hc, copyField, ha]

example : ∀ f ∈ ([⟨"Value", 7, 1⟩] : Obj), classOf [("Value", .owned)] f.name = .owned ∨
    f.addr = 0 ∧ (classOf [("Value", .owned)] f.name = .config ∨ classOf [("Value", .owned)] f.name = .absent) := by
  intro f hf; simp at hf; subst hf; left; decide

/-- NON-INTERFERENCE.  Owned footprints pairwise disjoint and disjoint from the shared region,
    every step of agent `i` writes only what `i` owns, reads only what `i` owns or what is shared,
    and computes its written values from what it reads: then for EVERY schedule (interleaving) and
    every agent `i`, on everything `i` owns or shares, the final store equals the final store of
    `i`'s own step sequence run alone. -/
theorem noninterference {α : Type} {owned : Nat → Loc → Prop} {shared : Loc → Prop}
    (hdisj : ∀ i j l, i ≠ j → owned i l → ¬ owned j l)
    (hsh : ∀ i l, owned i l → ¬ shared l)
    (sch : Sched α) (hd : Disciplined owned shared sch) (i : Nat) (σ : State α) (l : Loc)
    (hv : owned i l ∨ shared l) :
    runSched sch σ l = runSched (proj i sch) σ l := by
  induction sch generalizing σ with
  | nil => rfl
  | cons t rest ih =>
    obtain ⟨j, s⟩ := t
    simp only [runSched]
    rw [ih hd.tail (s.apply σ)]
    by_cases hji : j = i
    · subst hji
      simp [proj, runSched]
    · have hp : proj i ((j, s) :: rest) = proj i rest := by
        simp [proj, hji]
      rw [hp]
      apply run_proj_congr hsh i (proj i rest) (hd.tail.proj i) (proj_all i rest)
      · intro l' hv'
        exact step_invisible hdisj hsh (fun e => hji e.symm) s
          (hd.writes j s (List.mem_cons_self ..)) σ l' hv'
      · exact hv

/-- two agents, locations 10/11 owned by agent 0/1, location 0 shared and only read -/
def exStep (me : Nat) : Step Nat := ⟨[0, 10 + me], [10 + me], fun σ _ => σ 0 + σ (10 + me) + 1⟩
def exSched : Sched Nat := [(0, exStep 0), (1, exStep 1), (0, exStep 0), (1, exStep 1)]

example : Disciplined (fun i l => l = 10 + i) (fun l => l = 0) exSched := by
  have hm' : ∀ i s, (i, s) ∈ exSched → s = exStep i := by
    intro i s hm
    simp [exSched] at hm
    rcases hm with ⟨rfl, rfl⟩ | ⟨rfl, rfl⟩ | ⟨rfl, rfl⟩ | ⟨rfl, rfl⟩ <;> rfl
  refine ⟨?_, ?_, ?_⟩
  · intro i s hm l hl
    rw [hm' i s hm] at hl
    simpa [exStep] using hl
  · intro i s hm l hl
    rw [hm' i s hm] at hl
    simp [exStep] at hl
    rcases hl with rfl | rfl
    · right; rfl
    · left; rfl
  · intro i s hm σ σ' h l _
    rw [hm' i s hm] at h ⊢
    simp [exStep] at h ⊢
    rw [h.1, h.2]

/-- the read-only hypothesis is NECESSARY: a lazily written shared cache (agent 1 fills location 0,
    agent 0 reads it) makes agent 0's result depend on the schedule — the result of the
    interleaving differs from agent 0's sequential run. -/
theorem noninterference_needs_readonly_counterexample :
    ∃ (sch : Sched Nat) (σ : State Nat) (l : Loc),
      (∀ t ∈ sch, t.1 = 1 → t.2.writes = [0]) ∧   -- agent 1 writes the shared location 0
      runSched sch σ l ≠ runSched (proj 0 sch) σ l := by
  refine ⟨[(1, ⟨[], [0], fun _ _ => 7⟩), (0, ⟨[0], [10], fun σ _ => σ 0⟩)], fun _ => 0, 10, ?_, ?_⟩
  · intro t ht h1
    simp at ht
    rcases ht with rfl | rfl
    · rfl
    · simp at h1
  · simp [runSched, proj, Step.apply]

/-- COPY BEHAVES SAME, general form (Proofs/CopyBehave.lean): an operation is a template program over symbolic objects
    (fields of the receiver, objects of the caller); the original and the copy are two INSTANCES `ρ1`, `ρ2` of it that
    refer to the same memory outside the scratch objects `S` (what `config` / `sharedRO` fields are) and to different
    scratch memory (what `owned` fields are).  If the operation reads scratch only after writing it, then on one shared
    store — whatever either scratch holds — every non-scratch location holds the same content after the two runs. -/
theorem copy_behaves_same {α : Type} (I : Store.Interp α) (T : Store.Prog) (S : Nat → Prop) (ρ1 ρ2 : Nat → Nat)
    (h1 : ∀ a b, ρ1 a = ρ1 b → a = b) (h2 : ∀ a b, ρ2 a = ρ2 b → a = b) (hsame : ∀ a, ¬ S a → ρ1 a = ρ2 a)
    (hreads : Store.Reads (fun x => ¬ S x.obj) T) (σ : Store.Store α) (x : Store.Loc)
    (hx : ¬ S x.obj ∨ Store.Written T x) :
    Store.run I (T.map (Store.Step.ren (Store.liftObj ρ1))) σ (Store.liftObj ρ1 x) =
    Store.run I (T.map (Store.Step.ren (Store.liftObj ρ2))) σ (Store.liftObj ρ2 x) :=
  Store.copy_behaves_same I T S ρ1 ρ2 h1 h2 hsame hreads σ x hx

/-- … and for a ROW of the table: `o` an object, `applyCtor r next fresh o` its copy by a constructor that follows the
    row; every field is kept (`config`, `sharedRO`, `absent`, …: `FieldClass.keeps`) or is `owned` scratch; the operation
    reads scratch only after writing it.  Then the original and the copy leave the same content in every location of
    every kept field and of every object of the caller. -/
theorem copy_behaves_same_row {α : Type} (I : Store.Interp α) (r : Row) (next fresh : Nat) (o : Obj) (ext : Nat → Nat)
    (T : Store.Prog)
    (hcls : ∀ f ∈ o, (classOf r f.name).keeps = true ∨ classOf r f.name = .owned)
    (hinj : ∀ a b, instMap o ext a = instMap o ext b → a = b)
    (hinj' : ∀ a b, instMap (applyCtor r next fresh o) ext a = instMap (applyCtor r next fresh o) ext b → a = b)
    (hreads : Store.Reads (fun x => ¬ (∃ f, o[x.obj]? = some f ∧ classOf r f.name = .owned)) T)
    (σ : Store.Store α) (x : Store.Loc) (hx : ¬ (∃ f, o[x.obj]? = some f ∧ classOf r f.name = .owned)) :
    Store.run I (T.map (Store.Step.ren (Store.liftObj (instMap o ext)))) σ (Store.liftObj (instMap o ext) x) =
    Store.run I (T.map (Store.Step.ren (Store.liftObj (instMap (applyCtor r next fresh o) ext)))) σ
      (Store.liftObj (instMap (applyCtor r next fresh o) ext) x) :=
  copy_behaves_same I T (fun k => ∃ f, o[k]? = some f ∧ classOf r f.name = .owned) _ _ hinj hinj'
    (instMap_applyCtor r next fresh o ext hcls) hreads σ x (Or.inl hx)

/-- the row `rlwe.Decryptor.ShallowCopy` and Decrypt of a coefficient-domain ciphertext (the one operation
    that uses the Decryptor's scratch polynomial): all hypotheses hold, the caller's plaintext is the same. -/
example (α : Type) (I : Store.Interp α) (σ : Store.Store α) (f : Nat) :=
  exDec_behaves_same α I σ f

example : lookup "rlwe.Decryptor.ShallowCopy" = some exRow := by decide +kernel

/-- the hypothesis "scratch is written before it is read" cannot be dropped: an operation that READS the scratch field
    first returns whatever each scratch held. -/
theorem copy_behaves_same_needs_scratch_discipline :
    ∃ (σ : Store.Store Int),
      Store.run Store.intI ([Store.st (Store.L 5 0) .copy [Store.L 0 0]].map (Store.Step.ren (Store.liftObj (instMap exDec exExt)))) σ ⟨1003, 0⟩ ≠
      Store.run Store.intI ([Store.st (Store.L 5 0) .copy [Store.L 0 0]].map
        (Store.Step.ren (Store.liftObj (instMap (applyCtor exRow 300 0 exDec) exExt)))) σ ⟨1003, 0⟩ :=
  ⟨⟨fun l => l.obj⟩, by decide⟩

/-- every row lists its fields in strictly increasing order of name (the order the reflection walk prints): no field is
    classified twice.  (TEST by evaluation of the table.) -/
theorem table_rows_strictly_sorted : table.all (fun (_, r) => (r.map (·.1)).Pairwise (· < ·)) = true :=
  -- the names are compared as the character lists of the literals, which unification finds (Proofs/StringMatch.lean):
  -- turning a literal into data by evaluation is what is dear
  List.all_eq_true.2 fun _ hx => decide_eq_true <|
    StringMatch.Enc₂.sorted (SS := table.map fun x => x.2.map (·.1)) (by repeat constructor) (by decide +kernel) _
      (List.mem_map_of_mem hx)

/-- the rows of the table that leave the discipline (TEST by evaluation of the table, which is the
    model): exactly the constructors sharing scratch buffers or PRNG state; all shallow copies
    (`ShallowCopy`) and deep copies are concurrent-safe. -/
def not_concurrentSafe_rows : List String :=
  (table.filter fun (_, r) => !r.concurrentSafe).map (·.1)

theorem not_concurrentSafe_rows_eq : not_concurrentSafe_rows =
    ["rlwe.Evaluator.WithKey", "rlwe.Encryptor.WithKey",
     "rlwe.Encryptor.WithPRNG", "ring.UniformSampler.AtLevel", "ring.GaussianSampler.AtLevel",
     "bgv.Evaluator.WithKey", "ckks.Evaluator.WithKey",
     "ring.GaussianSampler.AtLevel[montgomery]", "ringqp.UniformSampler.AtLevel"] := by decide +kernel

/-- every constructor appears once: `lookup` (what the driver prints for a `table` line) is unambiguous.
    (TEST by evaluation of the table.) -/
theorem table_names_nodup : (table.map (·.1)).Nodup :=
  StringMatch.Enc.nodup (L := _) (by repeat constructor) (StringMatch.nodup_of_charsCode (by decide +kernel))

/-- `lookup` returns a row of the table, and the first one with that name (with `table_names_nodup`: the one). -/
theorem lookup_mem (name : String) (r : Row) (h : lookup name = some r) : (name, r) ∈ table := by
  unfold lookup at h
  cases hf : table.find? (·.1 == name) with
  | none => simp [hf] at h
  | some p =>
    simp [hf] at h
    have hm := List.mem_of_find?_eq_some hf
    have hp := List.find?_some hf
    have : p.1 = name := by simpa using hp
    subst h
    rw [← this]
    exact hm

example : lookup "ringqp.Ring.AtLevel" = some [("RingP", .nested), ("RingQ", .nested)] := by decide +kernel

/-- the rows that are not complete copies (a field of the original is dropped or reset). -/
def incomplete_rows : List String := (table.filter fun (_, r) => !r.complete).map (·.1)

theorem incomplete_rows_eq : incomplete_rows =
    ["ring.Ring.AtLevel", "ring.Ring.AtLevel[view-of-view]"] := by decide +kernel   -- `level` is what AtLevel is meant to change;
    -- the siblings `ConjugateInvariantRing` / `StandardRing` of a view keep its level (rows `…[AtLevel(1)]`: `config`)

end Lattigo.Props.C10

#print axioms Lattigo.Props.C10.copy_config_eq
#print axioms Lattigo.Props.C10.copy_owned_fresh
#print axioms Lattigo.Props.C10.deep_copy_disjoint
#print axioms Lattigo.Props.C10.noninterference
#print axioms Lattigo.Props.C10.noninterference_needs_readonly_counterexample
#print axioms Lattigo.Props.C10.copy_behaves_same
#print axioms Lattigo.Props.C10.copy_behaves_same_row
#print axioms Lattigo.Props.C10.copy_behaves_same_needs_scratch_discipline
#print axioms Lattigo.Props.C10.table_rows_strictly_sorted
#print axioms Lattigo.Props.C10.table_names_nodup
#print axioms Lattigo.Props.C10.lookup_mem
#print axioms Lattigo.Props.C10.not_concurrentSafe_rows_eq
#print axioms Lattigo.Props.C10.incomplete_rows_eq
