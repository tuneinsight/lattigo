/-
  Property C11 — rotations and slot sums follow the Galois algebra; advertised key lists suffice.

  All theorems are about the executable models `Lattigo.Model.Galois` / `Lattigo.Model.InnerSum` (the
  definitions the driver runs and the harness ties to the real code; `galel`, `modinv`, `dlog`, `ordertwo` are
  executed from the REGENERATED `Gen/Galois.lean`, proved equal to the hand-written model in `Props/C11Gen`),
  and — §6 — about C04's executable key-switching model (`KS.scaleByP`, `KS.modDownR`,
  `KS.automorphismHoistedLazy`).  `nthRoot = 2^m` everywhere (`m = logN+1` standard ring, `logN+2`
  conjugate-invariant ring).  The model follows the code after the fixes `/verif/fixes/C11-1 … C11-6`.

  PROVED FOR ALL INPUTS
  §1  Galois-element arithmetic of `core/rlwe/params.go`: `galEl_eq`, `galEl_add(_wrap)`, `galEl_mod_slots`,
      `galEl_eq_iff`, `modInv_spec`, `modInv_galEl`, `dlog_galEl`, `galEl_dlog`, `orderTwo_spec`, with
      `orderOf_five` proved, not assumed; `AutomorphismNTTIndex` is a permutation of `[0,N)` for the standard
      ring (`nttIndex_perm`, every odd `g`) and for the conjugate-invariant ring (`nttIndex_perm_ci`, every
      `g ≡ 1 mod 4`, i.e. every rotation).
  §2  `PartialTracesSum` (= `RotateAndAdd`), `InnerFunction(Add)`, `Replicate`, `ckks/bgv InnerSum`, `Trace` on
      both ring types compute the documented sums of rotated inputs over EVERY carrier on which `aut` is a lawful
      action (`Lawful`), independently of stale buffers and of `int` overflow; arguments outside the accepted
      range are rejected (`…_rejected`).  `Lawful` is instantiated (no hypothesis left) by the executable slot
      carrier (§5, `*_slots`) and by the ring of RNS polynomials (`C11Ring.wfOps_lawful`, `…_rpoly`).
  §3  every key these operations look up is in the list advertised for the same arguments: `keys_sufficient_*`,
      for all Go `int`s `(batch, n)` with `n ≤ 2^62` (beyond that the Go loop of `GaloisElementsForInnerSum` does not
      terminate), all accepted `logN`; the bgv two-row list for `0 < n`, `0 < batch`, `n·batch < 2^62`.
  §4  `rotate_slots`: over any commutative ring and any `ζ` with `ζ^N = −1`, `X ↦ X^g` (`sigma`, and the
      executable `RPoly.rowAut`, `rowAut_is_sigma`) moves slot `a(ζ^u)` to `a(ζ^(u·g))`; `GaloisElement(k)`
      rotates each slot row by exactly `k` (every Go `int`), `2N−1` swaps the rows (`orderTwo_swaps_rows`) and, for
      an endomorphism `c` with `c ζ = ζ⁻¹` fixing the coefficients, conjugates every slot (`orderTwo_conjugates`);
      the CKKS case is PROVED in `ℂ` (`orderTwo_conjugates_complex`: `ζ = e^{iπ/N}`, real coefficients, complex
      conjugation), a second non-degenerate instance lives in `ZMod 17 × ZMod 17`; no such `c` exists on a prime
      field (`C11Ring.orderTwo_conjugates_hyps_unsatisfiable_zmod`).  BGV: decoding after `rowAut g` is
      `slotAut .bgv g` of the decoding (`rotate_slots_bgv`, `rotateRows_bgv`, `rotate_decode`).
      NTT domain: `ring.AutomorphismNTT` (index permutation) is `NTT ∘ rowAut g ∘ NTT⁻¹` on the standard
      transform (`automorphismNTT_spec`), and on the CONJUGATE-INVARIANT transform position `index[i]` holds the
      value of `a_0 + Σ a_m (X^m + X^{-m})` at `x_i^g`, `x_i` the evaluation point of position `i`
      (`automorphismNTT_ci`, with `nttCI_entry`: position `t` of `nttCI` is the value at `ψ^(2·brv(t)+1)`).
  §5  the executable slot carrier `slotOps` is the homomorphic image of a lawful carrier; `*_slots` = §2 without
      hypothesis on well-formed slot vectors.
  §6  hoisted-lazy rotation (`AutomorphismHoistedLazy` + `ModDown`, the path of `RotateHoistedLazyNew` and of the
      linear transformations) on C04's `RPoly` model: `ModDown(x + F·c0|_Q) = ModDown(x) + F·P_key⁻¹·c0` for every
      factor `F` (`hoistedLazy_any_factor`), hence `= ModDown(x) + c0` exactly for `F = P_key`, the product of the
      auxiliary primes OF THE KEY (`hoistedLazy_P_factor`), and `= ModDown(x) + P'·c0` for `F = P_key·P'`
      (`hoistedLazy_wrong_factor`: what the factor `PBigInt()` gives with a key of lower `LevelP`).
  PROVED UNDER A NAMED HYPOTHESIS
  * `rotate_slots_ciphertext`, `automorphism_slots_ciphertext`: hypothesis `hks` = the conclusion of C04's
    `automorphism_phase` (key-switch correctness up to noise `ν`); discharged for the `RPoly` model in
    `C04Ring.automorphism_phase_rpoly`, for the word-level gadget product it is C04's business.
  * `hoistedLazy_eq_hoisted`: pointwise hypotheses `h0 h1` "`ModDown` commutes with `σ` on these two
    polynomials".  True (the auxiliary modulus is odd, so the centred remainder is sign-symmetric) but not proved:
    C04's `modDownR` goes through the IEEE index of `reconstructRNS`; probed bit-exactly on the real code
    (`keylevel_lazy_eq_hoisted`).
  TIED ONLY: the slot-vector evaluation of the algorithms (`pts`, `replicate`, `innerfunction`, `innersum-*`,
  `trace`, `rotate`, `conj`, `rothoisted`), the request traces and the advertised lists on the explored inputs.
  NOT COVERED: the CKKS encoder (float FFT) is connected to the slots `a(ζ^(5^j))` only through §4 over `ℂ`;
  sparse packing and result metadata are probed (`metadata_*`), not modelled; the coefficient-domain
  `ring.Automorphism` of the conjugate-invariant ring is not treated here (§4 covers its NTT-domain form; the coefficient
  form is `RingQP.rowAutCI` with `aut_ci_restriction`, `aut_ci_closed`, `aut_ci_sem` of Props/C01QP);
  `GaloisElementsForExpand` / `…ForPack` are not modelled.  (`ring.BRed` inside `ModExp`: the hand-written model
  uses `x·y mod p`; `Props/C11Gen` proves the regenerated code with the word-level `Gen.BRed` equal to it.)
-/
import Lattigo.Proofs.GaloisDlog
import Lattigo.Proofs.GaloisNTTIndex
import Lattigo.Proofs.InnerSumTrace
import Lattigo.Proofs.InnerSumSchemes
import Lattigo.Proofs.SlotLawful
import Lattigo.Proofs.RotateSlots
import Lattigo.Proofs.RotateSlotsComplex
import Lattigo.Proofs.RotateSlotsCI
import Lattigo.Proofs.GaloisHoistedLazy
import Lattigo.Props.C11Gen
import Lattigo.Props.C11Ring
import Mathlib.Tactic.NormNum.Prime

namespace Lattigo.Props.C11
open Lattigo Lattigo.Model.Galois Lattigo.Model.InnerSum
open Lattigo.Proofs.Galois Lattigo.Proofs.InnerSum
open Finset

/-! ## carriers used for the non-vacuity examples -/

/-- Evaluation vectors: `f j` is the value of a polynomial at `ζ^j` (`ζ` a primitive `N`-th root);
    the automorphism `X ↦ X^g` acts by `(σ_g f)(j) = f(j·g)`.  This is the true semantics of slots. -/
def evalOps (N : Nat) : Ops (ZMod N → Int) where
  add a b := a + b
  aut g f := fun j => f (j * (g : ZMod N))
  scaleInv _ f := f

theorem evalOps_lawful (N : Nat) : Lawful (evalOps N) N where
  add_eq _ _ := rfl
  aut_add _ _ _ := rfl
  aut_zero _ := rfl
  aut_one a := by funext j; simp [evalOps]
  aut_mul g h a := by
    funext j
    simp only [evalOps, ZMod.natCast_mod, Nat.cast_mul]
    rw [mul_assoc]

/-- the trivial action on `Int` (every automorphism is the identity): lawful, executable. -/
def trivOps : Ops Int where
  add a b := a + b
  aut _ x := x
  scaleInv _ x := x

theorem trivOps_lawful (N : Nat) : Lawful trivOps N where
  add_eq _ _ := rfl
  aut_add _ _ _ := rfl
  aut_zero _ := rfl
  aut_one _ := rfl
  aut_mul _ _ _ := rfl

/-! ## 1. Galois elements -/

theorem orderOf_five (t : Nat) : orderOf (five (t + 3)) = 2 ^ (t + 1) :=
  Proofs.Galois.orderOf_five t

/-- `GaloisElement(k) = 5^(k mod nthRoot) mod nthRoot` for every Go `int` `k` (negative `k` go
    through `uint64(k) & (nthRoot-1)`). -/
theorem galEl_eq (m : Nat) (hm1 : 1 ≤ m) (hm : m ≤ 64) (k : Int) :
    galEl (2 ^ m) k = 5 ^ (k % ((2 ^ m : Nat) : Int)).toNat % 2 ^ m :=
  Proofs.Galois.galEl_eq m hm1 hm k

theorem galEl_add (m : Nat) (hm1 : 1 ≤ m) (hm : m ≤ 64) (a b : Int) :
    (galEl (2 ^ m) a * galEl (2 ^ m) b) % 2 ^ m = galEl (2 ^ m) (a + b) :=
  Proofs.Galois.galEl_add m hm1 hm a b

example : (galEl 32 (-3) * galEl 32 9223372036854775807) % 32 = galEl 32 (-3 + 9223372036854775807) :=
  galEl_add 5 (by norm_num) (by norm_num) _ _

/-- the sum may be formed in Go `int` arithmetic (wrapping): same element. -/
theorem galEl_add_wrap (m : Nat) (hm1 : 1 ≤ m) (hm : m ≤ 64) (a b : Int) :
    (galEl (2 ^ m) a * galEl (2 ^ m) b) % 2 ^ m = galEl (2 ^ m) (wrapInt (a + b)) := by
  rw [galEl_wrapInt]; exact Proofs.Galois.galEl_add m hm1 hm a b

/-- `k` and `k mod slots` coincide (`slots = nthRoot/4`). -/
theorem galEl_mod_slots (t : Nat) (ht : t + 3 ≤ 64) (k : Int) :
    galEl (2 ^ (t + 3)) k = galEl (2 ^ (t + 3)) (k % ((2 ^ (t + 1) : Nat) : Int)) :=
  Proofs.Galois.galEl_mod_slots t ht k

example : galEl 32 (-9223372036854775808) = galEl 32 ((-9223372036854775808) % ((2 ^ 3 : Nat) : Int)) :=
  galEl_mod_slots 2 (by norm_num) _

/-- … and nothing else coincides. -/
theorem galEl_eq_iff (t : Nat) (ht : t + 3 ≤ 64) (a b : Int) :
    galEl (2 ^ (t + 3)) a = galEl (2 ^ (t + 3)) b ↔ a ≡ b [ZMOD ((2 ^ (t + 1) : Nat) : Int)] :=
  Proofs.Galois.galEl_eq_iff t ht a b

theorem modInv_spec (m : Nat) (hm1 : 1 ≤ m) (hm : m ≤ 64) (g : Nat) (hg : g % 2 = 1) :
    (g * modInv (2 ^ m) g) % 2 ^ m = 1 :=
  Proofs.Galois.modInv_spec m hm1 hm g hg

example : (31 * modInv 32 31) % 32 = 1 := modInv_spec 5 (by norm_num) (by norm_num) 31 (by norm_num)

theorem modInv_galEl (m : Nat) (hm1 : 1 ≤ m) (hm : m ≤ 64) (k : Int) :
    modInv (2 ^ m) (galEl (2 ^ m) k) = galEl (2 ^ m) (-k) :=
  Proofs.Galois.modInv_galEl m hm1 hm k

/-- `SolveDiscreteLogGaloisElement(GaloisElement(k)) = k mod slots`: the bit-by-bit loop is
    correct for every `nthRoot = 2^(t+3)` up to `2^64`. -/
theorem dlog_galEl (t : Nat) (ht : t + 3 ≤ 64) (k : Int) :
    solveDiscreteLog (2 ^ (t + 3)) (galEl (2 ^ (t + 3)) k)
      = some (k % ((2 ^ (t + 1) : Nat) : Int)).toNat :=
  Proofs.Galois.dlog_galEl t ht k

example : solveDiscreteLog 32 (galEl 32 (-1)) = some 7 :=
  dlog_galEl 2 (by norm_num) (-1)

/-- mutual inverse, other direction: on the image of `GaloisElement`,
    `GaloisElement(SolveDiscreteLogGaloisElement(g)) = g`. -/
theorem galEl_dlog (t : Nat) (ht : t + 3 ≤ 64) (k : Int) :
    ∃ d, solveDiscreteLog (2 ^ (t + 3)) (galEl (2 ^ (t + 3)) k) = some d ∧
      galEl (2 ^ (t + 3)) (d : Int) = galEl (2 ^ (t + 3)) k := by
  refine ⟨_, dlog_galEl t ht k, ?_⟩
  rw [Int.toNat_of_nonneg (Int.emod_nonneg k (Nat.cast_ne_zero.mpr (Nat.two_pow_pos _).ne')),
    ← galEl_mod_slots t ht k]

/-- `ring.AutomorphismNTTIndex(N, 2N, g)` is a permutation of `[0, N)` for
    every odd `g` (table of length `N`, no repetition, entries `< N`). -/
theorem nttIndex_perm (m : Nat) (hm1 : 1 ≤ m) (hm : m ≤ 64) (g : Nat) (hg : g % 2 = 1) :
    ∃ l, automorphismNTTIndex (2 ^ (m - 1)) (2 ^ m) g = some l ∧ l.length = 2 ^ (m - 1) ∧
      l.Nodup ∧ ∀ x ∈ l, x < 2 ^ (m - 1) :=
  Proofs.Galois.nttIndex_perm m hm1 hm g hg

example : automorphismNTTIndex 16 32 5 = some [4, 5, 6, 7, 3, 2, 0, 1, 14, 15, 13, 12, 8, 9, 10, 11] := by
  decide +kernel

/-- for `nthRoot < 8` the Go loop of `SolveDiscreteLogGaloisElement` never terminates
    (`x = N>>3 = 0`): the model runs out of fuel.  Not reachable (`MinLogN = 4`). -/
theorem dlog_diverges_small : solveDiscreteLog 4 1 = none :=
  Proofs.Galois.dlogLoop_zero 4 1 64 0

/-- the order-two element squares to one and is not a rotation. -/
theorem orderTwo_spec (m : Nat) (hm2 : 2 ≤ m) (hm : m ≤ 64) :
    ((2 ^ m - 1) * (2 ^ m - 1)) % 2 ^ m = 1 ∧ ∀ k : Int, galEl (2 ^ m) k ≠ 2 ^ m - 1 :=
  ⟨orderTwo_sq _ (Nat.one_lt_two_pow (by omega)), orderTwo_not_rotation m hm2 hm⟩

/-! ## 2. rotate-and-accumulate sums -/

/-- For every lawful carrier, every `offset ≠ 0` and every `n ≥ 1` (Go `int`s),
    on parameters with an auxiliary modulus, `PartialTracesSum(ct, offset, n)` (= `RotateAndAdd`) is
    `Σ_{r<n} rot(r·offset) ct`, independently of the stale contents of `opOut` and of the
    accumulator buffer, and however `r·offset` wraps in `int` arithmetic. -/
theorem innerSum_spec {α : Type} [AddCommMonoid α] {S : Ops α} {m : Nat}
    (hS : Lawful S (2 ^ m)) (hm1 : 1 ≤ m) (hm : m ≤ 64)
    (v out0 acc0 : α) (offset n : Int) (hn : 1 ≤ n) (hn63 : n < 9223372036854775808)
    (hoff : offset ≠ 0) :
    (partialTracesSum S (2 ^ m) true v out0 acc0 offset n).val?
      = some (∑ r ∈ range n.toNat, rot S (2 ^ m) ((r : Int) * offset) v) :=
  partialTracesSum_spec hS hm1 hm v out0 acc0 offset n hn hn63 hoff

/-- non-vacuity: `n = 7` (three set bits), `offset = -3`, on evaluation vectors mod 64. -/
example (v out0 acc0 : ZMod 64 → Int) :
    (partialTracesSum (evalOps 64) 64 true v out0 acc0 (-3) 7).val?
      = some (∑ r ∈ range 7, rot (evalOps 64) 64 ((r : Int) * (-3)) v) :=
  innerSum_spec (m := 6) (evalOps_lawful 64) (by norm_num) (by norm_num) v out0 acc0 (-3) 7
    (by norm_num) (by norm_num) (by norm_num)

/-- `offset = 2^62`, `n = 5` (`4·2^62` wraps to `0` in `int` arithmetic): an instance of the theorem,
    `5·ct`, even with dirty buffers. -/
example : (partialTracesSum trivOps 32 true 1 77 99 4611686018427387904 5).val? = some 5 := by
  decide +kernel

/-- `PartialTracesSum` rejects `n ≤ 0` and `offset = 0` … -/
theorem partialTracesSum_nonpositive_rejected {α : Type} (S : Ops α) (N : Nat) (hasP : Bool)
    (v out0 acc0 : α) (offset n : Int) (h : n ≤ 0 ∨ offset = 0) :
    partialTracesSum S N hasP v out0 acc0 offset n = .err := by
  unfold partialTracesSum
  rw [if_pos h]

/-- … and parameters without auxiliary modulus `P` (error, no nil dereference).  Same for
    `Replicate`, `RotateAndAdd`, and the scheme-level `InnerSum`s, which all go through it. -/
theorem partialTracesSum_noP_rejected {α : Type} (S : Ops α) (N : Nat)
    (v out0 acc0 : α) (offset n : Int) :
    partialTracesSum S N false v out0 acc0 offset n = .err := by
  unfold partialTracesSum
  split <;> rfl

/-- **`InnerFunction` with `f = Add`** computes the same sum for every `batchSize` (zero and
    overflowing ones included) and every `n ≥ 1`; it does not need `P`. -/
theorem innerFunction_spec {α : Type} [AddCommMonoid α] {S : Ops α} {m : Nat}
    (hS : Lawful S (2 ^ m)) (hm1 : 1 ≤ m) (hm : m ≤ 64)
    (v out0 acc0 : α) (batch n : Int) (hn : 1 ≤ n) (hn63 : n < 9223372036854775808) :
    (innerFunction S S.add (2 ^ m) v out0 acc0 batch n).val?
      = some (∑ r ∈ range n.toNat, rot S (2 ^ m) ((r : Int) * batch) v) :=
  innerFunction_add_spec hS hm1 hm v out0 acc0 batch n hn hn63

example (v out0 acc0 : ZMod 64 → Int) :
    (innerFunction (evalOps 64) (evalOps 64).add 64 v out0 acc0 2 6).val?
      = some (∑ r ∈ range 6, rot (evalOps 64) 64 ((r : Int) * 2) v) :=
  innerFunction_spec (m := 6) (evalOps_lawful 64) (by norm_num) (by norm_num) v out0 acc0 2 6
    (by norm_num) (by norm_num)

/-- `batchSize = 0`: `3·ct`. -/
example : (innerFunction trivOps trivOps.add 32 1 77 99 0 3).val? = some 3 := by decide +kernel

/-- `InnerFunction` rejects `n ≤ 0`. -/
theorem innerFunction_nonpositive_rejected {α : Type} (S : Ops α) (f : α → α → α) (N : Nat)
    (v out0 acc0 : α) (batch n : Int) (hn : n ≤ 0) :
    innerFunction S f N v out0 acc0 batch n = .err := by
  unfold innerFunction
  rw [if_pos hn]

/-- `Replicate(ct, batch, n) = Σ_{r<n} rot(-r·batch) ct`. -/
theorem replicate_spec {α : Type} [AddCommMonoid α] {S : Ops α} {m : Nat}
    (hS : Lawful S (2 ^ m)) (hm1 : 1 ≤ m) (hm : m ≤ 64)
    (v out0 acc0 : α) (batch n : Int) (hn : 1 ≤ n) (hb : batch ≠ 0)
    (hsmall : n * |batch| < 9223372036854775808) :
    (replicate S (2 ^ m) true v out0 acc0 batch n).val?
      = some (∑ r ∈ range n.toNat, rot S (2 ^ m) (-((r : Int) * batch)) v) :=
  Proofs.InnerSum.replicate_spec hS hm1 hm v out0 acc0 batch n hn hb hsmall

example (v out0 acc0 : ZMod 64 → Int) :
    (replicate (evalOps 64) 64 true v out0 acc0 2 5).val?
      = some (∑ r ∈ range 5, rot (evalOps 64) 64 (-((r : Int) * 2)) v) :=
  replicate_spec (m := 6) (evalOps_lawful 64) (by norm_num) (by norm_num) v out0 acc0 2 5
    (by norm_num) (by norm_num) (by norm_num)

/-- **`ckks.Evaluator.InnerSum`**: every accepted call returns the documented sum. -/
theorem innerSumCKKS_spec {α : Type} [AddCommMonoid α] {S : Ops α} {m : Nat}
    (hS : Lawful S (2 ^ m)) (hm1 : 1 ≤ m) (hm : m ≤ 64) (slots : Nat)
    (v out0 acc0 : α) (batch n : Int) (hn : 0 < n) (hb : 0 < batch)
    (hnb : n * batch < 9223372036854775808) :
    ∀ x, (innerSumCKKS S (2 ^ m) slots true v out0 acc0 batch n).val? = some x →
      x = ∑ r ∈ range n.toNat, rot S (2 ^ m) ((r : Int) * batch) v :=
  Proofs.InnerSum.innerSumCKKS_spec hS hm1 hm slots v out0 acc0 batch n hn hb hnb

/-- non-vacuity: `(batch, n) = (2, 4)` on 8 slots is accepted. -/
example : ∃ x, (innerSumCKKS trivOps 32 8 true 1 0 0 2 4).val? = some x := ⟨4, by decide +kernel⟩

/-- **`bgv.Evaluator.InnerSum`** (two rows): row-wise sum, and for `n·batch = slots` the sum over
    both rows obtained from `(batch, n/2)` plus the row swap. -/
theorem innerSumBGV_spec {α : Type} [AddCommMonoid α] {S : Ops α} {m : Nat}
    (hS : Lawful S (2 ^ m)) (hm1 : 1 ≤ m) (hm : m ≤ 64) (slots : Nat)
    (v out0 acc0 : α) (batch n : Int) (hn : 0 < n) (hb : 0 < batch)
    (hnb : n * batch < 9223372036854775808) :
    ∀ x, (innerSumBGV S (2 ^ m) slots true v out0 acc0 batch n).val? = some x →
      x = if n * batch = slots ∧ n ≠ 1 then
            (let u := ∑ r ∈ range (n / 2).toNat, rot S (2 ^ m) ((r : Int) * batch) v
             u + S.aut (2 ^ m - 1) u)
          else ∑ r ∈ range n.toNat, rot S (2 ^ m) ((r : Int) * batch) v :=
  Proofs.InnerSum.innerSumBGV_spec hS hm1 hm slots v out0 acc0 batch n hn hb hnb

/-- non-vacuity: the boundary case `n·batch = slots` (`(2, 8)` on 16 slots) is accepted. -/
example : ∃ x, (innerSumBGV trivOps 32 16 true 1 0 0 2 8).val? = some x := ⟨8, by decide +kernel⟩

/-- `Trace`, standard ring, `0 < logN < L-1`: normalised sum over the rotations by
    multiples of `2^logN`.  `L ≤ 62` here and in the other `trace_spec_*`: the rotation amounts `1 << i` and the gap
    `1 << (L - logN)` are Go `int`s and must not wrap (`Proofs.InnerSum.shlInt_eq`). -/
theorem trace_spec_standard {α : Type} [AddCommMonoid α] {S : Ops α} (L : Nat)
    (hS : Lawful S (2 ^ (L + 1))) (hL : L ≤ 62) (v : α) (logN : Nat) (h0 : 0 < logN) (hlt : logN + 1 < L) :
    (trace S .standard L v (logN : Int)).val?
      = some (∑ j ∈ range (2 ^ (L - 1 - logN)),
          rot S (2 ^ (L + 1)) ((j : Int) * ((2 ^ logN : Nat) : Int)) (S.scaleInv (2 ^ (L - 1 - logN)) v)) :=
  trace_spec_pos L hS hL v logN h0 hlt

example (v : ZMod 32 → Int) :
    (trace (evalOps 32) .standard 4 v 1).val?
      = some (∑ j ∈ range 4, rot (evalOps 32) 32 ((j : Int) * 2) v) :=
  trace_spec_standard (S := evalOps 32) 4 (evalOps_lawful 32) (by norm_num) v 1 (by norm_num) (by norm_num)

/-- `Trace`, conjugate-invariant ring, `0 ≤ logN < L`: normalised sum over the
    `2^(L-logN)` rotations by multiples of `2^logN` (`nthRoot = 4N`, the rotation group has
    order `N = 2^L`; no order-two element). -/
theorem trace_spec_ci {α : Type} [AddCommMonoid α] {S : Ops α} (L : Nat)
    (hS : Lawful S (2 ^ (L + 2))) (hL : L ≤ 62) (v : α) (logN : Nat) (hlt : logN < L) :
    (trace S .conjugateInvariant L v (logN : Int)).val?
      = some (∑ j ∈ range (2 ^ (L - logN)),
          rot S (2 ^ (L + 2)) ((j : Int) * ((2 ^ logN : Nat) : Int)) (S.scaleInv (2 ^ (L - logN)) v)) :=
  Proofs.InnerSum.trace_spec_ci L hS hL v logN hlt

example (v : ZMod 64 → Int) :
    (trace (evalOps 64) .conjugateInvariant 4 v 2).val?
      = some (∑ j ∈ range 4, rot (evalOps 64) 64 ((j : Int) * 4) v) :=
  trace_spec_ci (S := evalOps 64) 4 (evalOps_lawful 64) (by norm_num) v 2 (by norm_num)

/-- conjugate-invariant ring of degree 16, `logN = 2`, on slot vectors: the result is the
    4-periodic average, invariant under `rot(4)`. -/
example :
    (trace (slotOps .single 64 0) .conjugateInvariant 4
        [4,8,12,16,20,24,28,32,36,40,44,48,52,56,60,64] 2).val?
      = some [28, 32, 36, 40, 28, 32, 36, 40, 28, 32, 36, 40, 28, 32, 36, 40] ∧
    slotAut .single 64 (galEl 64 4) [28, 32, 36, 40, 28, 32, 36, 40, 28, 32, 36, 40, 28, 32, 36, 40]
      = [28, 32, 36, 40, 28, 32, 36, 40, 28, 32, 36, 40, 28, 32, 36, 40] :=
  ⟨by decide +kernel, by decide +kernel⟩

/-- `logN = 0` (standard ring): all rotations, then the order-two element, normalised by `N`. -/
theorem trace_spec_zero_standard {α : Type} [AddCommMonoid α] {S : Ops α} (L : Nat)
    (hS : Lawful S (2 ^ (L + 1))) (hL1 : 1 ≤ L) (hL : L ≤ 62) (v : α) :
    (trace S .standard L v 0).val?
      = some (let u := ∑ j ∈ range (2 ^ (L - 1)),
                rot S (2 ^ (L + 1)) ((j : Int) * ((2 ^ 0 : Nat) : Int)) (S.scaleInv (2 ^ L) v)
              u + S.aut (2 ^ (L + 1) - 1) u) :=
  Proofs.InnerSum.trace_spec_zero L hS hL1 hL v

/-- `logN = log2 #rotations` (`L-1` standard, `L` conjugate-invariant): identity. -/
theorem trace_spec_top {α : Type} (S : Ops α) (rt : RingType) (L : Nat) (v : α) (logN : Int)
    (h : logN = logRot rt L) (h0 : 0 ≤ logN) (hnz : ¬ (logN = 0 ∧ rt = .standard)) :
    (trace S rt L v logN).val? = some v :=
  Proofs.InnerSum.trace_spec_top S rt L v logN h h0 hnz

example : (trace trivOps .conjugateInvariant 4 7 4).val? = some 7 :=
  trace_spec_top trivOps .conjugateInvariant 4 7 4 (by decide) (by decide) (by decide)

/-- `logN` outside `[0, log2 #rotations]` is rejected by `Trace` (error) and by
    `GaloisElementsForTrace` (sanity-check panic) alike. -/
theorem trace_rejected {α : Type} (S : Ops α) (rt : RingType) (L : Nat) (v : α) (logN : Int)
    (h : logN < 0 ∨ logN > logRot rt L) :
    trace S rt L v logN = .err ∧ galoisElementsForTrace rt L logN = none :=
  Proofs.InnerSum.trace_rejected S rt L v logN h

/-! ## 3. advertised key lists suffice -/

/-- `PartialTracesSum` / `RotateAndAdd`.  For all Go `int`s `offset`, `n ≤ 2^62`:
    `GaloisElementsForInnerSum(offset, n)` terminates and contains every key looked up. -/
theorem keys_sufficient_partialTracesSum {α : Type} (S : Ops α) (N : Nat) (hasP : Bool) (v out0 acc0 : α)
    (offset n : Int) (hn : n ≤ 4611686018427387904) :
    ∃ l, galoisElementsForInnerSum N offset n = some l ∧
      ∀ r ∈ (partialTracesSum S N hasP v out0 acc0 offset n).reqs, r ∈ l :=
  partialTracesSum_keys S N hasP v out0 acc0 offset n hn

/-- non-vacuity: the requests of `(3, 13)` are non-empty. -/
example : (partialTracesSum trivOps 64 true 1 0 0 3 13).reqs ≠ [] := by decide +kernel

theorem keys_sufficient_innerFunction {α : Type} (S : Ops α) (f : α → α → α) (N : Nat)
    (v out0 acc0 : α) (batch n : Int) (hn : n ≤ 4611686018427387904) :
    ∃ l, galoisElementsForInnerSum N batch n = some l ∧
      ∀ r ∈ (innerFunction S f N v out0 acc0 batch n).reqs, r ∈ l := by
  obtain ⟨l, hl, hmem⟩ := req_mem_adv N batch n hn
  exact ⟨l, hl, fun r hr => hmem r (innerFunction_reqs S f N v out0 acc0 batch n r hr)⟩

theorem keys_sufficient_replicate {α : Type} (S : Ops α) (N : Nat) (hasP : Bool) (v out0 acc0 : α)
    (batch n : Int) (hn : n ≤ 4611686018427387904) :
    ∃ l, galoisElementsForReplicate N batch n = some l ∧
      ∀ r ∈ (replicate S N hasP v out0 acc0 batch n).reqs, r ∈ l :=
  replicate_keys S N hasP v out0 acc0 batch n hn

theorem keys_sufficient_innerSumCKKS {α : Type} (S : Ops α) (N slots : Nat) (hasP : Bool) (v out0 acc0 : α)
    (batch n : Int) (hn : n ≤ 4611686018427387904) :
    ∃ l, galoisElementsForInnerSum N batch n = some l ∧
      ∀ r ∈ (innerSumCKKS S N slots hasP v out0 acc0 batch n).reqs, r ∈ l := by
  obtain ⟨l, hl, hmem⟩ := partialTracesSum_keys S N hasP v out0 acc0 batch n hn
  refine ⟨l, hl, fun r hr => ?_⟩
  rcases innerSumCKKS_cases S N slots hasP v out0 acc0 batch n with h | h
  · rw [h] at hr; exact absurd hr List.not_mem_nil
  · rw [h] at hr; exact hmem r hr

/-- **bgv two-row layout**: `bgv.Parameters.GaloisElementsForInnerSum(batch, n)` suffices for
    `bgv.Evaluator.InnerSum(ct, batch, n)`, including the case `n·batch = slots` where the
    evaluator runs `(batch, n/2)` and swaps the rows. -/
theorem keys_sufficient_innerSumBGV {α : Type} (S : Ops α) (N maxSlots : Nat) (hms : 1 ≤ maxSlots)
    (hasP : Bool) (v out0 acc0 : α) (batch n : Int) (hn : 0 < n) (hb : 0 < batch)
    (hnb : n * batch < 4611686018427387904) :
    ∃ l, galoisElementsForInnerSumBGV N maxSlots batch n = some l ∧
      ∀ r ∈ (innerSumBGV S N maxSlots hasP v out0 acc0 batch n).reqs, r ∈ l :=
  innerSumBGV_keys S N maxSlots hms hasP v out0 acc0 batch n hn hb hnb

/-- non-vacuity: at the boundary the row-swap key `nthRoot-1 = 31` is requested. -/
example : 31 ∈ (innerSumBGV trivOps 32 16 true 1 0 0 2 8).reqs := by decide +kernel

theorem keys_sufficient_replicateBGV {α : Type} (S : Ops α) (N ringN : Nat) (hasP : Bool) (v out0 acc0 : α)
    (batch n : Int) (hn : n ≤ 4611686018427387904) :
    ∃ l, galoisElementsForReplicateBGV N ringN batch n = some l ∧
      ∀ r ∈ (replicate S N hasP v out0 acc0 batch n).reqs, r ∈ l := by
  obtain ⟨l, hl, hmem⟩ := replicate_keys S N hasP v out0 acc0 batch n hn
  unfold galoisElementsForReplicateBGV
  rw [hl]
  refine ⟨_, rfl, ?_⟩
  intro r hr
  split
  · exact List.mem_append_left _ (hmem r hr)
  · exact hmem r hr

/-- **`Trace`**: for every ring type and degree and every accepted `logN` the advertised list is
    defined and suffices (rejected `logN`: see `trace_rejected`). -/
theorem keys_sufficient_trace {α : Type} (S : Ops α) (rt : RingType) (L : Nat) (v : α) (logN : Int)
    (h0 : 0 ≤ logN) (h1 : logN ≤ logRot rt L) :
    ∃ l, galoisElementsForTrace rt L logN = some l ∧
      ∀ r ∈ (trace S rt L v logN).reqs, r ∈ l :=
  trace_keys S rt L v logN h0 h1

example : galoisElementsForTrace .standard 4 0 = some [5, 25, 17, 31] := by decide +kernel

/-- conjugate-invariant ring: the list for `logN = 0` is defined and is what
    `Trace(ct, 0)` looks up (4 rotations, no order-two element). -/
example : galoisElementsForTrace .conjugateInvariant 4 0 = some [5, 25, 49, 33] ∧
    (trace trivOps .conjugateInvariant 4 1 0).reqs = [5, 25, 49, 33] :=
  ⟨by decide +kernel, by decide +kernel⟩

/-- single rotations / conjugation / hoisted rotations only look up the keys of their arguments. -/
theorem keys_sufficient_rotate {α : Type} (S : Ops α) (N : Nat) (v : α) (k : Int) :
    ∀ r ∈ (rotate S N v k).reqs, r = galEl N k := by
  intro r hr
  unfold rotate at hr
  simp only [Res.reqs] at hr
  rcases mem_request hr with h | h
  · simp at h
  · exact h

theorem keys_sufficient_rotateHoisted {α : Type} (S : Ops α) (N : Nat) (hasP : Bool) (v : α) (ks : List Int) :
    ∀ res, rotateHoisted S N hasP v ks = some res → ∀ r ∈ res.2, r ∈ galEls N ks :=
  rotateHoisted_keys S N hasP v ks

/-- `ckks.Evaluator.RotateHoisted` returns an error on parameters without `P`. -/
theorem rotateHoisted_noP_rejected {α : Type} (S : Ops α) (N : Nat) (v : α) (ks : List Int) :
    rotateHoisted S N false v ks = none := rfl

/-! ## 4. `rotate_slots`: the automorphism `X ↦ X^g` on slots -/

section RotateSlots
open Lattigo.Proofs.RotateSlots Lattigo.Proofs.SlotLawful

/-- `(σ_g a)(x) = a(x^g)` at every root `x` of `X^N+1`, for the coefficient-level
    `sigma N g a = a(X^g) mod X^N+1` over any commutative ring, any `g`. -/
theorem sigma_eval {R : Type} [CommRing R] {N : ℕ} (g : ℕ) (a : List R) (ha : a.length = N) (x : R)
    (hx : x ^ N = -1) : evalP (sigma N g a) x = evalP a (x ^ g) :=
  evalP_sigma g a ha x hx

/-- the executable `RPoly.rowAut g q` (one RNS row of `ring.Automorphism`, coefficient domain) is
    `sigma`, read in any commutative ring where `q = 0`, for every `g` coprime to `2N`. -/
theorem rowAut_is_sigma {R : Type} [CommRing R] (q : ℕ) (hq : 0 < q) (hqR : (q : R) = 0) (g : ℕ)
    (x : List ℕ) (hg : Nat.Coprime g (2 * x.length)) :
    (RPoly.rowAut g q x).map (Nat.cast : ℕ → R) = sigma x.length g (x.map (Nat.cast : ℕ → R)) :=
  rowAut_cast q hq hqR g x hg

example : RPoly.rowAut 5 17 [1, 2, 3, 4] = [1, 15, 3, 13] := by decide

/-- `nthRoot = 2N = 2^(t+3)`, `ζ^N = -1`.  The first slot row of
    `σ_{GaloisElement(k)} a` is the first slot row of `a` rotated cyclically by `k`: slot `j`
    receives slot `(j + k) mod N/2`.  Every Go `int` `k`. -/
theorem rotate_slots {R : Type} [CommRing R] {t : ℕ} (ζ : R) (ht : t + 3 ≤ 64)
    (hζ : ζ ^ 2 ^ (t + 2) = -1) (a : List R) (ha : a.length = 2 ^ (t + 2)) (k : ℤ) (j : ℕ) :
    slot0 ζ (2 ^ (t + 3)) (sigma (2 ^ (t + 2)) (galEl (2 ^ (t + 3)) k) a) j
      = slot0 ζ (2 ^ (t + 3)) a (((j : ℤ) + k) % ((2 ^ (t + 1) : ℕ) : ℤ)).toNat :=
  Proofs.RotateSlots.rotate_slots ζ ht hζ a ha k j

/-- non-vacuity: `R = ZMod 17`, `N = 4`, `ζ = 2` (`2^4 = -1`), `k = -1`. -/
example (a : List (ZMod 17)) (ha : a.length = 4) :
    slot0 2 8 (sigma 4 (galEl 8 (-1)) a) 0 = slot0 2 8 a 1 :=
  rotate_slots (t := 0) (2 : ZMod 17) (by norm_num) (by decide) a ha (-1) 0

/-- … and the second row (`a(ζ^(-5^j))`, the conjugate slots) is rotated in the same way. -/
theorem rotate_slots_row1 {R : Type} [CommRing R] {t : ℕ} (ζ : R) (ht : t + 3 ≤ 64)
    (hζ : ζ ^ 2 ^ (t + 2) = -1) (a : List R) (ha : a.length = 2 ^ (t + 2)) (k : ℤ) (j : ℕ) :
    slot1 ζ (2 ^ (t + 3)) (sigma (2 ^ (t + 2)) (galEl (2 ^ (t + 3)) k) a) j
      = slot1 ζ (2 ^ (t + 3)) a (((j : ℤ) + k) % ((2 ^ (t + 1) : ℕ) : ℤ)).toNat :=
  rotate_slots_neg ζ ht hζ a ha k j

/-- the order-two element `2N-1` swaps the two slot rows (BGV `RotateRows`) … -/
theorem orderTwo_swaps_rows {R : Type} [CommRing R] {t : ℕ} (ζ : R) (hζ : ζ ^ 2 ^ (t + 2) = -1)
    (a : List R) (ha : a.length = 2 ^ (t + 2)) (j : ℕ) :
    slot0 ζ (2 ^ (t + 3)) (sigma (2 ^ (t + 2)) (2 ^ (t + 3) - 1) a) j = slot1 ζ (2 ^ (t + 3)) a j
    ∧ slot1 ζ (2 ^ (t + 3)) (sigma (2 ^ (t + 2)) (2 ^ (t + 3) - 1) a) j = slot0 ζ (2 ^ (t + 3)) a j :=
  swap_slots ζ hζ a ha j

/-- … and conjugates every slot (CKKS `Conjugate`): for any ring endomorphism `c` fixing the
    coefficients and with `c ζ = ζ^(2N-1) = ζ⁻¹` (complex conjugation, real `a`, `ζ = e^{iπ/N}`). -/
theorem orderTwo_conjugates {R : Type} [CommRing R] {t : ℕ} (ζ : R) (hζ : ζ ^ 2 ^ (t + 2) = -1)
    (a : List R) (ha : a.length = 2 ^ (t + 2)) (c : R →+* R) (hc : ∀ i, c (a.getD i 0) = a.getD i 0)
    (hcζ : c ζ = ζ ^ (2 ^ (t + 3) - 1)) (u : (ZMod (2 ^ (t + 3)))ˣ) :
    E ζ (2 ^ (t + 3)) (sigma (2 ^ (t + 2)) (2 ^ (t + 3) - 1) a) u = c (E ζ (2 ^ (t + 3)) a u) :=
  conj_slots ζ hζ a ha c hc hcζ u

/-- non-vacuity, non-degenerate (characteristic 17): `R = ZMod 17 × ZMod 17`, `c` = the swap of the factors,
    `ζ = (2, 2⁻¹) = (2, 9)` (`2^4 = −1`), `N = 4`, coefficients on the diagonal.  (On a prime field `ZMod q`, `q > 2`,
    no endomorphism satisfies `c ζ = ζ⁻¹`: `C11Ring.orderTwo_conjugates_hyps_unsatisfiable_zmod`.) -/
example (u : (ZMod 8)ˣ) :
    E (((2, 9) : ZMod 17 × ZMod 17)) 8 (sigma 4 7 [(1, 1), (2, 2), (3, 3), (16, 16)]) u
      = Prod.swap (E (((2, 9) : ZMod 17 × ZMod 17)) 8 [(1, 1), (2, 2), (3, 3), (16, 16)] u) :=
  C11Ring.orderTwo_conjugates_instance u

/-- **CKKS `Conjugate`, in `ℂ`** — the instance `orderTwo_conjugates` is meant for, with its hypotheses
    discharged: `ζ = e^{iπ/N}` (`zetaC t`, `N = 2^(t+2)`), real coefficients, `c` = complex conjugation.  For every
    `t` and every unit `u` of `ℤ/2N`, slot `u` of `σ_{2N−1} a` is the complex conjugate of slot `u` of `a`. -/
theorem orderTwo_conjugates_complex (t : ℕ) (a : List ℝ) (ha : a.length = 2 ^ (t + 2))
    (u : (ZMod (2 ^ (t + 3)))ˣ) :
    E (zetaC t) (2 ^ (t + 3)) (sigma (2 ^ (t + 2)) (2 ^ (t + 3) - 1) (a.map (fun r : ℝ => (r : ℂ)))) u
      = (starRingEnd ℂ) (E (zetaC t) (2 ^ (t + 3)) (a.map (fun r : ℝ => (r : ℂ))) u) := by
  refine conj_slots (zetaC t) (zetaC_pow t) _ (by rw [List.length_map, ha]) (starRingEnd ℂ) (fun i => ?_)
    (zetaC_conj t) u
  by_cases hi : i < a.length
  · rw [List.getD_eq_getElem?_getD, List.getElem?_map, List.getElem?_eq_getElem hi]
    simp
  · rw [List.getD_eq_getElem?_getD, List.getElem?_eq_none (by rw [List.length_map]; omega)]
    simp

/-- … and `rotate_slots` in `ℂ`: the complex slots `a(ζ^(5^j))` of `σ_{GaloisElement(k)} a` are those of `a`
    rotated by `k`. -/
example (t : ℕ) (ht : t + 3 ≤ 64) (a : List ℂ) (ha : a.length = 2 ^ (t + 2)) (k : ℤ) (j : ℕ) :
    slot0 (zetaC t) (2 ^ (t + 3)) (sigma (2 ^ (t + 2)) (galEl (2 ^ (t + 3)) k) a) j
      = slot0 (zetaC t) (2 ^ (t + 3)) a (((j : ℤ) + k) % ((2 ^ (t + 1) : ℕ) : ℤ)).toNat :=
  rotate_slots (zetaC t) ht (zetaC_pow t) a ha k j

/-- composition: `σ_g ∘ σ_h` and `σ_{gh mod 2N}` agree on every slot (`g` odd). -/
theorem sigma_comp {R : Type} [CommRing R] {t : ℕ} (ζ : R) (hζ : ζ ^ 2 ^ (t + 2) = -1) (a : List R)
    (ha : a.length = 2 ^ (t + 2)) (g h : ℕ) (hg : g % 2 = 1) (u : (ZMod (2 ^ (t + 3)))ˣ) :
    E ζ (2 ^ (t + 3)) (sigma (2 ^ (t + 2)) g (sigma (2 ^ (t + 2)) h a)) u
      = E ζ (2 ^ (t + 3)) (sigma (2 ^ (t + 2)) (g * h % 2 ^ (t + 3)) a) u := by
  obtain ⟨gu, hgu⟩ := (ZMod.isUnit_iff_coprime g _).mpr (RPolyRing.odd_coprime_two_pow hg (t + 3))
  rw [E_sigma_unit ζ hζ g _ (sigma_length _ _ _) u, ← hgu, ← Units.val_mul,
    E_sigma_unit ζ hζ h a ha (u * gu), E_sigma_unit ζ hζ _ a ha u, Units.val_mul, hgu,
    ZMod.natCast_mod, Nat.cast_mul, mul_assoc]

/-- the plaintext modulus `65537` with primitive root `3` satisfies `PlainOK` for `N = 8`. -/
theorem plainOK_65537 : PlainOK 1 65537 3 :=
  ⟨by norm_num, by decide, by decide, by decide +kernel⟩

/-- The BGV model.  `N = 2^(e+2)`, plaintext modulus `p` (`PlainOK`), tables
    `mkTables N p 2N g₀`, the model's `permuteMatrix`: decoding all `N` slots after the plaintext
    automorphism `rowAut (GaloisElement k)` equals `slotAut .bgv (GaloisElement k)` of the decoding —
    both rows rotated left by `k mod N/2` (`slotAut_rotation`). -/
theorem rotate_slots_bgv {e p g₀ : ℕ} (h : PlainOK e p g₀) (he : e + 3 ≤ 64) (scale : ℕ) (pT : List ℕ)
    (hlen : pT.length = 2 ^ (e + 2)) (k : ℤ) :
    (EncoderT.decodeRingTU (NTT.mkTables (2 ^ (e + 2)) p (2 ^ (e + 3)) g₀) (EncoderT.permuteMatrix (e + 2))
        scale (RPoly.rowAut (galEl (2 ^ (e + 3)) k) p pT) (2 ^ (e + 2))).map Int.ofNat
      = slotAut .bgv (2 ^ (e + 3)) (galEl (2 ^ (e + 3)) k)
          ((EncoderT.decodeRingTU (NTT.mkTables (2 ^ (e + 2)) p (2 ^ (e + 3)) g₀)
            (EncoderT.permuteMatrix (e + 2)) scale pT (2 ^ (e + 2))).map Int.ofNat) :=
  decode_rowAut h he scale pT hlen (goodG_galEl k)

/-- non-vacuity (and a TEST by evaluation of both sides): `N = 8`, `p = 65537`, `k = -3`. -/
example :
    (EncoderT.decodeRingTU (NTT.mkTables 8 65537 16 3) (EncoderT.permuteMatrix 3) 1
        (RPoly.rowAut (galEl 16 (-3)) 65537 [1, 2, 3, 4, 5, 6, 7, 8]) 8).map Int.ofNat
      = slotAut .bgv 16 (galEl 16 (-3))
          ((EncoderT.decodeRingTU (NTT.mkTables 8 65537 16 3) (EncoderT.permuteMatrix 3) 1
            [1, 2, 3, 4, 5, 6, 7, 8] 8).map Int.ofNat) :=
  rotate_slots_bgv plainOK_65537 (by norm_num) 1 _ rfl (-3)

/-- `RotateRows`: decoding after `rowAut (2N-1)` is the decoding with the rows swapped. -/
theorem rotateRows_bgv {e p g₀ : ℕ} (h : PlainOK e p g₀) (he : e + 3 ≤ 64) (scale : ℕ) (pT : List ℕ)
    (hlen : pT.length = 2 ^ (e + 2)) :
    (EncoderT.decodeRingTU (NTT.mkTables (2 ^ (e + 2)) p (2 ^ (e + 3)) g₀) (EncoderT.permuteMatrix (e + 2))
        scale (RPoly.rowAut (2 ^ (e + 3) - 1) p pT) (2 ^ (e + 2))).map Int.ofNat
      = slotAut .bgv (2 ^ (e + 3)) (2 ^ (e + 3) - 1)
          ((EncoderT.decodeRingTU (NTT.mkTables (2 ^ (e + 2)) p (2 ^ (e + 3)) g₀)
            (EncoderT.permuteMatrix (e + 2)) scale pT (2 ^ (e + 2))).map Int.ofNat) :=
  decode_rowAut h he scale pT hlen (goodG_orderTwo (by decide))

/-- **keys level**: `RotateColumns(k)` on a decoded plaintext looks up exactly `GaloisElement(k)`
    (nothing if it is `1`) and its value is the decoding of `rowAut (GaloisElement k)`, which is the
    decoded vector with both rows rotated left by exactly `k mod N/2`. -/
theorem rotate_decode {e p g₀ : ℕ} (h : PlainOK e p g₀) (he : e + 3 ≤ 64) (scale : ℕ) (pT : List ℕ)
    (hlen : pT.length = 2 ^ (e + 2)) (k : ℤ) :
    rotate (slotOps .bgv (2 ^ (e + 3)) p) (2 ^ (e + 3))
        ((EncoderT.decodeRingTU (NTT.mkTables (2 ^ (e + 2)) p (2 ^ (e + 3)) g₀)
          (EncoderT.permuteMatrix (e + 2)) scale pT (2 ^ (e + 2))).map Int.ofNat) k
      = .ok ((EncoderT.decodeRingTU (NTT.mkTables (2 ^ (e + 2)) p (2 ^ (e + 3)) g₀)
              (EncoderT.permuteMatrix (e + 2)) scale
              (RPoly.rowAut (galEl (2 ^ (e + 3)) k) p pT) (2 ^ (e + 2))).map Int.ofNat)
            (request false (galEl (2 ^ (e + 3)) k) [])
    ∧ (EncoderT.decodeRingTU (NTT.mkTables (2 ^ (e + 2)) p (2 ^ (e + 3)) g₀) (EncoderT.permuteMatrix (e + 2))
          scale (RPoly.rowAut (galEl (2 ^ (e + 3)) k) p pT) (2 ^ (e + 2))).map Int.ofNat
        = rotL (kmod e k) ((List.range (2 ^ (e + 1))).map (fun j => Int.ofNat (dec0 e p g₀ scale pT j)))
          ++ rotL (kmod e k) ((List.range (2 ^ (e + 1))).map (fun j => Int.ofNat (dec1 e p g₀ scale pT j))) :=
  Proofs.RotateSlots.rotate_decode h he scale pT hlen k

/-- `RotateRows` at the keys level. -/
theorem rotateRows_decode {e p g₀ : ℕ} (h : PlainOK e p g₀) (he : e + 3 ≤ 64) (scale : ℕ) (pT : List ℕ)
    (hlen : pT.length = 2 ^ (e + 2)) :
    conjugate (slotOps .bgv (2 ^ (e + 3)) p) .standard (2 ^ (e + 3))
        ((EncoderT.decodeRingTU (NTT.mkTables (2 ^ (e + 2)) p (2 ^ (e + 3)) g₀)
          (EncoderT.permuteMatrix (e + 2)) scale pT (2 ^ (e + 2))).map Int.ofNat)
      = .ok ((EncoderT.decodeRingTU (NTT.mkTables (2 ^ (e + 2)) p (2 ^ (e + 3)) g₀)
              (EncoderT.permuteMatrix (e + 2)) scale
              (RPoly.rowAut (2 ^ (e + 3) - 1) p pT) (2 ^ (e + 2))).map Int.ofNat)
            (request false (2 ^ (e + 3) - 1) []) := by
  rw [decode_rowAut h he scale pT hlen (goodG_orderTwo (by decide))]; rfl

/-- **`ring.AutomorphismNTT` is `NTT ∘ σ_g ∘ NTT⁻¹`.**  `AutomorphismNTTWithIndex` computes
    `out[i] = in[index[i]]` with `index = AutomorphismNTTIndex(N, 2N, g)`; on the NTT of `a` (generated
    tables, any NTT-friendly prime `q`, `N = 2^K`) this is the NTT of `rowAut g q a = a(X^g) mod X^N+1`.
    This is how the automorphism is applied to ciphertext and plaintext polynomials (NTT domain). -/
theorem automorphismNTT_spec (K q g₀ : ℕ) (hK : 1 ≤ K) (hK64 : K + 1 ≤ 64) (hq : q.Prime)
    (h8 : 8 * q ≤ W) (hdiv : 2 ^ (K + 1) ∣ q - 1) (hg₀ : g₀ ^ ((q - 1) / 2) % q = q - 1)
    (a : List ℕ) (hlen : a.length = 2 ^ K) (ha : ∀ x ∈ a, x < q) (g : ℕ) (hg : g % 2 = 1) :
    ∃ idx, automorphismNTTIndex (2 ^ K) (2 ^ (K + 1)) g = some idx ∧
      NTT.nttStd (NTT.mkTables (2 ^ K) q (2 ^ (K + 1)) g₀) (RPoly.rowAut g q a)
        = idx.map (fun j => (NTT.nttStd (NTT.mkTables (2 ^ K) q (2 ^ (K + 1)) g₀) a).getD j 0) :=
  Proofs.RotateSlots.automorphismNTT_spec K q g₀ hK hK64 hq h8 hdiv hg₀ a hlen ha g hg

/-- non-vacuity: `q = 65537`, `N = 8`, `g = 5^3 mod 16 = 13`. -/
example : ∃ idx, automorphismNTTIndex 8 16 13 = some idx ∧
    NTT.nttStd (NTT.mkTables 8 65537 16 3) (RPoly.rowAut 13 65537 [1, 2, 3, 4, 5, 6, 7, 65536])
      = idx.map (fun j => (NTT.nttStd (NTT.mkTables 8 65537 16 3) [1, 2, 3, 4, 5, 6, 7, 65536]).getD j 0) :=
  automorphismNTT_spec 3 65537 3 (by norm_num) (by norm_num) (by norm_num) (by decide) (by decide)
    (by decide +kernel) _ rfl (by decide) 13 (by norm_num)

/-- On the conjugate-invariant ring (`NthRoot = 4N = 2^(K+2)`) the table
    `AutomorphismNTTIndex(N, 4N, g)` is a permutation of `[0, N)` for every `g ≡ 1 (mod 4)` — every rotation
    element `5^k`.  (For `g ≡ 3 mod 4` entries leave `[0, N)`: there is no order-two element on this ring.) -/
theorem nttIndex_perm_ci (K : ℕ) (hK : K + 2 ≤ 64) (g : ℕ) (hg : g % 4 = 1) :
    ∃ l, automorphismNTTIndex (2 ^ K) (2 ^ (K + 2)) g = some l ∧ l.length = 2 ^ K ∧
      l.Nodup ∧ ∀ x ∈ l, x < 2 ^ K :=
  Proofs.RotateSlots.nttIndex_perm_ci K hK g hg

example : automorphismNTTIndex 4 16 5 = some [2, 3, 1, 0] := by decide +kernel

/-- `GaloisElement(k)` on the conjugate-invariant ring is `≡ 1 (mod 4)`: the theorem applies to every rotation. -/
example (K : ℕ) (hK : K + 2 ≤ 64) (k : ℤ) : galEl (2 ^ (K + 2)) k % 4 = 1 :=
  galEl_mod_four (K + 2) (by omega) hK k

/-- position `t` of the conjugate-invariant NTT (`ring.NTT`, model `NTT.nttCI`, generated tables, any
    NTT-friendly prime with `4N | q−1`) is the value of `a_0 + Σ_{m≥1} a_m (X^m + X^{−m})` at
    `x_t = ψ^(2·brv_{K+1}(t)+1)`, `ψ = g₀^((q−1)/4N)` a primitive `4N`-th root of unity. -/
theorem nttCI_entry (K q g₀ : ℕ) (hq : q.Prime) (h8 : 8 * q ≤ W) (hdiv : 2 ^ (K + 2) ∣ q - 1)
    (hg₀ : g₀ ^ ((q - 1) / 2) % q = q - 1) (a : List ℕ) (hlen : a.length = 2 ^ K) (ha : ∀ x ∈ a, x < q)
    (t : ℕ) (ht : t < 2 ^ K) :
    haveI : Fact q.Prime := ⟨hq⟩
    (((NTT.nttCI (NTT.mkTables (2 ^ K) q (2 ^ (K + 2)) g₀) a).getD t 0 : ℕ) : ZMod q)
      = evalCI (a.map (Nat.cast : ℕ → ZMod q))
          ((((g₀ : ℕ) : ZMod q) ^ ((q - 1) / 2 ^ (K + 2))) ^ (2 * NTT.bitRev t (K + 1) + 1)) :=
  Proofs.RotateSlots.nttCI_entry K q g₀ hq h8 hdiv hg₀ a hlen ha t ht

/-- **`AutomorphismNTT` on the conjugate-invariant transform.**  `AutomorphismNTTWithIndex` writes
    `out[i] = in[index[i]]`, `index = AutomorphismNTTIndex(N, 4N, g)`.  For every `g ≡ 1 (mod 4)` and `i < N`,
    `index[i] < N` and `in[index[i]]` is the value of the polynomial at `x_i^g`: the index permutation is
    `X ↦ X^g` on `Z[X+X⁻¹]/(X^{2N}+1)` in the evaluation domain. -/
theorem automorphismNTT_ci (K q g₀ : ℕ) (hK : K + 2 ≤ 64) (hq : q.Prime) (h8 : 8 * q ≤ W)
    (hdiv : 2 ^ (K + 2) ∣ q - 1) (hg₀ : g₀ ^ ((q - 1) / 2) % q = q - 1) (a : List ℕ) (hlen : a.length = 2 ^ K)
    (ha : ∀ x ∈ a, x < q) (g : ℕ) (hg : g % 4 = 1) (i : ℕ) (hi : i < 2 ^ K) :
    haveI : Fact q.Prime := ⟨hq⟩
    nttIndexAt (2 ^ (K + 2)) g i < 2 ^ K ∧
    (((NTT.nttCI (NTT.mkTables (2 ^ K) q (2 ^ (K + 2)) g₀) a).getD (nttIndexAt (2 ^ (K + 2)) g i) 0 : ℕ) : ZMod q)
      = evalCI (a.map (Nat.cast : ℕ → ZMod q))
          (((((g₀ : ℕ) : ZMod q) ^ ((q - 1) / 2 ^ (K + 2))) ^ (2 * NTT.bitRev i (K + 1) + 1)) ^ g) :=
  Proofs.RotateSlots.automorphismNTT_ci K q g₀ hK hq h8 hdiv hg₀ a hlen ha g hg i hi

/-- non-vacuity: `q = 65537` (`16 | q−1`), `N = 4`, `g₀ = 3`, `g = 5`, position `i = 2`. -/
example :
    haveI : Fact (Nat.Prime 65537) := ⟨by norm_num⟩
    nttIndexAt 16 5 2 < 4 ∧
    (((NTT.nttCI (NTT.mkTables 4 65537 16 3) [1, 2, 3, 65536]).getD (nttIndexAt 16 5 2) 0 : ℕ) : ZMod 65537)
      = evalCI ([1, 2, 3, 65536].map (Nat.cast : ℕ → ZMod 65537))
          (((((3 : ℕ) : ZMod 65537) ^ ((65537 - 1) / 2 ^ (2 + 2))) ^ (2 * NTT.bitRev 2 (2 + 1) + 1)) ^ 5) :=
  automorphismNTT_ci 2 65537 3 (by norm_num) (by norm_num) (by decide) (by decide) (by decide +kernel)
    [1, 2, 3, 65536] rfl (by decide) 5 (by norm_num) 2 (by norm_num)

/-- **ciphertext level (evaluation domain), up to the key-switch noise.**  Ciphertext components as
    slot vectors `(ZMod 2N)ˣ → R`; `Automorphism(ct, g) = (σ(ks.1 + c0), σ ks.2)` (C04's model) with
    `σ = slotPerm g` the index permutation of `automorphismNTT_spec`.  Under the key-switch hypothesis
    `hks` (what Galois-key generation and the gadget product provide: C04/C08), for
    `g = GaloisElement(k) = 5^k` the decrypted slot `j` of either row of `Rotate(ct, k)` is the
    decrypted slot `(j + k) mod N/2` of the same row of `ct` plus the key-switch noise at that slot.
    `hks` can be met for any `ks` by taking `ν` to be the difference (example below): what is proved here is
    that `slotPerm g` is a ring homomorphism of slot vectors, applied to C04's phase identity; that `ν` is
    small is C04's statement. -/
theorem rotate_slots_ciphertext {R : Type} [CommRing R] {t : ℕ} (k : ℤ)
    (ks ct : ((ZMod (2 ^ (t + 3)))ˣ → R) × ((ZMod (2 ^ (t + 3)))ˣ → R))
    (s ν : (ZMod (2 ^ (t + 3)))ˣ → R)
    (hks : KS.phase ks (slotPerm (five (t + 3) ^ k)⁻¹ s) = ct.2 * s + ν) (j : ℕ) (sgn : Bool) :
    let pt := fun (i : ℕ) => if sgn then -(five (t + 3) ^ i) else five (t + 3) ^ i
    KS.phase (KS.automorphism (slotPerm (five (t + 3) ^ k)) ks ct) s (pt j)
      = KS.phase ct s (pt (((j : ℤ) + k) % ((2 ^ (t + 1) : ℕ) : ℤ)).toNat)
        + ν (pt (((j : ℤ) + k) % ((2 ^ (t + 1) : ℕ) : ℤ)).toNat) := by
  intro pt
  have h := automorphism_slots (five (t + 3) ^ k) ks ct s ν hks (pt j)
  have hp : pt j * five (t + 3) ^ k = pt (((j : ℤ) + k) % ((2 ^ (t + 1) : ℕ) : ℤ)).toNat := by
    simp only [pt]
    cases sgn
    · simp only [Bool.false_eq_true, if_false]; exact five_pow_mul_zpow t j k
    · simp only [if_true]; rw [neg_mul, five_pow_mul_zpow t j k]
  rw [hp] at h; exact h

/-- non-vacuity: for any `ks`, `ct`, `s` the hypothesis holds with `ν` := the actual key-switch error. -/
example (ks ct : ((ZMod 8)ˣ → ZMod 17) × ((ZMod 8)ˣ → ZMod 17)) (s : (ZMod 8)ˣ → ZMod 17) :
    KS.phase ks (slotPerm (five 3 ^ (2 : ℤ))⁻¹ s)
      = ct.2 * s + (KS.phase ks (slotPerm (five 3 ^ (2 : ℤ))⁻¹ s) - ct.2 * s) := by ring

/-- same for the order-two element and for any other unit `g`: slot `u` ↦ slot `u·g`. -/
theorem automorphism_slots_ciphertext {R : Type} [CommRing R] {M : ℕ} (g : (ZMod M)ˣ)
    (ks ct : ((ZMod M)ˣ → R) × ((ZMod M)ˣ → R)) (s ν : (ZMod M)ˣ → R)
    (hks : KS.phase ks (slotPerm g⁻¹ s) = ct.2 * s + ν) (u : (ZMod M)ˣ) :
    KS.phase (KS.automorphism (slotPerm g) ks ct) s u = KS.phase ct s (u * g) + ν (u * g) :=
  automorphism_slots g ks ct s ν hks u

end RotateSlots

/-! ## 5. the executable slot carrier `slotOps` is lawful -/

section SlotLawful
open Lattigo.Proofs.SlotLawful

/-- the evaluation vectors (`f : ZMod nthRoot → ZMod t × ZMod t`, `f(-u) = τ(f u)`, `aut g f = f(·g)`)
    are a lawful carrier, for every layout, every `nthRoot = 2^(e+3)`, every modulus `t`. -/
theorem slot_carrier_lawful (lay : Layout) (e t : ℕ) : Lawful (evOps lay e t) (2 ^ (e + 3)) :=
  evOps_lawful lay e t

/-- reading an evaluation vector at `±5^j` is a homomorphism onto the executable `slotOps`, for `add`,
    `scaleInv` and `aut g`, `g = GaloisElement(k)` or `nthRoot-1` (`GoodG`); CKKS layout with plain
    integer entries (`t = 0`, as the driver runs it). -/
theorem slot_hom (lay : Layout) (e t : ℕ) (he : e + 3 ≤ 64) (hck : lay = .ckks → t = 0) :
    Sim (evOps lay e t) (slotOps lay (2 ^ (e + 3)) t) (toSlots lay e t) (GoodG lay e) :=
  sim_slots lay e t he hck

/-- … and it is onto the well-formed slot vectors. -/
theorem slots_surjective (lay : Layout) (e t : ℕ) (he : e + 3 ≤ 64) (v : List Int)
    (hv : SlotVec lay e t v) : toSlots lay e t (ofSlots lay e t v) = v :=
  toSlots_ofSlots lay e t he v hv

/-- Not `Lawful (slotOps …)`, but what of it the algorithms use, on well-formed slot vectors (`SlotVec`):
    `add` and `aut g` (`g` a `GaloisElement(k)` or the order-two element: `GoodG`) keep vectors well-formed,
    `rot a ∘ rot b = rot (a+b)`, `rot 0 = id`, and `aut g` is additive.  `aut_zero`, `aut_one` and `aut_mul` for
    arbitrary `g` are not stated.  The `*_spec_slots` theorems do not go through this statement: they transport the
    specifications from the lawful carrier `evOps` (`slot_carrier_lawful`) along `toSlots` (`slot_hom`,
    `slots_surjective`). -/
theorem slotOps_lawful (lay : Layout) (e t : ℕ) (he : e + 3 ≤ 64) (hck : lay = .ckks → t = 0)
    (v w : List Int) (hv : SlotVec lay e t v) (hw : SlotVec lay e t w) :
    SlotVec lay e t ((slotOps lay (2 ^ (e + 3)) t).add v w)
    ∧ (∀ g, GoodG lay e g → SlotVec lay e t (slotAut lay (2 ^ (e + 3)) g v))
    ∧ (∀ a b : ℤ, slotAut lay (2 ^ (e + 3)) (galEl (2 ^ (e + 3)) a)
          (slotAut lay (2 ^ (e + 3)) (galEl (2 ^ (e + 3)) b) v)
        = slotAut lay (2 ^ (e + 3)) (galEl (2 ^ (e + 3)) (a + b)) v)
    ∧ slotAut lay (2 ^ (e + 3)) (galEl (2 ^ (e + 3)) 0) v = v
    ∧ (∀ g, GoodG lay e g → slotAut lay (2 ^ (e + 3)) g ((slotOps lay (2 ^ (e + 3)) t).add v w)
        = (slotOps lay (2 ^ (e + 3)) t).add (slotAut lay (2 ^ (e + 3)) g v) (slotAut lay (2 ^ (e + 3)) g w)) := by
  refine ⟨slotVec_add lay e t he v w hv hw, fun g hg => slotVec_aut lay e t he hck g hg v hv, ?_⟩
  obtain ⟨f, rfl⟩ := exists_ev he hv
  obtain ⟨f', rfl⟩ := exists_ev he hw
  have hL := evOps_lawful lay e t
  refine ⟨fun a b => ?_, ?_, fun g hg => ?_⟩
  · rw [← toSlots_aut he hck (goodG_galEl b), ← toSlots_aut he hck (goodG_galEl a),
      ← toSlots_aut he hck (goodG_galEl (a + b))]
    exact congrArg _ (rot_add hL (by omega) he a b f)
  · rw [← toSlots_aut he hck (goodG_galEl 0)]
    exact congrArg _ (rot_zero hL (by omega) he f)
  · rw [← toSlots_add, ← toSlots_aut he hck hg, ← toSlots_aut he hck hg, ← toSlots_aut he hck hg,
      ← toSlots_add]
    rfl

/-- the order-two element on slot vectors: an involution commuting with the rotations. -/
theorem slotOps_orderTwo (lay : Layout) (e t : ℕ) (he : e + 3 ≤ 64) (hlay : lay ≠ .single)
    (hck : lay = .ckks → t = 0) (v : List Int) (hv : SlotVec lay e t v) (k : ℤ) :
    slotAut lay (2 ^ (e + 3)) (2 ^ (e + 3) - 1) (slotAut lay (2 ^ (e + 3)) (2 ^ (e + 3) - 1) v) = v
    ∧ slotAut lay (2 ^ (e + 3)) (2 ^ (e + 3) - 1) (slotAut lay (2 ^ (e + 3)) (galEl (2 ^ (e + 3)) k) v)
        = slotAut lay (2 ^ (e + 3)) (galEl (2 ^ (e + 3)) k) (slotAut lay (2 ^ (e + 3)) (2 ^ (e + 3) - 1) v) := by
  obtain ⟨f, rfl⟩ := exists_ev he hv
  have hL := evOps_lawful lay e t
  have h2 := toSlots_aut he hck (goodG_orderTwo hlay) (t := t)
  have h1 := toSlots_aut he hck (goodG_galEl k) (lay := lay) (t := t)
  constructor
  · rw [← h2, ← h2, hL.aut_mul, orderTwo_sq _ (Nat.le_self_pow (by omega) 2), hL.aut_one]
  · rw [← h1, ← h2, ← h2, ← h1, hL.aut_mul, hL.aut_mul, Nat.mul_comm]

/-- `slotAut` of a rotation, explicitly: both rows rotated left by `k mod N/2` (one row for `.single`). -/
theorem slotAut_rotation (lay : Layout) (e : ℕ) (he : e + 3 ≤ 64) (k : ℤ) :
    (∀ v : List Int, slotAut .single (2 ^ (e + 3)) (galEl (2 ^ (e + 3)) k) v = rotL (kmod e k) v)
    ∧ (lay ≠ .single → ∀ r0 r1 : List Int, r0.length = r1.length →
        slotAut lay (2 ^ (e + 3)) (galEl (2 ^ (e + 3)) k) (r0 ++ r1)
          = rotL (kmod e k) r0 ++ rotL (kmod e k) r1) :=
  ⟨fun v => slotAut_galEl_single e he k v, fun hl r0 r1 h => slotAut_galEl_rows lay hl e he k r0 r1 h⟩

example : slotAut .bgv 32 (galEl 32 (-1)) [1, 2, 3, 4, 5, 6, 7, 8, 11, 12, 13, 14, 15, 16, 17, 18]
    = [8, 1, 2, 3, 4, 5, 6, 7, 18, 11, 12, 13, 14, 15, 16, 17] := by decide +kernel

/-- `slotAut` of the order-two element, explicitly. -/
theorem slotAut_orderTwo (e : ℕ) (he : e + 3 ≤ 64) (r0 r1 : List Int) (h : r0.length = r1.length) :
    slotAut .bgv (2 ^ (e + 3)) (2 ^ (e + 3) - 1) (r0 ++ r1) = r1 ++ r0
    ∧ slotAut .ckks (2 ^ (e + 3)) (2 ^ (e + 3) - 1) (r0 ++ r1) = r0 ++ r1.map (fun x => -x) :=
  ⟨slotAut_orderTwo_bgv e he r0 r1 h, slotAut_orderTwo_ckks e he r0 r1 h⟩

/-- entry `i` of a slot-level sum is the sum of the entries, reduced mod `t` (`t = 0`: not reduced). -/
theorem slotSum_entries (lay : Layout) (e t n : ℕ) (F : ℕ → List Int)
    (hF : ∀ r < n, (F r).length = (if lay = .single then 2 ^ (e + 1) else 2 * 2 ^ (e + 1))) :
    (slotSum lay e t n F).length = (if lay = .single then 2 ^ (e + 1) else 2 * 2 ^ (e + 1)) ∧
    ∀ i, i < (if lay = .single then 2 ^ (e + 1) else 2 * 2 ^ (e + 1)) →
      (slotSum lay e t n F).getD i 0 = red t (∑ r ∈ range n, (F r).getD i 0) := by
  induction n with
  | zero =>
    refine ⟨by simp [slotSum, slotZero], fun i hi => ?_⟩
    simp [slotSum, slotZero, red, List.getD_eq_getElem?_getD, hi]
  | succ n ih =>
    obtain ⟨hl, hg⟩ := ih (fun r hr => hF r (by omega))
    have hFn := hF n (by omega)
    refine ⟨by rw [slotSum_succ, slotOps_add_length, hl, hFn]; simp, fun i hi => ?_⟩
    rw [slotSum_succ, slotOps_add_getD lay e t _ _ i (by rw [hl]; exact hi) (by rw [hFn]; exact hi), hg i hi,
      Finset.sum_range_succ]
    unfold red
    split
    · rfl
    · rw [Int.emod_add_emod]

/-- `innerSum_spec` for the executable slot vectors — no `Lawful` hypothesis.
    `nthRoot = 2^(e+3)`, rows of `2^(e+1)` slots. -/
theorem innerSum_spec_slots (lay : Layout) (e t : ℕ) (he : e + 3 ≤ 64) (hck : lay = .ckks → t = 0)
    (v out0 acc0 : List Int) (hv : SlotVec lay e t v) (hout : SlotVec lay e t out0)
    (hacc : SlotVec lay e t acc0) (offset n : ℤ) (hn : 1 ≤ n) (hn63 : n < 9223372036854775808)
    (hoff : offset ≠ 0) :
    (partialTracesSum (slotOps lay (2 ^ (e + 3)) t) (2 ^ (e + 3)) true v out0 acc0 offset n).val?
      = some (slotSum lay e t n.toNat
          (fun r => slotAut lay (2 ^ (e + 3)) (galEl (2 ^ (e + 3)) ((r : ℤ) * offset)) v)) := by
  rw [← toSlots_ofSlots lay e t he v hv, ← toSlots_ofSlots lay e t he out0 hout,
    ← toSlots_ofSlots lay e t he acc0 hacc,
    partialTracesSum_sim (sim_slots lay e t he hck) _ goodG_galEl,
    mapRes_val (partialTracesSum_spec (evOps_lawful lay e t) (by omega) he _ _ _ offset n hn hn63 hoff),
    toSlots_sum_rot he hck]

/-- non-vacuity: BGV layout, `nthRoot = 32`, `t = 97`, dirty (but well-formed) buffers. -/
example :
    (partialTracesSum (slotOps .bgv 32 97) 32 true
        [1, 2, 3, 4, 5, 6, 7, 8, 11, 12, 13, 14, 15, 16, 17, 96]
        [9, 9, 9, 9, 9, 9, 9, 9, 9, 9, 9, 9, 9, 9, 9, 9] [5, 5, 5, 5, 5, 5, 5, 5, 5, 5, 5, 5, 5, 5, 5, 5]
        (-3) 7).val?
      = some (slotSum .bgv 2 97 7 (fun r => slotAut .bgv 32 (galEl 32 ((r : ℤ) * (-3)))
          [1, 2, 3, 4, 5, 6, 7, 8, 11, 12, 13, 14, 15, 16, 17, 96])) :=
  innerSum_spec_slots .bgv 2 97 (by norm_num) (by simp) _ _ _ ⟨by decide, fun _ => by decide⟩
    ⟨by decide, fun _ => by decide⟩ ⟨by decide, fun _ => by decide⟩ (-3) 7 (by norm_num) (by norm_num)
    (by norm_num)

theorem innerFunction_spec_slots (lay : Layout) (e t : ℕ) (he : e + 3 ≤ 64) (hck : lay = .ckks → t = 0)
    (v out0 acc0 : List Int) (hv : SlotVec lay e t v) (hout : SlotVec lay e t out0)
    (hacc : SlotVec lay e t acc0) (batch n : ℤ) (hn : 1 ≤ n) (hn63 : n < 9223372036854775808) :
    (innerFunction (slotOps lay (2 ^ (e + 3)) t) (slotOps lay (2 ^ (e + 3)) t).add (2 ^ (e + 3))
        v out0 acc0 batch n).val?
      = some (slotSum lay e t n.toNat
          (fun r => slotAut lay (2 ^ (e + 3)) (galEl (2 ^ (e + 3)) ((r : ℤ) * batch)) v)) := by
  rw [← toSlots_ofSlots lay e t he v hv, ← toSlots_ofSlots lay e t he out0 hout,
    ← toSlots_ofSlots lay e t he acc0 hacc,
    innerFunction_sim (sim_slots lay e t he hck) _ goodG_galEl,
    mapRes_val (innerFunction_add_spec (evOps_lawful lay e t) (by omega) he _ _ _ batch n hn hn63),
    toSlots_sum_rot he hck]

theorem replicate_spec_slots (lay : Layout) (e t : ℕ) (he : e + 3 ≤ 64) (hck : lay = .ckks → t = 0)
    (v out0 acc0 : List Int) (hv : SlotVec lay e t v) (hout : SlotVec lay e t out0)
    (hacc : SlotVec lay e t acc0) (batch n : ℤ) (hn : 1 ≤ n) (hb : batch ≠ 0)
    (hsmall : n * |batch| < 9223372036854775808) :
    (replicate (slotOps lay (2 ^ (e + 3)) t) (2 ^ (e + 3)) true v out0 acc0 batch n).val?
      = some (slotSum lay e t n.toNat
          (fun r => slotAut lay (2 ^ (e + 3)) (galEl (2 ^ (e + 3)) (-((r : ℤ) * batch))) v)) := by
  rw [← toSlots_ofSlots lay e t he v hv, ← toSlots_ofSlots lay e t he out0 hout,
    ← toSlots_ofSlots lay e t he acc0 hacc,
    replicate_sim (sim_slots lay e t he hck) _ goodG_galEl,
    mapRes_val (Proofs.InnerSum.replicate_spec (evOps_lawful lay e t) (by omega) he _ _ _ batch n hn hb hsmall),
    toSlots_sum_rot he hck]

theorem innerSumCKKS_spec_slots (lay : Layout) (e t : ℕ) (he : e + 3 ≤ 64) (hck : lay = .ckks → t = 0)
    (slots : ℕ) (v out0 acc0 : List Int) (hv : SlotVec lay e t v) (hout : SlotVec lay e t out0)
    (hacc : SlotVec lay e t acc0) (batch n : ℤ) (hn : 0 < n) (hb : 0 < batch)
    (hnb : n * batch < 9223372036854775808) :
    ∀ y, (innerSumCKKS (slotOps lay (2 ^ (e + 3)) t) (2 ^ (e + 3)) slots true v out0 acc0 batch n).val? = some y →
      y = slotSum lay e t n.toNat
          (fun r => slotAut lay (2 ^ (e + 3)) (galEl (2 ^ (e + 3)) ((r : ℤ) * batch)) v) := by
  intro y
  rw [← toSlots_ofSlots lay e t he v hv, ← toSlots_ofSlots lay e t he out0 hout,
    ← toSlots_ofSlots lay e t he acc0 hacc,
    innerSumCKKS_sim (sim_slots lay e t he hck) _ goodG_galEl, mapRes_val_iff]
  rintro ⟨x, hx, rfl⟩
  rw [Proofs.InnerSum.innerSumCKKS_spec (evOps_lawful lay e t) (by omega) he slots _ _ _ batch n hn hb hnb x hx,
    toSlots_sum_rot he hck]

/-- non-vacuity: CKKS layout (`re ++ im`, plain integers), `(batch, n) = (2, 4)` on 8 slots accepted. -/
example : ((innerSumCKKS (slotOps .ckks 32 0) 32 8 true
    [1, 2, 3, 4, 5, 6, 7, 8, -1, -2, -3, -4, -5, -6, -7, -8]
    (List.replicate 16 0) (List.replicate 16 0) 2 4).val?).isSome = true := by decide +kernel

theorem innerSumBGV_spec_slots (lay : Layout) (e t : ℕ) (he : e + 3 ≤ 64) (hlay : lay ≠ .single)
    (hck : lay = .ckks → t = 0) (slots : ℕ) (v out0 acc0 : List Int) (hv : SlotVec lay e t v)
    (hout : SlotVec lay e t out0) (hacc : SlotVec lay e t acc0) (batch n : ℤ) (hn : 0 < n)
    (hb : 0 < batch) (hnb : n * batch < 9223372036854775808) :
    ∀ y, (innerSumBGV (slotOps lay (2 ^ (e + 3)) t) (2 ^ (e + 3)) slots true v out0 acc0 batch n).val? = some y →
      y = if n * batch = slots ∧ n ≠ 1 then
            (let u := slotSum lay e t (n / 2).toNat
                (fun r => slotAut lay (2 ^ (e + 3)) (galEl (2 ^ (e + 3)) ((r : ℤ) * batch)) v)
             (slotOps lay (2 ^ (e + 3)) t).add u (slotAut lay (2 ^ (e + 3)) (2 ^ (e + 3) - 1) u))
          else slotSum lay e t n.toNat
            (fun r => slotAut lay (2 ^ (e + 3)) (galEl (2 ^ (e + 3)) ((r : ℤ) * batch)) v) := by
  intro y
  rw [← toSlots_ofSlots lay e t he v hv, ← toSlots_ofSlots lay e t he out0 hout,
    ← toSlots_ofSlots lay e t he acc0 hacc,
    innerSumBGV_sim (sim_slots lay e t he hck) _ goodG_galEl (goodG_orderTwo hlay), mapRes_val_iff]
  rintro ⟨x, hx, rfl⟩
  rw [Proofs.InnerSum.innerSumBGV_spec (evOps_lawful lay e t) (by omega) he slots _ _ _ batch n hn hb hnb x hx]
  split
  · simp only
    rw [toSlots_add, toSlots_aut he hck (goodG_orderTwo hlay), toSlots_sum_rot he hck]
  · rw [toSlots_sum_rot he hck]

/-- non-vacuity: the boundary `n·batch = slots` (`(2, 8)` on 16 slots, `nthRoot = 32`) is accepted. -/
example : ((innerSumBGV (slotOps .bgv 32 97) 32 16 true
    [1, 2, 3, 4, 5, 6, 7, 8, 11, 12, 13, 14, 15, 16, 17, 96]
    (List.replicate 16 0) (List.replicate 16 0) 2 8).val?).isSome = true := by decide +kernel

/-- `e + 3 ≤ 63` is `L = e + 2 ≤ 62` of `trace_spec_standard`. -/
theorem trace_spec_standard_slots (lay : Layout) (e t : ℕ) (he : e + 3 ≤ 63) (hlay : lay ≠ .single)
    (hck : lay = .ckks → t = 0) (v : List Int) (hv : SlotVec lay e t v) (logN : ℕ) (h0 : 0 < logN)
    (hlt : logN + 1 < e + 2) :
    (trace (slotOps lay (2 ^ (e + 3)) t) .standard (e + 2) v (logN : ℤ)).val?
      = some (slotSum lay e t (2 ^ (e + 2 - 1 - logN))
          (fun j => slotAut lay (2 ^ (e + 3)) (galEl (2 ^ (e + 3)) ((j : ℤ) * ((2 ^ logN : ℕ) : ℤ)))
            ((slotOps lay (2 ^ (e + 3)) t).scaleInv (2 ^ (e + 2 - 1 - logN)) v))) := by
  have hsim := sim_slots lay e t (by omega) hck
  rw [← toSlots_ofSlots lay e t (by omega) v hv,
    trace_sim hsim .standard (e + 2) goodG_galEl (fun _ => goodG_orderTwo hlay),
    mapRes_val (trace_spec_pos (e + 2) (evOps_lawful lay e t) (by omega) _ logN h0 hlt),
    toSlots_sum_rot (by omega) hck, hsim.scaleInv]

/-- non-vacuity: standard ring of degree 16 (`e = 2`), `logN = 1`. -/
example : (trace (slotOps .bgv 32 97) .standard 4
      [1, 2, 3, 4, 5, 6, 7, 8, 11, 12, 13, 14, 15, 16, 17, 96] 1).val?
    = some (slotSum .bgv 2 97 4 (fun j => slotAut .bgv 32 (galEl 32 ((j : ℤ) * ((2 ^ 1 : ℕ) : ℤ)))
        ((slotOps .bgv 32 97).scaleInv 4 [1, 2, 3, 4, 5, 6, 7, 8, 11, 12, 13, 14, 15, 16, 17, 96]))) :=
  trace_spec_standard_slots .bgv 2 97 (by norm_num) (by decide) (by simp) _
    ⟨by decide, fun _ => by decide⟩ 1 (by norm_num) (by norm_num)

theorem trace_spec_ci_slots (lay : Layout) (e t : ℕ) (he : e + 3 ≤ 64) (hck : lay = .ckks → t = 0)
    (v : List Int) (hv : SlotVec lay e t v) (logN : ℕ) (hlt : logN < e + 1) :
    (trace (slotOps lay (2 ^ (e + 3)) t) .conjugateInvariant (e + 1) v (logN : ℤ)).val?
      = some (slotSum lay e t (2 ^ (e + 1 - logN))
          (fun j => slotAut lay (2 ^ (e + 3)) (galEl (2 ^ (e + 3)) ((j : ℤ) * ((2 ^ logN : ℕ) : ℤ)))
            ((slotOps lay (2 ^ (e + 3)) t).scaleInv (2 ^ (e + 1 - logN)) v))) := by
  have hsim := sim_slots lay e t he hck
  rw [← toSlots_ofSlots lay e t he v hv,
    trace_sim hsim .conjugateInvariant (e + 1) goodG_galEl (fun h => by cases h),
    mapRes_val (Proofs.InnerSum.trace_spec_ci (e + 1) (evOps_lawful lay e t) (by omega) _ logN hlt),
    toSlots_sum_rot he hck, hsim.scaleInv]

/-- non-vacuity: the conjugate-invariant example of §2 (degree 16, `nthRoot = 64`, `e = 3`). -/
example : SlotVec .single 3 0 [4,8,12,16,20,24,28,32,36,40,44,48,52,56,60,64] :=
  ⟨by decide, fun h => absurd rfl h⟩

theorem trace_spec_zero_standard_slots (lay : Layout) (e t : ℕ) (he : e + 3 ≤ 63) (hlay : lay ≠ .single)
    (hck : lay = .ckks → t = 0) (v : List Int) (hv : SlotVec lay e t v) :
    (trace (slotOps lay (2 ^ (e + 3)) t) .standard (e + 2) v 0).val?
      = some (let u := slotSum lay e t (2 ^ (e + 2 - 1))
                (fun j => slotAut lay (2 ^ (e + 3)) (galEl (2 ^ (e + 3)) ((j : ℤ) * ((2 ^ 0 : ℕ) : ℤ)))
                  ((slotOps lay (2 ^ (e + 3)) t).scaleInv (2 ^ (e + 2)) v))
              (slotOps lay (2 ^ (e + 3)) t).add u (slotAut lay (2 ^ (e + 3)) (2 ^ (e + 3) - 1) u)) := by
  have hsim := sim_slots lay e t (by omega) hck
  rw [← toSlots_ofSlots lay e t (by omega) v hv,
    trace_sim hsim .standard (e + 2) goodG_galEl (fun _ => goodG_orderTwo hlay),
    mapRes_val (Proofs.InnerSum.trace_spec_zero (e + 2) (evOps_lawful lay e t) (by omega) (by omega) _)]
  simp only
  rw [toSlots_add, toSlots_aut (by omega) hck (goodG_orderTwo hlay), toSlots_sum_rot (by omega) hck,
    hsim.scaleInv]

end SlotLawful

/-! ## 6. hoisted-lazy rotation: the factor of the key's own auxiliary level -/

section HoistedLazy
open Lattigo.Proofs.HoistedLazy Lattigo.RPolyRing Lattigo.Transport Lattigo.StackKS

/-- **every factor.**  `AutomorphismHoistedLazy` adds `F·c0` to the Q rows of the undivided gadget product
    `x ∈ R_{Q·P_key}` (`ps` = the auxiliary primes of the KEY, `evk.LevelP()`); the caller's `ModDown` by
    `P_key = Π ps` then yields `ModDown(x) + (F·c0)·P_key⁻¹`.  All well-formed `x`, `c0`, all `F`. -/
theorem hoistedLazy_any_factor {qs ps : List ℕ} {n : ℕ} [Good qs n] [Good (qs ++ ps) n] (hqs : qs ≠ [])
    (hps : ps ≠ []) (F : ℕ) {x c0 : RPoly} (hx : WFq (qs ++ ps) n x) (hc : WFq qs n c0) :
    KS.modDownR qs.length (x + scaleQRows F ps c0)
      = KS.modDownR qs.length x + c0.scale F * KS.pinvElt qs ps n :=
  modDown_add_scaleQRows hqs hps F hx hc

/-- **`F = P_key`** (the code: `ringP.ModulusAtLevel[evk.LevelP()]`; the model's `KS.scaleByP ps`,
    which the driver of C04 executes): the lazy path returns `ModDown(x) + c0` — exactly what the non-lazy
    `AutomorphismHoisted` computes before applying `σ`. -/
theorem hoistedLazy_P_factor {qs ps : List ℕ} {n : ℕ} [Good qs n] [Good (qs ++ ps) n] (hqs : qs ≠ [])
    (hps : ps ≠ []) (hcop : ∀ q ∈ qs, Nat.Coprime (RPoly.prod ps) q) {x c0 : RPoly}
    (hx : WFq (qs ++ ps) n x) (hc : WFq qs n c0) :
    KS.modDownR qs.length (x + KS.scaleByP ps c0) = KS.modDownR qs.length x + c0 :=
  modDown_add_scaleByP hqs hps hcop hx hc

/-- **`F = P_key·P'`** (the factor `params.PBigInt()`, the product of ALL auxiliary primes, with a Galois key
    generated at a lower `LevelP`; `P'` = the product of the primes the key does not have): the result contains
    `P'·c0` instead of `c0`. -/
theorem hoistedLazy_wrong_factor {qs ps : List ℕ} {n : ℕ} [Good qs n] [Good (qs ++ ps) n] (hqs : qs ≠ [])
    (hps : ps ≠ []) (hcop : ∀ q ∈ qs, Nat.Coprime (RPoly.prod ps) q) (P' : ℕ) {x c0 : RPoly}
    (hx : WFq (qs ++ ps) n x) (hc : WFq qs n c0) :
    KS.modDownR qs.length (x + scaleQRows (RPoly.prod ps * P') ps c0)
      = KS.modDownR qs.length x + c0.scale P' := by
  rw [modDown_add_scaleQRows hqs hps _ hx hc]
  obtain ⟨c, rfl⟩ := exists_lift _ hc
  obtain ⟨I, hI⟩ := exists_lift _ (pinvElt_wf (qs := qs) (n := n) ps)
  rw [← hI]
  show _ + val (c.scale (RPoly.prod ps * P') * I) = _ + val (c.scale P')
  rw [WFPoly.scale_eq_mul_natCast, WFPoly.scale_eq_mul_natCast, Nat.cast_mul, mul_comm (_ : WFPoly qs n) (P' : WFPoly qs n),
    ← mul_assoc, mul_assoc, mul_comm _ I, pinv_mul_prod hcop hI, mul_one]

/-- **lazy + `ModDown` = hoisted**, with the automorphism: `AutomorphismHoistedLazy` followed by `ModDown` of both
    components is `Automorphism{,Hoisted}` applied to the `ModDown`-ed gadget product, provided `ModDown` commutes
    with `σ` on the two polynomials at hand (`h0`, `h1`; `σ'` = `σ` at level `Q`). -/
theorem hoistedLazy_eq_hoisted {qs ps : List ℕ} {n : ℕ} [Good qs n] [Good (qs ++ ps) n] (hqs : qs ≠ [])
    (hps : ps ≠ []) (hcop : ∀ q ∈ qs, Nat.Coprime (RPoly.prod ps) q) (σ σ' : RPoly → RPoly) {x0 x1 c0 : RPoly}
    (hx0 : WFq (qs ++ ps) n x0) (hc : WFq qs n c0)
    (h0 : KS.modDownR qs.length (σ (x0 + KS.scaleByP ps c0)) = σ' (KS.modDownR qs.length (x0 + KS.scaleByP ps c0)))
    (h1 : KS.modDownR qs.length (σ x1) = σ' (KS.modDownR qs.length x1)) :
    (let r := KS.automorphismHoistedLazy σ (x0, x1) (KS.scaleByP ps c0)
     (KS.modDownR qs.length r.1, KS.modDownR qs.length r.2))
      = KS.automorphism σ' (KS.modDownR qs.length x0, KS.modDownR qs.length x1) (c0, c0) := by
  simp only [KS.automorphismHoistedLazy, KS.automorphism]
  rw [h0, h1, modDown_add_scaleByP hqs hps hcop hx0 hc]

/-! non-vacuity: `Q = 97·193`, `P_key = 257`, `n = 8` -/

instance goodQ8 : Good [97, 193] 8 := ⟨by decide, by decide⟩
instance goodQP8 : Good ([97, 193] ++ [257]) 8 := ⟨by decide, by decide⟩

def xQP8 : RPoly := RPoly.ofInts ([97, 193] ++ [257]) [1000, -2000, 3000, 4, 5, -6, 70000, 8]
def c0Q8 : RPoly := RPoly.ofInts [97, 193] [1, 2, 3, 4, 5, 6, 7, -8]

theorem wf8 : WFq ([97, 193] ++ [257]) 8 xQP8 ∧ WFq [97, 193] 8 c0Q8 :=
  ⟨ofInts_wf _ rfl, ofInts_wf _ rfl⟩

example : KS.modDownR 2 (xQP8 + KS.scaleByP [257] c0Q8) = KS.modDownR 2 xQP8 + c0Q8 :=
  hoistedLazy_P_factor (qs := [97, 193]) (by decide) (by decide) (by decide) wf8.1 wf8.2

/-- with the second auxiliary prime `769` of the parameters wrongly included the result is off by the factor `769`,
    and `769·c0 ≠ c0` here. -/
example : KS.modDownR 2 (xQP8 + scaleQRows (RPoly.prod [257] * 769) [257] c0Q8)
      = KS.modDownR 2 xQP8 + c0Q8.scale 769 ∧ c0Q8.scale 769 ≠ c0Q8 :=
  ⟨hoistedLazy_wrong_factor (qs := [97, 193]) (by decide) (by decide) (by decide) 769 wf8.1 wf8.2, by decide⟩

/-- `hoistedLazy_eq_hoisted` with `σ = σ' = id` (the hypotheses `h0 h1` hold by `rfl`); for `σ = aut g` they are
    probed bit-exactly on the real code (`keylevel_lazy_eq_hoisted`). -/
example :
    (let r := KS.automorphismHoistedLazy id (xQP8, xQP8) (KS.scaleByP [257] c0Q8)
     (KS.modDownR 2 r.1, KS.modDownR 2 r.2))
      = KS.automorphism id (KS.modDownR 2 xQP8, KS.modDownR 2 xQP8) (c0Q8, c0Q8) :=
  hoistedLazy_eq_hoisted (qs := [97, 193]) (by decide) (by decide) (by decide) id id wf8.1 wf8.2 rfl rfl

end HoistedLazy

end Lattigo.Props.C11

section Axioms
open Lattigo.Props.C11
#print axioms orderOf_five
#print axioms galEl_eq
#print axioms galEl_add
#print axioms galEl_add_wrap
#print axioms galEl_mod_slots
#print axioms galEl_eq_iff
#print axioms modInv_spec
#print axioms modInv_galEl
#print axioms dlog_galEl
#print axioms galEl_dlog
#print axioms nttIndex_perm
#print axioms dlog_diverges_small
#print axioms orderTwo_spec
#print axioms innerSum_spec
#print axioms partialTracesSum_nonpositive_rejected
#print axioms partialTracesSum_noP_rejected
#print axioms innerFunction_spec
#print axioms innerFunction_nonpositive_rejected
#print axioms replicate_spec
#print axioms innerSumCKKS_spec
#print axioms innerSumBGV_spec
#print axioms trace_spec_standard
#print axioms trace_spec_ci
#print axioms trace_spec_zero_standard
#print axioms trace_spec_top
#print axioms trace_rejected
#print axioms keys_sufficient_partialTracesSum
#print axioms keys_sufficient_innerFunction
#print axioms keys_sufficient_replicate
#print axioms keys_sufficient_innerSumCKKS
#print axioms keys_sufficient_innerSumBGV
#print axioms keys_sufficient_replicateBGV
#print axioms keys_sufficient_trace
#print axioms keys_sufficient_rotate
#print axioms keys_sufficient_rotateHoisted
#print axioms rotateHoisted_noP_rejected
#print axioms sigma_eval
#print axioms rowAut_is_sigma
#print axioms rotate_slots
#print axioms rotate_slots_row1
#print axioms orderTwo_swaps_rows
#print axioms orderTwo_conjugates
#print axioms orderTwo_conjugates_complex
#print axioms sigma_comp
#print axioms plainOK_65537
#print axioms rotate_slots_bgv
#print axioms rotateRows_bgv
#print axioms rotate_decode
#print axioms rotateRows_decode
#print axioms automorphismNTT_spec
#print axioms nttIndex_perm_ci
#print axioms nttCI_entry
#print axioms automorphismNTT_ci
#print axioms rotate_slots_ciphertext
#print axioms automorphism_slots_ciphertext
#print axioms slot_carrier_lawful
#print axioms slot_hom
#print axioms slots_surjective
#print axioms slotOps_lawful
#print axioms slotOps_orderTwo
#print axioms slotAut_rotation
#print axioms slotAut_orderTwo
#print axioms slotSum_entries
#print axioms innerSum_spec_slots
#print axioms innerFunction_spec_slots
#print axioms replicate_spec_slots
#print axioms innerSumCKKS_spec_slots
#print axioms innerSumBGV_spec_slots
#print axioms trace_spec_standard_slots
#print axioms trace_spec_ci_slots
#print axioms trace_spec_zero_standard_slots
#print axioms hoistedLazy_any_factor
#print axioms hoistedLazy_P_factor
#print axioms hoistedLazy_wrong_factor
#print axioms hoistedLazy_eq_hoisted
end Axioms
