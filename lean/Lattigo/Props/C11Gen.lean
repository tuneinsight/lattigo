/-
  Property C11 — the REGENERATED tie for the Galois-element arithmetic.

  `Lattigo/Gen/Galois.lean` is printed by `tools/go2lean` (typed mode, `tools/go2lean/typed.go`) from
  the Go source on every `./check C11`:

      ring/utils.go        ModExp, ModExpPow2                     (loops that shift a word right: `loopWhile 64`, the printer's rule S)
      core/rlwe/params.go  GaloisElement, GaloisElements, ModInvGaloisElement,
                           GaloisElementOrderTwoOrthogonalSubgroup,
                           SolveDiscreteLogGaloisElement          (`for { }`: explicit `fuel`)
      ring/ring.go         GaloisGen, Standard, ConjugateInvariant

  with `p.ringQ.NthRoot()` / `p.ringType` as explicit parameters `NthRoot` / `ringType`, a Go `int`
  as its two's-complement word (`toU64 k`), and `ring.BRed` the generated word-level `Gen.BRed`.
  Below: (1) the generated definitions equal the hand-written model `Model/Galois.lean` for ALL inputs
  with `NthRoot = 2^m`, `1 ≤ m ≤ 63` (`2·NthRoot ≤ 2^64`: the range of `BRed_spec`; lattigo has
  `m ≤ 19`); (2) hence the headline theorems of `Props/C11.lean` hold of the generated code;
  (3) the fuel of every printed loop is adequate (a larger fuel changes nothing).
  The driver executes the generated definitions (`Model/GaloisGen.lean`) for the ops
  `galel`, `galels`, `modinv`, `dlog`, `ordertwo`.
  If the Go source changes, `Gen/Galois.lean` changes and these proofs are re-checked against it.
-/
import Lattigo.Proofs.GenGalois
import Lattigo.Proofs.GaloisDlog

namespace Lattigo.Props.C11
open Lattigo Lattigo.Model.Galois

private theorem dom (m : Nat) (hm1 : 1 ≤ m) (hm : m ≤ 63) : 1 < 2 ^ m ∧ 2 * 2 ^ m ≤ W := by
  constructor
  · exact Nat.one_lt_two_pow (by omega)
  · rw [← Nat.pow_succ', W_eq]
    exact Nat.pow_le_pow_right (by norm_num) (by omega)

private theorem pow_le_W (m : Nat) (hm : m ≤ 64) : 2 ^ m ≤ W := by
  rw [W_eq]; exact Nat.pow_le_pow_right (by norm_num) hm

/-! ## 1. generated = model -/

/-- `GaloisElement(k)` as regenerated from the source is the model's `galEl`, every Go `int` `k`. -/
theorem galEl_gen (m : Nat) (hm1 : 1 ≤ m) (hm : m ≤ 63) (k : Int) :
    Gen.GaloisElement (2 ^ m) (toU64 k) = galEl (2 ^ m) k :=
  Proofs.GenGalois.galEl_gen_eq _ (dom m hm1 hm).1 (dom m hm1 hm).2 k

example : Gen.GaloisElement 32 (toU64 (-3)) = galEl 32 (-3) := galEl_gen 5 (by norm_num) (by norm_num) _

/-- `ModInvGaloisElement(g)` as regenerated is the model's `modInv`, every `uint64` `g`. -/
theorem modInv_gen (m : Nat) (hm1 : 1 ≤ m) (hm : m ≤ 63) (g : Nat) (hg : g < W) :
    Gen.ModInvGaloisElement (2 ^ m) g = modInv (2 ^ m) g :=
  Proofs.GenGalois.ModInvGaloisElement_eq _ (dom m hm1 hm).1 (dom m hm1 hm).2 g hg

example : Gen.ModInvGaloisElement 32 (W - 1) = modInv 32 (W - 1) :=
  modInv_gen 5 (by norm_num) (by norm_num) _ (by decide)

/-- `SolveDiscreteLogGaloisElement(g)` as regenerated, run with fuel 64, is the model's
    `solveDiscreteLog` (`none` = the `for { }` loop does not return), every `g`. -/
theorem solveDiscreteLog_gen (m : Nat) (hm : m ≤ 64) (g : Nat) :
    Gen.SolveDiscreteLogGaloisElement 64 (2 ^ m) g = solveDiscreteLog (2 ^ m) g :=
  Proofs.GenGalois.Solve64_eq _ g (Nat.two_pow_pos m) (pow_le_W m hm)

example : Gen.SolveDiscreteLogGaloisElement 64 32 7 = solveDiscreteLog 32 7 := solveDiscreteLog_gen 5 (by norm_num) _

/-- `ring.ModExp` as regenerated (word-level `BRed` inside) is the model's `modExp`: `x^e mod p`. -/
theorem modExp_gen (x e p : Nat) (hp : 1 < p) (h2p : 2 * p ≤ W) (hx : x < W) (he : e < W) :
    Gen.ModExp x e p = x ^ e % p := by
  rw [Proofs.GenGalois.ModExp_eq x e p hp h2p hx]
  exact Proofs.Galois.modExp_eq x e p hp (by simpa [W] using he)

example : Gen.ModExp (W - 1) (W - 1) 1152921504606846577 = (W - 1) ^ (W - 1) % 1152921504606846577 :=
  modExp_gen _ _ _ (by decide) (by decide) (by decide) (by decide)

/-- what the driver executes for `galel`, `modinv`, `dlog`, `ordertwo` is the model. -/
theorem driver_ops_gen (m : Nat) (hm1 : 1 ≤ m) (hm : m ≤ 63) :
    (∀ k, Model.GaloisGen.galEl (2 ^ m) k = galEl (2 ^ m) k)
    ∧ (∀ ks, Model.GaloisGen.galEls (2 ^ m) ks = galEls (2 ^ m) ks)
    ∧ (∀ g, g < W → Model.GaloisGen.modInv (2 ^ m) g = modInv (2 ^ m) g)
    ∧ (∀ g, Model.GaloisGen.solveDiscreteLog (2 ^ m) g = (solveDiscreteLog (2 ^ m) g).map i64toInt)
    ∧ (∀ rt, Model.GaloisGen.orderTwo rt (2 ^ m) = orderTwo rt (2 ^ m)) :=
  ⟨galEl_gen m hm1 hm, Proofs.GenGalois.galEls_gen_eq _ (dom m hm1 hm).1 (dom m hm1 hm).2, modInv_gen m hm1 hm,
   fun g => Proofs.GenGalois.solveDiscreteLog_gen_eq _ g (Nat.two_pow_pos m) (pow_le_W m (by omega)),
   fun rt => Proofs.GenGalois.orderTwo_eq rt _ (Nat.two_pow_pos m) (pow_le_W m (by omega))⟩

/-! ## 2. the headline theorems of C11, about the generated code -/

/-- element(a)·element(b) = element(a+b), for the regenerated `GaloisElement`. -/
theorem galEl_add_gen (m : Nat) (hm1 : 1 ≤ m) (hm : m ≤ 63) (a b : Int) :
    (Gen.GaloisElement (2 ^ m) (toU64 a) * Gen.GaloisElement (2 ^ m) (toU64 b)) % 2 ^ m
      = Gen.GaloisElement (2 ^ m) (toU64 (a + b)) := by
  rw [galEl_gen m hm1 hm, galEl_gen m hm1 hm, galEl_gen m hm1 hm]
  exact Proofs.Galois.galEl_add m hm1 (by omega) a b

example : (Gen.GaloisElement 32 (toU64 (-3)) * Gen.GaloisElement 32 (toU64 9223372036854775807)) % 32
    = Gen.GaloisElement 32 (toU64 (-3 + 9223372036854775807)) :=
  galEl_add_gen 5 (by norm_num) (by norm_num) _ _

/-- the same on words: the sum of the two `int`s formed by Go's wrapping `+`. -/
theorem galEl_add_words_gen (m : Nat) (hm1 : 1 ≤ m) (hm : m ≤ 63) (ka kb : Nat) (ha : ka < W) (hb : kb < W) :
    (Gen.GaloisElement (2 ^ m) ka * Gen.GaloisElement (2 ^ m) kb) % 2 ^ m
      = Gen.GaloisElement (2 ^ m) (u64add ka kb) := by
  have := galEl_add_gen m hm1 hm (ka : Int) (kb : Int)
  rwa [← Nat.cast_add, Proofs.Galois.toU64_natCast, Proofs.Galois.toU64_natCast,
    Proofs.Galois.toU64_natCast, Nat.mod_eq_of_lt ha, Nat.mod_eq_of_lt hb] at this

example : (Gen.GaloisElement 32 (W - 3) * Gen.GaloisElement 32 5) % 32 = Gen.GaloisElement 32 (u64add (W - 3) 5) :=
  galEl_add_words_gen 5 (by norm_num) (by norm_num) _ _ (by decide) (by decide)

/-- `SolveDiscreteLogGaloisElement(GaloisElement(k)) = k mod slots`, for the regenerated functions. -/
theorem dlog_galEl_gen (t : Nat) (ht : t + 3 ≤ 63) (k : Int) :
    Gen.SolveDiscreteLogGaloisElement 64 (2 ^ (t + 3)) (Gen.GaloisElement (2 ^ (t + 3)) (toU64 k))
      = some (k % ((2 ^ (t + 1) : Nat) : Int)).toNat := by
  rw [galEl_gen (t + 3) (by omega) ht, solveDiscreteLog_gen (t + 3) (by omega)]
  exact Proofs.Galois.dlog_galEl t (by omega) k

example : Gen.SolveDiscreteLogGaloisElement 64 32 (Gen.GaloisElement 32 (toU64 (-1))) = some 7 :=
  dlog_galEl_gen 2 (by norm_num) (-1)

/-- `g · ModInvGaloisElement(g) ≡ 1` for every odd `uint64` `g`, for the regenerated function. -/
theorem modInv_spec_gen (m : Nat) (hm1 : 1 ≤ m) (hm : m ≤ 63) (g : Nat) (hgW : g < W) (hg : g % 2 = 1) :
    (g * Gen.ModInvGaloisElement (2 ^ m) g) % 2 ^ m = 1 := by
  rw [modInv_gen m hm1 hm g hgW]
  exact Proofs.Galois.modInv_spec m hm1 (by omega) g hg

example : (31 * Gen.ModInvGaloisElement 32 31) % 32 = 1 :=
  modInv_spec_gen 5 (by norm_num) (by norm_num) 31 (by decide) (by norm_num)

/-- the inverse of element(k) is element(-k), for the regenerated functions. -/
theorem modInv_galEl_gen (m : Nat) (hm1 : 1 ≤ m) (hm : m ≤ 63) (k : Int) :
    Gen.ModInvGaloisElement (2 ^ m) (Gen.GaloisElement (2 ^ m) (toU64 k))
      = Gen.GaloisElement (2 ^ m) (toU64 (-k)) := by
  rw [galEl_gen m hm1 hm, galEl_gen m hm1 hm, modInv_gen m hm1 hm]
  · exact Proofs.Galois.modInv_galEl m hm1 (by omega) k
  · have h1 := Proofs.Galois.galEl_lt m hm1 k
    have h2 := (dom m hm1 hm).2
    omega

/-- `k` and `k mod slots` give the same regenerated element, and nothing else coincides. -/
theorem galEl_eq_iff_gen (t : Nat) (ht : t + 3 ≤ 63) (a b : Int) :
    Gen.GaloisElement (2 ^ (t + 3)) (toU64 a) = Gen.GaloisElement (2 ^ (t + 3)) (toU64 b)
      ↔ a ≡ b [ZMOD ((2 ^ (t + 1) : Nat) : Int)] := by
  rw [galEl_gen (t + 3) (by omega) ht, galEl_gen (t + 3) (by omega) ht]
  exact Proofs.Galois.galEl_eq_iff t (by omega) a b

/-! ## 3. the fuel of the printed loops is adequate -/

/-- `SolveDiscreteLogGaloisElement`: the `for { }` loop got an explicit `fuel`; every fuel `≥ 64`
    gives the result of fuel 64, so `none` means the Go loop does not terminate. -/
theorem dlog_fuel_gen (m : Nat) (hm : m ≤ 64) (g fuel : Nat) (hf : 64 ≤ fuel) :
    Gen.SolveDiscreteLogGaloisElement fuel (2 ^ m) g = Gen.SolveDiscreteLogGaloisElement 64 (2 ^ m) g :=
  Proofs.GenGalois.Solve_fuel _ g (Nat.two_pow_pos m) (pow_le_W m hm) fuel hf

/-- for `NthRoot = 4 < 8` the regenerated loop never returns, whatever the fuel (cf. `dlog_diverges_small`). -/
theorem dlog_diverges_small_gen (fuel : Nat) : Gen.SolveDiscreteLogGaloisElement fuel 4 1 = none := by
  rw [Proofs.GenGalois.Solve_eq fuel 4 1 (by norm_num) (by decide)]
  exact Proofs.Galois.dlogLoop_zero 4 1 fuel 0

/-- Rule S of the printer (a `for` loop that shifts its 64-bit variable right in every turn and runs while it is
    non-zero is printed as `loopWhile 64`) loses nothing: the loop state after any fuel `≥ 64` is the one after 64.
    The two loops are those of `Gen.ModExp` / `Gen.ModExpPow2` by unfolding the printed definitions
    (`Proofs.GenGalois.ModExp_unfold`, `ModExpPow2_unfold`, both `rfl`). -/
theorem modExp_fuel_gen (x e p : Nat) (he : e < W) (fuel : Nat) (hf : 64 ≤ fuel) :
    loopWhile fuel Proofs.GenGalois.expCond (Proofs.GenGalois.modExpBody p) (e, 1, x)
      = loopWhile 64 Proofs.GenGalois.expCond (Proofs.GenGalois.modExpBody p) (e, 1, x)
    ∧ loopWhile fuel Proofs.GenGalois.expCond Proofs.GenGalois.modExpPow2Body (e, 1, x)
      = loopWhile 64 Proofs.GenGalois.expCond Proofs.GenGalois.modExpPow2Body (e, 1, x) :=
  ⟨Proofs.GenGalois.ModExp_fuel _ (fun s => Nat.shiftRight_eq_div_pow s.1 1) x e he fuel hf,
   Proofs.GenGalois.ModExp_fuel _ (fun s => Nat.shiftRight_eq_div_pow s.1 1) x e he fuel hf⟩

end Lattigo.Props.C11

section Axioms
open Lattigo.Props.C11
#print axioms galEl_gen
#print axioms modInv_gen
#print axioms solveDiscreteLog_gen
#print axioms modExp_gen
#print axioms driver_ops_gen
#print axioms galEl_add_gen
#print axioms galEl_add_words_gen
#print axioms dlog_galEl_gen
#print axioms modInv_spec_gen
#print axioms modInv_galEl_gen
#print axioms galEl_eq_iff_gen
#print axioms dlog_fuel_gen
#print axioms dlog_diverges_small_gen
#print axioms modExp_fuel_gen
end Axioms
