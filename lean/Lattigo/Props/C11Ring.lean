/-
  C11 on the ring the ciphertexts live in.

  `Props/C11.lean` proves the rotate-and-accumulate specifications (`innerSum_spec`, `innerFunction_spec`,
  `replicate_spec`, `innerSumCKKS_spec`, `innerSumBGV_spec`, `trace_spec_*`) for the generic algorithms of
  `Model/InnerSum.lean` over EVERY carrier `α` with `[AddCommMonoid α]` and operations `S : Ops α` that are
  `Lawful S (2^m)` (`aut` an action of the residues mod `2^m` by additive maps), and the slot statements
  (`rotate_slots`, `orderTwo_swaps_rows`, `automorphismNTT_spec`, …) over every commutative ring `R` of slot values.
  Here:

  §1  the Galois action of the model on `RPoly`: for well-formed `a` and admissible `g, h` (`GalOK n g`: odd and
      coprime to `n`; for `n = 2^K`: odd) `RPoly.aut g` is a ring endomorphism, `aut g ∘ aut h = aut (g·h mod 2n)`,
      `aut g` only depends on `g mod 2n`, `aut 1 = id`, `aut g ∘ aut g⁻¹ = id`, and the rotations compose
      additively: `aut (GaloisElement a) ∘ aut (GaloisElement b) = aut (GaloisElement (a+b))`;
  §2  the carrier `WFPoly qs (2^K)` with `aut g = RPoly.aut g` on admissible `g` (and `0` elsewhere, which the
      algorithms never use) IS `Lawful` (`wfOps_lawful`) — the hypothesis of the generic theorems is satisfiable in the
      ring the code works in — while on the one ring `WFPoly [97, 193] 8` NO `Ops` whose `aut` is the model's
      `RPoly.aut` for ALL `g` is `Lawful · 16` (`lawful_raw_aut_false`: the composition law fails at `g = h = 2`;
      proved for this ring only, not for every `qs`, `n`);
  §3  the `…_rpoly` theorems: the algorithms run with the MODEL's operations on plain `RPoly` values
      (`rpolyOps`: `+`, `RPoly.aut g` for every `g`, multiplication by the constant `c⁻¹`) return the documented sums
      of rotated inputs (`rpSum`), under well-formedness of the inputs only;
  §4  slots: every RNS row of `p.aut g` is the NTT-domain permutation `AutomorphismNTTIndex` of the row of `p`
      (`automorphismNTT_rpoly`), and in any `ζ` with `ζ^n = −1` modulo `q_i` the slot rows of `p.aut (GaloisElement k)`
      are those of `p` rotated by `k` (`rotate_slots_rpoly`), swapped by `2n − 1` (`orderTwo_swaps_rows_rpoly`);
  §5  vacuity of `orderTwo_conjugates`: its hypothesis on the abstract endomorphism `c` (`c ζ = ζ⁻¹`, coefficients
      fixed) is UNSATISFIABLE when the slot ring is a prime field `ZMod q`, `q > 2`
      (`orderTwo_conjugates_hyps_unsatisfiable_zmod`: the only endomorphism is the identity) — it is meant for `ℂ`
      (CKKS) — but it IS satisfiable in characteristic `≠ 2`: instance in `ZMod 17 × ZMod 17` with the swap
      (`orderTwo_conjugates_instance`);
  §6  a concrete instance (`qs = [97, 193]`, `n = 8`, `2n = 16`).

  NOT transported (reason):
  * `trace_spec_ci` and the conjugate-invariant half of `trace_rejected`/`keys_sufficient_trace`: the
    conjugate-invariant ring (`nthRoot = 4N`, `RQ` with `ci = true`) is not a `WFPoly qs n` (it is the subring of `WFPoly qs (2n)` fixed by `X ↦ X⁻¹`, Proofs/RLWECI; these statements are not carried over to it).
  * `rotate_slots_ciphertext`, `automorphism_slots_ciphertext`: statements about slot VECTORS `(ZMod 2N)ˣ → R`
    (evaluation domain); their hypothesis `hks` is the conclusion of C04's `automorphism_phase`, whose
    `RPoly` form is `C04Ring.automorphism_phase_rpoly`.
  * `keys_sufficient_*`, `*_rejected`, `rotateHoisted_*`: hold for EVERY `S : Ops α` without hypothesis, in
    particular for `rpolyOps` (nothing to transport); `galEl_*`, `modInv_*`, `dlog_*`, `nttIndex_perm`,
    `orderTwo_spec`, `slotOps_*`, `*_slots`, `rotate_slots_bgv`, `rotate_decode` are statements about
    `Nat`/`Int`/`List` data.
  * no `…_calls` theorem (elsewhere: a driver handler calls exactly the functions the `…_rpoly` theorems speak
    of): `Driver/C11.lean` runs the algorithms on slot vectors (`slotOps`, `List Int`) and on
    `Nat` tables, never on `RPoly`.
-/
import Lattigo.Proofs.RPolyTransport
import Lattigo.Proofs.SlotLawful
import Lattigo.Proofs.RotateSlots
import Lattigo.Proofs.InnerSumTrace
import Lattigo.Proofs.InnerSumSchemes
import Mathlib.Data.ZMod.Basic
import Mathlib.Tactic.NormNum.Prime

namespace Lattigo.Props.C11Ring
open Lattigo Lattigo.Model.Galois Lattigo.Model.InnerSum Lattigo.Proofs.InnerSum
open Lattigo.Proofs.SlotLawful Lattigo.RPolyRing Lattigo.Transport

/-! ## 1. The Galois action on `RPoly` -/

/-- admissible Galois indices: odd and coprime to `n` (for `n` a power of two: odd) -/
def GalOK (n g : ℕ) : Prop := Odd g ∧ Nat.Coprime g n

instance (n g : ℕ) : Decidable (GalOK n g) := by unfold GalOK; infer_instance

theorem galOK_one (n : ℕ) : GalOK n 1 := ⟨odd_one, Nat.coprime_one_left n⟩

theorem galOK_mod {n : ℕ} (g : ℕ) : GalOK n (g % (2 * n)) ↔ GalOK n g := odd_coprime_mod_iff n g

theorem galOK_mul {n a b : ℕ} (ha : GalOK n a) (hb : GalOK n b) : GalOK n (a * b) :=
  ⟨ha.1.mul hb.1, Nat.Coprime.mul_left ha.2 hb.2⟩

theorem galOK_of_mul {n a b : ℕ} (h : GalOK n (a * b)) : GalOK n a ∧ GalOK n b :=
  ⟨⟨(Nat.odd_mul.1 h.1).1, Nat.Coprime.coprime_mul_right h.2⟩,
   ⟨(Nat.odd_mul.1 h.1).2, Nat.Coprime.coprime_mul_left h.2⟩⟩

theorem galOK_mulmod {n a b : ℕ} (ha : GalOK n a) (hb : GalOK n b) : GalOK n (a * b % (2 * n)) :=
  (galOK_mod _).2 (galOK_mul ha hb)

theorem galOK_pow2 {K g : ℕ} (hg : Odd g) : GalOK (2 ^ K) g :=
  ⟨hg, Nat.Coprime.pow_right K (Nat.coprime_two_right.2 hg)⟩

theorem galEl_odd (m : ℕ) (hm1 : 1 ≤ m) (hm : m ≤ 64) (k : ℤ) : Odd (galEl (2 ^ m) k) := by
  rw [Proofs.Galois.galEl_eq m hm1 hm k, Nat.odd_iff, Nat.mod_mod_of_dvd _ (dvd_pow_self 2 (by omega)),
    Nat.pow_mod]
  norm_num

theorem galOK_galEl {K : ℕ} (hK : K + 1 ≤ 64) (k : ℤ) : GalOK (2 ^ K) (galEl (2 ^ (K + 1)) k) :=
  galOK_pow2 (galEl_odd (K + 1) (by omega) hK k)

theorem galOK_orderTwo (K : ℕ) : GalOK (2 ^ K) (2 ^ (K + 1) - 1) :=
  galOK_pow2 (Nat.Even.sub_odd Nat.one_le_two_pow (Nat.even_pow.mpr ⟨even_two, K.succ_ne_zero⟩) odd_one)

section action
open Polynomial
variable {qs : List ℕ} {n : ℕ} [hgd : Good qs n]

theorem wf_aut_aut (g h : ℕ) (hg : GalOK n g) (hh : GalOK n h) (x : WFPoly qs n) :
    WFPoly.aut g hg.2 (WFPoly.aut h hh.2 x) = WFPoly.aut (g * h % (2 * n)) (galOK_mulmod hg hh).2 x :=
  (WFPoly.aut_aut hg.1 hh.1 hg.2 hh.2 x).trans
    (WFPoly.aut_congr (galOK_mul hg hh).1 (galOK_mulmod hg hh).1 _ _ (Nat.mod_mod _ _).symm x)

/-- On well-formed values `RPoly.aut g` (`g` admissible) preserves `+ * − neg 0 1`. -/
theorem aut_ringHom_rpoly (a b : RPoly) (ha : WFq qs n a) (hb : WFq qs n b) (g : ℕ) (hg : GalOK n g) :
    (a + b).aut g = a.aut g + b.aut g ∧ (a * b).aut g = a.aut g * b.aut g
    ∧ (a - b).aut g = a.aut g - b.aut g ∧ (-a).aut g = -a.aut g
    ∧ (RPoly.zero qs n).aut g = RPoly.zero qs n ∧ (rpOne qs n).aut g = rpOne qs n := by
  let φ : WFPoly qs n →+* WFPoly qs n := WFPoly.autRingHom g hg.1 hg.2
  exact ⟨congrArg val (map_add φ (lift a ha) (lift b hb)), congrArg val (map_mul φ (lift a ha) (lift b hb)),
    congrArg val (map_sub φ (lift a ha) (lift b hb)), congrArg val (map_neg φ (lift a ha)),
    congrArg val (map_zero φ), congrArg val (map_one φ)⟩

theorem aut_aut_rpoly (a : RPoly) (ha : WFq qs n a) (g h : ℕ) (hg : GalOK n g) (hh : GalOK n h) :
    (a.aut h).aut g = a.aut (g * h % (2 * n)) :=
  congrArg val (wf_aut_aut g h hg hh (lift a ha))

theorem aut_congr_rpoly (a : RPoly) (ha : WFq qs n a) (g g' : ℕ) (hg : GalOK n g) (hg' : GalOK n g')
    (h : g % (2 * n) = g' % (2 * n)) : a.aut g = a.aut g' :=
  congrArg val (WFPoly.aut_congr hg.1 hg'.1 hg.2 hg'.2 h (lift a ha))

theorem aut_aut_rpoly' (a : RPoly) (ha : WFq qs n a) (g h : ℕ) (hg : GalOK n g) (hh : GalOK n h) :
    (a.aut h).aut g = a.aut (g * h) := by
  rw [aut_aut_rpoly a ha g h hg hh]
  exact aut_congr_rpoly a ha _ _ (galOK_mulmod hg hh) (galOK_mul hg hh) (Nat.mod_mod _ _)

theorem aut_id_rpoly (a : RPoly) (ha : WFq qs n a) (g : ℕ) (hg : GalOK n g) (h1 : g % (2 * n) = 1) :
    a.aut g = a :=
  congrArg val (WFPoly.aut_id hg.1 hg.2 h1 (lift a ha))

/-- `σ_g` is bijective on well-formed values, with inverse `σ_h` for `g·h ≡ 1 (mod 2n)`
(`h = ModInvGaloisElement(g)`) -/
theorem aut_inv_rpoly (a : RPoly) (ha : WFq qs n a) (g h : ℕ) (hg : GalOK n g) (hh : GalOK n h)
    (h1 : g * h % (2 * n) = 1) : (a.aut h).aut g = a ∧ (a.aut g).aut h = a := by
  refine ⟨?_, ?_⟩
  · rw [aut_aut_rpoly a ha g h hg hh]
    exact aut_id_rpoly a ha _ (galOK_mulmod hg hh) (by rw [Nat.mod_mod]; exact h1)
  · rw [aut_aut_rpoly a ha h g hh hg]
    exact aut_id_rpoly a ha _ (galOK_mulmod hh hg) (by rw [Nat.mod_mod, mul_comm]; exact h1)

end action

/-- **rotations compose additively**: `rot a ∘ rot b = rot (a + b)` and `rot 0 = id`, with
`rot k = RPoly.aut (GaloisElement k)`, `nthRoot = 2n = 2^(K+1)`, every Go `int` `a`, `b`. -/
theorem rot_add_rpoly {qs : List ℕ} {K : ℕ} [Good qs (2 ^ K)] (hK : K + 1 ≤ 64) (x : RPoly)
    (hx : WFq qs (2 ^ K) x) (a b : ℤ) :
    (x.aut (galEl (2 ^ (K + 1)) b)).aut (galEl (2 ^ (K + 1)) a) = x.aut (galEl (2 ^ (K + 1)) (a + b))
    ∧ x.aut (galEl (2 ^ (K + 1)) 0) = x := by
  refine ⟨?_, ?_⟩
  · rw [aut_aut_rpoly x hx _ _ (galOK_galEl hK a) (galOK_galEl hK b), ← pow_succ' 2 K,
      Proofs.Galois.galEl_add (K + 1) (by omega) hK a b]
  · rw [Proofs.Galois.galEl_zero (K + 1) (by omega) hK]
    exact aut_id_rpoly x hx 1 (galOK_one _) (Nat.mod_eq_of_lt (by
      have : 1 ≤ 2 ^ K := Nat.one_le_two_pow
      omega))

/-! ## 2. `WFPoly qs (2^K)` is a lawful carrier -/

section lawful
variable {qs : List ℕ} {n : ℕ} [hgd : Good qs n]

/-- the operations on the ring `WFPoly qs n`: the model's `+`; the model's `RPoly.aut g` for admissible `g`
(inadmissible — even — indices are never used by the algorithms: mapped to `0`, which keeps the action laws);
`scaleInv c` = multiplication by the constant polynomial `(c⁻¹ mod q)_q` -/
noncomputable def wfOps (qs : List ℕ) (n : ℕ) [Good qs n] : Ops (WFPoly qs n) where
  add := (· + ·)
  aut g x := if h : GalOK n g then WFPoly.aut g h.2 x else 0
  scaleInv c x := x * WFPoly.constNat (fun q => RPoly.modInv c q)

theorem wfOps_aut_ok (g : ℕ) (hg : GalOK n g) (x : WFPoly qs n) :
    (wfOps qs n).aut g x = WFPoly.autRingHom g hg.1 hg.2 x := by
  show (if h : GalOK n g then WFPoly.aut g h.2 x else 0) = _
  rw [dif_pos hg]; rfl

theorem wfOps_aut_bad (g : ℕ) (hg : ¬ GalOK n g) (x : WFPoly qs n) : (wfOps qs n).aut g x = 0 := by
  show (if h : GalOK n g then WFPoly.aut g h.2 x else 0) = _
  rw [dif_neg hg]

/-- The hypothesis `Lawful S N` of the generic C11 theorems holds in the ring the code
works in (`N = 2n`). -/
theorem wfOps_lawful (N : ℕ) (hN : N = 2 * n) : Lawful (wfOps qs n) N where
  add_eq _ _ := rfl
  aut_add g a b := by
    by_cases hg : GalOK n g
    · rw [wfOps_aut_ok g hg, wfOps_aut_ok g hg, wfOps_aut_ok g hg, map_add]
    · rw [wfOps_aut_bad g hg, wfOps_aut_bad g hg, wfOps_aut_bad g hg, add_zero]
  aut_zero g := by
    by_cases hg : GalOK n g
    · rw [wfOps_aut_ok g hg, map_zero]
    · rw [wfOps_aut_bad g hg]
  aut_one a := by
    rw [wfOps_aut_ok 1 (galOK_one n)]
    exact WFPoly.aut_id odd_one (galOK_one n).2 (Nat.mod_eq_of_lt (by have := hgd.n_pos; omega)) a
  aut_mul g h a := by
    subst hN
    by_cases hg : GalOK n g
    · by_cases hh : GalOK n h
      · rw [wfOps_aut_ok g hg, wfOps_aut_ok h hh, wfOps_aut_ok _ (galOK_mulmod hg hh)]
        exact wf_aut_aut g h hg hh a
      · have hb : ¬ GalOK n (g * h % (2 * n)) := fun hc => hh (galOK_of_mul ((galOK_mod _).1 hc)).2
        rw [wfOps_aut_bad h hh, wfOps_aut_bad _ hb, wfOps_aut_ok g hg, map_zero]
    · have hb : ¬ GalOK n (g * h % (2 * n)) := fun hc => hg (galOK_of_mul ((galOK_mod _).1 hc)).1
      rw [wfOps_aut_bad g hg, wfOps_aut_bad _ hb]

end lawful

/-- the constant polynomial `(c⁻¹ mod q)_q` (`RPoly.modInv`).  `rpolyOps` below is the model's operations on plain
`RPoly` values: `+`, `RPoly.aut g` for EVERY `g`, and for `scaleInv c` the multiplication by this constant -/
def constInvR (qs : List ℕ) (n c : ℕ) : RPoly :=
  { qs := qs, c := qs.map fun q => scalarRow q n (RPoly.modInv c q) }

def rpolyOps (qs : List ℕ) (n : ℕ) : Ops RPoly where
  add := (· + ·)
  aut g x := x.aut g
  scaleInv c x := x * constInvR qs n c

/-- **`val` is a homomorphism of carriers** from the lawful `wfOps` to the model's `rpolyOps`, for `add`, `scaleInv`
and `aut g`, `g` admissible -/
theorem sim_val {qs : List ℕ} {n : ℕ} [Good qs n] :
    Sim (wfOps qs n) (rpolyOps qs n) (val (qs := qs) (n := n)) (GalOK n) where
  add _ _ := rfl
  aut g hg a := by rw [wfOps_aut_ok g hg]; rfl
  scaleInv _ _ := rfl

/-- The restriction to admissible indices in `wfOps` is necessary: NO operations on the
ring `WFPoly [97, 193] 8` whose `aut g` is the model's `RPoly.aut g` for ALL `g` satisfy `Lawful · 16` — the
composition law `aut_mul` fails at `g = h = 2` (`rowAut` with an even index overwrites coefficients). -/
theorem lawful_raw_aut_false [Good [97, 193] 8] (S : Ops (WFPoly [97, 193] 8))
    (hS : ∀ g x, val (S.aut g x) = (val x).aut g) : ¬ Lawful S 16 := by
  intro hL
  let x : WFPoly [97, 193] 8 :=
    lift ⟨[97, 193], [[1, 2, 3, 4, 5, 6, 7, 8], [10, 20, 30, 40, 50, 60, 70, 80]]⟩ (by decide +kernel)
  have h := congrArg val (hL.aut_mul 2 2 x)
  rw [hS, hS, hS] at h
  revert h
  show ¬ _
  decide +kernel

/-! ## 3. The sum specifications on `RPoly` values -/

/-- `Σ_{r<k} F r` with the model's `+`, starting from `RPoly.zero qs n` -/
def rpSum (qs : List ℕ) (n : ℕ) : ℕ → (ℕ → RPoly) → RPoly
  | 0, _ => RPoly.zero qs n
  | k + 1, F => rpSum qs n k F + F k

section sums
variable {qs : List ℕ} {K : ℕ} [hgd : Good qs (2 ^ K)]

theorem val_sum {n : ℕ} [Good qs n] (f : ℕ → WFPoly qs n) : ∀ k : ℕ,
    val (∑ r ∈ Finset.range k, f r) = rpSum qs n k (fun r => val (f r))
  | 0 => by rw [Finset.sum_range_zero]; rfl
  | k + 1 => by rw [Finset.sum_range_succ, val_add, val_sum f k]; rfl

theorem rpSum_congr {n : ℕ} (k : ℕ) (F G : ℕ → RPoly) (h : ∀ r < k, F r = G r) :
    rpSum qs n k F = rpSum qs n k G := by
  induction k with
  | zero => rfl
  | succ k ih => simp only [rpSum]; rw [ih (fun r hr => h r (by omega)), h k (by omega)]

theorem rpSum_wf {n : ℕ} [Good qs n] (k : ℕ) (F : ℕ → RPoly) (h : ∀ r < k, WFq qs n (F r)) :
    WFq qs n (rpSum qs n k F) := by
  induction k with
  | zero => exact WFq.zero
  | succ k ih => exact (ih (fun r hr => h r (by omega))).add (h k (by omega))

theorem lawfulK : Lawful (wfOps qs (2 ^ K)) (2 ^ (K + 1)) := wfOps_lawful _ (pow_succ' 2 K)

theorem val_sum_rot (hK : K + 1 ≤ 64) (ks : ℕ → ℤ) (v : WFPoly qs (2 ^ K)) (k : ℕ) :
    val (∑ r ∈ Finset.range k, rot (wfOps qs (2 ^ K)) (2 ^ (K + 1)) (ks r) v)
      = rpSum qs (2 ^ K) k (fun r => (val v).aut (galEl (2 ^ (K + 1)) (ks r))) := by
  rw [val_sum]
  exact rpSum_congr k _ _ (fun r _ => sim_val.aut _ (galOK_galEl hK (ks r)) v)

/-- `PartialTracesSum` (= `RotateAndAdd`) run with the model's operations on
well-formed `RPoly` values, `nthRoot = 2n = 2^(K+1)`, every `offset ≠ 0`, every `n ≥ 1` (Go `int`s), returns
`Σ_{r<n} (ct).aut(GaloisElement(r·offset))` — independently of the stale (well-formed) buffers. -/
theorem innerSum_spec_rpoly (hK : K + 1 ≤ 64) (v out0 acc0 : RPoly) (hv : WFq qs (2 ^ K) v)
    (hout : WFq qs (2 ^ K) out0) (hacc : WFq qs (2 ^ K) acc0) (offset n : ℤ) (hn : 1 ≤ n)
    (hn63 : n < 9223372036854775808) (hoff : offset ≠ 0) :
    (partialTracesSum (rpolyOps qs (2 ^ K)) (2 ^ (K + 1)) true v out0 acc0 offset n).val?
      = some (rpSum qs (2 ^ K) n.toNat (fun r => v.aut (galEl (2 ^ (K + 1)) ((r : ℤ) * offset)))) := by
  obtain ⟨v, rfl⟩ := exists_lift v hv
  obtain ⟨out0, rfl⟩ := exists_lift out0 hout
  obtain ⟨acc0, rfl⟩ := exists_lift acc0 hacc
  rw [partialTracesSum_sim sim_val _ (galOK_galEl hK) true v out0 acc0 offset n,
    mapRes_val (partialTracesSum_spec lawfulK (by omega) hK v out0 acc0 offset n hn hn63 hoff),
    val_sum_rot hK]

/-- `InnerFunction` with `f = Add`: every `batchSize`, every `n ≥ 1`. -/
theorem innerFunction_spec_rpoly (hK : K + 1 ≤ 64) (v out0 acc0 : RPoly) (hv : WFq qs (2 ^ K) v)
    (hout : WFq qs (2 ^ K) out0) (hacc : WFq qs (2 ^ K) acc0) (batch n : ℤ) (hn : 1 ≤ n)
    (hn63 : n < 9223372036854775808) :
    (innerFunction (rpolyOps qs (2 ^ K)) (rpolyOps qs (2 ^ K)).add (2 ^ (K + 1)) v out0 acc0 batch n).val?
      = some (rpSum qs (2 ^ K) n.toNat (fun r => v.aut (galEl (2 ^ (K + 1)) ((r : ℤ) * batch)))) := by
  obtain ⟨v, rfl⟩ := exists_lift v hv
  obtain ⟨out0, rfl⟩ := exists_lift out0 hout
  obtain ⟨acc0, rfl⟩ := exists_lift acc0 hacc
  rw [innerFunction_sim sim_val _ (galOK_galEl hK) v out0 acc0 batch n,
    mapRes_val (innerFunction_add_spec lawfulK (by omega) hK v out0 acc0 batch n hn hn63),
    val_sum_rot hK]

/-- `Replicate(ct, batch, n) = Σ_{r<n} ct.aut(GaloisElement(−r·batch))`. -/
theorem replicate_spec_rpoly (hK : K + 1 ≤ 64) (v out0 acc0 : RPoly) (hv : WFq qs (2 ^ K) v)
    (hout : WFq qs (2 ^ K) out0) (hacc : WFq qs (2 ^ K) acc0) (batch n : ℤ) (hn : 1 ≤ n) (hb : batch ≠ 0)
    (hsmall : n * |batch| < 9223372036854775808) :
    (replicate (rpolyOps qs (2 ^ K)) (2 ^ (K + 1)) true v out0 acc0 batch n).val?
      = some (rpSum qs (2 ^ K) n.toNat (fun r => v.aut (galEl (2 ^ (K + 1)) (-((r : ℤ) * batch))))) := by
  obtain ⟨v, rfl⟩ := exists_lift v hv
  obtain ⟨out0, rfl⟩ := exists_lift out0 hout
  obtain ⟨acc0, rfl⟩ := exists_lift acc0 hacc
  rw [replicate_sim sim_val _ (galOK_galEl hK) true v out0 acc0 batch n,
    mapRes_val (replicate_spec lawfulK (by omega) hK v out0 acc0 batch n hn hb hsmall),
    val_sum_rot hK]

/-- `ckks.Evaluator.InnerSum`: every accepted call returns the documented sum. -/
theorem innerSumCKKS_spec_rpoly (hK : K + 1 ≤ 64) (slots : ℕ) (v out0 acc0 : RPoly) (hv : WFq qs (2 ^ K) v)
    (hout : WFq qs (2 ^ K) out0) (hacc : WFq qs (2 ^ K) acc0) (batch n : ℤ) (hn : 0 < n) (hb : 0 < batch)
    (hnb : n * batch < 9223372036854775808) :
    ∀ y, (innerSumCKKS (rpolyOps qs (2 ^ K)) (2 ^ (K + 1)) slots true v out0 acc0 batch n).val? = some y →
      y = rpSum qs (2 ^ K) n.toNat (fun r => v.aut (galEl (2 ^ (K + 1)) ((r : ℤ) * batch))) := by
  obtain ⟨v, rfl⟩ := exists_lift v hv
  obtain ⟨out0, rfl⟩ := exists_lift out0 hout
  obtain ⟨acc0, rfl⟩ := exists_lift acc0 hacc
  intro y hy
  rw [innerSumCKKS_sim sim_val _ (galOK_galEl hK) slots true v out0 acc0 batch n, mapRes_val_iff] at hy
  obtain ⟨x, hx, rfl⟩ := hy
  rw [innerSumCKKS_spec lawfulK (by omega) hK slots v out0 acc0 batch n hn hb hnb x hx, val_sum_rot hK]

/-- `bgv.Evaluator.InnerSum`, two rows: row-wise sum, and for `n·batch = slots` the
sum over both rows obtained from `(batch, n/2)` plus the row swap `aut (2n − 1)`. -/
theorem innerSumBGV_spec_rpoly (hK : K + 1 ≤ 64) (slots : ℕ) (v out0 acc0 : RPoly) (hv : WFq qs (2 ^ K) v)
    (hout : WFq qs (2 ^ K) out0) (hacc : WFq qs (2 ^ K) acc0) (batch n : ℤ) (hn : 0 < n) (hb : 0 < batch)
    (hnb : n * batch < 9223372036854775808) :
    ∀ y, (innerSumBGV (rpolyOps qs (2 ^ K)) (2 ^ (K + 1)) slots true v out0 acc0 batch n).val? = some y →
      y = if n * batch = slots ∧ n ≠ 1 then
            (let u := rpSum qs (2 ^ K) (n / 2).toNat (fun r => v.aut (galEl (2 ^ (K + 1)) ((r : ℤ) * batch)))
             u + u.aut (2 ^ (K + 1) - 1))
          else rpSum qs (2 ^ K) n.toNat (fun r => v.aut (galEl (2 ^ (K + 1)) ((r : ℤ) * batch))) := by
  obtain ⟨v, rfl⟩ := exists_lift v hv
  obtain ⟨out0, rfl⟩ := exists_lift out0 hout
  obtain ⟨acc0, rfl⟩ := exists_lift acc0 hacc
  intro y hy
  rw [innerSumBGV_sim sim_val _ (galOK_galEl hK) (galOK_orderTwo K) slots true v out0 acc0 batch n,
    mapRes_val_iff] at hy
  obtain ⟨x, hx, rfl⟩ := hy
  rw [innerSumBGV_spec lawfulK (by omega) hK slots v out0 acc0 batch n hn hb hnb x hx]
  split
  · show val (_ + (wfOps qs (2 ^ K)).aut (2 ^ (K + 1) - 1) _) = _
    rw [val_add, sim_val.aut _ (galOK_orderTwo K), val_sum_rot hK]
    rfl
  · rw [val_sum_rot hK]

/-- `Trace`, standard ring of degree `2^K`, `0 < logN < K − 1`: normalised sum
over the rotations by multiples of `2^logN`; the normalisation is the multiplication by `constInvR`
(`gap⁻¹` modulo every `q_i`). -/
theorem trace_spec_standard_rpoly (hK : K ≤ 62) (v : RPoly) (hv : WFq qs (2 ^ K) v) (logN : ℕ)
    (h0 : 0 < logN) (hlt : logN + 1 < K) :
    (trace (rpolyOps qs (2 ^ K)) .standard K v (logN : ℤ)).val?
      = some (rpSum qs (2 ^ K) (2 ^ (K - 1 - logN)) (fun j =>
          (v * constInvR qs (2 ^ K) (2 ^ (K - 1 - logN))).aut
            (galEl (2 ^ (K + 1)) ((j : ℤ) * ((2 ^ logN : ℕ) : ℤ))))) := by
  obtain ⟨v, rfl⟩ := exists_lift v hv
  rw [trace_sim sim_val .standard K (galOK_galEl (by omega)) (fun _ => galOK_orderTwo K) v (logN : ℤ),
    mapRes_val (trace_spec_pos K lawfulK hK v logN h0 hlt), val_sum_rot (by omega)]
  rfl

/-- `logN = 0`: all rotations, then the order-two element, normalised by `n`. -/
theorem trace_spec_zero_standard_rpoly (hK1 : 1 ≤ K) (hK : K ≤ 62) (v : RPoly) (hv : WFq qs (2 ^ K) v) :
    (trace (rpolyOps qs (2 ^ K)) .standard K v 0).val?
      = some (let u := rpSum qs (2 ^ K) (2 ^ (K - 1)) (fun j =>
                (v * constInvR qs (2 ^ K) (2 ^ K)).aut (galEl (2 ^ (K + 1)) ((j : ℤ) * ((2 ^ 0 : ℕ) : ℤ))))
              u + u.aut (2 ^ (K + 1) - 1)) := by
  obtain ⟨v, rfl⟩ := exists_lift v hv
  rw [trace_sim sim_val .standard K (galOK_galEl (by omega)) (fun _ => galOK_orderTwo K) v 0,
    mapRes_val (trace_spec_zero K lawfulK hK1 hK v)]
  show some (val (_ + (wfOps qs (2 ^ K)).aut (2 ^ (K + 1) - 1) _)) = _
  rw [val_add, sim_val.aut _ (galOK_orderTwo K), val_sum_rot (by omega)]
  rfl

-- the section's `[Good qs (2 ^ K)]` is part of the two statements and not needed: both hold by `rfl`
set_option linter.unusedSectionVars false in
/-- single rotations / conjugation with the model's operations: the value is `RPoly.aut` of the Galois element
(no hypothesis: by definition) -/
theorem rotate_rpoly (N : ℕ) (v : RPoly) (k : ℤ) :
    rotate (rpolyOps qs (2 ^ K)) N v k = .ok (v.aut (galEl N k)) (request false (galEl N k) []) := rfl

set_option linter.unusedSectionVars false in
theorem conjugate_rpoly (N : ℕ) (v : RPoly) :
    conjugate (rpolyOps qs (2 ^ K)) .standard N v = .ok (v.aut (N - 1)) (request false (N - 1) []) := rfl

end sums

/-! ## 4. Slots of the RNS rows -/

section slots
open Lattigo.Proofs.RotateSlots
variable {qs : List ℕ}

/-- row `i` of `p.aut g` is `rowAut g q_i` of row `i` of `p` -/
theorem aut_row {n : ℕ} (p : RPoly) (hp : WFq qs n p) (g i : ℕ) (hi : i < qs.length) :
    (p.aut g).c.getD i [] = RPoly.rowAut g (qs.getD i 0) (p.c.getD i []) := by
  obtain ⟨h1, h2, _⟩ := hp
  have hi' : i < p.qs.length := by rw [h1]; exact hi
  have := mapRows_getD (RPoly.rowAut g) p h2 i hi'
  rw [show p.aut g = RPoly.mapRows (RPoly.rowAut g) p from rfl, this]
  congr 1
  subst h1
  simp [List.getD_eq_getElem?_getD, hi]

theorem row_length {n : ℕ} (p : RPoly) (hp : WFq qs n p) (i : ℕ) (hi : i < qs.length) :
    (p.c.getD i []).length = n ∧ ∀ x ∈ p.c.getD i [], x < qs.getD i 0 := by
  obtain ⟨h1, _, h3⟩ := hp
  have hi' : i < p.qs.length := by rw [h1]; exact hi
  have h := h3 i hi'
  subst h1
  have e : p.qs.getD i 0 = p.qs[i] := by simp [List.getD_eq_getElem?_getD, hi]
  rw [e]
  exact ⟨h.len, h.lt⟩

/-- `n = 2^(t+2)`, `nthRoot = 2n`; `ζ` any element of a commutative ring `R` in which
`q_i = 0` (e.g. `ZMod q_i`) with `ζ^n = −1`.  The two slot rows `(a(ζ^(±5^j)))_j` of row `i` of
`p.aut (GaloisElement k)` are those of row `i` of `p` rotated cyclically by `k`; the order-two element `2n − 1`
swaps them.  Every Go `int` `k`, every well-formed `p`. -/
theorem rotate_slots_rpoly {R : Type} [CommRing R] {t : ℕ} (ht : t + 3 ≤ 64) (p : RPoly)
    (hp : WFq qs (2 ^ (t + 2)) p) (i : ℕ) (hi : i < qs.length) (hq0 : 0 < qs.getD i 0)
    (hqR : ((qs.getD i 0 : ℕ) : R) = 0) (ζ : R) (hζ : ζ ^ 2 ^ (t + 2) = -1) (k : ℤ) (j : ℕ) :
    slot0 ζ (2 ^ (t + 3)) (((p.aut (galEl (2 ^ (t + 3)) k)).c.getD i []).map (Nat.cast : ℕ → R)) j
      = slot0 ζ (2 ^ (t + 3)) ((p.c.getD i []).map (Nat.cast : ℕ → R))
          (((j : ℤ) + k) % ((2 ^ (t + 1) : ℕ) : ℤ)).toNat
    ∧ slot1 ζ (2 ^ (t + 3)) (((p.aut (galEl (2 ^ (t + 3)) k)).c.getD i []).map (Nat.cast : ℕ → R)) j
      = slot1 ζ (2 ^ (t + 3)) ((p.c.getD i []).map (Nat.cast : ℕ → R))
          (((j : ℤ) + k) % ((2 ^ (t + 1) : ℕ) : ℤ)).toNat := by
  obtain ⟨hlen, _⟩ := row_length p hp i hi
  have hc : Nat.Coprime (galEl (2 ^ (t + 3)) k) (2 * (p.c.getD i []).length) := by
    rw [hlen, ← pow_succ' 2 (t + 2)]
    exact Nat.Coprime.pow_right _ (Nat.coprime_two_right.2 (galEl_odd (t + 3) (by omega) ht k))
  rw [aut_row p hp _ i hi, rowAut_cast _ hq0 hqR _ _ hc, hlen]
  exact ⟨Proofs.RotateSlots.rotate_slots ζ ht hζ _ (by rw [List.length_map]; exact hlen) k j,
    rotate_slots_neg ζ ht hζ _ (by rw [List.length_map]; exact hlen) k j⟩

theorem orderTwo_swaps_rows_rpoly {R : Type} [CommRing R] {t : ℕ} (p : RPoly)
    (hp : WFq qs (2 ^ (t + 2)) p) (i : ℕ) (hi : i < qs.length) (hq0 : 0 < qs.getD i 0)
    (hqR : ((qs.getD i 0 : ℕ) : R) = 0) (ζ : R) (hζ : ζ ^ 2 ^ (t + 2) = -1) (j : ℕ) :
    slot0 ζ (2 ^ (t + 3)) (((p.aut (2 ^ (t + 3) - 1)).c.getD i []).map (Nat.cast : ℕ → R)) j
      = slot1 ζ (2 ^ (t + 3)) ((p.c.getD i []).map (Nat.cast : ℕ → R)) j
    ∧ slot1 ζ (2 ^ (t + 3)) (((p.aut (2 ^ (t + 3) - 1)).c.getD i []).map (Nat.cast : ℕ → R)) j
      = slot0 ζ (2 ^ (t + 3)) ((p.c.getD i []).map (Nat.cast : ℕ → R)) j := by
  obtain ⟨hlen, _⟩ := row_length p hp i hi
  have hc : Nat.Coprime (2 ^ (t + 3) - 1) (2 * (p.c.getD i []).length) := by
    rw [hlen, ← pow_succ' 2 (t + 2)]
    exact Nat.Coprime.pow_right _ (Nat.coprime_two_right.2 (galOK_orderTwo (t + 2)).1)
  rw [aut_row p hp _ i hi, rowAut_cast _ hq0 hqR _ _ hc, hlen]
  exact swap_slots ζ hζ _ (by rw [List.length_map]; exact hlen) j

/-- The NTT-domain permutation.  `n = 2^K`; for every row `i` whose modulus `q_i` is an
NTT-friendly prime (`q_i ≡ 1 mod 2n`, `8q_i ≤ 2^64`, tables generated from the non-residue `g₀`): the NTT of row `i`
of `p.aut g` is the NTT of row `i` of `p` permuted by `ring.AutomorphismNTTIndex(n, 2n, g)` — `out[j] = in[idx[j]]`,
the SAME index table for every row.  Every odd `g`, every well-formed `p`. -/
theorem automorphismNTT_rpoly (K : ℕ) (hK : 1 ≤ K) (hK64 : K + 1 ≤ 64) (p : RPoly) (hp : WFq qs (2 ^ K) p)
    (g : ℕ) (hg : g % 2 = 1) :
    ∃ idx, automorphismNTTIndex (2 ^ K) (2 ^ (K + 1)) g = some idx ∧
      ∀ (i : ℕ) (g₀ : ℕ), i < qs.length → (qs.getD i 0).Prime → 8 * qs.getD i 0 ≤ W →
        2 ^ (K + 1) ∣ qs.getD i 0 - 1 → g₀ ^ ((qs.getD i 0 - 1) / 2) % qs.getD i 0 = qs.getD i 0 - 1 →
        NTT.nttStd (NTT.mkTables (2 ^ K) (qs.getD i 0) (2 ^ (K + 1)) g₀) ((p.aut g).c.getD i [])
          = idx.map (fun j =>
              (NTT.nttStd (NTT.mkTables (2 ^ K) (qs.getD i 0) (2 ^ (K + 1)) g₀) (p.c.getD i [])).getD j 0) := by
  obtain ⟨idx, hidx, _⟩ := Proofs.Galois.nttIndex_perm (K + 1) (by omega) hK64 g hg
  rw [Nat.add_sub_cancel] at hidx
  refine ⟨idx, hidx, fun i g₀ hi hq h8 hdiv hg₀ => ?_⟩
  obtain ⟨hlen, hlt⟩ := row_length p hp i hi
  obtain ⟨idx', hidx', h⟩ := automorphismNTT_spec K (qs.getD i 0) g₀ hK hK64 hq h8 hdiv hg₀ _ hlen hlt g hg
  rw [hidx] at hidx'
  injection hidx' with e
  rw [aut_row p hp g i hi, h, e]

end slots

/-! ## 5. `orderTwo_conjugates`: is the hypothesis on the abstract endomorphism `c` satisfiable? -/

section conj
open Lattigo.Proofs.RotateSlots

/-- In a prime field `ZMod q` (the BGV slot ring) the hypotheses
`ζ^N = −1`, `c ζ = ζ^(2N−1)` of `orderTwo_conjugates` force `q ∣ 2`: the only ring endomorphism of `ZMod q` is the
identity, so `ζ = ζ⁻¹`, `ζ² = 1`, `−1 = ζ^N = 1`.  (The statement is about CKKS, `R = ℂ`; for BGV the order-two
element swaps the rows: `orderTwo_swaps_rows`.) -/
theorem orderTwo_conjugates_hyps_unsatisfiable_zmod (q t : ℕ) [NeZero q] (ζ : ZMod q)
    (hζ : ζ ^ 2 ^ (t + 2) = -1) (c : ZMod q →+* ZMod q) (hcζ : c ζ = ζ ^ (2 ^ (t + 3) - 1)) : q ∣ 2 := by
  rw [Subsingleton.elim c (RingHom.id _), RingHom.id_apply] at hcζ
  have h2 : ζ * ζ = 1 := by
    nth_rewrite 2 [hcζ]
    rw [← pow_succ', Nat.sub_add_cancel Nat.one_le_two_pow, pow_succ 2 (t + 2), pow_mul, hζ, neg_one_sq]
  have h3 : ζ ^ 2 ^ (t + 2) = 1 := by
    rw [pow_succ' 2 (t + 1), pow_mul, pow_two, h2, one_pow]
  rw [← ZMod.natCast_eq_zero_iff, Nat.cast_ofNat, ← one_add_one_eq_two]
  nth_rewrite 1 [← h3]
  rw [hζ, neg_add_cancel]

/-- The hypotheses ARE satisfiable in characteristic `≠ 2`: `R = Z_17 × Z_17`,
`c` the swap of the two factors, `ζ = (2, 2⁻¹) = (2, 9)` (`2^4 = −1` in `Z_17`), `N = 4`, coefficients on the
diagonal.  Obtained FROM the theorem (`Proofs.RotateSlots.conj_slots` = `Props.C11.orderTwo_conjugates`). -/
theorem orderTwo_conjugates_instance (u : (ZMod 8)ˣ) :
    let R := ZMod 17 × ZMod 17
    let a : List R := [(1, 1), (2, 2), (3, 3), (16, 16)]
    let c : R →+* R := (RingEquiv.prodComm : ZMod 17 × ZMod 17 ≃+* ZMod 17 × ZMod 17)
    E ((2, 9) : R) (2 ^ (0 + 3)) (sigma (2 ^ (0 + 2)) (2 ^ (0 + 3) - 1) a) u = c (E ((2, 9) : R) (2 ^ (0 + 3)) a u) := by
  intro R a c
  have h4 : ∀ i, i < 4 → c (a.getD i 0) = a.getD i 0 := by decide
  refine conj_slots (t := 0) ((2, 9) : R) (by decide) a rfl c (fun i => ?_) (by decide) u
  rcases lt_or_ge i 4 with hi | hi
  · exact h4 i hi
  · rw [List.getD_eq_default _ _ hi, map_zero]

end conj

/-! ## 6. A concrete instance: `qs = [97, 193]`, `n = 8` (`K = 3`, `nthRoot = 16`) -/

section concrete

instance good8 : Good [97, 193] (2 ^ 3) := ⟨by decide, by decide⟩

def x8 : RPoly := ⟨[97, 193], [[1, 2, 3, 4, 5, 6, 7, 8], [10, 20, 30, 40, 50, 60, 70, 80]]⟩
def dirty8 : RPoly := ⟨[97, 193], [[9, 9, 9, 9, 9, 9, 9, 9], [5, 5, 5, 5, 5, 5, 5, 5]]⟩

theorem hyps8 : WFq [97, 193] (2 ^ 3) x8 ∧ WFq [97, 193] (2 ^ 3) dirty8 := by decide +kernel

/-- an instance of `innerSum_spec_rpoly` obtained FROM THE THEOREM (`offset = −3`, `n = 7`, dirty buffers) -/
example : (partialTracesSum (rpolyOps [97, 193] (2 ^ 3)) (2 ^ (3 + 1)) true x8 dirty8 dirty8 (-3) 7).val?
    = some (rpSum [97, 193] (2 ^ 3) (7 : ℤ).toNat (fun r => x8.aut (galEl (2 ^ (3 + 1)) ((r : ℤ) * (-3))))) :=
  innerSum_spec_rpoly (qs := [97, 193]) (K := 3) (by norm_num) x8 dirty8 dirty8 hyps8.1 hyps8.2 hyps8.2 (-3) 7
    (by norm_num) (by norm_num) (by norm_num)

/-- composition of two Galois maps, from the theorem: `σ_5 ∘ σ_13 = σ_{65 mod 16} = σ_1 = id` -/
example : (x8.aut 13).aut 5 = x8.aut (5 * 13 % (2 * 2 ^ 3)) :=
  aut_aut_rpoly (qs := [97, 193]) x8 hyps8.1 5 13 (by decide) (by decide)

/-- TEST (evaluation of the model on these values): the same sum; composition, inverse, rotation by `−3`;
the composition law FAILS for the even index `2` (`lawful_raw_aut_false`) -/
example : (partialTracesSum (rpolyOps [97, 193] 8) 16 true x8 dirty8 dirty8 (-3) 7).val?
    = some (rpSum [97, 193] 8 7 (fun r => x8.aut (galEl 16 ((r : ℤ) * (-3))))) := by decide +kernel
example : (x8.aut 13).aut 5 = x8 ∧ (x8.aut 3).aut 11 = x8.aut 1 ∧ x8.aut 17 = x8
    ∧ (x8.aut (galEl 16 2)).aut (galEl 16 (-3)) = x8.aut (galEl 16 (-1))
    ∧ (x8.aut 2).aut 2 ≠ x8.aut 4 := by decide +kernel

/-- the NTT-domain permutation on both rows (`q = 97`, `193`: primes `≡ 1 mod 16`, non-residue `5`), from the
theorem -/
example : ∃ idx, automorphismNTTIndex (2 ^ 3) (2 ^ (3 + 1)) 13 = some idx ∧
    NTT.nttStd (NTT.mkTables (2 ^ 3) 97 (2 ^ (3 + 1)) 5) ((x8.aut 13).c.getD 0 [])
      = idx.map (fun j => (NTT.nttStd (NTT.mkTables (2 ^ 3) 97 (2 ^ (3 + 1)) 5) (x8.c.getD 0 [])).getD j 0) ∧
    NTT.nttStd (NTT.mkTables (2 ^ 3) 193 (2 ^ (3 + 1)) 5) ((x8.aut 13).c.getD 1 [])
      = idx.map (fun j => (NTT.nttStd (NTT.mkTables (2 ^ 3) 193 (2 ^ (3 + 1)) 5) (x8.c.getD 1 [])).getD j 0) := by
  obtain ⟨idx, h1, h2⟩ := automorphismNTT_rpoly (qs := [97, 193]) 3 (by norm_num) (by norm_num) x8 hyps8.1 13
    (by norm_num)
  exact ⟨idx, h1,
    h2 0 5 (by decide) (by norm_num) (by decide) (by decide) (by decide +kernel),
    h2 1 5 (by decide) (by norm_num) (by decide) (by decide) (by decide +kernel)⟩

/-- the slots of row `0` modulo `97` at `ζ = 8` (`8^8 = −1`): rotation by `k = −3`, from the theorem -/
example (j : ℕ) :
    Proofs.RotateSlots.slot0 (8 : ZMod 97) (2 ^ (1 + 3))
        (((x8.aut (galEl (2 ^ (1 + 3)) (-3))).c.getD 0 []).map (Nat.cast : ℕ → ZMod 97)) j
      = Proofs.RotateSlots.slot0 (8 : ZMod 97) (2 ^ (1 + 3)) ((x8.c.getD 0 []).map (Nat.cast : ℕ → ZMod 97))
          (((j : ℤ) + (-3)) % ((2 ^ (1 + 1) : ℕ) : ℤ)).toNat :=
  (rotate_slots_rpoly (qs := [97, 193]) (t := 1) (by norm_num) x8 hyps8.1 0 (by decide) (by decide) (by decide)
    (8 : ZMod 97) (by decide) (-3) j).1

end concrete

end Lattigo.Props.C11Ring

#print axioms Lattigo.Props.C11Ring.aut_ringHom_rpoly
#print axioms Lattigo.Props.C11Ring.aut_aut_rpoly
#print axioms Lattigo.Props.C11Ring.aut_aut_rpoly'
#print axioms Lattigo.Props.C11Ring.aut_congr_rpoly
#print axioms Lattigo.Props.C11Ring.aut_id_rpoly
#print axioms Lattigo.Props.C11Ring.aut_inv_rpoly
#print axioms Lattigo.Props.C11Ring.rot_add_rpoly
#print axioms Lattigo.Props.C11Ring.wfOps_lawful
#print axioms Lattigo.Props.C11Ring.sim_val
#print axioms Lattigo.Props.C11Ring.lawful_raw_aut_false
#print axioms Lattigo.Props.C11Ring.innerSum_spec_rpoly
#print axioms Lattigo.Props.C11Ring.innerFunction_spec_rpoly
#print axioms Lattigo.Props.C11Ring.replicate_spec_rpoly
#print axioms Lattigo.Props.C11Ring.innerSumCKKS_spec_rpoly
#print axioms Lattigo.Props.C11Ring.innerSumBGV_spec_rpoly
#print axioms Lattigo.Props.C11Ring.trace_spec_standard_rpoly
#print axioms Lattigo.Props.C11Ring.trace_spec_zero_standard_rpoly
#print axioms Lattigo.Props.C11Ring.rotate_slots_rpoly
#print axioms Lattigo.Props.C11Ring.orderTwo_swaps_rows_rpoly
#print axioms Lattigo.Props.C11Ring.automorphismNTT_rpoly
#print axioms Lattigo.Props.C11Ring.orderTwo_conjugates_hyps_unsatisfiable_zmod
#print axioms Lattigo.Props.C11Ring.orderTwo_conjugates_instance
