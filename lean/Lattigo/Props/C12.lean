/-
  C12 — homomorphic linear transformations compute the plaintext matrix–vector product.

  STATUS (what each clause of the property text rests on).

  Proved for ALL inputs — the ALGORITHMS of `circuits/common/lintrans` (`Lattigo.Model.LinTrans`) over a slot
  carrier (`SlotOps`; execution instance `fnOps n`: `rows × n` integer slots, rows rotating independently):
    `diag_method`, `rows_independent`          Σ_d diag_d ⊙ rot_d v IS the matrix–vector product, per row
    `naive_spec`, `bsgs_regroup`, `bsgs_eq_naive`   both algorithms return it: every set of normalised
                                               indices, every baby-step size, main diagonal alone, zero matrix
    `lintrans_spec_allocated`                  end to end, from the index-set hypotheses alone (indices in
                                               (−n, n), distinct mod n, positive or negative spelling), for EVERY
                                               ratio: NewLinearTransformation + Encode (incl. `Diagonals.At`) +
                                               Evaluate = M·v on the allocated keys (`lintrans_naive_spec`,
                                               `lintrans_bsgs_spec(_allocated)`)
    `evaluateMany_spec`, `evaluateSequential_spec`   many-on-one-input; sequential = composition, any length
    `out_scale_spec`, `evaluateSequential_scale_reduced`  the output scale's VALUE and MODULUS (tied: `v%mod`)
    `meta_spec`, `evaluateSequential_meta(_none, _too_few)`  output level/scale; closed form along a sequence (bgv,
                                               scales in ZMod t), error with more steps than levels
    `lintrans_keys_sufficient`                 advertised Galois elements ⊇ requested, any indices, any ratio
    `at_spec`                                  `Diagonals.At` on negative indices
  Proved for ALL inputs — of the ciphertext layer, the lazy-accumulation SCHEDULE (`Model.LinTrans.Lazy`):
    `lazy_accumulation_no_wrap(_general)`, `lazy_accumulation_no_wrap_gen` (margin = the REGENERATED
    `QiOverflowMargin`, `C12Gen.overflowMargin_gen` / `C19Gen.margin_floor_gen`), `mredlazy_reduced_bound`,
    `lazy_2q_bound_insufficient` (the documented `< 2q` bound alone does not suffice),
    `modDown_once_per_giant_step`, `no_P_no_reduce`, `naive_final_reduce_redundant`.
  Regenerated from the source and proved equal to the model (`C12Gen`): the margins, the index arithmetic of
  `BSGSIndex` for one diagonal.  `FindBestBSGSRatio` (float ratios) is hand-modelled; `findBestBSGSRatio_pos`.
  `permDiagonals_keys`: the keys of `Permutation.GetDiagonals` are pairwise different, in [0, n).
  Tied only: `bsgsindex`, `bestratio`, `galels`, `alloc`, `at`, `permdiags(c)` (`Permutation.GetDiagonals`: keys
  only; that the diagonals realise the permutation is probed end to end, `perm_e2e_*`), the `eval` lines (keys requested in order, advertised, level, scale, decrypted values).
  Probed only: decrypted result = M·v (bgv exact, ckks 2^-8) incl. 60/61-bit primes with several windows of
  baby steps, keys from the package-level `GaloisElements` only (`keys_sufficient_pkg`).
  Not covered: the polynomials under the schedule (hoisted gadget products, automorphisms, ModDown: C04/C11;
  the schedule's reduce points have no observable counterpart — `ring.Reduce` cannot be intercepted), ckks
  precision as a theorem, `Permutation` → diagonals correctness.

  The model follows the code with the fixes C12-1 (EvaluateMany recomputes the hoisted decomposition), C12-2
  (naive algorithm without off-main diagonal; the zero matrix), C12-3 (`Diagonals.At`, negative indices) applied.
-/
import Lattigo.Proofs.LinTransAt
import Lattigo.Proofs.LinTransLazy
import Lattigo.Proofs.LinTransSeq
import Lattigo.Props.C12Gen
import Mathlib.Tactic.NormNum.Prime

namespace Lattigo.Props.C12
open Lattigo.Model.LinTrans
open Lattigo.Model

/-! ## the diagonal method -/

/-- On `rows × n` integer slots (each row rotating cyclically and independently),
    `Σ_d diag_d ⊙ rot_d v` is the matrix–vector product with the matrix whose generalised diagonals
    are the `diag_d` (`M[c][(c+d) mod n] = diag_d[c]`, zero elsewhere), in every row `r`,
    for every set of distinct indices in `[0,n)`. -/
theorem diag_method (n : Nat) (ds : List Int) (hnd : ds.Nodup)
    (hr : ∀ d ∈ ds, 0 ≤ d ∧ d < (n : Int)) (diag : Int → Slots n) (v : Slots n) (r : Nat) (c : Fin n) :
    diagSum (fnOps n) ds diag v r c = Finset.univ.sum fun c' : Fin n => matrixOf n ds diag r c c' * v r c' := by
  rw [diagSum_fn]; exact matVec_eq_matrix n ds hnd hr diag v r c

example : ([0, 1, 3] : List Int).Nodup ∧ ∀ d ∈ ([0, 1, 3] : List Int), 0 ≤ d ∧ d < ((4 : Nat) : Int) := by decide

/-- the rows of the packing are independent: row `r` of the result depends on row `r` only -/
theorem rows_independent (n : Nat) (ds : List Int) (diag diag' : Int → Slots n) (v v' : Slots n) (r : Nat)
    (hv : v r = v' r) (hd : ∀ d, diag d r = diag' d r) :
    diagSum (fnOps n) ds diag v r = diagSum (fnOps n) ds diag' v' r := by
  rw [diagSum_fn, diagSum_fn]
  funext c
  simp only [matVec, hv, hd]

/-- **naive algorithm**: `MultiplyByDiagMatrix` on the diagonals as `Encode` stores them (no
    pre-rotation) returns `Σ_d diag_d ⊙ rot_d v` for EVERY list of distinct normalised indices — the
    main diagonal alone and the empty list (zero matrix) included; abstract carrier. -/
theorem naive_spec {α : Type} (O : SlotOps α) (n : Nat) (L : SlotLaws O n) (ks : List Int)
    (hr : ∀ k ∈ ks, 0 ≤ k ∧ k < (n : Int)) (hnd : ks.Nodup)
    (diag : Int → α) (v : α) :
    evalNaive O n (ks.map fun k => (k, diag k)) v = .val (diagSum O ks diag v) :=
  evalNaive_eq L ks hr hnd diag v

/-- the case of fix C12-2: the main diagonal alone is `diag_0 ⊙ v` -/
theorem naive_main_diagonal_only {α : Type} (O : SlotOps α) (n : Nat) (L : SlotLaws O n) (hn : 0 < n)
    (d v : α) : evalNaive O n [(0, d)] v = .val (O.mul d v) := by
  have h := evalNaive_eq L [0] (by intro k hk; simp at hk; subst hk; exact ⟨le_refl _, by exact_mod_cast hn⟩)
    (by simp) (fun _ => d) v
  simp only [List.map_cons, List.map_nil] at h
  rw [h]
  simp [diagSum, sumL, L.rot_zero, L.add_zero]

/-- For EVERY baby-step size `N1 > 0` — so for every
    `LogBabyStepGiantStepRatio` — and every list of normalised diagonal indices (also the empty one),
    `Σ_j rot_j( Σ_i rot_{-j}(diag_{j+i}) ⊙ rot_i v ) = Σ_d diag_d ⊙ rot_d v`, where the left side is
    `MultiplyByDiagMatrixBSGS` run on the diagonals pre-rotated as `Encode` does. -/
theorem bsgs_regroup {α : Type} (O : SlotOps α) (n : Nat) (L : SlotLaws O n) (N1 : Nat) (hN : 0 < N1)
    (ks : List Int) (hr : ∀ k ∈ ks, 0 ≤ k ∧ k < (n : Int))
    (diag : Int → α) (v : α) :
    evalBSGS O n N1 (ks.map fun k => (k, preRot O n N1 k (diag k))) v = .val (diagSum O ks diag v) :=
  evalBSGS_eq L N1 hN ks hr diag v

/-- the laws are satisfiable: the carrier the driver executes on is lawful -/
example (n : Nat) : SlotLaws (fnOps n) n := fnOps_laws n

/-- **end to end, BSGS** on the execution carrier, from the index-set hypotheses alone: the user's
    diagonal map has its indices in `(-n, n)`, distinct modulo `n` (positive or negative spellings);
    `keys` are normalised indices of it (what `NewLinearTransformation` allocates).  Then `Encode` —
    which looks every allocated key up with `Diagonals.At` — succeeds, and
    `MultiplyByDiagMatrixBSGS` on the result is the matrix–vector product with the diagonal
    `diagOf n diagonals k` (the one the user supplied for the residue class of `k`) on diagonal `k`. -/
theorem lintrans_bsgs_spec (n N1 : Nat) (hn : 0 < n) (hN : 0 < N1)
    (diagonals : List (Int × Slots n))
    (hrange : ∀ d ∈ diagonals, -(n : Int) < d.1 ∧ d.1 < (n : Int))
    (hdist : (diagonals.map fun d => d.1 % (n : Int)).Nodup)
    (keys : List Int) (hkeys : ∀ k ∈ keys, ∃ d ∈ diagonals, k = normIdx n d.1) (v : Slots n) :
    (∀ d ∈ diagonals, diagOf n diagonals (normIdx n d.1) = d.2) ∧
    ∃ vec, encode (fnOps n) n N1 keys diagonals = some vec ∧
      evalBSGS (fnOps n) n N1 vec v = .val (matVec n keys (diagOf n diagonals) v) := by
  have hr : ∀ k ∈ keys, 0 ≤ k ∧ k < (n : Int) := by
    intro k hk
    obtain ⟨d, _, rfl⟩ := hkeys k hk
    exact normIdx_range n hn d.1
  refine ⟨fun d hd => diagOf_of_mem n diagonals hdist d.1 d.2 hd, _,
    encode_bsgs (fnOps n) n N1 (Nat.pos_iff_ne_zero.1 hN) keys diagonals (diagOf n diagonals) fun k hk => ?_, ?_⟩
  · obtain ⟨d, hd, rfl⟩ := hkeys k hk
    rw [diagAt_of_mem diagonals n hrange hdist d.1 d.2 hd, diagOf_of_mem n diagonals hdist d.1 d.2 hd]
  · rw [evalBSGS_eq (fnOps_laws n) N1 hN keys hr (diagOf n diagonals) v, diagSum_fn]

/-- … for the transformation `NewLinearTransformation` allocates: every `LogBabyStepGiantStepRatio ≥ 0`,
    `N1 = FindBestBSGSRatio`, the keys of `Vec` as allocated — no hypothesis left on the keys -/
theorem lintrans_bsgs_spec_allocated (n : Nat) (hn : 0 < n) (logRatio : Int) (hl : ¬ logRatio < 0)
    (diagonals : List (Int × Slots n))
    (hrange : ∀ d ∈ diagonals, -(n : Int) < d.1 ∧ d.1 < (n : Int))
    (hdist : (diagonals.map fun d => d.1 % (n : Int)).Nodup) (v : Slots n) :
    ∃ vec, encode (fnOps n) n (allocate (diagonals.map (·.1)) n logRatio).1
        (allocate (diagonals.map (·.1)) n logRatio).2 diagonals = some vec ∧
      evalBSGS (fnOps n) n (allocate (diagonals.map (·.1)) n logRatio).1 vec v
        = .val (matVec n (allocate (diagonals.map (·.1)) n logRatio).2 (diagOf n diagonals) v) := by
  rw [allocate_bsgs _ _ hl]
  have hN := Lattigo.Model.LinTrans.findBestBSGSRatio_pos (diagonals.map (·.1)) n logRatio.toNat
  generalize findBestBSGSRatio (diagonals.map (·.1)) n logRatio.toNat = N1 at hN ⊢
  refine (lintrans_bsgs_spec n N1 hn hN diagonals hrange hdist _ (fun k hk => ?_) v).2
  obtain ⟨i, hi, rfl⟩ := allocKeys_mem n N1 hn hN _ k hk
  obtain ⟨d, hd, rfl⟩ := List.mem_map.1 hi
  exact ⟨d, hd, rfl⟩

/-- non-vacuity: indices `-3` and `1` for `n = 8` lie in `(-8, 8)` and are distinct modulo 8; `At`
    finds the first under its normalised key 5 -/
example : (∀ d ∈ [((-3 : Int), (7 : Int)), (1, 8)], -((8 : Nat) : Int) < d.1 ∧ d.1 < ((8 : Nat) : Int)) ∧
    ([((-3 : Int), (7 : Int)), (1, 8)].map fun d => d.1 % ((8 : Nat) : Int)).Nodup ∧
    diagAt [((-3 : Int), (7 : Int)), (1, 8)] 5 8 = some 7 ∧ diagAt [((-3 : Int), (7 : Int)), (1, 8)] 1 8 = some 8 := by
  decide

/-- **end to end, naive** (`LogBabyStepGiantStepRatio < 0`) from the index-set hypotheses alone: `Encode`
    succeeds and `MultiplyByDiagMatrix` on the result is the matrix–vector product -/
theorem lintrans_naive_spec (n : Nat) (hn : 0 < n) (diagonals : List (Int × Slots n))
    (hrange : ∀ d ∈ diagonals, -(n : Int) < d.1 ∧ d.1 < (n : Int))
    (hdist : (diagonals.map fun d => d.1 % (n : Int)).Nodup)
    (keys : List Int) (hknd : keys.Nodup) (hall : ∀ d ∈ diagonals, normIdx n d.1 ∈ keys)
    (hkeys : ∀ k ∈ keys, ∃ d ∈ diagonals, k = normIdx n d.1) (v : Slots n) :
    ∃ vec, encode (fnOps n) n 0 keys diagonals = some vec ∧
      evalNaive (fnOps n) n vec v = .val (matVec n keys (diagOf n diagonals) v) := by
  have hr : ∀ k ∈ keys, 0 ≤ k ∧ k < (n : Int) := by
    intro k hk
    obtain ⟨d, _, rfl⟩ := hkeys k hk
    exact normIdx_range n hn d.1
  refine ⟨_, encode_naive n diagonals hrange hdist keys hall hkeys, ?_⟩
  rw [evalNaive_eq (fnOps_laws n) keys hr hknd (diagOf n diagonals) v, diagSum_fn]

/-- For EVERY `LogBabyStepGiantStepRatio` (negative: naive; `≥ 0`: BSGS with
    `N1 = FindBestBSGSRatio`), every diagonal map with indices in `(-n, n)` distinct modulo `n`:
    `NewLinearTransformation` + `Encode` + `Evaluate` is the matrix–vector product with the user's
    diagonals, on the keys the allocation chose — no hypothesis on `N1` or on the keys. -/
theorem lintrans_spec_allocated (logCols : Nat) (logRatio : Int)
    (diagonals : List (Int × Slots (2 ^ logCols)))
    (hrange : ∀ d ∈ diagonals, -((2 ^ logCols : Nat) : Int) < d.1 ∧ d.1 < ((2 ^ logCols : Nat) : Int))
    (hdist : (diagonals.map fun d => d.1 % ((2 ^ logCols : Nat) : Int)).Nodup) (v : Slots (2 ^ logCols)) :
    ∃ vec, encode (fnOps (2 ^ logCols)) (2 ^ logCols) (allocate (diagonals.map (·.1)) (2 ^ logCols) logRatio).1
        (allocate (diagonals.map (·.1)) (2 ^ logCols) logRatio).2 diagonals = some vec ∧
      evalOne (fnOps (2 ^ logCols)) (⟨(allocate (diagonals.map (·.1)) (2 ^ logCols) logRatio).1,
          logCols, 0, 1, vec⟩ : LinTrans.LT (Slots (2 ^ logCols))) v
        = .val (matVec (2 ^ logCols) (allocate (diagonals.map (·.1)) (2 ^ logCols) logRatio).2
            (diagOf (2 ^ logCols) diagonals) v) := by
  have hn : 0 < 2 ^ logCols := Nat.two_pow_pos logCols
  by_cases hl : logRatio < 0
  · have hkeq : ((diagonals.map (·.1)).map fun i => if i < 0 then i + ((2 ^ logCols : Nat) : Int) else i)
        = diagonals.map fun d => normIdx (2 ^ logCols) d.1 := by
      rw [List.map_map]
      exact List.map_congr_left fun d hd => naiveNorm_eq _ d.1 (hrange d hd).1 (hrange d hd).2
    rw [allocate_naive _ _ hl, hkeq]
    obtain ⟨vec, h1, h2⟩ := lintrans_naive_spec (2 ^ logCols) hn diagonals hrange hdist
      (sortU (diagonals.map fun d => normIdx (2 ^ logCols) d.1)) (sortU_nodup _)
      (fun d hd => (mem_sortU _ _).2 (List.mem_map.2 ⟨d, hd, rfl⟩))
      (fun k hk => by
        obtain ⟨d, hd, rfl⟩ := List.mem_map.1 ((mem_sortU _ _).1 hk)
        exact ⟨d, hd, rfl⟩) v
    exact ⟨vec, h1, by simpa [evalOne] using h2⟩
  · obtain ⟨vec, h1, h2⟩ := lintrans_bsgs_spec_allocated (2 ^ logCols) hn logRatio hl diagonals hrange hdist v
    have h0 : (allocate (diagonals.map (·.1)) (2 ^ logCols) logRatio).1 ≠ 0 := by
      rw [allocate_bsgs _ _ hl]
      exact (Lattigo.Model.LinTrans.findBestBSGSRatio_pos _ _ _).ne'
    exact ⟨vec, h1, by simpa [evalOne, h0] using h2⟩

/-- non-vacuity: two diagonals, one spelled negatively, `n = 2^2`, naive and BSGS -/
example : (∀ d ∈ [((-1 : Int), (7 : Int)), (2, 8)], -((2 ^ 2 : Nat) : Int) < d.1 ∧ d.1 < ((2 ^ 2 : Nat) : Int)) ∧
    ([((-1 : Int), (7 : Int)), (2, 8)].map fun d => d.1 % ((2 ^ 2 : Nat) : Int)).Nodup := by decide

theorem bsgs_eq_naive {α : Type} (O : SlotOps α) (n : Nat) (L : SlotLaws O n) (N1 : Nat) (hN : 0 < N1)
    (ks : List Int) (hr : ∀ k ∈ ks, 0 ≤ k ∧ k < (n : Int)) (hnd : ks.Nodup)
    (diag : Int → α) (v : α) :
    evalBSGS O n N1 (ks.map fun k => (k, preRot O n N1 k (diag k))) v
      = evalNaive O n (ks.map fun k => (k, diag k)) v := by
  rw [evalBSGS_eq L N1 hN ks hr, evalNaive_eq L ks hr hnd]

/-! ## EvaluateMany -/

/-- a transformation as `NewLinearTransformation` + `Encode` produce it from `(N1, ks, diag)`:
    naive (`N1 = 0`) stores the diagonals, BSGS stores them pre-rotated -/
def mkLT {α : Type} (O : SlotOps α) (logCols : Nat) (s : Nat × List Int × (Int → α)) : LinTrans.LT α :=
  { N1 := s.1, logCols := logCols, levelQ := 0, scale := 1,
    vec := if s.1 = 0 then s.2.1.map fun k => (k, s.2.2 k)
           else s.2.1.map fun k => (k, preRot O (2 ^ logCols) s.1 k (s.2.2 k)) }

/-- one transformation built by `mkLT` evaluates to `Σ_d diag_d ⊙ rot_d` of its input -/
theorem evalOne_mkLT {α : Type} (O : SlotOps α) (logCols : Nat) (L : SlotLaws O (2 ^ logCols))
    (s : Nat × List Int × (Int → α)) (hr : ∀ k ∈ s.2.1, 0 ≤ k ∧ k < ((2 ^ logCols : Nat) : Int))
    (hnd : s.2.1.Nodup) (v : α) :
    evalOne O (mkLT O logCols s) v = .val (diagSum O s.2.1 s.2.2 v) := by
  simp only [evalOne, mkLT]
  by_cases h0 : s.1 = 0
  · simp only [h0, if_true]
    exact evalNaive_eq L s.2.1 hr hnd s.2.2 v
  · simp only [h0, if_false]
    exact evalBSGS_eq L s.1 (Nat.pos_of_ne_zero h0) s.2.1 hr s.2.2 v

/-- `EvaluateMany` on ANY number of transformations (naive and BSGS mixed, any
    baby-step sizes) returns, for each of them, `Σ_d diag_d ⊙ rot_d v` of the SAME input `v`. -/
theorem evaluateMany_spec {α : Type} (O : SlotOps α) (logCols : Nat) (L : SlotLaws O (2 ^ logCols))
    (specs : List (Nat × List Int × (Int → α)))
    (hr : ∀ s ∈ specs, ∀ k ∈ s.2.1, 0 ≤ k ∧ k < ((2 ^ logCols : Nat) : Int))
    (hnd : ∀ s ∈ specs, s.2.1.Nodup) (v : α) :
    evalMany O (specs.map (mkLT O logCols)) v = specs.map fun s => .val (diagSum O s.2.1 s.2.2 v) := by
  unfold evalMany
  rw [List.map_map]
  exact List.map_congr_left fun s hs => evalOne_mkLT O logCols L s (hr s hs) (hnd s hs) v

/-- non-vacuity: the pair of transformations of fix C12-1 (BSGS with a non-zero giant step, then the naive
    shift by 1) -/
example : ∀ s ∈ [((2 : Nat), ([0, 2] : List Int)), (0, [1])], ∀ k ∈ s.2, 0 ≤ k ∧ k < ((2 ^ 2 : Nat) : Int) := by
  decide

/-- `EvaluateSequential` composes: two transformations give the second applied to the first -/
theorem evaluateSequential_two {α : Type} (O : SlotOps α) (lt0 lt1 : LinTrans.LT α) (v w : α)
    (h0 : evalOne O lt0 v = .val w) :
    evalSeq O [lt0, lt1] v = evalOne O lt1 w :=
  evalSeq_cons_val O lt0 lt1 [] v w h0

/-- `EvaluateSequential` on ANY non-empty list of transformations (naive and
    BSGS mixed) is their composition, first to last: `M_k(… M_1(M_0 v))` -/
theorem evaluateSequential_spec {α : Type} (O : SlotOps α) (logCols : Nat) (L : SlotLaws O (2 ^ logCols))
    (s0 : Nat × List Int × (Int → α)) (rest : List (Nat × List Int × (Int → α)))
    (hr : ∀ s ∈ s0 :: rest, ∀ k ∈ s.2.1, 0 ≤ k ∧ k < ((2 ^ logCols : Nat) : Int))
    (hnd : ∀ s ∈ s0 :: rest, s.2.1.Nodup) (v : α) :
    evalSeq O ((s0 :: rest).map (mkLT O logCols)) v
      = .val ((s0 :: rest).foldl (fun w s => diagSum O s.2.1 s.2.2 w) v) := by
  induction rest generalizing s0 v with
  | nil => exact evalOne_mkLT O logCols L s0 (hr s0 (by simp)) (hnd s0 (by simp)) v
  | cons s1 rest ih =>
    rw [List.map_cons, List.map_cons, evalSeq_cons_val O _ _ _ v _
      (evalOne_mkLT O logCols L s0 (hr s0 (by simp)) (hnd s0 (by simp)) v), List.foldl_cons]
    exact ih s1 (fun s hs => hr s (List.mem_cons_of_mem _ hs)) (fun s hs => hnd s (List.mem_cons_of_mem _ hs)) _

/-- the empty list: `linearTransformations[:1]` of an empty slice panics -/
example {α : Type} (O : SlotOps α) (v : α) : (match evalSeq O [] v with | .panic => true | _ => false) = true := rfl

/-- Level and scale of `EvaluateSequential` (bgv, exact scales modulo the
    prime `t`) in closed form: `k` transformations allocated at levels `≥` the input's, `k ≤` input level,
    the consumed primes units modulo `t`: output level = input level `− k`, output scale
    `= s_ct · Π s_i · Π_{j<k} q_{level-j}⁻¹` in `ZMod t` -/
theorem evaluateSequential_meta (t : Nat) [Fact t.Prime] (h64 : t < 2 ^ 64) (qmodt : List Nat)
    (ctLevel ctScale : Nat) (ls0 : Nat × Nat) (rest : List (Nat × Nat))
    (hlv : ∀ ls ∈ ls0 :: rest, ctLevel ≤ ls.1) (hk : (ls0 :: rest).length ≤ ctLevel)
    (hq : ∀ l, 1 ≤ l → l ≤ ctLevel → ((qmodt.getD l 0 : Nat) : ZMod t) ≠ 0) :
    ∃ sc, seqMeta t qmodt ctLevel ctScale (ls0 :: rest) = some (ctLevel - (ls0 :: rest).length, sc) ∧
      ((sc : Nat) : ZMod t) = (ctScale : ZMod t) * (((ls0 :: rest).map fun ls => ((ls.2 : Nat) : ZMod t)).prod) *
        ((List.range (ls0 :: rest).length).map fun j => (((qmodt.getD (ctLevel - j) 0 : Nat) : ZMod t))⁻¹).prod := by
  rw [seqMeta_eq_foldl]
  exact seqFold_spec t h64 qmodt (ls0 :: rest) ctLevel ctScale hlv hk hq

/-- with more transformations than levels the sequence stops on a failing `Rescale` -/
theorem evaluateSequential_meta_none (t : Nat) (qmodt : List Nat) (ctLevel ctScale : Nat) (lts : List (Nat × Nat))
    (h : ctLevel < lts.length) : seqMeta t qmodt ctLevel ctScale lts = none := by
  cases lts with
  | nil => rfl
  | cons ls rest => rw [seqMeta_eq_foldl]; exact seqFold_too_few t qmodt _ _ _ h

/-- the smallest instance: one transformation at level 0 -/
theorem evaluateSequential_meta_too_few (t : Nat) (qmodt : List Nat) (ctScale : Nat) (ls0 : Nat × Nat) :
    seqMeta t qmodt 0 ctScale [ls0] = none :=
  evaluateSequential_meta_none t qmodt 0 ctScale [ls0] Nat.one_pos

/-- non-vacuity: `t = 65537`, two transformations from level 3 -/
example : Nat.Prime 65537 ∧ (∀ ls ∈ [((3 : Nat), (5 : Nat)), (4, 7)], 3 ≤ ls.1) ∧ ([((3 : Nat), (5 : Nat)), (4, 7)]).length ≤ 3 ∧
    seqMeta 65537 [705, 16321, 16577, 15553] 3 9 [(3, 5), (4, 7)] = some (1, 17311) := by
  refine ⟨by norm_num, by decide, by decide, by decide +kernel⟩

/-! ## Galois keys -/

/-- For EVERY list of diagonal indices (any integers, any order,
    duplicates allowed), every `n > 0` and every `LogBabyStepGiantStepRatio` (negative: naive), the
    rotations whose Galois keys `EvaluateMany` requests for the allocated transformation are among
    the ones `GaloisElements` advertises. -/
theorem lintrans_keys_sufficient (n : Nat) (hn : 0 < n) (diags : List Int) (logRatio : Int) (x : Int)
    (hx : x ∈ reqMany [((allocate diags n logRatio).1, n, (allocate diags n logRatio).2)]) :
    x ∈ advertisedRots diags n logRatio := by
  by_cases hl : logRatio < 0
  · rw [allocate_naive _ _ hl] at hx
    rw [advertisedRots, if_pos hl]
    simp only [reqMany, List.foldl_cons, List.foldl_nil, if_true, List.nil_append] at hx
    exact naive_keys_sufficient n diags x hx
  · have hN := findBestBSGSRatio_pos diags n logRatio.toNat
    rw [allocate_bsgs _ _ hl] at hx
    rw [advertisedRots, if_neg hl]
    simp only [reqMany, List.foldl_cons, List.foldl_nil, Nat.ne_of_gt hN, if_false, List.nil_append] at hx
    exact bsgs_keys_sufficient n _ diags _ (allocKeys_mem n _ hn hN diags) [] x hx

/-- the naive branch on a negative index in sparse packing: `GaloisElements` normalises modulo the number
    of columns — for 4 columns the index `-3` is advertised as the rotation by `1` (what
    `MultiplyByDiagMatrix` asks for), not as `5^(-3 mod N/2)`; an instance of `lintrans_keys_sufficient`,
    probed on the real code as `keys_sufficient_pkg` -/
example : advertisedRots [-3] 4 (-1) = [1] ∧ advertisedRots [-1, 1, -2] 4 (-1) = [1, 2, 3] ∧
    reqMany [((allocate [-3] 4 (-1)).1, 4, (allocate [-3] 4 (-1)).2)] = [1] := by decide

/-- `FindBestBSGSRatio` never returns 0 (so a non-negative ratio always selects the BSGS algorithm) -/
theorem findBestBSGSRatio_pos (diags : List Int) (maxN lr : Nat) : 0 < findBestBSGSRatio diags maxN lr :=
  Lattigo.Model.LinTrans.findBestBSGSRatio_pos diags maxN lr

/-! ## permutations -/

/-- The diagonals `Permutation.GetDiagonals` returns (tied: `permdiags`, `permdiagsc`) have
    pairwise different keys, all in `[0, n)` — one key per diagonal of the matrix modulo `n`, for every list of
    mappings (offsets `+n/2` and `−n/2` land on the same key) -/
theorem permDiagonals_keys (rowsN n : Nat) (hn : 0 < n) (maps : List (Nat × Int × Int × Nat)) :
    ((permDiagonals rowsN n maps).map (·.1)).Nodup ∧
    ∀ kv ∈ permDiagonals rowsN n maps, 0 ≤ kv.1 ∧ kv.1 < (n : Int) := by
  unfold permDiagonals
  generalize hm : maps.foldl _ [] = m
  -- invariant of the loop over the mappings: a key is there already or is a fresh `permDiagIdx`, which is reduced
  have hkeys : ∀ k ∈ m.map (·.1), 0 ≤ k ∧ k < (n : Int) := by
    rw [← hm]
    refine List.foldlRecOn (motive := fun acc : List (Int × List Nat) => ∀ k ∈ acc.map (·.1), 0 ≤ k ∧ k < (n : Int))
      maps _ (b := []) (fun _ hk => nomatch hk) fun acc h mp _ k hk => ?_
    obtain ⟨row, from_, to_, sc⟩ := mp
    dsimp only at hk
    split at hk
    · simp only [List.map_map, List.mem_map, Function.comp] at hk
      obtain ⟨kv, hkv, rfl⟩ := hk
      have : kv.1 ∈ acc.map (·.1) := List.mem_map_of_mem hkv
      split <;> exact h _ this
    · simp only [List.map_append, List.map_cons, List.map_nil, List.mem_append, List.mem_singleton] at hk
      rcases hk with hk | hk
      · exact h k hk
      · rw [hk]; exact normIdx_range n hn _
  constructor
  · -- the key of an entry is the key it was looked up under, and those are sorted
    rw [List.map_filterMap]
    refine (sortU_nodup _).filterMap fun a a' b hb hb' => ?_
    simp only [Option.map_map, Option.mem_def, Option.map_eq_some_iff, Function.comp] at hb hb'
    obtain ⟨_, _, rfl⟩ := hb
    obtain ⟨_, _, rfl⟩ := hb'
    rfl
  · intro kv hkv
    obtain ⟨k, hk, hkv⟩ := List.mem_filterMap.1 hkv
    obtain ⟨v, _, rfl⟩ := Option.map_eq_some_iff.1 hkv
    exact hkeys k ((mem_sortU k _).mp hk)

/-! ## level and scale -/

/-- `level = min(opOut.Level, ctIn.Level, lt.LevelQ)`, `scale = scale_ct · scale_lt`
    (mod `t` for the integer scheme) — the rule the tie lines compare with the real output metadata -/
theorem meta_spec (t ol cl ll cs ls : Nat) :
    (outMeta t ol cl ll cs ls).1 = min ol (min cl ll) ∧
    (outMeta t ol cl ll cs ls).2 = (if t = 0 then cs * ls else cs * ls % t) := ⟨rfl, rfl⟩

/-- The recorded output scale of `Evaluate`/`EvaluateMany` for a ciphertext whose scale carries
    the modulus `t`: it carries `t` again and its value is the product reduced modulo `t` — the `meta_spec` value —
    HOWEVER the transformation's scale was built: with the modulus (`params.NewScale`, `DefaultScale`), without
    (`rlwe.NewScale(k)`), `k` below or above `t` -/
theorem out_scale_spec (t cs ls lm : Nat) (ht : 0 < t) (ol cl ll : Nat) :
    (outScale ⟨cs, t⟩ ⟨ls, lm⟩).mod = t ∧
    (outScale ⟨cs, t⟩ ⟨ls, lm⟩).value = cs * ls % t ∧
    (outScale ⟨cs, t⟩ ⟨ls, lm⟩).value = (outMeta t ol cl ll cs ls).2 ∧
    (outScale ⟨cs, t⟩ ⟨ls, lm⟩).value < t := by
  have h0 : t ≠ 0 := by omega
  simp only [outScale, ScaleM.mul, outMeta, h0, if_false]
  exact ⟨trivial, trivial, trivial, Nat.mod_lt _ ht⟩

/-- the receiver matters: the product taken the other way round (`matrix.Scale.Mul(ctIn.Scale)`) with a
    transformation scale without modulus loses the modulus and is not reduced — `Rescale`, `MatchScales`, the
    decoder then compute with a plain integer instead of a residue -/
theorem out_scale_receiver_matters :
    ScaleM.mul ⟨40000, 0⟩ ⟨3, 65537⟩ = ⟨120000, 0⟩ ∧ outScale ⟨3, 65537⟩ ⟨40000, 0⟩ = ⟨54463, 65537⟩ := by decide

/-- the scale along `EvaluateSequential` stays a reduced residue (its modulus is `t`: every step of `seqMeta`
    reduces modulo `t`) -/
theorem evaluateSequential_scale_reduced (t : Nat) (ht : 0 < t) (qmodt : List Nat) (ctLevel ctScale : Nat)
    (lts : List (Nat × Nat)) (l sc : Nat) (h : seqMeta t qmodt ctLevel ctScale lts = some (l, sc)) : sc < t := by
  cases lts with
  | nil => cases h
  | cons ls rest =>
    rw [seqMeta_eq_foldl, List.foldl_cons] at h
    exact List.foldlRecOn (motive := fun acc => ∀ l sc, acc = some (l, sc) → sc < t) rest _
      (fun _ _ e => seqStep_scale_lt ht e) (fun _ _ _ _ _ _ e => seqStep_scale_lt ht e) l sc h

/-! ## lazy accumulation (ciphertext layer, schedule only) -/

section lazy
open Lattigo.Model.LinTrans.Lazy Lattigo.Gen Lattigo.LazyAcc

/-- In the inner loop of `MultiplyByDiagMatrixBSGS` — margin
    `QiOverflowMargin(level) >> 1 = ⌊⌊2^64 / max q_i⌋ / 2⌋`, test `cnt % margin == margin-1 ⇒ Reduce`,
    final test `cnt % margin != 0 ⇒ Reduce` — a uint64 accumulator word of the limb `q` never reaches
    2^64, for every chain of moduli below 2^61 (what `CheckModuli` admits in Q and in P), every number of baby steps, all reduced operands; it
    ends reduced and congruent to the sum of the lazy products. -/
theorem lazy_accumulation_no_wrap (qs : List Nat) (hqs : ∀ x ∈ qs, x < 2 ^ 61) (q qinv : Nat) (hq : q ∈ qs)
    (hm : MontConst q qinv) (xys : List (Nat × Nat)) (hxy : ∀ xy ∈ xys, xy.1 < q ∧ xy.2 < q) (hne : xys ≠ []) :
    let ps := xys.map fun xy => MRedLazy xy.1 xy.2 q qinv
    let r := accRun q (halved (overflowMargin qs)) ps
    (∀ raw ∈ r.1, raw < W) ∧ r.2 < q ∧ r.2 % q = ps.sum % q :=
  Lattigo.Model.LinTrans.Lazy.lazy_accumulation_no_wrap qs hqs q qinv hq hm xys hxy hne

/-- The same with the margin the REGENERATED `QiOverflowMargin`
    (`Gen/Params.lean`, printed from core/rlwe/params.go on every run; `C19Gen.margin_floor_gen`: it is
    `⌊(2^64-1)/max⌋`) at the top level of the chain, halved as `MultiplyByDiagMatrixBSGS` does — for every
    chain of odd moduli in `(2, 2^61)` (every chain of primes `CheckModuli` admits) -/
theorem lazy_accumulation_no_wrap_gen (qs : List Nat) (hlen : qs.length < 2 ^ 62) (hqs : ∀ x ∈ qs, x < 2 ^ 61)
    (hodd : ∀ x ∈ qs, x % 2 = 1) (h2 : ∀ x ∈ qs, 2 < x) (q qinv : Nat) (hq : q ∈ qs)
    (hm : MontConst q qinv) (xys : List (Nat × Nat)) (hxy : ∀ xy ∈ xys, xy.1 < q ∧ xy.2 < q) (hne : xys ≠ []) :
    let ps := xys.map fun xy => MRedLazy xy.1 xy.2 q qinv
    let r := accRun q (halved (i64toInt (Lattigo.Gen.Params.QiOverflowMargin qs (qs.length - 1)))) ps
    (∀ raw ∈ r.1, raw < W) ∧ r.2 < q ∧ r.2 % q = ps.sum % q := by
  have hmaxmem : qs ≠ [] → qs.foldl max 0 ∈ qs :=
    foldl_max_mem_of_pos fun x hx => Nat.lt_trans Nat.zero_lt_two (h2 x hx)
  rw [Lattigo.Props.C12Gen.overflowMargin_gen qs hlen (fun h => hodd _ (hmaxmem h)) (fun h => h2 _ (hmaxmem h))]
  exact Lattigo.Model.LinTrans.Lazy.lazy_accumulation_no_wrap qs hqs q qinv hq hm xys hxy hne

/-- non-vacuity: a chain of a 60-bit and a 61-bit modulus; the Montgomery constant of the latter -/
example : (∀ x ∈ [1152921504606846883, 2305843009213693951], x < 2 ^ 61) ∧
    MontConst 2305843009213693951 (GenMRedConstant 2305843009213693951) := by
  refine ⟨by decide, ?_⟩
  exact (GenMRedConstant_spec 2305843009213693951 (by decide) (by decide)).1

/-- the general form: any moduli `q ≤ qmax ≤ 2^64/3` (more than `CheckModuli` admits, which is `q < 2^61`), margin
    `⌊2^64/qmax⌋ >> 1`, summands at most `q + ⌊q²/2^64⌋` — also the OUTER loop, whose summands are
    reduced words -/
theorem lazy_accumulation_no_wrap_general (q qmax : Nat) (hq0 : 0 < q) (hq : q ≤ qmax) (h3 : 3 * qmax ≤ W)
    (ps : List Nat) (hps : ∀ p ∈ ps, p ≤ q + q * q / W) (hne : ps ≠ []) :
    let r := accRun q (halved ((W / qmax : Nat) : Int)) ps
    (∀ raw ∈ r.1, raw < W) ∧ r.2 < q ∧ r.2 % q = ps.sum % q :=
  accRun_no_wrap q qmax hq0 hq h3 ps hps hne

example : 3 * 4611686018427387847 ≤ W := by decide   -- a 62-bit number

-- `hq`, `hm` are not needed: `MRedLazy` subtracts a high word below `q` and adds `q`, whatever the constant (`LazyAcc.mredLazy_le_hi`)
set_option linter.unusedVariables false in
/-- the product bound that makes it work: on reduced operands `MRedLazy ≤ q + ⌊q²/2^64⌋` -/
theorem mredlazy_reduced_bound (x y q qinv : Nat) (hq : 2 * q ≤ W) (hm : MontConst q qinv)
    (hx : x < q) (hy : y < q) : MRedLazy x y q qinv ≤ q + q * q / W :=
  MRedLazy_le_reduced x y q qinv hx hy

/-- **the documented bound is not enough**: with summands only known to be `< 2q` (the bound of
    `MRedLazy_spec`, and what "margin = how many elements of Z_q fit into 2^64, halved" accounts for) the
    accumulator DOES wrap: every window after the first starts from a reduced word, not from 0. -/
theorem lazy_2q_bound_insufficient :
    ∃ q : Nat, q < 2 ^ 61 ∧ ∃ ps : List Nat, (∀ p ∈ ps, p < 2 * q) ∧
      ∃ raw ∈ (accRun q (halved ((W / q : Nat) : Int)) ps).1, W ≤ raw := by
  -- `q = 2^61 - 1` (`⌊2^64/q⌋ = 8`, margin 4), eight summands `2q - 1`: the second window starts from the
  -- reduced word `q - 4` and its fourth sum is `9q - 8 > 2^64`
  refine ⟨2305843009213693951, by decide, List.replicate 8 (2 * 2305843009213693951 - 1), ?_, ?_⟩
  · intro p hp; rw [List.eq_of_mem_replicate hp]; decide
  · decide

/-- **ModDown once per giant step** (the final ModDown of the result is a different event, not counted here),
    for every index and all margins -/
theorem modDown_once_per_giant_step (MQ MP : Int) (index : List (Int × List Int)) :
    (bsgsSchedule MQ MP index).countP isModDownInner = (index.filter fun ji => ji.1 != 0).length :=
  Lattigo.Model.LinTrans.Lazy.modDown_once_per_giant_step MQ MP index

/-- without P (`PiOverflowMargin = -1`) no reduction of a P part is scheduled -/
theorem no_P_no_reduce (cnt : Nat) :
    reduceNow (halved (overflowMargin [])) cnt = false ∧ reduceAtEnd (halved (overflowMargin [])) cnt = false := by
  have h : halved (overflowMargin []) = -1 := by decide
  rw [h]
  unfold reduceNow reduceAtEnd
  have : Int.tmod (cnt : Int) (-1) = 0 := by
    rw [Int.tmod_neg, Int.tmod_one]
  rw [this]
  constructor <;> decide

/-- the naive algorithm's final `Reduce` is redundant (it fires iff the last iteration reduced) -/
theorem naive_final_reduce_redundant (M : Nat) (hM : 1 ≤ M) (len : Nat) (hlen : 1 ≤ len) :
    reduceAtEndNaive (M : Int) len = reduceNow (M : Int) (len - 1) :=
  Lattigo.Model.LinTrans.Lazy.naive_final_reduce_redundant M hM len hlen

/-- test: two giant steps of 9 and 3 baby steps, margins 4 (Q) and 2 (P) -/
example : ((bsgsSchedule 4 2 [(0, [0,1,2,3,4,5,6,7,8]), (16, [0,1,2])]).filter (· == .reduceInnerQ)).length = 4 ∧
    ((bsgsSchedule 4 2 [(0, [0,1,2,3,4,5,6,7,8]), (16, [0,1,2])]).filter (· == .modDownFinal)).length = 1 := by decide

end lazy

/-! ## `Diagonals.At` -/

/-- "accepts negative values with the equivalency -i = n - i": an index absent from the map
    is looked up under its other spelling, `i + n` for `i < 0`, `i - n` for `i > 0` -/
theorem at_spec {β : Type} (m : List (Int × β)) (i : Int) (n : Nat) (h : lookupI i m = none) :
    (i < 0 → diagAt m i n = lookupI (i + n) m) ∧ (0 < i → diagAt m i n = lookupI (i - n) m) := by
  constructor
  · intro hi
    have : ¬ i > 0 := by omega
    simp [diagAt, h, this, hi]
  · intro hi
    simp [diagAt, h, hi]

example : diagAt [((5 : Int), (1 : Int))] (-3) 8 = some 1 := by decide

#print axioms diag_method
#print axioms rows_independent
#print axioms naive_spec
#print axioms naive_main_diagonal_only
#print axioms bsgs_regroup
#print axioms lintrans_bsgs_spec
#print axioms lintrans_bsgs_spec_allocated
#print axioms bsgs_eq_naive
#print axioms evaluateMany_spec
#print axioms evaluateSequential_two
#print axioms lintrans_keys_sufficient
#print axioms findBestBSGSRatio_pos
#print axioms permDiagonals_keys
#print axioms meta_spec
#print axioms out_scale_spec
#print axioms out_scale_receiver_matters
#print axioms evaluateSequential_scale_reduced
#print axioms at_spec
#print axioms lazy_accumulation_no_wrap
#print axioms lazy_accumulation_no_wrap_gen
#print axioms lintrans_naive_spec
#print axioms lintrans_spec_allocated
#print axioms evalOne_mkLT
#print axioms evaluateSequential_spec
#print axioms evaluateSequential_meta
#print axioms evaluateSequential_meta_too_few
#print axioms evaluateSequential_meta_none
#print axioms lazy_accumulation_no_wrap_general
#print axioms mredlazy_reduced_bound
#print axioms lazy_2q_bound_insufficient
#print axioms modDown_once_per_giant_step
#print axioms no_P_no_reduce
#print axioms naive_final_reduce_redundant

end Lattigo.Props.C12
