/-
  Property C12 — the REGENERATED tie for the integer arithmetic under the linear-transformation
  evaluator: the overflow margins of the lazy-accumulation schedule (`Gen/Params.lean`, from
  core/rlwe/params.go) and the index arithmetic of `BSGSIndex` (`Gen/LinTrans.lean`: the first three
  statements of the loop over the non-zero diagonals of circuits/common/lintrans/lintrans.go).
  The driver op `C12 margin` executes the generated `QiOverflowMargin`.

  The code (with fix c11167e) computes the margin in `uint64` (`(2^64-1)/max`), which is the model's
  `floor(2^64 / max)` for every odd modulus: `overflowMargin_gen`.  (The float formula without the fix
  returns `floor + 1` for moduli just above `2^64/k`; see `Props/C19Gen.lean`, `float_margin_not_floor`.)
  `FindBestBSGSRatio` (float ratios, maps) stays hand-modelled.
-/
import Lattigo.Proofs.GenParams
import Lattigo.Proofs.GenLinTrans
import Lattigo.Model.ParamsGen

namespace Lattigo.Props.C12Gen
open Lattigo Lattigo.Gen.Params Lattigo.Proofs.GenParams Lattigo.Model.LinTrans

/-- **the C12 model's margin is the regenerated `QiOverflowMargin`** at the top level of the chain
    `qs`, for every chain whose largest modulus is odd and `> 2` (every chain of primes). -/
theorem overflowMargin_gen (qs : List Nat) (hlen : qs.length < 2 ^ 62)
    (hodd : qs ≠ [] → (qs.foldl max 0) % 2 = 1) (hM : qs ≠ [] → 2 < qs.foldl max 0) :
    i64toInt (QiOverflowMargin qs (qs.length - 1)) = Lazy.overflowMargin qs :=
  overflowMargin_eq qs hlen hodd hM

example : i64toInt (QiOverflowMargin [35184372088673, 1152921504606847009] 1)
    = Lazy.overflowMargin [35184372088673, 1152921504606847009] :=
  overflowMargin_gen _ (by norm_num) (fun _ => by decide) (fun _ => by decide)

/-- without moduli both are `-1`. -/
example : i64toInt (QiOverflowMargin [] (i64ofInt (-1))) = Lazy.overflowMargin [] := by decide

/-- what the driver's `margin` op executes is the model (same hypotheses). -/
theorem marginAll_gen (qs : List Nat) (hlen : qs.length < 2 ^ 62)
    (hodd : qs ≠ [] → (qs.foldl max 0) % 2 = 1) (hM : qs ≠ [] → 2 < qs.foldl max 0) :
    Model.ParamsGen.marginAll qs = Lazy.overflowMargin qs := by
  unfold Model.ParamsGen.marginAll Model.ParamsGen.qiMargin
  rw [i64ofInt_pred qs.length (by omega)]
  by_cases h : qs = []
  · subst h; decide
  · have hl : qs.length ≠ 0 := by simpa using h
    rw [u64sub_eq _ _ (by omega) (by unfold W; omega)]
    exact overflowMargin_eq qs hlen hodd hM

/-- **the index arithmetic of `BSGSIndex`, regenerated = model**: for `slots = 2^a`, `N1 = 2^b`
    (`a, b ≤ 62`) and EVERY Go `int` `rot` (negative diagonals included), the three values computed for
    a diagonal are `normIdx`, `giant`, `baby`. -/
theorem bsgsIndex_rot_gen (a b : Nat) (ha : a ≤ 62) (hb : b ≤ 62) (rot : Int) :
    let r := Gen.LinTrans.BSGSIndex_rot (2 ^ a) (2 ^ b) (i64ofInt rot)
    i64toInt r.1 = normIdx (2 ^ a) rot
    ∧ i64toInt r.2.1 = giant (2 ^ a) (2 ^ b) (normIdx (2 ^ a) rot)
    ∧ i64toInt r.2.2 = baby (2 ^ b) (normIdx (2 ^ a) rot) := by
  have hA : 2 ^ a ≤ 2 ^ 62 := Nat.pow_le_pow_right (by norm_num) ha
  have hB : 2 ^ b ≤ 2 ^ 62 := Nat.pow_le_pow_right (by norm_num) hb
  have h1 : i64ofInt rot % 2 ^ a < 2 ^ a := Nat.mod_lt _ (Nat.two_pow_pos a)
  have h2 : i64ofInt rot % 2 ^ a / 2 ^ b * 2 ^ b % 2 ^ a < 2 ^ a := Nat.mod_lt _ (Nat.two_pow_pos a)
  have h3 : i64ofInt rot % 2 ^ a % 2 ^ b < 2 ^ b := Nat.mod_lt _ (Nat.two_pow_pos b)
  -- all three are below `2^62`: read as `int` they are themselves
  rw [Proofs.GenLinTrans.BSGSIndex_rot_eq a b ha hb,
    show normIdx (2 ^ a) rot = _ from (Proofs.GenLinTrans.mask_cast rot a (by omega)).symm]
  dsimp only
  rw [i64toInt_small _ (by omega), i64toInt_small _ (by omega), i64toInt_small _ (by omega)]
  unfold giant baby normIdx
  push_cast
  exact ⟨rfl, rfl, rfl⟩

example := bsgsIndex_rot_gen 10 3 (by norm_num) (by norm_num) (-5)
example : Gen.LinTrans.BSGSIndex_rot 1024 8 (i64ofInt (-5)) = (1019, 1016, 3) := by decide

end Lattigo.Props.C12Gen

#print axioms Lattigo.Props.C12Gen.overflowMargin_gen
#print axioms Lattigo.Props.C12Gen.marginAll_gen
#print axioms Lattigo.Props.C12Gen.bsgsIndex_rot_gen
