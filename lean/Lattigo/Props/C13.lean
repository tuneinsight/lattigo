/-
  C13 — homomorphic polynomial evaluation returns p(x) at the advertised depth and scale.

  STATUS (what each clause of the property text rests on).

  Proved for ALL inputs, layer (A) — the algebra over any commutative ring (driver: Int; `C13Ring`: the
  RNS polynomial ring `WFPoly` the schemes compute in):
    `powerbasis_spec_*`, `factorize_spec_*`, `ps_spec_*`   pb[n] = x^n / T_n(x); p = q·B_n + r; Paterson–
                                  Stockmeyer = p(x), both bases, every coefficient list, every split
    `chebEval_spec`, `change_of_basis_spec`, `change_of_basis_per_polynomial`   bignum `Evaluate` and the
                                  per-polynomial Chebyshev change of basis of a vector
    `goldschmidt_spec`, `interval_normalization_invariant`, `interval_normalization_steps`   the inverse
                                  circuit on values: x·a_k = 1 − (1−x)^(2^(k+1)); y = x·fac; step count
  Proved for ALL inputs, layer (B) — the machine `run` (operands = level, scale mod t, ciphertext degree,
  slot values; its op trace is tied line by line to the real evaluator):
    `too_few_levels(_clog)`       fewer than ⌈log2(d+1)⌉ levels ⇒ `err`, nothing executed (standard mode)
    `constant_polynomial_spec`    degree 0: no level, target scale, one op
    `run_levels_simulated`        levels/degrees/control flow do not depend on t, scales, coefficient
                                  values, slot values, mapping, and shift with the input level
    `unmapped_slot_evaluates_to_zero`   a slot outside every mapping list is 0 in the result (every degree,
                                  basis, mode, flags)
    `target_scale_bfv`, `sim_backpropagation_spec_bfv`   scale-invariant mode: out.scale = requested and
                                  out.level ≤ input, EVERY degree
    `sim_backpropagation_spec`, `target_scale_of_level`   standard mode, EVERY degree: the simulator's scales
                                  compose to the target; out.scale = requested GIVEN the documented level
  Stated with a bound on the degree, which the proofs do not use (`depthOK_all`, `bfvOK_all`, `chebOK_all` of
  `Proofs/PolyEvalDepth`: the level-only run succeeds at the documented depth for EVERY `d ≥ 1`;
  `depth_spec_of_check` is the general reduction to that run):
    `depth_spec`, `depth_spec_level_only`, `depth_spec_bfv` (1 ≤ d < 64), `depth_spec_chebyshev` (d < 32),
    `target_scale` (d < 64).
  `depth_spec_partial` is the arithmetic identity alone (coded depth + 1 = ⌈log2(d+1)⌉).
  Witnesses by kernel evaluation of the machine: `even_flag_evaluates`, `flags_cleared_general`,
  `bfv_no_level_consumed`, `bfv_below_depth_evaluates`, `partial_basis_regenerated`, `prefilled_basis`.
  Tied only (no general theorem): the ordered op trace of `eval` (all modes), `depth`, `cob`, `normiters`,
  `chebeval` agree with the real code on the explored inputs; `split`/`optsplit` run regenerated code (`C13Gen`).
  Probed only: decrypted values (bgv exact, ckks 2^-10), ckks scales (2^-30), composite circuits (inverse,
  sign/step, max/min, mod1) on their stated domains, two-levels-per-rescaling evaluation.
  Not covered: an error bound for the minimax sign composition and for mod1 (approximation theory; only
  probed); ckks noise ("within the noise-implied precision" is a probe threshold); the trace ↔ value link of
  layer (B) to layer (A) is through the ties (`ps=` equals the decrypted values), not a theorem.

  The model follows the code with the fixes C13-1 … C13-10 applied (`fixes/C13-*.diff`); C13-10: the parity of a
  VECTOR (`vecFlags`, `vector_parity_spec`) — a parity is skipped iff all members lack it.
-/
import Lattigo.Proofs.PolyEvalDepth
import Lattigo.Proofs.PolyEvalGenPower
import Lattigo.Proofs.PolyEvalScale
import Lattigo.Proofs.PolyComposite
import Lattigo.Proofs.PolyEvalSlots
import Lattigo.Props.C13Gen
import Lattigo.Props.C13Ring
import Mathlib.Tactic.NormNum.Prime

namespace Lattigo.Props.C13
open Lattigo.Model.PolyEval
open Polynomial

/-- `SplitDegree(n)` for `n ≥ 2`: two positive parts that ADD up to `n` (the Go doc comment says
    "a * b = n") -/
theorem splitDegree_spec (n : Nat) (hn : 2 ≤ n) :
    (splitDegree n).1 + (splitDegree n).2 = n ∧ 1 ≤ (splitDegree n).1 ∧ 1 ≤ (splitDegree n).2 :=
  Lattigo.Model.PolyEval.splitDegree_spec n hn

example : splitDegree 7 = (3, 4) ∧ splitDegree 8 = (4, 4) ∧ splitDegree 13 = (7, 6) := by decide

/-- **powerbasis_spec (monomial)**: `pb[n] = x^n` for every `n`, any commutative ring -/
theorem powerbasis_spec_monomial {R : Type} [CommRing R] (x : R) (n : Nat) :
    powVal (ringOps R) false x (n + 1) n = x ^ n :=
  powVal_monomial x (n + 1) n (by omega) (by omega)

/-- **powerbasis_spec (Chebyshev)**: `pb[n] = T_n(x)` (`Polynomial.Chebyshev.T`) for every `n` -/
theorem powerbasis_spec_chebyshev {R : Type} [CommRing R] (x : R) (n : Nat) :
    powVal (ringOps R) true x (n + 1) n = (Chebyshev.T R (n : ℤ)).eval x :=
  powVal_chebyshev x (n + 1) n (by omega) (by omega)

/-- **factorize_spec (monomial)**: `p(x) = q(x)·x^n + r(x)`, `deg r < n`; every `p`, every `n` -/
theorem factorize_spec_monomial {R : Type} [CommRing R] (x : R) (n : Nat) (p : List R) :
    evalBasis (ringOps R) false x p
      = evalBasis (ringOps R) false x (factorize (ringOps R) false n p).1 * x ^ n
        + evalBasis (ringOps R) false x (factorize (ringOps R) false n p).2
    ∧ (factorize (ringOps R) false n p).2.length ≤ n :=
  factorize_monomial x n p

/-- **factorize_spec (Chebyshev)**: `p(x) = q(x)·T_n(x) + r(x)` in the Chebyshev basis, `r` has exactly
    `n` coefficients; every `p` with `deg p ≤ 2n` -/
theorem factorize_spec_chebyshev {R : Type} [CommRing R] (x : R) (n : Nat) (p : List R)
    (hp : p.length ≤ 2 * n + 1) :
    evalBasis (ringOps R) true x p
      = evalBasis (ringOps R) true x (factorize (ringOps R) true n p).1 * (Chebyshev.T R (n : ℤ)).eval x
        + evalBasis (ringOps R) true x (factorize (ringOps R) true n p).2
    ∧ (factorize (ringOps R) true n p).2.length = n :=
  factorize_chebyshev x n p hp

/-- non-vacuity: degree 5 split at `n = 4` -/
example : ([1, 2, 3, 4, 5, 6] : List Int).length ≤ 2 * 4 + 1 := by decide

/-- **ps_spec (monomial)**: the Paterson–Stockmeyer recursion returns `p(x)`, for every coefficient list
    (zero leading/trailing coefficients, odd, even), every `logSplit`, every fuel -/
theorem ps_spec_monomial {R : Type} [CommRing R] (logSplit : Nat) (x : R) (fuel : Nat) (p : List R) :
    psRec (ringOps R) false logSplit x fuel p = evalBasis (ringOps R) false x p :=
  psRec_monomial logSplit x fuel p

/-- **ps_spec (Chebyshev)**: the same for `Σ p_i T_i(x)`, every coefficient list, `logSplit`, fuel -/
theorem ps_spec_chebyshev {R : Type} [CommRing R] (logSplit : Nat) (x : R) (fuel : Nat) (p : List R) :
    psRec (ringOps R) true logSplit x fuel p = evalBasis (ringOps R) true x p :=
  psRec_chebyshev logSplit x fuel p

/-- … on the integer instance the driver executes (`ps=` of every `eval` line) -/
theorem ps_spec_int (cheb : Bool) (logSplit : Nat) (x : Int) (fuel : Nat) (p : List Int) :
    psRec intOps cheb logSplit x fuel p = evalBasis intOps cheb x p := by
  rw [intOps_eq]
  cases cheb
  · exact psRec_monomial logSplit x fuel p
  · exact psRec_chebyshev logSplit x fuel p

/-- **depth_spec (arithmetic part)**: the recursion as coded targets level `input − (bits.Len64(d) − 1)` and
    ends with one `Rescale`: `⌈log2(d+1)⌉` levels for every degree `d ≥ 1`.  (That the real evaluator's
    output level is `input − ⌈log2(d+1)⌉` is the probe `level_doc`, degrees 1…63.) -/
theorem depth_spec_partial (d : Nat) (hd : 1 ≤ d) : polynomialDepth d + 1 = Nat.clog 2 (d + 1) :=
  depth_arith d hd

set_option linter.unusedVariables false in  -- `hc`, `hd` are not needed: `levels_of_minimal` is for either basis, every degree
/-- Machine level; monomial basis, standard mode, constructor flags.  For every degree
    `1 ≤ d < 64`, EVERY polynomial (vector) with `d + 1` coefficients, every mapping, `Lazy` or not, every
    input level `L ≥ ⌈log2(d+1)⌉`, all scales and slot values, every plaintext modulus: the run returns an
    operand at level `L − ⌈log2(d+1)⌉` — or, for `t ≠ 0` only, stops with an error (of whatever kind: the scale
    checks and the degree-0 check of the exact-scale bgv instance are the known causes; `depth_spec_level_only`
    excludes it for `t = 0`).
    The bound `d < 64` is not used: `levelRunOK_std` has the level-only run at the minimal level for every `d ≥ 1`;
    `depth_spec_of_check` is the same statement for any basis, mode and starting level. -/
theorem depth_spec (env : Env) (hc : env.cheb = false) (hi : env.inv = false) (ho : env.odd = true)
    (he : env.even = true) (d : Nat) (hd1 : 1 ≤ d) (hd : d < 64)
    (polys : List (List Int)) (hp : (polys.headD []).length = d + 1) (mapping : Option (List (List Nat)))
    (lazy : Bool) (L : Nat) (hL : Nat.clog 2 (d + 1) ≤ L) (inScale tScale : Nat) (x : List Int) :
    (∃ tr o, run env polys mapping lazy L inScale tScale x = (tr, "ok", some o) ∧
        o.level = (L : Int) - Nat.clog 2 (d + 1)) ∨
    (¬ env.t = 0 ∧ ∃ tr er, run env polys mapping lazy L inScale tScale x = (tr, er, none)) :=
  levels_of_minimal env hi ho he d hd1 lazy polys hp mapping L hL inScale tScale x

/-- non-vacuity: degree 37 at level 6 = ⌈log2 38⌉ -/
example : (1 : Nat) ≤ 37 ∧ 37 < 64 ∧ Nat.clog 2 (37 + 1) ≤ 6 ∧
    (([List.replicate 38 (1 : Int)] : List (List Int)).headD []).length = 37 + 1 := by decide

/-- on the level-only instance (`t = 0`, the ckks machine) the run always
    succeeds — "enough levels ⇒ no error" -/
theorem depth_spec_level_only (env : Env) (ht : env.t = 0) (hc : env.cheb = false) (hi : env.inv = false)
    (ho : env.odd = true) (he : env.even = true) (d : Nat) (hd1 : 1 ≤ d) (hd : d < 64)
    (polys : List (List Int)) (hp : (polys.headD []).length = d + 1) (mapping : Option (List (List Nat)))
    (lazy : Bool) (L : Nat) (hL : Nat.clog 2 (d + 1) ≤ L) (inScale tScale : Nat) (x : List Int) :
    ∃ tr o, run env polys mapping lazy L inScale tScale x = (tr, "ok", some o) ∧
        o.level = (L : Int) - Nat.clog 2 (d + 1) := by
  rcases depth_spec env hc hi ho he d hd1 hd polys hp mapping lazy L hL inScale tScale x with h | ⟨h, _⟩
  · exact h
  · exact absurd ht h

/-- the general form — any basis, mode, degree, starting level on which the
    closed level-only check succeeds: every run of that shape from `L0 + k` ends at `Lout + k` -/
theorem depth_spec_of_check (env : Env) (ho : env.odd = true) (he : env.even = true) (d : Nat) (lazy : Bool)
    (L0 : Nat) (Lout : Int) (hok : levelRunOK env.cheb env.inv d lazy L0 Lout = true)
    (polys : List (List Int)) (hp : (polys.headD []).length = d + 1)
    (mapping : Option (List (List Nat))) (kn : Nat) (inScale tScale : Nat) (x : List Int) :
    (∃ tr o, run env polys mapping lazy (L0 + kn) inScale tScale x = (tr, "ok", some o) ∧ o.level = Lout + kn) ∨
    (¬ env.t = 0 ∧ ∃ tr er, run env polys mapping lazy (L0 + kn) inScale tScale x = (tr, er, none)) :=
  levels_of_levelRunOK env ho he d lazy L0 Lout hok polys hp mapping kn inScale tScale x

set_option linter.unusedVariables false in  -- `hd` is not needed (`bfvOK_all`)
/-- scale-invariant mode, `1 ≤ d < 64`: from EVERY input level `L` the run ends at
    level `L` — no level is consumed, none is required -/
theorem depth_spec_bfv (env : Env) (hc : env.cheb = false) (hi : env.inv = true) (ho : env.odd = true)
    (he : env.even = true) (d : Nat) (hd1 : 1 ≤ d) (hd : d < 64)
    (polys : List (List Int)) (hp : (polys.headD []).length = d + 1) (mapping : Option (List (List Nat)))
    (lazy : Bool) (L : Nat) (inScale tScale : Nat) (x : List Int) :
    (∃ tr o, run env polys mapping lazy L inScale tScale x = (tr, "ok", some o) ∧ o.level = (L : Int)) ∨
    (¬ env.t = 0 ∧ ∃ tr er, run env polys mapping lazy L inScale tScale x = (tr, er, none)) := by
  have hok : levelRunOK env.cheb env.inv d lazy 0 0 = true := by
    rw [hc, hi]; exact bfvOK_all d hd1 lazy
  rcases levels_of_levelRunOK env ho he d lazy 0 0 hok polys hp mapping L inScale tScale x with
    ⟨tr, o, h1, h2⟩ | h
  · left; exact ⟨tr, o, by simpa using h1, by rw [h2]; simp⟩
  · right; simpa using h

set_option linter.unusedVariables false in  -- `hc`, `hd` are not needed (`levels_of_minimal`)
/-- Chebyshev basis, standard mode, `1 ≤ d < 32` -/
theorem depth_spec_chebyshev (env : Env) (hc : env.cheb = true) (hi : env.inv = false) (ho : env.odd = true)
    (he : env.even = true) (d : Nat) (hd1 : 1 ≤ d) (hd : d < 32)
    (polys : List (List Int)) (hp : (polys.headD []).length = d + 1) (mapping : Option (List (List Nat)))
    (lazy : Bool) (L : Nat) (hL : Nat.clog 2 (d + 1) ≤ L) (inScale tScale : Nat) (x : List Int) :
    (∃ tr o, run env polys mapping lazy L inScale tScale x = (tr, "ok", some o) ∧
        o.level = (L : Int) - Nat.clog 2 (d + 1)) ∨
    (¬ env.t = 0 ∧ ∃ tr er, run env polys mapping lazy L inScale tScale x = (tr, er, none)) :=
  levels_of_minimal env hi ho he d hd1 lazy polys hp mapping L hL inScale tScale x

/-! ## the target scale (exact scales of the bgv instance) -/

/-- Every degree: the scales `recursePS` assigns backwards from the target
    compose forwards to the target — with `L − T` levels of budget, the simulated evaluation of `p`
    towards (level `T`, scale `out`) comes back at level `T` with scale `out·q_T` for a leading
    sub-polynomial (the final `Rescale` is still to come) and `out` otherwise.  `t` prime, the `q_l`
    and the scales of the simulated powers units modulo `t` (`SimInv`). -/
theorem sim_backpropagation_spec (e : Env) [Fact e.t.Prime] (h64 : e.t < 2 ^ 64) (hinv : e.inv = false)
    (L : Int) (hq : ∀ l : Int, 0 ≤ l → l ≤ L → UnitS e (qAt e l))
    (pb : List (Nat × SimOpd)) (hpb : SimInv e L pb) (fuel s : Nat) (T : Int) (p : SubPoly) (out : Nat)
    (subs : List SubPoly) (res : SimOpd) (hs : 1 ≤ s) (hT : 0 ≤ T)
    (hbud : ((bitLen p.degree - 1 : Nat) : Int) ≤ L - T) (hout : out < e.t)
    (h : recursePS e pb fuel s T p out = some (subs, res)) :
    res.level = T ∧ res.scale = (if p.lead then mulS e out (qAt e T) else out) :=
  recursePS_scale e h64 hinv L hq pb hpb fuel s T p out subs res hs hT hbud hout h

/-- the simulated power basis `Evaluate` builds satisfies the hypothesis of `sim_backpropagation_spec` -/
theorem sim_powers_units (e : Env) [Fact e.t.Prime] (h64 : e.t < 2 ^ 64) (hinv : e.inv = false)
    (L : Int) (hq : ∀ l : Int, 0 ≤ l → l ≤ L → UnitS e (qAt e l)) (deg : Nat) (hdeg : 1 ≤ deg)
    (sc : Nat) (hsc : UnitS e sc) (hL : (bitLen deg : Int) ≤ L) : SimInv e L (simPowers e deg L sc) :=
  simInv_simPowers e h64 hinv L hq deg hdeg sc hsc hL

/-- Every degree `d ≥ 1`: a successful run that ends at the documented level
    `L − bits.Len64(d)` has exactly the requested scale -/
theorem target_scale_of_level (e : Env) [Fact e.t.Prime] (h64 : e.t < 2 ^ 64) (hinv : e.inv = false)
    (d : Nat) (hd1 : 1 ≤ d) (polys : List (List Int)) (hpl : (polys.headD []).length = d + 1)
    (mapping : Option (List (List Nat))) (lazy : Bool) (L : Nat) (hL : bitLen d ≤ L)
    (hq : ∀ l : Int, 0 ≤ l → l ≤ (L : Int) → UnitS e (qAt e l))
    (is : Nat) (his : UnitS e is) (ts : Nat) (hts : ts < e.t) (x : List Int) (tr : List String) (o : Opd)
    (hrun : run e polys mapping lazy L is ts x = (tr, "ok", some o))
    (hlev : o.level = (L : Int) - bitLen d) : o.scale = ts :=
  Lattigo.Model.PolyEval.target_scale_of_level e h64 hinv d hd1 polys hpl mapping lazy L hL hq is his ts hts x tr o hrun hlev

/-- in the exact-scale model of the bgv instance (`t` prime; the input scale and the
    `q_l mod t`, `l ≤ L`, units modulo `t`; monomial basis, standard mode, constructor flags), for every
    degree `1 ≤ d < 64`, every polynomial (vector), mapping, `Lazy`, input level `L ≥ ⌈log2(d+1)⌉`, input
    scale and reduced target scale: whenever the evaluation succeeds, `out.scale = requested`.
    (Bounded in `d` only through `depth_spec`; `target_scale_of_level` holds for every `d`.) -/
theorem target_scale (e : Env) [Fact e.t.Prime] (h64 : e.t < 2 ^ 64) (hc : e.cheb = false) (hinv : e.inv = false)
    (ho : e.odd = true) (he : e.even = true) (d : Nat) (hd1 : 1 ≤ d) (hd : d < 64)
    (polys : List (List Int)) (hpl : (polys.headD []).length = d + 1)
    (mapping : Option (List (List Nat))) (lazy : Bool) (L : Nat) (hL : Nat.clog 2 (d + 1) ≤ L)
    (hq : ∀ l : Int, 0 ≤ l → l ≤ (L : Int) → UnitS e (qAt e l))
    (is : Nat) (his : UnitS e is) (ts : Nat) (hts : ts < e.t) (x : List Int) (tr : List String) (o : Opd)
    (hrun : run e polys mapping lazy L is ts x = (tr, "ok", some o)) : o.scale = ts := by
  have hb := bitLen_eq_clog d
  refine Lattigo.Model.PolyEval.target_scale_of_level e h64 hinv d hd1 polys hpl mapping lazy L (by omega) hq is his
    ts hts x tr o hrun ?_
  rcases depth_spec e hc hinv ho he d hd1 hd polys hpl mapping lazy L hL is ts x with ⟨tr', o', h1, h2⟩ | ⟨_, tr', er, h1⟩
  · rw [hrun] at h1
    simp only [Prod.mk.injEq, Option.some.injEq] at h1
    rw [h1.2.2, h2, hb]
  · rw [hrun] at h1
    simp at h1

/-- Every degree, every split: in the scale-invariant mode the simulated
    evaluation of ANY sub-polynomial towards (level `L`, scale `out`) comes back at level `L` with scale `out` -/
theorem sim_backpropagation_spec_bfv (e : Env) [Fact e.t.Prime] (h64 : e.t < 2 ^ 64) (hinv : e.inv = true)
    (L : Int) (hnq : UnitS e (negQ e L)) (pb : List (Nat × SimOpd)) (hpb : SimInvB e L pb) (fuel s : Nat)
    (p : SubPoly) (out : Nat) (subs : List SubPoly) (res : SimOpd) (hout : out < e.t)
    (h : recursePS e pb fuel s L p out = some (subs, res)) : res.level = L ∧ res.scale = out :=
  recursePS_scale_bfv e h64 hinv L hnq pb hpb fuel s p out subs res hout h

/-- scale-invariant (BFV) mode, exact scales modulo the prime `t`, EVERY degree
    `d ≥ 1`, every polynomial (vector), mapping, `Lazy`, input level `L` and input scale (a unit, like
    `-Q_L mod t`), reduced target scale: whenever the evaluation succeeds, `out.scale = requested` and no
    level was gained (`out.level ≤ L`; `depth_spec_bfv`: `= L` for `d < 64`). -/
theorem target_scale_bfv (e : Env) [Fact e.t.Prime] (h64 : e.t < 2 ^ 64) (hinv : e.inv = true)
    (d : Nat) (hd1 : 1 ≤ d) (polys : List (List Int)) (hpl : (polys.headD []).length = d + 1)
    (mapping : Option (List (List Nat))) (lazy : Bool) (L : Nat) (hnq : UnitS e (negQ e (L : Int)))
    (is : Nat) (his : UnitS e is) (ts : Nat) (hts : ts < e.t) (x : List Int) (tr : List String) (o : Opd)
    (hrun : run e polys mapping lazy L is ts x = (tr, "ok", some o)) : o.scale = ts ∧ o.level ≤ (L : Int) :=
  Lattigo.Model.PolyEval.target_scale_bfv e h64 hinv d hd1 polys hpl mapping lazy L hnq is his ts hts x tr o hrun

/-- non-vacuity: for the harness's chain `-Q_2 mod t` is a unit (and the run of `bfv_no_level_consumed`
    is an instance: scale 9 requested, 9 returned) -/
example : negQ { t := 65537, q := [705, 16321, 16577], cheb := false, slots := 2, inv := true } 2 = 46481 ∧
    (46481 : ZMod 65537) ≠ 0 := by
  refine ⟨by decide +kernel, by decide⟩

/-- non-vacuity: `t = 65537` is prime, `q_l mod t` of the harness's chain and the scale 9 are units -/
example : Nat.Prime 65537 ∧ (705 : ZMod 65537) ≠ 0 ∧ (16321 : ZMod 65537) ≠ 0 ∧ (9 : ZMod 65537) ≠ 0 := by
  refine ⟨by norm_num, by decide, by decide, by decide⟩

/-- `bignum.Polynomial.Depth()` (`⌈log2 d⌉`, the multiplicative depth) is one short of the levels the
    evaluation consumes exactly for `d = 2^k`.  An entry check by `Depth()` (finding C13-9) lets a power-of-two
    degree through with two levels per rescaling, which then PANICS in the level simulation instead of being
    refused; with fix C13-9 the check is `bits.Len64(d) = ⌈log2(d+1)⌉` — `too_few_levels` is exact. -/
theorem depth_guard_gap (k : Nat) (hk : 1 ≤ k) :
    depthCheck (2 ^ k) = k ∧ polynomialDepth (2 ^ k) + 1 = k + 1 :=
  Lattigo.Model.PolyEval.depth_guard_gap k hk

/-- in the standard mode, with fewer than `⌈log2(d+1)⌉ = bits.Len64(d)` levels the
    machine refuses with `err` before emitting any operation — exactly below the levels `depth_spec` shows
    to be consumed (the scale-invariant mode consumes no level and has no guard: `bfv_below_depth_evaluates`) -/
theorem too_few_levels (env : Env) (hi : env.inv = false) (polys : List (List Int)) (mapping : Option (List (List Nat)))
    (lazy : Bool) (inLevel inScale tScale : Nat) (x : List Int)
    (h : inLevel < bitLen ((polys.headD []).length - 1)) :
    run env polys mapping lazy inLevel inScale tScale x = ([], "err", none) := by
  have hdeg : ¬ ((polys.headD []).length - 1 = 0) := by
    intro h0; rw [h0] at h; simp [bitLen] at h
  have h' : ((inLevel : Nat) : Int) < ((bitLen ((polys.headD []).length - 1) : Nat) : Int) := by
    exact_mod_cast h
  rw [run_eq]
  -- past `setP 1`, `getP 1` and the test for degree 0 (`hdeg`), the level check `h'` of the standard mode throws
  simp only [evaluate, evaluateFrom, ex_bind, ex_setP, ex_getP, List.find?, beq_self_eq_true, hdeg,
    if_false, h', hi, Bool.not_false, Bool.true_and, decide_true, if_true, ex_throw]

/-- … in terms of the documented depth: fewer than `⌈log2(d+1)⌉` levels, `d ≥ 1` -/
theorem too_few_levels_clog (env : Env) (hi : env.inv = false) (polys : List (List Int)) (d : Nat) (hd : 1 ≤ d)
    (hp : (polys.headD []).length = d + 1) (mapping : Option (List (List Nat)))
    (lazy : Bool) (inLevel inScale tScale : Nat) (x : List Int) (h : inLevel < Nat.clog 2 (d + 1)) :
    run env polys mapping lazy inLevel inScale tScale x = ([], "err", none) := by
  apply too_few_levels env hi
  rw [hp, show d + 1 - 1 = d by omega, bitLen_eq_clog d]; exact h

example : (4 : Nat) < bitLen (([List.replicate 17 (1 : Int)].headD []).length - 1) := by decide

/-- a constant polynomial `c` (no mapping; any flags but odd-and-not-even,
    under which a constant is read as 0) is accepted at every input level, consumes no level, and yields
    one operation — the addition of the coefficient to a fresh zero ciphertext at the requested scale:
    level = input level, scale = target scale, value `c` in every slot (mod `t`). -/
theorem constant_polynomial_spec (env : Env) (hf : (env.even || !env.odd) = true) (c : Int) (lazy : Bool)
    (inLevel inScale tScale : Nat) (x : List Int) :
    run env [[c]] none lazy inLevel inScale tScale x
      = ([s!"add({showOpd env { level := inLevel, scale := tScale, deg := 1, val := [] }},c)"], "ok",
         some { level := inLevel, scale := tScale, deg := 1,
                val := zipV (fun a b => redV env (a + b)) (List.replicate env.slots 0)
                  (List.replicate env.slots c) }) := by
  rw [run_eq]
  -- degree 0: past `getP 1` the evaluation is the baby step alone, and its branch `minDeg = 0` is one `addConst`
  -- onto the zero accumulator (the flags `hf` let the constant through)
  simp [evaluate, evaluateFrom, evalFromPowerBasis, addConst, coeffVec, showOpd, hf,
    ex_bind, ex_getP, ex_map]

example : ({ t := 65537, q := [1], cheb := false, slots := 4 } : Env).odd = true := rfl

/-- Model of `Evaluator.MulThenAdd(ct, scalar|vector, acc)` with fix
    C13-1: the accumulator keeps the larger degree and takes the smaller level, so the degree-2 part
    accumulated from a lazily relinearised power survives the addition of the relinearised ones. -/
theorem mulThenAdd_keeps_degree_two_part (env : Env) (x res : Opd) (c : List Int) (st : St) :
    ∃ o st', (ExceptT.run (mulThenAddConst env x c res)).run st = (Except.ok o, st') ∧
      o.deg = max res.deg x.deg ∧ o.level = min res.level x.level ∧ o.scale = res.scale := by
  exact ⟨_, _, rfl, rfl, rfl, rfl⟩

/-- whatever passes the guard of `Factorize(n)` satisfies the hypothesis of
    `factorize_spec_chebyshev` (`deg ≤ 2n`): the guard is exactly strong enough -/
theorem factorize_guard_spec (n : Nat) (p : List Int) (h : factorizeGuard n p.length = false) :
    p.length ≤ 2 * n + 1 := by
  simp only [factorizeGuard, decide_eq_false_iff_not, not_lt] at h
  omega

example : factorizeGuard 3 8 = true ∧ factorizeGuard 4 8 = false := by decide

set_option linter.unusedVariables false in  -- `hj` is not needed: beyond `env.slots` the default of `getD` is 0
/-- slots outside every mapping receive the coefficient 0 of every power: they evaluate to 0 -/
theorem unmapped_slots_zero (env : Env) (m : List (List Nat)) (coeffs : List (List Int)) (k j : Nat)
    (hj : j < env.slots) (hun : ∀ l ∈ m, j ∉ l) :
    (coeffVec env (some m) coeffs k).getD j 0 = 0 :=
  coeffVec_unmapped env m coeffs k j hun

/-- Machine level; every degree, basis, mode, flags, level, scale,
    coefficient list.  Evaluating a vector of polynomials under the mapping `m`, the result is 0 in every
    slot `j` that no list of `m` contains — whatever the input and the powers hold in that slot -/
theorem unmapped_slot_evaluates_to_zero (env : Env) (j : Nat) (m : List (List Nat)) (hun : ∀ l ∈ m, j ∉ l)
    (polys : List (List Int)) (lazy : Bool) (L inScale tScale : Nat) (x : List Int)
    (tr : List String) (o : Opd) (hrun : run env polys (some m) lazy L inScale tScale x = (tr, "ok", some o)) :
    o.val.getD j 0 = 0 := by
  obtain ⟨st, hex⟩ := run_ok hrun
  have hp : Post (evaluate env polys (some m) lazy L inScale tScale x) (ZeroAt j) := by
    unfold evaluate
    exact post_bind (post_true _) (fun _ _ => post_evaluateFrom_Z env j m hun polys lazy tScale)
  exact hp.out _ _ _ hex

/-- non-vacuity (kernel evaluation): two polynomials on slots {0} and {2}; slots 1 and 3 are 0, whatever `x` -/
example : (run { t := 65537, q := [705, 16321], cheb := false, slots := 4 } [[5, 7], [1, 2]] (some [[0], [2]]) false 1 1 1
    [2, 3, 4, 5]).2.2.map (·.val)
    = some [19, 0, 9, 0] := by decide +kernel

/-! ## vectors of polynomials with different parity flags -/

/-- Fix C13-10: the odd-indexed (resp. even-indexed, constant included) coefficients are
    evaluated iff AT LEAST ONE member of the vector may have some — i.e. a parity is skipped iff ALL members
    are flagged as lacking it (the conjunction over the members; a member flagged both — the constructor's default —
    or neither is general) -/
theorem vector_parity_spec (fl : List (Bool × Bool)) :
    ((vecFlags fl).2 = false ↔ ∀ f ∈ fl, f = (true, false)) ∧
    ((vecFlags fl).1 = false ↔ ∀ f ∈ fl, f = (false, true)) := by
  unfold vecFlags
  simp only [List.any_eq_false, Bool.or_eq_true, Bool.not_eq_true', not_or, Bool.not_eq_true, Bool.not_eq_false]
  constructor
  · constructor
    · intro h f hf; obtain ⟨h1, h2⟩ := h f hf; exact Prod.ext h2 h1
    · intro h f hf; rw [h f hf]; exact ⟨rfl, rfl⟩
  · constructor
    · intro h f hf; obtain ⟨h1, h2⟩ := h f hf; exact Prod.ext h1 h2
    · intro h f hf; rw [h f hf]; exact ⟨rfl, rfl⟩

/-- one general member (flags equal) makes the whole vector general: every power is used and the constant
    is added — no slot of a general polynomial loses terms because another member is odd or even -/
theorem vector_with_general_member (fl : List (Bool × Bool)) (f : Bool × Bool) (hf : f ∈ fl) (hgen : f.1 = f.2) (k : Nat) :
    useIdx (vecFlags fl).1 (vecFlags fl).2 k = true ∧ ((vecFlags fl).2 || !(vecFlags fl).1) = true := by
  have h1 : (vecFlags fl).1 = true := by
    unfold vecFlags; simp only [List.any_eq_true]; refine ⟨f, hf, ?_⟩
    obtain ⟨a, b⟩ := f; simp only at hgen; subst hgen; cases a <;> rfl
  have h2 : (vecFlags fl).2 = true := by
    unfold vecFlags; simp only [List.any_eq_true]; refine ⟨f, hf, ?_⟩
    obtain ⟨a, b⟩ := f; simp only at hgen; subst hgen; cases a <;> rfl
  rw [h1, h2]
  exact ⟨useIdx_true_true k, rfl⟩

example : vecFlags [(false, false), (true, false)] = (true, true) ∧ vecFlags [(true, false), (true, false)] = (true, false) ∧
    vecFlags [(true, false), (false, true)] = (true, true) := by decide

/-- Kernel evaluation of the machine (the tie lines reproduce it on the real
    code): a GENERAL polynomial with both flags cleared on slot 0 and an ODD polynomial on slot 1, degree 3:
    each slot gets its own polynomial, `5+7x+11x²+13x³` at 2 and `7x+13x³` at 3 -/
theorem mixed_parity_vector_evaluates :
    (run { t := 65537, q := [705, 16321, 16577], cheb := false, slots := 2,
           odd := (vecFlags [(false, false), (true, false)]).1, even := (vecFlags [(false, false), (true, false)]).2,
           pflags := [(false, false), (true, false)] }
      [[5, 7, 11, 13], [0, 7, 0, 13]] (some [[0], [1]]) false 2 1 1 [2, 3]).2.2.map (·.val) = some [167, 372] := by
  decide +kernel

/-! ## lazy power generation: the relinearisation state of the stored powers -/

/-- Every `n ≤ 64`, both bases, lazy and not (`genPowerCheck_all` has it for every
    `1 ≤ n ≤ 2^64`, by the invariant of `Proofs/PolyEvalGenPower`): from a
    fresh basis `PowerBasis.GenPower(n, lazy)` is never refused — the machine refuses a product whose factors have
    total degree above 2, so every stored power of degree 2 is relinearised BEFORE it is used as a factor (both
    factors `a` and `b = n − a` of `SplitDegree`) — every stored power has degree at most 2, and `X^n` is stored.
    The tie lines `genpower` reproduce trace, status and the (level, degree) of every stored power on the real code. -/
theorem lazy_genpower_degrees (n : Nat) (h : n ≤ 64) (h1 : 1 ≤ n) (cheb lazy : Bool) :
    genPowerCheck cheb n lazy = true :=
  genPowerCheck_all cheb lazy n h1 (le_trans h (by norm_num))

/-- … and for the powers the baby steps of degrees up to 255 need beyond 64 (spot values; every stored power is
    covered by the `eval` tie lines of the lazy evaluations of degrees 64 … 255) -/
theorem lazy_genpower_degrees_large :
    ([96, 100, 127, 128, 129, 192, 200, 255, 256].all fun n => genPowerCheck false n true && genPowerCheck true n true) = true := by
  rw [List.all_eq_true]
  intro n hn
  have hn' : 1 ≤ n ∧ n ≤ 2 ^ 64 := by
    simp only [List.mem_cons, List.not_mem_nil, or_false] at hn
    omega
  rw [genPowerCheck_all _ _ n hn'.1 hn'.2, genPowerCheck_all _ _ n hn'.1 hn'.2]
  rfl

/-- a lazy power left at degree 2 and multiplied again without relinearisation is refused (what the check of
    `lazy_genpower_degrees` excludes): `mulOp` on operands of degrees 2 and 1 -/
example : (match ((ExceptT.run (mulOp { t := 0, q := [], cheb := false, slots := 0 } "mulnew" false
      { level := 3, scale := 0, deg := 2, val := [] } { level := 3, scale := 0, deg := 1, val := [] })).run ({} : St)).1 with
    | .error _ => true | .ok _ => false) = true := by decide +kernel

/-! ## user-set flags, the caller's basis, the scale-invariant mode (witnesses on the machine) -/

/-- with `IsOdd = IsEven` (both set, the constructor's default, or both cleared) `Factorize` skips nothing -/
theorem factorizeF_default {R : Type} (O : ValOps R) (cheb b : Bool) (n : Nat) (p : List R) :
    factorizeF O cheb b b n p = factorize O cheb n p := by
  simp [factorizeF]

/-- the bgv instance of the witnesses below: `t = 65537`, three levels -/
def envW (odd even inv : Bool) : Env :=
  { t := 65537, q := [705, 16321, 16577], cheb := false, slots := 2, odd := odd, even := even, inv := inv }

/-- Fix C13-5: the EVEN
    polynomial `5 + 11·X²`, truthfully flagged `IsOdd = false, IsEven = true`, evaluates to `5 + 11·x²`
    like the unflagged one.  (Without the fix `minimumDegreeNonZeroCoefficient` of the one-coefficient
    quotient `[11]` is decremented to -1, the accumulator allocated with ciphertext degree 0, and bgv's
    `Mul` refuses it.)  Test by evaluation of the machine; the tie lines reproduce it on the real code. -/
theorem even_flag_evaluates :
    (run (envW false true false) [[5, 0, 11]] none false 2 1 1 [2, 3]).2.2.map (·.val) = some [49, 104] ∧
    (run (envW true true false) [[5, 0, 11]] none false 2 1 1 [2, 3]).2.2.map (·.val) = some [49, 104] := by
  decide +kernel

/-- Fix C13-4: with
    `IsOdd = IsEven = false` — "neither odd nor even" — every power is used AND the constant coefficient of
    every baby step is added (`even || !odd`): `5 + 7·X` evaluates to `5 + 7·x`. -/
theorem flags_cleared_general :
    (run (envW false false false) [[5, 7]] none false 1 1 1 [2, 3]).2.2.map (·.val) = some [19, 26] ∧
    (run (envW false false false) [[5, 7, 11, 13, 17, 19]] none false 3 1 1 [2, 3]).2.2.map (·.val)
      = some [1047, 6470] := by
  decide +kernel

/-- in the scale-invariant mode the output level is the input level and the
    output scale the requested one (degree 3 at level 2; the standard mode ends at level 0) -/
theorem bfv_no_level_consumed :
    (run (envW true true true) [[5, 7, 11, 13]] none false 2 1 9 [2, 3]).2.2.map (fun o => (o.level, o.scale, o.val))
      = some (2, 9, [167, 476]) ∧
    (run (envW true true false) [[5, 7, 11, 13]] none false 2 1 9 [2, 3]).2.2.map (fun o => (o.level, o.scale, o.val))
      = some (0, 9, [167, 476]) := by
  decide +kernel

/-- Fix C13-6: the
    scale-invariant mode consumes no level and accepts every input level: degree 3 (`Depth() = 2`) at
    level 1 and at level 0 -/
theorem bfv_below_depth_evaluates :
    (run (envW true true true) [[5, 7, 11, 13]] none false 1 1 9 [2, 3]).2.2.map (fun o => (o.level, o.scale, o.val))
      = some (1, 9, [167, 476]) ∧
    (run (envW true true true) [[5, 7, 11, 13]] none false 0 1 9 [2, 3]).2.2.map (fun o => (o.level, o.scale, o.val))
      = some (0, 9, [167, 476]) := by
  decide +kernel

/-- Fix C13-7: `EvaluateFromPowerBasis` on a basis that holds `X⁴`
    but not `X²` (generated, then dropped by the caller), even polynomial flagged even-and-not-odd:
    `X²` — a baby-step power that no other power's generation brings back — is generated again; same
    result as `Evaluate`.  (Without the fix: nil dereference.) -/
theorem partial_basis_regenerated :
    (runFrom { envW false true false with q := [705, 16321, 16577, 15553] } [.gen 4 false, .del 2] [[3, 0, 4, 0, 1]]
        none false 3 1 1 [2, 3]).2.2.map (fun o => (o.level, o.scale, o.val)) = some (0, 1, [35, 120]) ∧
    (run { envW false true false with q := [705, 16321, 16577, 15553] } [[3, 0, 4, 0, 1]]
        none false 3 1 1 [2, 3]).2.2.map (fun o => (o.level, o.scale, o.val)) = some (0, 1, [35, 120]) := by
  decide +kernel

/-- `EvaluateFromPowerBasis` on a basis that already holds `X²` and a lazily
    generated `X³` returns the same operand as `Evaluate` and only emits what is left to do -/
theorem prefilled_basis :
    (runFrom { envW true true false with q := [705, 16321, 16577, 15553] } [.gen 2 false, .gen 3 true]
        [[5, 7, 11, 13, 17]] none true 3 1 1 [2, 3]).2.2.map (fun o => (o.level, o.scale, o.val))
      = some (0, 1, [439, 1853]) ∧
    (run { envW true true false with q := [705, 16321, 16577, 15553] }
        [[5, 7, 11, 13, 17]] none true 3 1 1 [2, 3]).2.2.map (fun o => (o.level, o.scale, o.val))
      = some (0, 1, [439, 1853]) ∧
    (runFrom { envW true true false with q := [705, 16321, 16577, 15553] } [.gen 2 false, .gen 3 true]
        [[5, 7, 11, 13, 17]] none true 3 1 1 [2, 3]).1.length
      < (run { envW true true false with q := [705, 16321, 16577, 15553] }
        [[5, 7, 11, 13, 17]] none true 3 1 1 [2, 3]).1.length := by
  decide +kernel

/-! ## composite circuits and changes of basis -/

/-- `inverse.IntervalNormalization` runs `normIters num den` compression
    steps for `log2max = num/den` (tied to the real loop through a counting bootstrapper), and that is THE
    least number of steps of factor 2.45 that covers `[-2^log2max, 2^log2max]`:
    `2.45^n ≥ 2^log2max` and no smaller `n` does -/
theorem interval_normalization_steps (num den : Nat) (hden : 1 ≤ den) :
    Covers num den (normIters num den) ∧ ∀ m < normIters num den, ¬ Covers num den m := by
  unfold normIters
  apply normItersLoop_spec num den (num + 1) 0
  · intro m hm; omega
  · exact ⟨num, by omega, by omega, covers_num num den hden⟩

/-- the step counts of the domains the harness sweeps; `int(log2max/log2(2.45) + 0.5)` (rounding to
    nearest) gives 2, 3, 5, 6 for `log2max = 3, 4, 7, 8`: one step short, not covering -/
theorem interval_normalization_steps_values :
    (List.map (fun m => normIters m 1) [1, 2, 3, 4, 5, 6, 7, 8, 9, 10]) = [1, 2, 3, 4, 4, 5, 6, 7, 7, 8] ∧
    ¬ Covers 3 1 2 ∧ ¬ Covers 4 1 3 ∧ ¬ Covers 7 1 5 ∧ ¬ Covers 8 1 6 := by
  decide

/-- The arithmetic of `inverse.GoldschmidtDivisionNew`, any commutative ring, every
    `x`, every number of steps: `x·a_k = 1 − (1−x)^(2^(k+1))` — `a_k` is `1/x` with relative error
    `(1−x)^(2^(k+1))`: the precision doubles per iteration on `(0, 2)` -/
theorem goldschmidt_spec {R : Type} [CommRing R] (x : R) (k : Nat) :
    x * (goldschmidt (ringOps R) x k).1 = 1 - (1 - x) ^ (2 ^ (k + 1)) ∧
    (goldschmidt (ringOps R) x k).2 = (1 - x) ^ (2 ^ k) :=
  Lattigo.Model.PolyEval.goldschmidt_spec x k

example : (goldschmidt intOps 3 2).1 = -85 ∧ (3 : Int) * (-85) = 1 - (1 - 3) ^ (2 ^ 3) := by decide

/-- through any compression steps the normalised value is `x` times
    the accumulated factor (the factor the circuit multiplies the inverse of the normalised value with) -/
theorem interval_normalization_invariant {R : Type} [CommRing R] (x : R) (cs : List R) :
    let r := cs.foldl (fun s c => normStep (ringOps R) c s) (x, 1)
    r.1 = x * r.2 := by
  have h : ∀ (cs : List R) (s : R × R), s.1 = x * s.2 →
      (cs.foldl (fun s c => normStep (ringOps R) c s) s).1 = x * (cs.foldl (fun s c => normStep (ringOps R) c s) s).2 := by
    intro cs
    induction cs with
    | nil => intro s hs; exact hs
    | cons c cs ih =>
      intro s hs
      simp only [List.foldl_cons]
      apply ih
      show s.1 * (((1 : Nat) : R) - c * s.1 * (c * s.1)) = x * (s.2 * (((1 : Nat) : R) - c * s.1 * (c * s.1)))
      rw [hs]; ring
  exact h cs (x, 1) (by simp)

/-- the change of basis of `[a, b]` maps `a ↦ -1`, `b ↦ 1` -/
theorem change_of_basis_spec (a b : Int) (hab : a < b) (h16 : (b - a) ∣ 16) (h8 : (b - a) ∣ 8 * (-a - b)) :
    (changeOfBasis8 (a, b)).1 * a + (changeOfBasis8 (a, b)).2 = -8 ∧
    (changeOfBasis8 (a, b)).1 * b + (changeOfBasis8 (a, b)).2 = 8 := by
  unfold changeOfBasis8
  simp only
  obtain ⟨s, hs⟩ := h16
  obtain ⟨k, hk⟩ := h8
  have hw : b - a ≠ 0 := by omega
  rw [hs, hk, Int.mul_ediv_cancel_left _ hw, Int.mul_ediv_cancel_left _ hw]
  have e1 : (b - a) * (s * a + k) = (b - a) * (-8) := by
    have : (b - a) * (s * a + k) = ((b - a) * s) * a + (b - a) * k := by ring
    rw [this, ← hs, ← hk]; ring
  have e2 : (b - a) * (s * b + k) = (b - a) * 8 := by
    have : (b - a) * (s * b + k) = ((b - a) * s) * b + (b - a) * k := by ring
    rw [this, ← hs, ← hk]; ring
  exact ⟨Int.eq_of_mul_eq_mul_left hw e1, Int.eq_of_mul_eq_mul_left hw e2⟩

example : ((2 : Int) < 6) ∧ ((6 : Int) - 2) ∣ 16 ∧ ((6 : Int) - 2) ∣ 8 * (-2 - 6) := by decide

/-- `PolynomialVector.ChangeOfBasis` gives every slot the change of
    basis of the interval of ITS polynomial (the one the mapping assigns it to), for any intervals of
    the other polynomials of the vector -/
theorem change_of_basis_per_polynomial (slots : Nat) (pre post : List (List Nat × (Int × Int)))
    (m : List Nat) (ab : Int × Int) (j : Nat) (hj : j < slots) (hm : j ∈ m) (hpost : ∀ mi ∈ post, j ∉ mi.1) :
    let r := changeOfBasisVec8 slots ((pre ++ (m, ab) :: post).map (·.1)) ((pre ++ (m, ab) :: post).map (·.2))
    r.1.getD j 0 = (changeOfBasis8 ab).1 ∧ r.2.getD j 0 = (changeOfBasis8 ab).2 := by
  intro r
  have hz : ((pre ++ (m, ab) :: post).map (·.1)).zip ((pre ++ (m, ab) :: post).map (·.2)) = pre ++ (m, ab) :: post := by
    rw [List.zip_map']
    simp
  -- `hpost`: later polynomials overwrite earlier ones on a shared slot
  have hfold : ((pre ++ (m, ab) :: post).foldl
      (fun acc mi => if mi.1.contains j then changeOfBasis8 mi.2 else acc) ((0, 0) : Int × Int)) = changeOfBasis8 ab := by
    rw [List.foldl_append, List.foldl_cons]
    have : m.contains j = true := by simpa using hm
    simp only [this, if_true]
    exact foldl_contains_not_mem changeOfBasis8 j post _ hpost
  simp only [r, changeOfBasisVec8, hz]
  constructor
  · rw [List.getD_eq_getElem?_getD, List.getElem?_map, List.getElem?_map, List.getElem?_range hj]
    simp only [Option.map_some, Option.getD_some, hfold]
  · rw [List.getD_eq_getElem?_getD, List.getElem?_map, List.getElem?_map, List.getElem?_range hj]
    simp only [Option.map_some, Option.getD_some, hfold]

/-- two polynomials on different intervals: polynomial 0 on `[-1, 1]`, polynomial 1 on `[2, 6]`; slot 1 (mapped
    to polynomial 1) gets `(1/2, -2)`, not polynomial 0's `(1, 0)` -/
example : changeOfBasisVec8 2 [[0], [1]] [(-1, 1), (2, 6)] = ([8, 4], [0, -16]) := by decide

/-- `bignum.Polynomial.Evaluate`, Chebyshev basis on `[a, b]` (fix C13-8: the constant of the change of
    basis shifts the real part only): `Σ c_i·T_i(u)`, `u = (2x - a - b)/(b - a)` -/
theorem chebEval_spec (a b x : Int) (coeffs : List Int) :
    chebEval a b x coeffs = evalBasis (ringOps Int) true ((2 * x - a - b) / (b - a)) coeffs := rfl

example : chebEval 2 4 5 [1, 2, 3] = 1 + 2 * 2 + 3 * (2 * 2 * 2 - 1) := by decide

#print axioms splitDegree_spec
#print axioms powerbasis_spec_monomial
#print axioms powerbasis_spec_chebyshev
#print axioms factorize_spec_monomial
#print axioms factorize_spec_chebyshev
#print axioms ps_spec_monomial
#print axioms ps_spec_chebyshev
#print axioms ps_spec_int
#print axioms depth_spec_partial
#print axioms depth_guard_gap
#print axioms depth_spec
#print axioms depth_spec_level_only
#print axioms depth_spec_of_check
#print axioms depth_spec_bfv
#print axioms depth_spec_chebyshev
#print axioms sim_backpropagation_spec
#print axioms sim_powers_units
#print axioms target_scale_of_level
#print axioms target_scale
#print axioms too_few_levels
#print axioms too_few_levels_clog
#print axioms constant_polynomial_spec
#print axioms mulThenAdd_keeps_degree_two_part
#print axioms factorize_guard_spec
#print axioms unmapped_slots_zero
#print axioms unmapped_slot_evaluates_to_zero
#print axioms vector_parity_spec
#print axioms lazy_genpower_degrees
#print axioms lazy_genpower_degrees_large
#print axioms vector_with_general_member
#print axioms mixed_parity_vector_evaluates
#print axioms sim_backpropagation_spec_bfv
#print axioms target_scale_bfv
#print axioms goldschmidt_spec
#print axioms interval_normalization_invariant
#print axioms factorizeF_default
#print axioms even_flag_evaluates
#print axioms flags_cleared_general
#print axioms bfv_no_level_consumed
#print axioms bfv_below_depth_evaluates
#print axioms partial_basis_regenerated
#print axioms prefilled_basis
#print axioms interval_normalization_steps
#print axioms interval_normalization_steps_values
#print axioms change_of_basis_spec
#print axioms change_of_basis_per_polynomial
#print axioms chebEval_spec

end Lattigo.Props.C13
