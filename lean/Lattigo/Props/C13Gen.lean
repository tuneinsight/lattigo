/-
  Property C13 — the REGENERATED tie for the integer scheduling arithmetic of the polynomial evaluator.

  `Lattigo/Gen/PolySplit.lean` is printed by `tools/go2lean` on every `./check C13` from
      utils/bignum/polynomial.go                              OptimalSplit
      circuits/common/polynomial/power_basis.go               SplitDegree
      circuits/ckks/polynomial/polynomial_evaluator_sim.go    simEvaluator.PolynomialDepth
  (Go `int`s as two's-complement words, `panic(…)` as `none`, `bits.Len64` as `len64`, `1 << k` as
  `u64shl 1 k`, `d.levelsConsumedPerRescaling` as an explicit parameter).  Below: generated = the hand
  model `Model/PolyEval.lean`, and the arithmetic part of the depth statement transferred.  The
  driver ops `C13 split`, `C13 optsplit` execute the generated definitions.
  `bignum.Polynomial.Depth()` (`math.Ceil(math.Log2(float64(deg)))`) is float code outside the
  printed subset: it stays hand-modelled (`depthCheck`) and tied by the correspondence only.
-/
import Lattigo.Proofs.GenPolySplit

namespace Lattigo.Props.C13Gen
open Lattigo Lattigo.Gen.PolySplit Lattigo.Model.PolyEval

/-- `SplitDegree(n)`, regenerated = model, for every `1 ≤ n < 2^62`; `none` (panic) for `n ≤ 0`. -/
theorem splitDegree_gen (n : Nat) (h1 : 1 ≤ n) (h : n < 2 ^ 62) :
    SplitDegree n = some (splitDegree n) :=
  Proofs.GenPolySplit.SplitDegree_eq n h1 h

theorem splitDegree_panic_gen (n : Nat) (hW : n < W) (h : n = 0 ∨ 2 ^ 63 ≤ n) : SplitDegree n = none := by
  unfold SplitDegree
  simp [Proofs.GenPolySplit.i64le_zero_nonpos n hW h]

example : SplitDegree 13 = some (7, 6) ∧ SplitDegree 8 = some (4, 4) ∧ SplitDegree (i64ofInt (-3)) = none := by
  decide

/-- transferred: the regenerated `SplitDegree(n)` returns two positive parts that ADD up to `n`
    (`n ≥ 2`; the Go doc comment says "a * b = n"). -/
theorem splitDegree_spec_gen (n : Nat) (hn : 2 ≤ n) (h : n < 2 ^ 62) :
    ∃ a b, SplitDegree n = some (a, b) ∧ a + b = n ∧ 1 ≤ a ∧ 1 ≤ b := by
  refine ⟨(splitDegree n).1, (splitDegree n).2, splitDegree_gen n (by omega) h, ?_⟩
  exact Lattigo.Model.PolyEval.splitDegree_spec n hn

/-- `OptimalSplit(logDegree)`, regenerated = model, for every value `bits.Len64` can take except `0`
    (`logDegree = 0` is `1 << -1` in Go: run-time panic).  The domain `1 … 64` is finite and complete (the only
    caller passes `bits.Len64(degree)`): kernel evaluation of all 64 cases. -/
theorem optimalSplit_gen : ∀ n, n < 65 → 1 ≤ n → OptimalSplit n = optimalSplit n := by
  decide +kernel

example : OptimalSplit 5 = optimalSplit 5 := optimalSplit_gen 5 (by norm_num) (by norm_num)

/-- ckks `PolynomialDepth(degree)`, regenerated = `levelsConsumedPerRescaling · (bits.Len64(degree) − 1)`. -/
theorem polynomialDepth_gen (l d : Nat) (hl : l < 2 ^ 32) (h1 : 1 ≤ d) (hd : d < 2 ^ 63) :
    PolynomialDepth l d = some (l * polynomialDepth d) :=
  Proofs.GenPolySplit.PolynomialDepth_eq l d hl h1 hd

theorem polynomialDepth_panic_gen (l d : Nat) (hW : d < W) (h : d = 0 ∨ 2 ^ 63 ≤ d) : PolynomialDepth l d = none := by
  unfold PolynomialDepth
  simp [Proofs.GenPolySplit.i64le_zero_nonpos d hW h]

/-- `depth_spec_partial` transferred: with one level per rescaling the regenerated
    `PolynomialDepth(d)` plus the final rescale is `⌈log2(d+1)⌉`, for every degree `1 ≤ d < 2^63`. -/
theorem depth_gen (d : Nat) (h1 : 1 ≤ d) (hd : d < 2 ^ 63) :
    ∃ k, PolynomialDepth 1 d = some k ∧ k + 1 = Nat.clog 2 (d + 1) := by
  refine ⟨polynomialDepth d, ?_, Lattigo.Model.PolyEval.depth_arith d h1⟩
  rw [polynomialDepth_gen 1 d (by norm_num) h1 hd, Nat.one_mul]

example : PolynomialDepth 1 7 = some 2 ∧ PolynomialDepth 1 8 = some 3 ∧ PolynomialDepth 2 63 = some 10 := by decide

end Lattigo.Props.C13Gen

#print axioms Lattigo.Props.C13Gen.splitDegree_gen
#print axioms Lattigo.Props.C13Gen.splitDegree_panic_gen
#print axioms Lattigo.Props.C13Gen.splitDegree_spec_gen
#print axioms Lattigo.Props.C13Gen.optimalSplit_gen
#print axioms Lattigo.Props.C13Gen.polynomialDepth_gen
#print axioms Lattigo.Props.C13Gen.polynomialDepth_panic_gen
#print axioms Lattigo.Props.C13Gen.depth_gen
