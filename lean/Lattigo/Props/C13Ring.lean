/-
  C13 on the ring the ciphertexts live in.

  `Props/C13.lean` (layer (A)) proves `powerbasis_spec_*`, `factorize_spec_*`, `ps_spec_*` for the generic
  functions `powVal`, `evalBasis`, `factorize`, `psRec` of `Model/PolyEval.lean` over EVERY commutative ring `R`,
  with the value operations `ringOps R`.  Here they are instantiated at `R := WFPoly qs n`
  (`Proofs/RPolyRing.lean`: the well-formed RNS polynomials modulo `X^n+1` over the chain `qs`, a `CommRing`
  whose operations are the model's) and transported to plain `RPoly` values:

    value operations = `rpOps qs n` : `+ − *` of `RPoly`, `ofNat k = (rpOne qs n).scale k` (the constant `k`);
    hypotheses       = well-formedness of the INPUTS (`WFq qs n x`, every coefficient `WFq qs n c`);
    conclusion       = the same identity between `RPoly` values; `x^k` is `rpPow qs n x k` (iterated model
                       product starting from `rpOne`), `T_k(x)` is `chebR qs n x k` (three-term recursion
                       `T_{k+2} = 2·x·T_{k+1} − T_k` with the model's operations).

  The only hypothesis of the generic theorems (`factorize_spec_chebyshev`: `deg p ≤ 2n`) is on the list length and is
  met by the instance below.  The driver (`Driver/C13.lean`) runs layer (A) on `Int` (`intOps`, `ps_spec_int`) and
  layer (B) on the machine of levels/scales/slot values, never on `RPoly`; layer (B) (`depth_spec`, `target_scale`, …)
  is about `Nat`/`Int` data: nothing to transport.
-/
import Lattigo.Proofs.RPolyTransport
import Lattigo.Proofs.PolyEval
import Lattigo.Proofs.PolyEvalCheb

set_option linter.unusedSectionVars false

namespace Lattigo.Props.C13Ring
open Lattigo Lattigo.Model.PolyEval Lattigo.RPolyRing Lattigo.Transport

/-- `φ` is a homomorphism of value operations -/
structure ValHom {α β : Type} (O : ValOps α) (O' : ValOps β) (φ : α → β) : Prop where
  add : ∀ x y, φ (O.add x y) = O'.add (φ x) (φ y)
  sub : ∀ x y, φ (O.sub x y) = O'.sub (φ x) (φ y)
  mul : ∀ x y, φ (O.mul x y) = O'.mul (φ x) (φ y)
  ofNat : ∀ k, φ (O.ofNat k) = O'.ofNat k

section naturality
variable {α β : Type} {O : ValOps α} {O' : ValOps β} {φ : α → β} (h : ValHom O O' φ)
include h

theorem powVal_push (cheb : Bool) (x : α) : ∀ (fuel k : ℕ),
    φ (powVal O cheb x fuel k) = powVal O' cheb (φ x) fuel k
  | 0, _ => h.ofNat 0
  | fuel + 1, k => by
    unfold powVal
    by_cases h0 : k = 0
    · simp only [h0, if_true, h.ofNat]
    · by_cases h1 : k = 1
      · simp only [h1, if_true, if_false, one_ne_zero]
      · simp only [h0, h1, if_false]
        cases cheb
        · simp only [Bool.false_eq_true, if_false, h.mul, powVal_push false x fuel]
        · simp only [if_true, h.sub, h.mul, h.ofNat, powVal_push true x fuel]

theorem evalFrom_push (cheb : Bool) (x : α) : ∀ (k : ℕ) (l : List α),
    φ (evalFrom O cheb x k l) = evalFrom O' cheb (φ x) k (l.map φ)
  | _, [] => h.ofNat 0
  | k, c :: cs => by
    simp only [evalFrom, List.map_cons, h.add, h.mul, powVal_push h, evalFrom_push cheb x (k + 1) cs]

theorem evalBasis_push (cheb : Bool) (x : α) (l : List α) :
    φ (evalBasis O cheb x l) = evalBasis O' cheb (φ x) (l.map φ) := evalFrom_push h cheb x 0 l

theorem factorize_push (cheb : Bool) (m : ℕ) (p : List α) :
    (factorize O cheb m p).1.map φ = (factorize O' cheb m (p.map φ)).1
    ∧ (factorize O cheb m p).2.map φ = (factorize O' cheb m (p.map φ)).2 := by
  cases cheb
  · simp only [factorize, Bool.not_false, if_true, List.map_drop, List.map_take, and_self]
  · simp only [factorize, Bool.not_true, Bool.false_eq_true, if_false]
    refine ⟨?_, ?_⟩
    · rw [← List.map_drop]
      cases p.drop m with
      | nil => rfl
      | cons c cs =>
        simp only [List.map_cons, List.map_map, Function.comp_def, h.mul, h.ofNat]
    · simp only [List.map_map, Function.comp_def, List.length_map]
      apply List.map_congr_left
      intro i _
      split
      · rw [h.sub, ← List.getD_map _ _ φ, ← List.getD_map _ _ φ, h.ofNat]
      · rw [← List.getD_map _ _ φ, h.ofNat]

theorem psRec_push (cheb : Bool) (logSplit : ℕ) (x : α) : ∀ (fuel : ℕ) (p : List α),
    φ (psRec O cheb logSplit x fuel p) = psRec O' cheb logSplit (φ x) fuel (p.map φ)
  | 0, p => evalBasis_push h cheb x p
  | fuel + 1, p => by
    unfold psRec
    simp only [List.length_map]
    split
    · exact evalBasis_push h cheb x p
    · simp only [h.add, h.mul, powVal_push h, psRec_push cheb logSplit x fuel,
        (factorize_push h cheb _ p).1, (factorize_push h cheb _ p).2]

end naturality

/-- the value operations of the model on `RPoly`s over the chain `qs`, degree `n`:
`ofNat k` is the constant polynomial `k` (`rpOne` scaled by `k`) -/
def rpOps (qs : List ℕ) (n : ℕ) : ValOps RPoly :=
  { add := (· + ·), sub := (· - ·), mul := (· * ·), ofNat := fun k => (rpOne qs n).scale k }

/-- `x^k` with the model's product: `x^0 = 1` (`rpOne`), `x^{k+1} = x^k · x` -/
def rpPow (qs : List ℕ) (n : ℕ) (x : RPoly) : ℕ → RPoly
  | 0 => rpOne qs n
  | k + 1 => rpPow qs n x k * x

/-- `T_k(x)` with the model's operations: `T_0 = 1`, `T_1 = x`, `T_{k+2} = 2·x·T_{k+1} − T_k` -/
def chebR (qs : List ℕ) (n : ℕ) (x : RPoly) : ℕ → RPoly
  | 0 => rpOne qs n
  | 1 => x
  | k + 2 => (rpOne qs n).scale 2 * x * chebR qs n x (k + 1) - chebR qs n x k

section rpoly
variable {qs : List ℕ} {n : ℕ} [Good qs n]

/-- the natural number `k` in the ring `WFPoly qs n` is the constant polynomial `k` of the model -/
theorem val_natCast (k : ℕ) : val ((k : ℕ) : WFPoly qs n) = (rpOne qs n).scale k := by
  have h := WFPoly.scale_eq_mul_natCast (1 : WFPoly qs n) k
  rw [one_mul] at h
  rw [← h]; rfl

/-- the ring operations of `WFPoly qs n` are `rpOps qs n` on the underlying values -/
theorem val_valHom : ValHom (ringOps (WFPoly qs n)) (rpOps qs n) val :=
  ⟨fun _ _ => rfl, fun _ _ => rfl, fun _ _ => rfl, fun k => val_natCast k⟩

theorem val_pow (x : WFPoly qs n) : ∀ k : ℕ, val (x ^ k) = rpPow qs n (val x) k
  | 0 => by rw [pow_zero]; rfl
  | k + 1 => by rw [pow_succ, val_mul, val_pow x k]; rfl

open Polynomial in
theorem val_cheb (x : WFPoly qs n) : ∀ k : ℕ,
    val ((Chebyshev.T (WFPoly qs n) (k : ℤ)).eval x) = chebR qs n (val x) k
  | 0 => by simp only [Nat.cast_zero, Chebyshev.T_zero, eval_one]; rfl
  | 1 => by simp only [Nat.cast_one, Chebyshev.T_one, eval_X]; rfl
  | k + 2 => by
    have e : ((k + 2 : ℕ) : ℤ) = (k : ℤ) + 2 := by push_cast; ring
    have e1 : ((k + 1 : ℕ) : ℤ) = (k : ℤ) + 1 := by push_cast; ring
    rw [e, Chebyshev.T_add_two, eval_sub, eval_mul, eval_mul, eval_ofNat, eval_X, val_sub, val_mul, val_mul,
      ← e1, val_cheb x (k + 1), val_cheb x k]
    have h2 : val ((OfNat.ofNat 2 : WFPoly qs n)) = (rpOne qs n).scale 2 := by
      rw [← val_natCast 2]; congr 1
    rw [h2]; rfl

theorem WFq.pow {x : RPoly} (hx : WFq qs n x) (k : ℕ) : WFq qs n (rpPow qs n x k) := by
  obtain ⟨x, rfl⟩ := exists_lift x hx
  rw [← val_pow]; exact val_wf _

/-- The power basis of a well-formed `x` holds `x^k` at index `k`. -/
theorem powerbasis_spec_monomial_rpoly (x : RPoly) (hx : WFq qs n x) (k : ℕ) :
    powVal (rpOps qs n) false x (k + 1) k = rpPow qs n x k := by
  simpa only [powVal_push val_valHom, val_pow, val_lift] using
    congrArg val (powVal_monomial (lift x hx) (k + 1) k (by omega) (by omega))

/-- … resp. `T_k(x)` in the Chebyshev basis. -/
theorem powerbasis_spec_chebyshev_rpoly (x : RPoly) (hx : WFq qs n x) (k : ℕ) :
    powVal (rpOps qs n) true x (k + 1) k = chebR qs n x k := by
  simpa only [powVal_push val_valHom, val_cheb, val_lift] using
    congrArg val (powVal_chebyshev (lift x hx) (k + 1) k (by omega) (by omega))

/-- `p(x) = q(x)·x^m + r(x)`, `deg r < m`, for `(q, r) = Factorize(m)`:
every well-formed `x`, every list of well-formed coefficients, every `m`. -/
theorem factorize_spec_monomial_rpoly (x : RPoly) (hx : WFq qs n x) (m : ℕ) (p : List RPoly)
    (hp : ∀ c ∈ p, WFq qs n c) :
    evalBasis (rpOps qs n) false x p
      = evalBasis (rpOps qs n) false x (factorize (rpOps qs n) false m p).1 * rpPow qs n x m
        + evalBasis (rpOps qs n) false x (factorize (rpOps qs n) false m p).2
    ∧ (factorize (rpOps qs n) false m p).2.length ≤ m := by
  lift x to WFPoly qs n using hx
  lift p to List (WFPoly qs n) using hp
  obtain ⟨h1, h2⟩ := factorize_monomial x m p
  have h := congrArg val h1
  rw [val_add, val_mul, evalBasis_push val_valHom, evalBasis_push val_valHom, evalBasis_push val_valHom,
    (factorize_push val_valHom false m p).1, (factorize_push val_valHom false m p).2, val_pow] at h
  refine ⟨h, ?_⟩
  rw [← (factorize_push val_valHom false m p).2, List.length_map]
  exact h2

/-- `p(x) = q(x)·T_m(x) + r(x)` in the Chebyshev basis, `r` has exactly
`m` coefficients; every coefficient list with `deg p ≤ 2m`. -/
theorem factorize_spec_chebyshev_rpoly (x : RPoly) (hx : WFq qs n x) (m : ℕ) (p : List RPoly)
    (hp : ∀ c ∈ p, WFq qs n c) (hlen : p.length ≤ 2 * m + 1) :
    evalBasis (rpOps qs n) true x p
      = evalBasis (rpOps qs n) true x (factorize (rpOps qs n) true m p).1 * chebR qs n x m
        + evalBasis (rpOps qs n) true x (factorize (rpOps qs n) true m p).2
    ∧ (factorize (rpOps qs n) true m p).2.length = m := by
  lift x to WFPoly qs n using hx
  lift p to List (WFPoly qs n) using hp
  obtain ⟨h1, h2⟩ := factorize_chebyshev x m p (by simpa using hlen)
  have h := congrArg val h1
  rw [val_add, val_mul, evalBasis_push val_valHom, evalBasis_push val_valHom, evalBasis_push val_valHom,
    (factorize_push val_valHom true m p).1, (factorize_push val_valHom true m p).2, val_cheb] at h
  refine ⟨h, ?_⟩
  rw [← (factorize_push val_valHom true m p).2, List.length_map]
  exact h2

/-- The Paterson–Stockmeyer recursion on `RPoly` values returns `p(x) = Σ_i c_i·B_i(x)`
(`B_i = x^i` resp. `T_i(x)`), for every well-formed `x`, every list of well-formed coefficients (zero
leading / trailing ones included), both bases, every `logSplit`, every fuel. -/
theorem ps_spec_rpoly (cheb : Bool) (logSplit : ℕ) (x : RPoly) (hx : WFq qs n x) (fuel : ℕ) (p : List RPoly)
    (hp : ∀ c ∈ p, WFq qs n c) :
    psRec (rpOps qs n) cheb logSplit x fuel p = evalBasis (rpOps qs n) cheb x p := by
  lift x to WFPoly qs n using hx
  lift p to List (WFPoly qs n) using hp
  have h : psRec (ringOps (WFPoly qs n)) cheb logSplit x fuel p = evalBasis (ringOps (WFPoly qs n)) cheb x p := by
    cases cheb
    · exact psRec_monomial logSplit x fuel p
    · exact psRec_chebyshev logSplit x fuel p
  have h' := congrArg val h
  rw [psRec_push val_valHom, evalBasis_push val_valHom] at h'
  exact h'

theorem ps_spec_monomial_rpoly (logSplit : ℕ) (x : RPoly) (hx : WFq qs n x) (fuel : ℕ) (p : List RPoly)
    (hp : ∀ c ∈ p, WFq qs n c) :
    psRec (rpOps qs n) false logSplit x fuel p = evalBasis (rpOps qs n) false x p :=
  ps_spec_rpoly false logSplit x hx fuel p hp

theorem ps_spec_chebyshev_rpoly (logSplit : ℕ) (x : RPoly) (hx : WFq qs n x) (fuel : ℕ) (p : List RPoly)
    (hp : ∀ c ∈ p, WFq qs n c) :
    psRec (rpOps qs n) true logSplit x fuel p = evalBasis (rpOps qs n) true x p :=
  ps_spec_rpoly true logSplit x hx fuel p hp

/-- the specification `evalBasis` in the monomial basis is Horner-free: `Σ_i c_i · x^i` with `rpPow` -/
theorem evalFrom_monomial_rpoly (x : RPoly) (hx : WFq qs n x) : ∀ (k : ℕ) (p : List RPoly),
    evalFrom (rpOps qs n) false x k p
      = match p with
        | [] => (rpOne qs n).scale 0
        | c :: cs => c * rpPow qs n x k + evalFrom (rpOps qs n) false x (k + 1) cs
  | _, [] => rfl
  | k, c :: cs => by
    show c * powVal (rpOps qs n) false x (k + 1) k + _ = _
    rw [powerbasis_spec_monomial_rpoly x hx k]

/-- closure: the value of the recursion on well-formed data is well formed -/
theorem psRec_wf (cheb : Bool) (logSplit : ℕ) (x : RPoly) (hx : WFq qs n x) (fuel : ℕ) (p : List RPoly)
    (hp : ∀ c ∈ p, WFq qs n c) : WFq qs n (psRec (rpOps qs n) cheb logSplit x fuel p) := by
  lift x to WFPoly qs n using hx
  lift p to List (WFPoly qs n) using hp
  rw [← psRec_push val_valHom]
  exact val_wf _

end rpoly

section concrete

instance good8 : Good [97, 193] 8 := ⟨by decide, by decide⟩

def x8 : RPoly := ⟨[97, 193], [[1, 2, 3, 4, 5, 6, 7, 8], [10, 20, 30, 40, 50, 60, 70, 80]]⟩
/-- coefficients: constants `5, 7, 0, 13` and two genuine polynomials -/
def p8 : List RPoly :=
  [(rpOne [97, 193] 8).scale 5, (rpOne [97, 193] 8).scale 7, (rpOne [97, 193] 8).scale 0,
   (rpOne [97, 193] 8).scale 13,
   ⟨[97, 193], [[0, 1, 0, 0, 0, 0, 0, 96], [0, 1, 0, 0, 0, 0, 0, 192]]⟩,
   ⟨[97, 193], [[3, 0, 0, 0, 1, 0, 0, 0], [3, 0, 0, 0, 1, 0, 0, 0]]⟩]

theorem hyps8 : WFq [97, 193] 8 x8 ∧ ∀ c ∈ p8, WFq [97, 193] 8 c := by decide +kernel

/-- instances obtained FROM THE THEOREMS (all hypotheses discharged): Paterson–Stockmeyer with
`logSplit = 1` on a degree-5 polynomial, both bases; the split `p = q·X^4 + r`, resp. `q·T_4 + r` -/
example : psRec (rpOps [97, 193] 8) false 1 x8 7 p8 = evalBasis (rpOps [97, 193] 8) false x8 p8 :=
  ps_spec_monomial_rpoly 1 x8 hyps8.1 7 p8 hyps8.2
example : psRec (rpOps [97, 193] 8) true 1 x8 7 p8 = evalBasis (rpOps [97, 193] 8) true x8 p8 :=
  ps_spec_chebyshev_rpoly 1 x8 hyps8.1 7 p8 hyps8.2
example : evalBasis (rpOps [97, 193] 8) true x8 p8
    = evalBasis (rpOps [97, 193] 8) true x8 (factorize (rpOps [97, 193] 8) true 4 p8).1 * chebR [97, 193] 8 x8 4
      + evalBasis (rpOps [97, 193] 8) true x8 (factorize (rpOps [97, 193] 8) true 4 p8).2 :=
  (factorize_spec_chebyshev_rpoly x8 hyps8.1 4 p8 hyps8.2 (by decide)).1

example : psRec (rpOps [97, 193] 8) false 1 x8 7 p8 = evalBasis (rpOps [97, 193] 8) false x8 p8 :=
  ps_spec_monomial_rpoly 1 x8 hyps8.1 7 p8 hyps8.2
example : psRec (rpOps [97, 193] 8) true 1 x8 7 p8 = evalBasis (rpOps [97, 193] 8) true x8 p8 :=
  ps_spec_chebyshev_rpoly 1 x8 hyps8.1 7 p8 hyps8.2
/-- TEST (evaluation of the model on these values): the power basis -/
example : powVal (rpOps [97, 193] 8) false x8 6 5 = rpPow [97, 193] 8 x8 5
    ∧ powVal (rpOps [97, 193] 8) true x8 6 5 = chebR [97, 193] 8 x8 5 := by decide +kernel
/-- the recursion really recurses on this input (degree `5 ≥ 2^logSplit`), and the value is not trivial -/
example : ¬ (p8.length - 1 < 2 ^ 1) ∧ psRec (rpOps [97, 193] 8) false 1 x8 7 p8 ≠ RPoly.zero [97, 193] 8 := by
  decide +kernel

end concrete

end Lattigo.Props.C13Ring

#print axioms Lattigo.Props.C13Ring.val_valHom
#print axioms Lattigo.Props.C13Ring.powerbasis_spec_monomial_rpoly
#print axioms Lattigo.Props.C13Ring.powerbasis_spec_chebyshev_rpoly
#print axioms Lattigo.Props.C13Ring.factorize_spec_monomial_rpoly
#print axioms Lattigo.Props.C13Ring.factorize_spec_chebyshev_rpoly
#print axioms Lattigo.Props.C13Ring.ps_spec_rpoly
#print axioms Lattigo.Props.C13Ring.ps_spec_monomial_rpoly
#print axioms Lattigo.Props.C13Ring.ps_spec_chebyshev_rpoly
#print axioms Lattigo.Props.C13Ring.evalFrom_monomial_rpoly
#print axioms Lattigo.Props.C13Ring.psRec_wf
