/-
  C14 — collective keys are keys of the ideal secret, whatever the share order.

  All theorems are about the definitions of `Lattigo/Model/MPShare.lean` (the ones the driver executes on `RPoly`).
  Parties are the leaves of the aggregation tree `t`; `t.eval (· + ·) s` is the ideal secret `Σ s_i` (the same for
  any tree, by `agg_perm`).

  PROVED FOR ALL INPUTS
    * generic carrier (every commutative ring, resp. additive commutative semigroup): `agg_perm`, `agg_fold_perm`,
      `agg_tree_eq_fold`, `evk_agg_perm`, `gal_agg_perm`, `rkg_agg_perm`; `cpk_phase`, `cpk_eq_single`;
      `evk_row`, `evk_collective_eq_single`, `evk_key_assembled` (any decomposition shape);
      `gal_collective_eq_single`; `rkg_round_one_collective`, `rkg_round_two_collective`, `rkg_row`
      (exact error `s·E0 + u·E1 + E2`); `mismatch_rejected_*` (Galois element, LevelQ, LevelP, decomposition,
      CRP shape, key levels), `genEvaluationKey_decomposition_rejected`.
    * on `RPoly` with well-formed inputs (`Props/C14Ring.lean`, through the commutative ring `WFPoly qs n`):
      `agg_perm_rpoly`, `cpk_*_rpoly`, `evk_*_rpoly`, `gal_collective_eq_single_rpoly`, `rkg_row_rpoly`, and here
      `rkg_round_one_collective_rpoly`, `rkg_round_two_collective_rpoly` (§8).
    * noise SIZE over `Z[X]/(X^N+1)` (`Props/C14Noise.lean`): `cpk_noise_bound`, `cpk_enc_noise_bound(_P)`,
      `collective_keyswitch_noise_bound`, `collective_le_n_times_single` (public, evaluation and Galois keys:
      ≤ N × the single-party bound), `rkg_noise_bound`, `collective_relin_noise_bound`.
      The clause "noise below N times the single-party bound" is FALSE in the worst case for the
      relinearisation key: `rkg_noise_quadratic_witness` (the ℓ∞ bound `n·B·(n·h + n·h_u + 1)` is attained up to
      constants; it is quadratic in the number of parties — linear only in standard deviations).
    * the CRS at the byte level (§7): `crp_reduced`, `crp_is_stream_words`, `crs_determinism` — the reference
      polynomials are the C17 uniform-sampler model on fresh buffers applied to the bytes of the keyed generator
      (C17 `uniform_range`, `uniform_consumes`, `prng_reads_are_one_stream`, `prng_key_replays`).
    * serialization (§9): `agg_serialization_independent` (C08 `roundtrip` on the share formats).
  TIED ONLY (model = implementation on the explored inputs): the RNS layout of the gadget constants (`gadgetW`),
  the Montgomery/NTT conventions undone by `Canon`, the conjugate-invariant unfolding, the twin replay of the
  samplers (errors, secrets are INPUTS of the model).
  PROBED ONLY: functional use of the final keys by the single-party Encryptor / Evaluator
  (`collective_key_works`, against bounds that dominate the C14Noise theorems), `key_survives_share_reuse`,
  `refused_call_keeps_receiver`, `agg_order_indep` on the real objects.
  NOT COVERED: that the gadget constants `w_ij` are the ones the single-party key switching expects (C04);
  distribution of the CRS beyond "a function of the XOF bytes" (the XOF is an arbitrary function in C17).

  Defects found through this property and repaired in /repo (fixes/C14-*.diff); the model follows the repaired code:
    * GenEvaluationKey/GenGaloisKey copied `len(m[0])` digits per row   → `evk_key_assembled`, `genEvaluationKey_ragged_ok`
    * AggregateShares did not compare the decompositions               → `mismatch_rejected_decomposition`
    * GaloisKeyGenProtocol.GenShare panicked without auxiliary modulus  → `gal_noP_ok`
    * GenShare's LevelP test compared the share with itself             → `mismatch_rejected_sk_levelP`
    * Galois GenShare/AggregateShares tagged the receiver before a refusal (C14-5, probe refused_call_keeps_receiver)
  Recorded, not repaired (needs an API change): `RelinearizationKeyGenProtocol.AggregateShares` has no
  validation and no error result (probe `mismatch_rejected kind=rkg_levelQ*`, key C14-rkg-agg-unchecked).
-/
import Lattigo.Proofs.MPKeys
import Lattigo.Props.C14Ring
import Lattigo.Props.C14Noise
import Lattigo.Props.C17
import Lattigo.Props.C08

namespace Lattigo.Props.C14
open Lattigo.MP

/-! ## 1. Aggregation: any permutation, any grouping -/

/-- In a commutative additive semigroup the aggregate along any two trees whose leaves
    are permutations of each other is the same. -/
theorem agg_perm {β : Type} [AddCommSemigroup β] (t₁ t₂ : AggTree) (sh : Nat → β)
    (h : t₁.leaves.Perm t₂.leaves) : t₁.eval (· + ·) sh = t₂.eval (· + ·) sh :=
  AggTree.eval_perm t₁ t₂ sh h

example : (AggTree.node (.node (.leaf 2) (.leaf 0)) (.leaf 1)).leaves.Perm
    (AggTree.node (.leaf 0) (.node (.leaf 1) (.leaf 2))).leaves := by decide

/-- the left fold (`aggList`, how the library's tests aggregate) over any two orderings agrees -/
theorem agg_fold_perm {β : Type} [AddCommSemigroup β] (x y : β) (xs ys : List β)
    (h : (x :: xs).Perm (y :: ys)) : aggList x xs = aggList y ys := by
  apply WithZero.coe_inj.mp
  unfold aggList
  rw [foldl_coe, foldl_coe]
  exact (h.map _).sum_eq

/-- every tree equals the left fold over any enumeration of its leaves -/
theorem agg_tree_eq_fold {β : Type} [AddCommSemigroup β] (t : AggTree) (sh : Nat → β) (i : Nat)
    (is : List Nat) (h : t.leaves.Perm (i :: is)) : t.eval (· + ·) sh = aggList (sh i) (is.map sh) := by
  apply WithZero.coe_inj.mp
  unfold aggList
  rw [AggTree.eval_coe, foldl_coe, (h.map fun i => (sh i : WithZero β)).sum_eq,
    List.map_cons, List.map_cons, List.map_map]
  rfl

/-- **agg_perm for the validating `EvaluationKeyGenProtocol.AggregateShares`.**  On compatible
    degree-zero shares (same levels, same decomposition shape) every tree succeeds and any two trees
    over permuted leaves give the same share.  `recv` is the receiver handed to each call
    (`id` for `AggregateShares(a, b, &a)`, a fresh allocation otherwise). -/
theorem evk_agg_perm {α : Type} [AddCommSemigroup α] {lq : Nat} {lp : Int} {b2 : Nat} {shape : List Nat}
    (recv : GShare α → GShare α) (hrecv : ∀ s, Compat lq lp b2 shape s → Compat lq lp b2 shape (recv s))
    (sh : Nat → GShare α) (t₁ t₂ : AggTree) (hperm : t₁.leaves.Perm t₂.leaves)
    (hc : ∀ i ∈ t₁.leaves, Compat lq lp b2 shape (sh i)) :
    ∃ g₁ g₂, t₁.evalM (fun x y => evkAggregate x y (recv x)) sh = .ok g₁ ∧
             t₂.evalM (fun x y => evkAggregate x y (recv x)) sh = .ok g₂ ∧ g₁.val = g₂.val ∧
             g₁.levelQ = g₂.levelQ ∧ g₁.levelP = g₂.levelP :=
  Lattigo.MP.evk_agg_perm recv hrecv sh t₁ t₂ hperm hc

example : Compat (α := Int) 1 0 8 [1, 2] ⟨1, 0, 8, [[[5]], [[6], [7]]]⟩ :=
  ⟨rfl, rfl, rfl, by unfold Deg0; decide⟩

/-- the same for Galois shares with equal element tag -/
theorem gal_agg_perm {α : Type} [AddCommSemigroup α] {lq : Nat} {lp : Int} {b2 : Nat} {shape : List Nat} (g0 : Nat)
    (recv : GalShare α → GalShare α)
    (hrecv : ∀ s, Compat lq lp b2 shape s.sh → Compat lq lp b2 shape (recv s).sh)
    (sh : Nat → GalShare α) (t₁ t₂ : AggTree) (hperm : t₁.leaves.Perm t₂.leaves)
    (hc : ∀ i ∈ t₁.leaves, (sh i).galEl = g0 ∧ Compat lq lp b2 shape (sh i).sh) :
    ∃ g₁ g₂, t₁.evalM (fun x y => galAggregate x y (recv x)) sh = .ok g₁ ∧
             t₂.evalM (fun x y => galAggregate x y (recv x)) sh = .ok g₂ ∧
             g₁.galEl = g0 ∧ g₂.galEl = g0 ∧ g₁.sh.val = g₂.sh.val := by
  obtain ⟨g1, h1, ⟨e1, _⟩, v1⟩ := gal_evalM_compat g0 recv hrecv sh t₁ hc
  obtain ⟨g2, h2, ⟨e2, _⟩, v2⟩ := gal_evalM_compat g0 recv hrecv sh t₂
    (fun i hi => hc i (hperm.mem_iff.mpr hi))
  exact ⟨g1, g2, h1, h2, e1, e2, by rw [v1, v2, cube_eval_perm _ _ _ hperm]⟩

theorem rkg_eval_val {α : Type} [Add α] (t : AggTree) (sh : Nat → GShare α) :
    (t.eval rkgAggregate sh).val = t.eval cubeAdd (fun i => (sh i).val) :=
  (t.eval_map GShare.val (fun _ _ => rfl) sh).symm

/-- `RelinearizationKeyGenProtocol.AggregateShares` (both rounds): order independence -/
theorem rkg_agg_perm {α : Type} [AddCommSemigroup α] (t₁ t₂ : AggTree) (sh : Nat → GShare α)
    (h : t₁.leaves.Perm t₂.leaves) :
    (t₁.eval rkgAggregate sh).val = (t₂.eval rkgAggregate sh).val := by
  rw [rkg_eval_val, rkg_eval_val, cube_eval_perm _ _ _ h]

/-! ## 2. Collective public key -/

section ring
variable {α : Type} [CommRing α]

/-- `phase(cpk, Σ s_i) = Σ e_i`, for the aggregate along any tree. -/
theorem cpk_phase (a : α) (s e : Nat → α) (t : AggTree) :
    phase (t.eval cpkAggregate fun i => cpkShare a (s i) (e i)) a (t.eval (· + ·) s) =
      t.eval (· + ·) e := by
  rw [cpk_tree, cpk_phase_single]

/-- **cpk = single-party key of the ideal secret.** `GenPublicKey` of the aggregate along any tree is
    exactly the single-party public key for secret `Σ s_i`, mask `a`, error `Σ e_i`. -/
theorem cpk_eq_single (a : α) (s e : Nat → α) (t : AggTree) :
    genPublicKey (t.eval cpkAggregate fun i => cpkShare a (s i) (e i)) a =
      pkOf a (t.eval (· + ·) s) (t.eval (· + ·) e) :=
  congrArg (·, a) (cpk_tree a s e t)

/-- the same with the left fold of the tests and `List.sum` -/
theorem cpk_fold_eq_single (a : α) (p : α × α) (ps : List (α × α)) :
    aggList (cpkShare a p.1 p.2) (ps.map fun q => cpkShare a q.1 q.2) =
      cpkShare a ((p :: ps).map Prod.fst).sum ((p :: ps).map Prod.snd).sum := by
  rw [cpk_fold, aggList_eq_sum, aggList_eq_sum]; rfl

/-! ## 3. Evaluation key -/

/-- One row of a (share or aggregated) evaluation key: `phase = w·s_in + e`. -/
theorem evk_row (a w sOut e sIn : α) : phase (evkShareRow a sOut e w sIn) a sOut = w * sIn + e :=
  evk_row_phase a w sOut e sIn

/-- **evk = single-party key of the ideal secrets.**  Every party `i` (leaf of `t`) calls `GenShare`
    with `(sIn i, sOut i)` and its errors `e i` on the same CRP; the shares are aggregated along `t`.
    Then every call succeeds and the aggregate is EXACTLY what the single-party generator (the same
    function) writes for `(Σ sIn, Σ sOut, Σ e)`. -/
theorem evk_collective_eq_single (lvIn lvOut : Nat) (lvInP lvOutP : Int) (crp w : Mat α) (out : GShare α)
    (sIn sOut : Nat → α) (e : Nat → Mat α) (t : AggTree)
    (hl : out.levelQ ≤ min lvIn lvOut) (hlp : out.levelP ≤ min lvInP lvOutP)
    (hs : shapeOf out.val = shapeOf crp)
    (hw : shapeOf w = shapeOf crp) (he : ∀ i ∈ t.leaves, shapeOf (e i) = shapeOf crp)
    (recv : GShare α → GShare α)
    (hrecv : ∀ s, Compat out.levelQ out.levelP out.base2 (shapeOf crp) s →
      Compat out.levelQ out.levelP out.base2 (shapeOf crp) (recv s)) :
    ∃ shares : Nat → GShare α,
      (∀ i, evkGenShare lvIn lvOut lvInP lvOutP (sIn i) (sOut i) crp w (e i) out = .ok (shares i)) ∧
      ∃ g, t.evalM (fun x y => evkAggregate x y (recv x)) shares = .ok g ∧
        g.levelQ = out.levelQ ∧ g.levelP = out.levelP ∧
        evkGenShare lvIn lvOut lvInP lvOutP (t.eval (· + ·) sIn) (t.eval (· + ·) sOut) crp w
            (t.eval matAdd e) out
          = .ok { out with val := g.val } := by
  obtain ⟨g, hg, hq, hp, vg⟩ := evk_collective_val crp w out sIn sOut e t hw he recv hrecv
  exact ⟨_, fun i => evkGenShare_ok _ _ _ _ (sIn i) (sOut i) crp w (e i) out hl hlp hs, g, hg, hq, hp, by
    rw [evkGenShare_ok _ _ _ _ _ _ _ _ _ _ hl hlp hs, vg, evk_tree_val]⟩

/-- non-vacuity: two parties, two RNS digits with 1 and 2 power-of-two digits -/
example := evk_collective_eq_single (α := Int) 1 1 0 0 [[2], [3, 4]] [[1], [5, 6]] ⟨1, 0, 8, [[[0]], [[0], [0]]]⟩
    (fun i => Int.ofNat i) (fun i => 2 * Int.ofNat i) (fun _ => [[1], [1, -1]]) (.node (.leaf 0) (.leaf 1))
    (by decide) (by decide) (by decide) (by decide) (fun _ _ => by decide) id (fun _ h => h)

/-- **final key.** For ANY decomposition shape (the number of power-of-two digits may differ from one
    RNS digit to the next) `GenEvaluationKey` copies every row: the key is `(share[i][j], crp[i][j])`
    everywhere, i.e. by `evk_collective_eq_single` and `evk_row` every row is a single-party row for
    the ideal secrets with error `Σ e_i`. -/
theorem evk_key_assembled {β : Type} (shape : List Nat) (share : GShare β) (crp : Mat β) (evk : GShare β)
    (hq : share.levelQ = evk.levelQ) (hp : share.levelP = evk.levelP)
    (hm : Deg0 shape share.val) (hc : shapeOf crp = shape)
    (hk : evk.val.map (fun row => row.map List.length) = shape.map fun k => List.replicate k 2) :
    genEvaluationKey share crp evk = .ok { evk with val := evkAssemble share.val crp } := by
  have h1 : shapeOf share.val = shape := deg0_shapeOf shape _ hm
  have h2 : shapeOf evk.val = shape := by
    have := congrArg (List.map List.length) hk
    simpa [shapeOf, Function.comp_def] using this
  simp [genEvaluationKey, hq, hp, h1, h2, hc, keyRows_ok shape share.val crp evk.val hm hc hk]

example : genEvaluationKey (α := Int) ⟨0, 0, 8, [[[1], [2]], [[3], [4]]]⟩ [[10, 20], [30, 40]]
    ⟨0, 0, 8, [[[0, 0], [0, 0]], [[0, 0], [0, 0]]]⟩ =
    .ok ⟨0, 0, 8, [[[1, 10], [2, 20]], [[3, 30], [4, 40]]]⟩ := by decide

/-- ragged shapes (first row shortest; first row longest) are assembled completely: `len(m[0])` is not
    the digit count of every row -/
theorem genEvaluationKey_ragged_ok :
    genEvaluationKey (α := Int) ⟨1, 0, 16, [[[1]], [[2], [3]]]⟩ [[10], [20, 30]]
      ⟨1, 0, 16, [[[0, 0]], [[0, 0], [0, 0]]]⟩
      = .ok ⟨1, 0, 16, [[[1, 10]], [[2, 20], [3, 30]]]⟩
    ∧ genEvaluationKey (α := Int) ⟨1, 0, 16, [[[2], [3]], [[1]]]⟩ [[20, 30], [10]]
      ⟨1, 0, 16, [[[0, 0], [0, 0]], [[0, 0]]]⟩
      = .ok ⟨1, 0, 16, [[[2, 20], [3, 30]], [[1, 10]]]⟩ := by
  decide

/-- a share, CRP or key of another decomposition is rejected -/
theorem genEvaluationKey_decomposition_rejected {β : Type} (share : GShare β) (crp : Mat β) (evk : GShare β)
    (h : shapeOf share.val ≠ shapeOf crp ∨ shapeOf share.val ≠ shapeOf evk.val) :
    genEvaluationKey share crp evk = .err := by
  simp only [genEvaluationKey, if_pos h, ite_self]

/-! ## 4. Galois key -/

/-- `GaloisKeyGenProtocol.GenShare` is the evaluation-key share from `s` to `σ⁻¹(s)` tagged with the
    element, with or without auxiliary modulus. -/
theorem gal_share_eq_evk (sigInv : α → α) (skLvl bufLvl : Nat) (skLvlP bufLvlP : Int) (s : α) (galEl : Nat)
    (crp w e : Mat α) (out : GalShare α) :
    galGenShare sigInv skLvl bufLvl skLvlP bufLvlP s galEl crp w e out =
      (evkGenShare skLvl bufLvl skLvlP bufLvlP s (sigInv s) crp w e out.sh).bind fun sh => .ok ⟨galEl, sh⟩ :=
  rfl

/-- **Galois key = single-party key of the ideal secret.**  For a ring automorphism `σ⁻¹`
    (`X ↦ X^{g⁻¹}`), the aggregate of the parties' Galois shares is exactly the single-party share for
    `Σ s_i` (output secret `σ⁻¹(Σ s_i)`), tagged with `g` — for every `LevelP ≥ −1`. -/
theorem gal_collective_eq_single (sigInv : α →+* α) (skLvl bufLvl : Nat) (skLvlP bufLvlP : Int)
    (galEl : Nat) (crp w : Mat α)
    (out : GalShare α) (s : Nat → α) (e : Nat → Mat α) (t : AggTree)
    (hl : out.sh.levelQ ≤ min skLvl bufLvl) (hlp : out.sh.levelP ≤ min skLvlP bufLvlP)
    (hs : shapeOf out.sh.val = shapeOf crp)
    (hw : shapeOf w = shapeOf crp) (he : ∀ i ∈ t.leaves, shapeOf (e i) = shapeOf crp) :
    ∃ shares : Nat → GalShare α,
      (∀ i, galGenShare sigInv skLvl bufLvl skLvlP bufLvlP (s i) galEl crp w (e i) out = .ok (shares i)) ∧
      ∃ g, t.evalM (fun x y => galAggregate x y x) shares = .ok g ∧ g.galEl = galEl ∧
        galGenShare sigInv skLvl bufLvl skLvlP bufLvlP (t.eval (· + ·) s) galEl crp w (t.eval matAdd e) out
          = .ok ⟨galEl, { out.sh with val := g.sh.val }⟩ := by
  obtain ⟨g, hg, tg, vg⟩ := gal_collective_val galEl crp w out s (fun i => sigInv (s i)) e t hw he
  exact ⟨_, fun i => galGenShare_ok sigInv _ _ _ _ (s i) galEl crp w (e i) out hl hlp hs, g, hg, tg, by
    rw [galGenShare_ok sigInv _ _ _ _ _ _ _ _ _ _ hl hlp hs, vg, evk_tree_val, tree_map_add sigInv]⟩

/-- non-vacuity without auxiliary modulus (`LevelP = −1`): the share is produced -/
theorem gal_noP_ok :
    (galGenShare (α := Int) (fun x => -x) 1 1 (-1) (-1) 3 5 [[2], [7]] [[1], [1]] [[1], [-1]]
      ⟨0, ⟨1, -1, 0, [[[0]], [[0]]]⟩⟩).isOk = true := by decide

/-! ## 5. Relinearisation key -/

/-- round one: the aggregate (any tree) is the round-one share of `(Σ s_i, Σ u_i, Σ e0_i, Σ e1_i)` -/
theorem rkg_round_one_collective (crp w : Mat α) (out : GShare α) (s u : Nat → α)
    (e : Nat → Mat (α × α)) (t : AggTree) :
    (t.eval rkgAggregate fun i => rkgRoundOne (s i) (u i) crp w (e i) out).val =
      (rkgRoundOne (t.eval (· + ·) s) (t.eval (· + ·) u) crp w
        (t.eval (List.zipWith (List.zipWith pairAdd)) e) out).val := by
  rw [rkg_eval_val]
  exact rkg1_tree_val t s u e crp w

/-- round two (from the same aggregated round-one share): the aggregate is the round-two share of
    `(Σ s_i, Σ u_i, Σ e2_i)` -/
theorem rkg_round_two_collective (round1 out : GShare α) (s u : Nat → α) (e2 : Nat → Mat α)
    (t : AggTree) :
    (t.eval rkgAggregate fun i => rkgRoundTwo (s i) (u i) round1 (e2 i) out).val =
      (rkgRoundTwo (t.eval (· + ·) s) (t.eval (· + ·) u) round1 (t.eval matAdd e2) out).val := by
  rw [rkg_eval_val]
  exact rkg2_tree_val t s u e2 round1.val

/-- After round two, the key row assembled by `GenRelinearizationKey` from the aggregated
    shares encrypts `w·s²` under `s = Σ s_i`, with the exact error `s·E0 + u·E1 + E2`
    (`u = Σ u_i` the ideal ephemeral secret, `E0, E1, E2` the summed errors of the three draws). -/
theorem rkg_row (a w s u E0 E1 E2 : α) :
    ∃ b c, rkgKeyEntry (rkgRoundTwoEntry s u (rkgRoundOneRow a s u E0 E1 w) E2)
             (rkgRoundOneRow a s u E0 E1 w) = [b, c] ∧
           phase b c s = w * (s * s) + (s * E0 + u * E1 + E2) :=
  ⟨_, _, rfl, rkg_row_phase a w s u E0 E1 E2⟩

/-! ## 6. Mismatched shares -/

theorem mismatch_rejected_galEl {β : Type} [Add β] (s1 s2 s3 : GalShare β) (h : s1.galEl ≠ s2.galEl) :
    galAggregate s1 s2 s3 = .err :=
  if_pos h

example : (⟨5, ⟨0, 0, 0, []⟩⟩ : GalShare Int).galEl ≠ (⟨25, ⟨0, 0, 0, []⟩⟩ : GalShare Int).galEl := by
  decide

theorem mismatch_rejected_levelQ {β : Type} [Add β] (s1 s2 s3 : GShare β)
    (h : s1.levelQ ≠ s2.levelQ ∨ s1.levelQ ≠ s3.levelQ) : evkAggregate s1 s2 s3 = .err :=
  if_pos h

theorem mismatch_rejected_levelP {β : Type} [Add β] (s1 s2 s3 : GShare β)
    (h : s1.levelP ≠ s2.levelP ∨ s1.levelP ≠ s3.levelP) : evkAggregate s1 s2 s3 = .err := by
  simp only [evkAggregate, if_pos h, ite_self]

/-- **mismatch_rejected (decomposition).** Shares of different decompositions (different
    `BaseTwoDecomposition` or different numbers of digits) are rejected by `AggregateShares`. -/
theorem mismatch_rejected_decomposition {β : Type} [Add β] (s1 s2 s3 : GShare β)
    (h : s1.base2 ≠ s2.base2 ∨ shapeOf s1.val ≠ shapeOf s2.val ∨ shapeOf s1.val ≠ shapeOf s3.val) :
    evkAggregate s1 s2 s3 = .err := by
  simp only [evkAggregate, if_pos h, ite_self]

/-- shares of `BaseTwoDecomposition` 16 and 8 are refused, in either order -/
example : evkAggregate (α := Int) ⟨0, 0, 16, [[[1], [2]]]⟩ ⟨0, 0, 8, [[[1], [2], [3], [4]]]⟩
    ⟨0, 0, 16, [[[0], [0]]]⟩ = .err ∧
  evkAggregate (α := Int) ⟨0, 0, 8, [[[1], [2], [3], [4]]]⟩ ⟨0, 0, 16, [[[1], [2]]]⟩
    ⟨0, 0, 8, [[[0], [0], [0], [0]]]⟩ = .err := by decide

/-- `GenShare` rejects a CRP sampled for another decomposition, a share above the keys' `LevelQ` and a
    share above the keys' `LevelP` -/
theorem mismatch_rejected_crp (lvIn lvOut : Nat) (lpIn lpOut : Int) (sIn sOut : α) (crp w e : Mat α)
    (out : GShare α) (h : shapeOf out.val ≠ shapeOf crp) :
    evkGenShare lvIn lvOut lpIn lpOut sIn sOut crp w e out = .err := by
  simp only [evkGenShare, if_pos h, ite_self]

theorem mismatch_rejected_sk_level (lvIn lvOut : Nat) (lpIn lpOut : Int) (sIn sOut : α) (crp w e : Mat α)
    (out : GShare α) (h : out.levelQ > min lvIn lvOut) :
    evkGenShare lvIn lvOut lpIn lpOut sIn sOut crp w e out = .err :=
  if_pos h

theorem mismatch_rejected_sk_levelP (lvIn lvOut : Nat) (lpIn lpOut : Int) (sIn sOut : α) (crp w e : Mat α)
    (out : GShare α) (h : out.levelP > min lpIn lpOut) :
    evkGenShare lvIn lvOut lpIn lpOut sIn sOut crp w e out = .err := by
  simp only [evkGenShare, if_pos h, ite_self]

example : (⟨1, 0, 0, []⟩ : GShare Int).levelP > min (0 : Int) (-1) := by decide

end ring

/-! ## 7. The common reference string, at the byte level (refinement of the C17 sampler / PRNG models) -/

section crs
open Lattigo.Sampler

/-- what one `ringqp.UniformSampler.ReadNew` does: the Q sampler, then (if there is a P) the P sampler, on the same
    stream — the two `uniformRead` calls of the C17 model -/
theorem qpRead_ok (fuel : Nat) (qs : List Nat) (qsP : Option (List Nat)) (pQ pP rQ rP : Poly) (s s' : Bytes)
    (bs bs' : QPBufs) (h : qpRead fuel (some qs) qsP pQ pP s bs = .ok (rQ, rP, s', bs')) :
    ∃ s1 bQ, uniformRead fuel .read qs pQ s bs.bQ = .ok (rQ, s1, bQ) ∧
      ∀ ps, qsP = some ps → ∃ bP, uniformRead fuel .read ps pP s1 bs.bP = .ok (rP, s', bP) := by
  unfold qpRead at h
  obtain ⟨⟨r1, s1, b1⟩, hq, h⟩ := Res.bind_eq_ok h
  cases qsP with
  | none =>
    cases h
    exact ⟨_, _, hq, fun _ hps => nomatch hps⟩
  | some ps =>
    obtain ⟨⟨r2, s2, b2⟩, hp, h⟩ := Res.bind_eq_ok h
    cases h
    exact ⟨_, _, hq, fun _ hps => by cases hps; exact ⟨_, hp⟩⟩

/-- a successful `crpReadN` of `k + 1` polynomials is one `qpRead` followed by `crpReadN` of `k` -/
theorem crpReadN_succ_ok {fuel : Nat} {qs ps : List Nat} {n k : Nat} {s s' : Bytes} {bs : QPBufs}
    {polys : List Poly} (h : crpReadN fuel qs ps n (k + 1) s bs = .ok (polys, s')) :
    ∃ rQ rP s1 bs1 rest,
      qpRead fuel (some qs) (if ps.isEmpty then none else some ps) (zeroPoly qs.length n)
        (zeroPoly ps.length n) s bs = .ok (rQ, rP, s1, bs1) ∧
      crpReadN fuel qs ps n k s1 bs1 = .ok (rest, s') ∧ polys = (rQ ++ rP) :: rest := by
  unfold crpReadN at h
  split at h
  · rename_i rQ rP s1 bs1 hq
    split at h
    · rename_i rest s2 hrest
      simp only [Sampler.Res.ok.injEq, Prod.mk.injEq] at h
      obtain ⟨rfl, rfl⟩ := h
      exact ⟨rQ, rP, s1, bs1, rest, hq, hrest, rfl⟩
    · cases h
    · cases h
  · cases h
  · cases h

/-- rows `i < qs.length` of `r` are reduced modulo `qs[i]` -/
def RowsReduced (qs : List Nat) (r : Poly) : Prop :=
  ∀ i row, i < qs.length → r[i]? = some row → ∀ c ∈ row, c < qs.getD i 0

/-- Every reference polynomial returned by `SampleCRP` (any CRS bytes, any request) is the
    concatenation of a Q part and a P part whose rows are reduced modulo the respective primes
    (C17 `uniform_range` applied to the two samplers). -/
theorem crp_reduced (fuel : Nat) (qs ps : List Nat) (n : Nat) :
    ∀ (count : Nat) (s : Bytes) (bs : QPBufs) (polys : List Poly) (s' : Bytes),
      crpReadN fuel qs ps n count s bs = .ok (polys, s') →
      ∀ pol ∈ polys, ∃ rQ rP, pol = rQ ++ rP ∧ RowsReduced qs rQ ∧ (ps.isEmpty = false → RowsReduced ps rP)
  | 0, s, bs, polys, s', h => by
      simp only [crpReadN, Sampler.Res.ok.injEq, Prod.mk.injEq] at h
      obtain ⟨rfl, _⟩ := h
      intro pol hp
      cases hp
  | k + 1, s, bs, polys, s', h => by
      obtain ⟨rQ, rP, s1, bs1, rest, hq, hrest, rfl⟩ := crpReadN_succ_ok h
      intro pol hp
      rcases List.mem_cons.mp hp with rfl | hp
      · obtain ⟨sm, bQ, hQ, hP⟩ := qpRead_ok _ _ _ _ _ _ _ _ _ _ _ hq
        refine ⟨rQ, rP, rfl, Lattigo.C17.uniform_range _ _ _ _ _ _ _ _ hQ, fun hne => ?_⟩
        obtain ⟨bP, hP⟩ := hP ps (by rw [hne]; rfl)
        exact Lattigo.C17.uniform_range _ _ _ _ _ _ _ _ hP
      · exact crp_reduced fuel qs ps n k _ _ _ _ hrest pol hp

/-- The Q part of the first reference polynomial of a `SampleCRP` is the unbuffered
    specification `specRows`: the big-endian 64-bit words of the CRS taken one after the other, masked, the words
    `≥ q_i` dropped (C17 `uniform_consumes` from fresh buffers) — no byte of the CRS is used twice or skipped. -/
theorem crp_is_stream_words (fuel : Nat) (qs ps : List Nat) (n k : Nat) (s s' : Bytes) (polys : List Poly)
    (h : crpReadN fuel qs ps n (k + 1) s ⟨Buf.new, Buf.new⟩ = .ok (polys, s')) :
    ∃ rQ rP rest s1 bQ, polys = (rQ ++ rP) :: rest ∧
      specRows .read qs (zeroPoly qs.length n) (wordsBE s) = some (rQ, wordsBE (pendingIn s1 bQ)) := by
  obtain ⟨rQ, rP, _, _, rest, hq, _, rfl⟩ := crpReadN_succ_ok h
  obtain ⟨sm, bQ, hQ, _⟩ := qpRead_ok _ _ _ _ _ _ _ _ _ _ _ hq
  obtain ⟨_, hspec, _⟩ := Lattigo.C17.uniform_consumes _ _ _ _ _ _ _ _ _ BufInv.new hQ
  exact ⟨rQ, rP, rest, sm, bQ, rfl, by simpa [pendingAtCall, Buf.new] using hspec⟩

/-- a party's copy of the CRS: the next `len` bytes of its keyed generator -/
def crsBytes (xof : XOF) (p : PRNG) (len : Nat) : Bytes := (p.read xof len).1

/-- **crs_determinism (byte level).**  Parties whose generators have the same key and stand at the same position
    hold the same CRS bytes (the stream is a function of the key: C17 `prng_reads_are_one_stream`), hence — every
    `SampleCRP` starting from fresh sampler buffers — the same sequence of calls gives them identical reference
    polynomials and leaves them at identical positions; a generator rebuilt from `Key()` and a `Reset()` one agree
    too (C17 `prng_key_replays`). -/
theorem crs_determinism (xof : XOF) (p₁ p₂ : PRNG) (len : Nat) (reqs : List CRPRequest)
    (hk : p₁.getKey = p₂.getKey) (hp : p₁.pos = p₂.pos) :
    crsBytes xof p₁ len = crsBytes xof p₂ len ∧
    runCRS reqs (crsBytes xof p₁ len) = runCRS reqs (crsBytes xof p₂ len) ∧
    runCRS reqs (crsBytes xof (PRNG.new p₁.getKey) len) = runCRS reqs (crsBytes xof p₁.reset len) := by
  have h : crsBytes xof p₁ len = crsBytes xof p₂ len := by
    cases p₁; cases p₂; simp only [PRNG.getKey] at hk; simp only at hp; subst hk; subst hp; rfl
  refine ⟨h, by rw [h], ?_⟩
  obtain ⟨_, hnew, _⟩ := Lattigo.C17.prng_key_replays xof p₁ len []
  obtain ⟨_, _, hreset, _⟩ := Lattigo.C17.prng_reads_are_one_stream xof p₁ len 0 []
  unfold crsBytes
  rw [hnew, hreset]

/-- two parties holding the same 1024 CRS bytes: two coefficients modulo 97 -/
example : runCRS [⟨[97], [], 2, 1⟩] (List.replicate 1024 7) = .ok ([[[[7, 7]]]], []) := by decide +kernel

example : crsBytes (fun k i => i + k.getD 0 0) (PRNG.new [7, 9]) 3 = [7, 8, 9] := by decide

end crs

/-! ## 8. Relinearisation rounds on the carrier the driver executes (`RPoly`) -/

section rkgRPoly
open Lattigo Lattigo.RPolyRing Lattigo.Transport Lattigo.Props.C14Ring
variable {qs : List ℕ} {n : ℕ} [Good qs n]

/-- component-wise sum of error pairs `(e0, e1)` (only `+` is needed) -/
def pairAddR (x y : RPoly × RPoly) : RPoly × RPoly := (x.1 + y.1, x.2 + y.2)

theorem zipPair_push (x y : Mat (WFPoly qs n × WFPoly qs n)) :
    (List.zipWith (List.zipWith pairAdd) x y).map (List.map (Prod.map val val)) =
      List.zipWith (List.zipWith pairAddR) (x.map (List.map (Prod.map val val))) (y.map (List.map (Prod.map val val))) :=
  zipWith_push _ _ _ _ _ (zipWith_push pairAdd pairAddR (Prod.map val val) _ _ fun _ _ => rfl) x y

theorem rkgVal1_push (s u : WFPoly qs n) (crp w : Mat (WFPoly qs n)) (e : Mat (WFPoly qs n × WFPoly qs n)) :
    (rkgVal1 s u crp w e).map (List.map (List.map val)) =
      matMap3 (fun a w (e : RPoly × RPoly) => rkgRoundOneRow a (val s) (val u) e.1 e.2 w)
        (crp.map (List.map val)) (w.map (List.map val)) (e.map (List.map (Prod.map val val))) := by
  unfold rkgVal1
  exact matMap3_push _ _ (List.map val) val val (Prod.map val val)
    (fun a w e => by simp only [rkgRoundOneRow, List.map_cons, List.map_nil, val_add, val_sub, val_mul, Prod.map]) crp w e

/-- On `RPoly` values with well-formed inputs: the aggregate (any tree) of the
    parties' round-one shares is the round-one share of `(Σ s_i, Σ u_i, Σ e0_i, Σ e1_i)`. -/
theorem rkg_round_one_collective_rpoly (crp w : Mat RPoly) (out : GShare RPoly) (s u : Nat → RPoly)
    (e : Nat → Mat (RPoly × RPoly)) (t : AggTree)
    (hs : ∀ i, WFq qs n (s i)) (hu : ∀ i, WFq qs n (u i))
    (he : ∀ i, ∀ r ∈ e i, ∀ p ∈ r, WFq qs n p.1 ∧ WFq qs n p.2)
    (hcrp : ∀ r ∈ crp, ∀ p ∈ r, WFq qs n p) (hw : ∀ r ∈ w, ∀ p ∈ r, WFq qs n p) :
    (t.eval rkgAggregate fun i => rkgRoundOne (s i) (u i) crp w (e i) out).val =
      (rkgRoundOne (t.eval (· + ·) s) (t.eval (· + ·) u) crp w
        (t.eval (List.zipWith (List.zipWith pairAddR)) e) out).val := by
  rw [rkg_eval_val]
  lift s to ℕ → WFPoly qs n using hs
  lift u to ℕ → WFPoly qs n using hu
  lift e to ℕ → Mat (WFPoly qs n × WFPoly qs n) using he
  lift crp to Mat (WFPoly qs n) using hcrp
  lift w to Mat (WFPoly qs n) using hw
  have h := congrArg (List.map (List.map (List.map val))) (rkg1_tree_val t s u e crp w)
  simp only [evalCubeAdd_push val_hom, rkgVal1_push, ← eval_add_val,
    ← t.eval_map (List.map (List.map (Prod.map val val))) fun x y => (zipPair_push x y).symm] at h
  exact h

theorem zipEntry_push (s u : WFPoly qs n) (r1 : Mat (List (WFPoly qs n))) (e2 : Mat (WFPoly qs n)) :
    (rkgVal2 s u r1 e2).map (List.map (List.map val)) =
      List.zipWith (List.zipWith (rkgRoundTwoEntry (val s) (val u))) (r1.map (List.map (List.map val)))
        (e2.map (List.map val)) :=
  zipWith_push _ _ _ _ _ (zipWith_push _ _ _ _ _ (rkgRoundTwoEntry_push val_hom s u)) r1 e2

/-- Same for round two, from one (well-formed) aggregated round-one share. -/
theorem rkg_round_two_collective_rpoly (round1 out : GShare RPoly) (s u : Nat → RPoly) (e2 : Nat → Mat RPoly)
    (t : AggTree) (hs : ∀ i, WFq qs n (s i)) (hu : ∀ i, WFq qs n (u i))
    (he : ∀ i, ∀ r ∈ e2 i, ∀ p ∈ r, WFq qs n p)
    (hr1 : ∀ r ∈ round1.val, ∀ l ∈ r, ∀ p ∈ l, WFq qs n p) :
    (t.eval rkgAggregate fun i => rkgRoundTwo (s i) (u i) round1 (e2 i) out).val =
      (rkgRoundTwo (t.eval (· + ·) s) (t.eval (· + ·) u) round1 (t.eval matAdd e2) out).val := by
  rw [rkg_eval_val]
  lift s to ℕ → WFPoly qs n using hs
  lift u to ℕ → WFPoly qs n using hu
  lift e2 to ℕ → Mat (WFPoly qs n) using he
  obtain ⟨r1, hr1'⟩ := CanLift.prf (β := Mat (List (WFPoly qs n))) round1.val hr1
  have h := congrArg (List.map (List.map (List.map val))) (rkg2_tree_val t s u e2 r1)
  simp only [evalCubeAdd_push val_hom, zipEntry_push, ← eval_add_val, evalMatAdd_push val_hom, hr1'] at h
  exact h

/-- instances obtained FROM THE THEOREMS (moduli 97, 193, degree 8, three parties), all hypotheses discharged -/
example :
    (t8.eval rkgAggregate fun i => rkgRoundOne (s8 i) (e8 i) [[a8]] [[a8]] [[(e8 i, s8 i)]] ⟨1, -1, 0, []⟩).val =
      (rkgRoundOne (t8.eval (· + ·) s8) (t8.eval (· + ·) e8) [[a8]] [[a8]]
        (t8.eval (List.zipWith (List.zipWith pairAddR)) fun i => [[(e8 i, s8 i)]]) ⟨1, -1, 0, []⟩).val :=
  rkg_round_one_collective_rpoly (qs := [97, 193]) (n := 8) _ _ _ s8 e8 _ t8
    (fun _ => ofInts_wf _ rfl) (fun _ => ofInts_wf _ rfl)
    (fun i r hr p hp => by
      simp only [List.mem_cons, List.not_mem_nil, or_false] at hr; subst hr
      simp only [List.mem_cons, List.not_mem_nil, or_false] at hp; subst hp
      exact ⟨ofInts_wf _ rfl, ofInts_wf _ rfl⟩)
    (by decide) (by decide)

example :
    (t8.eval rkgAggregate fun i => rkgRoundTwo (s8 i) (e8 i) ⟨1, -1, 0, [[[a8, a8]]]⟩ [[e8 i]] ⟨1, -1, 0, []⟩).val =
      (rkgRoundTwo (t8.eval (· + ·) s8) (t8.eval (· + ·) e8) ⟨1, -1, 0, [[[a8, a8]]]⟩
        (t8.eval matAdd fun i => [[e8 i]]) ⟨1, -1, 0, []⟩).val :=
  rkg_round_two_collective_rpoly (qs := [97, 193]) (n := 8) _ _ s8 e8 _ t8
    (fun _ => ofInts_wf _ rfl) (fun _ => ofInts_wf _ rfl)
    (fun i r hr p hp => by
      simp only [List.mem_cons, List.not_mem_nil, or_false] at hr; subst hr
      simp only [List.mem_cons, List.not_mem_nil, or_false] at hp; subst hp
      exact ofInts_wf _ rfl)
    (by decide)

end rkgRPoly

/-! ## 9. Aggregation does not depend on whether the shares travelled through serialization -/

section serialization
open Lattigo.Codec

/-- what the receiver of a serialized share holds: the value decoded from its encoding -/
def received (f : Fmt) (v : Val) : Val := ((dec f (enc f v)).map Prod.fst).getD .unit

theorem received_eq (f : Fmt) (v : Val) (h : WT f v) : received f v = v := by
  have := Lattigo.C08.roundtrip f v [] h
  rw [List.append_nil] at this
  simp [received, this]

/-- For every wire format `f` of the C08 codec model (`publicKeyGenShare`,
    `evalKeyGenShare`, `relinKeyGenShare`, `galoisKeyGenShare`, …), every aggregation operation `op` and every
    aggregation tree: aggregating the shares as RECEIVED (`UnmarshalBinary ∘ MarshalBinary`) gives the same result as
    aggregating the shares themselves, for all well-typed shares (C08 `roundtrip`).  With `agg_perm` the aggregate
    is the same whatever the order, grouping and transport of the shares. -/
theorem agg_serialization_independent {β : Type} (f : Fmt) (embed : Val → β) (op : β → β → β) (sh : Nat → Val)
    (t : AggTree) (h : ∀ i, WT f (sh i)) :
    t.eval op (fun i => embed (received f (sh i))) = t.eval op (fun i => embed (sh i)) := by
  have : (fun i => embed (received f (sh i))) = fun i => embed (sh i) := funext fun i => by rw [received_eq f _ (h i)]
  rw [this]

/-- a public-key share (`ringqp.Poly`: Q part with two rows of two words, P part with one row) survives the wire -/
example : received publicKeyGenShare
    (.pair (.list [.list [.num 5, .num 7], .list [.num 1, .num 2]]) (.list [.list [.num 3, .num 4]]))
    = .pair (.list [.list [.num 5, .num 7], .list [.num 1, .num 2]]) (.list [.list [.num 3, .num 4]]) :=
  received_eq _ _ (wtb_sound _ _ (by decide))

end serialization

end Lattigo.Props.C14

open Lattigo.Props.C14 in
#print axioms agg_perm
#print axioms Lattigo.Props.C14.agg_fold_perm
#print axioms Lattigo.Props.C14.agg_tree_eq_fold
#print axioms Lattigo.Props.C14.evk_agg_perm
#print axioms Lattigo.Props.C14.gal_agg_perm
#print axioms Lattigo.Props.C14.rkg_agg_perm
#print axioms Lattigo.Props.C14.cpk_phase
#print axioms Lattigo.Props.C14.cpk_eq_single
#print axioms Lattigo.Props.C14.cpk_fold_eq_single
#print axioms Lattigo.Props.C14.evk_row
#print axioms Lattigo.Props.C14.evk_collective_eq_single
#print axioms Lattigo.Props.C14.evk_key_assembled
#print axioms Lattigo.Props.C14.genEvaluationKey_ragged_ok
#print axioms Lattigo.Props.C14.genEvaluationKey_decomposition_rejected
#print axioms Lattigo.Props.C14.gal_share_eq_evk
#print axioms Lattigo.Props.C14.gal_collective_eq_single
#print axioms Lattigo.Props.C14.gal_noP_ok
#print axioms Lattigo.Props.C14.rkg_round_one_collective
#print axioms Lattigo.Props.C14.rkg_round_two_collective
#print axioms Lattigo.Props.C14.rkg_row
#print axioms Lattigo.Props.C14.mismatch_rejected_galEl
#print axioms Lattigo.Props.C14.mismatch_rejected_levelQ
#print axioms Lattigo.Props.C14.mismatch_rejected_levelP
#print axioms Lattigo.Props.C14.mismatch_rejected_crp
#print axioms Lattigo.Props.C14.mismatch_rejected_sk_level
#print axioms Lattigo.Props.C14.mismatch_rejected_decomposition
#print axioms Lattigo.Props.C14.mismatch_rejected_sk_levelP
#print axioms Lattigo.Props.C14.crp_reduced
#print axioms Lattigo.Props.C14.crp_is_stream_words
#print axioms Lattigo.Props.C14.crs_determinism
#print axioms Lattigo.Props.C14.rkg_round_one_collective_rpoly
#print axioms Lattigo.Props.C14.rkg_round_two_collective_rpoly
#print axioms Lattigo.Props.C14.agg_serialization_independent
