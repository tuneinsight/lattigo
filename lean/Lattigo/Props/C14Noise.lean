/-
  C14 — "noise below N times the single-party bound" for the collective keys.

  `Props/C14.lean` gives the exact error terms: `phase(cpk, Σ s_i) = Σ e_i` (`cpk_phase`), every evaluation / Galois
  key row is a single-party row for the ideal secrets with error `Σ_i e_i` (`evk_collective_eq_single`, `evk_row`),
  the relinearisation key row has error `s·E0 + u·E1 + E2` with `s = Σ s_i`, `u = Σ u_i`, `E_k = Σ_i e_k,i`
  (`rkg_row`).  Here their sizes over `Z[X]/(X^N+1)` = `Lattigo.ZPoly`, for ANY aggregation tree `t`
  (`n = t.leaves.length` parties; `d` the ring degree in the comments, `h ≥ ‖s_i‖₁` — `h ≤ d` for ternary secrets):

    * `cpk_noise_bound`            ‖Σ e_i‖∞ ≤ n·B                                    [n × single party]
    * `cpk_enc_noise_bound(_P)`    encryption under the collective key: ≤ B·(n·h_u + 1 + n·h)  (/P + rounding)
                                                                                       [≤ n × single party]
    * `collective_keyswitch_noise_bound`  key switch with a collective evk / Galois key:
                                   2P‖ν‖∞ ≤ 2·N·(n·B)·ΣD + P·(1 + n·h)                [≤ n × single party]
    * `rkg_noise_bound`            ‖s·E0 + u·E1 + E2‖∞ ≤ n·B·(n·h + n·h_u + 1)        [grows like n²·h·B —
                                   NOT n × the single-party bound `B·(h + h_u + 1)`; worst case, both the secret
                                   and the error are sums of n terms.  In standard deviations the growth is n
                                   (multiparty.NoiseRelinearizationKey), the worst-case ℓ∞ bound is quadratic.]
    * `collective_relin_noise_bound`  relinearisation with the collective key:
                                   2P‖ν‖∞ ≤ 2·N·(n·B·(n·h + n·h_u + 1))·ΣD + P·(1 + n·h)

  Relation to the harness (harness/c14_probe.go, `B` there is `⌈Xe.Bound⌉+1`, `h = h_u = d`):
    cpk probe bound      n·(2dB + B + d + 1)                ≥ B·(n·d + 1 + n·d) (no P) and ≥ that/P + (1+n·d)/2 + 1
    evk/gal probe bound  n·d·B·ΣD'/P + n·(d+1) + 1, D' = 2^w resp. (k_P+1)·ΠQ_i
                                                            ≥ d·(n·B)·ΣD/P + (1 + n·d)/2 + 1
    rlk probe bound      d·ΣD'·n·B·(2dn+1)/P + n(d+1) + 1   ≥ d·(n·B·(2nd+1))·ΣD/P + (1 + n·d)/2 + 1
  — each probe bound is ≥ the theorem's bound (term by term), so the probes cannot false-alarm.
-/
import Lattigo.Proofs.NoiseNorm
import Lattigo.Proofs.MPTree

namespace Lattigo.Props.C14
open Lattigo.MP Lattigo.ZPoly

theorem normInf_tree_le (t : AggTree) (e : Nat → List Int) (B : Nat)
    (h : ∀ i ∈ t.leaves, normInf (e i) ≤ B) : normInf (t.eval add e) ≤ t.leaves.length * B :=
  t.eval_le normInf normInf_add_le e B h

theorem norm1_tree_le (t : AggTree) (s : Nat → List Int) (h : Nat)
    (hs : ∀ i ∈ t.leaves, norm1 (s i) ≤ h) : norm1 (t.eval add s) ≤ t.leaves.length * h :=
  t.eval_le norm1 norm1_add_le s h hs

/-- `‖u·E + e0 + s·e1‖∞ ≤ h_u·B_E + B + h·B`: an encryption of zero under a key whose error is `E` -/
theorem normInf_encZero_le (u E e0 s e1 : List Int) (hu BE B h : Nat) (hu' : norm1 u ≤ hu)
    (hE : normInf E ≤ BE) (h0 : normInf e0 ≤ B) (hs : norm1 s ≤ h) (h1 : normInf e1 ≤ B) :
    normInf (add (add (mul u E) e0) (mul s e1)) ≤ hu * BE + B + h * B := by
  have a1 := normInf_add_le (add (mul u E) e0) (mul s e1)
  have a2 := normInf_add_le (mul u E) e0
  have m1 := Nat.le_trans (normInf_mul_le u E) (Nat.mul_le_mul hu' hE)
  have m2 := Nat.le_trans (normInf_mul_le s e1) (Nat.mul_le_mul hs h1)
  omega

/-- the collective public key's error `Σ e_i` (`cpk_phase`) is below `n` times the
    single-party bound. -/
theorem cpk_noise_bound (t : AggTree) (e : Nat → List Int) (B : Nat)
    (h : ∀ i ∈ t.leaves, normInf (e i) ≤ B) : normInf (t.eval add e) ≤ t.leaves.length * B :=
  normInf_tree_le t e B h

/-- encryption under the collective key, no auxiliary modulus: noise `u·E + e0 + s·e1` with `E = Σ e_i`,
    `s = Σ s_i`; single-party (`n = 1`): `B·(h_u + 1 + h)` (`noise_upper_pk_noP`). -/
theorem cpk_enc_noise_bound (t : AggTree) (e sk : Nat → List Int) (u e0 e1 : List Int) (B h hu : Nat)
    (he : ∀ i ∈ t.leaves, normInf (e i) ≤ B) (hs : ∀ i ∈ t.leaves, norm1 (sk i) ≤ h)
    (hu' : norm1 u ≤ hu) (h0 : normInf e0 ≤ B) (h1 : normInf e1 ≤ B) :
    normInf (add (add (mul u (t.eval add e)) e0) (mul (t.eval add sk) e1))
      ≤ B * (t.leaves.length * hu + 1 + t.leaves.length * h) := by
  rw [show B * (t.leaves.length * hu + 1 + t.leaves.length * h)
      = hu * (t.leaves.length * B) + B + t.leaves.length * h * B by ring]
  exact normInf_encZero_le u _ e0 _ e1 hu _ B _ hu' (normInf_tree_le t e B he) h0 (norm1_tree_le t sk h hs) h1

/-- … with auxiliary modulus: `P·ν = (u·E + e0 + s·e1) − δ0 − s·δ1`, centred `δ` -/
theorem cpk_enc_noise_bound_P (P : Nat) (t : AggTree) (e sk : Nat → List Int) (u e0 e1 ν δ0 δ1 : List Int)
    (B h hu : Nat)
    (hrel : smul P ν = sub (sub (add (add (mul u (t.eval add e)) e0) (mul (t.eval add sk) e1)) δ0)
      (mul (t.eval add sk) δ1))
    (hd0 : 2 * normInf δ0 ≤ P) (hd1 : 2 * normInf δ1 ≤ P)
    (he : ∀ i ∈ t.leaves, normInf (e i) ≤ B) (hs : ∀ i ∈ t.leaves, norm1 (sk i) ≤ h)
    (hu' : norm1 u ≤ hu) (h0 : normInf e0 ≤ B) (h1 : normInf e1 ≤ B) :
    2 * (P * normInf ν) ≤ 2 * (B * (t.leaves.length * hu + 1 + t.leaves.length * h))
      + P * (1 + t.leaves.length * h) :=
  rounding_bound P ν _ δ0 δ1 _ _ _ hrel hd0 hd1 (cpk_enc_noise_bound t e sk u e0 e1 B h hu he hs hu' h0 h1)
    (norm1_tree_le t sk h hs)

/-- every entry of the collective key's error matrix is a sum over the parties of errors bounded by `B` -/
def CollectiveErr (t : AggTree) (B : Nat) (es : List (List (List Int))) : Prop :=
  ∀ r ∈ es, ∀ E ∈ r, ∃ e : Nat → List Int, E = t.eval add e ∧ ∀ i ∈ t.leaves, normInf (e i) ≤ B

theorem collectiveErr_bounded (t : AggTree) (B : Nat) (es : List (List (List Int)))
    (h : CollectiveErr t B es) : ErrBounded (t.leaves.length * B) es := by
  intro r hr E hE
  obtain ⟨e, rfl, he⟩ := h r hr E hE
  exact normInf_tree_le t e B he

/-- key switching with a collective evaluation (or Galois) key — every row
    error is `Σ_i e_ij,i` (`evk_collective_eq_single`), the output secret is `Σ s_out,i`:
    `2P‖ν‖∞ ≤ 2·N·(n·B)·ΣD + P·(1 + n·h)` — at most `n` times the single-party bound `2·N·B·ΣD + P·(1 + h)`. -/
theorem collective_keyswitch_noise_bound (N P B h : Nat) (t : AggTree) (ds es : List (List (List Int)))
    (Dss : List (List Nat)) (ν ρ0 ρ1 : List Int) (sk : Nat → List Int)
    (hd : DigitsBounded N ds Dss) (he : CollectiveErr t B es)
    (hrel : smul P ν = sub (sub (dotMatZ N ds es) ρ0) (mul (t.eval add sk) ρ1))
    (h0 : 2 * normInf ρ0 ≤ P) (h1 : 2 * normInf ρ1 ≤ P) (hs : ∀ i ∈ t.leaves, norm1 (sk i) ≤ h) :
    2 * (P * normInf ν) ≤ 2 * (N * (t.leaves.length * B) * sumSum Dss) + P * (1 + t.leaves.length * h) :=
  rounding_bound P ν _ ρ0 ρ1 _ _ _ hrel h0 h1
    (normInf_dotMatZ_le_of_bounds N _ ds es Dss hd (collectiveErr_bounded t B es he)) (norm1_tree_le t sk h hs)

/-- "below `n` times the single-party bound", literally: the right-hand side above is `≤ n·(2·N·B·ΣD + P·(1 + h))` -/
theorem collective_le_n_times_single (N P B h n S : Nat) (hn : 1 ≤ n) :
    2 * (N * (n * B) * S) + P * (1 + n * h) ≤ n * (2 * (N * B * S) + P * (1 + h)) := by
  have e1 : n * (2 * (N * B * S) + P * (1 + h)) = 2 * (N * (n * B) * S) + (n * P + P * (n * h)) := by ring
  have e2 : P * (1 + n * h) = P + P * (n * h) := by ring
  have : P ≤ n * P := Nat.le_mul_of_pos_left P hn
  omega

/-- the row error `s·E0 + u·E1 + E2` of the collective relinearisation key
    (`rkg_row`), with `s = Σ s_i`, `u = Σ u_i`, `E_k = Σ_i e_k,i`, satisfies
    `‖s·E0 + u·E1 + E2‖∞ ≤ n·B·(n·h + n·h_u + 1)`.  Single party: `B·(h + h_u + 1)`; the collective bound is
    `n²`-ish, not `n` times that. -/
theorem rkg_noise_bound (t : AggTree) (sk uk e0 e1 e2 : Nat → List Int) (B h hu : Nat)
    (hs : ∀ i ∈ t.leaves, norm1 (sk i) ≤ h) (hu' : ∀ i ∈ t.leaves, norm1 (uk i) ≤ hu)
    (h0 : ∀ i ∈ t.leaves, normInf (e0 i) ≤ B) (h1 : ∀ i ∈ t.leaves, normInf (e1 i) ≤ B)
    (h2 : ∀ i ∈ t.leaves, normInf (e2 i) ≤ B) :
    normInf (add (add (mul (t.eval add sk) (t.eval add e0)) (mul (t.eval add uk) (t.eval add e1))) (t.eval add e2))
      ≤ t.leaves.length * B * (t.leaves.length * h + t.leaves.length * hu + 1) := by
  have a1 := normInf_add_le (add (mul (t.eval add sk) (t.eval add e0)) (mul (t.eval add uk) (t.eval add e1)))
    (t.eval add e2)
  have a2 := normInf_add_le (mul (t.eval add sk) (t.eval add e0)) (mul (t.eval add uk) (t.eval add e1))
  have m1 := Nat.le_trans (normInf_mul_le (t.eval add sk) (t.eval add e0))
    (Nat.mul_le_mul (norm1_tree_le t sk h hs) (normInf_tree_le t e0 B h0))
  have m2 := Nat.le_trans (normInf_mul_le (t.eval add uk) (t.eval add e1))
    (Nat.mul_le_mul (norm1_tree_le t uk hu hu') (normInf_tree_le t e1 B h1))
  have m3 := normInf_tree_le t e2 B h2
  have e : t.leaves.length * B * (t.leaves.length * h + t.leaves.length * hu + 1)
      = t.leaves.length * h * (t.leaves.length * B) + t.leaves.length * hu * (t.leaves.length * B)
        + t.leaves.length * B := by ring
  omega

/-- the quadratic growth is attained (so no `n × single-party` bound can hold): `N = 1` (`Z[X]/(X+1) = ℤ`),
    `n = 2` parties with `s_i = u_i = e_k,i = 1` (`B = h = h_u = 1`): the error is `2·2 + 2·2 + 2 = 10 = n·B·(2n + 1)`,
    while `n` times the single-party bound `B·(h + h_u + 1) = 3` is `6`. -/
theorem rkg_noise_quadratic_witness :
    let t := AggTree.node (.leaf 0) (.leaf 1)
    let c : Nat → List Int := fun _ => [1]
    normInf (add (add (mul (t.eval add c) (t.eval add c)) (mul (t.eval add c) (t.eval add c))) (t.eval add c)) = 10
      ∧ t.leaves.length * (1 * (1 + 1 + 1)) = 6 := by decide

/-- relinearisation with the collective key (rows `w·s² + (s·E0 + u·E1 + E2)`). -/
theorem collective_relin_noise_bound (N P B h hu : Nat) (t : AggTree) (ds es : List (List (List Int)))
    (Dss : List (List Nat)) (ν ρ0 ρ1 : List Int) (sk : Nat → List Int)
    (hd : DigitsBounded N ds Dss)
    (he : ErrBounded (t.leaves.length * B * (t.leaves.length * h + t.leaves.length * hu + 1)) es)
    (hrel : smul P ν = sub (sub (dotMatZ N ds es) ρ0) (mul (t.eval add sk) ρ1))
    (h0 : 2 * normInf ρ0 ≤ P) (h1 : 2 * normInf ρ1 ≤ P) (hs : ∀ i ∈ t.leaves, norm1 (sk i) ≤ h) :
    2 * (P * normInf ν)
      ≤ 2 * (N * (t.leaves.length * B * (t.leaves.length * h + t.leaves.length * hu + 1)) * sumSum Dss)
        + P * (1 + t.leaves.length * h) :=
  rounding_bound P ν _ ρ0 ρ1 _ _ _ hrel h0 h1 (normInf_dotMatZ_le_of_bounds N _ ds es Dss hd he)
    (norm1_tree_le t sk h hs)

/-- three parties on `N = 2`, tree `((0 1) 2)`, errors bounded by `B = 2`: `‖Σ e_i‖∞ = 4 ≤ 3·2` -/
example :
    let t := AggTree.node (.node (.leaf 0) (.leaf 1)) (.leaf 2)
    let e : Nat → List Int := fun i => if i = 0 then [2, -1] else if i = 1 then [1, -2] else [1, 1]
    (∀ i ∈ t.leaves, normInf (e i) ≤ 2) ∧ t.eval add e = [4, -2] ∧ t.leaves.length = 3 := by decide

/-- hypotheses of `rkg_noise_bound` on the same tree with ternary secrets of weight `≤ 1` -/
example :
    let t := AggTree.node (.node (.leaf 0) (.leaf 1)) (.leaf 2)
    let s : Nat → List Int := fun i => if i = 0 then [1, 0] else if i = 1 then [0, -1] else [1, 0]
    (∀ i ∈ t.leaves, norm1 (s i) ≤ 1) ∧ norm1 (t.eval add s) = 3 := by decide

end Lattigo.Props.C14

#print axioms Lattigo.Props.C14.cpk_noise_bound
#print axioms Lattigo.Props.C14.cpk_enc_noise_bound
#print axioms Lattigo.Props.C14.cpk_enc_noise_bound_P
#print axioms Lattigo.Props.C14.collective_keyswitch_noise_bound
#print axioms Lattigo.Props.C14.collective_le_n_times_single
#print axioms Lattigo.Props.C14.rkg_noise_bound
#print axioms Lattigo.Props.C14.rkg_noise_quadratic_witness
#print axioms Lattigo.Props.C14.collective_relin_noise_bound
