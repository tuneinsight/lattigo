/-
  C14 on the carrier the driver executes.

  `Props/C14.lean` proves `agg_perm`, `cpk_phase`, `cpk_eq_single`, `evk_row`, `evk_collective_eq_single`,
  `gal_collective_eq_single`, `rkg_round_*_collective`, `rkg_row` for the generic functions of
  `Model/MPShare.lean` over EVERY commutative ring (resp. additive commutative semigroup); the driver
  (`Driver/C14.lean`) runs them on plain `RPoly` values.  Here they are instantiated at the commutative
  ring `WFPoly qs n` (`Proofs/RPolyRing.lean`) and transported to `RPoly`:

    hypotheses = well-formedness of the INPUTS (`WFq qs n a` : `a.qs = qs ∧ a.WF n`);
    conclusion = the same identity between `RPoly` values / the same `Res` results.

  For the two "collective = single" theorems the structural part of the generic proof (validation of
  levels and shapes, `evalM`, `Deg0`) only needs `+ * −` and is used at `α := RPoly` directly; the part
  that needs the ring laws (`evk_tree_val`: the sum of the shares is the share of the sums) is the
  generic lemma instantiated at `WFPoly qs n` and transported (`evk_tree_val_rpoly`).

  NOT transported (reason):
  * `crs_determinism`, `mismatch_rejected_*`, `evk_key_assembled`, `genEvaluationKey_*`,
    `gal_share_eq_evk`: no ring law is used — they hold at `α := RPoly` as they are (`[Add β]` only);
  * the noise BOUND (norm of `Σ e_i`): not a ring identity (`Props/C14Noise.lean` works over `ZPoly`).
-/
import Lattigo.Proofs.RPolyTransport
import Lattigo.Proofs.MPKeys
import Driver.C14


namespace Lattigo.Props.C14Ring
open Lattigo Lattigo.MP Lattigo.RPolyRing Lattigo.Transport

section naturality
variable {α β : Type} [Add α] [Mul α] [Neg α] [Sub α] [Add β] [Mul β] [Neg β] [Sub β]
variable {φ : α → β} (hφ : OpsHom φ)
include hφ

theorem rkgRoundTwoEntry_push (s u : α) (h : List α) (e2 : α) :
    (rkgRoundTwoEntry s u h e2).map φ = rkgRoundTwoEntry (φ s) (φ u) (h.map φ) (φ e2) := by
  match h with
  | [] => rfl
  | [_] => rfl
  | h0 :: h1 :: _ => simp only [rkgRoundTwoEntry, rkgRoundTwoRow, List.map_cons, List.map_nil, hφ.add, hφ.sub, hφ.mul]

set_option linter.unusedSectionVars false in
omit hφ in
theorem rkgKeyEntry_push (φ : α → β) (x y : List α) :
    (rkgKeyEntry x y).map φ = rkgKeyEntry (x.map φ) (y.map φ) := by
  match x, y with
  | [], _ => rfl
  | _ :: _, [] => rfl
  | _ :: _, [_] => rfl
  | r2 :: _, _ :: h1 :: _ => rfl

theorem vecAdd_push (x y : List α) : (vecAdd x y).map φ = vecAdd (x.map φ) (y.map φ) :=
  zipWith_push _ _ φ φ φ hφ.add x y

theorem matAdd_push (x y : Mat α) : (matAdd x y).map (List.map φ) = matAdd (x.map (List.map φ)) (y.map (List.map φ)) :=
  zipWith_push _ _ _ _ _ (vecAdd_push hφ) x y

theorem cubeAdd_push (x y : Mat (List α)) :
    (cubeAdd x y).map (List.map (List.map φ))
      = cubeAdd (x.map (List.map (List.map φ))) (y.map (List.map (List.map φ))) :=
  zipWith_push _ _ _ _ _ (zipWith_push _ _ _ _ _ (vecAdd_push hφ)) x y

theorem evalMatAdd_push (t : AggTree) (f : Nat → Mat α) :
    (t.eval matAdd f).map (List.map φ) = t.eval matAdd (fun i => (f i).map (List.map φ)) :=
  (t.eval_map (List.map (List.map φ)) (fun x y => (matAdd_push hφ x y).symm) f).symm

theorem evalCubeAdd_push (t : AggTree) (f : Nat → Mat (List α)) :
    (t.eval cubeAdd f).map (List.map (List.map φ))
      = t.eval cubeAdd (fun i => (f i).map (List.map (List.map φ))) :=
  (t.eval_map (List.map (List.map (List.map φ))) (fun x y => (cubeAdd_push hφ x y).symm) f).symm

end naturality

section rpoly
variable {qs : List ℕ} {n : ℕ} [Good qs n]

/-- The aggregate of well-formed shares along any two trees whose leaves are
permutations of each other is the same `RPoly` (hypothesis on the LEAVES only: the driver's `agg` op passes
`fun i => polys[i]!`). -/
theorem agg_perm_rpoly (t₁ t₂ : AggTree) (sh : Nat → RPoly) (h : t₁.leaves.Perm t₂.leaves)
    (hsh : ∀ i ∈ t₁.leaves, WFq qs n (sh i)) :
    t₁.eval (· + ·) sh = t₂.eval (· + ·) sh := by
  obtain ⟨sh', hsh'⟩ := exists_lift_leaves t₁ sh hsh
  rw [eval_congr _ t₁ sh (fun i => val (sh' i)) (fun i hi => (hsh' i hi).symm),
    eval_congr _ t₂ sh (fun i => val (sh' i)) (fun i hi => (hsh' i (h.mem_iff.mpr hi)).symm),
    eval_add_val, eval_add_val, AggTree.eval_perm t₁ t₂ sh' h]

theorem cpk_tree_val (a : RPoly) (ha : WFq qs n a) (s e : Nat → WFPoly qs n) (t : AggTree) :
    t.eval cpkAggregate (fun i => cpkShare a (val (s i)) (val (e i))) =
      cpkShare a (val (t.eval (· + ·) s)) (val (t.eval (· + ·) e)) :=
  t.eval_map₂ (fun x y => cpkShare a (val x) (val y))
    (fun x y x' y' => congrArg val (cpkShare_add (lift a ha) x y x' y')) s e

/-- `phase(cpk, Σ s_i) = Σ e_i`, for the aggregate along any tree. -/
theorem cpk_phase_rpoly (a : RPoly) (s e : Nat → RPoly) (t : AggTree) (ha : WFq qs n a)
    (hs : ∀ i, WFq qs n (s i)) (he : ∀ i, WFq qs n (e i)) :
    phase (t.eval cpkAggregate fun i => cpkShare a (s i) (e i)) a (t.eval (· + ·) s) =
      t.eval (· + ·) e := by
  lift s to ℕ → WFPoly qs n using hs
  lift e to ℕ → WFPoly qs n using he
  rw [cpk_tree_val a ha, eval_add_val, eval_add_val]
  exact congrArg val (cpk_phase_single (lift a ha) _ _)

/-- `GenPublicKey` of the aggregate is exactly the single-party key for `Σ s_i`,
mask `a`, error `Σ e_i`. -/
theorem cpk_eq_single_rpoly (a : RPoly) (s e : Nat → RPoly) (t : AggTree) (ha : WFq qs n a)
    (hs : ∀ i, WFq qs n (s i)) (he : ∀ i, WFq qs n (e i)) :
    genPublicKey (t.eval cpkAggregate fun i => cpkShare a (s i) (e i)) a =
      pkOf a (t.eval (· + ·) s) (t.eval (· + ·) e) := by
  lift s to ℕ → WFPoly qs n using hs
  lift e to ℕ → WFPoly qs n using he
  rw [eval_add_val, eval_add_val]
  exact congrArg (·, a) (cpk_tree_val a ha s e t)

/-- One row of an evaluation-key share: `phase = w·s_in + e`. -/
theorem evk_row_rpoly (a w sOut e sIn : RPoly) (ha : WFq qs n a) (hw : WFq qs n w) (hsOut : WFq qs n sOut)
    (he : WFq qs n e) (hsIn : WFq qs n sIn) :
    phase (evkShareRow a sOut e w sIn) a sOut = w * sIn + e := by
  -- no tree here: `val` commutes with `+ * −` by definition
  exact congrArg val (evk_row_phase (lift a ha) (lift w hw) (lift sOut hsOut) (lift e he) (lift sIn hsIn))

/-- After round two, the assembled relinearisation-key row encrypts `w·s²` under `s`
with the exact error `s·E0 + u·E1 + E2`. -/
theorem rkg_row_rpoly (a w s u E0 E1 E2 : RPoly) (ha : WFq qs n a) (hw : WFq qs n w) (hs : WFq qs n s)
    (hu : WFq qs n u) (h0 : WFq qs n E0) (h1 : WFq qs n E1) (h2 : WFq qs n E2) :
    ∃ b c, rkgKeyEntry (rkgRoundTwoEntry s u (rkgRoundOneRow a s u E0 E1 w) E2)
             (rkgRoundOneRow a s u E0 E1 w) = [b, c] ∧
           phase b c s = w * (s * s) + (s * E0 + u * E1 + E2) ∧ WFq qs n b ∧ WFq qs n c :=
  -- no tree here: `val` commutes with `+ * −` by definition, so both sides unfold to the same `RPoly`
  ⟨_, _, rfl,
    congrArg val (rkg_row_phase (lift a ha) (lift w hw) (lift s hs) (lift u hu) (lift E0 h0) (lift E1 h1) (lift E2 h2)),
    ((((h0.add (hw.mul hs)).sub (hu.mul ha)).mul hs).add h2).add ((hu.sub hs).mul (h1.add (hs.mul ha))),
    h1.add (hs.mul ha)⟩

theorem evkVal_push (sIn sOut : WFPoly qs n) (crp w e : Mat (WFPoly qs n)) :
    (evkVal sIn sOut crp w e).map (List.map (List.map val))
      = evkVal (val sIn) (val sOut) (crp.map (List.map val)) (w.map (List.map val)) (e.map (List.map val)) := by
  exact matMap3_push _ _ (List.map val) val val val
    (fun a w e => by simp only [List.map_cons, List.map_nil, evkShareRow, val_add, val_sub, val_mul]) crp w e

/-- the sum of the parties' share arrays is the share array of the summed secrets and errors — the
ring-law part of `evk_collective_eq_single`, from the generic `evk_tree_val` at `WFPoly qs n` -/
theorem evk_tree_val_rpoly (t : AggTree) (sIn sOut : Nat → RPoly) (e : Nat → Mat RPoly) (crp w : Mat RPoly)
    (hsIn : ∀ i, WFq qs n (sIn i)) (hsOut : ∀ i, WFq qs n (sOut i))
    (he : ∀ i, ∀ r ∈ e i, ∀ p ∈ r, WFq qs n p)
    (hcrp : ∀ r ∈ crp, ∀ p ∈ r, WFq qs n p) (hw : ∀ r ∈ w, ∀ p ∈ r, WFq qs n p) :
    t.eval cubeAdd (fun i => evkVal (sIn i) (sOut i) crp w (e i)) =
      evkVal (t.eval (· + ·) sIn) (t.eval (· + ·) sOut) crp w (t.eval matAdd e) := by
  lift sIn to ℕ → WFPoly qs n using hsIn
  lift sOut to ℕ → WFPoly qs n using hsOut
  lift e to ℕ → Mat (WFPoly qs n) using he
  lift crp to Mat (WFPoly qs n) using hcrp
  lift w to Mat (WFPoly qs n) using hw
  simpa only [evalCubeAdd_push val_hom, evkVal_push, ← eval_add_val, evalMatAdd_push val_hom] using
    congrArg (List.map (List.map (List.map val))) (evk_tree_val t sIn sOut e crp w)

/-- Every party `i` calls `GenShare` with `(sIn i, sOut i)` and its
errors `e i` on the same CRP; the shares are aggregated along `t` (each step into the receiver `recv x`).
Then every call succeeds and the aggregate is EXACTLY what the single-party generator writes for
`(Σ sIn, Σ sOut, Σ e)` — on `RPoly` values. -/
theorem evk_collective_eq_single_rpoly (lvIn lvOut : Nat) (lvInP lvOutP : Int) (crp w : Mat RPoly)
    (out : GShare RPoly) (sIn sOut : Nat → RPoly) (e : Nat → Mat RPoly) (t : AggTree)
    (hl : out.levelQ ≤ min lvIn lvOut) (hlp : out.levelP ≤ min lvInP lvOutP)
    (hs : shapeOf out.val = shapeOf crp)
    (hw : shapeOf w = shapeOf crp) (he : ∀ i ∈ t.leaves, shapeOf (e i) = shapeOf crp)
    (recv : GShare RPoly → GShare RPoly)
    (hrecv : ∀ s, Compat out.levelQ out.levelP out.base2 (shapeOf crp) s →
      Compat out.levelQ out.levelP out.base2 (shapeOf crp) (recv s))
    (hsInW : ∀ i, WFq qs n (sIn i)) (hsOutW : ∀ i, WFq qs n (sOut i))
    (heW : ∀ i, ∀ r ∈ e i, ∀ p ∈ r, WFq qs n p)
    (hcrpW : ∀ r ∈ crp, ∀ p ∈ r, WFq qs n p) (hwW : ∀ r ∈ w, ∀ p ∈ r, WFq qs n p) :
    ∃ shares : Nat → GShare RPoly,
      (∀ i, evkGenShare lvIn lvOut lvInP lvOutP (sIn i) (sOut i) crp w (e i) out = .ok (shares i)) ∧
      ∃ g, t.evalM (fun x y => evkAggregate x y (recv x)) shares = .ok g ∧
        g.levelQ = out.levelQ ∧ g.levelP = out.levelP ∧
        evkGenShare lvIn lvOut lvInP lvOutP (t.eval (· + ·) sIn) (t.eval (· + ·) sOut) crp w
            (t.eval matAdd e) out
          = .ok { out with val := g.val } := by
  obtain ⟨g, hg, hq, hp, vg⟩ := evk_collective_val crp w out sIn sOut e t hw he recv hrecv
  exact ⟨_, fun i => evkGenShare_ok _ _ _ _ (sIn i) (sOut i) crp w (e i) out hl hlp hs, g, hg, hq, hp, by
    rw [evkGenShare_ok _ _ _ _ _ _ _ _ _ _ hl hlp hs, vg,
      evk_tree_val_rpoly t sIn sOut e crp w hsInW hsOutW heW hcrpW hwW]⟩

/-- an additive map commutes with aggregation: `Σ σ⁻¹(s_i) = σ⁻¹(Σ s_i)` for `σ⁻¹ = RPoly.aut g` -/
theorem tree_aut_rpoly (g : ℕ) (hg : Odd g) (hgc : Nat.Coprime g n) (t : AggTree) (s : Nat → RPoly)
    (hs : ∀ i, WFq qs n (s i)) :
    t.eval (· + ·) (fun i => (s i).aut g) = (t.eval (· + ·) s).aut g := by
  lift s to ℕ → WFPoly qs n using hs
  rw [eval_add_val]
  exact (eval_add_val t _).trans (congrArg val (tree_map_add (WFPoly.autRingHom g hg hgc) t s))

/-- `σ⁻¹ = RPoly.aut ginv` (`ginv` odd, coprime to `n`: the driver's
`galInv galEl n`): the aggregate of the parties' Galois shares is exactly the single-party share for
`Σ s_i` (output secret `σ⁻¹(Σ s_i)`), tagged with `galEl` — for every `LevelP ≥ −1`. -/
theorem gal_collective_eq_single_rpoly (ginv : ℕ) (hg : Odd ginv) (hgc : Nat.Coprime ginv n)
    (skLvl bufLvl : Nat) (skLvlP bufLvlP : Int) (galEl : Nat) (crp w : Mat RPoly)
    (out : GalShare RPoly) (s : Nat → RPoly) (e : Nat → Mat RPoly) (t : AggTree)
    (hl : out.sh.levelQ ≤ min skLvl bufLvl) (hlp : out.sh.levelP ≤ min skLvlP bufLvlP)
    (hs : shapeOf out.sh.val = shapeOf crp)
    (hw : shapeOf w = shapeOf crp) (he : ∀ i ∈ t.leaves, shapeOf (e i) = shapeOf crp)
    (hsW : ∀ i, WFq qs n (s i)) (heW : ∀ i, ∀ r ∈ e i, ∀ p ∈ r, WFq qs n p)
    (hcrpW : ∀ r ∈ crp, ∀ p ∈ r, WFq qs n p) (hwW : ∀ r ∈ w, ∀ p ∈ r, WFq qs n p) :
    ∃ shares : Nat → GalShare RPoly,
      (∀ i, galGenShare (fun p => p.aut ginv) skLvl bufLvl skLvlP bufLvlP (s i) galEl crp w (e i) out
          = .ok (shares i)) ∧
      ∃ g, t.evalM (fun x y => galAggregate x y x) shares = .ok g ∧ g.galEl = galEl ∧
        galGenShare (fun p => p.aut ginv) skLvl bufLvl skLvlP bufLvlP (t.eval (· + ·) s) galEl crp w
            (t.eval matAdd e) out
          = .ok ⟨galEl, { out.sh with val := g.sh.val }⟩ := by
  obtain ⟨g, hg', tg, vg⟩ := gal_collective_val galEl crp w out s (fun i => (s i).aut ginv) e t hw he
  exact ⟨_, fun i => galGenShare_ok _ _ _ _ _ (s i) galEl crp w (e i) out hl hlp hs, g, hg', tg, by
    rw [galGenShare_ok _ _ _ _ _ _ _ _ _ _ _ hl hlp hs, vg,
      evk_tree_val_rpoly t s _ e crp w hsW (fun i => (hsW i).aut ginv hgc) heW hcrpW hwW,
      tree_aut_rpoly ginv hg hgc t s hsW]⟩

end rpoly

section driver
open Driver.C14

/-- the `cpk_share` handler calls `cpkShare` on `RPoly` values: the CRP as parsed, the secret and the
error as residues of the integer vectors (`RPoly.ofInts`, well formed by `ofInts_wf`) -/
theorem handle_cpk_share_calls (qs ps n a s e : String) (qsv psv : List ℕ) (am : List (List ℕ))
    (sv ev : List ℤ)
    (h1 : Driver.parseVec? qs = some qsv) (h2 : Driver.parseVec? ps = some psv)
    (h3 : Driver.parseMat? a = some am) (h4 : Driver.parseIVec? s = some sv)
    (h5 : Driver.parseIVec? e = some ev) :
    handleOpt ["cpk_share", qs, ps, n, a, s, e]
      = some (Driver.showMat (cpkShare (⟨qsv ++ psv, am⟩ : RPoly) (RPoly.ofInts (qsv ++ psv) sv)
          (RPoly.ofInts (qsv ++ psv) ev)).c) :=
  bind_of_eq_some h1 (bind_of_eq_some h2 (bind_of_eq_some h3 (bind_of_eq_some h4 (bind_of_eq_some h5 rfl))))

/-- the `evk_agg` handler calls `evkAggregate` on the three parsed shares -/
theorem handle_evk_agg_calls (qs ps n : String) (rest : List String) (qsv psv : List ℕ)
    (g1 g2 g3 : GShare RPoly) (r1 r2 : List String)
    (h1 : Driver.parseVec? qs = some qsv) (h2 : Driver.parseVec? ps = some psv)
    (h3 : parseG? qsv psv rest = some (g1, r1)) (h4 : parseG? qsv psv r1 = some (g2, r2))
    (h5 : parseG? qsv psv r2 = some (g3, [])) :
    handleOpt ("evk_agg" :: qs :: ps :: n :: rest) = some (showRes (evkAggregate g1 g2 g3)) :=
  bind_of_eq_some h1 (bind_of_eq_some h2 (bind_of_eq_some h3 (bind_of_eq_some h4 (bind_of_eq_some h5 rfl))))

end driver

section concrete

instance good8 : Good [97, 193] 8 := ⟨by decide, by decide⟩

def a8 : RPoly := ⟨[97, 193], [[1, 2, 3, 4, 5, 6, 7, 8], [10, 20, 30, 40, 50, 60, 70, 80]]⟩
def s8 (i : Nat) : RPoly := RPoly.ofInts [97, 193] [1, -1, 0, (i : ℤ) % 2, 0, 0, -1, 1]
def e8 (i : Nat) : RPoly := RPoly.ofInts [97, 193] [1, 0, -1, 0, 2, 0, -2, (i : ℤ) % 3]
def t8 : AggTree := .node (.node (.leaf 0) (.leaf 1)) (.leaf 2)
def t8' : AggTree := .node (.leaf 2) (.node (.leaf 1) (.leaf 0))

/-- instances obtained FROM THE THEOREMS, all hypotheses discharged -/
example : phase (t8.eval cpkAggregate fun i => cpkShare a8 (s8 i) (e8 i)) a8 (t8.eval (· + ·) s8)
    = t8.eval (· + ·) e8 :=
  cpk_phase_rpoly (qs := [97, 193]) (n := 8) a8 s8 e8 t8 (by decide) (fun _ => ofInts_wf _ rfl)
    (fun _ => ofInts_wf _ rfl)

example : t8.eval (· + ·) (fun i => cpkShare a8 (s8 i) (e8 i)) = t8'.eval (· + ·) (fun i => cpkShare a8 (s8 i) (e8 i)) :=
  agg_perm_rpoly (qs := [97, 193]) (n := 8) t8 t8' _ (by decide)
    (fun i _ => by
      have : WFq [97, 193] 8 a8 := by decide
      have hs : WFq [97, 193] 8 (s8 i) := ofInts_wf _ rfl
      have he : WFq [97, 193] 8 (e8 i) := ofInts_wf _ rfl
      unfold cpkShare
      exact he.sub (hs.mul this))

/-- TEST (evaluation of the model on these values) -/
example : phase (t8.eval cpkAggregate fun i => cpkShare a8 (s8 i) (e8 i)) a8 (t8.eval (· + ·) s8)
    = t8.eval (· + ·) e8 := by decide +kernel

example : (t8.eval (· + ·) e8).c = [[3, 0, 94, 0, 6, 0, 91, 3], [3, 0, 190, 0, 6, 0, 187, 3]] := by
  decide +kernel

end concrete

end Lattigo.Props.C14Ring

#print axioms Lattigo.Props.C14Ring.agg_perm_rpoly
#print axioms Lattigo.Props.C14Ring.cpk_phase_rpoly
#print axioms Lattigo.Props.C14Ring.cpk_eq_single_rpoly
#print axioms Lattigo.Props.C14Ring.evk_row_rpoly
#print axioms Lattigo.Props.C14Ring.rkg_row_rpoly
#print axioms Lattigo.Props.C14Ring.evk_tree_val_rpoly
#print axioms Lattigo.Props.C14Ring.evk_collective_eq_single_rpoly
#print axioms Lattigo.Props.C14Ring.gal_collective_eq_single_rpoly
#print axioms Lattigo.Props.C14Ring.handle_cpk_share_calls
#print axioms Lattigo.Props.C14Ring.handle_evk_agg_calls
