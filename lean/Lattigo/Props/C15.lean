/-
  C15 — t-out-of-N threshold secret sharing (`multiparty/threshold.go`).

  STATUS (all theorems for all ring degrees, numbers of moduli, thresholds, party counts, points;
  none partial).  Files: this one (model level), `C15Words.lean` (word level),
  `C15Gen.lean` (regenerated RNS-scalar code).

  Clause "every set of exactly t active parties, in any order of listing, derives additive shares that
  sum to the ideal secret key; the outcome does not depend on which t parties take part":
    `reconstruct`, `reconstruct_single`         model level, whole `QP` values (all RNS rows, all slots)
    `reconstruct_or_reject`, `run_refused_iff_collision`   arbitrary raw points: refused XOR correct
    `reconstruct_words` (C15Words)              the same identity for the word pipeline built from the
                                                regenerated code (Montgomery-form lazy Lagrange words of
                                                `lagrangeCoeff_gen`, `MRedLazy` loop, `MRed`, `CRed` adds)
    `share/aggregate/additive/run_entry_words`  every word the model outputs = that word computation
  Clause "fewer than t active parties is refused with an error": `too_few_err`, `err_only_if`;
    `newCombiner_threshold`, `too_few_err_any_others`, `enough_not_refused_any_others` (the threshold is
    the constructor argument whatever `others` contains — own point included, excluded, duplicated).
  Clause "order of listing the parties": `order_indep`, `order_indep_first_t`, `order_indep_ok`.
  Clause "order of listing the setup shares": `setup_aggregation_order_indep`.
  Collision contract (commit 98b63bb of /repo): `collision_rejected`, `collision_never_ok`,
    `refused_iff_collision`, `accepted_iff_distinct` (one call), `run_refused_iff_collision` (run).
  History independence: `history_independent`, `sequence_independent` (the model with the Combiner's
    scratch buffer threaded through a sequence of calls, `copy(prod, cmb.one)` kept as a step; tied by
    driver op `addshare_seq` on one Combiner serving several groups with a re-used active-list buffer).
  Receiver independence: `share_receiver_independent`, `evalPolyScalar_receiver_independent`
    (the model with the receiver's previous content explicit, `p2.Copy(p1[last])` kept as a step;
    tied by driver op `share_into` on dirty receivers).

  Hypotheses and why they are there.  The reconstruction proof forces "the active public points are
  pairwise distinct MODULO EVERY PRIME of Q and P" (`DistinctMod`); non-zero-ness is *not* needed
  for reconstruction (it matters for secrecy only: `zero_point_share_is_secret`, an observation
  outside C15's statement).  The Go API takes arbitrary `uint64` points.  On points
  such as `x` and `x + q_0` `GenAdditiveShare` returns an error (commit 98b63bb of /repo; without
  that test the code silently reconstructs a wrong key: probe `reconstruct_collide`, finding
  `C15-collision-mod-prime`); the model follows the code (`pointsCollide` checked before the table
  lookup, in list order) and `reconstruct_or_reject` needs raw distinctness only.  `order_indep_first_t` needs
  "the listed points are in the combiner's table": a collision gives `err`, a table miss `panic`,
  whichever comes first in the list.

  Tied only (correspondence, no general theorem): the struct/slice/map behaviour of
  `multiparty/threshold.go` (which word function is applied to which slice element; nil map entry,
  negative threshold ⇒ panic; `AggregateShares` level check); `GenShamirPolynomial`'s use of the
  sampler (C17).  Probed only: receiver/aliasing behaviour of `AggregateShares`, `GenAdditiveShare`
  (`dirty_*` probes) — in the model these functions have no receiver argument because every word of
  the Go receiver is overwritten; secrecy ("fewer than t cannot reconstruct") is not stated by C15's
  text and not modelled.  Not done: a statement over the commutative ring `WFPoly qs n` — the
  threshold code never multiplies two polynomials, `reconstruct` already is the statement on whole
  RNS values (`QP` = all rows), so the `WFPoly` form would add the carrier identification only.
-/
import Lattigo.Proofs.ShamirOrder
import Lattigo.Proofs.ShamirRecv
import Lattigo.Proofs.ShamirHist
import Lattigo.Props.C15Gen
import Lattigo.Props.C15Words
import Mathlib.Tactic.NormNum.Prime

namespace Lattigo.Props.C15
open Lattigo.Model.Shamir Lattigo.Proofs.Shamir

/-- every word is a canonical residue. -/
def Reduced (r : RingQP) (N : ℕ) (x : QP) : Prop :=
  ∀ m, m < r.ms.length → ∀ k, k < N → ent x.rows m k < modAt r.ms m

instance (r : RingQP) (N : ℕ) (x : QP) : Decidable (Reduced r N x) := by unfold Reduced; infer_instance

/-- the same predicate as `ReducedQP` of `Props/C15Words.lean` -/
theorem reduced_iff_reducedQP (r : RingQP) (N : ℕ) (x : QP) : Reduced r N x ↔ ReducedQP r N x := Iff.rfl

/-- Setup: any number of dealers (the N parties of the setup), each with a Shamir
polynomial of `t ≥ 1` coefficient polynomials (degree `< t`, constant term = its secret key) over
the ring `r` (all moduli prime, any number of them, any ring degree `N`).  Reconstruction: exactly
`t` active parties whose public points are pairwise distinct modulo every prime; each built its
combiner with an `others` list containing the other active points, received one share from every
dealer, aggregated them, and calls `GenAdditiveShare` with an active list whose first `t` entries
are the active points *in any order* (each party may use its own order).
Then the run succeeds and the additive shares sum to the sum of the dealers' secrets (the ideal
secret key), computed with the same ring additions. -/
theorem reconstruct (r : RingQP) (N t : ℕ) (dealers : List ShamirPoly) (parties : List Party)
    (hprime : ∀ q ∈ r.ms, q.Prime) (ht : 1 ≤ t)
    (hd : ∀ sp ∈ dealers, sp.length = t ∧ ∀ c ∈ sp, ShapedQP r N c)
    (hdist : ∀ q ∈ r.ms, DistinctMod q (parties.map (·.own)))
    (hcount : parties.length = t)
    (hact : ∀ p ∈ parties, (p.actives.take t).Perm (parties.map (·.own)))
    (hoth : ∀ p ∈ parties, ∀ x ∈ parties.map (·.own), x ≠ p.own → x ∈ p.others) :
    thresholdRun r t (zeroQP r N) dealers parties =
      aggregateAll r (zeroQP r N) (dealers.map fun sp => sp.headD (zeroQP r N)) := by
  obtain ⟨Fs, rfl, hlen, hne⟩ := dealers_tab ht hd
  have hk := actives_known hcount hact hoth
  rw [run_spec r N t Fs hne parties fun p hp =>
    ⟨(hk p hp).1, (hk p hp).2, fun a ha hn => pointsCollide_false_of_distinct r.ms _ hdist p.own a
      (List.mem_map_of_mem hp) ((hact p hp).mem_iff.mp ha) (Ne.symm hn)⟩]
  simp only [List.map_map, Function.comp_def, headD_map_tabQP]
  rw [aggregateAll_zero_map]
  refine congrArg Outcome.ok (tabQP_congr fun m hm k _ => ?_)
  have : Fact (modAt r.ms m).Prime := ⟨hprime _ (modAt_mem r.ms m hm)⟩
  rw [scalar_reconstruct_nat parties (·.own) (fun p => p.actives.take t)
      (hdist _ (modAt_mem r.ms m hm)) hact Fs (fun fs => fs.map fun g => g m k)
      (fun fs hfs => by rw [List.length_map, hlen fs hfs, hcount])]
  congr 1
  exact List.map_congr_left fun fs _ => by cases fs <;> rfl

/-- One dealer with a canonical secret: the additive shares of the `t` active parties sum to the
secret itself. -/
theorem reconstruct_single (r : RingQP) (N t : ℕ) (secret : QP) (rest : List QP) (parties : List Party)
    (hprime : ∀ q ∈ r.ms, q.Prime)
    (hlen : (secret :: rest).length = t)
    (hsh : ∀ c ∈ secret :: rest, ShapedQP r N c) (hred : Reduced r N secret)
    (hdist : ∀ q ∈ r.ms, DistinctMod q (parties.map (·.own)))
    (hcount : parties.length = t)
    (hact : ∀ p ∈ parties, (p.actives.take t).Perm (parties.map (·.own)))
    (hoth : ∀ p ∈ parties, ∀ x ∈ parties.map (·.own), x ≠ p.own → x ∈ p.others) :
    thresholdRun r t (zeroQP r N) [secret :: rest] parties = .ok secret := by
  have ht : 1 ≤ t := by rw [← hlen]; exact Nat.succ_pos _
  rw [reconstruct r N t [secret :: rest] parties hprime ht
    (by intro sp hsp; rw [List.mem_singleton] at hsp; subst hsp; exact ⟨hlen, hsh⟩)
    hdist hcount hact hoth]
  lift secret to Tab r N using hsh secret List.mem_cons_self
  refine (aggregateAll_zero_map r N [secret] id).trans (congrArg Outcome.ok (tabQP_congr fun m hm k hk => ?_))
  have := hred m hm k hk
  rw [ent_tabQP _ hm hk] at this
  simp only [List.map_cons, List.map_nil, sumMod, List.foldl_cons, List.foldl_nil, Nat.zero_add, id]
  exact Nat.mod_eq_of_lt this

/-- with pairwise different raw points, two active points congruent modulo a prime make the run
return the error (the party holding one of them refuses). -/
theorem run_refused_of_collision (r : RingQP) (N t : ℕ) (dealers : List ShamirPoly) (parties : List Party)
    (ht : 1 ≤ t)
    (hd : ∀ sp ∈ dealers, sp.length = t ∧ ∀ c ∈ sp, ShapedQP r N c)
    (hraw : (parties.map (·.own)).Nodup)
    (hcount : parties.length = t)
    (hact : ∀ p ∈ parties, (p.actives.take t).Perm (parties.map (·.own)))
    (hoth : ∀ p ∈ parties, ∀ x ∈ parties.map (·.own), x ≠ p.own → x ∈ p.others)
    (hdist : ¬ ∀ q ∈ r.ms, DistinctMod q (parties.map (·.own))) :
    thresholdRun r t (zeroQP r N) dealers parties = .err := by
  obtain ⟨Fs, rfl, _, hne⟩ := dealers_tab ht hd
  apply run_err r N t Fs hne parties (actives_known hcount hact hoth)
  -- a modulus and two different active points with equal residues
  push Not at hdist
  obtain ⟨q, hq, hnd⟩ := hdist
  rw [distinctMod_iff_of_nodup hraw] at hnd
  push Not at hnd
  obtain ⟨x, hx, y, hy, hmod, hne⟩ := hnd
  obtain ⟨p, hp, rfl⟩ := List.mem_map.mp hx
  exact ⟨p, hp, y, (hact p hp).mem_iff.mpr hy, Ne.symm hne,
    (pointsCollide_eq_true_iff _ _ _).mpr ⟨q, hq, hmod⟩⟩

/-- Same setting as `reconstruct`, but the active
public points are only assumed pairwise different as `uint64`s.  Then the run either returns the
error (some pair of active points is congruent modulo one of the primes, and the party concerned
refuses) or it returns the ring sum of the dealers' secrets — never a wrong key, never a panic. -/
theorem reconstruct_or_reject (r : RingQP) (N t : ℕ) (dealers : List ShamirPoly) (parties : List Party)
    (hprime : ∀ q ∈ r.ms, q.Prime) (ht : 1 ≤ t)
    (hd : ∀ sp ∈ dealers, sp.length = t ∧ ∀ c ∈ sp, ShapedQP r N c)
    (hraw : (parties.map (·.own)).Nodup)
    (hcount : parties.length = t)
    (hact : ∀ p ∈ parties, (p.actives.take t).Perm (parties.map (·.own)))
    (hoth : ∀ p ∈ parties, ∀ x ∈ parties.map (·.own), x ≠ p.own → x ∈ p.others) :
    thresholdRun r t (zeroQP r N) dealers parties = .err ∨
    thresholdRun r t (zeroQP r N) dealers parties =
      aggregateAll r (zeroQP r N) (dealers.map fun sp => sp.headD (zeroQP r N)) := by
  by_cases hdist : ∀ q ∈ r.ms, DistinctMod q (parties.map (·.own))
  · exact Or.inr (reconstruct r N t dealers parties hprime ht hd hdist hcount hact hoth)
  · exact Or.inl (run_refused_of_collision r N t dealers parties ht hd hraw hcount hact hoth hdist)

/-- **the refusal contract of the run, as an iff**: with pairwise different raw points the run is
refused exactly when two active points are congruent modulo one of the primes; otherwise (and only
then) it returns the ring sum of the secrets. -/
theorem run_refused_iff_collision (r : RingQP) (N t : ℕ) (dealers : List ShamirPoly) (parties : List Party)
    (hprime : ∀ q ∈ r.ms, q.Prime) (ht : 1 ≤ t)
    (hd : ∀ sp ∈ dealers, sp.length = t ∧ ∀ c ∈ sp, ShapedQP r N c)
    (hraw : (parties.map (·.own)).Nodup)
    (hcount : parties.length = t)
    (hact : ∀ p ∈ parties, (p.actives.take t).Perm (parties.map (·.own)))
    (hoth : ∀ p ∈ parties, ∀ x ∈ parties.map (·.own), x ≠ p.own → x ∈ p.others) :
    (thresholdRun r t (zeroQP r N) dealers parties = .err ↔
      ¬ ∀ q ∈ r.ms, DistinctMod q (parties.map (·.own))) ∧
    ((∃ s, thresholdRun r t (zeroQP r N) dealers parties = .ok s) ↔
      ∀ q ∈ r.ms, DistinctMod q (parties.map (·.own))) := by
  have hok : (∀ q ∈ r.ms, DistinctMod q (parties.map (·.own))) →
      ∃ s, thresholdRun r t (zeroQP r N) dealers parties = .ok s := by
    intro hdist
    rw [reconstruct r N t dealers parties hprime ht hd hdist hcount hact hoth]
    obtain ⟨Fs, rfl, _, _⟩ := dealers_tab ht hd
    simp only [List.map_map, Function.comp_def, headD_map_tabQP]
    exact ⟨_, aggregateAll_zero_map r N Fs _⟩
  have herr := run_refused_of_collision r N t dealers parties ht hd hraw hcount hact hoth
  refine ⟨⟨fun he hdist => ?_, herr⟩, ⟨fun ⟨s, hs⟩ => ?_, hok⟩⟩
  · obtain ⟨s, hs⟩ := hok hdist
    rw [he] at hs
    cases hs
  · by_contra hnd
    rw [herr hnd] at hs
    cases hs

/-- The code's "first t" rule: for every combiner, own point and share,
`GenAdditiveShare` depends only on the multiset of the first `threshold` active points, provided
those points (other than `own`) are in the combiner's table.  (A collision gives
`err` and a table miss gives `panic`, whichever is met first; without the proviso the two could
swap.)  No hypothesis on the residues of the points. -/
theorem order_indep_first_t (cmb : Combiner) (a₁ a₂ : List ℕ) (own : ℕ) (share : QP)
    (hlen : a₁.length = a₂.length)
    (h : (a₁.take cmb.threshold.toNat).Perm (a₂.take cmb.threshold.toNat))
    (hm : ∀ x ∈ a₁.take cmb.threshold.toNat, x ≠ own → ∃ c, cmb.table.lookup x = some c) :
    genAdditiveShare cmb a₁ own share = genAdditiveShare cmb a₂ own share :=
  genAdditiveShare_perm cmb a₁ a₂ own share hlen h hm

/-- The unconditional form: if one listing of the first `threshold` active points
yields an additive share, every other order of them yields the same share. -/
theorem order_indep_ok (cmb : Combiner) (a₁ a₂ : List ℕ) (own : ℕ) (share s : QP)
    (hlen : a₁.length = a₂.length)
    (h : (a₁.take cmb.threshold.toNat).Perm (a₂.take cmb.threshold.toNat))
    (hok : genAdditiveShare cmb a₁ own share = .ok s) :
    genAdditiveShare cmb a₂ own share = .ok s := by
  rw [← hok]
  symm
  apply genAdditiveShare_perm cmb a₁ a₂ own share hlen h
  obtain ⟨prod, hp⟩ := genAdditiveShare_ok_inv hok
  intro x hx hne
  exact (lagrangeProd_ok_inv _ _ _ _ _ _ hp x hx hne).1

/-- for a combiner made by `NewCombiner`: listing at most `threshold` active points,
all known to `NewCombiner`, in another order gives the same outcome (same additive share, or the
same error). -/
theorem order_indep (r : RingQP) (own : ℕ) (others : List ℕ) (t : Int) (a₁ a₂ : List ℕ) (share : QP)
    (h : a₁.Perm a₂) (hlen : (a₁.length : Int) ≤ t) (hoth : ∀ x ∈ a₁, x ≠ own → x ∈ others) :
    genAdditiveShare (newCombiner r own others t) a₁ own share =
      genAdditiveShare (newCombiner r own others t) a₂ own share := by
  have ht : (newCombiner r own others t).threshold = t := rfl
  have h1 : a₁.length ≤ (newCombiner r own others t).threshold.toNat := by rw [ht]; omega
  have h2 : a₂.length ≤ (newCombiner r own others t).threshold.toNat := by rw [← h.length_eq]; exact h1
  apply genAdditiveShare_perm _ a₁ a₂ own share h.length_eq
  · rw [List.take_of_length_le h1, List.take_of_length_le h2]
    exact h
  · rw [List.take_of_length_le h1]
    intro x hx hne
    exact ⟨_, newCombiner_lookup r own others t x (hoth x hx hne) hne⟩

/-- fewer than `threshold` active points ⇒ the error, whatever else. -/
theorem too_few_err (cmb : Combiner) (actives : List ℕ) (own : ℕ) (share : QP)
    (h : (actives.length : Int) < cmb.threshold) :
    genAdditiveShare cmb actives own share = .err := by
  unfold genAdditiveShare
  rw [if_pos h]

/-- the error is returned only for too few active points or for a collision among the first
`threshold` of them. -/
theorem err_only_if (cmb : Combiner) (actives : List ℕ) (own : ℕ) (share : QP)
    (h : genAdditiveShare cmb actives own share = .err) :
    (actives.length : Int) < cmb.threshold ∨
      ∃ a ∈ actives.take cmb.threshold.toNat, a ≠ own ∧ pointsCollide cmb.ring.ms own a = true :=
  (genAdditiveShare_err_inv h).imp_right (lagrangeProd_err_inv _ _ _ _ _)

/-- **the threshold of a Combiner is the constructor argument**, whatever `others` is (it "may
contain the instantiator's own point", so `len(others)` says nothing about the number of parties
and must not bound the threshold). -/
theorem newCombiner_threshold (r : RingQP) (own : ℕ) (others : List ℕ) (t : Int) :
    (newCombiner r own others t).threshold = t ∧ (newCombiner r own others t).ring = r := ⟨rfl, rfl⟩

/-- **too_few_err for every way of building the combiner**: with any `others` (own point included,
excluded, duplicated, even empty), any own-point argument and any share, a request listing fewer
than the constructor's `t` active points is refused with the error — in particular `t − 1` points
when `t = N` and `others` holds the other `N − 1` points only. -/
theorem too_few_err_any_others (r : RingQP) (own ownPoint : ℕ) (others actives : List ℕ) (t : Int) (share : QP)
    (h : (actives.length : Int) < t) :
    genAdditiveShare (newCombiner r own others t) actives ownPoint share = .err :=
  too_few_err _ _ _ _ h

/-- …and a request listing at least `t` points is never refused for being too short: the only
other error is a collision (`err_only_if`). -/
theorem enough_not_refused_any_others (r : RingQP) (own ownPoint : ℕ) (others actives : List ℕ) (t : Int)
    (share : QP) (h : t ≤ (actives.length : Int))
    (he : genAdditiveShare (newCombiner r own others t) actives ownPoint share = .err) :
    ∃ a ∈ actives.take t.toNat, a ≠ ownPoint ∧ pointsCollide r.ms ownPoint a = true := by
  rcases err_only_if _ _ _ _ he with h1 | h2
  · have : (newCombiner r own others t).threshold = t := rfl
    rw [this] at h1
    omega
  · exact h2

/-- on a combiner made by `NewCombiner` that knows the first
`t` active points, an active point different from `own` but congruent to it modulo some modulus of
the ring makes `GenAdditiveShare` return the error. -/
theorem collision_rejected (r : RingQP) (t : ℕ) (own : ℕ) (others actives : List ℕ) (share : QP)
    (hmem : ∀ a ∈ actives.take t, a ≠ own → a ∈ others)
    (a q : ℕ) (ha : a ∈ actives.take t) (hne : a ≠ own) (hq : q ∈ r.ms) (hcol : a % q = own % q) :
    genAdditiveShare (newCombiner r own others t) actives own share = .err :=
  genAdditiveShare_collide_err r t own others actives share hmem
    ⟨a, ha, hne, (pointsCollide_eq_true_iff _ _ _).mpr ⟨q, hq, hcol.symm⟩⟩

/-- for *every* combiner (any table, any own point): with such a colliding point among the first
`threshold` active points, `GenAdditiveShare` never returns a share (it returns `err`, or `panic`
if an unknown point comes first). -/
theorem collision_never_ok (cmb : Combiner) (actives : List ℕ) (own : ℕ) (share s : QP)
    (a q : ℕ) (ha : a ∈ actives.take cmb.threshold.toNat) (hne : a ≠ own) (hq : q ∈ cmb.ring.ms)
    (hcol : a % q = own % q) :
    genAdditiveShare cmb actives own share ≠ .ok s := by
  intro h
  obtain ⟨prod, hp⟩ := genAdditiveShare_ok_inv h
  exact lagrangeProd_collide_not_ok _ _ _ _
    ⟨a, ha, hne, (pointsCollide_eq_true_iff _ _ _).mpr ⟨q, hq, hcol.symm⟩⟩ _ _ hp

/-- `pointsCollide` decides congruence modulo some modulus. -/
theorem pointsCollide_iff (ms : List ℕ) (a b : ℕ) :
    pointsCollide ms a b = true ↔ ∃ q ∈ ms, a % q = b % q :=
  pointsCollide_eq_true_iff ms a b

/-- **the collision-refusal contract of one call, as an iff** (combiner from `NewCombiner` that knows
the first `t` active points, at least `t` of them listed): the call is refused with the error exactly
when one of those points differs from `own` as a `uint64` but is congruent to it modulo some modulus
of the ring … -/
theorem refused_iff_collision (r : RingQP) (t : ℕ) (own : ℕ) (others actives : List ℕ) (share : QP)
    (hlen : t ≤ actives.length) (hmem : ∀ a ∈ actives.take t, a ≠ own → a ∈ others) :
    genAdditiveShare (newCombiner r own others t) actives own share = .err ↔
      ∃ a ∈ actives.take t, a ≠ own ∧ ∃ q ∈ r.ms, a % q = own % q := by
  constructor
  · intro h
    rcases err_only_if _ _ _ _ h with h1 | ⟨a, ha, hne, hc⟩
    · exact absurd h1 (by simp only [newCombiner]; omega)
    · obtain ⟨q, hq, hmod⟩ := (pointsCollide_iff _ _ _).mp hc
      exact ⟨a, ha, hne, q, hq, hmod.symm⟩
  · rintro ⟨a, ha, hne, q, hq, hmod⟩
    exact collision_rejected r t own others actives share hmem a q ha hne hq hmod

/-- … and it is served (returns an additive share) exactly when every one of them that differs from
`own` is distinct from it modulo every modulus. -/
theorem accepted_iff_distinct (r : RingQP) (t : ℕ) (own : ℕ) (others actives : List ℕ) (share : QP)
    (hlen : t ≤ actives.length) (hmem : ∀ a ∈ actives.take t, a ≠ own → a ∈ others) :
    (∃ s, genAdditiveShare (newCombiner r own others t) actives own share = .ok s) ↔
      ∀ a ∈ actives.take t, a ≠ own → ∀ q ∈ r.ms, a % q ≠ own % q := by
  constructor
  · rintro ⟨s, hs⟩ a ha hne q hq hmod
    have := (refused_iff_collision r t own others actives share hlen hmem).mpr ⟨a, ha, hne, q, hq, hmod⟩
    rw [this] at hs
    exact absurd hs (by simp)
  · intro h
    refine ⟨_, genAdditiveShare_ok r t own others actives share hlen hmem ?_⟩
    intro a ha hne
    by_contra hc
    obtain ⟨q, hq, hmod⟩ := (pointsCollide_iff _ _ _).mp (by simpa using hc)
    exact h a ha hne q hq hmod.symm

/-- a party that aggregates the Shamir shares it received in any
order ends with the same aggregated share (any moduli, prime or not). -/
theorem setup_aggregation_order_indep (r : RingQP) (N : ℕ) (l₁ l₂ : List QP) (h : l₁.Perm l₂)
    (hl : ∀ s ∈ l₁, ShapedQP r N s) :
    aggregateAll r (zeroQP r N) l₁ = aggregateAll r (zeroQP r N) l₂ :=
  aggregateAll_perm r N (zeroQP r N) (shapedQP_zero r N) h hl

/-- **receiver independence of `ring.EvalPolyScalar`**: with the receiver's previous content made an
explicit argument (`evalPolyScalarInto`: `p2.Copy(p1[last])`, then the in-place Horner steps), the
result is the same for any two receivers of the coefficients' shape — and is the receiver-free
`evalPolyScalarRows` that all other theorems are about. -/
theorem evalPolyScalar_receiver_independent {nr N : ℕ} (ms : List ℕ) (x : ℕ) (polys : List Rows)
    (hsh : ∀ p ∈ polys, Shaped nr N p) (recv₁ recv₂ : Rows) (h₁ : Shaped nr N recv₁) (h₂ : Shaped nr N recv₂) :
    evalPolyScalarInto ms x polys recv₁ = evalPolyScalarInto ms x polys recv₂ ∧
    evalPolyScalarInto ms x polys recv₁ = evalPolyScalarRows ms x polys :=
  ⟨by rw [evalPolyScalarInto_eq ms x polys hsh recv₁ h₁, evalPolyScalarInto_eq ms x polys hsh recv₂ h₂],
   evalPolyScalarInto_eq ms x polys hsh recv₁ h₁⟩

/-- **receiver independence of `GenShamirSecretShare`**: the share written into a buffer that still
holds anything of the ring's shape (a previous recipient's share, junk) is the share written into a
fresh buffer; in particular a dealer may re-use one buffer for all recipients. -/
theorem share_receiver_independent (r : RingQP) (N x : ℕ) (sp : ShamirPoly)
    (hsh : ∀ c ∈ sp, ShapedQP r N c) (recv₁ recv₂ : QP) (h₁ : ShapedQP r N recv₁) (h₂ : ShapedQP r N recv₂) :
    genShamirSecretShareInto r x sp recv₁ = genShamirSecretShareInto r x sp recv₂ ∧
    genShamirSecretShareInto r x sp recv₁ = genShamirSecretShare r x sp :=
  ⟨by rw [genShamirSecretShareInto_eq r N x sp hsh recv₁ h₁, genShamirSecretShareInto_eq r N x sp hsh recv₂ h₂],
   genShamirSecretShareInto_eq r N x sp hsh recv₁ h₁⟩

/-- contrast (test by evaluation): a Horner loop that starts from the receiver's content instead of
copying the leading coefficient does depend on it. -/
example : evalPolyScalarNoCopy [97] 3 [[[5]], [[7]]] [[0]] = [[26]] ∧
    evalPolyScalarNoCopy [97] 3 [[[5]], [[7]]] [[1]] = [[35]] ∧
    evalPolyScalarInto [97] 3 [[[5]], [[7]]] [[1]] = some [[26]] := by decide +kernel

/-- **history independence of `GenAdditiveShare`**: with the Combiner's scratch buffer made explicit
(`genAdditiveShareSt`: `prod := cmb.tmp2; copy(prod, cmb.one)`, then the loop), the outcome of a call is
the same whatever the buffer holds — i.e. whatever calls were made on the Combiner before — and is the
pure `genAdditiveShare cmb actives ownPoint share`: a function of the Combiner's construction and of
the call's own arguments only. -/
theorem history_independent (cmb : Combiner) (hwf : TableWF cmb) (tmp₁ tmp₂ : List ℕ)
    (h₁ : tmp₁.length = cmb.ring.ms.length) (h₂ : tmp₂.length = cmb.ring.ms.length)
    (actives : List ℕ) (ownPoint : ℕ) (share : QP) :
    (genAdditiveShareSt cmb tmp₁ actives ownPoint share).1 = (genAdditiveShareSt cmb tmp₂ actives ownPoint share).1 ∧
    (genAdditiveShareSt cmb tmp₁ actives ownPoint share).1 = genAdditiveShare cmb actives ownPoint share := by
  have e1 := (genAdditiveShareSt_spec cmb hwf tmp₁ h₁ actives ownPoint share).1
  have e2 := (genAdditiveShareSt_spec cmb hwf tmp₂ h₂ actives ownPoint share).1
  exact ⟨e1.trans e2.symm, e1⟩

/-- **one Combiner serving a sequence of groups**: for a Combiner made by `NewCombiner` and ANY
sequence of calls (different groups of active parties, orders, own points, shares; refused calls in
between), the k-th result is the result a freshly built Combiner gives for the k-th call alone. -/
theorem sequence_independent (r : RingQP) (own : ℕ) (others : List ℕ) (t : Int) (calls : List Call)
    (tmp2 : List ℕ) (ht : tmp2.length = r.ms.length) :
    runCalls (newCombiner r own others t) tmp2 calls =
      calls.map fun c => genAdditiveShare (newCombiner r own others t) c.actives c.ownPoint c.share :=
  runCalls_eq_map _ (tableWF_newCombiner r own others t) calls tmp2 ht

/-- a sequence of three groups on one combiner (points 4, 9, 11, 15; t = 2), a refused call in between. -/
example : runCalls (newCombiner ⟨2, [97, 193, 257]⟩ 4 [4, 9, 11, 15] 2) [0, 0, 0]
      [⟨[9, 4], 4, ⟨2, [[1, 2], [3, 4], [5, 6]]⟩⟩, ⟨[101, 4], 4, ⟨2, [[1, 2], [3, 4], [5, 6]]⟩⟩,
       ⟨[4, 11], 4, ⟨2, [[1, 2], [3, 4], [5, 6]]⟩⟩, ⟨[15, 4], 4, ⟨2, [[7, 7], [8, 8], [9, 9]]⟩⟩] =
    [genAdditiveShare (newCombiner ⟨2, [97, 193, 257]⟩ 4 [4, 9, 11, 15] 2) [9, 4] 4 ⟨2, [[1, 2], [3, 4], [5, 6]]⟩,
     .err,
     genAdditiveShare (newCombiner ⟨2, [97, 193, 257]⟩ 4 [4, 9, 11, 15] 2) [4, 11] 4 ⟨2, [[1, 2], [3, 4], [5, 6]]⟩,
     genAdditiveShare (newCombiner ⟨2, [97, 193, 257]⟩ 4 [4, 9, 11, 15] 2) [15, 4] 4 ⟨2, [[7, 7], [8, 8], [9, 9]]⟩] := by
  rw [sequence_independent _ _ _ _ _ _ (by decide +kernel)]
  decide +kernel

/-- A recipient whose public point is `0` modulo the prime of row `m` (e.g. the point `0`, or the
non-zero `uint64` `q_m`) receives, in that row, the dealer's secret itself (mod `q_m`). -/
theorem zero_point_share_is_secret (r : RingQP) (N x : ℕ) (sp : ShamirPoly) (s : QP)
    (hsh : ∀ c ∈ sp, ShapedQP r N c) (hs : genShamirSecretShare r x sp = .ok s)
    (m k : ℕ) (hm : m < r.ms.length) (hk : k < N) (hx : x % modAt r.ms m = 0) :
    ent s.rows m k % modAt r.ms m = ent (sp.headD (zeroQP r N)).rows m k % modAt r.ms m := by
  have hne : sp ≠ [] := by
    rintro rfl
    cases hs
  lift sp to List (Tab r N) using hsh
  rw [share_tab r N x sp (by simpa using hne)] at hs
  cases hs
  rw [ent_tabQP _ hm hk, horner_zero_point _ _ hx, headD_map_tabQP, ent_tabQP _ hm hk]
  cases sp <;> rfl

/-- `q = 97`, points `1` and `98 = 1 + q`, `t = 2`, `f(X) = 5 + 7X` (without the collision test the
code returns the key `0` instead of `5`): the run is refused; with the distinct points `1, 3` it
returns `5`. -/
theorem collision_example :
    thresholdRun ⟨1, [97]⟩ 2 (zeroQP ⟨1, [97]⟩ 1) [[⟨1, [[5]]⟩, ⟨1, [[7]]⟩]]
        [⟨1, [1, 98], [1, 98]⟩, ⟨98, [1, 98], [1, 98]⟩] = .err
    ∧ thresholdRun ⟨1, [97]⟩ 2 (zeroQP ⟨1, [97]⟩ 1) [[⟨1, [[5]]⟩, ⟨1, [[7]]⟩]]
        [⟨1, [1, 3], [1, 3]⟩, ⟨3, [1, 3], [3, 1]⟩] = .ok ⟨1, [[5]]⟩ := by
  decide +kernel

section NonVacuity

def exRing : RingQP := ⟨2, [97, 193, 257]⟩
def exDealers : List ShamirPoly :=
  [[⟨2, [[5, 6], [7, 8], [9, 10]]⟩, ⟨2, [[1, 2], [3, 4], [5, 6]]⟩],
   [⟨2, [[96, 0], [192, 1], [256, 2]]⟩, ⟨2, [[11, 12], [13, 14], [15, 16]]⟩]]
def exDealer0 : ShamirPoly := [⟨2, [[5, 6], [7, 8], [9, 10]]⟩, ⟨2, [[1, 2], [3, 4], [5, 6]]⟩]
def exParties : List Party :=
  [⟨18446744073709551615, [4, 18446744073709551615, 4294967299], [4294967299, 18446744073709551615, 7]⟩,
   ⟨4294967299, [4, 18446744073709551615, 4294967299], [18446744073709551615, 4294967299]⟩]

theorem exRing_prime : ∀ q ∈ exRing.ms, q.Prime := by
  intro q hq
  simp only [exRing, List.mem_cons, List.not_mem_nil, or_false] at hq
  rcases hq with rfl | rfl | rfl <;> norm_num

theorem exShaped : ∀ sp ∈ exDealers, sp.length = 2 ∧ ∀ c ∈ sp, ShapedQP exRing 2 c := by
  decide +kernel

/-- the hypotheses of `reconstruct` are met by a concrete instance (2 dealers, 3 moduli, points
`2^64−1` and `2^32+3`, different orders, one active list longer than `t`). -/
example : thresholdRun exRing 2 (zeroQP exRing 2) exDealers exParties =
    aggregateAll exRing (zeroQP exRing 2) (exDealers.map fun sp => sp.headD (zeroQP exRing 2)) :=
  reconstruct exRing 2 2 exDealers exParties exRing_prime (by decide +kernel) exShaped
    (by decide +kernel) (by decide +kernel) (by decide +kernel) (by decide +kernel)

/-- …and the value is the sum of the two secrets. -/
example : thresholdRun exRing 2 (zeroQP exRing 2) exDealers exParties =
    .ok ⟨2, [[4, 6], [6, 9], [8, 12]]⟩ := by decide +kernel

example : thresholdRun exRing 2 (zeroQP exRing 2) [exDealer0] exParties = .ok ⟨2, [[5, 6], [7, 8], [9, 10]]⟩ :=
  reconstruct_single exRing 2 2 _ _ exParties exRing_prime (by decide +kernel) (by decide +kernel) (by decide +kernel)
    (by decide +kernel) (by decide +kernel) (by decide +kernel) (by decide +kernel)

example : genAdditiveShare (newCombiner exRing 4 [4, 9, 11] 3) [9, 4, 11] 4 ⟨2, [[1, 2], [3, 4], [5, 6]]⟩ =
    genAdditiveShare (newCombiner exRing 4 [4, 9, 11] 3) [11, 9, 4] 4 ⟨2, [[1, 2], [3, 4], [5, 6]]⟩ :=
  order_indep _ _ _ _ _ _ _ (by decide +kernel) (by decide +kernel) (by decide +kernel)

example : genAdditiveShare (newCombiner exRing 4 [4, 9, 11] 3) [11, 9, 4] 4 ⟨2, [[1, 2], [3, 4], [5, 6]]⟩ =
    .ok ⟨2, [[25, 50], [14, 83], [161, 39]]⟩ :=
  order_indep_ok _ [9, 4, 11] _ _ _ _ (by decide +kernel) (by decide +kernel) (by decide +kernel)

/-- `reconstruct_or_reject`: both branches occur (points `4, 101 = 4 + 97` are refused). -/
example : thresholdRun exRing 2 (zeroQP exRing 2) exDealers
    [⟨4, [4, 101], [101, 4]⟩, ⟨101, [4, 101], [4, 101]⟩] = .err := by decide +kernel

example : thresholdRun exRing 2 (zeroQP exRing 2) exDealers [⟨4, [4, 101], [101, 4]⟩, ⟨101, [4, 101], [4, 101]⟩] = .err ∨
    thresholdRun exRing 2 (zeroQP exRing 2) exDealers [⟨4, [4, 101], [101, 4]⟩, ⟨101, [4, 101], [4, 101]⟩] =
      aggregateAll exRing (zeroQP exRing 2) (exDealers.map fun sp => sp.headD (zeroQP exRing 2)) :=
  reconstruct_or_reject exRing 2 2 exDealers _ exRing_prime (by decide +kernel) exShaped
    (by decide +kernel) (by decide +kernel) (by decide +kernel) (by decide +kernel)

example : genAdditiveShare (newCombiner exRing 4 [4, 101] 2) [101, 4] 4 ⟨2, [[1, 2], [3, 4], [5, 6]]⟩ = .err :=
  collision_rejected exRing 2 4 [4, 101] [101, 4] _ (by decide +kernel) 101 97 (by decide +kernel) (by decide +kernel) (by decide +kernel) (by decide +kernel)

example : genAdditiveShare (newCombiner exRing 4 [4, 101] 2) [7, 101] 4 ⟨2, [[1, 2], [3, 4], [5, 6]]⟩ = .panic := by
  decide +kernel

/-- `refused_iff_collision` / `accepted_iff_distinct`: both sides of each iff occur. -/
example : genAdditiveShare (newCombiner exRing 4 [4, 101] 2) [101, 4] 4 ⟨2, [[1, 2], [3, 4], [5, 6]]⟩ = .err :=
  (refused_iff_collision exRing 2 4 [4, 101] [101, 4] _ (by decide +kernel) (by decide +kernel)).mpr
    ⟨101, by decide +kernel, by decide, 97, by decide +kernel, by decide +kernel⟩

example : ∃ s, genAdditiveShare (newCombiner exRing 4 [4, 9, 11] 3) [9, 4, 11] 4 ⟨2, [[1, 2], [3, 4], [5, 6]]⟩ = .ok s :=
  (accepted_iff_distinct exRing 3 4 [4, 9, 11] [9, 4, 11] _ (by decide +kernel) (by decide +kernel)).mpr (by decide +kernel)

/-- `run_refused_iff_collision`: the refused run of above, through the iff. -/
example : thresholdRun exRing 2 (zeroQP exRing 2) exDealers
    [⟨4, [4, 101], [101, 4]⟩, ⟨101, [4, 101], [4, 101]⟩] = .err :=
  (run_refused_iff_collision exRing 2 2 exDealers _ exRing_prime (by decide +kernel) exShaped
    (by decide +kernel) (by decide +kernel) (by decide +kernel) (by decide +kernel)).1.mpr (by decide +kernel)

example : genAdditiveShare (newCombiner exRing 4 [4, 9, 11] 3) [9, 4] 4 ⟨2, [[1, 2], [3, 4], [5, 6]]⟩ = .err :=
  too_few_err _ _ _ _ (by decide +kernel)

/-- `too_few_err_any_others`: t = N = 3, `others` = the two other points only, t − 1 = 2 listed. -/
example : genAdditiveShare (newCombiner exRing 4 [9, 11] 3) [9, 11] 4 ⟨2, [[1, 2], [3, 4], [5, 6]]⟩ = .err :=
  too_few_err_any_others _ _ _ _ _ _ _ (by decide +kernel)

/-- …while the full set of t = N = 3 parties is served by that combiner (`reconstruct` allows
`others` without the own point: `hoth` only asks for the *other* active points). -/
example : ∃ s, genAdditiveShare (newCombiner exRing 4 [9, 11] 3) [9, 4, 11] 4 ⟨2, [[1, 2], [3, 4], [5, 6]]⟩ = .ok s :=
  (accepted_iff_distinct exRing 3 4 [9, 11] [9, 4, 11] _ (by decide +kernel) (by decide +kernel)).mpr (by decide +kernel)

example : aggregateAll exRing (zeroQP exRing 2) [⟨2, [[5, 6], [7, 8], [9, 10]]⟩, ⟨2, [[96, 0], [192, 1], [256, 2]]⟩] =
    aggregateAll exRing (zeroQP exRing 2) [⟨2, [[96, 0], [192, 1], [256, 2]]⟩, ⟨2, [[5, 6], [7, 8], [9, 10]]⟩] :=
  setup_aggregation_order_indep exRing 2 _ _ (by decide +kernel) (by decide +kernel)

/-- `share_receiver_independent`: a junk receiver and the previous recipient's share. -/
example := share_receiver_independent exRing 2 193 exDealer0 (by decide +kernel)
  ⟨2, [[96, 1], [2, 3], [4, 5]]⟩ ⟨2, [[4, 4], [7, 8], [203, 140]]⟩ (by decide +kernel) (by decide +kernel)

/-- `zero_point_share_is_secret`: the non-zero point `193` gets row 1 of the secret. -/
example : genShamirSecretShare exRing 193 exDealer0 = .ok ⟨2, [[4, 4], [7, 8], [203, 140]]⟩ := by decide +kernel

example : ent (⟨2, [[4, 4], [7, 8], [203, 140]]⟩ : QP).rows 1 1 % 193 = 8 % 193 :=
  zero_point_share_is_secret exRing 2 193 exDealer0 _ (by decide +kernel) (by decide +kernel) 1 1 (by decide +kernel) (by decide +kernel) (by decide +kernel)

end NonVacuity

end Lattigo.Props.C15

#print axioms Lattigo.Props.C15.reconstruct
#print axioms Lattigo.Props.C15.reconstruct_single
#print axioms Lattigo.Props.C15.order_indep_first_t
#print axioms Lattigo.Props.C15.order_indep
#print axioms Lattigo.Props.C15.too_few_err
#print axioms Lattigo.Props.C15.err_only_if
#print axioms Lattigo.Props.C15.newCombiner_threshold
#print axioms Lattigo.Props.C15.too_few_err_any_others
#print axioms Lattigo.Props.C15.enough_not_refused_any_others
#print axioms Lattigo.Props.C15.reconstruct_or_reject
#print axioms Lattigo.Props.C15.order_indep_ok
#print axioms Lattigo.Props.C15.collision_rejected
#print axioms Lattigo.Props.C15.collision_never_ok
#print axioms Lattigo.Props.C15.run_refused_of_collision
#print axioms Lattigo.Props.C15.run_refused_iff_collision
#print axioms Lattigo.Props.C15.pointsCollide_iff
#print axioms Lattigo.Props.C15.refused_iff_collision
#print axioms Lattigo.Props.C15.accepted_iff_distinct
#print axioms Lattigo.Props.C15.setup_aggregation_order_indep
#print axioms Lattigo.Props.C15.history_independent
#print axioms Lattigo.Props.C15.sequence_independent
#print axioms Lattigo.Props.C15.evalPolyScalar_receiver_independent
#print axioms Lattigo.Props.C15.share_receiver_independent
#print axioms Lattigo.Props.C15.zero_point_share_is_secret
#print axioms Lattigo.Props.C15.collision_example
