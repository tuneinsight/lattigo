/-
  Property C15 — the REGENERATED tie for the RNS-scalar arithmetic under `Combiner.lagrangeCoeff`.

  `Lattigo/Gen/Scalar.lean` is printed by `tools/go2lean` (typed mode) from the Go source on every
  `./check C15`:

      ring/utils.go   ModexpMontgomery   (`for i := e; i > 0; i >>= 1`, `e`/`i` Go `int`s: `i64gt`,
                                          `i64shr`; `loopWhile 64`, rule S)
      ring/scalar.go  the BODY of `for i, s := range r.SubRings[:r.level+1]` in
                      NewRNSScalarFromUInt64, MFormRNSScalar, NegRNSScalar, SubRNSScalar,
                      MulRNSScalar, Inverse — as functions `…_body Modulus MRedConstant BRedConstant …`
                      of the sub-ring constants and the `[i]`-th words

  (struct-heavy `multiparty/threshold.go` and the polynomial Horner loop `ring.EvalPolyScalar` stay
  hand-modelled and tied by the correspondence check.)

  `Model/Shamir.lean` works on canonical residues, the code on Montgomery words.  The theorems below
  say the residue-level functions `subMod`, `powMod`/`inverse`, `mulScalars`, `lagrangeCoeff` are
  REFINED by the regenerated bodies under the relation `Mont q a x : x % q = (a·2^64) % q`
  ("`x` is a Montgomery representative of `a`"), using C01's word-level specifications
  (`MRed_spec`, `MRedLazy_spec`, `MForm_spec`, themselves about regenerated code).
  Hypotheses: `MontConst q qinv` (`q·qinv ≡ 1 mod 2^64`: `q` odd, `qinv = s.MRedConstant`),
  `2q ≤ 2^64` (`MRed`), `4q ≤ 2^64` for products of lazily reduced words, `BRedConstant = brc q`.
-/
import Lattigo.Proofs.GenScalar
import Mathlib.Tactic.NormNum.Prime

namespace Lattigo.Props.C15
open Lattigo Lattigo.Model.Shamir Lattigo.Proofs.GenScalar

/-- `2^16 + 1` and its Montgomery constant, for the non-vacuity examples. -/
abbrev qF : Nat := 65537
theorem montF : MontConst qF (Gen.GenMRedConstant qF) := (GenMRedConstant_spec qF (by decide +kernel) (by decide +kernel)).1
instance : Fact (Nat.Prime qF) := ⟨by norm_num⟩

/-- `NewRNSScalarFromUInt64`: the regenerated body is `v % q` (as `lagrangeCoeff` reduces its keys). -/
theorem newRNSScalar_gen (q mrc : Nat) (bc : Nat × Nat) (v : Nat) :
    Gen.NewRNSScalarFromUInt64_body q mrc bc v = v % q :=
  NewRNSScalarFromUInt64_body_eq q mrc bc v

/-- **`subMod` is the regenerated body of `SubRNSScalar`** on reduced operands. -/
theorem subMod_gen (q mrc : Nat) (bc : Nat × Nat) (a b o : Nat) (hqW : q ≤ W) (ha : a < q) (hb : b < q) :
    Gen.SubRNSScalar_body q mrc bc a b o = subMod q a b :=
  SubRNSScalar_body_eq q mrc bc a b o hqW ha hb

example : Gen.SubRNSScalar_body qF 0 (0, 0) 3 65536 7 = subMod qF 3 65536 :=
  subMod_gen qF 0 (0, 0) 3 65536 7 (by decide +kernel) (by decide +kernel) (by decide +kernel)

/-- word-level specification of the regenerated `ModexpMontgomery`, non-negative `int` exponent:
    `R < q` and `R·W^e ≡ W·x^e (mod q)`. -/
theorem modexpMontgomery_spec_gen (x e q qinv : Nat) (hq : 1 < q) (h2q : 2 * q ≤ W) (hm : MontConst q qinv)
    (hx : x < q) (he : e < 2 ^ 63) :
    Gen.ModexpMontgomery x e q qinv (brc q) < q ∧
    (Gen.ModexpMontgomery x e q qinv (brc q) * W ^ e) % q = (W * x ^ e) % q := by
  obtain ⟨hlt, heq⟩ := Modexp_cast x e q qinv hq h2q hm hx he
  refine ⟨hlt, mod_of_cast ?_⟩
  rw [Nat.cast_mul, Nat.cast_mul, Nat.cast_pow, Nat.cast_pow, heq, mul_assoc, ← mul_pow,
    mul_assoc, mul_comm _ (W : ZMod q), W_mul_inv hm, mul_one]

example := modexpMontgomery_spec_gen 65536 (2 ^ 63 - 1) qF _ (by decide +kernel) (by decide +kernel) montF (by decide +kernel) (by decide +kernel)

/-- a negative exponent leaves `MForm(1)`: the loop `for i := e; i > 0; …` does not run. -/
theorem modexpMontgomery_neg_gen (x e q qinv : Nat) (bc : Nat × Nat) (he : 2 ^ 63 ≤ e) (heW : e < W) :
    Gen.ModexpMontgomery x e q qinv bc = Gen.MForm 1 q bc := by
  rw [Modexp_unfold, Lattigo.Proofs.LoopWhile.loopWhile_of_false]
  exact i64gt_zero_neg e he heW

/-- **`powMod` is refined by the regenerated `ModexpMontgomery`.** -/
theorem powMod_gen (x a e q qinv : Nat) (hq : 1 < q) (h2q : 2 * q ≤ W) (hm : MontConst q qinv)
    (hx : x < q) (he : e < 2 ^ 63) (hxa : Mont q a x) :
    Gen.ModexpMontgomery x e q qinv (brc q) < q ∧
    Mont q (powMod q a e) (Gen.ModexpMontgomery x e q qinv (brc q)) := by
  obtain ⟨hlt, heq⟩ := Modexp_cast x e q qinv hq h2q hm hx he
  exact ⟨hlt, Mont.of_cast (by rw [heq, hxa.cast, mul_W_mul_inv hm, Proofs.Shamir.cast_powMod, mul_comm])⟩

/-- `x = 7·2^64 mod q` represents `7`. -/
example := powMod_gen (7 * W % qF) 7 12345 qF _ (by decide +kernel) (by decide +kernel) montF (by decide +kernel) (by decide +kernel)
  (Mont.mul_W_mod _ _)

/-- **`inverse` is refined by the regenerated body of `Inverse`.** -/
theorem inverse_gen (x a q qinv : Nat) (hq : 2 ≤ q) (h2q : 2 * q ≤ W) (hm : MontConst q qinv)
    (hx : x < q) (hxa : Mont q a x) :
    Gen.Inverse_body q qinv (brc q) x < q ∧ Mont q (inverse q a) (Gen.Inverse_body q qinv (brc q) x) := by
  rw [Inverse_body_eq q qinv (brc q) x hq h2q]
  exact powMod_gen x a (q - 2) q qinv hq h2q hm hx (sub_two_lt h2q) hxa

example := inverse_gen (7 * W % qF) 7 qF _ (by decide +kernel) (by decide +kernel) montF (by decide +kernel)
  (Mont.mul_W_mod _ _)

/-- **one entry of `mulScalars` (`a·b % q`) is refined by the regenerated body of `MulRNSScalar`**
    on lazily reduced Montgomery representatives. -/
theorem mulScalars_gen (q qinv : Nat) (bc : Nat × Nat) (s1 s2 o a b : Nat) (h4q : 4 * q ≤ W)
    (hm : MontConst q qinv) (h1 : s1 < 2 * q) (h2 : s2 < 2 * q) (ha : Mont q a s1) (hb : Mont q b s2) :
    Gen.MulRNSScalar_body q qinv bc s1 s2 o < 2 * q ∧
    Mont q (a * b % q) (Gen.MulRNSScalar_body q qinv bc s1 s2 o) :=
  mulScalars_refines q qinv bc s1 s2 o a b h4q hm h1 h2 ha hb

example := mulScalars_gen qF _ (0, 0) (7 * W % qF + qF) (9 * W % qF) 0 7 9 (by decide +kernel) montF (by decide +kernel) (by decide +kernel)
  (by unfold Mont; rw [Nat.add_mod_right, Nat.mod_mod]) (Mont.mul_W_mod _ _)

/-- `mulScalars` is entrywise that product. -/
theorem mulScalars_entry_gen (ms a b : List Nat) (i : Nat) (h : i < (mulScalars ms a b).length) :
    ∃ (hm : i < ms.length) (ha : i < a.length) (hb : i < b.length),
      (mulScalars ms a b)[i] = a[i] * b[i] % ms[i] := by
  unfold mulScalars at h ⊢
  rw [List.length_zipWith, List.length_zip, Nat.lt_min, Nat.lt_min] at h
  exact ⟨h.1, h.2.1, h.2.2, by rw [List.getElem_zipWith, List.getElem_zip]⟩

/-- **`lagrangeCoeff` is refined by the regenerated code**, composed as `Combiner.lagrangeCoeff`
    composes it (`NewRNSScalarFromUInt64` twice, `SubRNSScalar`, `Inverse`, `MulRNSScalar`): for every
    prime `2 < q`, `2q ≤ 2^64` and ALL `uint64` keys the stored word is `< 2q` and a Montgomery
    representative of `lagrangeCoeff q thisKey thatKey`. -/
theorem lagrangeCoeff_gen (q qinv : Nat) [Fact q.Prime] (h2 : 2 < q) (h2q : 2 * q ≤ W)
    (hm : MontConst q qinv) (thisKey thatKey : Nat) :
    lagrangeCoeffWord q qinv (brc q) thisKey thatKey < 2 * q ∧
    Mont q (lagrangeCoeff q thisKey thatKey) (lagrangeCoeffWord q qinv (brc q) thisKey thatKey) :=
  lagrangeCoeff_refines q qinv h2 h2q hm thisKey thatKey

example := lagrangeCoeff_gen qF _ (by decide +kernel) (by decide +kernel) montF (W - 1) 4294967299

/-- test by evaluation (kernel): the regenerated word for keys `1, 3` mod `65537` and the model value
    `3/(3-1) = 32770`: `word ≡ 32770·2^64`. -/
example : lagrangeCoeffWord qF (Gen.GenMRedConstant qF) (brc qF) 1 3 % qF = (lagrangeCoeff qF 1 3 * W) % qF
    ∧ lagrangeCoeff qF 1 3 = 32770 := by
  decide +kernel

/-- the fuel 64 of the printed `ModexpMontgomery` loop is adequate (rule S checked). -/
theorem modexpMontgomery_fuel_gen (q qinv e r x : Nat) (he : e < W) (fuel : Nat) (hf : 64 ≤ fuel) :
    loopWhile fuel mexpCond (mexpBody q qinv) (e, r, x) = loopWhile 64 mexpCond (mexpBody q qinv) (e, r, x) := by
  by_cases hneg : 2 ^ 63 ≤ e
  · have hc : mexpCond (e, r, x) = false := i64gt_zero_neg e hneg he
    rw [Lattigo.Proofs.LoopWhile.loopWhile_of_false fuel _ _ _ hc, Lattigo.Proofs.LoopWhile.loopWhile_of_false 64 _ _ _ hc]
  · refine Lattigo.Proofs.LoopWhile.loopWhile_fuel mexpCond (mexpBody q qinv) (fun n st => st.1 < 2 ^ n ∧ st.1 < 2 ^ 63) ?_ ?_ 64
      (e, r, x) ⟨by rw [← W_eq]; exact he, by omega⟩ fuel hf
    · intro s hs
      rw [mexpCond_eq hs.2, Nat.lt_one_iff.mp hs.1]
      rfl
    · intro n s hs _
      rw [mexpBody_eq q qinv hs.2]
      exact ⟨half_lt_two_pow hs.1, Nat.lt_of_le_of_lt (Nat.div_le_self _ 2) hs.2⟩

end Lattigo.Props.C15

#print axioms Lattigo.Props.C15.montF
#print axioms Lattigo.Props.C15.newRNSScalar_gen
#print axioms Lattigo.Props.C15.subMod_gen
#print axioms Lattigo.Props.C15.modexpMontgomery_spec_gen
#print axioms Lattigo.Props.C15.modexpMontgomery_neg_gen
#print axioms Lattigo.Props.C15.powMod_gen
#print axioms Lattigo.Props.C15.inverse_gen
#print axioms Lattigo.Props.C15.mulScalars_gen
#print axioms Lattigo.Props.C15.mulScalars_entry_gen
#print axioms Lattigo.Props.C15.lagrangeCoeff_gen
#print axioms Lattigo.Props.C15.modexpMontgomery_fuel_gen
