/-
  Property C15 at the WORD level: the headline reconstruction identity for the words the code computes.

  `Props/C15.lean` proves reconstruction for the residue-level model (`Model/Shamir.lean`);
  `Props/C15Gen.lean` proves that the regenerated RNS-scalar code (`Gen/Scalar.lean`:
  `ModexpMontgomery`, the bodies of `NewRNSScalarFromUInt64`, `SubRNSScalar`, `Inverse`,
  `MulRNSScalar`) refines the model's `lagrangeCoeff` (`lagrangeCoeff_gen`).  This file composes the
  two, together with C01's kernel specifications for the `SubRing.MulScalarMontgomery` / `SubRing.Add`
  lanes and `MForm` (all regenerated from the Go source on every run):

  * `reconstruct_words` — for one prime modulus and one coefficient slot, the word-level pipeline
      shares      `hornerWord`   (ring.EvalPolyScalar: MulScalar = MRed(·, MForm(x)), Add = CRed(·+·))
      aggregation `sumWord`      (AggregateShares = Add)
      combination `additiveWord` (MForm(1); MRedLazy by the Montgomery-form, lazily reduced Lagrange
                                  words `GenScalar.lagrangeCoeffWord`; final MRed with the share word)
      summation   `sumWord`
    yields, for every `t`-subset of parties with points distinct modulo `q` and every ordering each
    party uses, the sum of the dealers' secret words.
  * `share_entry_words`, `aggregate_entry_words`, `additive_entry_words`, `run_entry_words` — every
    word of the MODEL's outputs (`genShamirSecretShare`, `addQP`/`aggregateAll`, `genAdditiveShare`,
    `thresholdRun`) is the corresponding regenerated word computation (refinement: the residue-level
    functions the driver executes equal the word-level functions on canonical inputs).

  Hypotheses, all true of every parameter set `rlwe.NewParameters` accepts and discharged in the
  examples: each modulus `q` is a prime with `2 < q` and `4q ≤ 2^64`; `qinv q = s.MRedConstant`
  satisfies `MontConst` (`GenMRedConstant_spec`); `BRedConstant = brc q`; input words are canonical
  (`< q`: sampler output / secret keys); public points are `uint64` (`< 2^64`).
  What stays tie-only: that `multiparty/threshold.go` and `ring.EvalPolyScalar` (struct-heavy, not
  printed by go2lean) call these functions in this order on these slices.
-/
import Lattigo.Proofs.ShamirWords
import Lattigo.Proofs.ShamirOrder
import Lattigo.Props.C15Gen

namespace Lattigo.Props.C15
open Lattigo Lattigo.Model.Shamir Lattigo.Proofs.Shamir Lattigo.Proofs.ShamirWords Lattigo.Proofs.GenScalar

/-- the whole per-slot word pipeline of a reconstruction: `P` = active parties as (own point, active
list as that party lists it), `fs` = the dealers' coefficient words (constant term first). -/
def runWord (q qinv : ℕ) (P : List (ℕ × List ℕ)) (fs : List (List ℕ)) : ℕ :=
  sumWord q qinv (brc q) 0 (P.map fun p =>
    additiveWord q qinv (brc q) p.1 p.2 (sumWord q qinv (brc q) 0 (fs.map (hornerWord q qinv (brc q) p.1))))

/-- the pipeline written with the residue-level functions of the model. -/
theorem runWord_eq_model {q qinv : ℕ} [Fact q.Prime] (h2 : 2 < q) (h4q : 4 * q ≤ W) (hm : MontConst q qinv)
    (P : List (ℕ × List ℕ)) (hP : ∀ p ∈ P, p.1 < W) (fs : List (List ℕ)) (hfs : ∀ cs ∈ fs, ∀ c ∈ cs, c < q) :
    runWord q qinv P fs =
      sumMod q 0 (P.map fun p => sumMod q 0 (fs.map (horner q p.1)) * lagProdScalar q p.1 p.2 (1 % q) % q) := by
  unfold runWord
  have hq0 : 0 < q := by omega
  have h2q : 2 * q ≤ W := by omega
  have hH := fun p (hp : p ∈ P) cs (hcs : cs ∈ fs) =>
    hornerWord_eq (Nat.lt_trans Nat.one_lt_two h2) h2q hm p.1 (hP p hp) cs (hfs cs hcs)
  have hinner : ∀ p ∈ P, sumWord q qinv (brc q) 0 (fs.map (hornerWord q qinv (brc q) p.1)) =
      sumMod q 0 (fs.map (horner q p.1)) := by
    intro p hp
    rw [List.map_congr_left fun cs hcs => (hH p hp cs hcs).1]
    exact sumWord_eq h2q 0 _ hq0 (List.forall_mem_map.mpr fun cs hcs => (hH p hp cs hcs).2)
  have hmap : (P.map fun p => additiveWord q qinv (brc q) p.1 p.2
        (sumWord q qinv (brc q) 0 (fs.map (hornerWord q qinv (brc q) p.1)))) =
      P.map fun p => sumMod q 0 (fs.map (horner q p.1)) * lagProdScalar q p.1 p.2 (1 % q) % q := by
    apply List.map_congr_left
    intro p hp
    rw [hinner p hp]
    exact additiveWord_eq h2 h4q hm p.1 p.2 _ (sumMod_lt hq0 0 _ hq0)
  rw [hmap]
  exact sumWord_eq h2q 0 _ hq0 (List.forall_mem_map.mpr fun _ _ => Nat.mod_lt _ hq0)

/-- One prime modulus `q` (`2 < q`, `4q ≤ 2^64`, Montgomery constant `qinv`),
one coefficient slot.  Dealers' coefficient words `fs` canonical, degree `< t = |P|`; the `t` active
parties' `uint64` points pairwise distinct modulo `q`; every party lists the active points in its own
order.  Then the word pipeline of the code (Montgomery-form lazily reduced Lagrange words of
`Combiner.lagrangeCoeff`, `MRedLazy` product loop, final `MRed`, `CRed` additions) returns the sum of
the dealers' secret words: the additive shares of any `t` parties sum to the ideal key, for the
words the code computes. -/
theorem reconstruct_words {q qinv : ℕ} [Fact q.Prime] (h2 : 2 < q) (h4q : 4 * q ≤ W) (hm : MontConst q qinv)
    (P : List (ℕ × List ℕ)) (hP : ∀ p ∈ P, p.1 < W) (hS : DistinctMod q (P.map Prod.fst))
    (hacts : ∀ p ∈ P, p.2.Perm (P.map Prod.fst))
    (fs : List (List ℕ)) (hlen : ∀ cs ∈ fs, cs.length ≤ P.length) (hfs : ∀ cs ∈ fs, ∀ c ∈ cs, c < q) :
    runWord q qinv P fs = sumWord q qinv (brc q) 0 (fs.map fun cs => cs.headD 0) := by
  rw [runWord_eq_model h2 h4q hm P hP fs hfs]
  refine (scalar_reconstruct_nat P Prod.fst Prod.snd hS hacts fs id hlen).trans ?_
  refine (sumWord_eq (by omega) 0 _ (by omega) (List.forall_mem_map.mpr fun cs hcs => ?_)).symm
  cases cs with
  | nil => exact Nat.lt_trans Nat.zero_lt_two h2
  | cons c rest => exact hfs _ hcs c List.mem_cons_self

/-- points `2^64−1` and `2^32+3` modulo `65537`, two dealers of degree 1, different orders. -/
example : runWord qF (Gen.GenMRedConstant qF) [(W - 1, [4294967299, W - 1]), (4294967299, [W - 1, 4294967299])]
      [[5, 7], [65536, 12345]] =
    sumWord qF (Gen.GenMRedConstant qF) (brc qF) 0 [5, 65536] :=
  reconstruct_words (by decide +kernel) (by decide +kernel) montF _ (by decide +kernel) (by decide +kernel) (by decide +kernel) _ (by decide +kernel) (by decide +kernel)

/-- …and the value is `5 + 65536 mod 65537 = 4` (kernel evaluation of the regenerated code). -/
example : runWord qF (Gen.GenMRedConstant qF) [(W - 1, [4294967299, W - 1]), (4294967299, [W - 1, 4294967299])]
      [[5, 7], [65536, 12345]] = 4 := by decide +kernel

/-! ## every word of the model's outputs is the regenerated word computation -/

/-- ring constants: the moduli are primes `> 2` with `4q ≤ 2^64` and `qinv q` is `q`'s Montgomery constant. -/
structure RingConsts (r : RingQP) (qinv : ℕ → ℕ) : Prop where
  prime : ∀ q ∈ r.ms, q.Prime
  gt2 : ∀ q ∈ r.ms, 2 < q
  small : ∀ q ∈ r.ms, 4 * q ≤ W
  mont : ∀ q ∈ r.ms, MontConst q (qinv q)

/-- the constants the library computes (`GenMRedConstant`) qualify. -/
theorem ringConsts_gen (r : RingQP) (hprime : ∀ q ∈ r.ms, q.Prime) (h2 : ∀ q ∈ r.ms, 2 < q)
    (hs : ∀ q ∈ r.ms, 4 * q ≤ W) : RingConsts r Gen.GenMRedConstant :=
  ⟨hprime, h2, hs, fun q hq =>
    (GenMRedConstant_spec q ((hprime q hq).eq_two_or_odd.resolve_left (by have := h2 q hq; omega))
      (by have := hs q hq; unfold W at *; omega)).1⟩

/-- every word canonical (`< q`). -/
def ReducedQP (r : RingQP) (N : ℕ) (x : QP) : Prop :=
  ∀ m, m < r.ms.length → ∀ k, k < N → ent x.rows m k < modAt r.ms m

instance (r : RingQP) (N : ℕ) (x : QP) : Decidable (ReducedQP r N x) := by unfold ReducedQP; infer_instance

/-- `GenShamirSecretShare`: each output word is `hornerWord` of the coefficient words. -/
theorem share_entry_words (r : RingQP) (qinv : ℕ → ℕ) (hc : RingConsts r qinv) (N x : ℕ) (hx : x < W)
    (sp : ShamirPoly) (hsh : ∀ c ∈ sp, ShapedQP r N c) (hred : ∀ c ∈ sp, ReducedQP r N c)
    (s : QP) (hs : genShamirSecretShare r x sp = .ok s) (m k : ℕ) (hm : m < r.ms.length) (hk : k < N) :
    ent s.rows m k =
      hornerWord (modAt r.ms m) (qinv (modAt r.ms m)) (brc (modAt r.ms m)) x (sp.map fun c => ent c.rows m k) := by
  have hq := modAt_mem r.ms m hm
  have hne : sp ≠ [] := by
    rintro rfl
    cases hs
  lift sp to List (Tab r N) using hsh
  rw [share_tab r N x sp (by simpa using hne)] at hs
  cases hs
  rw [ent_tabQP _ hm hk, List.map_map,
    show ((fun c : QP => ent c.rows m k) ∘ tabQP r N) = fun g => g m k from funext fun g => ent_tabQP g hm hk]
  refine ((hornerWord_eq (by have := hc.gt2 _ hq; omega) (by have := hc.small _ hq; omega)
    (hc.mont _ hq) x hx _ (List.forall_mem_map.mpr fun g hg => ?_)).1).symm
  have := hred _ (List.mem_map_of_mem hg) m hm k hk
  rwa [ent_tabQP _ hm hk] at this

/-- `AggregateShares` / `ringQP.Add`: each output word is `addWord` of the input words. -/
theorem aggregate_entry_words (r : RingQP) (qinv : ℕ → ℕ) (hc : RingConsts r qinv) (N : ℕ) (a b : QP)
    (ha : ShapedQP r N a) (hb : ShapedQP r N b) (hra : ReducedQP r N a) (hrb : ReducedQP r N b) :
    aggregateShares r a b a = .ok (addQP r a b) ∧
    ∀ m k, m < r.ms.length → k < N →
      ent (addQP r a b).rows m k =
        addWord (modAt r.ms m) (qinv (modAt r.ms m)) (brc (modAt r.ms m)) (ent a.rows m k) (ent b.rows m k) := by
  refine ⟨aggregateShares_ok r N a b ha hb, ?_⟩
  intro m k hm hk
  have hq := modAt_mem r.ms m hm
  rw [ha.eq_tab, hb.eq_tab, addQP_tab, ent_tabQP _ hm hk, ent_tabQP _ hm hk, ent_tabQP _ hm hk,
    addWord_eq (by have := hc.small _ hq; omega) _ _ (hra m hm k hk) (hrb m hm k hk)]

/-- `GenAdditiveShare` (combiner from `NewCombiner`, first `t` active points known and not colliding):
each output word is `additiveWord` of the share word — `MRed` of the share word with the `MRedLazy`
product of the Montgomery-form Lagrange words. -/
theorem additive_entry_words (r : RingQP) (qinv : ℕ → ℕ) (hc : RingConsts r qinv) (N t own : ℕ)
    (others acts : List ℕ) (share : QP) (hsh : ShapedQP r N share) (hred : ReducedQP r N share)
    (hlen : t ≤ acts.length) (hmem : ∀ a ∈ acts.take t, a ≠ own → a ∈ others)
    (hnc : ∀ a ∈ acts.take t, a ≠ own → pointsCollide r.ms own a = false) :
    ∃ s, genAdditiveShare (newCombiner r own others t) acts own share = .ok s ∧
      ∀ m k, m < r.ms.length → k < N →
        ent s.rows m k =
          additiveWord (modAt r.ms m) (qinv (modAt r.ms m)) (brc (modAt r.ms m)) own (acts.take t) (ent share.rows m k) := by
  lift share to Tab r N using hsh
  refine ⟨_, genAdditiveShare_tab r N t own others acts share hlen hmem hnc, ?_⟩
  intro m k hm hk
  have hq := modAt_mem r.ms m hm
  have : Fact (modAt r.ms m).Prime := ⟨hc.prime _ hq⟩
  have hw := hred m hm k hk
  rw [ent_tabQP _ hm hk] at hw ⊢
  rw [ent_tabQP _ hm hk,
    additiveWord_eq (hc.gt2 _ hq) (hc.small _ hq) (hc.mont _ hq) own (acts.take t) _ hw]

/-- **the whole run on words**: under the (non-colliding) hypotheses of the run, with canonical dealer
polynomials and `uint64` points, every word of `thresholdRun`'s result is the word pipeline `runWord`
of the regenerated code. -/
theorem run_entry_words (r : RingQP) (qinv : ℕ → ℕ) (hc : RingConsts r qinv) (N t : ℕ)
    (dealers : List ShamirPoly) (parties : List Party)
    (hd : ∀ sp ∈ dealers, sp ≠ [] ∧ ∀ c ∈ sp, ShapedQP r N c ∧ ReducedQP r N c)
    (hpts : ∀ p ∈ parties, p.own < W)
    (hp : ∀ p ∈ parties, t ≤ p.actives.length ∧ (∀ a ∈ p.actives.take t, a ≠ p.own → a ∈ p.others) ∧
      ∀ a ∈ p.actives.take t, a ≠ p.own → pointsCollide r.ms p.own a = false) :
    ∃ out, thresholdRun r t (zeroQP r N) dealers parties = .ok out ∧
      ∀ m k, m < r.ms.length → k < N →
        ent out.rows m k = runWord (modAt r.ms m) (qinv (modAt r.ms m))
          (parties.map fun p => (p.own, p.actives.take t))
          (dealers.map fun sp => sp.map fun c => ent c.rows m k) := by
  lift dealers to List (List (Tab r N)) using fun sp h c hcm => ((hd sp h).2 c hcm).1
  refine ⟨_, run_spec r N t dealers (fun fs h => by simpa using (hd _ (List.mem_map_of_mem h)).1) parties hp,
    fun m k hm hk => ?_⟩
  have hq := modAt_mem r.ms m hm
  have : Fact (modAt r.ms m).Prime := ⟨hc.prime _ hq⟩
  rw [ent_tabQP _ hm hk, runWord_eq_model (hc.gt2 _ hq) (hc.small _ hq) (hc.mont _ hq)]
  · simp only [List.map_map, Function.comp_def, ent_tabQP _ hm hk]
  · exact List.forall_mem_map.mpr hpts
  · exact List.forall_mem_map.mpr fun sp hsp =>
      List.forall_mem_map.mpr fun c hcm => ((hd sp hsp).2 c hcm).2 m hm k hk

section NonVacuity

def wRing : RingQP := ⟨1, [65537, 12289]⟩
def wDealers : List ShamirPoly :=
  [[⟨1, [[5, 6], [7, 8]]⟩, ⟨1, [[65536, 2], [12288, 4]]⟩], [⟨1, [[9, 10], [11, 12]]⟩, ⟨1, [[1, 0], [3, 3]]⟩]]
def wParties : List Party :=
  [⟨W - 1, [4294967299, W - 1], [4294967299, W - 1, 7]⟩, ⟨4294967299, [W - 1, 4294967299], [W - 1, 4294967299]⟩]

theorem wRing_consts : RingConsts wRing Gen.GenMRedConstant :=
  ringConsts_gen wRing
    (by intro q hq; simp only [wRing, List.mem_cons, List.not_mem_nil, or_false] at hq
        rcases hq with rfl | rfl <;> norm_num)
    (by decide +kernel) (by decide +kernel)

example := share_entry_words wRing _ wRing_consts 2 (W - 1) (by decide +kernel)
  [⟨1, [[5, 6], [7, 8]]⟩, ⟨1, [[65536, 2], [12288, 4]]⟩] (by decide +kernel) (by decide +kernel)
  ⟨1, [[5, 6], [6633, 10371]]⟩ (by decide +kernel)

example := aggregate_entry_words wRing _ wRing_consts 2 ⟨1, [[5, 6], [7, 8]]⟩ ⟨1, [[65536, 2], [12288, 4]]⟩
  (by decide +kernel) (by decide +kernel) (by decide +kernel) (by decide +kernel)

example := additive_entry_words wRing _ wRing_consts 2 2 (W - 1) [4294967299, W - 1] [4294967299, W - 1, 7]
  ⟨1, [[5, 6], [7, 8]]⟩ (by decide +kernel) (by decide +kernel) (by decide +kernel) (by decide +kernel) (by decide +kernel)

example := run_entry_words wRing _ wRing_consts 2 2 wDealers wParties (by decide +kernel) (by decide +kernel) (by decide +kernel)

end NonVacuity

end Lattigo.Props.C15

#print axioms Lattigo.Props.C15.runWord_eq_model
#print axioms Lattigo.Props.C15.reconstruct_words
#print axioms Lattigo.Props.C15.ringConsts_gen
#print axioms Lattigo.Props.C15.share_entry_words
#print axioms Lattigo.Props.C15.aggregate_entry_words
#print axioms Lattigo.Props.C15.additive_entry_words
#print axioms Lattigo.Props.C15.run_entry_words
