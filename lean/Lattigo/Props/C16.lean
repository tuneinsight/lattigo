/-
  C16 — collective key switching, share conversion and refresh preserve the message.

  Theorems about the definitions of `Lattigo/Model/MPSwitch.lean` (executed by the driver on `RPoly`); parties are
  the leaves of the aggregation tree `t` (`C14.agg_perm`: the aggregate does not depend on the tree).

  PROVED FOR ALL INPUTS
    * generic carrier (every commutative ring): `cks_collective`, `cks_phase`, `cks_decrypt`, `cks_agg_ok`,
      `cks_level_mismatch_rejected`, `cks_below_level_panics`; `pcks_phase`, `pcks_zero_noise(_noP)`; `e2s_masked`,
      `s2e_phase`, `e2s_s2e_id`; `transform_spec` (any additive map of the carrier), `refresh_spec`;
      `smudge_in_*_share` (the smudging error enters additively and unscaled).
    * on `RPoly` with well-formed inputs (`Props/C16Ring.lean`): `cks_collective_rpoly`, `cks_phase_rpoly`,
      `pcks_phase_rpoly`, `pcks_zero_noise_rpoly`, `e2s_masked_rpoly`, `s2e_phase_rpoly`, `e2s_s2e_id_rpoly`,
      `transform_spec_rpoly`, `refresh_spec_rpoly` (the validation, level and smudging theorems use no ring law and
      hold at `α := RPoly` as they are).
    * error SIZES over `Z[X]/(X^N+1)` (`Props/C16Noise.lean`): `cks_noise_bound(_P)`, `pcks_noise_bound(_noP)`,
      `refresh_noise_bound`; BGV exactness modulo `t` on EVERY coefficient: `e2s_sum_mod_t_all`,
      `e2s_sum_mod_t_poly`, `e2s_sum_mod_t_parties` (from `q2t_centred`, `e2s_sum_mod_t` here).
    * plaintext spaces and levels (integers): `q2t_centred`, `e2s_sum_mod_t`; `rescale_err`,
      `ckks_refresh_rescale` (CKKS refresh on one coefficient, end to end: < 1 unit per rescaling);
      `min_level_spec`, `centred_masks_no_wrap`, `no_wrap_at_min_level`, `noWrapAtMinLevel_sound`
      (GetMinimumLevelForRefresh ⇒ EncToShare does not wrap, every party count, under the explicit slack condition);
      `transform_flags`, `transform_flags_refresh` (all four Decode/Encode combinations, additive maps of the
      plaintext space).
  UNDER A NAMED HYPOTHESIS: `transform_flags` assumes the decoder, encoder and user function additive (the real BGV
  `DecodeRingT/EncodeRingT` and the CKKS FFT are linear maps — C07's subject, not proved here; a non-additive
  user function breaks the protocol: last example of §7); `pcks_zero_noise` takes the centred residues `d0, d1` as given
  (that `centredLiftP` makes the bracket divisible by P is C02 arithmetic).
  TIED ONLY: `ringT2Q`/`ringQ2T` on `RPoly` (CRT extraction), `centredLiftP`/`pinvPoly` (division by P in
  `pcks_share`), `ofBigints`/`toBigints`, the twin replay of noise and masks, the transformed masks (the harness
  replays the real encoders and passes the graph of the user function).
  PROBED ONLY: decryption of the switched / refreshed ciphertexts by the real Decryptor/Encoder (`cks_decrypts`,
  `pcks_decrypts`, `e2s_sum`, `e2s_s2e_id`, `refresh_roundtrip`, `transform_applies_f`, against bounds that
  dominate the C16Noise theorems), `smudging_present`, `mask_range`/`mask_distribution`, receiver levels,
  `refused_call_keeps_receiver`.
  NOT COVERED: the composition "ring identity on `RPoly` + norm bound on `ZPoly`" as ONE statement (the two carriers
  are related only through `RPoly.crt`, not formalised); refresh between different ring degrees; the float64
  precision of the CKKS transform (labelled "within precision" in the probes).

  Defects found through this property and repaired in /repo (fixes/C16-*.diff):
    * PublicKeySwitchProtocol.AggregateShares compared share1 with itself     (probe level_mismatch)
    * refresh AggregateShares (mpbgv, mpckks) did not set shareOut.MetaData    (probe refresh_agg_fresh_receiver)
    * mpbgv Transform used the output's scale and did not set the output MetaData
    * mpckks masked transform failed for prec ≤ 53 with Decode/Encode         (probe transform_prec)
    * GetMinimumLevelForRefresh compared float64 logarithms                   (probe min_level_exact, `min_level_spec`)
-/
import Lattigo.Proofs.MPSwitch
import Lattigo.Props.C16Ring
import Lattigo.Props.C16Noise
import Mathlib.Data.ZMod.Basic

namespace Lattigo.Props.C16
open Lattigo.MP

section ring
variable {α : Type} [CommRing α]

/-! ## 1. Collective key switching -/

/-- the aggregate of the parties' shares (any tree) is the share of the ideal secrets and summed noise -/
theorem cks_collective (c1 : α) (sIn sOut e : Nat → α) (t : AggTree) :
    t.eval (· + ·) (fun i => cksShare c1 (sIn i) (sOut i) (e i)) =
      cksShare c1 (t.eval (· + ·) sIn) (t.eval (· + ·) sOut) (t.eval (· + ·) e) :=
  cks_tree c1 sIn sOut e t

/-- `phase(KeySwitch(ct, Σ shares), Σ s_out,i) = phase(ct, Σ s_in,i) + Σ e_i`, for a
    combined share at or above the ciphertext level (below: the call panics, `cks_below_level_panics`). -/
theorem cks_phase (ctLevel aggLevel : Nat) (c0 c1 : α) (sIn sOut e : Nat → α) (t : AggTree)
    (hl : ctLevel ≤ aggLevel) :
    ∃ c0' c1', cksKeySwitch ctLevel c0 c1
        ⟨aggLevel, t.eval (· + ·) (fun i => cksShare c1 (sIn i) (sOut i) (e i))⟩ = .ok (c0', c1') ∧
      phase c0' c1' (t.eval (· + ·) sOut) = phase c0 c1 (t.eval (· + ·) sIn) + t.eval (· + ·) e :=
  ⟨_, _, if_neg (Nat.not_lt.mpr hl), by rw [cks_tree, cks_phase_single]⟩

example : (2 : Nat) ≤ 2 := le_refl _

/-- decryption is the case `s_out = 0` -/
theorem cks_decrypt (c0 c1 : α) (s e : Nat → α) (t : AggTree) :
    c0 + t.eval (· + ·) (fun i => cksShare c1 (s i) 0 (e i)) =
      phase c0 c1 (t.eval (· + ·) s) + t.eval (· + ·) e := by
  have h0 : t.eval (· + ·) (fun _ => (0 : α)) = 0 := tree_map_add (0 : α →+ α) t s
  rw [cks_tree, h0]
  unfold cksShare phase; ring

theorem cks_below_level_panics (ctLevel : Nat) (c0 c1 : α) (agg : LShare α) (h : agg.level < ctLevel) :
    cksKeySwitch ctLevel c0 c1 agg = .panic :=
  if_pos h

/-- validated aggregation: equal levels ⇒ every tree succeeds with the sum -/
theorem cks_agg_ok (lvl : Nat) (sh : Nat → LShare α) (t : AggTree)
    (h : ∀ i ∈ t.leaves, (sh i).level = lvl) :
    ∃ g, t.evalM (fun x y => cksAggregate x y x) sh = .ok g ∧ g.level = lvl ∧
      g.v = t.eval (· + ·) (fun i => (sh i).v) :=
  t.evalM_ok (·.level = lvl) (·.v) (· + ·)
    (fun x y hx hy => ⟨⟨x.level, x.v + y.v⟩, if_neg (by simp [hx, hy]), hx, rfl⟩) sh h

/-- **level mismatch rejected** by `KeySwitchProtocol.AggregateShares` -/
theorem cks_level_mismatch_rejected (s1 s2 s3 : LShare α)
    (h : s1.level ≠ s2.level ∨ s1.level ≠ s3.level) : cksAggregate s1 s2 s3 = .err :=
  if_pos h

example : (⟨2, (0 : Int)⟩ : LShare Int).level ≠ (⟨1, (0 : Int)⟩ : LShare Int).level := by decide

/-! ## 2. Collective public-key switching -/

/-- With `z i` the parties' encryptions of zero under the target public key,
    `phase(KeySwitch(ct, Σ shares), s_out) = phase(ct, Σ s_i) + Σ e_i + Σ phase(z_i, s_out)`. -/
theorem pcks_phase (c0 c1 sOut : α) (z : Nat → α × α) (s e : Nat → α) (t : AggTree) :
    let ks := pcksKeySwitch c0 (t.eval pcksAggregate fun i => pcksShare (z i) c1 (s i) (e i))
    phase ks.1 ks.2 sOut =
      phase c0 c1 (t.eval (· + ·) s) + t.eval (· + ·) e +
        phase (t.eval (· + ·) fun i => (z i).1) (t.eval (· + ·) fun i => (z i).2) sOut := by
  intro ks
  simp only [ks, pcks_tree, pcks_phase_single]

/-- the encryption of zero under `pk` (with `phase(pk, s_out) = e_pk`), divided by the auxiliary
    modulus (`pinv·P = 1`; `d0, d1` the centred residues modulo P): its phase is the small quotient
    `P⁻¹·(u·e_pk + e0 + e1·s_out − d0 − d1·s_out)` -/
theorem pcks_zero_noise (pinv pk0 pk1 u e0 e1 d0 d1 sOut epk : α) (hpk : phase pk0 pk1 sOut = epk) :
    phase (encZeroPk pinv pk0 pk1 u e0 e1 d0 d1).1 (encZeroPk pinv pk0 pk1 u e0 e1 d0 d1).2 sOut =
      pinv * (u * epk + e0 + e1 * sOut - d0 - d1 * sOut) :=
  encZeroPk_phase pinv pk0 pk1 u e0 e1 d0 d1 sOut epk hpk

example : phase (-(3 : Int) * 5 + 2) 3 5 = 2 := by decide

theorem pcks_zero_noise_noP (pk0 pk1 u e0 e1 sOut epk : α) (hpk : phase pk0 pk1 sOut = epk) :
    phase (encZeroPkNoP pk0 pk1 u e0 e1).1 (encZeroPkNoP pk0 pk1 u e0 e1).2 sOut =
      u * epk + e0 + e1 * sOut := by
  subst hpk
  unfold phase encZeroPkNoP; ring

/-! ## 3. Encryption to shares, shares to encryption -/

/-- **e2s (ring level).** The masked plaintext obtained from the aggregated public shares is
    `phase(ct, Σ s_i) + Σ e_i − Σ m_i`: adding the parties' masks gives back the plaintext plus the
    smudging noise. -/
theorem e2s_masked (c0 c1 : α) (s e m : Nat → α) (t : AggTree) :
    e2sMasked c0 (t.eval (· + ·) fun i => e2sShare 0 c1 (s i) (e i) (m i)) + t.eval (· + ·) m =
      phase c0 c1 (t.eval (· + ·) s) + t.eval (· + ·) e := by
  rw [e2s_tree, e2s_masked_single, sub_add_cancel]

/-- **s2e.** Re-encrypting additive shares `f i` (any values) gives a ciphertext on the CRP `a` whose
    phase under `Σ s_i` is `Σ f_i + Σ e_i`. -/
theorem s2e_phase (a : α) (s e f : Nat → α) (t : AggTree) :
    let ct := s2eEncryption (t.eval (· + ·) fun i => s2eShare 0 a (s i) (e i) (f i)) a
    phase ct.1 ct.2 (t.eval (· + ·) s) = t.eval (· + ·) f + t.eval (· + ·) e := by
  intro ct
  simp only [ct, s2eEncryption, s2e_tree, s2e_phase_single]

/-- ShareToEnc ∘ EncToShare is the identity on phases up to the two smudging noises:
    if the additive shares `f` sum to `phase(ct) + Σ e1` (which `e2s_masked` provides: `f 0 = masked +
    m 0`, `f i = m i`), the re-encryption has phase `phase(ct, Σ s) + Σ e1 + Σ e2`. -/
theorem e2s_s2e_id (c0 c1 a : α) (s e1 e2 f : Nat → α) (t : AggTree)
    (hf : t.eval (· + ·) f = phase c0 c1 (t.eval (· + ·) s) + t.eval (· + ·) e1) :
    let ct := s2eEncryption (t.eval (· + ·) fun i => s2eShare 0 a (s i) (e2 i) (f i)) a
    phase ct.1 ct.2 (t.eval (· + ·) s) =
      phase c0 c1 (t.eval (· + ·) s) + t.eval (· + ·) e1 + t.eval (· + ·) e2 :=
  (s2e_phase a s e2 f t).trans (congrArg (· + _) hf)

example : (AggTree.leaf 0).eval (· + ·) (fun _ => (7 : Int)) = phase 2 1 5 + 0 := by decide

/-! ## 4. Refresh and masked transform -/

/-- For an additive map `T` of the carrier applied by every party to its mask and by
    the finalisation to the masked plaintext, the output ciphertext `(T(masked) + Σ s2e, a)` has phase
    `T(phase(ct, Σ s_in) + Σ e1) + Σ e2` under `Σ s_out`. -/
theorem transform_spec (T : α →+ α) (c0 c1 a : α) (sIn sOut e1 e2 m : Nat → α) (t : AggTree) :
    let shares := fun i => refreshShare 0 c1 a (sIn i) (sOut i) (e1 i) (e2 i) (m i) (T (m i))
    let agg := t.eval refreshAggregate shares
    let out := refreshFinalize (T (e2sMasked c0 agg.1)) agg.2 a
    phase out.1 out.2 (t.eval (· + ·) sOut) =
      T (phase c0 c1 (t.eval (· + ·) sIn) + t.eval (· + ·) e1) + t.eval (· + ·) e2 := by
  intro shares agg out
  simp only [out, agg, shares, refresh_tree, tree_map_add T]
  exact transform_single T c0 c1 a _ _ _ _ _

/-- Refresh is the transform with `T = id`: a fresh ciphertext on the CRP with phase
    `phase(ct, Σ s) + Σ e1 + Σ e2`. -/
theorem refresh_spec (c0 c1 a : α) (s e1 e2 m : Nat → α) (t : AggTree) :
    let shares := fun i => refreshShare 0 c1 a (s i) (s i) (e1 i) (e2 i) (m i) (m i)
    let agg := t.eval refreshAggregate shares
    let out := refreshFinalize (e2sMasked c0 agg.1) agg.2 a
    phase out.1 out.2 (t.eval (· + ·) s) =
      phase c0 c1 (t.eval (· + ·) s) + t.eval (· + ·) e1 + t.eval (· + ·) e2 :=
  C16Ring.refresh_spec_gen c0 c1 a s e1 e2 m t

/-! ## 5. The smudging noise is in the share, unmodified -/

/-- Every share is its deterministic part plus the sampled smudging error: the
    error enters additively and unscaled (so its standard deviation is the sampler's, reduced to C17). -/
theorem smudge_in_cks_share (c1 sIn sOut e : α) :
    cksShare c1 sIn sOut e - cksShare c1 sIn sOut 0 = e := by
  unfold cksShare; ring

theorem smudge_in_pcks_share (z : α × α) (c1 s e : α) :
    (pcksShare z c1 s e).1 - (pcksShare z c1 s 0).1 = e := by
  unfold pcksShare; ring

theorem smudge_in_refresh_share (c1 a sIn sOut e1 e2 m m' : α) :
    (refreshShare 0 c1 a sIn sOut e1 e2 m m').1 - (refreshShare 0 c1 a sIn sOut 0 0 m m').1 = e1 ∧
    (refreshShare 0 c1 a sIn sOut e1 e2 m m').2 - (refreshShare 0 c1 a sIn sOut 0 0 m m').2 = e2 := by
  unfold refreshShare e2sShare s2eShare cksShare
  constructor <;> ring

end ring

/-! ## 6. Plaintext spaces -/

/-- **BGV, one coefficient.** `RingQ2T` returns the centred representative of `x·t mod Q`, reduced modulo
    `t`. -/
theorem q2t_centred (Q T x : Nat) (v : Int) (hQ : 0 < Q) (hT : 0 < T)
    (hx : v ≡ (x * T : Nat) [ZMOD Q]) (hlo : -((Q / 2 : Nat) : Int) ≤ v)
    (hhi : v < (Q : Int) - ((Q / 2 : Nat) : Int)) :
    ((q2tCoeff Q T x : Nat) : Int) = v % T :=
  Lattigo.MP.q2t_centred Q T x v hQ hT hx hlo hhi

example : q2tCoeff 1009 17 (5 * 831 % 1009) = 5 := by decide  -- 831 = 17⁻¹ mod 1009

/-- **e2s_sum, BGV, exactly modulo t (one coefficient).**  If the masked coefficient `x` of
    `c0 + Σ public shares` satisfies `x·t ≡ msg − Σ masks + t·noise (mod Q)` (which is `e2s_masked`
    multiplied by `t`, the plaintext being embedded as `t⁻¹·msg`) and this integer is within `Q/2`,
    then `RingQ2T(x) + Σ masks ≡ msg (mod t)`: the additive shares sum to the message. -/
theorem e2s_sum_mod_t (Q T x : Nat) (msg masks noise : Int) (hQ : 0 < Q) (hT : 0 < T)
    (hx : msg - masks + T * noise ≡ (x * T : Nat) [ZMOD Q])
    (hlo : -((Q / 2 : Nat) : Int) ≤ msg - masks + T * noise)
    (hhi : msg - masks + T * noise < (Q : Int) - ((Q / 2 : Nat) : Int)) :
    (((q2tCoeff Q T x : Nat) : Int) + masks) % T = msg % T :=
  MP.e2s_sum_mod_t Q T x msg masks noise hQ hT hx hlo hhi

/-- msg = 5, masks = 30, noise = 2: `5 − 30 + 17·2 = 9` -/
example : (((q2tCoeff 1009 17 (9 * 831 % 1009) : Nat) : Int) + 30) % 17 = 5 % 17 := by
  decide

/-- **CKKS.** Rescaling the `k` additive shares one by one (`⌊x_i·Δ_out/Δ_in⌋`, truncated) instead of
    their sum loses at most one unit per share. -/
theorem rescale_err (D S : Int) (hS : 0 < S) (xs : List Int) :
    |S * (rescaleMask D S xs).sum - D * xs.sum| ≤ xs.length * S := by
  induction xs with
  | nil => simp [rescaleMask]
  | cons x xs ih =>
    have h1 := (tdiv_err (x * D) S hS).le
    rw [rescaleMask] at ih
    rw [rescaleMask, List.map_cons, List.sum_cons, List.sum_cons, List.length_cons, Nat.cast_succ, add_mul,
      one_mul, add_comm _ S,
      show S * (Int.tdiv (x * D) S + (xs.map fun m => Int.tdiv (m * D) S).sum) - D * (x + xs.sum)
        = (S * Int.tdiv (x * D) S - x * D) + (S * (xs.map fun m => Int.tdiv (m * D) S).sum - D * xs.sum) by ring]
    exact (abs_add_le _ _).trans (add_le_add h1 ih)

example : rescaleMask 8 3 [10, -10, 1] = [26, -26, 2] := by decide

/-- The level returned by (the exact-arithmetic model of)
    `GetMinimumLevelForRefresh` is the SMALLEST level whose modulus reaches
    `2^(logBound + ⌈log2 nParties⌉)`; in particular `Q_minLevel ≥ nParties·2^logBound`: the sum of the
    `nParties` masks of `logBound` bits (each in `[−2^(logBound−1), 2^(logBound−1))`) does not wrap. -/
theorem min_level_spec (lambda scale nParties : Nat) (moduli : List Nat) (L : Nat) (lb : Nat)
    (h : minLevelForRefresh lambda scale nParties moduli = some ((L : Int), lb)) :
    lb = lambda + clog2 scale ∧
    nParties * 2 ^ lb ≤ (moduli.take (L + 1)).prod ∧
    (moduli.take L).prod < 2 ^ (lb + clog2 nParties) := by
  unfold minLevelForRefresh at h
  simp only at h
  split at h
  · simp at h
  · rename_i k hk
    simp only [Option.some.injEq, Prod.mk.injEq] at h
    obtain ⟨hL, hlb⟩ := h
    have hk1 : k = L + 1 := by omega
    subst hk1
    obtain ⟨h1, h2⟩ := primesNeeded_sound moduli _ 1 (L + 1) hk
    refine ⟨hlb.symm, ?_, ?_⟩
    · rw [← hlb]
      calc nParties * 2 ^ (lambda + clog2 scale)
          ≤ 2 ^ clog2 nParties * 2 ^ (lambda + clog2 scale) :=
            Nat.mul_le_mul_right _ (le_two_pow_clog2 nParties)
        _ = 2 ^ (lambda + clog2 scale + clog2 nParties) := by
            rw [Nat.pow_add (2) (lambda + clog2 scale) (clog2 nParties), Nat.mul_comm]
        _ ≤ _ := by simpa using h1
    · rw [← hlb]
      simpa using h2 (Nat.succ_pos _)

/-- three parties, 40-bit masks: a 41.x-bit first prime is NOT enough (⌈log2 3⌉ = 2), level 1 is -/
example : minLevelForRefresh 30 1024 3 [2199023255579, 1073741827] = some (1, 40) := by decide +kernel

/-- **centred masks do not wrap.**  If every mask satisfies `|M_i| ≤ H` (`H = 2^(logBound−1)` for the
    documented centred range `[−2^(logBound−1), 2^(logBound−1))`), the plaintext coefficient `|m| ≤ B` and
    `2·(n·H + B) < Q`, then the masked plaintext `m − Σ M_i` is its own centred representative modulo `Q`
    (`2·|m − Σ M_i| < Q`): EncToShare at that level recovers it without wrap-around.  With `min_level_spec`
    (`n·2^logBound ≤ Q_minLevel`) the condition holds at the minimum level as soon as the slack
    `Q_minLevel − n·2^logBound` exceeds `2B`; it is the predicate computed by `noWrapAtMinLevel`. -/
theorem centred_masks_no_wrap (Q H B m : Int) (masks : List Int)
    (hM : ∀ M ∈ masks, |M| ≤ H) (hm : |m| ≤ B) (hQ : 2 * (masks.length * H + B) < Q) :
    2 * |m - masks.sum| < Q := by
  have h1 := abs_sum_le_of_abs_le H masks hM
  have h2 : |m - masks.sum| ≤ |m| + |masks.sum| := abs_sub _ _
  linarith

/-- the same with the masks in the documented range `[−2^(lb−1), 2^(lb−1))` -/
theorem bit_masks_no_wrap (Q : Int) (lb : Nat) (masks : List Int)
    (hM : ∀ M ∈ masks, -(2 ^ (lb - 1) : Int) ≤ M ∧ M < 2 ^ (lb - 1)) (m B : Int) (hm : |m| ≤ B)
    (hQ : 2 * (masks.length * 2 ^ (lb - 1) + B) < Q) : 2 * |m - masks.sum| < Q :=
  centred_masks_no_wrap Q (2 ^ (lb - 1)) B m masks
    (fun M h => abs_le.mpr ⟨(hM M h).1, (hM M h).2.le⟩) hm hQ

/-- masks sampled in `[0, 2^logBound)` (not centred) DO wrap at a minimum level that is tight:
    4 parties, 3-bit masks, `Q = 33 ≥ 4·2^3`, message 1: `1 − (7+7+7+7) = −27`, and `2·27 > 33`. -/
example : ¬ (2 * |(1 : Int) - [7, 7, 7, 7].sum| < 33) := by decide

example : noWrapAtMinLevel 2 2 4 [37, 41] 1 = some (0, 3, true) := by decide +kernel

/-! ## 7. Closing the loop: minimum level ⇒ no wrap; refresh end to end on one coefficient; transform flags -/

/-- All party counts.  At the level `L` returned by `GetMinimumLevelForRefresh` (exact
    model `minLevelForRefresh`), with `nParties` masks in the documented centred range
    `[−2^(logBound−1), 2^(logBound−1))` and a plaintext coefficient `|m| ≤ B`, the masked plaintext
    `m − Σ M_i` does not wrap modulo `Q_L` as soon as the SLACK `Q_L − nParties·2^logBound` (which is `≥ 0` by
    `min_level_spec`) exceeds `2B`.  Nothing else is needed: in particular every `nParties ≥ 1`, power of two or not. -/
theorem no_wrap_at_min_level (lambda scale nParties : Nat) (moduli : List Nat) (L lb : Nat)
    (h : minLevelForRefresh lambda scale nParties moduli = some ((L : Int), lb)) (hlb : 1 ≤ lb)
    (masks : List Int) (hn : masks.length = nParties)
    (hM : ∀ M ∈ masks, -(2 ^ (lb - 1) : Int) ≤ M ∧ M < 2 ^ (lb - 1))
    (m B : Int) (hm : |m| ≤ B)
    (hslack : (nParties : Int) * 2 ^ lb + 2 * B < ((moduli.take (L + 1)).prod : Nat)) :
    (nParties : Int) * 2 ^ lb ≤ ((moduli.take (L + 1)).prod : Nat) ∧
    2 * |m - masks.sum| < ((moduli.take (L + 1)).prod : Nat) := by
  obtain ⟨_, hq, _⟩ := min_level_spec lambda scale nParties moduli L lb h
  refine ⟨by exact_mod_cast hq, bit_masks_no_wrap _ lb masks hM m B hm ?_⟩
  rw [hn, show 2 * ((nParties : Int) * 2 ^ (lb - 1) + B) = nParties * (2 * 2 ^ (lb - 1)) + 2 * B by ring,
    ← pow_succ', Nat.sub_add_cancel hlb]
  exact hslack

/-- the predicate the driver computes (`ckks_nowrap`, tied to the harness) is this condition with `B = 2^msgBits`:
    when it answers `true`, EncToShare at the minimum level does not wrap, for every admissible mask vector -/
theorem noWrapAtMinLevel_sound (lambda scale nParties : Nat) (moduli : List Nat) (msgBits L lb : Nat)
    (h : noWrapAtMinLevel lambda scale nParties moduli msgBits = some ((L : Int), lb, true)) (hlb : 1 ≤ lb)
    (masks : List Int) (hn : masks.length = nParties)
    (hM : ∀ M ∈ masks, -(2 ^ (lb - 1) : Int) ≤ M ∧ M < 2 ^ (lb - 1))
    (m : Int) (hm : |m| ≤ 2 ^ msgBits) :
    2 * |m - masks.sum| < ((moduli.take (L + 1)).prod : Nat) := by
  unfold noWrapAtMinLevel at h
  split at h
  · simp at h
  · rename_i ml lb' hml
    simp only [Option.some.injEq, Prod.mk.injEq, decide_eq_true_eq] at h
    obtain ⟨rfl, rfl, hdec⟩ := h
    have hq : (moduli.take ((L : Int) + 1).toNat).foldl (· * ·) 1 = (moduli.take (L + 1)).prod := by
      rw [← List.prod_eq_foldl]; rfl
    rw [hq] at hdec
    refine bit_masks_no_wrap _ lb' masks hM m _ hm ?_
    rw [hn]
    exact_mod_cast hdec

/-- four parties, 3-bit masks, `Q_0 = 37`: admissible masks never wrap a message `|m| ≤ 2` -/
example : 2 * |(2 : Int) - [-4, 3, -4, -4].sum| < 37 :=
  noWrapAtMinLevel_sound 2 2 4 [37, 41] 1 0 3 (by decide +kernel) (by decide) _ rfl (by decide) 2 (by decide)

/-- **CKKS refresh on one coefficient, end to end.**  The finaliser rescales the masked value `m − Σ M_i`, every party
    rescales its own mask; the re-assembled coefficient `⌊(m − ΣM_i)·Δout/Δin⌋ + Σ ⌊M_i·Δout/Δin⌋` differs from
    `m·Δout/Δin` by less than one unit per rescaling (`n + 1` of them), whatever the masks. -/
theorem ckks_refresh_rescale (D S : Int) (hS : 0 < S) (m : Int) (masks : List Int) :
    |S * ((rescaleMask D S [m - masks.sum]).sum + (rescaleMask D S masks).sum) - D * m| ≤ (masks.length + 1) * S := by
  have h := rescale_err D S hS ((m - masks.sum) :: masks)
  simp only [rescaleMask, List.map_cons, List.map_nil, List.sum_cons, List.sum_nil, List.length_cons, add_zero] at h ⊢
  have e : m - masks.sum + masks.sum = m := by ring
  rw [e] at h
  push_cast at h
  exact h

example : |(3 : Int) * ((rescaleMask 8 3 [10 - [7, -9].sum]).sum + (rescaleMask 8 3 [7, -9]).sum) - 8 * 10| ≤ 3 * 3 := by
  decide

/-- the map a masked transform applies in the plaintext space, for the four `Decode`/`Encode` flag combinations:
    `Encode? ∘ f ∘ Decode?` -/
def flagsMap {M : Type} [AddCommGroup M] (dec enc : Bool) (D E F : M →+ M) : M →+ M :=
  (if enc then E else AddMonoidHom.id M).comp (F.comp (if dec then D else AddMonoidHom.id M))

/-- All four combinations.  In the plaintext space (any additive commutative group `M`: `R_t` for
    BGV, the integer / big-float vectors for CKKS), with additive decoding `D`, encoding `E` and user function `F`:
    the finaliser's `T(m − Σ M_i)` plus the parties' `Σ T(M_i)` is `T(m)` for `T = Encode? ∘ F ∘ Decode?`, whichever
    flags are set.  With `transform_spec` (ring level) this is `transform_applies_f`.  (That the real encoders are
    additive is C07's subject; an `F` that is not additive breaks the protocol: see the example below.) -/
theorem transform_flags {M : Type} [AddCommGroup M] (dec enc : Bool) (D E F : M →+ M) (m : M) (masks : List M) :
    flagsMap dec enc D E F (m - masks.sum) + (masks.map (flagsMap dec enc D E F)).sum = flagsMap dec enc D E F m := by
  rw [← map_list_sum, ← map_add, sub_add_cancel]

/-- decode-then-encode with `E ∘ D = id` and the identity function is the refresh, for both flags set -/
theorem transform_flags_refresh {M : Type} [AddCommGroup M] (D E : M →+ M) (hED : ∀ x, E (D x) = x) (m : M)
    (masks : List M) :
    flagsMap true true D E (AddMonoidHom.id M) (m - masks.sum)
      + (masks.map (flagsMap true true D E (AddMonoidHom.id M))).sum = m := by
  rw [transform_flags]; simp [flagsMap, hED]

/-- instance in `Z_97`: decoding = multiplication by 3, encoding = by 65 = 3⁻¹, `f` = doubling; all four flag pairs -/
example : ∀ dec enc : Bool,
    flagsMap dec enc (AddMonoidHom.mulLeft (3 : ZMod 97)) (AddMonoidHom.mulLeft 65) (AddMonoidHom.mulLeft 2)
        ((10 : ZMod 97) - [5, 80].sum)
      + ([5, 80].map (flagsMap dec enc (AddMonoidHom.mulLeft (3 : ZMod 97)) (AddMonoidHom.mulLeft 65)
          (AddMonoidHom.mulLeft 2))).sum
    = flagsMap dec enc (AddMonoidHom.mulLeft (3 : ZMod 97)) (AddMonoidHom.mulLeft 65) (AddMonoidHom.mulLeft 2) 10 :=
  fun dec enc => transform_flags dec enc _ _ _ _ _

/-- a function that is not additive (squaring in `Z_97`) does NOT commute with the masking -/
example : ((10 : ZMod 97) - (5 + 80)) ^ 2 + ((5 : ZMod 97) ^ 2 + 80 ^ 2) ≠ 10 ^ 2 := by decide

end Lattigo.Props.C16

#print axioms Lattigo.Props.C16.no_wrap_at_min_level
#print axioms Lattigo.Props.C16.noWrapAtMinLevel_sound
#print axioms Lattigo.Props.C16.ckks_refresh_rescale
#print axioms Lattigo.Props.C16.transform_flags
#print axioms Lattigo.Props.C16.transform_flags_refresh
#print axioms Lattigo.Props.C16.centred_masks_no_wrap
#print axioms Lattigo.Props.C16.min_level_spec
#print axioms Lattigo.Props.C16.cks_collective
#print axioms Lattigo.Props.C16.cks_phase
#print axioms Lattigo.Props.C16.cks_decrypt
#print axioms Lattigo.Props.C16.cks_below_level_panics
#print axioms Lattigo.Props.C16.cks_agg_ok
#print axioms Lattigo.Props.C16.cks_level_mismatch_rejected
#print axioms Lattigo.Props.C16.pcks_phase
#print axioms Lattigo.Props.C16.pcks_zero_noise
#print axioms Lattigo.Props.C16.pcks_zero_noise_noP
#print axioms Lattigo.Props.C16.e2s_masked
#print axioms Lattigo.Props.C16.s2e_phase
#print axioms Lattigo.Props.C16.e2s_s2e_id
#print axioms Lattigo.Props.C16.transform_spec
#print axioms Lattigo.Props.C16.refresh_spec
#print axioms Lattigo.Props.C16.smudge_in_cks_share
#print axioms Lattigo.Props.C16.smudge_in_pcks_share
#print axioms Lattigo.Props.C16.smudge_in_refresh_share
#print axioms Lattigo.Props.C16.q2t_centred
#print axioms Lattigo.Props.C16.e2s_sum_mod_t
#print axioms Lattigo.Props.C16.rescale_err
