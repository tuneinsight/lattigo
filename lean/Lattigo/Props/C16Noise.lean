/-
  C16 — sizes of the error terms of the collective key-switching / sharing / refresh protocols.

  `Props/C16.lean` gives exact identities: `cks_phase` (`… + Σ e_i`), `pcks_phase`
  (`… + Σ e_i + Σ phase(z_i, s_out)`, `pcks_zero_noise`), `e2s_masked`, `e2s_s2e_id`/`refresh_spec` (`… + Σ e1_i + Σ e2_i`)
  and the ONE-coefficient exactness lemma `e2s_sum_mod_t`.  Here, over `Z[X]/(X^N+1)` = `Lattigo.ZPoly`, for any
  aggregation tree `t` with `n = t.leaves.length` parties:

    * `cks_noise_bound`      ‖Σ e_i‖∞ ≤ n·B_s                          (B_s: bound of the smudging distribution)
    * `cks_noise_bound_P`    with auxiliary modulus each party adds `e_i` to `P·x` and divides by `P` with rounding:
                             the effective error `ν_i` has `P·ν_i = e_i − ρ_i`, `2‖ρ_i‖∞ ≤ P`, and
                             2P‖Σ ν_i‖∞ ≤ n·(2·B_s + P),   i.e. ‖Σ ν_i‖∞ ≤ n·(B_s/P + 1/2)
    * `pcks_noise_bound`     2P‖Σ e_i + Σ z_i‖∞ ≤ n·(2P·B_s + 2·(h_u·B_pk + B + h·B) + P·(1 + h))
      `pcks_noise_bound_noP` ‖Σ e_i + Σ z_i‖∞ ≤ n·(B_s + h_u·B_pk + B + h·B)
    * `refresh_noise_bound`  ‖Σ e1_i + Σ e2_i‖∞ ≤ n·(B_1 + B_2)
    * `e2s_sum_mod_t_all`    BGV EncToShare is exact modulo `t` on EVERY coefficient as soon as
                             `2·(A + t·B_n) < Q` (`A ≥ |msg − Σ masks|`, `B_n ≥ |noise|` coefficient-wise);
      `e2s_sum_mod_t_parties` in particular when `2·t·(n + B_n) ≤ Q`, i.e. `|noise| + n ≤ Q/(2t)`.

  Relation to the harness: `cks_decrypts` (harness/c16.go) tests `n·(⌈6σ'⌉+1)` = `n·B_s` — equal to
  `cks_noise_bound` and ≥ `cks_noise_bound_P`; `pcks_decrypts` tests `n·(B_s + 2dB + B + d + 2)` with `h = h_u = d`,
  `B_pk = B` — ≥ both `pcks` bounds (`⌊(2dB+B)/P⌋ + ⌊(1+d)/2⌋ + 1 ≤ 2dB + B + d + 2`); the CKKS `e2s_sum` /
  `e2s_s2e_id` probes test `n·B_n` / `2n·B_n` = `cks_noise_bound` / `refresh_noise_bound` with `B_1 = B_2`;
  the BGV probes test exactness modulo `t` (no bound) — `e2s_sum_mod_t_all` says when that must hold.
  No probe bound is below a theorem bound.
-/
import Lattigo.Proofs.NoiseNorm
import Lattigo.Proofs.MPSwitch
import Lattigo.Props.C14Noise

namespace Lattigo.Props.C16
open Lattigo.MP Lattigo.ZPoly

theorem scaled_normInf_add_le (c : Nat) (x y : List Int) :
    c * normInf (add x y) ≤ c * normInf x + c * normInf y :=
  Nat.le_trans (Nat.mul_le_mul_left c (normInf_add_le x y)) (Nat.mul_add ..).le

/-- the error `Σ e_i` of `cks_phase` / `cks_decrypt` is at most `n·B_s`. -/
theorem cks_noise_bound (t : AggTree) (e : Nat → List Int) (Bs : Nat)
    (h : ∀ i ∈ t.leaves, normInf (e i) ≤ Bs) : normInf (t.eval add e) ≤ t.leaves.length * Bs :=
  Lattigo.Props.C14.normInf_tree_le t e Bs h

/-- Smudging + rounding: with an auxiliary modulus every party computes
    `ModDown(P·c1·(s_in − s_out) + e_i)`; its effective error `ν_i` satisfies `P·ν_i = e_i − ρ_i` with the centred
    remainder `ρ_i`; then `2P·‖Σ ν_i‖∞ ≤ n·(2·B_s + P)`. -/
theorem cks_noise_bound_P (P : Nat) (t : AggTree) (e ρ ν : Nat → List Int) (Bs : Nat)
    (hrel : ∀ i ∈ t.leaves, smul P (ν i) = sub (e i) (ρ i))
    (hρ : ∀ i ∈ t.leaves, 2 * normInf (ρ i) ≤ P) (he : ∀ i ∈ t.leaves, normInf (e i) ≤ Bs) :
    2 * (P * normInf (t.eval add ν)) ≤ t.leaves.length * (2 * Bs + P) := by
  have h := t.eval_le (2 * P * normInf ·) (scaled_normInf_add_le (2 * P)) ν (2 * Bs + P) (fun i hi => by
    have := rounding1_bound P (ν i) (e i) (ρ i) (hrel i hi) (hρ i hi)
    have := he i hi
    rw [Nat.mul_assoc]
    omega)
  rw [Nat.mul_assoc] at h
  exact h

/-- `Σ e_i + Σ phase(z_i, s_out)` with `phase(z_i) = u_i·e_pk + e0_i + s_out·e1_i`
    (`pcks_zero_noise_noP`). -/
theorem pcks_noise_bound_noP (t : AggTree) (e u e0 e1 : Nat → List Int) (epk s : List Int)
    (Bs Bpk B h hu : Nat)
    (he : ∀ i ∈ t.leaves, normInf (e i) ≤ Bs) (hu' : ∀ i ∈ t.leaves, norm1 (u i) ≤ hu)
    (h0 : ∀ i ∈ t.leaves, normInf (e0 i) ≤ B) (h1 : ∀ i ∈ t.leaves, normInf (e1 i) ≤ B)
    (hpk : normInf epk ≤ Bpk) (hs : norm1 s ≤ h) :
    normInf (add (t.eval add e) (t.eval add fun i => add (add (mul (u i) epk) (e0 i)) (mul s (e1 i))))
      ≤ t.leaves.length * (Bs + (hu * Bpk + B + h * B)) :=
  t.eval_op_le normInf normInf_add_le e _ Bs _ he fun i hi =>
    Lattigo.Props.C14.normInf_encZero_le (u i) epk (e0 i) s (e1 i) hu Bpk B h (hu' i hi) hpk (h0 i hi) hs (h1 i hi)

/-- With auxiliary modulus: `P·z_i = (u_i·e_pk + e0_i + s·e1_i) − δ0_i − s·δ1_i`
    (`pcks_zero_noise`, centred `δ`): `2P·‖Σ e_i + Σ z_i‖∞ ≤ n·(2P·B_s + 2·(h_u·B_pk + B + h·B) + P·(1 + h))`. -/
theorem pcks_noise_bound (P : Nat) (t : AggTree) (e z u e0 e1 δ0 δ1 : Nat → List Int) (epk s : List Int)
    (Bs Bpk B h hu : Nat)
    (hrel : ∀ i ∈ t.leaves, smul P (z i)
      = sub (sub (add (add (mul (u i) epk) (e0 i)) (mul s (e1 i))) (δ0 i)) (mul s (δ1 i)))
    (hd0 : ∀ i ∈ t.leaves, 2 * normInf (δ0 i) ≤ P) (hd1 : ∀ i ∈ t.leaves, 2 * normInf (δ1 i) ≤ P)
    (he : ∀ i ∈ t.leaves, normInf (e i) ≤ Bs) (hu' : ∀ i ∈ t.leaves, norm1 (u i) ≤ hu)
    (h0 : ∀ i ∈ t.leaves, normInf (e0 i) ≤ B) (h1 : ∀ i ∈ t.leaves, normInf (e1 i) ≤ B)
    (hpk : normInf epk ≤ Bpk) (hs : norm1 s ≤ h) :
    2 * (P * normInf (add (t.eval add e) (t.eval add z)))
      ≤ t.leaves.length * (2 * (P * Bs) + (2 * (hu * Bpk + B + h * B) + P * (1 + h))) := by
  rw [← Nat.mul_assoc]
  refine t.eval_op_le (2 * P * normInf ·) (scaled_normInf_add_le (2 * P)) e z _ _ (fun i hi => ?_) fun i hi => ?_
  · rw [Nat.mul_assoc]
    exact Nat.mul_le_mul_left 2 (Nat.mul_le_mul_left P (he i hi))
  · rw [Nat.mul_assoc]
    exact rounding_bound P (z i) _ (δ0 i) (δ1 i) s (hu * Bpk + B + h * B) h (hrel i hi) (hd0 i hi) (hd1 i hi)
      (Lattigo.Props.C14.normInf_encZero_le (u i) epk (e0 i) s (e1 i) hu Bpk B h (hu' i hi) hpk (h0 i hi) hs
        (h1 i hi)) hs

/-- `e2s_s2e_id` / `refresh_spec` add `Σ e1_i + Σ e2_i` to the phase. -/
theorem refresh_noise_bound (t : AggTree) (e1 e2 : Nat → List Int) (B1 B2 : Nat)
    (h1 : ∀ i ∈ t.leaves, normInf (e1 i) ≤ B1) (h2 : ∀ i ∈ t.leaves, normInf (e2 i) ≤ B2) :
    normInf (add (t.eval add e1) (t.eval add e2)) ≤ t.leaves.length * (B1 + B2) :=
  t.eval_op_le normInf normInf_add_le e1 e2 B1 B2 h1 h2

theorem centred_of_natAbs_le (Q C : Nat) (v : Int) (hv : v.natAbs ≤ C) (hfit : 2 * C < Q) :
    -((Q / 2 : Nat) : Int) ≤ v ∧ v < (Q : Int) - ((Q / 2 : Nat) : Int) := by
  omega

/-- `e2s_sum_mod_t` on all coefficients, with norm bounds in place of its two range
    hypotheses.  `x j`: coefficient `j` (CRT value) of the masked polynomial `c0 + Σ public shares`;
    `msg j`, `masks j = Σ_i M_i[j]`, `noise j`: coefficient `j` of the message, of the sum of the masks, of the
    smudged noise (`e2s_masked` multiplied by `t`).  If `|msg − masks| ≤ A`, `|noise| ≤ B_n` coefficient-wise and
    `2·(A + t·B_n) < Q`, then `RingQ2T(x) + Σ masks ≡ msg (mod t)` for EVERY `j`. -/
theorem e2s_sum_mod_t_all (Q T A Bn : Nat) (x : Nat → Nat) (msg masks noise : Nat → Int)
    (hQ : 0 < Q) (hT : 0 < T)
    (hx : ∀ j, msg j - masks j + T * noise j ≡ (x j * T : Nat) [ZMOD Q])
    (hA : ∀ j, (msg j - masks j).natAbs ≤ A) (hn : ∀ j, (noise j).natAbs ≤ Bn)
    (hfit : 2 * (A + T * Bn) < Q) :
    ∀ j, (((q2tCoeff Q T (x j) : Nat) : Int) + masks j) % T = msg j % T := by
  intro j
  have h2 : ((T : Int) * noise j).natAbs ≤ T * Bn := by
    rw [Int.natAbs_mul, Int.natAbs_natCast]; exact Nat.mul_le_mul_left _ (hn j)
  have hb : (msg j - masks j + T * noise j).natAbs ≤ A + T * Bn :=
    (Int.natAbs_add_le _ _).trans (Nat.add_le_add (hA j) h2)
  obtain ⟨hlo, hhi⟩ := centred_of_natAbs_le Q _ _ hb hfit
  exact e2s_sum_mod_t Q T (x j) (msg j) (masks j) (noise j) hQ hT (hx j) hlo hhi

/-- the same on coefficient lists, the noise given by its `‖·‖∞` -/
theorem e2s_sum_mod_t_poly (Q T A Bn : Nat) (xs : List Nat) (msg masks noise : List Int)
    (hQ : 0 < Q) (hT : 0 < T)
    (hx : ∀ j, coeff msg j - coeff masks j + T * coeff noise j ≡ (xs.getD j 0 * T : Nat) [ZMOD Q])
    (hA : normInf (sub msg masks) ≤ A) (hlen : msg.length = masks.length) (hn : normInf noise ≤ Bn)
    (hfit : 2 * (A + T * Bn) < Q) :
    ∀ j, (((q2tCoeff Q T (xs.getD j 0) : Nat) : Int) + coeff masks j) % T = coeff msg j % T := by
  apply e2s_sum_mod_t_all Q T A Bn (fun j => xs.getD j 0) (coeff msg) (coeff masks) (coeff noise) hQ hT hx
  · intro j
    by_cases hj : j < msg.length
    · have hj' : j < masks.length := hlen ▸ hj
      have : coeff (sub msg masks) j = coeff msg j - coeff masks j := by
        simp [coeff, sub, List.getD_eq_getElem?_getD, hj, hj']
      rw [← this]
      exact Nat.le_trans (coeff_natAbs_le _ j) hA
    · have hj' : ¬ j < masks.length := hlen ▸ hj
      simp [coeff, List.getD_eq_getElem?_getD, hj, hj']
  · intro j
    exact Nat.le_trans (coeff_natAbs_le noise j) hn
  · exact hfit

/-- **`n` parties**: message coefficients in `[0, t)`, each of the `n ≥ 1` masks in `[0, t)` (so `Σ masks ∈ [0, n(t−1)]`),
    noise `≤ B_n`: exact as soon as `2·t·(n + B_n) ≤ Q` — "`|noise| + n ≤ Q/(2t)`". -/
theorem e2s_sum_mod_t_parties (Q T n Bn : Nat) (x : Nat → Nat) (msg masks noise : Nat → Int)
    (hT : 0 < T) (hn1 : 1 ≤ n)
    (hx : ∀ j, msg j - masks j + T * noise j ≡ (x j * T : Nat) [ZMOD Q])
    (hm : ∀ j, 0 ≤ msg j ∧ msg j < T) (hk : ∀ j, 0 ≤ masks j ∧ masks j ≤ ((n * (T - 1) : Nat) : Int))
    (hn : ∀ j, (noise j).natAbs ≤ Bn) (hfit : 2 * T * (n + Bn) ≤ Q) :
    ∀ j, (((q2tCoeff Q T (x j) : Nat) : Int) + masks j) % T = msg j % T := by
  have hQ : 0 < Q := by
    have : 0 < 2 * T * (n + Bn) := Nat.mul_pos (Nat.mul_pos (by decide) hT) (by omega)
    omega
  apply e2s_sum_mod_t_all Q T (n * (T - 1)) Bn x msg masks noise hQ hT hx _ hn
  · have e1 : 2 * T * (n + Bn) = 2 * (n * T + T * Bn) := by ring
    have e2 : n * (T - 1) + n = n * T := by
      rw [← Nat.mul_succ]; congr 1; omega
    omega
  · intro j
    have h1 := hm j
    have h2 := hk j
    have h3 : T - 1 ≤ n * (T - 1) := Nat.le_mul_of_pos_left _ hn1
    generalize n * (T - 1) = K at *
    omega

/-- two parties, `P = 4`, smudging errors `[5, -3]`, `[-6, 2]` (`B_s = 6`); party 0: `[5,-3] = 4·[1,-1] + [1,1]`,
    party 1: `[-6,2] = 4·[-2,0] + [2,2]` (the remainder `2 = P/2` is admissible): `Σ ν_i = [-1, -1]`,
    `2·4·1 = 8 ≤ 2·(2·6 + 4) = 32`. -/
example :
    let t := AggTree.node (.leaf 0) (.leaf 1)
    let e : Nat → List Int := fun i => if i = 0 then [5, -3] else [-6, 2]
    let ρ : Nat → List Int := fun i => if i = 0 then [1, 1] else [2, 2]
    let ν : Nat → List Int := fun i => if i = 0 then [1, -1] else [-2, 0]
    (∀ i ∈ t.leaves, smul (4 : Nat) (ν i) = sub (e i) (ρ i)) ∧ (∀ i ∈ t.leaves, 2 * normInf (ρ i) ≤ 4)
      ∧ (∀ i ∈ t.leaves, normInf (e i) ≤ 6) ∧ 2 * (4 * normInf (t.eval add ν)) = 8
      ∧ t.leaves.length * (2 * 6 + 4) = 32 := by decide

/-- BGV, `Q = 1009`, `t = 17` (`17⁻¹ = 831 mod 1009`), two coefficients: `msg = (5, 16)`, `masks = (30, 3)`,
    `noise = (2, -1)`: `v = (9, -4)`, `x = v·831 mod 1009`; `A = 25`, `B_n = 2`: `2·(25 + 17·2) = 118 < 1009`. -/
example :
    let x : Nat → Nat := fun j => if j = 0 then 9 * 831 % 1009 else (1009 - 4) * 831 % 1009
    let msg : Nat → Int := fun j => if j = 0 then 5 else 16
    let masks : Nat → Int := fun j => if j = 0 then 30 else 3
    let noise : Nat → Int := fun j => if j = 0 then 2 else -1
    (∀ j < 2, (msg j - masks j + 17 * noise j - ((x j * 17 : Nat) : Int)) % 1009 = 0)
      ∧ (∀ j < 2, (msg j - masks j).natAbs ≤ 25 ∧ (noise j).natAbs ≤ 2) ∧ 2 * (25 + 17 * 2) < 1009
      ∧ (∀ j < 2, (((q2tCoeff 1009 17 (x j) : Nat) : Int) + masks j) % 17 = msg j % 17) := by decide

end Lattigo.Props.C16

#print axioms Lattigo.Props.C16.cks_noise_bound
#print axioms Lattigo.Props.C16.cks_noise_bound_P
#print axioms Lattigo.Props.C16.pcks_noise_bound_noP
#print axioms Lattigo.Props.C16.pcks_noise_bound
#print axioms Lattigo.Props.C16.refresh_noise_bound
#print axioms Lattigo.Props.C16.e2s_sum_mod_t_all
#print axioms Lattigo.Props.C16.e2s_sum_mod_t_poly
#print axioms Lattigo.Props.C16.e2s_sum_mod_t_parties
