/-
  C16 on the carrier the driver executes.

  `Props/C16.lean` proves `cks_phase`, `pcks_phase`, `e2s_masked`, `s2e_phase`, `e2s_s2e_id`,
  `transform_spec`, `refresh_spec` for the generic functions of `Model/MPSwitch.lean` over EVERY
  commutative ring; the driver (`Driver/C16.lean`) runs them on plain `RPoly` values.  Here they are
  instantiated at the commutative ring `WFPoly qs n` (`Proofs/RPolyRing.lean`) and transported to
  `RPoly`:

    hypotheses = well-formedness of the INPUTS (`WFq qs n a` : `a.qs = qs ∧ a.WF n`; for the parties'
                 values `s i`, `e i`, … : for every index `i`);
    conclusion = the same identity between `RPoly` values (`0` is `RPoly.zero qs n`, which is what the
                 driver passes as the zero key).

  Transported in a weaker form:
  * `transform_spec`: `T` is any function on `RPoly` that preserves well-formedness and is additive on
    well-formed values (`transform_spec_rpoly`); that the real transforms (decode / apply `f` / encode) are of
    this form is not proved;
  * `pcks_zero_noise`: `d0`, `d1` are arbitrary well-formed values (`pcks_zero_noise_rpoly`); that the driver's
    `centredLiftP` makes the bracket divisible by `P` is arithmetic of C02.
  Not transported: `q2t_centred`, `e2s_sum_mod_t`, `rescale_err`, `min_level_spec` are statements about
  `Nat`/`Int` (plaintext-space maps `ringQ2T`, `toBigints`, … go through `RPoly.crt`, which is not related to the
  ring structure).
-/
import Lattigo.Proofs.RPolyTransport
import Lattigo.Proofs.MPSwitch
import Driver.C16


namespace Lattigo.Props.C16Ring
open Lattigo Lattigo.MP Lattigo.RPolyRing Lattigo.Transport

section naturality
variable {α β : Type} [Add α] [Mul α] [Neg α] [Sub α] [Add β] [Mul β] [Neg β] [Sub β]
variable {φ : α → β} (hφ : OpsHom φ)
include hφ

theorem encZeroPkNoP_push (pk0 pk1 u e0 e1 : α) :
    Prod.map φ φ (encZeroPkNoP pk0 pk1 u e0 e1) = encZeroPkNoP (φ pk0) (φ pk1) (φ u) (φ e0) (φ e1) := by
  simp only [encZeroPkNoP, Prod.map, hφ.add, hφ.mul]

set_option linter.unusedSectionVars false in
theorem s2eEncryption_push (agg a : α) :
    Prod.map φ φ (s2eEncryption agg a) = s2eEncryption (φ agg) (φ a) := rfl

end naturality

section gen
variable {α : Type} [CommRing α]

theorem refresh_spec_gen (c0 c1 a : α) (s e1 e2 m : Nat → α) (t : AggTree) :
    let shares := fun i => refreshShare 0 c1 a (s i) (s i) (e1 i) (e2 i) (m i) (m i)
    let agg := t.eval refreshAggregate shares
    let out := refreshFinalize (e2sMasked c0 agg.1) agg.2 a
    phase out.1 out.2 (t.eval (· + ·) s) =
      phase c0 c1 (t.eval (· + ·) s) + t.eval (· + ·) e1 + t.eval (· + ·) e2 := by
  intro shares agg out
  simp only [out, agg, shares, refresh_tree]
  exact transform_single (AddMonoidHom.id α) c0 c1 a _ _ _ _ _

end gen

/-! ## The theorems on `RPoly` values

`val : WFPoly qs n → RPoly` commutes with `+ * −` by definition, so an identity of the ring without tree sums
holds of `val`-images by `congrArg val`; the aggregate of the shares is the share of the sums by `eval_map₃`
at `fun a b c => share (val a) (val b) (val c)`.  Each proof is the proof of the theorem over a commutative
ring, in these two steps. -/

section rpoly
variable {qs : List ℕ} {n : ℕ} [Good qs n]

theorem e2s_tree_val (c1 : RPoly) (hc1 : WFq qs n c1) (s e m : Nat → WFPoly qs n) (t : AggTree) :
    t.eval (· + ·) (fun i => e2sShare (RPoly.zero qs n) c1 (val (s i)) (val (e i)) (val (m i))) =
      e2sShare (RPoly.zero qs n) c1 (val (t.eval (· + ·) s)) (val (t.eval (· + ·) e)) (val (t.eval (· + ·) m)) :=
  t.eval_map₃ (fun a b c => e2sShare (RPoly.zero qs n) c1 (val a) (val b) (val c))
    (fun a b c a' b' c' => congrArg val (e2sShare_add (lift c1 hc1) a b c a' b' c')) s e m

theorem s2e_tree_val (a : RPoly) (ha : WFq qs n a) (s e m : Nat → WFPoly qs n) (t : AggTree) :
    t.eval (· + ·) (fun i => s2eShare (RPoly.zero qs n) a (val (s i)) (val (e i)) (val (m i))) =
      s2eShare (RPoly.zero qs n) a (val (t.eval (· + ·) s)) (val (t.eval (· + ·) e)) (val (t.eval (· + ·) m)) :=
  t.eval_map₃ (fun x b c => s2eShare (RPoly.zero qs n) a (val x) (val b) (val c))
    (fun x b c x' b' c' => congrArg val (s2eShare_add (lift a ha) x b c x' b' c')) s e m

/-- The aggregate of the parties' shares (any tree) is the share of the ideal
secrets and summed noise. -/
theorem cks_collective_rpoly (c1 : RPoly) (sIn sOut e : Nat → RPoly) (t : AggTree)
    (hc1 : WFq qs n c1) (hsIn : ∀ i, WFq qs n (sIn i)) (hsOut : ∀ i, WFq qs n (sOut i))
    (he : ∀ i, WFq qs n (e i)) :
    t.eval (· + ·) (fun i => cksShare c1 (sIn i) (sOut i) (e i)) =
      cksShare c1 (t.eval (· + ·) sIn) (t.eval (· + ·) sOut) (t.eval (· + ·) e) := by
  lift sIn to ℕ → WFPoly qs n using hsIn
  lift sOut to ℕ → WFPoly qs n using hsOut
  lift e to ℕ → WFPoly qs n using he
  rw [eval_add_val, eval_add_val, eval_add_val]
  exact t.eval_map₃ (fun a b c => cksShare c1 (val a) (val b) (val c))
    (fun a b c a' b' c' => congrArg val (cksShare_add (lift c1 hc1) a b c a' b' c')) sIn sOut e

/-- `phase(KeySwitch(ct, Σ shares), Σ s_out,i) = phase(ct, Σ s_in,i) + Σ e_i` -/
theorem cks_phase_rpoly (ctLevel aggLevel : Nat) (c0 c1 : RPoly) (sIn sOut e : Nat → RPoly) (t : AggTree)
    (hl : ctLevel ≤ aggLevel) (hc0 : WFq qs n c0) (hc1 : WFq qs n c1)
    (hsIn : ∀ i, WFq qs n (sIn i)) (hsOut : ∀ i, WFq qs n (sOut i)) (he : ∀ i, WFq qs n (e i)) :
    ∃ c0' c1', cksKeySwitch ctLevel c0 c1
        ⟨aggLevel, t.eval (· + ·) (fun i => cksShare c1 (sIn i) (sOut i) (e i))⟩ = .ok (c0', c1') ∧
      phase c0' c1' (t.eval (· + ·) sOut) = phase c0 c1 (t.eval (· + ·) sIn) + t.eval (· + ·) e
      ∧ WFq qs n c0' ∧ WFq qs n c1' := by
  have hI := eval_add_wf t sIn fun i _ => hsIn i
  have hO := eval_add_wf t sOut fun i _ => hsOut i
  have hE := eval_add_wf t e fun i _ => he i
  rw [cks_collective_rpoly c1 sIn sOut e t hc1 hsIn hsOut he]
  exact ⟨_, c1, if_neg (Nat.not_lt.mpr hl),
    congrArg val (cks_phase_single (lift c0 hc0) (lift c1 hc1) (lift _ hI) (lift _ hO) (lift _ hE)),
    val_wf (lift c0 hc0 + cksShare (lift c1 hc1) (lift _ hI) (lift _ hO) (lift _ hE)), hc1⟩

/-- With `z i` the parties' encryptions of zero under the target public key:
`phase(KeySwitch(ct, Σ shares), s_out) = phase(ct, Σ s_i) + Σ e_i + Σ phase(z_i, s_out)`. -/
theorem pcks_phase_rpoly (c0 c1 sOut : RPoly) (z : Nat → RPoly × RPoly) (s e : Nat → RPoly) (t : AggTree)
    (hc0 : WFq qs n c0) (hc1 : WFq qs n c1) (hsOut : WFq qs n sOut)
    (hz : ∀ i, WFq qs n (z i).1 ∧ WFq qs n (z i).2) (hs : ∀ i, WFq qs n (s i)) (he : ∀ i, WFq qs n (e i)) :
    let ks := pcksKeySwitch c0 (t.eval pcksAggregate fun i => pcksShare (z i) c1 (s i) (e i))
    phase ks.1 ks.2 sOut =
      phase c0 c1 (t.eval (· + ·) s) + t.eval (· + ·) e +
        phase (t.eval (· + ·) fun i => (z i).1) (t.eval (· + ·) fun i => (z i).2) sOut := by
  lift s to ℕ → WFPoly qs n using hs
  lift e to ℕ → WFPoly qs n using he
  lift z to ℕ → WFPoly qs n × WFPoly qs n using hz
  intro ks
  simp only [ks, Prod.map_fst, Prod.map_snd, eval_add_val]
  -- the aggregate of the pairs `z i` is the pair of the aggregates of their components
  rw [t.eval_map₃ (op := pcksAggregate) (op₁ := pcksAggregate) (op₂ := (· + ·)) (op₃ := (· + ·))
      (fun z a b => pcksShare (Prod.map val val z) c1 (val a) (val b))
      (fun z a b z' a' b' => congrArg (Prod.map val val) (pcksShare_add (lift c1 hc1) z a b z' a' b')) z s e,
    (t.eval_map₂ Prod.mk (fun _ _ _ _ => rfl) (fun i => (z i).1) (fun i => (z i).2) :
      t.eval pcksAggregate z = _)]
  exact congrArg val (pcks_phase_single (lift c0 hc0) (lift c1 hc1) _ _ (lift sOut hsOut) (_, _))

/-- Phase of the encryption of zero under `pk` divided by the auxiliary modulus. -/
theorem pcks_zero_noise_rpoly (pinv pk0 pk1 u e0 e1 d0 d1 sOut epk : RPoly)
    (hpk : phase pk0 pk1 sOut = epk)
    (h1 : WFq qs n pinv) (h2 : WFq qs n pk0) (h3 : WFq qs n pk1) (h4 : WFq qs n u) (h5 : WFq qs n e0)
    (h6 : WFq qs n e1) (h7 : WFq qs n d0) (h8 : WFq qs n d1) (h9 : WFq qs n sOut) :
    phase (encZeroPk pinv pk0 pk1 u e0 e1 d0 d1).1 (encZeroPk pinv pk0 pk1 u e0 e1 d0 d1).2 sOut =
      pinv * (u * epk + e0 + e1 * sOut - d0 - d1 * sOut) := by
  subst hpk
  exact congrArg val (encZeroPk_phase (lift pinv h1) (lift pk0 h2) (lift pk1 h3) (lift u h4) (lift e0 h5)
    (lift e1 h6) (lift d0 h7) (lift d1 h8) (lift sOut h9) _ rfl)

/-- The masked plaintext plus the parties' masks is the plaintext plus the smudging
noise (`RPoly.zero qs n` is the zero key the driver passes). -/
theorem e2s_masked_rpoly (c0 c1 : RPoly) (s e m : Nat → RPoly) (t : AggTree)
    (hc0 : WFq qs n c0) (hc1 : WFq qs n c1) (hs : ∀ i, WFq qs n (s i)) (he : ∀ i, WFq qs n (e i))
    (hm : ∀ i, WFq qs n (m i)) :
    e2sMasked c0 (t.eval (· + ·) fun i => e2sShare (RPoly.zero qs n) c1 (s i) (e i) (m i))
        + t.eval (· + ·) m =
      phase c0 c1 (t.eval (· + ·) s) + t.eval (· + ·) e := by
  lift s to ℕ → WFPoly qs n using hs
  lift e to ℕ → WFPoly qs n using he
  lift m to ℕ → WFPoly qs n using hm
  rw [e2s_tree_val c1 hc1, eval_add_val, eval_add_val, eval_add_val]
  exact congrArg val ((congrArg (· + _) (e2s_masked_single (lift c0 hc0) (lift c1 hc1) _ _ _)).trans
    (sub_add_cancel _ _))

theorem s2e_phase_rpoly (a : RPoly) (s e f : Nat → RPoly) (t : AggTree)
    (ha : WFq qs n a) (hs : ∀ i, WFq qs n (s i)) (he : ∀ i, WFq qs n (e i)) (hf : ∀ i, WFq qs n (f i)) :
    let ct := s2eEncryption (t.eval (· + ·) fun i => s2eShare (RPoly.zero qs n) a (s i) (e i) (f i)) a
    phase ct.1 ct.2 (t.eval (· + ·) s) = t.eval (· + ·) f + t.eval (· + ·) e := by
  lift s to ℕ → WFPoly qs n using hs
  lift e to ℕ → WFPoly qs n using he
  lift f to ℕ → WFPoly qs n using hf
  intro ct
  simp only [ct, s2eEncryption, s2e_tree_val a ha, eval_add_val]
  exact congrArg val (s2e_phase_single (lift a ha) _ _ _)

set_option linter.unusedVariables false in
/-- ShareToEnc ∘ EncToShare is the identity on phases up to the two smudging noises. -/
theorem e2s_s2e_id_rpoly (c0 c1 a : RPoly) (s e1 e2 f : Nat → RPoly) (t : AggTree)
    (hc0 : WFq qs n c0) (hc1 : WFq qs n c1) (ha : WFq qs n a) (hs : ∀ i, WFq qs n (s i))
    (he1 : ∀ i, WFq qs n (e1 i)) (he2 : ∀ i, WFq qs n (e2 i)) (hfw : ∀ i, WFq qs n (f i))
    (hf : t.eval (· + ·) f = phase c0 c1 (t.eval (· + ·) s) + t.eval (· + ·) e1) :
    let ct := s2eEncryption (t.eval (· + ·) fun i => s2eShare (RPoly.zero qs n) a (s i) (e2 i) (f i)) a
    phase ct.1 ct.2 (t.eval (· + ·) s) =
      phase c0 c1 (t.eval (· + ·) s) + t.eval (· + ·) e1 + t.eval (· + ·) e2 :=
  (s2e_phase_rpoly a s e2 f t ha hs he2 hfw).trans (congrArg (· + _) hf)

/-- `T` any map of `RPoly` that preserves well-formedness and is additive on
well-formed values. -/
theorem transform_spec_rpoly (T : RPoly → RPoly) (hTwf : ∀ x, WFq qs n x → WFq qs n (T x))
    (hTadd : ∀ x y, WFq qs n x → WFq qs n y → T (x + y) = T x + T y)
    (c0 c1 a : RPoly) (sIn sOut e1 e2 m : Nat → RPoly) (t : AggTree)
    (hc0 : WFq qs n c0) (hc1 : WFq qs n c1) (ha : WFq qs n a) (hsIn : ∀ i, WFq qs n (sIn i))
    (hsOut : ∀ i, WFq qs n (sOut i)) (he1 : ∀ i, WFq qs n (e1 i)) (he2 : ∀ i, WFq qs n (e2 i))
    (hm : ∀ i, WFq qs n (m i)) :
    let shares := fun i => refreshShare (RPoly.zero qs n) c1 a (sIn i) (sOut i) (e1 i) (e2 i) (m i) (T (m i))
    let agg := t.eval refreshAggregate shares
    let out := refreshFinalize (T (e2sMasked c0 agg.1)) agg.2 a
    phase out.1 out.2 (t.eval (· + ·) sOut) =
      T (phase c0 c1 (t.eval (· + ·) sIn) + t.eval (· + ·) e1) + t.eval (· + ·) e2 := by
  lift sIn to ℕ → WFPoly qs n using hsIn
  lift sOut to ℕ → WFPoly qs n using hsOut
  lift e1 to ℕ → WFPoly qs n using he1
  lift e2 to ℕ → WFPoly qs n using he2
  lift m to ℕ → WFPoly qs n using hm
  -- `T` as an additive endomorphism of the ring
  let T' : WFPoly qs n →+ WFPoly qs n :=
    AddMonoidHom.mk' (fun x => lift (T (val x)) (hTwf _ (val_wf x)))
      fun x y => val_injective (hTadd _ _ (val_wf x) (val_wf y))
  have hT' : ∀ x, T (val x) = val (T' x) := fun _ => rfl
  intro shares agg out
  simp only [out, agg, shares, refreshShare, hT', eval_add_val]
  rw [t.eval_map₂ (op := refreshAggregate) (op₁ := (· + ·)) (op₂ := (· + ·)) Prod.mk (fun _ _ _ _ => rfl),
    e2s_tree_val c1 hc1, s2e_tree_val a ha sOut e2 fun i => T' (m i), tree_map_add T']
  exact congrArg val (transform_single T' (lift c0 hc0) (lift c1 hc1) (lift a ha) _ _ _ _ _)

/-- Refresh: a fresh ciphertext on the CRP `a` with phase
`phase(ct, Σ s) + Σ e1 + Σ e2`. -/
theorem refresh_spec_rpoly (c0 c1 a : RPoly) (s e1 e2 m : Nat → RPoly) (t : AggTree)
    (hc0 : WFq qs n c0) (hc1 : WFq qs n c1) (ha : WFq qs n a) (hs : ∀ i, WFq qs n (s i))
    (he1 : ∀ i, WFq qs n (e1 i)) (he2 : ∀ i, WFq qs n (e2 i)) (hm : ∀ i, WFq qs n (m i)) :
    let shares := fun i => refreshShare (RPoly.zero qs n) c1 a (s i) (s i) (e1 i) (e2 i) (m i) (m i)
    let agg := t.eval refreshAggregate shares
    let out := refreshFinalize (e2sMasked c0 agg.1) agg.2 a
    phase out.1 out.2 (t.eval (· + ·) s) =
      phase c0 c1 (t.eval (· + ·) s) + t.eval (· + ·) e1 + t.eval (· + ·) e2 :=
  transform_spec_rpoly id (fun _ h => h) (fun _ _ _ _ => rfl) c0 c1 a s s e1 e2 m t hc0 hc1 ha hs hs he1 he2 hm

end rpoly

section driver
open Driver.C16

/-- the `cks_share` handler calls `cksShare` on `RPoly` values: the ciphertext component as parsed, the
secrets and the error as residues of the integer vectors (`RPoly.ofInts`, well formed by `ofInts_wf`) -/
theorem handle_cks_share_calls (qs n c1 sIn sOut e : String) (qsv : List ℕ) (c1m : List (List ℕ))
    (sInv sOutv ev : List ℤ)
    (h1 : Driver.parseVec? qs = some qsv) (h2 : Driver.parseMat? c1 = some c1m)
    (h3 : Driver.parseIVec? sIn = some sInv) (h4 : Driver.parseIVec? sOut = some sOutv)
    (h5 : Driver.parseIVec? e = some ev) :
    handleOpt ["cks_share", qs, n, c1, sIn, sOut, e]
      = some (Driver.showMat (cksShare (poly qsv c1m) (RPoly.ofInts qsv sInv) (RPoly.ofInts qsv sOutv)
          (RPoly.ofInts qsv ev)).c) :=
  bind_of_eq_some h1 (bind_of_eq_some h2 (bind_of_eq_some h3 (bind_of_eq_some h4 (bind_of_eq_some h5 rfl))))

/-- the `bgv_e2s` handler calls `e2sShare` with the zero key `RPoly.zero qs n` of the theorems -/
theorem handle_bgv_e2s_calls (qs n t c1 s e mask : String) (qsv : List ℕ) (nv tv : ℕ) (c1m : List (List ℕ))
    (sv ev : List ℤ) (mv : List ℕ)
    (h1 : Driver.parseVec? qs = some qsv) (h2 : n.toNat? = some nv) (h3 : t.toNat? = some tv)
    (h4 : Driver.parseMat? c1 = some c1m) (h5 : Driver.parseIVec? s = some sv)
    (h6 : Driver.parseIVec? e = some ev) (h7 : Driver.parseVec? mask = some mv) :
    handleOpt ["bgv_e2s", qs, n, t, c1, s, e, mask]
      = some (Driver.showMat (e2sShare (RPoly.zero qsv nv) (poly qsv c1m) (RPoly.ofInts qsv sv)
          (RPoly.ofInts qsv ev) (ringT2Q qsv nv tv mv)).c) :=
  -- in the order the handler's `do` block parses: the mask before the ciphertext component
  bind_of_eq_some h1 (bind_of_eq_some h2 (bind_of_eq_some h3 (bind_of_eq_some h7 (bind_of_eq_some h4
    (bind_of_eq_some h5 (bind_of_eq_some h6 rfl))))))

end driver

section concrete

instance good8 : Good [97, 193] 8 := ⟨by decide, by decide⟩

def c08 : RPoly := ⟨[97, 193], [[5, 6, 7, 8, 9, 10, 11, 12], [5, 6, 7, 8, 9, 10, 11, 12]]⟩
def c18 : RPoly := ⟨[97, 193], [[1, 2, 3, 4, 5, 6, 7, 8], [10, 20, 30, 40, 50, 60, 70, 80]]⟩
/-- party `i`: ternary secrets and small errors, as the driver builds them (`RPoly.ofInts`) -/
def sIn8 (i : Nat) : RPoly := RPoly.ofInts [97, 193] [1, -1, 0, (i : ℤ) % 2, 0, 0, -1, 1]
def sOut8 (i : Nat) : RPoly := RPoly.ofInts [97, 193] [0, 1, 1, 0, -1, 0, (i : ℤ) % 2, 1]
def e8 (i : Nat) : RPoly := RPoly.ofInts [97, 193] [1, 0, -1, 0, 2, 0, -2, (i : ℤ) % 3]
def t8 : AggTree := .node (.node (.leaf 0) (.leaf 1)) (.leaf 2)

/-- an instance of `cks_phase_rpoly` obtained FROM THE THEOREM, all hypotheses discharged -/
example : ∃ c0' c1', cksKeySwitch 1 c08 c18
      ⟨1, t8.eval (· + ·) (fun i => cksShare c18 (sIn8 i) (sOut8 i) (e8 i))⟩ = .ok (c0', c1') ∧
    phase c0' c1' (t8.eval (· + ·) sOut8) = phase c08 c18 (t8.eval (· + ·) sIn8) + t8.eval (· + ·) e8
    ∧ WFq [97, 193] 8 c0' ∧ WFq [97, 193] 8 c1' :=
  cks_phase_rpoly (qs := [97, 193]) (n := 8) 1 1 c08 c18 sIn8 sOut8 e8 t8 (le_refl _) (by decide) (by decide)
    (fun _ => ofInts_wf _ rfl) (fun _ => ofInts_wf _ rfl) (fun _ => ofInts_wf _ rfl)

/-- TEST (evaluation of the model on these values) -/
example : phase (c08 + t8.eval (· + ·) (fun i => cksShare c18 (sIn8 i) (sOut8 i) (e8 i))) c18
      (t8.eval (· + ·) sOut8)
    = phase c08 c18 (t8.eval (· + ·) sIn8) + t8.eval (· + ·) e8 := by decide +kernel

/-- TEST (evaluation): refresh on these values (masks `m i = e8 (i+1)`, CRP `a = c08`) -/
example :
    let shares := fun i => refreshShare (RPoly.zero [97, 193] 8) c18 c08 (sIn8 i) (sIn8 i) (e8 i) (e8 (i + 2))
      (e8 (i + 1)) (e8 (i + 1))
    let agg := t8.eval refreshAggregate shares
    let out := refreshFinalize (e2sMasked c08 agg.1) agg.2 c08
    phase out.1 out.2 (t8.eval (· + ·) sIn8) =
      phase c08 c18 (t8.eval (· + ·) sIn8) + t8.eval (· + ·) e8 + t8.eval (· + ·) (fun i => e8 (i + 2)) := by
  decide +kernel

end concrete

end Lattigo.Props.C16Ring

#print axioms Lattigo.Props.C16Ring.cks_collective_rpoly
#print axioms Lattigo.Props.C16Ring.cks_phase_rpoly
#print axioms Lattigo.Props.C16Ring.pcks_phase_rpoly
#print axioms Lattigo.Props.C16Ring.pcks_zero_noise_rpoly
#print axioms Lattigo.Props.C16Ring.e2s_masked_rpoly
#print axioms Lattigo.Props.C16Ring.s2e_phase_rpoly
#print axioms Lattigo.Props.C16Ring.e2s_s2e_id_rpoly
#print axioms Lattigo.Props.C16Ring.transform_spec_rpoly
#print axioms Lattigo.Props.C16Ring.refresh_spec_rpoly
#print axioms Lattigo.Props.C16Ring.handle_cks_share_calls
#print axioms Lattigo.Props.C16Ring.handle_bgv_e2s_calls
