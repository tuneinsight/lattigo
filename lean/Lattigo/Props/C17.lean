/-
  C17 — samplers respect their distribution contract and are reproducible from a seed.

  Every theorem is about the executable model `Lattigo/Model/Sampler*.lean` (the functions the
  driver runs and the harness ties, limb for limb and byte for byte, to /repo/ring/sampler*.go,
  /repo/ring/ringqp/samplers.go, /repo/utils/sampling/prng.go), for ALL byte streams, rings, levels
  and fuels.  A sampler call is a pure function
  `(PRNG bytes, buffer state, polynomial) ↦ Res (polynomial, PRNG bytes left, buffer state)`;
  `Res.exhausted` (PRNG ran dry) and `Res.panic` are terminal, so every statement has the form
  "if the call returns `ok …` then …".  The model follows /repo HEAD (fixes ece109d, 92bf5e8,
  C17-2 … C17-7 applied; C17-1 not applied: known finding C17/ternary-ky-sign-bit-reused).

  PROVED FOR ALL INPUTS (no hypothesis beyond well-formedness: rows of length N, 2 ≤ q_i < 2^64)
   · support / one integer across moduli: `uniform_range`, `uniform_range_readAndAdd`,
     `rns_consistent_ternary`, `sparse_weight` (+ `_rows`), `rns_consistent_gauss`,
     `gauss_limbs_reduced`, `gauss_bound_big`;
   · every level: `level_view_ternary`, `level_view_sparse`, `level_view_gauss`,
     `atLevel_rows_agree` (a view gets the first limbs of the SAME signed integers);
   · exact laws where the code is a table: `ternary_half_exact` (P = 0.5: 1/2, 1/4, 1/4 from
     disjoint bits), `sparse_signs_are_stream_bits` (sign of the t-th selected coefficient = t-th
     sign bit, for every H), `accept_fibre_card` (rejection under the mask is uniform: counting);
   · Montgomery / ReadAndAdd: `mont_eq_mform_plain_{ternary,sparse,gauss}`,
     `readAndAdd_eq_add_read_{uniform,ternary,sparse,gauss}`, `readAndAdd_gauss_mont`;
   · buffers and interleavings: `uniform_consumes` (buffered = unbuffered word-stream spec, from
     every invariant state), `interleaving` (invariant after any call sequence on any views of any
     samplers), `gauss_no_stale_bytes`;
   · reproducibility: `determinism` (by construction), `prng_key_replays`,
     `prng_reads_are_one_stream` (PRNG state = (key, position), arbitrary XOF).
  NEGATION WITH WITNESS: `ky_sign_bit_reused` (adjacent coefficients of Ternary{P ≠ 0.5} depend).
  TIED ONLY (model = code on the explored inputs, no general theorem needed beyond the above): the
   float64 arithmetic of SamplerFloat.lean vs the hardware (`fmul` … ops; `rne53_mono` is proved),
   `computeMatrixTernary` (`matrix`), constructor decision table (`ctor`), `RandUniform`, `RandInt`,
   ringqp sessions (`qp`), the ziggurat tables (`tables`).
  NOT THEOREMS: empirical mean / standard deviation / density / sign balance (LABELLED TESTS of
   the harness); the exact output law of the Knuth–Yao walk for P ≠ 0.5 (a statement about a
   measure on infinite bit sequences; the walk itself is tied bit for bit, its support is proved and
   its one structural defect is `ky_sign_bit_reused`); the `math.Log` / `math.Exp` branches of the
   ziggurat are an oracle (every theorem holds for every oracle; such lines are `inconclusive`).
  OUT OF SCOPE: "distinct keys give unrelated streams" is a property of the BLAKE2b XOF.
-/
import Lattigo.Proofs.SamplerSession
import Lattigo.Proofs.SamplerCount
import Lattigo.Proofs.SamplerKY
import Lattigo.Proofs.SamplerPRNG
import Lattigo.Proofs.SamplerLevels
namespace Lattigo.C17
open Lattigo Lattigo.Gen Lattigo.Sampler

/-! ## Uniform sampler -/

/-- `Read` (hence `ReadNew`) on any level view: every coefficient of row `i`
    below the level is `< q_i` — for every byte stream and buffer state. -/
theorem uniform_range (fuel : Nat) (qs : List Nat) (pol r : Poly) (s s' : Bytes) (b b' : Buf)
    (h : uniformRead fuel .read qs pol s b = .ok (r, s', b')) :
    ∀ i row, i < qs.length → r[i]? = some row → ∀ c ∈ row, c < qs.getD i 0 := by
  exact RowsBelow_get qs r ((uniformRead_good (goodRows_read qs pol)).of_ok h)

/-- **uniform_range (ReadAndAdd).**  If the polynomial is reduced (rows below the level `< q_i`)
    and `2 q_i ≤ 2^64`, `ReadAndAdd` leaves it reduced. -/
theorem uniform_range_readAndAdd (fuel : Nat) (qs : List Nat) (pol r : Poly) (s s' : Bytes) (b b' : Buf)
    (hq : ∀ q ∈ qs, 2 * q ≤ W) (hpol : RowsBelow qs pol)
    (h : uniformRead fuel .readAndAdd qs pol s b = .ok (r, s', b')) :
    ∀ i row, i < qs.length → r[i]? = some row → ∀ c ∈ row, c < qs.getD i 0 :=
  RowsBelow_get qs r ((uniformRead_good (goodRows_add qs pol hq hpol)).of_ok h)

/-- non-vacuity: a call that succeeds (N = 2, q = 5, all-zero PRNG bytes) -/
example : uniformRead 10 .read [5] [[7, 7]] (List.replicate 1024 0) Buf.new =
    .ok ([[0, 0]], [], { data := List.replicate 1024 0, ptr := 16 }) := by decide +kernel

/-- **uniform_consumes / interleaving (one call).**  The buffered sampler, started in any state
    satisfying the buffer invariant, on any level view, is the UNBUFFERED specification `specRows`
    that takes the pending 64-bit big-endian words one after the other (dropping those with
    `w & mask ≥ q`): same polynomial, and the words left afterwards are exactly the words the
    specification left.  So the bytes consumed are a function of the stream: no byte is used twice
    and none is skipped, whatever the pointer position at the start of the call (incl. the
    `ptr == 0 || ptr == 1024` refill rule), and the invariant is re-established. -/
theorem uniform_consumes (fuel : Nat) (m : Mode) (qs : List Nat) (pol r : Poly) (s s' : Bytes) (b b' : Buf)
    (hb : BufInv b) (h : uniformRead fuel m qs pol s b = .ok (r, s', b')) :
    BufInv b' ∧
    specRows m qs pol (wordsBE (pendingAtCall s b)) = some (r, wordsBE (pendingIn s' b')) ∧
    (Draws qs pol → pendingIn s' b' = pendingAtCall s' b') := by
  obtain ⟨h1, h2, h3⟩ := (uniformRead_spec hb).of_ok h
  exact ⟨h1, h3, fun hd => (pending_after h1 (h2 hd)).symm⟩

example : BufInv Buf.new := BufInv.new

/-- Counting form of "rejection sampling under the mask is uniform": for a
    modulus `1 ≤ q ≤ 2^63` with `mask = SubRing.Mask`, every residue `r < q` is the masked image
    `w & mask` of exactly `2^64 / (mask + 1)` of the `2^64` words `w` — the same number for every
    `r` — and a word is accepted iff its masked image is `< q`.  (No probability theory.) -/
theorem accept_fibre_card (q : Nat) (hq : 0 < q) (hq' : q ≤ 2 ^ 63) (r : Nat) (hr : r < q) :
    ((Finset.range W).filter (fun w => u64and w (maskOf q) = r)).card = W / (maskOf q + 1) := by
  obtain ⟨hm, hqk, _⟩ := maskOf_eq q hq hq'
  have : 0 < 2 ^ len64 (q - 1) := Nat.two_pow_pos _
  exact accept_fibre_card_le_mask q hq hq' r (by omega)

example : (0 : Nat) < 65537 ∧ 65537 ≤ 2 ^ 63 ∧ 3 < 65537 := by decide

/-- `ReadAndAdd(pol)` returns `pol + Read()` (`CRed(a+b, q)`
    per coefficient, `addPoly`) and leaves the PRNG and the buffer in the same state. -/
theorem readAndAdd_eq_add_read_uniform (fuel : Nat) (qs : List Nat) (pol r : Poly) (s s' : Bytes) (b b' : Buf)
    (h : uniformRead fuel .read qs pol s b = .ok (r, s', b')) :
    uniformRead fuel .readAndAdd qs pol s b = .ok (addPoly qs pol r, s', b') := by
  unfold uniformRead at h ⊢
  obtain ⟨⟨s1, b1⟩, hpre, h⟩ := Res.bind_eq_ok h
  rw [hpre, Res.bind_ok]
  exact drawRowsU_add h

/-! ## Interleavings on level views -/

/-- After ANY sequence of `Read / ReadNew / ReadAndAdd` calls on ANY level views
    of ANY samplers sharing one PRNG (uniform, ternary, Gaussian; Montgomery or not), every random
    buffer still satisfies `len = 1024 ∧ ptr ≤ 1024 ∧ 8 ∣ ptr` — also when the run stops on
    `exhausted` / `panic`.  Together with `uniform_consumes` (valid from every such state) this is
    the buffer-pointer statement for arbitrary interleavings. -/
theorem interleaving (cfg : Cfg) (stream : Bytes) (regs : List Poly) (calls : List Call) :
    ∀ b ∈ (run cfg (St.init cfg stream regs) calls).2.2.bufs,
      b.data.length = 1024 ∧ b.ptr ≤ 1024 ∧ 8 ∣ b.ptr :=
  run_inv cfg calls _ (St.init_inv cfg stream regs)

/-- **determinism / reset_replays.**  BY CONSTRUCTION: `run` is a function, so two sessions (two
    samplers, two parties, or one party after `Reset()` with fresh samplers) with the same
    configuration, the same PRNG bytes, the same registers and the same call sequence produce the
    same outputs.  The content is in the tie: the real samplers, fed these bytes, equal `run`. -/
theorem determinism (cfg : Cfg) (s₁ s₂ : Bytes) (regs₁ regs₂ : List Poly) (calls₁ calls₂ : List Call)
    (hs : s₁ = s₂) (hr : regs₁ = regs₂) (hc : calls₁ = calls₂) :
    (run cfg (St.init cfg s₁ regs₁) calls₁).1 = (run cfg (St.init cfg s₂ regs₂) calls₂).1 := by
  subst hs; subst hr; subst hc; rfl

/-! ## Ternary sampler, density `P` -/

/-- **ternary_support + rns_consistent (density).**  `Read`, plain output, on any level view with
    moduli `2 ≤ q_i < 2^64` and rows of length `N`: there is ONE integer vector `x ∈ {−1,0,1}^N`
    such that row `i` is `x mod q_i` for every `i` below the level. -/
theorem rns_consistent_ternary (fuel p N : Nat) (qs : List Nat) (pol r : Poly) (s s' : Bytes)
    (hq : ∀ q ∈ qs, 2 ≤ q ∧ q < W) (hrows : ∀ row ∈ pol, row.length = N)
    (h : ternProba fuel .read false p N qs pol s = .ok (r, s')) :
    ∃ x : List Int, x.length = N ∧ (∀ v ∈ x, v = -1 ∨ v = 0 ∨ v = 1) ∧
      ∀ i, i < qs.length → r[i]? = some (x.map (resOf (qs.getD i 0))) := by
  obtain ⟨idx, _, hx⟩ := ternProba_read_rows hq hrows h
  exact ⟨idx.map ternVal, hx⟩

/-- non-vacuity: `P = 0.5` (`invDensity = 2^1073`), N = 8, moduli 5 and 7 -/
example : ternProba 10 .read false SF.half 8 [5, 7] [List.replicate 8 9, List.replicate 8 9] [0x0f, 0x05] =
    .ok ([[4, 1, 4, 1, 0, 0, 0, 0], [6, 1, 6, 1, 0, 0, 0, 0]], []) := by decide +kernel

set_option linter.unusedVariables false in  -- `hrows`: the two `zipWith`s compose at any lengths
theorem readAndAdd_eq_add_read_ternary (fuel : Nat) (mont : Bool) (p N : Nat) (qs : List Nat) (pol r : Poly)
    (s s' : Bytes) (hrows : ∀ row ∈ pol, row.length = N)
    (h : ternProba fuel .read mont p N qs pol s = .ok (r, s')) :
    ternProba fuel .readAndAdd mont p N qs pol s = .ok (addPoly qs pol r, s') := by
  obtain ⟨hp, idx, h1, h2⟩ := ternProba_ok_iff.mp h
  exact ternProba_ok_iff.mpr
    ⟨hp, idx, h1, mapRowsLvl_zip_add (fun q ix => (ternLut mont q).getD ix 0) idx h2⟩

/-- The Montgomery sampler returns `MForm` of what the plain
    sampler returns on the same bytes, and consumes the same bytes. -/
theorem mont_eq_mform_plain_ternary (fuel p N : Nat) (qs : List Nat) (pol r : Poly) (s s' : Bytes)
    (h : ternProba fuel .read false p N qs pol s = .ok (r, s')) :
    ∃ r', mformPoly qs r = .ok r' ∧ ternProba fuel .read true p N qs pol s = .ok (r', s') := by
  obtain ⟨hp, idx, h1, h2⟩ := ternProba_ok_iff.mp h
  obtain ⟨r', hm, ht⟩ := ternApply_mont qs pol r idx h2
  exact ⟨r', hm, ternProba_ok_iff.mpr ⟨hp, idx, h1, ht⟩⟩

/-- **KNOWN FINDING C17/ternary-ky-sign-bit-reused (witness; negation of independence of adjacent
    coefficients).**  `kysampling` takes the sign of a coefficient from bit `i+1` and returns the
    pointer `i+1`: for every matrix with `M.2[0] = 1` (`P ≥ 1/2`), every byte buffer and every
    hit position `i < 7`, if the sign bit is 1 then the walk of the NEXT coefficient ends on that
    very bit in row 1: a coefficient `−1` is always followed by a non-zero coefficient. -/
theorem ky_sign_bit_reused (M : List Nat × List Nat) (N fuel row i : Nat) (k : KY) (hi : i < 7)
    (hM : M.2.getD 0 0 = 1) (hsign : kyBit k (i + 1) = 1) :
    ∃ sg p k', kyHit N row i k = .ok (row, sg, p, k') ∧ sg = 1 ∧
      kyWalk M N (fuel + 1) p 0 0 k' = kyHit N 1 p k' :=
  Sampler.ky_sign_bit_reused M N fuel row i k hi hM hsign

/-- the hypothesis holds for `rlwe.DefaultXs = Ternary{P: 2/3}` (float64 bits of 2/3) -/
example : (probaMatrix (invDensity 4604180019048437077)).2.getD 0 0 = 1 := by decide +kernel

/-- concrete instance (`P = 2/3`): the random bytes `07…` and `05…` differ ONLY in bit 1, the sign
    bit of coefficient 0; the magnitude of coefficient 1 changes with it (`[−1, −1]` vs `[+1, 0]`). -/
example :
    (kyLoop (probaMatrix (invDensity 4604180019048437077)) 16 100 2 0
        { rb := 7 :: List.replicate 15 0, bp := 0, stream := [] } >>= fun r => Res.ok r.1) = .ok [2, 2] ∧
    (kyLoop (probaMatrix (invDensity 4604180019048437077)) 16 100 2 0
        { rb := 5 :: List.replicate 15 0, bp := 0, stream := [] } >>= fun r => Res.ok r.1) = .ok [1, 0] := by
  decide +kernel

/-! ## Ternary sampler, fixed Hamming weight `H` -/

/-- **sparse_weight + ternary_support + rns_consistent (fixed weight).**  For EVERY `H ≥ 0` (the
    code clips `H > N` to `N`; no hypothesis on `H` is needed), `Read`, plain output, moduli
    `2 ≤ q_i < 2^64`, rows of length `N`: there is one integer vector `x ∈ {−1,0,1}^N` with EXACTLY
    `min(H, N)` non-zero entries such that row `i` is `x mod q_i` for every `i` below the level. -/
theorem sparse_weight (fuel hw N : Nat) (qs : List Nat) (pol r : Poly) (s s' : Bytes)
    (hq : ∀ q ∈ qs, 2 ≤ q ∧ q < W) (hrows : ∀ row ∈ pol, row.length = N)
    (h : ternSparse fuel .read false hw N qs pol s = .ok (r, s')) :
    ∃ x : List Int, x.length = N ∧ (∀ v ∈ x, v = -1 ∨ v = 0 ∨ v = 1) ∧
      x.countP (fun v => v ≠ 0) = min hw N ∧
      ∀ i, i < qs.length → r[i]? = some (x.map (resOf (qs.getD i 0))) := by
  obtain ⟨_, _, sel, rest, _, _, hx⟩ := ternSparse_read_rows hq hrows h
  exact ⟨sparseVec N sel rest, hx⟩

/-- non-vacuity: H = 2, N = 4, q = 5; positions 0 and 1 get +1 and −1 -/
example : ternSparse 10 .read false 2 4 [5] [[9, 9, 9, 9]] [0x02, 0, 0, 0, 0, 0, 0, 0, 0] =
    .ok ([[1, 0, 0, 4]], []) := by decide +kernel

/-- each row therefore has exactly `min(H, N)` non-zero coefficients -/
theorem sparse_weight_rows (fuel hw N : Nat) (qs : List Nat) (pol r : Poly) (s s' : Bytes)
    (hq : ∀ q ∈ qs, 2 ≤ q ∧ q < W) (hrows : ∀ row ∈ pol, row.length = N)
    (h : ternSparse fuel .read false hw N qs pol s = .ok (r, s')) :
    ∀ i row, i < qs.length → r[i]? = some row → row.countP (fun c => c ≠ 0) = min hw N := by
  obtain ⟨x, _, hsup, hw', hrowsx⟩ := sparse_weight fuel hw N qs pol r s s' hq hrows h
  intro i row hi hrow
  rw [hrowsx i hi] at hrow
  injection hrow with hrow
  subst hrow
  rw [List.countP_map, ← hw']
  have hq2 : 2 ≤ qs.getD i 0 := (hq _ (ListLemmas.getD_mem hi)).1
  -- a residue of `−1`, `0`, `1` modulo `q ≥ 2` is zero exactly when the integer is
  generalize qs.getD i 0 = q at hq2
  refine List.countP_congr fun v hv => ?_
  rcases hsup v hv with rfl | rfl | rfl
  · simp [resOf_neg_one hq2]
    omega
  · simp [resOf_zero]
  · simp [resOf_one hq2]

/-- **readAndAdd_eq_add_read (fixed weight), FULL STRENGTH** on the patched code (ece109d: the
    unselected positions receive `f(coeff, 0, q)`); before the fix the statement was false (they
    were zeroed). -/
theorem readAndAdd_eq_add_read_sparse (fuel : Nat) (mont : Bool) (hw N : Nat) (qs : List Nat) (pol r : Poly)
    (s s' : Bytes) (hrows : ∀ row ∈ pol, row.length = N)
    (h : ternSparse fuel .read mont hw N qs pol s = .ok (r, s')) :
    ternSparse fuel .readAndAdd mont hw N qs pol s = .ok (addPoly qs pol r, s') := by
  obtain ⟨rbs, s1, sel, rest, h1, h2, hm⟩ := ternSparse_ok_iff.mp h
  obtain ⟨_, hperm, _⟩ := sparseLoop_range h2
  exact ternSparse_ok_iff.mpr ⟨rbs, s1, sel, rest, h1, h2,
    mapRowsLvl_add (fun q row hrow =>
      sparseRow_zip _ (fun o _ => by cases o <;> rfl) row hperm (hrows row hrow)) hm⟩

theorem mont_eq_mform_plain_sparse (fuel hw N : Nat) (qs : List Nat) (pol r : Poly) (s s' : Bytes)
    (hrows : ∀ row ∈ pol, row.length = N)
    (h : ternSparse fuel .read false hw N qs pol s = .ok (r, s')) :
    ∃ r', mformPoly qs r = .ok r' ∧ ternSparse fuel .read true hw N qs pol s = .ok (r', s') := by
  obtain ⟨rbs, s1, sel, rest, h1, h2, hm⟩ := ternSparse_ok_iff.mp h
  obtain ⟨_, hperm, _⟩ := sparseLoop_range h2
  obtain ⟨r', hr, hm'⟩ :=
    mapRowsLvl_mform (fun q row hrow => sparseRow_mont q row hperm (hrows row hrow)) hm
  exact ⟨r', hr, ternSparse_ok_iff.mpr ⟨rbs, s1, sel, rest, h1, h2, hm'⟩⟩

/-! ## Gaussian sampler -/

/-- **gauss_bound + rns_consistent + reduced limbs (small-norm path).**  `Read`, plain output, on any
    level view with moduli `0 < q_i < 2^64`, rows of length `N`, any oracle for the `math.Log/Exp`
    branches, any sigma and bound (as float64 values scaled by 2^1074): there is ONE integer vector
    `x` with `|x_k| ≤ round(bound) = uint64(bound + 0.5)` such that row `i` is the REDUCED residue
    vector `x mod q_i` (in particular `−0 ↦ 0` and every limb is `< q_i`, also when
    `round(bound) > q_i`: fixes C17-2). -/
theorem rns_consistent_gauss (orc : Slow) (fuel sigma bound N : Nat) (qs : List Nat) (pol r : Poly)
    (s s' : Bytes) (b b' : Buf) (slow : Bool) (hb : BufInv b) (hpath : isBigPath sigma bound = false)
    (hq : ∀ q ∈ qs, 0 < q ∧ q < W) (hrows : ∀ row ∈ pol, row.length = N)
    (h : gaussReadPlain orc fuel .read sigma bound N qs pol s b = .ok (r, slow, s', b')) :
    ∃ x : List Int, x.length = N ∧ (∀ v ∈ x, v.natAbs ≤ roundBound bound) ∧
      ∀ i, i < qs.length → r[i]? = some (x.map (resOf (qs.getD i 0))) := by
  obtain ⟨x, _, hlen, hbd, hx⟩ := gaussReadPlain_read_rows hb (fun _ => hq) hrows h
  rw [hpath, if_neg Bool.false_ne_true] at hbd
  exact ⟨x, hlen, fun v hv => by exact_mod_cast hbd v hv, hx⟩

/-- every limb written by `Read` is reduced -/
theorem gauss_limbs_reduced (orc : Slow) (fuel sigma bound N : Nat) (qs : List Nat) (pol r : Poly)
    (s s' : Bytes) (b b' : Buf) (slow : Bool) (hb : BufInv b) (hpath : isBigPath sigma bound = false)
    (hq : ∀ q ∈ qs, 0 < q ∧ q < W) (hrows : ∀ row ∈ pol, row.length = N)
    (h : gaussReadPlain orc fuel .read sigma bound N qs pol s b = .ok (r, slow, s', b')) :
    ∀ i row, i < qs.length → r[i]? = some row → ∀ c ∈ row, c < qs.getD i 0 := by
  obtain ⟨x, _, _, hx⟩ := rns_consistent_gauss orc fuel sigma bound N qs pol r s s' b b' slow hb hpath hq hrows h
  intro i row hi hrow c hc
  rw [hx i hi] at hrow
  injection hrow with hrow
  subst hrow
  obtain ⟨v, _, rfl⟩ := List.mem_map.mp hc
  exact resOf_lt _ v (hq _ (ListLemmas.getD_mem hi)).1

/-- non-vacuity (sigma = 3.2, bound = 19.2 as float64 bit patterns; N = 2; q = 257; PRNG word
    `ju = 0x20000000`, sign 0): `x = 2^29 · wn[0] = 0.928…`, `3.2 x = 2.97 ↦ 3`, limb `257 − 3`;
    second word 0 gives `−0 ↦ 0`. -/
example : gaussReadPlain ⟨fun _ _ => none, fun _ _ _ => false⟩ 10 .read
      (SF.ofBits64 4614388178203810202) (SF.ofBits64 4625816062258262835) 2 [257] [[9, 9]]
      ([0, 0, 0, 0x20] ++ List.replicate 1020 0) Buf.new =
    .ok ([[254, 0]], false, [], { data := [0, 0, 0, 0x20] ++ List.replicate 1020 0, ptr := 16 }) := by
  decide +kernel

/-- **gauss_bound (big-number path)**, `sigma > 2^53 ∧ bound > 2^64`: one signed integer vector with
    `|x_k| ≤ ⌊bound⌋` (both signs: fix C17-3), row `i` = `x mod q_i` (Euclidean remainder). -/
theorem gauss_bound_big (orc : Slow) (fuel sigma bound N : Nat) (qs : List Nat) (pol r : Poly)
    (s s' : Bytes) (b b' : Buf) (slow : Bool) (hb : BufInv b) (hpath : isBigPath sigma bound = true)
    (hrows : ∀ row ∈ pol, row.length = N)
    (h : gaussReadPlain orc fuel .read sigma bound N qs pol s b = .ok (r, slow, s', b')) :
    ∃ x : List Int, x.length = N ∧ (∀ v ∈ x, (v.natAbs : Int) ≤ (SF.trunc bound : Int)) ∧
      ∀ i, i < qs.length → r[i]? = some (x.map (resOf (qs.getD i 0))) := by
  obtain ⟨x, _, hlen, hbd, hx⟩ :=
    gaussReadPlain_read_rows hb (fun hp => absurd (hpath.symm.trans hp) (by decide)) hrows h
  rw [hpath, if_pos rfl] at hbd
  exact ⟨x, hlen, hbd, hx⟩

/-- BY CONSTRUCTION (`read` ends with `MForm(pol, pol)`). -/
theorem mont_eq_mform_plain_gauss (orc : Slow) (fuel sigma bound N : Nat) (qs : List Nat) (pol : Poly)
    (s : Bytes) (b : Buf) :
    gaussRead orc fuel .read true sigma bound N qs pol s b =
      (gaussRead orc fuel .read false sigma bound N qs pol s b >>= fun r =>
        mformPoly qs r.1 >>= fun r' => .ok (r', r.2)) := by
  unfold gaussRead
  simp only [if_true, Bool.false_eq_true, if_false]

set_option linter.unusedVariables false in  -- `hrows`: the two `zipWith`s compose at any lengths
theorem readAndAdd_eq_add_read_gauss (orc : Slow) (fuel sigma bound N : Nat) (qs : List Nat) (pol r : Poly)
    (s s' : Bytes) (b b' : Buf) (slow : Bool) (hrows : ∀ row ∈ pol, row.length = N)
    (h : gaussReadPlain orc fuel .read sigma bound N qs pol s b = .ok (r, slow, s', b')) :
    gaussReadPlain orc fuel .readAndAdd sigma bound N qs pol s b = .ok (addPoly qs pol r, slow, s', b') := by
  obtain ⟨d, s1, h1, ⟨hp, xs, h2, h3⟩ | ⟨hp, cs, h2, h3⟩⟩ := gaussReadPlain_ok_iff.mp h
  · exact gaussReadPlain_ok_iff.mpr
      ⟨d, s1, h1, Or.inl ⟨hp, xs, h2, mapRowsLvl_zip_add gaussLimbBig xs h3⟩⟩
  · exact gaussReadPlain_ok_iff.mpr
      ⟨d, s1, h1, Or.inr ⟨hp, cs, h2, mapRowsLvl_zip_add gaussLimb cs h3⟩⟩

/-- **readAndAdd (Gaussian, Montgomery).**  BY CONSTRUCTION on the patched code (C17-4):
    `ReadAndAdd(pol)` of a Montgomery sampler is `pol + Read()` with `Read` into a fresh
    polynomial of the view's level (MForm applied to the sample only). -/
theorem readAndAdd_gauss_mont (orc : Slow) (fuel sigma bound N : Nat) (qs : List Nat) (pol : Poly)
    (s : Bytes) (b : Buf) :
    gaussRead orc fuel .readAndAdd true sigma bound N qs pol s b =
      (gaussRead orc fuel .read true sigma bound N qs (zeroPoly qs.length N) s b >>= fun e =>
        addPolyLvl qs pol e.1 >>= fun r => .ok (r, e.2)) := by
  unfold gaussRead
  simp only [if_true]
  cases gaussReadPlain orc fuel .read sigma bound N qs (zeroPoly qs.length N) s b with
  | ok v =>
    simp only [Res.bind_ok]
    cases mformPoly qs v.1 <;> rfl
  | exhausted => rfl
  | panic => rfl

/-! ## The keyed PRNG: state = (key, position) -/

/-- **prng_key_replays (refinement of `Key()`).**  For an arbitrary XOF, after ANY history of the
    generator `p`, `NewKeyedPRNG(p.Key())` produces the stream of `p` from its start, byte for
    byte; in a script, `rekey` (continue with `NewKeyedPRNG(p.Key())`) is indistinguishable from
    `Reset()`.  (This is what the doc comment of `Key()` promises; the tie `C17 prng …` and the
    probes `prng-*` check it on the real generator for `NewPRNG()` and `NewKeyedPRNG(k)`.) -/
theorem prng_key_replays (xof : XOF) (p : PRNG) (n : Nat) (ops : List PRNG.Op) :
    PRNG.stream xof (PRNG.new p.getKey) n = PRNG.stream xof p n ∧
    ((PRNG.new p.getKey).read xof n).1 = PRNG.stream xof p n ∧
    PRNG.run xof p (.rekey :: ops) = PRNG.run xof p (.reset :: ops) :=
  ⟨(PRNG.rekey_replays xof p n).2, (PRNG.rekey_replays xof p n).1, rfl⟩

/-- Every `Read` returns the next piece `[pos, pos+n)` of the one
    stream determined by the key; the chunking of the reads is irrelevant; `Reset()` restarts it;
    the key is the one given at construction and never changes. -/
theorem prng_reads_are_one_stream (xof : XOF) (p : PRNG) (a b : Nat) (k : Bytes) :
    (p.read xof a).1 = (PRNG.stream xof p (p.pos + a)).drop p.pos ∧
    (p.read xof a).1 ++ ((p.read xof a).2.read xof b).1 = (p.read xof (a + b)).1 ∧
    (p.reset.read xof a).1 = PRNG.stream xof p a ∧
    (PRNG.new k).getKey = k ∧ (p.read xof a).2.getKey = p.getKey ∧ p.reset.getKey = p.getKey :=
  ⟨PRNG.read_eq_stream xof p a, (PRNG.read_read xof p a b).1, PRNG.reset_replays xof p a, rfl, rfl, rfl⟩

/-- a concrete script (XOF = position + first key byte): read 2, read 0, key, read 3, rekey, read 4 -/
example : PRNG.run (fun k i => i + k.getD 0 0) (PRNG.new [7, 9])
      [.read 2, .read 0, .key, .read 3, .rekey, .read 4, .reset, .read 1] =
    [[7, 8], [], [7, 9], [9, 10, 11], [], [7, 8, 9, 10], [], [7]] := by decide

/-! ## Level views see ONE integer vector; exact per-coefficient laws -/

/-- if two polynomials carry the residues of the same integer vector, a view on a prefix of the
    chain (`AtLevel(l)`: `qs.take (l+1)`) has exactly the first limbs of the full sample -/
theorem atLevel_rows_agree (x : List Int) (qs : List Nat) (k : Nat) (r r2 : Poly)
    (h1 : ∀ i, i < qs.length → r[i]? = some (x.map (resOf (qs.getD i 0))))
    (h2 : ∀ i, i < (qs.take k).length → r2[i]? = some (x.map (resOf ((qs.take k).getD i 0)))) :
    ∀ i, i < min k qs.length → r2[i]? = r[i]? := by
  intro i hi
  have hik : i < (qs.take k).length := by rw [List.length_take]; exact hi
  rw [h1 i (by omega), h2 i hik]
  have : (qs.take k).getD i 0 = qs.getD i 0 := by
    rw [List.getD_eq_getElem?_getD, List.getD_eq_getElem?_getD, List.getElem?_take_of_lt (by omega)]
  rw [this]

/-- Two `Read`s from the same PRNG state on ANY two views
    (moduli `qs` and `qs₂`, e.g. `qs₂ = qs.take (l+1)`): the SAME integer vector `x ∈ {−1,0,1}^N`
    is reduced modulo each view's moduli, and the same bytes are consumed. -/
theorem level_view_ternary (fuel p N : Nat) (qs qs₂ : List Nat) (pol pol₂ r r₂ : Poly) (s s' s₂ : Bytes)
    (hq : ∀ q ∈ qs, 2 ≤ q ∧ q < W) (hq₂ : ∀ q ∈ qs₂, 2 ≤ q ∧ q < W)
    (hrows : ∀ row ∈ pol, row.length = N) (hrows₂ : ∀ row ∈ pol₂, row.length = N)
    (h : ternProba fuel .read false p N qs pol s = .ok (r, s'))
    (h₂ : ternProba fuel .read false p N qs₂ pol₂ s = .ok (r₂, s₂)) :
    s₂ = s' ∧ ∃ x : List Int, x.length = N ∧ (∀ v ∈ x, v = -1 ∨ v = 0 ∨ v = 1) ∧
      (∀ i, i < qs.length → r[i]? = some (x.map (resOf (qs.getD i 0)))) ∧
      (∀ i, i < qs₂.length → r₂[i]? = some (x.map (resOf (qs₂.getD i 0)))) := by
  obtain ⟨idx, h1, hlen, hsup, hx⟩ := ternProba_read_rows hq hrows h
  obtain ⟨idx₂, h1', _, _, hx₂⟩ := ternProba_read_rows hq₂ hrows₂ h₂
  -- the index vector is a function of the bytes alone
  rw [h1] at h1'
  cases h1'
  exact ⟨rfl, idx.map ternVal, hlen, hsup, hx, hx₂⟩

/-- non-vacuity of `level_view_ternary` / `atLevel_rows_agree`: the same bytes read by a two-modulus
    view and by its level-0 view -/
example :
    ternProba 10 .read false SF.half 8 [5, 7] [List.replicate 8 9, List.replicate 8 9] [0x0f, 0x05] =
      .ok ([[4, 1, 4, 1, 0, 0, 0, 0], [6, 1, 6, 1, 0, 0, 0, 0]], []) ∧
    ternProba 10 .read false SF.half 8 ([5, 7].take 1) [List.replicate 8 9] [0x0f, 0x05] =
      .ok ([[4, 1, 4, 1, 0, 0, 0, 0]], []) := by decide +kernel

/-- the plain rows written by the fixed-weight sampler from a given selection -/
theorem sparse_rows (N : Nat) (qs : List Nat) (pol r : Poly) (sel : List (Nat × Nat)) (rest : List Nat)
    (hq : ∀ q ∈ qs, 2 ≤ q ∧ q < W) (hrows : ∀ row ∈ pol, row.length = N)
    (hperm : (sel.map Prod.fst ++ rest).Perm (List.range N)) (hbits : ∀ pc ∈ sel, pc.2 ≤ 1)
    (hm : mapRowsLvl (fun q row => sparseRow .read (ternLut false q) q sel rest row) qs pol = .ok r) :
    ∀ i, i < qs.length → r[i]? = some ((sparseVec N sel rest).map (resOf (qs.getD i 0))) := by
  exact sparseRows_read_plain hq hrows hperm hbits hm

/-- The same statement as `level_view_ternary` for `Ternary{H}`, with the weight. -/
theorem level_view_sparse (fuel hw N : Nat) (qs qs₂ : List Nat) (pol pol₂ r r₂ : Poly) (s s' s₂ : Bytes)
    (hq : ∀ q ∈ qs, 2 ≤ q ∧ q < W) (hq₂ : ∀ q ∈ qs₂, 2 ≤ q ∧ q < W)
    (hrows : ∀ row ∈ pol, row.length = N) (hrows₂ : ∀ row ∈ pol₂, row.length = N)
    (h : ternSparse fuel .read false hw N qs pol s = .ok (r, s'))
    (h₂ : ternSparse fuel .read false hw N qs₂ pol₂ s = .ok (r₂, s₂)) :
    s₂ = s' ∧ ∃ x : List Int, x.length = N ∧ (∀ v ∈ x, v = -1 ∨ v = 0 ∨ v = 1) ∧
      x.countP (fun v => v ≠ 0) = min hw N ∧
      (∀ i, i < qs.length → r[i]? = some (x.map (resOf (qs.getD i 0)))) ∧
      (∀ i, i < qs₂.length → r₂[i]? = some (x.map (resOf (qs₂.getD i 0)))) := by
  obtain ⟨rbs, s1, sel, rest, h1, h2, hlen, hsup, hwt, hx⟩ := ternSparse_read_rows hq hrows h
  obtain ⟨rbs', s1', sel', rest', h1', h2', _, _, _, hx₂⟩ := ternSparse_read_rows hq₂ hrows₂ h₂
  -- the selection is a function of the bytes alone
  rw [h1] at h1'
  cases h1'
  rw [h2] at h2'
  cases h2'
  exact ⟨rfl, sparseVec N sel rest, hlen, hsup, hwt, hx, hx₂⟩

/-- Two `Read`s of a Gaussian sampler from the same PRNG state and buffer on
    any two views: one signed integer vector (`|x_k| ≤ round(bound)` on the small-norm path,
    `|x_k| ≤ ⌊bound⌋` on the big-number path), reduced modulo each view's moduli; same bytes
    consumed, same buffer state, same `slow` flag. -/
theorem level_view_gauss (orc : Slow) (fuel sigma bound N : Nat) (qs qs₂ : List Nat) (pol pol₂ r r₂ : Poly)
    (s s' s₂ : Bytes) (b b' b₂ : Buf) (slow slow₂ : Bool)
    (hq : ∀ q ∈ qs, 0 < q ∧ q < W) (hq₂ : ∀ q ∈ qs₂, 0 < q ∧ q < W)
    (hrows : ∀ row ∈ pol, row.length = N) (hrows₂ : ∀ row ∈ pol₂, row.length = N) (hb : BufInv b)
    (h : gaussReadPlain orc fuel .read sigma bound N qs pol s b = .ok (r, slow, s', b'))
    (h₂ : gaussReadPlain orc fuel .read sigma bound N qs₂ pol₂ s b = .ok (r₂, slow₂, s₂, b₂)) :
    s₂ = s' ∧ b₂ = b' ∧ slow₂ = slow ∧ ∃ x : List Int, x.length = N ∧
      (∀ v ∈ x, (v.natAbs : Int) ≤ (if isBigPath sigma bound then (SF.trunc bound : Int) else (roundBound bound : Int))) ∧
      (∀ i, i < qs.length → r[i]? = some (x.map (resOf (qs.getD i 0)))) ∧
      (∀ i, i < qs₂.length → r₂[i]? = some (x.map (resOf (qs₂.getD i 0)))) := by
  obtain ⟨x, h1, hlen, hbd, hx⟩ := gaussReadPlain_read_rows hb (fun _ => hq) hrows h
  obtain ⟨x₂, h1', _, _, hx₂⟩ := gaussReadPlain_read_rows hb (fun _ => hq₂) hrows₂ h₂
  -- the integer vector is a function of the bytes and the pointer alone
  rw [h1] at h1'
  cases h1'
  exact ⟨rfl, rfl, rfl, x, hlen, hbd, hx, hx₂⟩

/-- non-vacuity of `level_view_gauss`: the bytes of the example above read by a two-modulus view -/
example : gaussReadPlain ⟨fun _ _ => none, fun _ _ _ => false⟩ 10 .read
      (SF.ofBits64 4614388178203810202) (SF.ofBits64 4625816062258262835) 2 [257, 769] [[9, 9], [9, 9]]
      ([0, 0, 0, 0x20] ++ List.replicate 1020 0) Buf.new =
    .ok ([[254, 0], [766, 0]], false, [], { data := [0, 0, 0, 0x20] ++ List.replicate 1020 0, ptr := 16 }) := by
  decide +kernel

/-- `read` refills the buffer first: the call is a function of the PRNG
    bytes and of the buffer POINTER only, never of bytes left in the buffer by earlier calls. -/
theorem gauss_no_stale_bytes (orc : Slow) (fuel : Nat) (m : Mode) (sigma bound N : Nat)
    (qs : List Nat) (pol : Poly) (s : Bytes) (b₁ b₂ : Buf) (hptr : b₁.ptr = b₂.ptr) :
    gaussReadPlain orc fuel m sigma bound N qs pol s b₁ =
      gaussReadPlain orc fuel m sigma bound N qs pol s b₂ := by
  unfold gaussReadPlain
  rw [hptr]

/-- `Ternary{H}`, for every `H` (no wrap at 256 or anywhere):
    the call first reads `⌈min(H,N)/8⌉` sign bytes; the `t`-th selected position `p_t` gets the sign
    given by bit `t` (LSB first) of those bytes: `x[p_t] = +1` if the bit is 0, `−1` if it is 1;
    the positions are pairwise distinct and there are `min(H, N)` of them. -/
theorem sparse_signs_are_stream_bits (fuel hw N : Nat) (m : Mode) (mont : Bool) (qs : List Nat) (pol r : Poly)
    (s s' : Bytes) (h : ternSparse fuel m mont hw N qs pol s = .ok (r, s')) :
    ∃ (rbs s1 : Bytes) (sel : List (Nat × Nat)) (rest : List Nat),
      prngRead s ((min hw N + 7) / 8) = .ok (rbs, s1) ∧ sel.length = min hw N ∧
      (sel.map Prod.fst).Nodup ∧
      mapRowsLvl (fun q row => sparseRow m (ternLut mont q) q sel rest row) qs pol = .ok r ∧
      ∀ t (ht : t < sel.length), (sel[t]).1 < N ∧ (sel[t]).2 = bitAt rbs t ∧
        (sparseVec N sel rest).getD (sel[t]).1 0 = (if bitAt rbs t = 0 then 1 else -1) := by
  obtain ⟨rbs, s1, sel, rest, h1, h2, hm⟩ := ternSparse_ok_iff.mp h
  obtain ⟨hlen, hperm, _⟩ := sparseLoop_range h2
  rw [clipHW_eq_min] at h1 hlen
  have hnd : (sel.map Prod.fst).Nodup :=
    (List.nodup_append.mp (hperm.nodup_iff.mpr List.nodup_range)).1
  refine ⟨rbs, s1, sel, rest, h1, hlen, hnd, hm, ?_⟩
  intro t ht
  have hsign := sparseLoop_signs.of_ok h2 t ht
  simp only [Nat.zero_mod, Nat.zero_add] at hsign
  have hmem : (sel[t]).1 ∈ sel.map Prod.fst ++ rest :=
    List.mem_append_left _ (List.mem_map_of_mem (List.getElem_mem ht))
  have hpN : (sel[t]).1 < N := List.mem_range.mp (hperm.mem_iff.mp hmem)
  refine ⟨hpN, hsign, ?_⟩
  rw [← hsign, ← sparseVal_sel hperm (List.getElem_mem ht), sparseVec, List.getD_eq_getElem?_getD,
    List.getElem?_map, List.getElem?_range hpN]
  rfl

/-- non-vacuity / instance: H = 3, N = 4, sign byte `0b101`: positions 0, 3, 2 get −1, +1, −1 -/
example : ternSparse 10 .read false 3 4 [5] [[9, 9, 9, 9]] ([0x05] ++ List.replicate 12 0) =
    .ok ([[4, 0, 4, 1]], []) := by decide +kernel

/-- `P = 0.5`: the call reads `N/8` coefficient bytes then `N/8` sign
    bytes and coefficient `i` is the fixed function `ternIndex` of bit `i` of each: distinct
    coefficients use distinct bits, and of the four bit pairs two give 0, one +1, one −1
    (`ternIndex_table`) — i.e. over uniform bits each coefficient is 0, +1, −1 with probability
    exactly 1/2, 1/4, 1/4, independently. -/
theorem ternary_half_exact (fuel N : Nat) (m : Mode) (mont : Bool) (qs : List Nat) (pol r : Poly) (s s' : Bytes)
    (h : ternProba fuel m mont SF.half N qs pol s = .ok (r, s')) :
    ∃ cb sb : Bytes, cb.length = N / 8 ∧ sb.length = N / 8 ∧ s = cb ++ sb ++ s' ∧
      ternApply m mont qs pol ((List.range N).map fun i => ternIndex (bitAt cb i) (bitAt sb i)) = .ok r ∧
      (ternVal (ternIndex 0 0) = 0 ∧ ternVal (ternIndex 0 1) = 0 ∧
       ternVal (ternIndex 1 0) = 1 ∧ ternVal (ternIndex 1 1) = -1) := by
  obtain ⟨_, idx, h1, h2⟩ := ternProba_ok_iff.mp h
  unfold probaIdx at h1
  rw [if_pos rfl] at h1
  obtain ⟨cb, sb, hc, hs, hsplit, hidx⟩ := probaHalfIdx_spec.of_ok h1
  subst hidx
  exact ⟨cb, sb, hc, hs, hsplit, h2, ternIndex_table⟩

end Lattigo.C17

#print axioms Lattigo.C17.uniform_range
#print axioms Lattigo.C17.uniform_range_readAndAdd
#print axioms Lattigo.C17.uniform_consumes
#print axioms Lattigo.C17.accept_fibre_card
#print axioms Lattigo.C17.readAndAdd_eq_add_read_uniform
#print axioms Lattigo.C17.interleaving
#print axioms Lattigo.C17.determinism
#print axioms Lattigo.C17.rns_consistent_ternary
#print axioms Lattigo.C17.readAndAdd_eq_add_read_ternary
#print axioms Lattigo.C17.mont_eq_mform_plain_ternary
#print axioms Lattigo.C17.ky_sign_bit_reused
#print axioms Lattigo.C17.sparse_weight
#print axioms Lattigo.C17.sparse_weight_rows
#print axioms Lattigo.C17.readAndAdd_eq_add_read_sparse
#print axioms Lattigo.C17.mont_eq_mform_plain_sparse
#print axioms Lattigo.C17.rns_consistent_gauss
#print axioms Lattigo.C17.gauss_limbs_reduced
#print axioms Lattigo.C17.gauss_bound_big
#print axioms Lattigo.C17.mont_eq_mform_plain_gauss
#print axioms Lattigo.C17.readAndAdd_eq_add_read_gauss
#print axioms Lattigo.C17.readAndAdd_gauss_mont
#print axioms Lattigo.C17.prng_key_replays
#print axioms Lattigo.C17.prng_reads_are_one_stream
#print axioms Lattigo.C17.atLevel_rows_agree
#print axioms Lattigo.C17.level_view_ternary
#print axioms Lattigo.C17.level_view_sparse
#print axioms Lattigo.C17.level_view_gauss
#print axioms Lattigo.C17.gauss_no_stale_bytes
#print axioms Lattigo.C17.sparse_signs_are_stream_bits
#print axioms Lattigo.C17.ternary_half_exact
