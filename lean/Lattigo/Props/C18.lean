/-
  C18 — bootstrapping restores levels, preserves the message, confines sparse keys.

  All theorems are about the executable model `Lattigo.Model.Bootstrap` (the driver runs it, the harness
  ties it line by line to the real code). Status per clause of the property text:

  PROVED FOR ALL INPUTS (no hypothesis beyond what the parameter literal validates)
  * "key material protected only by the ephemeral secret is generated at the smallest modulus":
    `encapsulation_confined`, `encapsulation_key_present`, `sparse_plaintext_only_under_dense`,
    `genEvaluationKeys_panics_iff`, `accepted_no_panic` — every parameter summary.
  * "the helper produces exactly the keys the evaluator needs": `keys_exact` (set equality of Galois
    elements, both directions), `keys_sufficient`, `index_maps_agree`, `bsgs_rotations_agree` — all `LogN`,
    `LogSlots`, depth splits, BSGS ratios; `key_levels_sufficient` (every key has the `LevelQ`/`LevelP` the
    evaluator uses it at, over all admissible input levels).
  * "returns a ciphertext at the announced output level and default scale": `layout_consistent`,
    `output_level_scale` — every layout incl. grouped splits, iterations, reserved prime. The output SCALE is
    assigned by `BootstrapMany` (`cts[i].Scale = ResidualParameters.DefaultScale()`): tied by `output`, no theorem needed.
  * "any admissible input level": `scaleDown_reaches_level_zero` (whenever `ScaleDown` succeeds the output
    is at level 0, the multiplier is the rounded message-ratio quotient, the primes divided out are those of the
    level the dropping loop stopped at, output scale within the rounding of the target `2^e/2^r`) and
    `scaleDown_error_iff` (admissibility as an integer inequality) — every chain of positive moduli, scale, ratio;
    `Mod1Parameters.QDiff` enters as the float64 it is (`f64round`), all other `big.Float` steps as exact rationals.
  * scale constants of `Evaluator.initialize`: `roundLog2_spec`, `qDiv_one_iff`, `c2sScaling_eq`.
  * "the homomorphic encoding/decoding transforms are mutual inverses": `dft_split_independent` (for every
    `LogSlots` and every depth split the generated matrices compose to `σ^depth ·` the `LogSlots` butterfly layers —
    a matrix in diagonal form times the next layer is the composition) and `dft_inverse`
    (`S2C ∘ C2S = σ_s^d_s · σ_c^d_c · 2^LogSlots · id` in every commutative ring with `ζ^(4·slots) = 1`), for
    vectors of length `slots`.

  PARTIAL (named)
  * `dft_inverse` covers full packing and sparse packing without `RepackImagAsReal`, `BitReversed = false`.
    NOT covered: the doubled vectors, the special first S2C matrix and the masked last C2S matrix of sparse
    `RepackImagAsReal` (what the bootstrapping uses for `LogSlots < LogN-1`); that the layer product IS the
    special (inverse) FFT matrix of the CKKS encoding (only mutual inversion is proved). Both are covered by the
    measured probes `c2s_s2c_inverse`, `bootstrap_precision`.

  TIED ONLY (model = implementation on the explored inputs; the theorems above are about these functions)
  driver ops `helper_rot`, `lt_index`, `generated`, `required`, `inventory`, `needed`, `layout`, `stages`, `output`,
  `scaleconst`, `scaledown`, `mod1_gain`, `default_list`/`default_literal`/`default_source`/`default_announced` (every shipped default
  parameter set, runtime value and source literal, against the table `Model/BootstrapDefaults.lean`), `dft_layers` (exact exponents of every entry of the fully split factorisation, for
  every format — doubled diagonals, repacking first matrix, masked last matrix — and both layouts `BitReversed ∈ {false,true}`:
  model `genMatricesFull`, §11 of the model; the theorems of §6 are about the length-`slots`, non-bit-reversed case).
  That `mod1.EvaluateNew` consumes `Depth()` levels is taken from `stages`. The entries of MERGED matrices are floats in
  the code: `merged_is_product` (probe, real code) checks numerically what `dft_split_independent` proves for the model.

  PROBED ONLY (measured on the real code, `measured=1`; not provable here)
  "the message equals the input message within the precision announced", "the modular-reduction step approximates
  x mod 1 within its stated error": `bootstrap_precision`, `batch_bootstrap`, `c2s_s2c_inverse` — sine/cosine/arcsine
  approximation quality (`mod1`, `utils/cosine`), float64/big.Float DFT constants, encoding error, noise growth, and the
  exactness of ModUp's integer multiplier. The modular-reduction step itself: `mod1_step` (EvaluateNew / EvaluateAndScaleNew over
  Mod1Type × DoubleAngle 0..3 × arcsine × scaling, inputs up to the end points ±(K-1)·Q ± 1/2); `double_angle_scaling` proves the
  algebra of where the scaling must go, the approximation quality is measured.
  ShallowCopy wiring / concurrency: `shallowcopy_*` probes (runtime aliasing is outside the model).

  The model follows the code after the C18 fixes (/verif/fixes/C18-1…5): one rescaling per factorisation group,
  `ShallowCopy` keeps `xPow2InvN1`, no identity Galois key, empty `LogP` rejected, `ScaleDown` matches a level>0 input
  to `2^round(log2 Q0)/MessageRatio`.
-/
import Lattigo.Proofs.BootstrapScale
import Lattigo.Proofs.BootstrapDFT
import Mathlib.Data.ZMod.Basic
import Lattigo.Proofs.BootstrapRot

namespace Lattigo.Props.C18
open Lattigo.Model.Bootstrap Lattigo.Proofs.Bootstrap

/-! ## 1. Key generation: the ephemeral sparse secret is confined to `Q[:1]`, `P[:1]` -/

theorem sparse_not_mem_denseProt (l : KeyLit) : SecretKind.sparse ∉ denseProt l := by
  unfold denseProt; split <;> simp

theorem sparse_not_mem_residualProt (l : KeyLit) : SecretKind.sparse ∉ residualProt l := by
  unfold residualProt; split <;> simp

theorem gk_ne (x : String) : "gk" ++ x ≠ "EvkDenseToSparse" := by
  intro h
  have := congrArg String.toList h
  simp [String.toList_append] at this

theorem genEvaluationKeys_some {l : KeyLit} {galEls : List Nat} {ks : List KeyRec}
    (h : genEvaluationKeys l galEls = some ks) :
    ∀ k ∈ ks,
      (k.name = "EvkDenseToSparse" ∧ k.protectedBy = [.sparse] ∧ k.encrypts = some .dense ∧
        k.levelQ = 0 ∧ k.levelP = 0 ∧ k.ring = .q0p0 ∧ l.ephemeral = true) ∨
      ((k.protectedBy = denseProt l ∨ k.protectedBy = residualProt l) ∧
        k.levelQ = (l.qCount : Int) - 1 ∧ k.levelP = (l.pCount : Int) - 1 ∧ k.ring = .boot ∧
        (k.encrypts = some .sparse → k.protectedBy = denseProt l) ∧ k.name ≠ "EvkDenseToSparse") := by
  intro k hk
  unfold genEvaluationKeys at h
  simp only at h
  split at h
  · cases h
  · split at h
    · cases h
    · rename_i enc henc
      injection h with h
      subst h
      simp only [List.mem_append, List.mem_map, List.mem_cons, List.not_mem_nil, or_false] at hk
      rcases hk with ((hk | hk) | rfl) | ⟨e, _, rfl⟩
      · right
        split at hk
        · split at hk
          · simp only [List.mem_cons, List.not_mem_nil, or_false] at hk
            rcases hk with rfl | rfl <;> simp
          · simp only [List.mem_cons, List.not_mem_nil, or_false] at hk
            rcases hk with rfl | rfl <;> simp
        · simp at hk
      · unfold genEncapsulationKeys at henc
        split at henc
        · injection henc with henc; subst henc; simp at hk
        · split at henc
          · cases henc
          · rename_i he _
            injection henc with henc
            subst henc
            simp only [List.mem_cons, List.not_mem_nil, or_false] at hk
            rcases hk with rfl | rfl
            · left; simpa using he
            · right; simp
      · right; simp
      · right; simp [gk_ne]

/-- In the bundle returned by `GenEvaluationKeys`, for EVERY parameter
    summary: a key that is an RLWE encryption under the low-Hamming-weight ephemeral secret is
    protected by that secret only, is `EvkDenseToSparse`, was generated in the parameter set
    restricted to `Q[:1]`, `P[:1]`, and sits at `LevelQ = 0`, `LevelP = 0` — never at a larger modulus. -/
theorem encapsulation_confined (l : KeyLit) (galEls : List Nat) (ks : List KeyRec)
    (h : genEvaluationKeys l galEls = some ks) :
    ∀ k ∈ ks, SecretKind.sparse ∈ k.protectedBy →
      k.protectedBy = [.sparse] ∧ k.levelQ = 0 ∧ k.levelP = 0 ∧ k.ring = .q0p0 ∧ k.name = "EvkDenseToSparse" := by
  intro k hk hs
  rcases genEvaluationKeys_some h k hk with ⟨hn, hp, _, hq, hpp, hr, _⟩ | ⟨hp | hp, _⟩
  · exact ⟨hp, hq, hpp, hr, hn⟩
  · rw [hp] at hs; exact absurd hs (sparse_not_mem_denseProt l)
  · rw [hp] at hs; exact absurd hs (sparse_not_mem_residualProt l)

/-- the only key whose plaintext is the sparse secret is protected by the dense secret, at full level -/
theorem sparse_plaintext_only_under_dense (l : KeyLit) (galEls : List Nat) (ks : List KeyRec)
    (h : genEvaluationKeys l galEls = some ks) :
    ∀ k ∈ ks, k.encrypts = some .sparse →
      k.protectedBy = denseProt l ∧ SecretKind.sparse ∉ k.protectedBy ∧
      k.levelQ = (l.qCount : Int) - 1 ∧ k.levelP = (l.pCount : Int) - 1 := by
  intro k hk he
  rcases genEvaluationKeys_some h k hk with ⟨_, _, he', _⟩ | ⟨_, hq, hp, _, hd, _⟩
  · rw [he] at he'; cases he'
  · exact ⟨hd he, by rw [hd he]; exact sparse_not_mem_denseProt l, hq, hp⟩

/-- non-vacuity of `encapsulation_confined`: with `EphemeralSecretWeight > 0` (and an auxiliary prime)
    the bundle exists and contains a key protected only by the sparse secret, whose plaintext is the
    dense secret — the key whose modulus the 2025 advisory is about. -/
theorem encapsulation_key_present (l : KeyLit) (galEls : List Nat) (he : l.ephemeral = true) (hp : 0 < l.pCount) :
    ∃ ks, genEvaluationKeys l galEls = some ks ∧
      ∃ k ∈ ks, k.protectedBy = [.sparse] ∧ k.encrypts = some .dense ∧ k.levelQ = 0 ∧ k.levelP = 0 := by
  have hp' : ¬ l.pCount = 0 := by omega
  unfold genEvaluationKeys genEncapsulationKeys
  simp only [he, hp', false_and, if_false, Bool.not_true, Bool.false_eq_true]
  refine ⟨_, rfl, (⟨"EvkDenseToSparse", [.sparse], some .dense, 0, 0, .q0p0⟩ : KeyRec), ?_, rfl, rfl, rfl, rfl⟩
  simp

/-- `GenEvaluationKeys` panics (model: `none`) exactly for parameters without auxiliary prime that
    keep the residual ring or ask for the ephemeral secret. -/
theorem genEvaluationKeys_panics_iff (l : KeyLit) (galEls : List Nat) :
    genEvaluationKeys l galEls = none ↔ l.pCount = 0 ∧ (l.ringDiffers = false ∨ l.ephemeral = true) := by
  unfold genEvaluationKeys genEncapsulationKeys
  by_cases hp : l.pCount = 0 <;> cases hd : l.ringDiffers <;> cases he : l.ephemeral <;> simp [hp]

/-- `NewParametersFromLiteral` rejects `len(LogP) = 0` (`KeyLit.accepted`), so the key helper cannot
    panic on parameters obtained through the public constructor (probe `no_p_keygen`). -/
theorem accepted_no_panic (l : KeyLit) (galEls : List Nat) (h : l.accepted) :
    genEvaluationKeys l galEls ≠ none := by
  intro hn
  have := ((genEvaluationKeys_panics_iff l galEls).mp hn).1
  unfold KeyLit.accepted at h
  omega

example : ∃ ks, genEvaluationKeys ⟨25, 5, true, false, false⟩ [5, 25] = some ks ∧ ks.length = 5 := ⟨_, rfl, rfl⟩

/-- For every level layout and every option combination, every key of the
    generated bundle has the `LevelQ` the evaluator uses it at over ALL admissible input levels
    (`neededLevelQ`: ring-switch keys up to the residual maximum, `rlk` from `Mod1.LevelQ`,
    `EvkSparseToDense` and Galois keys on the full chain) and exactly the `LevelP` it must have
    (`neededLevelP`) — no gadget product ever clamps a ciphertext to a shorter key. -/
theorem key_levels_sufficient (s : SchedLit) (eph diff ci : Bool) (galEls : List Nat) (ks : List KeyRec)
    (hr : 1 ≤ s.residualQ) (h : genEvaluationKeys (s.keyLit eph diff ci) galEls = some ks) :
    ∀ k ∈ ks, k.sufficient s := by
  intro k hk
  unfold KeyRec.sufficient
  rcases genEvaluationKeys_some h k hk with ⟨hn, _, _, hq, hp, _⟩ | ⟨_, hq, hp, _, _, hn⟩
  · rw [hn, hq, hp]
    refine ⟨by simp [neededLevelQ], ?_⟩
    intro lp hlp
    simp [neededLevelP] at hlp
    omega
  · rw [hq, hp]
    simp only [SchedLit.keyLit]
    constructor
    · unfold neededLevelQ
      have : s.mod1LevelQ + 1 ≤ s.qCount := by
        unfold SchedLit.mod1LevelQ SchedLit.s2cLevelQ SchedLit.qCount; omega
      have : s.residualQ ≤ s.qCount := by unfold SchedLit.qCount; omega
      split_ifs <;> omega
    · intro lp hlp
      unfold neededLevelP at hlp
      split_ifs at hlp
      · simpa using hlp

example : genEvaluationKeys ((⟨2, 3, 4, 8, false, some 4⟩ : SchedLit).keyLit true true false) [5] ≠ none :=
  accepted_no_panic _ _ (by decide)

/-! ## 2. Galois keys: helper versus evaluator -/

/-- the helper (`computeBootstrappingDFTIndexMap`) and the evaluator (`GenMatrices`) compute the same
    diagonal index sets, for every matrix literal and ring degree. -/
theorem index_maps_agree (d : MatLit) (logN : Nat) : genMatricesIndex d logN = computeIndexMap d logN :=
  genMatricesIndex_eq d logN

/-- **BSGS rotation sets.** For ANY set of diagonals `D` below the plaintext width `cols`, any
    `LogBSGSRatio`: the Galois keys requested by the BSGS evaluation of the linear transformation
    allocated from `D` are exactly the non-zero baby steps `d % N1` and giant steps `(d / N1) * N1`
    with `N1 = FindBestBSGSRatio(D, cols, ratio)`; and `addMatrixRotToList` adds exactly these when
    the matrix has at least three diagonals. -/
theorem bsgs_rotations_agree (D : List Nat) (cols slots bsgs : Nat) (rf : Bool)
    (hb : ∀ d ∈ D, d < (if rf then 2 * slots else slots)) (hmc : (if rf then 2 * slots else slots) ≤ cols)
    (hw : 3 ≤ D.length) (x : Nat) :
    x ∈ ltRequested D cols bsgs ↔ x ∈ addMatrixRot D (findBestBSGSRatio D cols bsgs) slots rf := by
  rw [mem_ltRequested (fun d hd => lt_of_lt_of_le (hb d hd) hmc), mem_addMatrixRot_wide hw hb]

example : (∀ d ∈ [0, 1, 7, 8, 9, 15], d < (if false then 2 * 16 else 16)) ∧ 3 ≤ [0, 1, 7, 8, 9, 15].length := by decide

/-- `required(evaluator) = generated(helper)` as sets of Galois elements: the keys
    requested during `bootstrap` (`Trace`, the two DFTs evaluated by BSGS, `Conjugate`, the sparse
    repacking rotation) are exactly the keys `GenEvaluationKeys` generates — for EVERY literal accepted by
    `NewParametersFromLiteral`: all ring degrees, slot counts, depth splits, BSGS ratios. -/
theorem keys_exact (g : GalLit) (hv : g.valid) : ∀ x, x ∈ generatedGalois g ↔ x ∈ requiredGalois g := by
  obtain ⟨_, _, hc, hs⟩ := hv
  intro x
  unfold requiredGalois generatedGalois
  simp only [mem_dedupL, List.mem_append, List.mem_map, List.mem_cons, List.not_mem_nil, or_false]
  constructor
  · -- generated = trace ∪ helper(C2S) ∪ helper(S2C) ∪ {conjugation}
    rintro (((hx | ⟨r, hr, rfl⟩) | ⟨r, hr, rfl⟩) | rfl)
    · -- trace
      exact Or.inl (Or.inl (Or.inl (Or.inl (Or.inl hx))))
    · -- helper(C2S): requested by the C2S dft, or the repacking rotation `2^logSlots` of sparse packing
      rcases (mem_helperRotations _ _ hc r).mp hr with h | ⟨rfl, hsp, _⟩
      · exact Or.inl (Or.inl (Or.inl (Or.inr ⟨r, h, rfl⟩)))
      · refine Or.inl (Or.inr ?_)
        rw [if_pos hsp]
        simp [GalLit.c2s]
    · -- helper(S2C): requested by the S2C dft (a Decode literal has no repacking rotation)
      rcases (mem_helperRotations _ _ hs r).mp hr with h | ⟨_, _, he⟩
      · exact Or.inr ⟨r, h, rfl⟩
      · simp [GalLit.s2c] at he
    · -- conjugation
      exact Or.inl (Or.inl (Or.inr rfl))
  · -- required = trace ∪ {conjugation if logSlots = 0} ∪ dft(C2S) ∪ {conjugation} ∪ {repacking rotation if sparse} ∪ dft(S2C)
    rintro ((((((hx | hx) | ⟨r, hr, rfl⟩) | rfl) | hx) | ⟨r, hr, rfl⟩))
    · -- trace
      exact Or.inl (Or.inl (Or.inl hx))
    · -- conjugation of `Trace` at `logSlots = 0`
      split at hx
      · simp only [List.mem_cons, List.not_mem_nil, or_false] at hx
        exact Or.inr hx
      · simp at hx
    · -- dft(C2S)
      exact Or.inl (Or.inl (Or.inr ⟨r, (mem_helperRotations _ _ hc r).mpr (Or.inl hr), rfl⟩))
    · -- conjugation
      exact Or.inr rfl
    · -- repacking rotation: the helper adds it to the C2S rotations
      split at hx
      · rename_i hsp
        simp only [List.mem_cons, List.not_mem_nil, or_false] at hx
        subst hx
        exact Or.inl (Or.inl (Or.inr ⟨2 ^ g.logSlots, (mem_helperRotations _ _ hc _).mpr (Or.inr ⟨rfl, hsp, rfl⟩), rfl⟩))
      · simp at hx
    · -- dft(S2C)
      exact Or.inl (Or.inr ⟨r, (mem_helperRotations _ _ hs r).mpr (Or.inl hr), rfl⟩)

/-- No key is missing during `bootstrap`. -/
theorem keys_sufficient (g : GalLit) (hv : g.valid) : ∀ x ∈ requiredGalois g, x ∈ generatedGalois g :=
  fun x hx => (keys_exact g hv x).mpr hx

/-- the default literal `ParametersLiteral{}` (C2S depth 4, S2C depth 3) at `LogN = 16`, full packing
    (N16QP1546H192H32, N16QP1767H32768H32) -/
def defaultLit : GalLit := { logN := 16, logSlots := 15, c2sLevels := [1, 1, 1, 1], s2cLevels := [1, 1, 1] }
/-- N16QP1553H192H32 / N16QP1793H32768H32: S2C split `{30}, {30, 30}` -/
def groupedLit : GalLit := { logN := 16, logSlots := 15, c2sLevels := [1, 1, 1, 1], s2cLevels := [1, 2] }
/-- N15QP768H192H32 / N15QP880H16384H32: C2S `{49},{49}`, S2C `{30, 30}` -/
def n15Lit : GalLit := { logN := 15, logSlots := 14, c2sLevels := [1, 1], s2cLevels := [2] }
/-- the default literal with `LogSlots = 3` (depths `min(4,3)`, `min(3,3)`): its first C2S and last S2C
    matrices have two diagonals (`len(pVec) < 3` branch of `addMatrixRotToList`) -/
def smallSlotsLit : GalLit := { logN := 16, logSlots := 3, c2sLevels := [1, 1, 1], s2cLevels := [1, 1, 1] }

example : defaultLit.valid ∧ groupedLit.valid ∧ n15Lit.valid ∧ smallSlotsLit.valid := by decide
example : (generatedGalois defaultLit).length = 48 := by
  -- evaluated with the elements seen kept in a bit mask (`dedupL_eq_mask`, `helperGo_eq_mask`)
  rw [generatedGalois, helperRotations, helperRotations, helperGo_eq_mask, helperGo_eq_mask,
    dedupL_eq_mask, dedupL_eq_mask, dedupL_eq_mask]
  decide +kernel
/-- regression witness for the identity key (fix C18-3): Galois element 1 is not generated
    (without the fix `1 ∈ generatedGalois smallSlotsLit` while `1 ∉ requiredGalois smallSlotsLit`). -/
example : 1 ∉ generatedGalois smallSlotsLit ∧ 1 ∉ requiredGalois smallSlotsLit := by
  have h : 1 ∉ generatedGalois smallSlotsLit := by decide +kernel
  exact ⟨h, fun hr => h ((keys_exact _ (by decide) 1).mpr hr)⟩

/-! ## 3. Level layout and schedule -/

/-- each stage of the layout sits on top of the next one by exactly what it consumes -/
theorem c2s_sub (s : SchedLit) : s.c2sLevelQ - s.c2sGroups = s.mod1LevelQ := Nat.add_sub_cancel ..

theorem mod1_sub (s : SchedLit) : s.mod1LevelQ - s.mod1Depth = s.s2cLevelQ := Nat.add_sub_cancel ..

theorem s2c_sub (s : SchedLit) : s.s2cLevelQ - s.s2cGroups = s.announcedLevel + s.res := by
  unfold SchedLit.s2cLevelQ SchedLit.announcedLevel; omega

/-- the layout computed by `NewParametersFromLiteral` passes the `ModUpThenEncode` checks of
    `NewEvaluator`, and `ModUp` lands exactly on the starting level of CoeffsToSlots. -/
theorem layout_consistent (s : SchedLit) (h : 1 ≤ s.residualQ) :
    s.newEvaluatorChecks = true ∧ s.qCount - 1 = s.c2sLevelQ := by
  refine ⟨by rw [SchedLit.newEvaluatorChecks, c2s_sub, mod1_sub, decide_eq_true rfl, decide_eq_true rfl]; rfl, ?_⟩
  unfold SchedLit.qCount SchedLit.c2sLevelQ SchedLit.mod1LevelQ SchedLit.s2cLevelQ
  omega

/-- For EVERY literal (any residual chain, any factorisation — grouped or
    not —, any mod1 depth, with or without reserved prime): every stage succeeds and ends at the level
    the layout announces, and `Evaluate` returns a ciphertext at
    `ResidualParameters.MaxLevel() = Evaluator.OutputLevel()`; with a reserved prime (necessarily the
    iterated path) the extra prime is dropped at the end. -/
theorem output_level_scale (s : SchedLit) (h : 1 ≤ s.residualQ) :
    s.stages = .ok [s.c2sLevelQ, s.mod1LevelQ, s.s2cLevelQ, s.announcedLevel + s.res] ∧
    s.outputLevel true = some s.announcedLevel ∧
    (s.reserved = false → s.outputLevel false = some s.announcedLevel) := by
  have hst : s.stages = .ok [s.c2sLevelQ, s.mod1LevelQ, s.s2cLevelQ, s.announcedLevel + s.res] := by
    have h1 : ¬ s.c2sLevelQ < s.c2sGroups := Nat.not_lt.2 (Nat.le_add_left ..)
    have h4 : ¬ s.s2cLevelQ < s.s2cGroups := by unfold SchedLit.s2cLevelQ; omega
    rw [SchedLit.stages, c2s_sub, mod1_sub, s2c_sub, (layout_consistent s h).2, if_neg h1,
      if_neg (lt_irrefl _), if_neg (lt_irrefl _), if_neg h4]
  refine ⟨hst, ?_, ?_⟩
  · unfold SchedLit.outputLevel
    rw [hst]
    simp only [if_true]
    unfold SchedLit.announcedLevel
    congr 1
    omega
  · intro hr
    unfold SchedLit.outputLevel
    rw [hst]
    simp [SchedLit.res, hr]

/-- N16QP1546H192H32: 10 residual primes, S2C 3, C2S 4, `mod1Depth = 8` -/
example : (⟨10, 3, 4, mod1Depth true false 30 16 3 0, false, none⟩ : SchedLit).outputLevel false = some 9 := by decide
/-- N16QP1553H192H32: 8 residual primes, S2C `{30}, {30, 30}` (2 groups, 3 matrices), C2S 4: level 7 as
    announced (without fix C18-1 of `dft.Evaluator.dft`: level 6 and no precision left). -/
example : (⟨8, 2, 4, mod1Depth true false 30 16 3 0, false, none⟩ : SchedLit).outputLevel false = some 7 := by decide
/-- iterated bootstrapping with a reserved prime -/
example : (⟨2, 3, 4, 8, true, none⟩ : SchedLit).stages = .ok [17, 13, 5, 2] ∧
    (⟨2, 3, 4, 8, true, none⟩ : SchedLit).outputLevel true = some 1 := by decide

/-! ## 4. Scale schedule constants of `Evaluator.initialize` -/

/-- `roundLog2 q` is the ROUNDED binary logarithm: `2^(e-1/2) ≤ q < 2^(e+1/2)`, stated on
    squares. (A floor — `bits.Len64(q)-1` — satisfies this only when `q` is above the power of two.) -/
theorem roundLog2_spec (q : Nat) (h : 1 ≤ q) :
    2 ^ (2 * roundLog2 q) ≤ 2 * (q * q) ∧ q * q < 2 ^ (2 * roundLog2 q + 1) := by
  have a : 2 ^ q.log2 ≤ q := Nat.log2_self_le (by omega)
  have b : q < 2 ^ (q.log2 + 1) := Nat.lt_log2_self
  have a2 : 2 ^ (2 * q.log2) ≤ q * q := by
    have := Nat.mul_le_mul a a
    rwa [← Nat.pow_add, ← Nat.two_mul] at this
  have b2 : q * q < 2 ^ (2 * q.log2 + 2) := by
    have := Nat.mul_lt_mul'' b b
    rwa [← Nat.pow_add, show q.log2 + 1 + (q.log2 + 1) = 2 * q.log2 + 2 by omega] at this
  unfold roundLog2
  simp only
  split
  · rename_i hc
    rw [show 2 * (q.log2 + 1) = (2 * q.log2 + 1) + 1 by omega, Nat.pow_succ,
      show 2 * q.log2 + 1 + 1 + 1 = (2 * q.log2 + 2) + 1 by omega, Nat.pow_succ]
    omega
  · rename_i hc
    omega

/-- the division by `Q[0]` is folded into the CoeffsToSlots matrices (`qDiv < 1`) exactly when the EvalMod
    scale is below the ROUNDED size of `Q[0]`; the C2S scaling is `2^min(round(log2 Q0), EvalModLogScale) / (K·Q0)`. -/
theorem qDiv_one_iff (l : ScaleLit) : l.qDivNegLog = 0 ↔ roundLog2 l.q0 ≤ l.evalModLogScale := by
  unfold ScaleLit.qDivNegLog; omega

theorem c2sScaling_eq (l : ScaleLit) :
    l.c2sScaling = (2 ^ min (roundLog2 l.q0) l.evalModLogScale, l.k * l.q0) := by
  rw [ScaleLit.c2sScaling, ScaleLit.qDivNegLog, Nat.sub_sub_eq_min]

/-- a 60-bit prime just BELOW 2^60 rounds to 60 (its floor is 59): with `EvalModLogScale = 55` the matrices
    carry `qDiv = 2^-5`, not `2^-4` -/
example : roundLog2 1152921504606830593 = 60 ∧ Nat.log2 1152921504606830593 = 59 ∧
    (⟨1152921504606830593, 55, 14, 40, 16, false⟩ : ScaleLit).qDivNegLog = 5 := by decide +kernel
example : (⟨1152921504606830593, 60, 14, 40, 16, true⟩ : ScaleLit).s2cScalingLog = -7 := by decide

/-! ## 5. `ScaleDown`: admissible inputs -/

/-- For every chain of positive moduli, positive scale `S`, message ratio
    `2^r` and input level `l`: if `ScaleDown` does not return its error then
    the output is at level 0 (the `RescaleTo` loop never stops early), the ciphertext was multiplied by an
    integer `n ≥ 1`, the product `den` of the primes divided out is `q_1⋯q_{l'}` for the level `l'` at which the
    dropping loop stopped, and `n` is the rounded quotient `num/dn` (`|2(dn·n − num)| ≤ dn`), where
    `num/dn = Q[0]/(S·2^r)` for `l' = 0` and `Q[0]·den·2^e/(S·2^r·f64round Q[0])` otherwise
    (`f64round Q[0]/2^e` is the float64 `Mod1Parameters.QDiff`): the output scale `S·n/den` is the target
    `Q[0]/2^r`, resp. `2^e/2^r · Q[0]/f64round Q[0]`, up to the rounding of `n`. -/
theorem scaleDown_reaches_level_zero (qs : List Nat) (S r l : Nat) (hq : ∀ i, 1 ≤ qs.getD i 1) (hS : 0 < S)
    {lv n den : Nat} (h : scaleDown qs S r l = some (lv, n, den)) :
    lv = 0 ∧ 1 ≤ n ∧ den = prodTo qs (dropLevels qs S r l) ∧
    (let num := if dropLevels qs S r l = 0 then qs.getD 0 1
                else qs.getD 0 1 * (den * 2 ^ roundLog2 (qs.getD 0 1))
     let dn := if dropLevels qs S r l = 0 then S * 2 ^ r else S * 2 ^ r * f64round (qs.getD 0 1)
     2 * (dn * n) ≤ 2 * num + dn ∧ 2 * num < 2 * (dn * n) + dn) := by
  obtain ⟨s1, s2, s3⟩ := roundHalfUp_spec (scaleUpFrac qs S r (dropLevels qs S r l)).1 _
    (scaleUpFrac_pos qs S r (dropLevels qs S r l) (hq 0) hS)
  rw [scaleDown_eq qs S r l hq hS] at h
  split at h
  · cases h
  · simp only [Option.some.injEq, Prod.mk.injEq] at h
    obtain ⟨rfl, rfl, rfl⟩ := h
    refine ⟨rfl, (s3 (by omega)).1, rfl, ?_⟩
    rw [scaleUpFrac_eq] at s1 s2 ⊢
    exact ⟨s1, s2⟩

/-- `ScaleDown` returns "initial Q/Scale < 0.5*Q[0]/MessageRatio" exactly when, at the
    level `l'` where the dropping loop stops, twice the available modulus is below `Scale·MessageRatio`
    (for `l' > 0` the modulus is `q_1⋯q_{l'}·2^e·Q[0]/f64round Q[0]`). No hypothesis. -/
theorem scaleDown_error_iff (qs : List Nat) (S r l : Nat) :
    scaleDown qs S r l = none ↔
      (if dropLevels qs S r l = 0 then 2 * qs.getD 0 1 < S * 2 ^ r
       else 2 * (qs.getD 0 1 * prodTo qs (dropLevels qs S r l) * 2 ^ roundLog2 (qs.getD 0 1))
              < S * 2 ^ r * f64round (qs.getD 0 1)) := by
  unfold scaleDown
  simp only
  generalize dropLevels qs S r l = l'
  rw [scaleUpFrac_eq]
  by_cases h0 : l' = 0
  · simp only [h0, if_true]
    split
    · exact iff_of_true rfl ‹_›
    · exact iff_of_false (Option.some_ne_none _) ‹_›
  · simp only [h0, if_false, ← Nat.mul_assoc]
    split
    · exact iff_of_true rfl ‹_›
    · exact iff_of_false (Option.some_ne_none _) ‹_›

/-- a level-0 input is admissible iff `S · MessageRatio ≤ 2·Q[0]` -/
theorem scaleDown_level0_iff (qs : List Nat) (S r : Nat) :
    scaleDown qs S r 0 ≠ none ↔ S * 2 ^ r ≤ 2 * qs.getD 0 1 := by
  rw [Ne, scaleDown_error_iff qs S r 0]
  simp [dropLevels]

/-- the chain of the harness configuration `q0_50_rescale` (`Q[0]` 50 bits, scale `2^40`, ratio `2^14`): level 0 is
    inadmissible, a level-1 input is rescaled by `Q[1]` (same values as the `scaledown` tie lines) -/
example : scaleDown [1125899906856961, 1099511592961, 1099511480321] (2 ^ 40) 14 0 = none ∧
    scaleDown [1125899906856961, 1099511592961, 1099511480321] (2 ^ 40) 14 1 = some (0, 68719474560, 1099511592961) := by
  decide +kernel

/-! ## 6. The factorised DFT: split independence and mutual inversion -/

/-- For every accepted matrix literal (any `LogSlots ≥ 1`, any depth split, grouped or
    not, Encode or Decode merge order) and any family of layers with rotations below `slots`: the matrices of
    `GenMatrices` (each diagonal scaled by `σ`) applied in sequence equal `σ^Depth` times the composition of all
    `LogSlots` butterfly layers, level `LogSlots` down to 1. In particular the operator does not depend on the split. -/
theorem dft_split_independent {R : Type} [CommRing R] (d : MatLit) (layer : Nat → Layer R)
    (hrot : ∀ lvl, 1 ≤ lvl → lvl ≤ d.logSlots → (layer lvl).rot < 2 ^ d.logSlots)
    (hv : d.valid) (h1 : 1 ≤ d.maxDepth) (σ : R) (x : Nat → R) (j : Nat) (hj : j < 2 ^ d.logSlots) :
    applyMats (2 ^ d.logSlots) (genMatricesVals d layer σ) x j
      = σ ^ d.maxDepth * applyLayersDown (2 ^ d.logSlots) layer d.logSlots d.logSlots x j :=
  genMatrices_apply d layer hrot hv h1 σ x j hj

/-- `SlotsToCoeffs ∘ CoeffsToSlots = σ_s^{depth_s} · σ_c^{depth_c} · 2^LogSlots · id` for every `LogSlots`
    and every pair of accepted depth splits, in every commutative ring with a root `ζ^(4·slots) = 1`; the layers are
    the model's `dftLayer` tables (tied to `fftPlainVec` / `ifftPlainVec` by `dft_layers`). With
    `σ_c^{depth_c} = scaling_c / slots` (the `1/N` of the Encode type) and `σ_s^{depth_s} = scaling_s` this is
    `scaling_s · scaling_c · id`. -/
theorem dft_inverse {R : Type} [CommRing R] (ζ : R) (dC dS : MatLit)
    (hL : dS.logSlots = dC.logSlots) (hvC : dC.valid) (hvS : dS.valid) (h1C : 1 ≤ dC.maxDepth) (h1S : 1 ≤ dS.maxDepth)
    (hζ : ζ ^ (4 * 2 ^ dC.logSlots) = 1) (σc σs : R) (x : Nat → R) (j : Nat) (hj : j < 2 ^ dC.logSlots) :
    applyMats (2 ^ dC.logSlots) (genMatricesVals dS (decLayers ζ dC.logSlots) σs)
      (applyMats (2 ^ dC.logSlots) (genMatricesVals dC (encLayers ζ dC.logSlots) σc) x) j
      = σs ^ dS.maxDepth * σc ^ dC.maxDepth * 2 ^ dC.logSlots * x j :=
  Lattigo.Proofs.Bootstrap.dft_inverse ζ dC dS hL hvC hvS h1C h1S hζ σc σs x j hj

/-- non-vacuity: `ζ = 3` is a primitive 16-th root of unity in `ZMod 17` (`slots = 4`), C2S split `{1},{1}`, S2C one
    group of two matrices -/
example : (3 : ZMod 17) ^ (4 * 2 ^ 2) = 1 ∧ (3 : ZMod 17) ^ 8 ≠ 1 ∧
    (⟨true, 2, [1, 1], false, false, 1⟩ : MatLit).valid ∧ (⟨false, 2, [2], false, false, 1⟩ : MatLit).valid ∧
    1 ≤ (⟨true, 2, [1, 1], false, false, 1⟩ : MatLit).maxDepth ∧ 1 ≤ (⟨false, 2, [2], false, false, 1⟩ : MatLit).maxDepth := by
  decide

/-! ## 7. `EvaluateAndScaleNew`: the scaling constant of the double-angle steps -/

/-- If the value entering the double-angle loop is `c·t` and the loop's constant starts at the
    SAME `c` (`c = sqrt2pi · scaling^(1/2^DoubleAngle)`: the factor folded into the Chebyshev coefficients), then after `k`
    steps the constant is `c^(2^k)` and the value is `c^(2^k) · T_{2^k}(t)`: the gain is `scaling`, `sqrt2pi^(2^k) = 1/2π`. -/
theorem double_angle_scaling : ∀ (k : Nat) (c t : Int),
    doubleAngleIter k (c, c * t) = (c ^ 2 ^ k, c ^ 2 ^ k * chebDouble k t)
  | 0, c, t => by simp [doubleAngleIter, chebDouble]
  | k + 1, c, t => by
    have h := double_angle_scaling k (c * c) (2 * (t * t) - 1)
    simp only [doubleAngleIter, doubleAngleStep, chebDouble]
    rw [show 2 * (c * t * (c * t)) - c * c = c * c * (2 * (t * t) - 1) by ring, h,
      show (c * c) ^ 2 ^ k = c ^ 2 ^ (k + 1) by rw [← pow_two, ← pow_mul, pow_succ, Nat.mul_comm]]

/-- with a DIFFERENT constant (`b ≠ ±a`: e.g. the full scaling instead of its root) already the first step is off by
    `a² − b²` -/
theorem double_angle_mismatch (a b t : Int) :
    (doubleAngleStep (b, a * t)).2 = a * a * (2 * (t * t) - 1) + (a * a - b * b) := by
  simp only [doubleAngleStep]; ring

example : doubleAngleIter 3 (3, 3 * 2) = (3 ^ 8, 3 ^ 8 * chebDouble 3 2) := by decide

end Lattigo.Props.C18

#print axioms Lattigo.Props.C18.encapsulation_confined
#print axioms Lattigo.Props.C18.sparse_plaintext_only_under_dense
#print axioms Lattigo.Props.C18.encapsulation_key_present
#print axioms Lattigo.Props.C18.genEvaluationKeys_panics_iff
#print axioms Lattigo.Props.C18.accepted_no_panic
#print axioms Lattigo.Props.C18.key_levels_sufficient
#print axioms Lattigo.Props.C18.index_maps_agree
#print axioms Lattigo.Props.C18.bsgs_rotations_agree
#print axioms Lattigo.Props.C18.keys_exact
#print axioms Lattigo.Props.C18.keys_sufficient
#print axioms Lattigo.Props.C18.layout_consistent
#print axioms Lattigo.Props.C18.output_level_scale
#print axioms Lattigo.Props.C18.roundLog2_spec
#print axioms Lattigo.Props.C18.qDiv_one_iff
#print axioms Lattigo.Props.C18.c2sScaling_eq
#print axioms Lattigo.Props.C18.scaleDown_reaches_level_zero
#print axioms Lattigo.Props.C18.scaleDown_error_iff
#print axioms Lattigo.Props.C18.scaleDown_level0_iff
#print axioms Lattigo.Props.C18.dft_split_independent
#print axioms Lattigo.Props.C18.dft_inverse
#print axioms Lattigo.Props.C18.double_angle_scaling
#print axioms Lattigo.Props.C18.double_angle_mismatch
