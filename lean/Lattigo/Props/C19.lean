/-
  C19 — accepted parameters are sound; shipped sets meet their 128-bit security claim.

  Files: this one (constructors, GenModuli, bgv, exported sets, derived quantities of the hand model),
  `Props/C19Primes.lean` (the prime generator itself, all three directions), `Props/C19Codec.lean` (the codecs), `Props/C19Gen.lean` (the derived
  quantities REGENERATED from core/rlwe/params.go by tools/go2lean).
  All theorems are about the definitions of `Lattigo.Model.Params` that the driver executes, for every oracle
  `o : Oracle` (primality test + the generator's two float comparisons) unless stated. The model follows /repo
  with the fixes /verif/fixes/C19-1 … C19-13 applied.

  PROVED FOR ALL INPUTS
    acceptance
      `decision_table`            rlwe.NewParameters accepts (warnings aside) ⇔ `Requirements` (degree range, ring type,
                                  non-empty Q, Q ∪ P duplicate-free, each modulus prime for the oracle, ≡ 1 mod NthRoot, < 2^61)
      `literal_decision_table`    the same for NewParametersFromLiteral with explicit moduli
      `ckks_decision_table`       ckks.NewParametersFromLiteral ⇔ rlwe acceptance ∧ LogDefaultScale ≤ 128
      `bgv_decision_table`        bgv.NewParameters returns b ⇔ t ≠ 0, t ∉ Q, t ≤ Q[0], the auxiliary-basis generator returns
                                  b.qMul and it is a ring of degree N, order(t) ≥ 16, b.nT = min(N, order/2) is a ring with modulus t
      `ring_decision_table`       ring.NewRingWithCustomNTT succeeds ⇔ N ≥ 8 power of two, chain non-empty, duplicate-free,
                                  every modulus a non-zero prime with m & (NthRoot−1) = 1
      `accepted_sound`            (needs a sound primality oracle) accepted ⇒ Q ∪ P pairwise distinct primes, ≡ 1 mod NthRoot,
                                  bit length ≤ 61, 8m ≤ 2^64
      `bgv_accepted`              accepted t is prime, not in Q, ≤ Q[0], t ≡ 1 mod 2·nT, nT ≥ 8; QMul primes ≡ 1 mod 2N, none in Q
    rejection
      `never_panics`              no literal, oracle, fuel gives `panic`
      `rejected_no_panic_explicit` explicit moduli: accept or `err`, any oracle, any fuel; violated requirement ⇒ `err`
      `params_revalidate`         (in `Props/C19Codec.lean`) an accepted object's own literal is accepted again and gives
                                  the same object
    moduli generation: see PROVED UNDER A NAMED HYPOTHESIS
    codecs (`Props/C19Codec.lean`: model of the JSON field lists; MarshalBinary = JSON)
      `dist_roundtrip`, `rlweLit_roundtrip` (up to empty-slice ≡ nil, what `omitempty` cannot express),
      `btp_roundtrip`, `btpLit_roundtrip` (exact, zero values and nil pointers included)
    derived quantities (hand model; the regenerated ones are in C19Gen)
      `overflowMargin_sound`, `qiOverflowMargin_sound` (needs a sound primality oracle), `baseRNS_def`, `baseTwo_def`, `galoisElement_def`,
      `modInvGaloisElement_def`, `derived_defs`, `accepted_logNthRoot`
    exported sets (statements about today's literals, dumped from the real code and tied by `exported … known=1`)
      `exported_within_table`, and the five known findings as counterexamples: `exported_above_table` (three sets
      above the table), `n15_defaults_not_instantiable` (two sets whose residual chain fails the root-order check)

  PROVED UNDER A NAMED HYPOTHESIS
    `genPrimes_total`          termination of the UPSTREAM direction needs `StopComplete o` (the float stop test fires
        outside the half-bit window) and `fuel ≥ 2^65`; the downstream and alternating directions terminate for
        every oracle (`genPrimes_ne_hang`: the hypothesis is asked for `dir = 0` only)
    `rejected_no_panic`, `genModuli_total`  carry the hypothesis `StopComplete o` in their statements but do not
        need it: `GenModuli` runs only the downstream and alternating directions, so it and the literal constructors
        terminate for every oracle, `goOracle` included (`genModuli_ne_hang`, `newParametersFromLiteral_ne_hang`)
    `genModuli_spec`, `genPrimes_spec`, `genPrimes_order`      need `StopSound o` (the float tests are read exactly)
    The two say the same, field by field in contrapositive (`stopSound_iff_stopComplete`, `Proofs/ParamsTerm.lean`).
    Both hold for `exactOracle` (`exactOracle_stopSound`, `exactOracle_stopComplete`); for the double-precision port
    `goOracle` they are NOT discharged (no Float reasoning in the kernel): what stays open for `goOracle` is the window
    of the returned moduli and termination of the upstream direction — the run-time probe `genmoduli_spec`
    checks the exact window on every modulus the real generator returns.
    `accepted_sound`, `genModuli_spec`, `bgv_accepted`, `genPrimes_spec` use `PrimeSound o`; the driver's Miller–Rabin
    test is tied to `ring.IsPrime` (`isprime` lines) but not proved equal to `Nat.Prime`.

  TIED ONLY (model = implementation on the explored inputs): ops `rlwe_new`, `rlwe_direct`, `ckks_new`, `bgv_new`,
    `gen`, `genmoduli`, `overlap`, `isprime`, `derived`, `accessors`, `exported`, `table`, `codec_keys`
    (the decode side of the codecs and the text codecs of Scale / nested parameter objects are covered by the
    round-trip PROBES on the real code, not by the model).
  PROBES ONLY: accepted_then_ntt_roundtrip / accepted_then_bgv_arithmetic / bgv_context_works / accepted_dist_usable
    (the accepted context computes correctly), accessor_aliases, codec_roundtrip, equal_discriminates,
    rejects_logN_out_of_range, bgv_rejects_t_dividing_Q, exported_instantiable.
  NOT COVERED: that the table's figures give 128-bit security (estimator output, `spec/security_table.json` records
    provenance); encryption/decryption correctness of an accepted context is C03/C07's subject (here: probes).
-/
import Lattigo.Proofs.Params
import Lattigo.Proofs.ParamsPow
import Lattigo.Proofs.ParamsGen
import Lattigo.Proofs.ParamsTerm
import Lattigo.Props.C19Primes
import Lattigo.Props.C19Codec
import Lattigo.Props.C19Gen
import Lattigo.Proofs.LazyAcc

namespace Lattigo.Params
open Lattigo

/-- the oracle's primality test is sound -/
def PrimeSound (o : Oracle) : Prop := ∀ n, o.isPrime n = true → Nat.Prime n

/-- an accepted literal has `MinLogN ≤ logN ≤ MaxLogN`, a ring type
    in {Standard, ConjugateInvariant}, a non-empty Q, and the moduli of `Q ∪ P` are pairwise distinct
    primes, `≡ 1 mod NthRoot`, of bit length ≤ 61 — the exact bound `CheckModuli` enforces
    (`m < 2^61`), which gives `8m ≤ 2^64`, what the lazy NTT and `MRedLazy` need. -/
theorem accepted_sound (o : Oracle) (ho : PrimeSound o) (fuel : Nat) (lit : Literal)
    (a : Accepted) (h : newParametersFromLiteral o fuel lit = .ok a) :
    MinLogN ≤ (a.logN : Int) ∧ (a.logN : Int) ≤ MaxLogN ∧ (a.ringType = 0 ∨ a.ringType = 1) ∧
    a.q ≠ [] ∧ (a.q ++ a.p).Nodup ∧
    ∀ m ∈ a.q ++ a.p, Nat.Prime m ∧ m % a.nthRoot = 1 ∧ len64 m ≤ 61 ∧ 8 * m ≤ 2 ^ 64 := by
  obtain ⟨q, p, h'⟩ := newParametersFromLiteral_ok h
  obtain ⟨r, -, -, rfl⟩ := newParameters_ok_iff.mp h'
  have hl : ((lit.logN.toNat : Nat) : Int) = lit.logN :=
    Int.toNat_of_nonneg (by have := r.logN_ge; unfold MinLogN at this; omega)
  refine ⟨hl ▸ r.logN_ge, hl ▸ r.logN_le, r.rt_ok, r.q_ne, r.qp_nodup, fun m hm => ?_⟩
  obtain ⟨k1, k2, k3⟩ := (List.mem_append.mp hm).elim (r.q_ok m) (r.p_ok m)
  exact ⟨ho m k1, (nthRoot_pow ⟨lit.logN.toNat, q, p, lit.ringType⟩ r.rt_ok).symm ▸ k2, (len64_le_iff m 61).mpr k3,
    by omega⟩

example : newParametersFromLiteral exactOracle 10 { logN := 4, q := some [97], p := some [193] }
    = .ok { logN := 4, q := [97], p := [193], ringType := 0 } := by decide +kernel

/-- a 62-bit prime `≡ 1 mod 32` is rejected (fix C19-1) -/
example : newParametersFromLiteral exactOracle 10 { logN := 4, q := some [4611686018427387617] }
    = .err "qBits:0" := by decide +kernel

/-- the same prime in Q and P is rejected (fix C19-2) -/
example : newParametersFromLiteral exactOracle 10 { logN := 4, q := some [97], p := some [97] }
    = .err "qpNotDistinct" := by decide +kernel

/-! ## rejected_no_panic — the decision table -/

/-- `NewParameters` accepts (warnings aside) *exactly* the literals meeting
    `Requirements` (degree range, ring type, non-empty Q, `Q ∪ P` duplicate-free, every modulus
    prime for the oracle, `≡ 1 mod 2^(logN+1+ringType)`, `< 2^61`). -/
theorem decision_table (o : Oracle) (logN : Int) (q p : List Nat) (rt : Nat) :
    (∃ a, newParameters o logN q p rt false false = .ok a) ↔ Requirements o logN q p rt :=
  ⟨fun ⟨_, h⟩ => requirements_of_ok h, fun h => ⟨_, newParameters_complete h⟩⟩

/-- `NewParametersFromLiteral` on a literal with explicit moduli (no size requests, no
    zero-weight / zero-deviation warning) accepts exactly when the literal's lists meet `Requirements`
    (a nil `Q` is the empty chain and fails `q ≠ []`). -/
theorem literal_decision_table (o : Oracle) (fuel : Nat) (lit : Literal)
    (hq : lit.logQ = none) (hp : lit.logP = none) (hw : lit.xsWeight0 = false) (hs : lit.xeStd0 = false) :
    (∃ a, newParametersFromLiteral o fuel lit = .ok a) ↔
      Requirements o lit.logN (lit.q.getD []) (lit.p.getD []) lit.ringType := by
  rw [newParametersFromLiteral_explicit o fuel lit hq hp, hw, hs]
  cases lit.q with
  | none => exact ⟨fun ⟨a, ha⟩ => by simp at ha, fun hreq => absurd rfl hreq.q_ne⟩
  | some ql => exact decision_table o lit.logN ql (lit.p.getD []) lit.ringType

example : ∃ a, newParametersFromLiteral exactOracle 10 { logN := 4, q := some [97], p := some [193] } = .ok a :=
  ⟨{ logN := 4, q := [97], p := [193], ringType := 0 }, by decide +kernel⟩

/-- the remaining constructors as equivalences: `ring.NewRingWithCustomNTT` (`newRing_iff`) -/
theorem ring_decision_table {o : Oracle} {n r : Nat} {ms : List Nat} :
    newRing o n ms r = none ↔
      MinRingDegree ≤ n ∧ isPow2 n = true ∧ ms ≠ [] ∧ ms.Nodup ∧
      ∀ m ∈ ms, m ≠ 0 ∧ o.isPrime m = true ∧ m &&& (r - 1) = 1 := newRing_iff

/-- `ckks.NewParametersFromLiteral` accepts exactly the literals the rlwe constructor
    accepts with `LogDefaultScale ≤ 128` (nothing else is checked; negative values pass). -/
theorem ckks_decision_table (o : Oracle) (fuel : Nat) (lit : Literal) (lds : Int) (a : Accepted) :
    ckksNewFromLiteral o fuel lit lds = .ok a ↔ newParametersFromLiteral o fuel lit = .ok a ∧ lds ≤ 128 := by
  unfold ckksNewFromLiteral
  cases h : newParametersFromLiteral o fuel lit with
  | ok b =>
    by_cases hl : lds > 128
    · simp only [hl, if_true]
      constructor
      · intro h; cases h
      · intro ⟨_, h⟩; omega
    · simp only [hl, if_false, Res.ok.injEq]
      constructor
      · intro h; exact ⟨h, by omega⟩
      · intro ⟨h, _⟩; exact h
  | err c => simp
  | panic => simp
  | hang => simp

/-- `bgv.NewParameters(rlweParams, t)` returns the parameter object `b` exactly when
    `t ≠ 0`, `t ∉ Q`, `t ≤ Q[0]`, the auxiliary-basis generator returns `b.qMul` (61-bit downstream primes not
    in Q) and these form a ring of degree `N`, the largest power of two `order` with `t ≡ 1 mod order` is at
    least 16, and `b.nT = min(N, order/2)` is the degree of a ring with the single modulus `t`
    (`newRing_iff`: `nT ≥ 8` a power of two, `t` a non-zero prime, `t & (2·nT − 1) = 1`). -/
theorem bgv_decision_table (o : Oracle) (fuel : Nat) (a : Accepted) (t : Nat) (b : BgvAccepted) :
    bgvNew o fuel a t = .ok b ↔
      t ≠ 0 ∧ t ∉ a.q ∧ t ≤ a.q.headD 0 ∧
      qmulLoop o fuel a.q ((len64 a.qProd + a.logN + 60) / 61 + a.q.length + 1)
        ((len64 a.qProd + a.logN + 60) / 61) (newGen 61 a.nthRoot) = .ok b.qMul ∧
      newRing o a.n b.qMul (2 * a.n) = none ∧
      16 ≤ cyclotomicOrder t ∧ b.nT = min a.n (cyclotomicOrder t / 2) ∧
      newRing o b.nT [t] (2 * b.nT) = none :=
  bgvNew_ok_iff

/-- both sides of `bgv_decision_table` are inhabited (`t = 17`, plaintext ring of degree 8) -/
example : bgvNew exactOracle 100000 { logN := 6, q := [786433], p := [], ringType := 0 } 17
    = .ok { nT := 8, qMul := [2305843009213689601] } := by decide +kernel

/-- no literal whatsoever makes the constructor panic (any oracle, any fuel). -/
theorem never_panics (o : Oracle) (fuel : Nat) (lit : Literal) :
    newParametersFromLiteral o fuel lit ≠ .panic :=
  newParametersFromLiteral_ne_panic o fuel lit

set_option linter.unusedVariables false in  -- `hc` is not needed (`newParametersFromLiteral_ne_hang`)
/-- every literal, with explicit moduli or with size requests,
    is either accepted or rejected with an error class: no panic, no non-termination.
    Termination needs `fuel ≥ 2^65` (the loops of the two directions `GenModuli` uses make fewer than
    `2^64 + 2^61 + 2` steps) and nothing of the oracle: the hypothesis `StopComplete` is not used. -/
theorem rejected_no_panic (o : Oracle) (hc : StopComplete o) (fuel : Nat) (hf : 2 ^ 65 ≤ fuel)
    (lit : Literal) :
    (∃ a, newParametersFromLiteral o fuel lit = .ok a) ∨
    (∃ c, newParametersFromLiteral o fuel lit = .err c) := by
  have h1 := newParametersFromLiteral_ne_panic o fuel lit
  have h2 := newParametersFromLiteral_ne_hang o fuel hf lit
  cases h : newParametersFromLiteral o fuel lit with
  | ok a => exact Or.inl ⟨a, rfl⟩
  | err c => exact Or.inr ⟨c, rfl⟩
  | panic => exact absurd h h1
  | hang => exact absurd h h2

example : StopComplete exactOracle := exactOracle_stopComplete

/-- with explicit moduli (no `LogQ`/`LogP`) the same holds for every
    oracle and every fuel, and a literal violating any requirement is rejected with an error. -/
theorem rejected_no_panic_explicit (o : Oracle) (fuel : Nat) (lit : Literal)
    (hq : lit.logQ = none) (hp : lit.logP = none) :
    ((∃ a, newParametersFromLiteral o fuel lit = .ok a) ∨
     (∃ c, newParametersFromLiteral o fuel lit = .err c)) ∧
    (¬ Requirements o lit.logN (lit.q.getD []) (lit.p.getD []) lit.ringType →
      ∃ c, newParametersFromLiteral o fuel lit = .err c) := by
  rw [newParametersFromLiteral_explicit o fuel lit hq hp]
  split
  · exact ⟨Or.inr ⟨_, rfl⟩, fun _ => ⟨_, rfl⟩⟩
  · have tot := newParameters_total o lit.logN (lit.q.getD []) (lit.p.getD []) lit.ringType lit.xsWeight0 lit.xeStd0
    exact ⟨tot, fun hnot => tot.resolve_left fun ⟨_, ha⟩ => hnot (requirements_of_ok ha)⟩

/-- non-vacuity: a literal violating a requirement (composite modulus 33 ≡ 1 mod 32) is rejected -/
example : newParametersFromLiteral exactOracle 10 { logN := 4, q := some [33] } = .err "qPrime:0" := by
  decide +kernel

/-- a literal whose root order would make `GenModuli` evaluate `1 << -2` is rejected, by every oracle (fix C19-3) -/
example (o : Oracle) (fuel : Nat) :
    newParametersFromLiteral o fuel { logN := -5, logNthRoot := -2, logQ := some [30] } = .err "logNmin" := by
  simp [newParametersFromLiteral, checkSizeParams, MaxLogN, MinLogN]

/-- root orders on which the generator would not return (2^64 and 2^62; fixes C19-3/4) are rejected, by every oracle -/
example (o : Oracle) (fuel : Nat) :
    newParametersFromLiteral o fuel { logN := 10, logNthRoot := 64, logQ := some [30] }
      = .err "gen:logNthRoot" ∧
    newParametersFromLiteral o fuel { logN := 10, logNthRoot := 62, q := some [97], logP := some [61] }
      = .err "gen:logNthRoot" := by
  constructor <;>
    simp [newParametersFromLiteral, genModuli, checkSizeParams, MaxLogN, MinLogN] <;> decide

/-- the single-direction loops return the exhaustion error once their direction is disabled (fix C19-4) -/
example : genPrimes exactOracle 10 1 5 64 1 = .err "exhausted" ∧
    genPrimes exactOracle 10 0 63 (2 ^ 63) 1 = .err "exhausted" ∧
    genPrimes exactOracle 10 2 30 0 1 = .err "exhausted" := by
  refine ⟨by decide +kernel, by decide +kernel, by decide +kernel⟩

/-! ## bgv: checks on the plaintext modulus and the auxiliary basis -/

/-- `bgv.NewParameters` accepts `t` only if `t` is prime, `t ∉ Q`
    (so coprime to Q), `t ≤ Q[0]`, the plaintext ring degree `nT = min(N, order/2) ≥ 8` with
    `t ≡ 1 mod 2·nT` (`t` need not be `1 mod 2N`: the plaintext ring is then smaller), and the
    auxiliary basis consists of distinct primes `≡ 1 mod 2N` none of which is in Q. -/
theorem bgv_accepted (o : Oracle) (ho : PrimeSound o) (fuel : Nat) (a : Accepted) (t : Nat)
    (b : BgvAccepted) (h : bgvNew o fuel a t = .ok b) :
    Nat.Prime t ∧ t ∉ a.q ∧ t ≤ a.q.headD 0 ∧ 8 ≤ b.nT ∧ b.nT ≤ a.n ∧ t &&& (2 * b.nT - 1) = 1 ∧
    b.qMul.Nodup ∧ (∀ m ∈ b.qMul, Nat.Prime m ∧ m &&& (2 * a.n - 1) = 1) ∧
    ∀ m ∈ b.qMul, m ∉ a.q := by
  obtain ⟨-, htq, htb, hgen, hqm, -, hnT, hrt⟩ := bgvNew_ok_iff.mp h
  obtain ⟨-, -, -, hnd, hm⟩ := newRing_iff.mp hqm
  obtain ⟨hdeg, -, -, -, ht⟩ := newRing_iff.mp hrt
  obtain ⟨-, htp, hta⟩ := ht t (List.mem_singleton.mpr rfl)
  exact ⟨ho t htp, htq, htb, hdeg, by rw [hnT]; exact Nat.min_le_left _ _, hta, hnd,
    fun m hm' => ⟨ho m (hm m hm').2.1, (hm m hm').2.2⟩, qmulLoop_avoid _ _ _ _ _ _ _ hgen⟩

/-- Q = the first 61-bit primes `1 mod 2N` below `2^61`: the auxiliary basis starts after them (fix C19-5) -/
example :
    bgvNew exactOracle 100000
        { logN := 6, q := [2305843009213689601, 2305843009213689089], p := [], ringType := 0 } 65537
      = .ok { nT := 64, qMul := [2305843009213687297, 2305843009213686401, 2305843009213685377] } := by
  decide +kernel

/-- non-vacuity with a plaintext modulus that is *not* `1 mod 2N` (`t = 17`, `2N = 128`):
    accepted with the plaintext ring degree 8 -/
example : bgvNew exactOracle 100000 { logN := 6, q := [786433], p := [], ringType := 0 } 17
    = .ok { nT := 8, qMul := [2305843009213689601] } := by decide +kernel

/-- a plaintext modulus equal to a LATER prime of the chain (`t = Q[1] = 65537`) is rejected like `t = Q[0]`
    (`bgv_accepted` gives `t ∉ Q` for every accepted `t`; this is the concrete instance) -/
example : bgvNew exactOracle 100000
    { logN := 6, q := [35184372088961, 65537, 1073741441], p := [], ringType := 0 } 65537 = .err "tInQ" := by
  decide +kernel

/-- `rlwe.NewParameters` called directly refuses a ring degree outside `[MinLogN, MaxLogN]` before anything else
    (any oracle, any moduli): `decision_table` in the two out-of-range instances -/
example (o : Oracle) (q p : List Nat) (rt : Nat) (w s : Bool) :
    newParameters o 3 q p rt w s = .err "logNmin" ∧ newParameters o 21 q p rt w s = .err "logNmax" ∧
    newParameters o (-1) q p rt w s = .err "logNmin" := by
  refine ⟨?_, ?_, ?_⟩ <;> simp [newParameters, checkSizeParams, MaxLogN, MinLogN]

/-- if `GenModuli(L, logQ, logP)` returns `(q, p)` then, provided
    the primality oracle is sound and the generator's two float comparisons are exact (`StopSound`):
    `5 ≤ L ≤ 22`, `q`/`p` answer the requests in order, every modulus is a prime `≡ 1 mod 2^L` with
    `|log2 m − size| < 1/2` (exact arithmetic: `2^(2s) < 2m²`, `m² < 2^(2s+1)`), and the moduli of
    `q ++ p` are pairwise distinct.  The precondition "no size below the root order" is enforced
    by the code (fix C19-6), as is the range of `L` (fix C19-3). -/
theorem genModuli_spec (o : Oracle) (ho : PrimeSound o) (hs : StopSound o) (fuel : Nat) (L : Int)
    (logQ logP : List Int) (q p : List Nat)
    (h : genModuli o fuel L logQ logP = .ok (q, p)) :
    5 ≤ L ∧ L ≤ 22 ∧
    List.Forall₂ (fun s m => Nat.Prime m ∧ m % 2 ^ L.toNat = 1 ∧
        2 ^ (2 * s.toNat) < 2 * (m * m) ∧ m * m < 2 ^ (2 * s.toNat + 1)) logQ q ∧
    List.Forall₂ (fun s m => Nat.Prime m ∧ m % 2 ^ L.toNat = 1 ∧
        2 ^ (2 * s.toNat) < 2 * (m * m) ∧ m * m < 2 ^ (2 * s.toNat + 1)) logP p ∧
    (q ++ p).Nodup := by
  obtain ⟨l1, l2, a, b, c⟩ := genModuli_ok o hs fuel L logQ logP q p h
  exact ⟨l1, l2, List.Forall₂.imp (fun _ _ g => ⟨ho _ g.prime, g.res, g.lo, g.hi⟩) a,
    List.Forall₂.imp (fun _ _ g => ⟨ho _ g.prime, g.res, g.lo, g.hi⟩) b, c⟩

/-- non-vacuity (a test, not a theorem about all inputs): the generator does return moduli -/
example : genModuli exactOracle 1000 6 [10, 10] [11] = .ok ([1153, 1217], [2113]) := by decide +kernel

/-- a size below the root order is rejected (fix C19-6): size 16 below the root order 2^17 would give the Fermat
    prime 65537, which is not `1 mod 2^17` -/
example : genModuli exactOracle 1000 17 [16] [] = .err "logQbelowRoot:0" := by decide +kernel

set_option linter.unusedVariables false in  -- `hc` is not needed (`genModuli_ne_hang`)
/-- `GenModuli` terminates and never panics (for every oracle: the hypothesis `StopComplete` is not used) -/
theorem genModuli_total (o : Oracle) (hc : StopComplete o) (fuel : Nat) (hf : 2 ^ 65 ≤ fuel)
    (L : Int) (logQ logP : List Int) :
    genModuli o fuel L logQ logP ≠ .panic ∧ genModuli o fuel L logQ logP ≠ .hang :=
  ⟨genModuli_ne_panic o fuel L logQ logP, genModuli_ne_hang o fuel hf L logQ logP⟩

/-- every exported example/default parameter set (rlwe, bgv, ckks,
    /repo/examples, bootstrapping residual and full chains; dump of the real code, tied by the
    `exported … known=1` lines) that is not recorded as a known finding satisfies
    `log2(Q·P) < table(logN, secret) + 1/2`. A statement about today's literals. -/
theorem exported_within_table :
    ∀ s ∈ exportedSets, s.checked = true → s.above = false → s.within = true := by
  decide +kernel

/-- the three known findings (not fixed: the shipped bootstrapping literals
    `N16QP1793H32768H32`, `N15QP768H192H32`, `N15QP880H16384H32`) are indeed above the table, by
    89, 81 and 131 bits (`bitlen(QP) − table`). -/
theorem exported_above_table :
    ∀ s ∈ exportedSets, s.above = true → s.within = false ∧ s.checked = true := by
  decide +kernel

/-- non-vacuity: both classes are inhabited -/
example : (exportedSets.filter (fun s => s.checked && !s.above)).length = 34 ∧
    (exportedSets.filter (·.above)).length = 3 := by decide +kernel

/-! ## derived quantities equal their definitions -/

/-- `GaloisElement(k) = GaloisGen^(k mod NthRoot) mod NthRoot`
    (the executable model the tie lines compare with the real code is the definition). -/
theorem galoisElement_def (a : Accepted) (k : Int) :
    a.galoisElement k = GaloisGen ^ (k % (a.nthRoot : Int)).toNat % a.nthRoot := by
  unfold Accepted.galoisElement
  rw [powModFast_eq]; rfl

/-- `ModInvGaloisElement(g) = g^(NthRoot−1) mod NthRoot` -/
theorem modInvGaloisElement_def (a : Accepted) (g : Nat) :
    a.modInvGaloisElement g = g ^ (a.nthRoot - 1) % a.nthRoot := by
  unfold Accepted.modInvGaloisElement
  rw [powModFast_eq]; rfl

/-- `MaxLevel = #Q − 1`, `MaxLevelP = #P − 1`, `N = 2^LogN`,
    `NthRoot = 2N` (Standard) or `4N` (ConjugateInvariant), CKKS slots `N/2` or `N`. -/
theorem derived_defs (a : Accepted) :
    a.maxLevel = (a.q.length : Int) - 1 ∧ a.maxLevelP = (a.p.length : Int) - 1 ∧ a.n = 2 ^ a.logN ∧
    (a.ringType = 0 → a.nthRoot = 2 * a.n ∧ a.ckksMaxSlots = a.n / 2 ∧ a.ckksLogMaxSlots = a.logN - 1) ∧
    (a.ringType = 1 → a.nthRoot = 4 * a.n ∧ a.ckksMaxSlots = a.n ∧ a.ckksLogMaxSlots = a.logN) := by
  refine ⟨rfl, rfl, rfl, ?_, ?_⟩
  · intro h; simp [Accepted.nthRoot, Accepted.ckksMaxSlots, Accepted.ckksLogMaxSlots, h]
  · intro h; simp [Accepted.nthRoot, Accepted.ckksMaxSlots, Accepted.ckksLogMaxSlots, h]

/-- for an accepted literal `NthRoot` is the power of two `2^(LogN+1+ringType)` and
    `LogNthRoot()` is its exponent -/
theorem accepted_logNthRoot (o : Oracle) (fuel : Nat) (lit : Literal) (a : Accepted)
    (h : newParametersFromLiteral o fuel lit = .ok a) :
    a.nthRoot = 2 ^ (a.logN + 1 + a.ringType) ∧ a.logNthRoot = a.logN + 1 + a.ringType := by
  obtain ⟨q, p, h'⟩ := newParametersFromLiteral_ok h
  obtain ⟨r, -, -, rfl⟩ := newParameters_ok_iff.mp h'
  have hn := nthRoot_pow ⟨lit.logN.toNat, q, p, lit.ringType⟩ r.rt_ok
  exact ⟨hn, by rw [Accepted.logNthRoot, hn, len64_two_pow_sub_one]⟩

/-! ## the two shipped defaults that cannot be instantiated -/

/-- known findings `C19-exported-not-instantiable:bootstrapping.N15QP768H192H32` and
    `…N15QP880H16384H32` as statements about the model: the residual chains of these two shipped default sets (members
    of `exportedSets`, i.e. what the real constructor generates for `SchemeParams`, logN = 15) fail the root-order check
    of `bootstrapping.NewParametersFromLiteral` when the bootstrapping literal leaves `LogN` at its default 16
    (`NthRoot = 2^17`): the first offending primes are `Q[0]` and `Q[3]`, as the real error messages say.
    With `LogN = 15` the check passes — but then the sets are above the table (`exported_above_table`). -/
theorem n15_defaults_not_instantiable :
    (∃ s ∈ exportedSets, s.logN = 15 ∧ s.q = [8589475841, 1125899908022273, 33292289] ∧
      btpResidualCheck 15 0 16 s.q = some 0 ∧ btpResidualCheck 15 0 15 s.q = none) ∧
    (∃ s ∈ exportedSets, s.logN = 15 ∧ s.q = [1099512938497, 2147352577, 2146959361, 2148728833, 2148794369] ∧
      btpResidualCheck 15 0 16 s.q = some 3 ∧ btpResidualCheck 15 0 15 s.q = none) := by
  decide +kernel

/-! ### overflow margins -/

/-- for a non-empty list of odd moduli above 1 (every accepted chain), the margin
    is `floor(2^64 / max)`: `margin · q < 2^64` for EVERY modulus `q` of the list (not only the one of
    the working level), and it is the largest such number for the largest modulus. -/
theorem overflowMargin_sound (l : List Nat) (hne : l ≠ []) (hodd : ∀ q ∈ l, q % 2 = 1)
    (hgt : ∀ q ∈ l, 1 < q) :
    overflowMargin l = 2 ^ 64 / maxList l ∧ (∀ q ∈ l, overflowMargin l * q < 2 ^ 64) ∧
    2 ^ 64 < (overflowMargin l + 1) * maxList l := by
  have hm := maxList_mem (fun x hx => by have := hgt x hx; omega) hne
  have hpos : 0 < maxList l := by have := hgt _ hm; omega
  have hlt := Nat.mod_lt W hpos
  have hdm : W / maxList l * maxList l + W % maxList l = W := Nat.div_add_mod' W (maxList l)
  have hnd := Proofs.GenParams.odd_not_dvd_W (hodd _ hm) (hgt _ hm)
  unfold overflowMargin
  rw [Proofs.GenParams.pred_div_odd _ (hodd _ hm) (hgt _ hm), ← W_eq]
  refine ⟨rfl, fun q hq => ?_, ?_⟩
  · have := Nat.mul_le_mul_left (W / maxList l) (maxList_ge hq)
    omega
  · rw [Nat.add_mul, Nat.one_mul]
    omega

/-- for an accepted literal and a level of the chain, `QiOverflowMargin(level)`
    times any prime of `Q[:level+1]` stays below `2^64` (this is what makes the lazy accumulators of the
    gadget product safe), and it is `floor(2^64 / max Q[:level+1])`. Same for `PiOverflowMargin`. -/
theorem qiOverflowMargin_sound (o : Oracle) (ho : PrimeSound o) (fuel : Nat) (lit : Literal)
    (a : Accepted) (h : newParametersFromLiteral o fuel lit = .ok a) (level : Nat) :
    (∃ m : Nat, a.qiOverflowMargin level = (m : Int) ∧ m = 2 ^ 64 / maxList (a.q.take (level + 1)) ∧
      ∀ q ∈ a.q.take (level + 1), m * q < 2 ^ 64) ∧
    (a.p ≠ [] → ∃ m : Nat, a.piOverflowMargin level = (m : Int) ∧
      m = 2 ^ 64 / maxList (a.p.take (level + 1)) ∧ ∀ q ∈ a.p.take (level + 1), m * q < 2 ^ 64) := by
  obtain ⟨_, _, _, hq, _, hall⟩ := accepted_sound o ho fuel lit a h
  have hnth := (accepted_logNthRoot o fuel lit a h).1
  have hodd : ∀ m ∈ a.q ++ a.p, m % 2 = 1 ∧ 1 < m := by
    intro m hm
    obtain ⟨hp, hmod, _⟩ := hall m hm
    have h2 : 2 ∣ a.nthRoot := by
      rw [hnth]; exact Dvd.intro_left (2 ^ (a.logN + a.ringType)) (by rw [← Nat.pow_succ]; congr 1; omega)
    have : m % 2 = (m % a.nthRoot) % 2 := (Nat.mod_mod_of_dvd m h2).symm
    rw [hmod] at this
    exact ⟨this, hp.one_lt⟩
  -- the same argument for `Q` and for `P`
  have half : ∀ l : List Nat, l ≠ [] → (∀ m ∈ l, m ∈ a.q ++ a.p) →
      l.isEmpty = false ∧ overflowMargin (l.take (level + 1)) = 2 ^ 64 / maxList (l.take (level + 1)) ∧
      ∀ q ∈ l.take (level + 1), overflowMargin (l.take (level + 1)) * q < 2 ^ 64 := by
    intro l hl hsub
    obtain ⟨x, xs, rfl⟩ := List.exists_cons_of_ne_nil hl
    have hs := overflowMargin_sound ((x :: xs).take (level + 1)) (by simp)
      (fun q hq' => (hodd q (hsub q (List.mem_of_mem_take hq'))).1)
      (fun q hq' => (hodd q (hsub q (List.mem_of_mem_take hq'))).2)
    exact ⟨rfl, hs.1, hs.2.1⟩
  constructor
  · obtain ⟨he, h1, h2⟩ := half a.q hq (fun m hm => List.mem_append_left _ hm)
    exact ⟨_, by rw [Accepted.qiOverflowMargin, he]; rfl, h1, h2⟩
  · intro hp
    obtain ⟨he, h1, h2⟩ := half a.p hp (fun m hm => List.mem_append_right _ hm)
    exact ⟨_, by simp [Accepted.piOverflowMargin, he], h1, h2⟩

/-- the margin is governed by the LARGEST prime up to the level, not by the prime of the level:
    for Q = (2^60-ish, 45 bits, 45 bits) it is 16 at every level (a test on a concrete chain) -/
example : let a : Accepted := { logN := 6, q := [1152921504606844417, 35184372088961, 35184372088321], p := [], ringType := 0 }
    (a.qiOverflowMargin 0, a.qiOverflowMargin 1, a.qiOverflowMargin 2) = (16, 16, 16) ∧
    2 ^ 64 / 35184372088321 = 524288 := by decide +kernel

/-- `BaseRNSDecompositionVectorSize(levelQ, levelP) = ⌈(levelQ+1)/(levelP+1)⌉` for `levelP ≥ 0`:
    the least `d` with `d·(levelP+1) ≥ levelQ+1` -/
theorem baseRNS_def (levelQ : Nat) (levelP : Nat) :
    let d := baseRNSDecompositionVectorSize levelQ (levelP : Int)
    levelQ + 1 ≤ d * (levelP + 1) ∧ (d - 1) * (levelP + 1) < levelQ + 1 := by
  have hne : ((levelP : Int) = -1) = False := by
    simp only [eq_iff_iff, iff_false]; omega
  simp only [baseRNSDecompositionVectorSize, hne, if_false, Int.toNat_natCast]
  rw [show levelQ + levelP + 1 = (levelQ + 1) + (levelP + 1) - 1 by omega]
  exact Proofs.GenParams.ceilDiv_spec (Nat.succ_pos levelQ) (Nat.succ_pos levelP)

/-- the digit count of `BaseTwoDecompositionVectorSize` covers every residue:
    `q < 2^(w·digits)` for every prime, whenever the power-of-two decomposition is active -/
theorem baseTwo_def (a : Accepted) (levelP : Int) (w : Nat) (hw : 0 < w) (hp : levelP ≤ 0) :
    List.Forall₂ (fun q d => q < 2 ^ (w * d) ∧ (d - 1) * w < len64 q ∨ q = 0)
      a.q (a.baseTwoDecompositionVectorSize levelP w) := by
  unfold Accepted.baseTwoDecompositionVectorSize
  have h1 : (w = 0) = False := by simp; omega
  have h2 : (levelP > 0) = False := by simp; omega
  simp only [h1, h2, decide_false, Bool.or_self, Bool.false_eq_true, if_false]
  rw [List.forall₂_map_right_iff, List.forall₂_same]
  intro q _
  by_cases hq : q = 0
  · exact Or.inr hq
  · have hl : 0 < len64 q := by unfold len64; rw [if_neg hq]; omega
    obtain ⟨h3, h4⟩ := Proofs.GenParams.ceilDiv_spec hl hw
    exact Or.inl ⟨(len64_le_iff q _).mp (by rwa [Nat.mul_comm]), h4⟩

end Lattigo.Params

#print axioms Lattigo.Params.accepted_sound
#print axioms Lattigo.Params.decision_table
#print axioms Lattigo.Params.literal_decision_table
#print axioms Lattigo.Params.ring_decision_table
#print axioms Lattigo.Params.ckks_decision_table
#print axioms Lattigo.Params.bgv_decision_table
#print axioms Lattigo.Params.n15_defaults_not_instantiable
#print axioms Lattigo.Params.never_panics
#print axioms Lattigo.Params.rejected_no_panic
#print axioms Lattigo.Params.rejected_no_panic_explicit
#print axioms Lattigo.Params.bgv_accepted
#print axioms Lattigo.Params.genModuli_spec
#print axioms Lattigo.Params.genModuli_total
#print axioms Lattigo.Params.exported_within_table
#print axioms Lattigo.Params.exported_above_table
#print axioms Lattigo.Params.galoisElement_def
#print axioms Lattigo.Params.modInvGaloisElement_def
#print axioms Lattigo.Params.overflowMargin_sound
#print axioms Lattigo.Params.qiOverflowMargin_sound
#print axioms Lattigo.Params.baseRNS_def
#print axioms Lattigo.Params.baseTwo_def
#print axioms Lattigo.Params.derived_defs
#print axioms Lattigo.Params.accepted_logNthRoot
