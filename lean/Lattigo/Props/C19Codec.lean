/-
  Property C19, clause "a parameter object survives its JSON and binary encodings as an equal object".

  `MarshalBinary` of every parameter struct is its JSON text (rlwe adds a length prefix), so a codec is determined by
  its list of JSON fields, their `omitempty` tags, and what the decoder does with an absent field.  The model
  (`Lattigo.Model.Params`: `Key`, `JV`, `encode…`/`decode…`) has exactly that: an object is the ordered list of the
  fields the real encoder writes — tied on every run by the `codec_keys` lines, which compare the key lists
  (top level, inside `Xs`/`Xe`/`IterationsParameters`, and which values are `null`) with `json.Marshal` of the real
  structs — and the decoders follow the hand-written `UnmarshalJSON`s / Go's default (absent or `null` ⇒ zero value).

  Proved for all values of all fields, optional / pointer / defaulted ones included:
    `dist_roundtrip`      ring.DistributionParameters: every Gaussian (zero fields too, fix C19-12), Uniform, Ternary
                          with exactly one of P, H set; `dist_roundtrip_fails`: the other Ternaries are refused
    `rlweLit_roundtrip`   rlwe.ParametersLiteral, all 11 fields incl. LogNthRoot (fix C19-8); up to `normalize`
                          (an empty slice comes back nil: `omitempty` cannot express the difference)
    `btp_roundtrip`       bootstrapping.Parameters, exactly: EphemeralSecretWeight = 0, IterationsParameters = nil,
                          CircuitOrder = 0 come back as they were (an encoder with "omitempty + default 32" would
                          falsify the `codec_keys` tie, not this theorem: the theorem is about the model)
    `btpLit_roundtrip`    bootstrapping.ParametersLiteral, exactly: nil pointer ⇄ null, pointer to 0 ⇄ 0, Xs/Xe through
                          ParametersFromMap (fix C19-9)
    `params_revalidate`   Parameters objects: UnmarshalJSON = literal codec followed by the constructor; the literal of an
                          accepted object is accepted again and gives the same object
    `scaleInt_roundtrip`  the `DefaultScale` text for integer scales < 2^128 and moduli < 2^64 (decimal text exact, tied by the
                          `scale_json` lines; decoder mantissas 128 / 64 bits); `scale_mod_needs_64_bits`: a binary64 decoder
                          rounds the modulus 2^53+1 to 2^53
  Outside the model (round-trip PROBES on the real code only): non-integer scales, the text of a nested `ckks.Parameters`,
  `dft.MatrixLiteral`, `mod1.ParametersLiteral` (opaque `blob`s here), float ⇄ text exactness, ckks/bgv literals.
-/
import Lattigo.Proofs.ParamsCodec

namespace Lattigo.Params
open Lattigo

/-- `ParametersFromMap(MarshalJSON(d)) = d` for every Gaussian, Uniform, and a Ternary with
    exactly one of `P`, `H` non-zero. -/
theorem dist_roundtrip (d : Dist) (h : d.codecOK = true) : decodeDist (encodeDist d) = .ok d := by
  rw [decode_encodeDist, if_pos h]

/-- a Ternary with `P = H = 0` or with both set is refused by the decoder (and, since fix
    C19-13, "both set" is refused by `NewParameters`; `P = H = 0` is the zero-weight warning). -/
theorem dist_roundtrip_fails (d : Dist) (h : d.codecOK = false) : ∃ e, decodeDist (encodeDist d) = .error e := by
  rw [decode_encodeDist, h]
  exact ⟨_, rfl⟩

example : (Dist.gaussian 5 0).codecOK = true ∧ (Dist.ternary 0 8).codecOK = true ∧ (Dist.ternary 1 3).codecOK = false := by
  decide

/-- `UnmarshalJSON(Marshal(l)) = normalize l` for `rlwe.ParametersLiteral`, every field incl.
    `LogNthRoot` (fix C19-8), up to what `omitempty` cannot express: an empty slice comes back as nil
    (`normalize`). Hypotheses: a valid ring type, distributions that survive their own codec. -/
theorem rlweLit_roundtrip (l : RlweLit) (hrt : l.ringType ≤ 1)
    (hxs : ∀ d, l.xs = some d → d.codecOK = true) (hxe : ∀ d, l.xe = some d → d.codecOK = true) :
    decodeRlweLit (encodeRlweLit l) = .ok l.normalize := by
  have get {i b k v} h := fieldsObj_get (rlweFields_keys l) (i := i) (b := b) (k := k) (v := v) h
  -- the decoder reads `Xs` (field 7) before `Xe` (field 6)
  rw [encodeRlweLit_eq, decodeRlweLit, getNum_enc (n := l.logN) (get (i := 0) rfl),
    getNum_omit (get (i := 1) rfl), getUNums_omit (get (i := 2) rfl), getUNums_omit (get (i := 3) rfl),
    getNums_omit (get (i := 4) rfl), getNums_omit (get (i := 5) rfl), decodeOptDist_omit hxs (get (i := 7) rfl),
    decodeOptDist_omit hxe (get (i := 6) rfl), get (i := 8) rfl, get (i := 9) rfl, get (i := 10) rfl]
  obtain ⟨logN, root, q, p, logQ, logP, xe, xs, rt, sc, ntt⟩ := l
  obtain rfl | rfl : rt = 0 ∨ rt = 1 := by simp only at hrt; omega
  all_goals cases ntt <;> rfl

/-- a literal without empty slices is a fixed point of `normalize`: the round trip is then exact -/
theorem rlweLit_roundtrip_exact (l : RlweLit) (hrt : l.ringType ≤ 1)
    (hxs : ∀ d, l.xs = some d → d.codecOK = true) (hxe : ∀ d, l.xe = some d → d.codecOK = true)
    (hq : l.q ≠ some []) (hp : l.p ≠ some []) (hlq : l.logQ ≠ some []) (hlp : l.logP ≠ some []) :
    decodeRlweLit (encodeRlweLit l) = .ok l := by
  rw [rlweLit_roundtrip l hrt hxs hxe]
  have n : ∀ {α} (x : Option (List α)), x ≠ some [] → normSlice x = x := by
    intro α x hx
    cases x with
    | none => rfl
    | some v => cases v with
      | nil => exact absurd rfl hx
      | cons _ _ => rfl
  cases l with
  | mk a b q p lq lp xe xs rt sc ntt =>
    simp only [RlweLit.normalize] at *
    rw [n q hq, n p hp, n lq hlq, n lp hlp]

example : decodeRlweLit (encodeRlweLit ⟨6, 9, some [], none, some [40, 30], some [41], some (.gaussian 5 0),
      some (.ternary 0 8), 1, 3, true⟩)
    = .ok ⟨6, 9, none, none, some [40, 30], some [41], some (.gaussian 5 0), some (.ternary 0 8), 1, 3, true⟩ := by
  rfl

/-- `UnmarshalJSON(MarshalJSON(p)) = p` for `bootstrapping.Parameters`, exactly. -/
theorem btp_roundtrip (p : BtpParams) : decodeBtp (encodeBtp p) = .ok p := by
  have hi : decodeIter ((encodeBtp p).get .IterationsParameters) = .ok p.iterations := iter_roundtrip _
  unfold decodeBtp
  rw [hi]
  rfl

example : decodeBtp (encodeBtp ⟨1, 2, 3, 4, 5, none, 0, 0⟩) = .ok ⟨1, 2, 3, 4, 5, none, 0, 0⟩ ∧
    decodeBtp (encodeBtp ⟨1, 2, 3, 4, 5, some ⟨some [], 0⟩, 32, 2⟩) = .ok ⟨1, 2, 3, 4, 5, some ⟨some [], 0⟩, 32, 2⟩ := by
  constructor <;> rfl

/-- `UnmarshalJSON(Marshal(l)) = l` for `bootstrapping.ParametersLiteral`, exactly. -/
theorem btpLit_roundtrip (l : BtpLit)
    (hxs : ∀ d, l.xs = some d → d.codecOK = true) (hxe : ∀ d, l.xe = some d → d.codecOK = true) :
    decodeBtpLit (encodeBtpLit l) = .ok l := by
  have hxs' : decodeOptDist ((encodeBtpLit l).get .Xs) = .ok l.xs := decodeOptDist_enc _ hxs
  have hxe' : decodeOptDist ((encodeBtpLit l).get .Xe) = .ok l.xe := decodeOptDist_enc _ hxe
  have hit : decodeIter ((encodeBtpLit l).get .IterationsParameters) = .ok l.iterations := iter_roundtrip _
  rw [decodeBtpLit, decPtr_enc (x := l.logN) rfl, getNums_enc (x := l.logP) rfl, hxs', hxe',
    decPtr_enc (x := l.logSlots) rfl, getNumss_enc (x := l.c2s) rfl, getNumss_enc (x := l.s2c) rfl,
    decPtr_enc (x := l.evalModLogScale) rfl, decPtr_enc (x := l.ephemeralSecretWeight) rfl, hit,
    decPtr_enc (x := l.logMessageRatio) rfl, decPtr_enc (x := l.k) rfl, decPtr_enc (x := l.mod1Degree) rfl,
    decPtr_enc (x := l.doubleAngle) rfl, decPtr_enc (x := l.mod1InvDegree) rfl]
  rfl

example : decodeBtpLit (encodeBtpLit ⟨some 0, some [], some (.ternary 0 192), none, none, some [[56], [56, 56]], none,
      some 0, some 0, some ⟨none, 28⟩, 2, none, some 16, none, some 0, none⟩)
    = .ok ⟨some 0, some [], some (.ternary 0 192), none, none, some [[56], [56, 56]], none,
      some 0, some 0, some ⟨none, 28⟩, 2, none, some 16, none, some 0, none⟩ := by
  rfl

/-! ### rlwe.Scale inside the parameter encodings (integer values and moduli) -/

/-- `Scale.UnmarshalJSON(Scale.MarshalJSON(s)) = s` for an integer scale below `2^128` with no
    modulus or a non-zero modulus below `2^64` (every plaintext modulus): the text holds all digits, the decoder's
    mantissas (128 bits for `Value`, 64 for `Mod`) hold all bits. This is the `DefaultScale` field of the encodings of
    rlwe / bgv `Parameters`. -/
theorem scaleInt_roundtrip (s : ScaleInt) (hv : s.value < 2 ^ 128)
    (hm : ∀ m, s.mod = some m → 0 < m ∧ m < 2 ^ 64) :
    decodeScaleInt 128 64 (encodeScaleInt s) = s := by
  cases s with
  | mk v m =>
    simp only at hv hm
    unfold decodeScaleInt encodeScaleInt
    simp only [roundMant_id 128 v hv]
    cases m with
    | none => simp [roundMant_id 64 0 (by decide)]
    | some x =>
      obtain ⟨h0, h1⟩ := hm x rfl
      have hx : roundMant 64 x = x := roundMant_id 64 x h1
      have hne : x ≠ 0 := by omega
      simp [hx, hne]

example : decodeScaleInt 128 64 (encodeScaleInt ⟨2 ^ 120 + 1, some (2 ^ 64 - 59)⟩) = ⟨2 ^ 120 + 1, some (2 ^ 64 - 59)⟩ := by
  decide +kernel

/-- the mantissa width of the `Mod` decoder matters: a decoder that goes through a binary64
    (53 bits: `strconv.ParseFloat(·, 64)`) turns the modulus `2^53 + 1` into `2^53` and `2^61 − 1`
    into `2^61`, while `Value` and everything `Equal` looked at is unchanged. -/
theorem scale_mod_needs_64_bits :
    decodeScaleInt 128 53 (encodeScaleInt ⟨1, some (2 ^ 53 + 1)⟩) = ⟨1, some (2 ^ 53)⟩ ∧
    decodeScaleInt 128 53 (encodeScaleInt ⟨1, some (2 ^ 61 - 1)⟩) = ⟨1, some (2 ^ 61)⟩ ∧
    decodeScaleInt 128 53 (encodeScaleInt ⟨1, some 65537⟩) = ⟨1, some 65537⟩ := by
  decide +kernel

/-- decoding a `Parameters` object re-runs the constructor on its literal: for an accepted
    object that literal is accepted again, by every oracle and with any fuel, and yields the same object. -/
theorem params_revalidate (o : Oracle) (fuel fuel' : Nat) (lit : Literal) (a : Accepted)
    (h : newParametersFromLiteral o fuel lit = .ok a) :
    newParametersFromLiteral o fuel' a.literal = .ok a := by
  obtain ⟨q, p, h'⟩ := newParametersFromLiteral_ok h
  obtain ⟨hreq, -, -, rfl⟩ := newParameters_ok_iff.mp h'
  have hl : ((lit.logN.toNat : Nat) : Int) = lit.logN :=
    Int.toNat_of_nonneg (by have := hreq.logN_ge; unfold MinLogN at this; omega)
  have hc := newParameters_complete hreq
  unfold newParametersFromLiteral Accepted.literal
  simp only [Option.isNone_some, Option.isSome_some, Option.isNone_none, Option.isSome_none, Bool.false_and,
    Bool.and_false, Bool.or_self, Bool.false_eq_true, if_false]
  simpa [hl] using hc

example : newParametersFromLiteral exactOracle 1000 { logN := 5, logQ := some [20, 21] }
      = .ok { logN := 5, q := [1048897, 2096449], p := [], ringType := 0 } ∧
    newParametersFromLiteral exactOracle 0 (Accepted.literal { logN := 5, q := [1048897, 2096449], p := [], ringType := 0 })
      = .ok { logN := 5, q := [1048897, 2096449], p := [], ringType := 0 } := by
  constructor <;> decide +kernel

end Lattigo.Params

#print axioms Lattigo.Params.dist_roundtrip
#print axioms Lattigo.Params.dist_roundtrip_fails
#print axioms Lattigo.Params.rlweLit_roundtrip
#print axioms Lattigo.Params.rlweLit_roundtrip_exact
#print axioms Lattigo.Params.btp_roundtrip
#print axioms Lattigo.Params.btpLit_roundtrip
#print axioms Lattigo.Params.scaleInt_roundtrip
#print axioms Lattigo.Params.scale_mod_needs_64_bits
#print axioms Lattigo.Params.params_revalidate
