/-
  Property C19 ("derived quantities agree with their definitions") — the REGENERATED tie for the
  derived quantities of `core/rlwe/params.go`.

  `Lattigo/Gen/Params.lean` is printed by `tools/go2lean` from the Go source on every
  `./check`:  `QCount PCount MaxLevelQ MaxLevelP MaxLevel Q P MaxBit BaseTwoDecompositionVectorSize
  BaseRNSDecompositionVectorSize QiOverflowMargin PiOverflowMargin` (+ `utils.Max` at `int`), with the
  receiver fields `p.qi`, `p.pi` as explicit list parameters, Go `int`s as two's-complement words,
  `for _, q := range xs[:k+1]` as `List.foldl` over `xs.take (k+1)`, `for i := range xs { xs[i] = e }`
  as a `List.range … map`, `/` on `int` as exact truncated division (`i64div`), and
  `/` on `uint64` as `u64div`, `math.MaxUint64` as its value.
  The driver op `C19 pgen …` (and `C12 margin`) executes these definitions.

  The margins divide in `uint64` (fix c11167e, `fixes/C19-7-overflow-margin-float.diff`), so `margin_floor_gen` holds
  at full strength. The float formula `int(math.Exp2(64) / float64(max))` returns, in exact binary64 semantics,
  `floor + 1` for moduli just above `2^64/k` (e.g. `16` for the NTT-friendly 61-bit prime `2^60 + 33`,
  `16·q = 2^64 + 528`): `float_margin_not_floor` below proves it about the printer's float primitives, which are kept
  so that code using the float formula is printed (and breaks `qiOverflowMargin_gen`) rather than refused.
-/
import Lattigo.Proofs.GenParams
import Lattigo.Model.Params
import Mathlib.Data.Nat.Prime.Basic

namespace Lattigo.Props.C19Gen
open Lattigo Lattigo.Gen.Params Lattigo.Proofs.GenParams

/-! ## levels -/

/-- `MaxLevelQ() = len(Q) - 1`, `MaxLevelP() = len(P) - 1`, `MaxLevel() = MaxLevelQ()`, as Go `int`s
    (`-1` for an empty chain), for the regenerated functions. -/
theorem levels_gen (qs ps : List Nat) (hq : qs.length < 2 ^ 63) (hp : ps.length < 2 ^ 63) :
    i64toInt (MaxLevelQ qs) = (qs.length : Int) - 1
    ∧ i64toInt (MaxLevelP ps) = (ps.length : Int) - 1
    ∧ MaxLevel qs = MaxLevelQ qs :=
  ⟨MaxLevelQ_eq qs hq, MaxLevelQ_eq ps hp, rfl⟩

example : i64toInt (MaxLevelQ [97, 193]) = 1 ∧ i64toInt (MaxLevelP []) = -1 := by decide

/-! ## digit counts -/

/-- `BaseRNSDecompositionVectorSize(levelQ, levelP)`, regenerated, is `⌈(levelQ+1)/(levelP+1)⌉`
    (`nP = levelP + 1 ≥ 1`), and `levelQ + 1` for `levelP = -1`. -/
theorem baseRNS_gen (levelQ nP : Nat) (hq : levelQ < 2 ^ 62) (hp : nP < 2 ^ 62) :
    BaseRNSDecompositionVectorSize levelQ (i64ofInt ((nP : Int) - 1))
      = if nP = 0 then levelQ + 1 else (levelQ + nP) / nP :=
  BaseRNS_eq levelQ nP hq hp

theorem baseRNS_ceil_gen (levelQ nP : Nat) (hq : levelQ < 2 ^ 62) (hp : nP < 2 ^ 62) (h0 : 0 < nP) :
    let d := BaseRNSDecompositionVectorSize levelQ (i64ofInt ((nP : Int) - 1))
    (levelQ + 1) ≤ d * nP ∧ d * nP < (levelQ + 1) + nP := by
  intro d
  have hd : d = (levelQ + 1 + nP - 1) / nP := by
    show BaseRNSDecompositionVectorSize _ _ = _
    rw [BaseRNS_eq levelQ nP hq hp, KS.baseRNSDecompositionVectorSize, if_neg (by omega), Nat.add_right_comm,
      Nat.add_sub_cancel]
  rw [hd]
  exact ceilDiv_bounds (levelQ + 1) h0

example : BaseRNSDecompositionVectorSize 6 (i64ofInt 2) = 3 ∧ BaseRNSDecompositionVectorSize 6 (i64ofInt (-1)) = 7 := by
  decide

/-- `BaseTwoDecompositionVectorSize(levelQ, levelP, w)`, regenerated: one entry per prime of the full
    chain, `⌈bitlen(q)/w⌉`, all ones for `w = 0` or `levelP > 0`. -/
theorem baseTwo_gen (qs : List Nat) (levelQ nP w : Nat) (hp : nP < 2 ^ 62) (hw : w < 2 ^ 62)
    (hqs : ∀ q ∈ qs, q < W) :
    BaseTwoDecompositionVectorSize qs levelQ (i64ofInt ((nP : Int) - 1)) w
      = if w = 0 ∨ nP ≥ 2 then qs.map fun _ => 1 else qs.map fun q => (KS.bitLen q + w - 1) / w :=
  BaseTwo_eq qs levelQ nP w hp hw hqs

/-- the digits cover the prime: `w·d ≥ bitlen(q) > w·(d-1)`. -/
theorem baseTwo_cover_gen (q w : Nat) (hw : 0 < w) :
    let d := (KS.bitLen q + w - 1) / w
    KS.bitLen q ≤ w * d ∧ w * d < KS.bitLen q + w := by
  intro d
  rw [Nat.mul_comm]
  exact ceilDiv_bounds _ hw

example : BaseTwoDecompositionVectorSize [65537, 1152921504606847009] 1 (i64ofInt 0) 10 = [2, 7] := by decide

/-! ## `MaxBit` (range-fold loops) -/

/-- `MaxBit(levelQ, levelP)`, regenerated, is the largest bit length among `Q[:levelQ+1]` and (if there
    is a `P`) `P[:levelP+1]`. -/
theorem maxBit_gen (qs ps : List Nat) (lq lp : Nat) (hlq : lq < 2 ^ 62) (hlp : lp < 2 ^ 62)
    (hqs : ∀ q ∈ qs, q < W) (hps : ∀ q ∈ ps, q < W) :
    MaxBit qs ps lq lp
      = if ps.length ≠ 0 then maxBitLen (maxBitLen 0 (qs.take (lq + 1))) (ps.take (lp + 1))
        else maxBitLen 0 (qs.take (lq + 1)) := by
  unfold MaxBit
  simp only [Q, P, PCount_eq, sliceTake, u64add_eq lq 1 (by unfold W; omega),
    u64add_eq lp 1 (by unfold W; omega)]
  have hq' : ∀ q ∈ qs.take (lq + 1), q < W := fun q h => hqs q (List.mem_of_mem_take h)
  have hp' : ∀ q ∈ ps.take (lp + 1), q < W := fun q h => hps q (List.mem_of_mem_take h)
  rw [fold_Max_int _ hq' 0 (by omega)]
  by_cases h0 : ps.length = 0
  · simp [h0]
  · have hle := maxBitLen_le _ hq' 0 (by omega)
    simp only [decide_eq_true_eq, ne_eq, h0, not_false_eq_true, if_true]
    rw [fold_Max_int _ hp' _ hle]

example : MaxBit [65537, 1152921504606847009] [97] 0 0 = 17 ∧ MaxBit [65537, 1152921504606847009] [] 1 0 = 61 := by
  decide

/-! ## overflow margins -/

/-- **`QiOverflowMargin(level)`, regenerated**: `-1` (word `2^64 - 1`) for an empty chain, else the
    `uint64` quotient `(2^64 - 1) / max(Q[:level+1])`.  The maximum is over `Q[:level+1]` — a regression
    to `Q[level]`, or back to the float formula, changes the generated term and breaks this obligation. -/
theorem qiOverflowMargin_gen (qs : List Nat) (level : Nat) (hl : level < 2 ^ 62) :
    QiOverflowMargin qs level
      = if qs = [] then W - 1 else (W - 1) / (qs.take (level + 1)).foldl max 0 :=
  QiOverflowMargin_eq qs level hl

/-- **`PiOverflowMargin(level)`, regenerated**; `-1` also for `level = -1`. -/
theorem piOverflowMargin_gen (ps : List Nat) (level : Nat) (hl : level < 2 ^ 62) :
    (PiOverflowMargin ps level
      = if ps = [] then W - 1 else (W - 1) / (ps.take (level + 1)).foldl max 0)
    ∧ PiOverflowMargin ps (i64ofInt (-1)) = W - 1 := by
  refine ⟨PiOverflowMargin_eq ps level hl, ?_⟩
  rw [i64ofInt_neg_one]
  unfold PiOverflowMargin
  have : i64lt (W - 1) 0 = true := by decide
  simp only [this, Bool.or_true, if_true]
  decide

/-- **it is the floor** (the Go doc comment): for a non-empty chain and `M = max(Q[:level+1]) ≥ 1`,
    `margin·M ≤ 2^64 - 1 < (margin+1)·M`: `margin` values below `M`… sum to less than `2^64`. -/
theorem margin_floor_gen (qs : List Nat) (level : Nat) (hl : level < 2 ^ 62) (hne : qs ≠ [])
    (hM : 0 < (qs.take (level + 1)).foldl max 0) :
    QiOverflowMargin qs level * (qs.take (level + 1)).foldl max 0 ≤ W - 1
    ∧ W - 1 < (QiOverflowMargin qs level + 1) * (qs.take (level + 1)).foldl max 0 := by
  rw [QiOverflowMargin_eq qs level hl, if_neg hne, Nat.mul_comm (_ + 1)]
  exact ⟨Nat.div_mul_le_self _ _, Nat.lt_mul_div_succ _ hM⟩

example := margin_floor_gen [1152921504606847009, 35184372088673] 1 (by norm_num) (by simp) (by decide)

/-- … and `floor(2^64 / M)` itself for every odd `M > 1` (every prime modulus). -/
theorem margin_floor_pow64_gen (qs : List Nat) (level : Nat) (hl : level < 2 ^ 62) (hne : qs ≠ [])
    (hodd : ((qs.take (level + 1)).foldl max 0) % 2 = 1) (hM1 : 1 < (qs.take (level + 1)).foldl max 0) :
    QiOverflowMargin qs level = W / (qs.take (level + 1)).foldl max 0 := by
  rw [QiOverflowMargin_eq qs level hl, if_neg hne, pred_div_odd _ hodd hM1]

/-- the prime that the float formula got wrong (test by evaluation): `2^60 + 33 ↦ 15`. -/
example : QiOverflowMargin [1152921504606847009] 0 = 15 := by decide +kernel

/-- the level matters through the MAXIMUM of the prefix, not through the prime at that level
    (chain shape "large `Q[0]`, smaller rescaling primes"): test by evaluation. -/
example : QiOverflowMargin [1152921504606846577, 35184372088673] 1 = 16
    ∧ W / 35184372088673 = 524288 := by decide +kernel

/-! ## the hand-written model of `Props/C19.lean` (`Model/Params.lean`) is the regenerated code -/

/-- `Lattigo.Params.overflowMargin` (about which `overflowMargin_sound`, `qiOverflowMargin_sound` of
    `Props/C19.lean` are stated) is the regenerated `QiOverflowMargin` / `PiOverflowMargin`. -/
theorem overflowMargin_model_gen (qs : List Nat) (level : Nat) (hl : level < 2 ^ 62) (hne : qs ≠ []) :
    QiOverflowMargin qs level = Lattigo.Params.overflowMargin (qs.take (level + 1))
    ∧ PiOverflowMargin qs level = Lattigo.Params.overflowMargin (qs.take (level + 1)) := by
  rw [QiOverflowMargin_eq qs level hl, PiOverflowMargin_eq qs level hl, if_neg hne]
  exact ⟨rfl, rfl⟩

/-- `Lattigo.Params.baseRNSDecompositionVectorSize` is the regenerated one (`levelP = nP - 1 ≥ -1`). -/
theorem baseRNS_model_gen (levelQ nP : Nat) (hq : levelQ < 2 ^ 62) (hp : nP < 2 ^ 62) :
    BaseRNSDecompositionVectorSize levelQ (i64ofInt ((nP : Int) - 1))
      = Lattigo.Params.baseRNSDecompositionVectorSize levelQ ((nP : Int) - 1) := by
  rw [BaseRNS_eq levelQ nP hq hp]
  unfold KS.baseRNSDecompositionVectorSize Lattigo.Params.baseRNSDecompositionVectorSize
  by_cases h0 : nP = 0
  · subst h0; simp
  · have hne : ¬ ((nP : Int) - 1 = -1) := by omega
    have ht : ((nP : Int) - 1).toNat = nP - 1 := by omega
    rw [if_neg h0, if_neg hne, ht]
    congr 1 <;> omega

example : BaseRNSDecompositionVectorSize 6 (i64ofInt 2) = Lattigo.Params.baseRNSDecompositionVectorSize 6 2 :=
  baseRNS_model_gen 6 3 (by norm_num) (by norm_num)

/-! ## the float formula `int(math.Exp2(64) / float64(max))` -/

/-- float64 rounding of the modulus: exact below `2^53`, within half a unit in the last place above. -/
theorem f64ofU64_gen (n : Nat) :
    (n < 2 ^ 53 → f64ofU64 n = n)
    ∧ (2 ^ 53 ≤ n → 2 * f64ofU64 n ≤ 2 * n + 2 ^ (Nat.log2 n - 52) ∧ 2 * n ≤ 2 * f64ofU64 n + 2 ^ (Nat.log2 n - 52)) :=
  ⟨f64ofU64_exact n, f64ofU64_near n⟩

/-- what `int(math.Exp2(64) / float64(M))` is, for every modulus `2^12 ≤ M < 2^64`: the integer
    quotient of `2^64` by the ROUNDED modulus, or one more. -/
theorem float_margin_bounds (M : Nat) (h12 : 2 ^ 12 ≤ M) (hW : M < W) :
    W / f64ofU64 M ≤ f64quoToInt W (f64ofU64 M) ∧ f64quoToInt W (f64ofU64 M) ≤ W / f64ofU64 M + 1 := by
  have hf := f64ofU64_ge M h12 hW
  apply f64quoToInt_bounds W (f64ofU64 M) (by omega) (f64ofU64_le_W M hW)
  have : W / f64ofU64 M ≤ W / 2 ^ 12 := Nat.div_le_div_left hf (by norm_num)
  have h2 : W / 2 ^ 12 = 2 ^ 52 := by decide
  omega

example := float_margin_bounds 65537 (by norm_num) (by decide)

/-- **the float formula is not the floor**: for the NTT-friendly 61-bit prime `q = 2^60 + 33`
    (`≡ 1 mod 32`, accepted for `LogN = 4`) it gives `16`, but `floor(2^64 / q) = 15` and
    `16·q = 2^64 + 528` overflows (`float64(q)` rounds down to `2^60`). -/
theorem float_margin_not_floor :
    f64quoToInt W (f64ofU64 1152921504606847009) = 16
    ∧ W / 1152921504606847009 = 15
    ∧ 16 * 1152921504606847009 = W + 528
    ∧ f64ofU64 1152921504606847009 = 2 ^ 60 := by
  decide +kernel

end Lattigo.Props.C19Gen

section Axioms
open Lattigo.Props.C19Gen
#print axioms levels_gen
#print axioms baseRNS_gen
#print axioms baseRNS_ceil_gen
#print axioms baseTwo_gen
#print axioms baseTwo_cover_gen
#print axioms maxBit_gen
#print axioms qiOverflowMargin_gen
#print axioms piOverflowMargin_gen
#print axioms f64ofU64_gen
#print axioms margin_floor_gen
#print axioms margin_floor_pow64_gen
#print axioms overflowMargin_model_gen
#print axioms baseRNS_model_gen
#print axioms float_margin_bounds
#print axioms float_margin_not_floor
end Axioms
