/-
  Property C19, clause "moduli generated from bit-size requests are distinct primes of exactly the requested
  sizes congruent to 1 modulo the root order" — the NTT-friendly prime generator itself
  (`ring/primes.go`: `NewNTTFriendlyPrimesGenerator`, `NextUpstreamPrime(s)`, `NextDownstreamPrime(s)`,
  `NextAlternatingPrime(s)`), all three directions.  (`GenModuli`, which drives it, is in `Props/C19.lean`:
  `genModuli_spec`, `genModuli_total`.)

  Why this file is about the hand-written model `Lattigo.Params.genPrimes` and not about a
  regenerated `Gen/Primes.lean`: the functions do not fit the typed printer of `tools/go2lean` — the loop
  conditions are `math.Log2(float64(x)) - Size >= 0.5` (a transcendental float function), primality is
  `big.Int.ProbablyPrime`, the state is a struct mutated through a pointer receiver and carrying a
  `float64` field.  The model takes the two float comparisons and the primality test as an `Oracle`; the
  driver instantiates them with a bit-exact port of Go's `math.Log2` and a deterministic Miller–Rabin test
  and the tie lines `gen`, `overlap`, `isprime` compare them with the real code (≈ 2,000 lines per quick run).

  Proved here, for all inputs (sizes `S ≤ 61`, root orders `r ≥ 2` dividing `2^S`, any count, any fuel):
    * `genPrimes_spec`   a returned list has the requested length; every element is accepted by the primality
                         oracle (`Nat.Prime` for a sound oracle), is `1 mod r`, lies in the half-bit window
                         `2^(S-1/2) < p < 2^(S+1/2)` (exact arithmetic), and the elements are pairwise distinct
                         — hypothesis `StopSound` (the float tests are read exactly)
    * `genPrimes_order`  upstream primes come in strictly increasing order above `2^S`, downstream primes in
                         strictly decreasing order at most `2^S + 1 − r` — hypothesis `StopSound` (used for the
                         upstream half: without it the upstream candidate could wrap)
    * `genPrimes_total`  no direction panics (any oracle) and none fails to terminate — hypotheses
                         `StopComplete` (the float tests fire outside the window), `fuel ≥ 2^65`; the proof uses
                         `StopComplete` for the upstream direction only (`genPrimes_ne_hang`): the downstream loop
                         counts down to the root order, the alternating loop is bounded by its overflow guard
  Hypotheses `StopSound`/`StopComplete` (equivalent: `stopSound_iff_stopComplete`) are about the IEEE double
  evaluation of `math.Log2`; they are not discharged for `goOracle` (Lean's kernel cannot evaluate `Float`); they
  hold for `exactOracle`
  (`exactOracle_stopSound`, `exactOracle_stopComplete`), and the run-time probe `genmoduli_spec` checks the
  exact window on every generated modulus of the real generator.
-/
import Lattigo.Proofs.ParamsModuli
import Mathlib.Data.Nat.Prime.Basic

namespace Lattigo.Params
open Lattigo

/-- `Next{Upstream,Downstream,Alternating}Primes(k)` on a fresh generator
    (`dir = 0, 1, otherwise`): if the call returns primes then there are `k` of them, each one is prime,
    `≡ 1 mod r`, within half a bit of `2^S`, and they are pairwise distinct. -/
theorem genPrimes_spec (o : Oracle) (ho : ∀ n, o.isPrime n = true → Nat.Prime n) (hs : StopSound o)
    (fuel dir S r k : Nat) (hS : S ≤ 61) (hr : 2 ≤ r) (hd : r ∣ 2 ^ S) (ps : List Nat)
    (h : genPrimes o fuel dir S r k = .ok ps) :
    ps.length = k ∧ ps.Nodup ∧
    ∀ p ∈ ps, Nat.Prime p ∧ p % r = 1 ∧ 2 ^ (2 * S) < 2 * (p * p) ∧ p * p < 2 ^ (2 * S + 1) := by
  obtain ⟨a, b, c⟩ := genPrimes_ok o hs fuel dir S r k hS hr hd ps h
  exact ⟨a, c, fun p hp => ⟨ho p (b p hp).prime, (b p hp).res, (b p hp).lo, (b p hp).hi⟩⟩

/-- non-vacuity (tests on concrete calls; also what the order theorem says) -/
example : genPrimes exactOracle 1000 0 20 64 3 = .ok [1048897, 1049089, 1049281] ∧
    genPrimes exactOracle 1000 1 20 64 3 = .ok [1048193, 1048129, 1047041] := by
  constructor <;> decide +kernel

/-- the single-direction generators return their primes in order: upstream strictly
    increasing, all above `2^S`; downstream strictly decreasing, all at most `2^S + 1 − r`. -/
theorem genPrimes_order (o : Oracle) (hs : StopSound o) (fuel S r k : Nat) (hS : S ≤ 61) (hr : 2 ≤ r)
    (hd : r ∣ 2 ^ S) (ps : List Nat) :
    (genPrimes o fuel 0 S r k = .ok ps → ps.Pairwise (· < ·) ∧ ∀ p ∈ ps, 2 ^ S < p) ∧
    (genPrimes o fuel 1 S r k = .ok ps → ps.Pairwise (· > ·) ∧ ∀ p ∈ ps, p + r ≤ 2 ^ S + 1) := by
  have hrS : r ≤ 2 ^ S := Nat.le_of_dvd (Nat.two_pow_pos S) hd
  have hg := newGen_inv hS (by omega) hrS
  constructor
  · intro h
    have := ((nextUp_stepSpec o hs fuel S r _ (by omega) (room_of_le hS hrS)).run (R := (· < ·))
      (fun g x y _ h2 hy => by unfold above at hy; omega)
      (fun g g' y _ h2 hy => by unfold above at hy ⊢; omega) k _ hg).1 ps h
    refine ⟨this.2.2.1, fun p hp => ?_⟩
    have := this.2.2.2 p hp
    rw [above, newGen_next r hS] at this
    omega
  · intro h
    have := ((nextDown_stepSpec o fuel S r _ (by omega)).run (R := (· > ·))
      (fun g x y h1 _ hy => by unfold below at hy; omega)
      (fun g g' y h1 _ hy => by unfold below at hy ⊢; omega) k _ hg).1 ps h
    refine ⟨this.2.2.1, fun p hp => ?_⟩
    have := this.2.2.2 p hp
    rw [below, newGen_prev hS hrS] at this
    omega

/-- no direction panics, and with stop tests that fire outside the half-bit window
    (`StopComplete`) and `fuel ≥ 2^65` none runs out of fuel: the call returns primes or the exhaustion
    error.  (Fix C19-4: the single-direction loops exit once their direction is disabled.) -/
theorem genPrimes_total (o : Oracle) (hc : StopComplete o) (fuel dir S r k : Nat) (hr : 1 ≤ r)
    (hS : S ≤ 61) (hrS : r ≤ 2 ^ S) (hf : 2 ^ 65 ≤ fuel) :
    (∃ ps, genPrimes o fuel dir S r k = .ok ps) ∨ (∃ c, genPrimes o fuel dir S r k = .err c) := by
  have h1 := genPrimes_ne_panic o fuel dir S r k
  have h2 := genPrimes_ne_hang o fuel dir S r k (fun _ => hc) hr hS hrS hf
  cases h : genPrimes o fuel dir S r k with
  | ok ps => exact Or.inl ⟨ps, rfl⟩
  | err c => exact Or.inr ⟨c, rfl⟩
  | panic => exact absurd h h1
  | hang => exact absurd h h2

/-- non-vacuity of the hypotheses: the exact reading of the two float tests satisfies both -/
example : StopSound exactOracle ∧ StopComplete exactOracle := ⟨exactOracle_stopSound, exactOracle_stopComplete⟩

/-- exhaustion is an error, not a spin: a window too small for the request (size 8, root 16: five primes) -/
example : genPrimes exactOracle 1000 2 8 16 6 = .err "exhausted" ∧
    genPrimes exactOracle 1000 2 8 16 5 = .ok [257, 241, 193, 337, 353] := by
  constructor <;> decide +kernel

end Lattigo.Params

#print axioms Lattigo.Params.genPrimes_spec
#print axioms Lattigo.Params.genPrimes_order
#print axioms Lattigo.Params.genPrimes_total
