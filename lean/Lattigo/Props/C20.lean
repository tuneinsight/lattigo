/-
  C20 — RGSW external products and blind rotations compute the encrypted look-up.

  The theorems are about the definitions of `Lattigo/Model/RGSW.lean` and `Lattigo/Model/BlindRot.lean` (the ones the
  driver executes; the model follows /repo HEAD, which includes the fixes `/verif/fixes/C20-1 … C20-10`).  Companion files:
  `C20Ring` (transport to `RPoly` values over `WFPoly qs n`), `C20Noise` (norm bounds), `C20Stack` (`extprod_phase_full`:
  recombination, rounded division and `P⁻¹` discharged from C02).  STATUS, clause by clause of the property text:

  * "external product … decrypts to m·g with noise below the bound implied by the decomposition, every level, auxiliary
    modulus count and digit decomposition":
      PROVED for all inputs with an auxiliary modulus — `extprod_noise_closed` (this file; phase identity in `R_Q` with an
      integer noise polynomial and the closed bound `2P‖ν‖ ≤ 2nB(ΣD+ΣD) + P(1+h)`; no hypothesis beyond well-formedness,
      pairwise coprime moduli, `P` odd, errors/secret given as signed lists).  Generic identities for every commutative
      ring: `rgsw_rows_phase`, `extprod_phase`, `extprod_phase_div`, `extprod_phase_noP`.  WITHOUT auxiliary modulus the
      identity is `C20Ring.extprod_phase_rpoly` under the recombination hypothesis (`StackKS.rgsw_recombine`, on values
      `C20Stack.digitsOf_recombine`, discharges it; applied only in `extprod_phase_full`, i.e. for `ps ≠ []`) and the bound
      `extprod_noise_bound_noP` (Props/C20Noise); the composition for `ps = []` is not assembled (open).
      `rgsw_digit_partition`: the greedy partition of the Q primes into RNS digits.
  * "in the single-modulus 32-bit fast path as well as the general path": `path_eq`, `path_eq_guarded` (word level, one
    NTT slot: the guarded accumulator + `IMForm` is the general path's value), `path_eq_counterexample` (what the guard
    excludes); `extprod_lazy_no_wrap` (the lazy 64-bit accumulators of the multi-`P` path never wrap, per limb family).
    That the NTT-domain slot values assemble to the coefficient-domain `extProdR` is C01's NTT correctness: TIED
    (`ep32raw`, `eplazy`, `extprod`), not proved here.
  * "RGSW ciphertexts add and multiply by X^a−1 as their plaintexts do": `rgsw_add`, `rgsw_mulXminus1`,
    `rgsw_mulXminus1_add`, `rgsw_addPlain` (row-level equalities, every commutative ring; `C20Ring.*_rpoly` on values,
    `rgsw_mulXminus1_add` excepted).
  * "blind rotation … returns an encryption of f(x) up to the discretisation step, whatever the Hamming weight":
      `blindrot_exponent`, `eff_spec`, `blindrot_exponent_mask`, `blindrot_exponent_model` (the schedule AS CODED ends at
      Galois index 1 and exponent `b + ⟨a,s⟩ mod 2N`, for every mask the model's mod-switch produces, all `N = 2^(k+1) ≥ 4`);
      `blindrot_invariant` (phases, abstract ring), `blindrot_end_to_end` and `blindrot_evalSlot_phase` (on `RPoly` values,
      for the model's own `evalSlot`/`coreR`: final phase `F·X^{b+⟨a,s⟩} + noiseRunG`);
      `blindrot_lookup`, `blindrot_lookup_all`, `blindrot_lookup_endpoint` (value read at EVERY exponent, both halves, sign).
      The size of `noiseRunG` is `blindrot_noise_bound` (Props/C20Noise) UNDER per-operation bounds `B_ks`, `B_ep` (named
      hypotheses): `extprod_noise_closed` provides `B_ep`; the key-switch error of `automorphismR` is NOT bounded here
      (C04's `keyswitch_noise_closed` is about `KS.gadgetProductR`; `BlindRot.gadgetProductR` is tied to the code by `br_eval`
      / `br_core` but not proved equal to it) — open.  The drift `|b̃ + ⟨ã,s⟩ − 2N·phase/Q| ≤ 1/2 + (3/2)‖s‖₁ + …` of the
      modulus switch (the "discretisation step") is PROBED (`blindrot_lookup`), not proved.
      `InitTestPolynomial`'s float pipeline is modelled in exact arithmetic (`scaleUpBits`, tied by `testpoly` incl. 55–61-bit
      primes and scales up to `Q/4`): `testpoly_limbs_consistent` (all limbs are residues of one integer, all inputs),
      `testpoly_exact`, `testpoly_exact_big` (that integer is the exact `⌊scale·|g|+½⌋` when nothing is rounded); otherwise it is
      the IEEE-rounded value (the API's `scale` is a float64).  The look-up theorems are about integer tables `y`.
  * "the generated keys contain exactly the Galois and RGSW keys the algorithm requests": `brk_keys_requested_subset`
    (requested ⊆ generated, all `N`, all masks); "generated ⊆ requested by some input" and "each RGSW key at most once"
    are PROBED (`brk_keys_exact`, statistics) only.
  * Not covered by any theorem: public-key RGSW encryption, serialisation, the evaluator's buffer aliasing /
    input-preservation and history behaviour (probes `*_inputs_unchanged`, `blindrot_history`, `blindrot_evaluate_twice`).
-/
import Lattigo.Proofs.RGSW
import Lattigo.Proofs.RGSW32
import Lattigo.Proofs.BlindRotPhase
import Lattigo.Proofs.BlindRotTable
import Lattigo.Proofs.BlindRotMask
import Lattigo.Proofs.RGSWShape
import Lattigo.Proofs.RGSWLazy
import Lattigo.Props.C20Ring
import Lattigo.Props.C20Noise
import Lattigo.Props.C20Stack
import Lattigo.Proofs.RGSWNoise
import Lattigo.Proofs.BlindRotE2E
import Lattigo.Proofs.BlindRotTestPoly

namespace Lattigo.Props.C20
open Lattigo Lattigo.RGSW

section rgsw
variable {α : Type} [CommRing α]

/-! ## RGSW ciphertext rows -/

/-- With auxiliary modulus (`encZero`) row `k` of `Value[0]` decrypts to
    `P·w_k·g + e_k` and row `k` of `Value[1]` to `P·w_k·g·s + e'_k`. -/
theorem rgsw_rows_phase (s g : α) (pgs : List α) (smp0 smp1 : List (α × α)) :
    ((encrypt encZero s g pgs smp0 smp1).v0.map fun r => phase r s) =
        List.zipWith (fun pg e => e + pg * g) pgs (smp0.map Prod.snd) ∧
    ((encrypt encZero s g pgs smp0 smp1).v1.map fun r => phase r s) =
        List.zipWith (fun pg e => e + pg * g * s) pgs (smp1.map Prod.snd) :=
  C20Ring.rgsw_rows_phase_gen s g pgs smp0 smp1

example : ((encrypt encZero (3 : ℤ) 5 [7, 11] [(1, 2), (4, -1)] [(0, 1), (2, 2)]).v0.map
    fun r => phase r 3) = [2 + 7 * 5, -1 + 11 * 5] := by decide

/-! ## External product -/

/-- Level QP, before the division by `P`.  `pgs` is the scaled gadget vector `P·w_k`,
    `d0`, `d1` the decompositions of `c0`, `c1`; hypotheses `hrec0`, `hrec1`: the gadget recombination
    `Σ_k d_k · P·w_k = P·c`.  Then
    `phase(ct ⊡ RGSW(g)) = g · P·phase(ct) + Σ_k d0_k e0_k + Σ_k d1_k e1_k`. -/
theorem extprod_phase (s g : α) (pgs : List α) (smp0 smp1 : List (α × α)) (d0 d1 : List α)
    (Pc0 Pc1 : α)
    (h0 : pgs.length = smp0.length) (h1 : pgs.length = smp1.length)
    (hrec0 : wsum d0 pgs = Pc0) (hrec1 : wsum d1 pgs = Pc1) :
    phase (extProdLazy 0 d0 d1 (encrypt encZero s g pgs smp0 smp1)) s =
      g * phase (Pc0, Pc1) s + (wsum d0 (smp0.map Prod.snd) + wsum d1 (smp1.map Prod.snd)) := by
  rw [extProdLazy_phase s g pgs smp0 smp1 d0 d1 h0 h1, hrec0, hrec1]
  rfl

example : phase (extProdLazy 0 [2, 1] [0, 3]
      (encrypt encZero (3 : ℤ) 5 [1, 4] [(1, 2), (4, -1)] [(0, 1), (2, 2)])) 3
    = 5 * phase ((6 : ℤ), 12) 3 + ((2 * 2 + 1 * -1) + (0 * 1 + 3 * 2)) := by decide

/-- `extprod_phase` after the division by `P`.  `π : α → β` is the projection `R_QP → R_Q`, `md` the
    rounded division (`ModDownQPtoQNTT`) with its defining property `P · md x = π x − r x` (`r x` the
    projection of the centred remainder `[x]_P`), `c0`, `c1` the input ciphertext (`π Pc_i = P·c_i`).
    Then `P · phase(out) = P · (g · phase(ct)) + π(Σ d e) − (r u0 + r u1 · s)`, and with `Pinv·P = 1`
    `phase(out) = g · phase(ct) + Pinv · (π(Σ d e) − r u0 − r u1·s)`: the explicit noise and rounding
    term. -/
theorem extprod_phase_div {β : Type} [CommRing β] (π : α →+* β) (md r : α → β) (P Pinv : β)
    (hmd : ∀ x, P * md x = π x - r x) (hPinv : Pinv * P = 1)
    (s g : α) (pgs : List α) (smp0 smp1 : List (α × α)) (d0 d1 : List α) (Pc0 Pc1 : α) (c0 c1 : β)
    (h0 : pgs.length = smp0.length) (h1 : pgs.length = smp1.length)
    (hrec0 : wsum d0 pgs = Pc0) (hrec1 : wsum d1 pgs = Pc1)
    (hc0 : π Pc0 = P * c0) (hc1 : π Pc1 = P * c1) :
    let rg := encrypt encZero s g pgs smp0 smp1
    let u := extProdLazy 0 d0 d1 rg
    let E := wsum d0 (smp0.map Prod.snd) + wsum d1 (smp1.map Prod.snd)
    phase (extProd md 0 d0 d1 rg) (π s) =
      π g * phase (c0, c1) (π s) + Pinv * (π E - (r u.1 + r u.2 * π s)) := by
  subst hrec0 hrec1
  exact C20Ring.extprod_phase_div_gen π md r P Pinv hmd hPinv s g pgs smp0 smp1 d0 d1 c0 c1 h0 h1 hc0 hc1

/-- non-vacuity: `α = β = ℤ`, `P = Pinv = 1`, `md = id`, `r = 0` -/
example : phase (extProd (fun x : ℤ => x) 0 [2, 1] [0, 3]
      (encrypt encZero (3 : ℤ) 5 [1, 4] [(1, 2), (4, -1)] [(0, 1), (2, 2)])) 3
    = 5 * phase ((6 : ℤ), 12) 3 + 1 * (((2 * 2 + 1 * -1) + (0 * 1 + 3 * 2)) - (0 + 0 * 3)) := by
  decide

/-- without auxiliary modulus there is no division: `phase(out) = g·phase(ct) + Σ d e` -/
theorem extprod_phase_noP (s g : α) (pgs : List α) (smp0 smp1 : List (α × α))
    (d0 d1 : List α) (c0 c1 : α)
    (h0 : pgs.length = smp0.length) (h1 : pgs.length = smp1.length)
    (hrec0 : wsum d0 pgs = c0) (hrec1 : wsum d1 pgs = c1) :
    phase (extProdLazy 0 d0 d1 (encrypt encZero s g pgs smp0 smp1)) s =
      g * phase (c0, c1) s + (wsum d0 (smp0.map Prod.snd) + wsum d1 (smp1.map Prod.snd)) :=
  extprod_phase s g pgs smp0 smp1 d0 d1 c0 c1 h0 h1 hrec0 hrec1

/-! ## Homomorphisms -/

set_option linter.unusedVariables false in
/-- The sum of two RGSW ciphertexts is THE RGSW ciphertext of the sum of the plaintexts
    built from the sums of the samples (`h0`, `h1` are not needed: `zipWith` truncates both sides alike). -/
theorem rgsw_add (s g1 g2 : α) (pgs : List α) (A0 A1 B0 B1 : List (α × α))
    (h0 : A0.length = B0.length) (h1 : A1.length = B1.length) :
    Ct.add (encrypt encZero s g1 pgs A0 A1) (encrypt encZero s g2 pgs B0 B1) =
      encrypt encZero s (g1 + g2) pgs (List.zipWith padd A0 B0) (List.zipWith padd A1 B1) :=
  C20Ring.rgsw_add_gen s g1 g2 pgs A0 A1 B0 B1

example : Ct.add (encrypt encZero (3 : ℤ) 5 [7] [(1, 2)] [(0, 1)]) (encrypt encZero 3 (-2) [7] [(4, 0)] [(1, 1)])
    = encrypt encZero 3 (5 + -2) [7] [(1 + 4, 2 + 0)] [(0 + 1, 1 + 1)] := by decide

/-- `rgsw_mulXminus1`: multiplying every stored polynomial by `x` (`= X^a − 1`) gives THE RGSW
    ciphertext of `g·x` built from the samples multiplied by `x`. -/
theorem rgsw_mulXminus1 (s g x : α) (pgs : List α) (A0 A1 : List (α × α)) :
    Ct.mulBy x (encrypt encZero s g pgs A0 A1) =
      encrypt encZero s (g * x) pgs (A0.map fun ae => (ae.1 * x, ae.2 * x))
        (A1.map fun ae => (ae.1 * x, ae.2 * x)) :=
  C20Ring.rgsw_mulXminus1_gen s g x pgs A0 A1

/-- `MulByXPowAlphaMinusOneThenAddLazy` -/
theorem rgsw_mulXminus1_add (s g h x : α) (pgs : List α) (A0 A1 B0 B1 : List (α × α))
    (h0 : B0.length = A0.length) (h1 : B1.length = A1.length) :
    Ct.mulByThenAdd x (encrypt encZero s g pgs A0 A1) (encrypt encZero s h pgs B0 B1) =
      encrypt encZero s (h + g * x) pgs
        (List.zipWith padd B0 (A0.map fun ae => (ae.1 * x, ae.2 * x)))
        (List.zipWith padd B1 (A1.map fun ae => (ae.1 * x, ae.2 * x))) := by
  simp only [Ct.mulByThenAdd]
  rw [rgsw_mulXminus1, rgsw_add] <;> simpa

set_option linter.unusedVariables false in
/-- `AddLazy(*Plaintext)`: adding the gadget plaintext of `m` gives the RGSW ciphertext of `g + m` with
    the SAME samples (no noise added; `h0`, `h1` are not needed: `zipWith` truncates both sides alike). -/
theorem rgsw_addPlain (s g m : α) (pgs : List α) (A0 A1 : List (α × α))
    (h0 : pgs.length = A0.length) (h1 : pgs.length = A1.length) :
    Ct.addPlain (encrypt encZero s g pgs A0 A1) (pgs.map (· * m)) =
      encrypt encZero s (g + m) pgs A0 A1 :=
  C20Ring.rgsw_addPlain_gen s g m pgs A0 A1

example : Ct.mulBy (2 : ℤ) (encrypt encZero 3 5 [7] [(1, 2)] [(0, 1)])
    = encrypt encZero 3 (5 * 2) [7] [(1 * 2, 2 * 2)] [(0 * 2, 1 * 2)] := by decide

end rgsw

/-! ## The 32-bit path -/

set_option linter.unusedVariables false in
/-- One NTT slot of `externalProduct32Bit` (`slot32`: 64-bit wrapping accumulator, then
    `IMForm`) equals the general path's value — the `y < q` with `y·2^64 ≡ Σ_k r_k c_k (mod q)` —
    under the explicit no-overflow hypothesis `Σ_k r_k c_k < 2^64` (`r_k < q` the stored row values,
    `c_k ≤ 6q − 2` the lazily transformed digits, `k` over the `2·⌈log q / w⌉` rows).  `hq1` is not needed:
    `IMForm_spec` asks only `q < 2^64` and `q·mrc ≡ 1`. -/
theorem path_eq (q mrc : Nat) (rs cs : List Nat) (hq1 : 1 < q) (hq : q < W)
    (hodd : Nat.gcd q W = 1) (hmrc : q * mrc % W = 1) (hsum : sum32 rs cs < W)
    (y : Nat) (hy : y < q) (hyspec : y * W % q = sum32 rs cs % q) :
    slot32 q mrc rs cs = y := by
  obtain ⟨hmod, hlt⟩ := IMForm_spec (sum32 rs cs) q mrc hq hmrc hsum
  rw [slot32, acc32_of_lt rs cs hsum]
  have h : Gen.IMForm (sum32 rs cs) q mrc ≡ y [MOD q] :=
    Nat.ModEq.cancel_right_of_coprime hodd (hmod.trans hyspec.symm)
  rwa [Nat.ModEq, Nat.mod_eq_of_lt hlt, Nat.mod_eq_of_lt hy] at h

/-- non-vacuity (`q = 0x7fff801`, its Montgomery constant, two terms) -/
example : slot32 134215681 13887429451840489473 [5, 7] [11, 13] = 11475088 ∧
    134215681 * 13887429451840489473 % W = 1 ∧ 11475088 * W % 134215681 = (5 * 11 + 7 * 13) % 134215681 := by
  decide +kernel

/-- `path_eq` under the guard of the code (fix C20-4): when `acc32BitFits(q, d)` holds, for every slot with at
    most `2d` terms, stored values `≤ q − 1` and lazily transformed digits `≤ 6q − 2` (the documented range
    of `NTTLazy`), the 32-bit path returns the general path's value.  No separate overflow hypothesis. -/
theorem path_eq_guarded (q mrc d : Nat) (rs cs : List Nat) (hq1 : 1 < q) (hq : q < W)
    (hodd : Nat.gcd q W = 1) (hmrc : q * mrc % W = 1) (hfit : acc32Fits q d = true)
    (hlen : rs.length ≤ 2 * d) (hr : ∀ r ∈ rs, r ≤ q - 1) (hc : ∀ c ∈ cs, c ≤ 6 * q - 2)
    (y : Nat) (hy : y < q) (hyspec : y * W % q = sum32 rs cs % q) :
    slot32 q mrc rs cs = y :=
  path_eq q mrc rs cs hq1 hq hodd hmrc (acc32Fits_no_wrap q d hfit rs cs hlen hr hc) y hy hyspec

/-- non-vacuity: the blind-rotation test modulus `0x7fff801` with `w = 7` (`d = 4`) passes the guard, a 29-bit
    modulus with `w = 1` (`d = 29`) or `w = 4` (`d = 8`) does not, with `w = 6` (`d = 5`) it does -/
example : acc32Fits 134215681 4 = true ∧ acc32Fits 536870657 29 = false ∧
    acc32Fits 536870657 8 = false ∧ acc32Fits 536870657 5 = true := by decide +kernel

/-- what the guard excludes (`path_eq` fails without its hypothesis): `q = 536870657 < 2^29`, digit width 1
    (`2·29 = 58` rows), every stored value `q − 1` and every transformed digit `2q+1` (a legal output
    of `NTTLazy`, whose range is `[0, 6q−2]`): the exact sum `58·(q−1)·(2q+1) ≈ 2^64.86` wraps, and the
    accumulator + `IMForm` returns `413437105` where the general path returns `y = 413437106`.  A guard
    `q < 2^29` alone ("log(Q)·(Q−1)² < 2^64", the code before fix C20-4) counts neither the two gadget ciphertexts nor
    the lazy range and lets this through (probe `path_eq_32`). -/
theorem path_eq_counterexample :
    let q := 536870657
    let mrc := 7241964951080861953
    let rs := List.replicate 58 (q - 1)
    let cs := List.replicate 58 (2 * q + 1)
    q / 2 ^ 29 = 0 ∧ q * mrc % W = 1 ∧ ¬ sum32 rs cs < W ∧
      (413437106 * W % q = sum32 rs cs % q ∧ 413437106 < q) ∧
      slot32 q mrc rs cs ≠ 413437106 ∧ acc32Fits q 29 = false := by
  decide +kernel

/-- `BaseTwoDecomposition = 0` on the 32-bit path (fix C20-3): the single digit is the whole coefficient
    (`q = 97`, the trivial encryption `(5 + 3X, 0)` times a noise-free RGSW encryption of `1` is the
    ciphertext itself; with the zero mask of the code before the fix it is `(0, 0)`). -/
example :
    let p : Par := { qsQ := [97], qsP := [], n := 2, w := 0 }
    let one : RPoly := { qs := [97], c := [[1, 0]] }
    let zero : RPoly := RPoly.zero [97] 2
    let rg : Ct RPoly := encryptR p zero one [(zero, zero)] [(zero, zero)]
    let ct : RPoly × RPoly := ({ qs := [97], c := [[5, 3]] }, zero)
    fast32 p = true ∧ extProdR p ct rg = ct := by
  decide +kernel

/-! ## Blind rotation -/

open Lattigo.RGSW.BlindRot

/-- The algorithm AS CODED.  For `N = 2^(k+1) ≥ 4`, every mask `a` (any
    naturals), every secret `s` and every `b`: the operations `BlindRotateCore` performs (`coreSchedule`:
    classes by discrete log of 5 and sign, window 10, the `v` of the negative loop carried into the
    positive one) map the exponents `(t, u) = (2N−5, (2N−5)·b)` of the initial accumulator `φ_{−5}(F·X^b)`
    to `t ≡ 1`, `u ≡ b + Σ_j eff(a_j)·s_j (mod 2N)`, where `eff(a_j)` is the value the table of
    `getGaloisElementInverseMap` assigns to the coefficient (`±5^{dlog a_j}`, `−1` for the class `2N`, `0` for a
    skipped zero coefficient); `blindrot_exponent_mask` identifies it with `a_j`. -/
theorem blindrot_exponent (k : Nat) (hk : 1 ≤ k) (a : List Nat) (sI : Nat → Int) (b : Nat) :
    let N := 2 ^ (k + 1)
    let r := runExp sI (coreSchedule N a) (initExp N b)
    ((r.1 : Int) : ZMod (2 * N)) = 1 ∧
    ((r.2 : Int) : ZMod (2 * N)) =
      (b : ZMod (2 * N)) +
        ((List.range a.length).map fun j => effZ N (a.getD j 0) * ((sI j : Int) : ZMod (2 * N))).sum := by
  intro N r
  have h := (runExp_core_cast N a sI b).trans
    (coreSchedule_inner N (four_le_two_pow k hk) (gz_pow_half k) a _ _)
  exact ⟨congrArg Prod.fst h, congrArg Prod.snd h⟩

/-- non-vacuity / test: `N = 16`, the schedule on a concrete mask (`decide`, a test) -/
example : slotExp 16 [5, 27, 1, 13] 3 [1, -1, 0, 1] = (1, 26) ∧ ((3 + 5 * 1 + 27 * (-1) + 1 * 0 + 13 * 1 : Int) % 32 = 26) := by
  decide +kernel

set_option linter.unusedVariables false in
/-- every odd mask coefficient is treated as itself, zero as zero (`N = 2^(k+1) ≥ 4`): `±5^i`, `i < N/2`,
    exhaust the odd residues modulo `2N`, and `2N − 1 = −5^0` is filed under its own class (fix C20-5); `hk` is not
    needed: the table also covers `N = 2` -/
theorem eff_spec (k : Nat) (hk : 1 ≤ k) (x : Nat) (hx : x < 2 * 2 ^ (k + 1)) (h : x % 2 = 1 ∨ x = 0) :
    effZ (2 ^ (k + 1)) x = (x : ZMod (2 * 2 ^ (k + 1))) :=
  effZ_good k x hx h

/-- `blindrot_exponent` at full strength: for every mask as `modSwitchRLWETo2NLvl(…, makeOdd)` produces it
    (entries `< 2N`, odd or zero) the final exponent is `b + ⟨a, s⟩ (mod 2N)` and the automorphism index is 1:
    the accumulator decrypts to `F·X^{b + ⟨a,s⟩}`. -/
theorem blindrot_exponent_mask (k : Nat) (hk : 1 ≤ k) (a : List Nat) (sI : Nat → Int) (b : Nat)
    (ha : ∀ j, j < a.length → a.getD j 0 < 2 * 2 ^ (k + 1) ∧ (a.getD j 0 % 2 = 1 ∨ a.getD j 0 = 0)) :
    let N := 2 ^ (k + 1)
    let r := runExp sI (coreSchedule N a) (initExp N b)
    ((r.1 : Int) : ZMod (2 * N)) = 1 ∧
    ((r.2 : Int) : ZMod (2 * N)) =
      (b : ZMod (2 * N)) +
        ((List.range a.length).map fun j => ((a.getD j 0 : Nat) : ZMod (2 * N)) * ((sI j : Int) : ZMod (2 * N))).sum := by
  intro N r
  have h := (runExp_core_cast N a sI b).trans (coreSchedule_goodMask k hk a ha _ _)
  exact ⟨congrArg Prod.fst h, congrArg Prod.snd h⟩

/-- non-vacuity / regression of the two classes of fix C20-5: `N = 16`, a mask coefficient `31 = −1` rotates by
    `−s`, a zero coefficient by nothing (both rotate by `+s` in the code before the fix) -/
example : slotExp 16 [31] 3 [1] = (1, 2) ∧ slotExp 16 [0] 3 [1] = (1, 3) ∧
    dlog 16 31 = 32 ∧ eff 16 31 = -1 ∧ eff 1024 2047 = -1 ∧ eff 16 0 = 0 := by
  decide +kernel

/-- The loop invariant at the level of phases.  In any commutative ring with monomials `X^u` (`u ∈ ZMod (2N)`) and
    automorphisms `φ_g`: if the accumulator decrypts to `φ_t(F)·X^u + n`, then after `BlindRotateCore` it decrypts to
    `φ_{t'}(F)·X^{u'} + n'`, `(t', u')` as in `blindrot_exponent` and `n'` the accumulated noise
    (`noiseRun`: every automorphism permutes the noise and adds its key-switching error, every external
    product rotates it and adds the term of `extprod_phase_div`).

    The hypotheses on `φ` are required on a multiplicatively closed set `U` of indices containing the Galois
    elements of the schedule and the initial `t` — in `Z_q[X]/(X^N+1)` the odd residues modulo `2N`.  (Required for
    ALL `g : ZMod m` they cannot hold in that ring, `C20Ring.blindrot_hyps_unsatisfiable`; the instance in that
    ring, on `RPoly` values, is `C20Ring.blindrot_invariant_rpoly`.) -/
theorem blindrot_invariant {m : Nat} {R γ : Type} [CommRing R]
    (mono : ZMod m → R) (φ : ZMod m → R → R) (ph : γ → R)
    (autOp : Nat → γ → γ) (mulOp : Nat → γ → γ) (s : Nat → ZMod m)
    (U : ZMod m → Prop) (hU : ∀ g t, U g → U t → U (g * t))
    (hmono : ∀ u v, mono (u + v) = mono u * mono v)
    (hφadd : ∀ g, U g → ∀ x y, φ g (x + y) = φ g x + φ g y)
    (hφmul : ∀ g, U g → ∀ x y, φ g (x * y) = φ g x * φ g y)
    (hφφ : ∀ g t, U g → U t → ∀ x, φ g (φ t x) = φ (g * t) x)
    (hφmono : ∀ g, U g → ∀ u, φ g (mono u) = mono (g * u))
    (F : R) (st : List Step) (hst : ∀ g, Step.aut g ∈ st → U (g : ZMod m)) (x : γ) (t u : ZMod m) (ht : U t)
    (n : R) (h : ph x = φ t F * mono u + n) :
    ph (runSteps autOp mulOp st x) =
      φ (runZ s st (t, u)).1 F * mono (runZ s st (t, u)).2 + noiseRun mono φ ph autOp mulOp s st x n :=
  blindrot_phase mono φ ph autOp mulOp s U hU hmono hφadd hφmul hφφ hφmono F st hst x t u ht n h

/-- non-vacuity, NON-TRIVIAL: the hypotheses hold in `Z_Q[X]/(X^8+1)`, `Q = 97·193` (the commutative ring
    `WFPoly [97, 193] 8` of well-formed `RPoly`s), with the true monomials `X^u` (`monoW`), the true Galois maps
    `X ↦ X^g` (`phiW` = `RPoly.aut g`) and `U` = "odd" (`GalOK 8`): `X^u·X^v = X^{u+v}`, `φ_g` is a ring
    endomorphism for odd `g`, `φ_g ∘ φ_t = φ_{gt}`, `φ_g(X^u) = X^{gu}`. -/
example :
    (∀ g t : ZMod (2 * 8), C20Ring.GalOK 8 g.val → C20Ring.GalOK 8 t.val → C20Ring.GalOK 8 (g * t).val)
    ∧ (∀ u v : ZMod (2 * 8), C20Ring.monoW (qs := [97, 193]) (u + v) = C20Ring.monoW u * C20Ring.monoW v)
    ∧ (∀ g : ZMod (2 * 8), C20Ring.GalOK 8 g.val → ∀ x y : RPolyRing.WFPoly [97, 193] 8,
        C20Ring.phiW g (x * y) = C20Ring.phiW g x * C20Ring.phiW g y)
    ∧ (∀ g t : ZMod (2 * 8), C20Ring.GalOK 8 g.val → C20Ring.GalOK 8 t.val → ∀ x : RPolyRing.WFPoly [97, 193] 8,
        C20Ring.phiW g (C20Ring.phiW t x) = C20Ring.phiW (g * t) x)
    ∧ (∀ g : ZMod (2 * 8), C20Ring.GalOK 8 g.val → ∀ u : ZMod (2 * 8),
        C20Ring.phiW (qs := [97, 193]) g (C20Ring.monoW u) = C20Ring.monoW (g * u))
    ∧ C20Ring.monoW (qs := [97, 193]) ((8 : ℕ) : ZMod (2 * 8)) = -1 :=
  ⟨fun _ _ hg ht => C20Ring.galOK_zmul hg ht, C20Ring.monoW_add,
   fun g hg x y => by rw [C20Ring.phiW_ok g hg, C20Ring.phiW_ok g hg, C20Ring.phiW_ok g hg, map_mul],
   fun g t hg ht x => C20Ring.phiW_phiW g t hg ht x, fun g hg u => C20Ring.phiW_mono g hg u,
   C20Ring.monoW_half⟩

/-- the instance of the theorem in that ring, on `RPoly` values, is `C20Ring.blindrot_invariant_rpoly` (applied to the
    schedule `[aut 5, mul 0, aut 11, mul 1]` in `Props/C20Ring.lean`) -/
example := @C20Ring.blindrot_invariant_rpoly

/-- The constant coefficient of `F·X^e`, `F` the test polynomial of the table `y`, is `y e`
    for every exponent `e ∈ [−N/2, N/2)` (`N = 2h`). -/
theorem blindrot_lookup (h : Nat) (hh : 0 < h) (y : Int → Int) (e : Int)
    (h1 : -(h : Int) ≤ e) (h2 : e < h) :
    lookup (2 * h) (testPolyInts (2 * h) y) e = y e := by
  refine (lookup_all h hh y e).trans ?_
  by_cases hpos : 0 ≤ e
  · rw [Int.emod_eq_of_lt hpos (by omega), if_pos ((Int.toNat_lt hpos).mpr h2), Int.toNat_of_nonneg hpos]
  · -- `e < 0`: the residue is `e + 2N`, in the last quarter
    have h0 : 0 ≤ e + ((2 * (2 * h) : Nat) : Int) := by omega
    have h3 : 3 * h ≤ (e + ((2 * (2 * h) : Nat) : Int)).toNat := by omega
    rw [← Int.add_emod_right, Int.emod_eq_of_lt h0 (add_lt_of_neg_left _ (lt_of_not_ge hpos)),
      if_neg (by omega), if_neg (Nat.not_lt.mpr h3), Int.toNat_of_nonneg h0]
    congr 1
    omega

example : lookup 8 (testPolyInts 8 fun k => 10 * k) (-3) = -30 := by decide

/-- the right end point of the documented closed interval `[a, b]` is NOT served: the exponent `N/2` returns
    `−y(−N/2)` (the negated value at the left end point); only odd tables get `y(N/2)` there. -/
theorem blindrot_lookup_endpoint (h : Nat) (hh : 0 < h) (y : Int → Int) :
    lookup (2 * h) (testPolyInts (2 * h) y) (h : Int) = -(y (-(h : Int))) := by
  refine (lookup_all h hh y h).trans ?_
  rw [Int.emod_eq_of_lt (Int.natCast_nonneg h) (by omega), Int.toNat_natCast, if_neg (Nat.lt_irrefl h), if_pos (by omega)]
  congr 2
  omega

/-- clause "keys exact", inclusion: every operation of the schedule is served by the generated key set
    (`5^1 … 5^10`, `2N − 5`, one RGSW key per LWE secret coefficient), for every `N` and every mask. -/
theorem brk_keys_requested_subset (N : Nat) (a : List Nat) :
    ∀ st ∈ coreSchedule N a, stepOk N a.length st :=
  coreSchedule_ok N a

example : stepOk 16 4 (Step.aut (galEl 16 3)) := Or.inl ⟨3, by decide, by decide, rfl⟩

/-- `blindrot_exponent` for the masks of the MODEL'S `Evaluate`, no hypothesis on the sample: for every LWE sample
    (`c1` any coefficients, any modulus `Q` — the modulus switch is exact integer rounding, `big.Int` in the
    code, so no word-size / no-overflow condition enters), every list of requested slots and every mask
    `slotMasks` derives from it, the schedule ends at `t ≡ 1`, `u ≡ b + ⟨a, s⟩ (mod 2N)`. -/
theorem blindrot_exponent_model (k : Nat) (hk : 1 ≤ k) (Q : Nat) (c1 : List Nat) (idxs : List Nat)
    (sI : Nat → Int) (b : Nat) :
    let N := 2 ^ (k + 1)
    ∀ ia ∈ slotMasks N (prepMask Q N c1) idxs,
      let a := ia.2
      let r := runExp sI (coreSchedule N a) (initExp N b)
      ((r.1 : Int) : ZMod (2 * N)) = 1 ∧
      ((r.2 : Int) : ZMod (2 * N)) =
        (b : ZMod (2 * N)) +
          ((List.range a.length).map fun j => ((a.getD j 0 : Nat) : ZMod (2 * N)) * ((sI j : Int) : ZMod (2 * N))).sum := by
  intro N ia hia
  have hN : 0 < N := Nat.pow_pos (by norm_num)
  have hgood := goodMask_slotMasks N hN _ (goodMask_prepMask Q N hN c1) idxs ia hia
  exact blindrot_exponent_mask k hk ia.2 sI b (goodMask_getD (2 * N) ia.2 hgood)

/-- non-vacuity: a 61-bit LWE modulus with `N = 16` (`q·2N > 2^64`: a 64-bit `c·2N` would wrap), one slot -/
example : (slotMasks 16 (prepMask 2305843009213693921 16 [2305843009213693920, 5, 1152921504606846960]) [0, 2]).length = 2 ∧
    modSwitch 2305843009213693921 32 true 2305843009213693920 = 0 ∧
    modSwitch 2305843009213693921 32 false 1152921504606846960 = 16 ∧
    2305843009213693921 * 32 ≥ 2 ^ 64 := by
  decide +kernel

/-- the digit partition of the Q primes (`Par.group`): greedy — row `k` is in digit `k / (levelP+1)` (`k / 1`
    without `P`), in no other, and that digit is among the `BaseRNSDecompositionVectorSize` digits.  The gadget
    vector (`pgElt`), the decompositions and `Ct.addPlain` (`AddLazy(*Plaintext)`) all use this partition. -/
theorem rgsw_digit_partition (p : Par) (k : Nat) (hk : k < p.qsQ.length) :
    k ∈ p.group (k / p.gw) ∧ k / p.gw < p.rnsSize ∧ ∀ i, k ∈ p.group i → i = k / p.gw :=
  p.group_partition k hk

example : (Par.group { qsQ := [3, 5, 7, 11], qsP := [13, 17, 19], n := 2, w := 0 } 1 = [3]) := by decide

/-- The unreduced 64-bit accumulation of `externalProductInPlaceMultipleP` (`lazySlot`:
    `acc = t_0`, `acc += t_k`, a `Reduce` every `F` accumulations and at the end), per limb FAMILY: for a prime `p` of
    the family `fam` (the Q primes, or the P primes, of the level; each `≤ 2^61`), stored values and digits `< p`, and
    the family's own margin `F = lazyMargin fam = ⌊(2^64−1)/max fam⌋ >> 1` (`QiOverflowMargin>>1` resp.
    `PiOverflowMargin>>1`), the accumulator never wraps — `(p−1) + F·(p + ⌊p²/2^64⌋) < 2^64`, number of accumulations
    between two reductions × largest lazy term + one residue (`lazySlot_exact_fam`: `lazyMargin_famc`,
    `LazyAcc.mredLazy_le_hi`, `accSched_eq`) — and
    the slot is the exact sum of the products modulo `p`, for ANY number of RNS digits. -/
theorem extprod_lazy_no_wrap (p mrc : Nat) (fam : List Nat) (hp : 0 < p) (hmem : p ∈ fam)
    (hfam : ∀ q ∈ fam, 8 * q ≤ W) (rs cs : List Nat) (hr : ∀ r ∈ rs, r < p) (hc : ∀ c ∈ cs, c < p) :
    lazySlot p mrc (lazyMargin fam) rs cs =
      (List.zipWith (fun r c => Gen.MRedLazy r c p mrc) rs cs).sum % p :=
  lazySlot_exact_fam 1 p mrc fam (by decide) hp hmem hfam rs cs hr (by rwa [Nat.one_mul])

/-- non-vacuity, and what a MERGED schedule does: 16 accumulations (8 RNS digits × 2 gadget ciphertexts) of the
    legal lazy value `p` on a 61-bit P limb: with the P family's own margin (`4`) the result is `16p mod p = 0`; driven
    by the margin of a 36-bit Q family (`134217726`, no reduction before the end) the sum `16p ≈ 2^65` wraps and the
    limb holds garbage (what the probe `extprod_decrypts` and the tie `eplazy` detect). -/
example :
    let p := 2305843009213693921
    lazyMargin [2305843009213693921, 2305843009213693153] = 4 ∧ lazyMargin [68719476577, 68719477313] = 134217726 ∧
    accSched p (lazyMargin [2305843009213693921, 2305843009213693153]) (List.replicate 16 p) = 0 ∧
    accSched p (lazyMargin [68719476577, 68719477313]) (List.replicate 16 p) ≠ 0 ∧
    8 * p ≤ W := by
  decide +kernel

/-- `blindrot_lookup` at EVERY exponent (`N = 2h`, `r = e mod 2N`): both halves of `InitTestPolynomial`'s table and the
    negacyclic sign convention: `y r` for `r < N/2`, `−y(r − N)` for `N/2 ≤ r < 3N/2`, `y(r − 2N)` for `r ≥ 3N/2` — for all `N`,
    all tables `y`, all integers `e`. -/
theorem blindrot_lookup_all (h : Nat) (hh : 0 < h) (y : Int → Int) (e : Int) :
    let r := (e % ((2 * (2 * h) : Nat) : Int)).toNat
    lookup (2 * h) (testPolyInts (2 * h) y) e =
      if r < h then y r else if r < 3 * h then -(y ((r : Int) - (2 * h : Nat))) else y ((r : Int) - (4 * h : Nat)) :=
  lookup_all h hh y e

example : lookup 8 (testPolyInts 8 fun k => 10 * k + 1) 5 = -(10 * (5 - 8) + 1) ∧
    lookup 8 (testPolyInts 8 fun k => 10 * k + 1) (-7) = -(10 * 1 + 1) ∧
    lookup 8 (testPolyInts 8 fun k => 10 * k + 1) 13 = 10 * (-3) + 1 := by decide

/-- What `InitTestPolynomial` stores in limb `q` of a coefficient (`scaleUpBits`: the float64
    pipeline `fl(fl(scale·|g|) + 0.5)` truncated, in exact arithmetic — the function the driver's `testpoly` handler
    evaluates) is, for EVERY modulus `q > 0`, the residue of ONE integer `X = scaleUpAbs` (of `−X` for a negative value): the
    limbs are CRT-consistent whatever the size of the primes and of the scale. -/
theorem testpoly_limbs_consistent (v s Q : Nat) (hQ : 0 < Q) :
    (isNegBits v = false → scaleUpBits v s Q = scaleUpAbs v s % Q) ∧
    (isNegBits v = true → (scaleUpBits v s Q + scaleUpAbs v s) % Q = 0 ∧ 0 < scaleUpBits v s Q ∧ scaleUpBits v s Q ≤ Q) := by
  unfold scaleUpBits
  constructor
  · intro h; simp [h]
  · intro h
    simp only [h, if_true]
    have hlt := Nat.mod_lt (scaleUpAbs v s) hQ
    have hdm := Nat.div_add_mod (scaleUpAbs v s) Q
    refine ⟨?_, by omega, by omega⟩
    have : Q - scaleUpAbs v s % Q + scaleUpAbs v s = Q * (scaleUpAbs v s / Q + 1) := by
      rw [Nat.mul_add, Nat.mul_one]; omega
    rw [this, Nat.mul_mod_right]

/-- `X` is the EXACT `⌊scale·|value| + 1/2⌋` (rational arithmetic, `roundHalfUp`) whenever nothing is
    rounded on the way: the product of the two (odd) significands and the significand of the exact sum with `1/2` fit 53
    bits.  (Otherwise `X` is the IEEE-rounded `fl(fl(scale·|value|)+0.5)`: `scale` is a `float64` in the API.) -/
theorem testpoly_exact (v s : Nat)
    (h1 : (decodeMag s).1 * (decodeMag v).1 < 2 ^ 53)
    (h2 : (addHalfExact ((decodeMag s).1 * (decodeMag v).1, (decodeMag s).2 + (decodeMag v).2)).1 < 2 ^ 53) :
    scaleUpAbs v s = roundHalfUp ((decodeMag s).1 * (decodeMag v).1) ((decodeMag s).2 + (decodeMag v).2) := by
  unfold scaleUpAbs faddHalf
  rw [fmul_small _ _ h1, rnd53_small _ h2, truncF_addHalfExact]

/-- `testpoly_exact` for LARGE scales: product significand below `2^53` and product exponent `k ≥ 1` (`scale·|value|` an even
    integer `m·2^k`: e.g. `|value| ∈ {1, 1/2, 3/4}` and any scale `≥ 2^54`, the regime `scale ≈ Q/4` of multi-limb `Q`):
    the stored integer is the product itself. -/
theorem testpoly_exact_big (v s k : Nat) (hk : 1 ≤ k)
    (h1 : (decodeMag s).1 * (decodeMag v).1 < 2 ^ 53) (he : (decodeMag s).2 + (decodeMag v).2 = (k : Int)) :
    scaleUpAbs v s = (decodeMag s).1 * (decodeMag v).1 * 2 ^ k := by
  unfold scaleUpAbs
  rw [fmul_small _ _ h1, he]
  exact faddHalf_big _ k h1 hk

/-- non-vacuity (instances FROM the theorems): `scale = 10^15`, `value = −1`: `X = 10^15`, limb modulo a 55-bit prime `q`
    is `q − 10^15`; `scale = 5·2^100`, `value = −0.75`: `X = 15·2^98`; and `scale = 10^15`, `value = 0.5`: `X = 5·10^14`. -/
example : scaleUpAbs 13830554455654793216 4831355200913801216 = 10 ^ 15
    ∧ scaleUpBits 13830554455654793216 4831355200913801216 36028797018963841 = 36028797018963841 - 10 ^ 15
    ∧ scaleUpAbs 13828302655841107968 5067675480698650624 = 15 * 2 ^ 98
    ∧ scaleUpAbs 4602678819172646912 4831355200913801216 = 5 * 10 ^ 14 := by
  refine ⟨?_, ?_, ?_, ?_⟩
  · rw [testpoly_exact _ _ (by decide +kernel) (by decide +kernel)]; decide +kernel
  · decide +kernel
  · rw [testpoly_exact_big _ _ 98 (by norm_num) (by decide +kernel) (by decide +kernel)]; decide +kernel
  · rw [testpoly_exact _ _ (by decide +kernel) (by decide +kernel)]; decide +kernel

/-- `Z_Q[X]/(X^N+1)` on `RPoly`, `N = 2^(k+1) ≥ 4`.  For every LWE sample, every slot list and
every mask `a` the model's `Evaluate` derives, `BlindRotateCore` maps an accumulator of phase `φ_{2N−5}(F)·X^{(2N−5)b} + n₀`
(`evalSlot`'s `(φ_{2N−5}(F·X^b), 0)`) to one of phase `F·X^{b + ⟨a,s⟩} + noise`, `noise = noiseRunG …` the accumulated
key-switching / external-product errors (`C20Noise.blindrot_noise_bound`: `≤ ‖n₀‖ + #aut·B_ks + #mul·B_ep` under
per-operation bounds `B_ks`, `B_ep`; `extprod_noise_closed` is such a `B_ep`).  `ph`, `autOp`, `mulOp` are arbitrary:
the statement is the algebra of the schedule, mask preparation and discrete-log table, composed. -/
theorem blindrot_end_to_end (k : ℕ) (hk : 1 ≤ k) {qs : List ℕ} [hgd : RPolyRing.Good qs (2 ^ (k + 1))] {γ : Type}
    (ph : γ → RPoly) (hph : ∀ x, Transport.WFq qs (2 ^ (k + 1)) (ph x)) (autOp mulOp : Nat → γ → γ) (sI : Nat → ℤ)
    (F : RPoly) (hF : Transport.WFq qs (2 ^ (k + 1)) F) (Q : ℕ) (c1 idxs : List ℕ) (b : ℕ) (x : γ)
    (n0 : RPoly) (hn0 : Transport.WFq qs (2 ^ (k + 1)) n0) :
    let N := 2 ^ (k + 1)
    let s : Nat → ZMod (2 * N) := fun j => ((sI j : ℤ) : ZMod (2 * N))
    let t0 : ZMod (2 * N) := ((2 * N - galoisGen : ℕ) : ZMod (2 * N))
    ph x = C20Ring.phiR N t0 F * C20Ring.monoR qs N (t0 * (b : ZMod (2 * N))) + n0 →
    ∀ ia ∈ slotMasks N (prepMask Q N c1) idxs,
      ph (runSteps autOp mulOp (coreSchedule N ia.2) x) =
        F * C20Ring.monoR qs N ((b : ZMod (2 * N)) +
              ((List.range ia.2.length).map fun j => ((ia.2.getD j 0 : ℕ) : ZMod (2 * N)) * s j).sum)
          + C20Ring.noiseRunG (C20Ring.monoR qs N) (C20Ring.phiR N) ph autOp mulOp s (coreSchedule N ia.2) x n0 :=
  Lattigo.RGSW.BlindRot.blindrot_end_to_end k hk ph hph autOp mulOp sI F hF Q c1 idxs b x n0 hn0

/-- non-vacuity (`N = 8`, `Q = 97·193`, the ideal operations `x ↦ x(X^g)`, `x ↦ x·X^{s_j}` on plain polynomials, an LWE
sample of modulus 257, `b = 3`, two slots): the hypothesis on the initial accumulator holds by construction, the theorem
gives the phase of the final accumulator for both masks. -/
example :
    let sI : Nat → ℤ := fun j => if j % 3 = 0 then 1 else if j % 3 = 1 then -1 else 0
    let s : Nat → ZMod (2 * 8) := fun j => ((sI j : ℤ) : ZMod (2 * 8))
    let x0 := C20Ring.phiR 8 ((11 : ℕ) : ZMod 16) C20Ring.F8 * C20Ring.monoR [97, 193] 8 (((11 : ℕ) : ZMod 16) * ((3 : ℕ) : ZMod 16))
    ∀ ia ∈ slotMasks 8 (prepMask 257 8 [5, 200, 77, 130]) [0, 2],
      C20Ring.phR (runSteps (fun g x => x.aut g) (fun j x => x.mulMonomial ((s j).val : ℤ)) (coreSchedule 8 ia.2) x0) =
        C20Ring.F8 * C20Ring.monoR [97, 193] 8 (((3 : ℕ) : ZMod 16) +
              ((List.range ia.2.length).map fun j => ((ia.2.getD j 0 : ℕ) : ZMod 16) * s j).sum)
          + C20Ring.noiseRunG (C20Ring.monoR [97, 193] 8) (C20Ring.phiR 8) C20Ring.phR (fun g x => x.aut g)
              (fun j x => x.mulMonomial ((s j).val : ℤ)) s (coreSchedule 8 ia.2) x0 (RPoly.zero [97, 193] 8) := by
  intro sI s x0
  have : RPolyRing.Good [97, 193] (2 ^ (2 + 1)) := C20Ring.good8
  have hF : Transport.WFq [97, 193] 8 C20Ring.F8 := by decide
  have hφ : Transport.WFq [97, 193] 8 (C20Ring.phiR 8 ((11 : ℕ) : ZMod 16) C20Ring.F8) := by
    unfold C20Ring.phiR
    rw [if_pos (by decide)]
    exact hF.aut _ (by decide)
  have hx0 : Transport.WFq [97, 193] 8 x0 := hφ.mul (Transport.WFq.one.mulMonomial _)
  exact blindrot_end_to_end 2 (by norm_num) (qs := [97, 193]) (hgd := (C20Ring.good8 : RPolyRing.Good [97, 193] (2 ^ (2 + 1)))) C20Ring.phR C20Ring.phR_wf _ _ sI C20Ring.F8 hF 257
    [5, 200, 77, 130] [0, 2] 3 x0 _ Transport.WFq.zero (by
      show C20Ring.phR x0 = x0 + RPoly.zero [97, 193] 8
      obtain ⟨A, hA⟩ := Transport.exists_lift x0 hx0
      rw [← hA]
      show _ = Transport.val (A + 0)
      rw [add_zero]
      exact if_pos (Transport.val_wf A))

/-- `blindrot_end_to_end` for the MODEL'S OWN `Evaluate` (`evalSlot`, what the driver's `br_eval`
handler prints; `coreR`, what `br_core` prints): accumulator `(φ_{2N−5}(F·X^b), 0)`, operations `automorphismR p gks` and
`extProdR p · brk_j`, phase read under any well-formed `sQ`.  For all key material (valid or not: the errors are in
`noiseRunG`), all LWE samples, slot lists and masks: `phase(evalSlot …) = F·X^{b + ⟨a,s⟩} + noise`. -/
theorem blindrot_evalSlot_phase (k : ℕ) (hk : 1 ≤ k) {qs : List ℕ} [hgd : RPolyRing.Good qs (2 ^ (k + 1))] (p : Par)
    (hpQ : p.qsQ = qs) (hpn : p.n = 2 ^ (k + 1)) (gks : List (Nat × List (RPoly × RPoly))) (brk : List (Ct RPoly))
    (sQ : RPoly) (hsQ : Transport.WFq qs (2 ^ (k + 1)) sQ) (sI : Nat → ℤ) (F : RPoly)
    (hF : Transport.WFq qs (2 ^ (k + 1)) F) (Q : ℕ) (c1 idxs : List ℕ) (b : ℕ) :
    let N := 2 ^ (k + 1)
    let s : Nat → ZMod (2 * N) := fun j => ((sI j : ℤ) : ZMod (2 * N))
    let ph : RPoly × RPoly → RPoly := fun ct => wfz qs N (phase ct sQ)
    let acc0 : RPoly × RPoly := (RPoly.aut (RPoly.mulMonomial F (b : ℤ)) (2 * N - galoisGen), RPoly.zero qs N)
    ∀ ia ∈ slotMasks N (prepMask Q N c1) idxs,
      ph (evalSlot p gks brk F ia.2 b) =
        F * C20Ring.monoR qs N ((b : ZMod (2 * N)) +
              ((List.range ia.2.length).map fun j => ((ia.2.getD j 0 : ℕ) : ZMod (2 * N)) * s j).sum)
          + C20Ring.noiseRunG (C20Ring.monoR qs N) (C20Ring.phiR N) ph (automorphismR p gks)
              (fun j ct => extProdR p ct (brk.getD j default)) s (coreSchedule N ia.2) acc0 (RPoly.zero qs N) :=
  fun ia hia => evalSlot_phase k hk p hpQ hpn gks brk sQ hsQ _ F hF ia.2
    (goodMask_slotMasks _ (Nat.two_pow_pos _) _ (goodMask_prepMask Q _ (Nat.two_pow_pos _) c1) idxs ia hia) b

/-- non-vacuity: `N = 8`, `Q = 97·193`, no auxiliary modulus, empty key material (every operation error lands in the
noise term), the sample of the previous example -/
example := blindrot_evalSlot_phase 2 (by norm_num) (qs := [97, 193])
  (hgd := (C20Ring.good8 : RPolyRing.Good [97, 193] (2 ^ (2 + 1)))) ⟨[97, 193], [], 8, 7⟩ rfl rfl [] []
  C20Ring.F8 (by decide) (fun j => if j % 2 = 0 then 1 else -1) C20Ring.F8 (by decide) 257 [5, 200, 77, 130] [0, 2] 3

/-! ## The closed noise bound of the external product -/

section closed
open Lattigo.RPolyRing Lattigo.Transport Lattigo.Props.C20Ring Lattigo.StackKS Lattigo.ZPoly Lattigo.RGSWNoise
open Lattigo.Scaling (prodN)
variable {qs ps : List ℕ} {n : ℕ} [hgq : Good qs n] [hg : Good (qs ++ ps) n]

/-- ("decrypts to `m·g` with noise below the bound implied by the decomposition", with an
auxiliary modulus, every level, every digit decomposition of the model).  For `p = ⟨qs, ps, n, w⟩`, pairwise coprime
moduli, `P` odd, well-formed inputs, the secret `s = ofInts s^Z` (`‖s^Z‖₁ ≤ h`) and row errors `e_k = ofInts e^Z_k`
(`‖e^Z_k‖∞ ≤ B`): there is an INTEGER polynomial `ν^Z` with

    `phase(extProdR p ct (encryptR p s g smp0 smp1)) = g·phase(ct) + ofInts ν^Z`   in `R_Q`, and
    `2·P·‖ν^Z‖∞ ≤ 2·n·B·(ΣD + ΣD) + P·(1 + h)`,   `D = digitBoundsR p` (`2^w − 1` | `q_i − 1` | `⌊Q_i/2⌋ + 1` per digit).

No recombination, rounding, inverse, divisibility or IEEE hypothesis is left (`Proofs/RGSWNoise.lean`). -/
theorem extprod_noise_closed (hqs : qs ≠ []) (hps : ps ≠ []) (hco : (qs ++ ps).Pairwise Nat.Coprime)
    (hPodd : prodN ps % 2 = 1) (w : ℕ) (sZ : List ℤ) (g : RPoly) (smp0 smp1 : List (RPoly × RPoly))
    (eZ0 eZ1 : List (List ℤ)) (c0 c1 : RPoly) (B h : ℕ)
    (hsZ : sZ.length = n) (hgw : WFq (qs ++ ps) n g)
    (hw0 : WFplist (qs ++ ps) n smp0) (hw1 : WFplist (qs ++ ps) n smp1)
    (hc0w : WFq qs n c0) (hc1w : WFq qs n c1)
    (h0 : (pgList ⟨qs, ps, n, w⟩).length = smp0.length) (h1 : (pgList ⟨qs, ps, n, w⟩).length = smp1.length)
    (he0 : smp0.map Prod.snd = eZ0.map (RPoly.ofInts (qs ++ ps)))
    (he1 : smp1.map Prod.snd = eZ1.map (RPoly.ofInts (qs ++ ps)))
    (hel0 : ∀ e ∈ eZ0, e.length = n) (hel1 : ∀ e ∈ eZ1, e.length = n)
    (heB0 : ∀ e ∈ eZ0, normInf e ≤ B) (heB1 : ∀ e ∈ eZ1, normInf e ≤ B) (hsn : norm1 sZ ≤ h) :
    let p : Par := ⟨qs, ps, n, w⟩
    let s := RPoly.ofInts (qs ++ ps) sZ
    ∃ νZ : List ℤ, νZ.length = n
      ∧ phase (extProdR p (c0, c1) (encryptR p s g smp0 smp1)) (takeRows qs.length s)
          = takeRows qs.length g * phase (c0, c1) (takeRows qs.length s) + RPoly.ofInts qs νZ
      ∧ 2 * (prodN ps * normInf νZ)
          ≤ 2 * (n * B * ((digitBoundsR p).sum + (digitBoundsR p).sum)) + prodN ps * (1 + h) :=
  Lattigo.RGSWNoise.extprod_noise_closed hqs hps hco hPodd w sZ g smp0 smp1 eZ0 eZ1 c0 c1 B h hsZ hgw hw0 hw1 hc0w
    hc1w h0 h1 he0 he1 hel0 hel1 heB0 heB1 hsn

end closed

/-- the instance obtained FROM THE THEOREM (`Q = [97]`, `P = [193]`, `n = 8`, `w = 0`, the driver's gadget vector and
digits, errors of size `≤ 2`, ternary secret of weight 5): every hypothesis discharged by evaluation; the digit bound is
`q − 1 = 96` per component, so `2·193·‖ν‖∞ ≤ 2·(8·2·192) + 193·6`, i.e. `‖ν‖∞ ≤ 18`. -/
example : ∃ νZ : List ℤ, νZ.length = 8
    ∧ phase (extProdR C20Ring.p8 C20Ring.ct8 (encryptR C20Ring.p8 C20Ring.s8 C20Ring.g8 C20Ring.smp08 C20Ring.smp18))
          (Transport.takeRows 1 C20Ring.s8)
        = Transport.takeRows 1 C20Ring.g8 * phase C20Ring.ct8 (Transport.takeRows 1 C20Ring.s8) + RPoly.ofInts [97] νZ
    ∧ 2 * (193 * ZPoly.normInf νZ) ≤ 2 * (8 * 2 * (96 + 96)) + 193 * (1 + 5) :=
  extprod_noise_closed (qs := [97]) (ps := [193]) (n := 8) (by decide) (by decide) (by decide) (by decide) 0
    [1, -1, 0, 1, 0, 0, -1, 1] C20Ring.g8 C20Ring.smp08 C20Ring.smp18 [[1, 0, -1, 0, 2, 0, -2, 1]]
    [[0, 1, 0, -1, 0, 1, 0, -1]] C20Ring.ct8.1 C20Ring.ct8.2 2 5 (by decide) (by decide +kernel) (by decide +kernel)
    (by decide +kernel) (by decide +kernel) (by decide +kernel) (by decide) (by decide) (by decide) (by decide)
    (by decide) (by decide) (by decide) (by decide) (by decide)

end Lattigo.Props.C20

#print axioms Lattigo.Props.C20.rgsw_rows_phase
#print axioms Lattigo.Props.C20.extprod_phase
#print axioms Lattigo.Props.C20.extprod_phase_div
#print axioms Lattigo.Props.C20.extprod_phase_noP
#print axioms Lattigo.Props.C20.rgsw_add
#print axioms Lattigo.Props.C20.rgsw_mulXminus1
#print axioms Lattigo.Props.C20.rgsw_mulXminus1_add
#print axioms Lattigo.Props.C20.rgsw_addPlain
#print axioms Lattigo.Props.C20.path_eq
#print axioms Lattigo.Props.C20.path_eq_guarded
#print axioms Lattigo.Props.C20.path_eq_counterexample
#print axioms Lattigo.Props.C20.blindrot_exponent
#print axioms Lattigo.Props.C20.eff_spec
#print axioms Lattigo.Props.C20.blindrot_exponent_mask
#print axioms Lattigo.Props.C20.blindrot_invariant
#print axioms Lattigo.Props.C20.blindrot_lookup
#print axioms Lattigo.Props.C20.blindrot_lookup_endpoint
#print axioms Lattigo.Props.C20.brk_keys_requested_subset
#print axioms Lattigo.Props.C20.blindrot_exponent_model
#print axioms Lattigo.Props.C20.rgsw_digit_partition
#print axioms Lattigo.Props.C20.extprod_lazy_no_wrap
#print axioms Lattigo.Props.C20.extprod_noise_closed
#print axioms Lattigo.Props.C20.blindrot_lookup_all
#print axioms Lattigo.Props.C20.blindrot_end_to_end
#print axioms Lattigo.Props.C20.blindrot_evalSlot_phase
#print axioms Lattigo.Props.C20.testpoly_limbs_consistent
#print axioms Lattigo.Props.C20.testpoly_exact
#print axioms Lattigo.Props.C20.testpoly_exact_big
