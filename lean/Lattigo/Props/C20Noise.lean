/-
  C20 — sizes of the noise terms of the external product and of the blind-rotation accumulator.

  `Props/C20.lean` gives the exact identities: `extprod_phase_div`
  (`phase(ct ⊡ RGSW(g)) = g·phase(ct) + P⁻¹·(Σ_k d0_k e0_k + Σ_k d1_k e1_k − r₀ − r₁·s)`) and `blindrot_invariant`
  (`ph(acc) = φ_t(F)·X^u + noiseRun …`).  Here:

    * `extprod_noise_bound` (over `Z[X]/(X^N+1)` = `Lattigo.ZPoly`): with `P·ν = Σ d0 e0 + Σ d1 e1 − ρ₀ − s·ρ₁`,
      centred remainders, digits `‖d_k‖∞ ≤ D_k`, errors `≤ B`, `‖s‖₁ ≤ h`:
          2P‖ν‖∞ ≤ 2·N·B·(ΣD0 + ΣD1) + P·(1 + h)     (two gadget products: twice the key-switching numerator)
      `extprod_noise_bound_div`: ‖ν‖∞ ≤ ⌊N·B·(ΣD0+ΣD1)/P⌋ + ⌊(1+h)/2⌋ + 1;  `extprod_noise_bound_noP`: ≤ N·B·(ΣD0+ΣD1).
    * `noiseRun_norm_le` / `blindrot_noise_bound`: for ANY norm `nrm` on the phase ring that is subadditive and not
      increased by the automorphisms `φ_g` and by the monomials `X^u`, if every automorphism adds an error of norm
      `≤ B_ks` and every external product one of norm `≤ B_ep`, then after the schedule `st`
          nrm(noise) ≤ nrm(n₀) + #aut(st)·B_ks + #mul(st)·B_ep ≤ nrm(n₀) + |st|·(B_ks + B_ep)
      (induction over the schedule, on `noiseRun` of `blindrot_invariant`).  `zpoly_norm_hypotheses`: `‖·‖∞` on
      `ZPoly` with `autZ`, `monomialZ` satisfies the three norm hypotheses.

  Relation to the harness (harness/c20_util.go `extProdNoiseBound`, c20_br.go): the probe tests
      2·N·(B_e+1)·ΣD'/P + (1 + ‖s‖₁)/2 + 2,  D' = q_i − 1 (w = 0), 2^w − 1 (base two), ⌊Q_i/2⌋+1 (multi-prime)
  ≥ `extprod_noise_bound_div` with `D0 = D1 = D ≤ D'`; the blind-rotation probe tests `(#ops + 1)·` that bound,
  ≥ `#aut·B_ks + #mul·B_ep` since `B_ks ≤ B_ep ≤` the probe's per-product bound (the initial accumulator is
  noiseless).  No probe bound is below a theorem bound.
-/
import Lattigo.Proofs.NoiseNorm
import Lattigo.Proofs.BlindRotPhase

namespace Lattigo.Props.C20
open Lattigo Lattigo.ZPoly Lattigo.RGSW.BlindRot

/-! ## External product -/

/-- one gadget row respects its digit bounds -/
abbrev RowBounded (N : Nat) (d : List (List Int)) (D : List Nat) : Prop :=
  List.Forall₂ (fun d D => d.length ≤ N ∧ normInf d ≤ D) d D

/-- without auxiliary modulus (`extprod_phase_noP`): `‖Σ d0 e0 + Σ d1 e1‖∞ ≤ N·B·(ΣD0 + ΣD1)` -/
theorem extprod_noise_bound_noP (N B : Nat) (d0 d1 e0 e1 : List (List Int)) (D0 D1 : List Nat)
    (hd0 : RowBounded N d0 D0) (hd1 : RowBounded N d1 D1)
    (he0 : ∀ e ∈ e0, normInf e ≤ B) (he1 : ∀ e ∈ e1, normInf e ≤ B) :
    normInf (add (dotZ N d0 e0) (dotZ N d1 e1)) ≤ N * B * (D0.sum + D1.sum) := by
  have a := normInf_add_le (dotZ N d0 e0) (dotZ N d1 e1)
  have b := normInf_dotZ_le_of_bounds N B d0 e0 D0 hd0 he0
  have c := normInf_dotZ_le_of_bounds N B d1 e1 D1 hd1 he1
  rw [Nat.mul_add]
  omega

theorem extprod_noise_bound (N P B h : Nat) (d0 d1 e0 e1 : List (List Int)) (D0 D1 : List Nat)
    (ν ρ0 ρ1 s : List Int) (hd0 : RowBounded N d0 D0) (hd1 : RowBounded N d1 D1)
    (he0 : ∀ e ∈ e0, normInf e ≤ B) (he1 : ∀ e ∈ e1, normInf e ≤ B)
    (hrel : smul P ν = sub (sub (add (dotZ N d0 e0) (dotZ N d1 e1)) ρ0) (mul s ρ1))
    (h0 : 2 * normInf ρ0 ≤ P) (h1 : 2 * normInf ρ1 ≤ P) (hs : norm1 s ≤ h) :
    2 * (P * normInf ν) ≤ 2 * (N * B * (D0.sum + D1.sum)) + P * (1 + h) := by
  apply rounding_bound P ν _ ρ0 ρ1 s _ h hrel h0 h1 _ hs
  exact extprod_noise_bound_noP N B d0 d1 e0 e1 D0 D1 hd0 hd1 he0 he1

theorem extprod_noise_bound_div (N P B h : Nat) (d0 d1 e0 e1 : List (List Int)) (D0 D1 : List Nat)
    (ν ρ0 ρ1 s : List Int) (hP : 0 < P) (hd0 : RowBounded N d0 D0) (hd1 : RowBounded N d1 D1)
    (he0 : ∀ e ∈ e0, normInf e ≤ B) (he1 : ∀ e ∈ e1, normInf e ≤ B)
    (hrel : smul P ν = sub (sub (add (dotZ N d0 e0) (dotZ N d1 e1)) ρ0) (mul s ρ1))
    (h0 : 2 * normInf ρ0 ≤ P) (h1 : 2 * normInf ρ1 ≤ P) (hs : norm1 s ≤ h) :
    normInf ν ≤ N * B * (D0.sum + D1.sum) / P + (1 + h) / 2 + 1 :=
  le_div_of_two_mul P _ _ h hP
    (extprod_noise_bound N P B h d0 d1 e0 e1 D0 D1 ν ρ0 ρ1 s hd0 hd1 he0 he1 hrel h0 h1 hs)

/-- both components decomposed with the same gadget (`D0 = D1 = D`, `ℓ` digits all `≤ D`): `4·ℓ·N·D·B + P(1+h)` -/
theorem extprod_noise_bound_uniform (N P B h D : Nat) (d0 d1 e0 e1 : List (List Int))
    (ν ρ0 ρ1 s : List Int) (hlen : d1.length = d0.length)
    (hd0 : ∀ d ∈ d0, d.length ≤ N ∧ normInf d ≤ D) (hd1 : ∀ d ∈ d1, d.length ≤ N ∧ normInf d ≤ D)
    (he0 : ∀ e ∈ e0, normInf e ≤ B) (he1 : ∀ e ∈ e1, normInf e ≤ B)
    (hrel : smul P ν = sub (sub (add (dotZ N d0 e0) (dotZ N d1 e1)) ρ0) (mul s ρ1))
    (h0 : 2 * normInf ρ0 ≤ P) (h1 : 2 * normInf ρ1 ≤ P) (hs : norm1 s ≤ h) :
    2 * (P * normInf ν) ≤ 4 * (d0.length * (N * D * B)) + P * (1 + h) := by
  have hb := extprod_noise_bound N P B h d0 d1 e0 e1 _ _ ν ρ0 ρ1 s
    (forall₂_replicate _ d0 D hd0) (forall₂_replicate _ d1 D hd1) he0 he1 hrel h0 h1 hs
  rw [List.sum_replicate_nat, List.sum_replicate_nat, hlen] at hb
  have e : 2 * (N * B * (d0.length * D + d0.length * D)) = 4 * (d0.length * (N * D * B)) := by ring
  omega

/-! ## Blind rotation: accumulated noise, by induction over the schedule -/

def countAut : List Step → Nat
  | [] => 0
  | Step.aut _ :: r => countAut r + 1
  | Step.mul _ :: r => countAut r

def countMul : List Step → Nat
  | [] => 0
  | Step.aut _ :: r => countMul r
  | Step.mul _ :: r => countMul r + 1

theorem count_add_length : ∀ st : List Step, countAut st + countMul st = st.length
  | [] => rfl
  | Step.aut _ :: r => by simp only [countAut, countMul, List.length_cons]; have := count_add_length r; omega
  | Step.mul _ :: r => by simp only [countAut, countMul, List.length_cons]; have := count_add_length r; omega

section run
variable {m : Nat} {R γ : Type} [CommRing R]
variable (mono : ZMod m → R) (φ : ZMod m → R → R)
variable (ph : γ → R) (autOp : Nat → γ → γ) (mulOp : Nat → γ → γ) (s : Nat → ZMod m)

section norm
variable (nrm : R → Nat) (Bks Bep : Nat)
    (hadd : ∀ x y, nrm (x + y) ≤ nrm x + nrm y) (hφ : ∀ g n, nrm (φ g n) ≤ nrm n)
    (hmono : ∀ u n, nrm (n * mono u) ≤ nrm n)
    (Inv : γ → Prop) (hIa : ∀ g x, Inv x → Inv (autOp g x)) (hIm : ∀ j x, Inv x → Inv (mulOp j x))
    (hA : ∀ g x, Inv x → nrm (errAut φ ph autOp g x) ≤ Bks)
    (hM : ∀ j x, Inv x → nrm (errMul mono ph mulOp s j x) ≤ Bep)
include hadd hφ hmono hIa hIm hA hM

/-- `nrm` subadditive, not increased by `φ_g` nor by multiplication by a monomial;
    `Inv` any invariant of the accumulator preserved by the two operations (e.g. `fun _ => True`, or "well-formed at
    level ℓ"); each automorphism's key-switching error `≤ B_ks`, each external product's error `≤ B_ep`
    (`keyswitch_noise_bound`, `extprod_noise_bound`: both independent of the accumulator).  Then the noise
    accumulated along ANY schedule obeys `nrm ≤ nrm n₀ + #aut·B_ks + #mul·B_ep`. -/
theorem noiseRun_norm_le :
    ∀ (st : List Step) (x : γ) (n : R), Inv x →
      nrm (noiseRun mono φ ph autOp mulOp s st x n) ≤ nrm n + countAut st * Bks + countMul st * Bep
  | [], x, n, _ => by simp [noiseRun, countAut, countMul]
  | Step.aut g :: rest, x, n, hx => by
      simp only [noiseRun, countAut, countMul]
      have ih := noiseRun_norm_le rest (autOp g x) (φ (g : ZMod m) n + errAut φ ph autOp g x) (hIa g x hx)
      have h1 := hadd (φ (g : ZMod m) n) (errAut φ ph autOp g x)
      have h2 := hφ (g : ZMod m) n
      have h3 := hA g x hx
      rw [Nat.add_mul]
      omega
  | Step.mul j :: rest, x, n, hx => by
      simp only [noiseRun, countAut, countMul]
      have ih := noiseRun_norm_le rest (mulOp j x) (n * mono (s j) + errMul mono ph mulOp s j x) (hIm j x hx)
      have h1 := hadd (n * mono (s j)) (errMul mono ph mulOp s j x)
      have h2 := hmono (s j) n
      have h3 := hM j x hx
      rw [Nat.add_mul]
      omega

/-- "noise after `k` steps `≤ k·(extprod bound + keyswitch bound)`" (plus the initial noise) -/
theorem noiseRun_norm_le_length (st : List Step) (x : γ) (n : R) (hx : Inv x) :
    nrm (noiseRun mono φ ph autOp mulOp s st x n) ≤ nrm n + st.length * (Bks + Bep) := by
  have h := noiseRun_norm_le mono φ ph autOp mulOp s nrm Bks Bep hadd hφ hmono Inv hIa hIm hA hM st x n hx
  have hc := count_add_length st
  have h1 : countAut st * Bks ≤ st.length * Bks := Nat.mul_le_mul_right _ (by omega)
  have h2 : countMul st * Bep ≤ st.length * Bep := Nat.mul_le_mul_right _ (by omega)
  rw [Nat.mul_add]
  omega

end norm

/-- `blindrot_invariant` + `noiseRun_norm_le`: the distance between the accumulator's
    phase after the schedule and the ideal `φ_{t'}(F)·X^{u'}` is at most `nrm n₀ + #aut·B_ks + #mul·B_ep`.
    (`U`: the multiplicatively closed set of admissible automorphism indices of `blindrot_invariant` — the odd
    residues modulo `2N`; it contains the schedule's Galois elements and the initial `t`.) -/
theorem blindrot_noise_bound (nrm : R → Nat) (Bks Bep : Nat)
    (U : ZMod m → Prop) (hU : ∀ g t, U g → U t → U (g * t))
    (hmono' : ∀ u v, mono (u + v) = mono u * mono v)
    (hφadd : ∀ g, U g → ∀ x y, φ g (x + y) = φ g x + φ g y)
    (hφmul : ∀ g, U g → ∀ x y, φ g (x * y) = φ g x * φ g y)
    (hφφ : ∀ g t, U g → U t → ∀ x, φ g (φ t x) = φ (g * t) x)
    (hφmono : ∀ g, U g → ∀ u, φ g (mono u) = mono (g * u))
    (hadd : ∀ x y, nrm (x + y) ≤ nrm x + nrm y) (hφ : ∀ g n, nrm (φ g n) ≤ nrm n)
    (hmono : ∀ u n, nrm (n * mono u) ≤ nrm n)
    (Inv : γ → Prop) (hIa : ∀ g x, Inv x → Inv (autOp g x)) (hIm : ∀ j x, Inv x → Inv (mulOp j x))
    (hA : ∀ g x, Inv x → nrm (errAut φ ph autOp g x) ≤ Bks)
    (hM : ∀ j x, Inv x → nrm (errMul mono ph mulOp s j x) ≤ Bep)
    (F : R) (st : List Step) (hst : ∀ g, Step.aut g ∈ st → U (g : ZMod m)) (x : γ) (t u : ZMod m) (ht : U t)
    (n : R) (hx : Inv x) (h : ph x = φ t F * mono u + n) :
    nrm (ph (runSteps autOp mulOp st x) - φ (runZ s st (t, u)).1 F * mono (runZ s st (t, u)).2)
      ≤ nrm n + countAut st * Bks + countMul st * Bep := by
  rw [blindrot_phase mono φ ph autOp mulOp s U hU hmono' hφadd hφmul hφφ hφmono F st hst x t u ht n h]
  have : φ (runZ s st (t, u)).1 F * mono (runZ s st (t, u)).2 + noiseRun mono φ ph autOp mulOp s st x n
      - φ (runZ s st (t, u)).1 F * mono (runZ s st (t, u)).2 = noiseRun mono φ ph autOp mulOp s st x n := by ring
  rw [this]
  exact noiseRun_norm_le mono φ ph autOp mulOp s nrm Bks Bep hadd hφ hmono Inv hIa hIm hA hM st x n hx

end run

/-- the three norm hypotheses of `noiseRun_norm_le` hold for `‖·‖∞` on `ZPoly` with the automorphisms `autZ g` and the
    monomials `monomialZ N k` (multiplication on the left: `mul` is the negacyclic product) -/
theorem zpoly_norm_hypotheses :
    (∀ a b : List Int, normInf (add a b) ≤ normInf a + normInf b)
    ∧ (∀ (g : Nat) (a : List Int), normInf (autZ g a) ≤ normInf a)
    ∧ (∀ (N k : Nat) (a : List Int), normInf (mul (monomialZ N k) a) ≤ normInf a) :=
  ⟨normInf_add_le, normInf_autZ_le, normInf_monomial_mul_le⟩

/-- explicit constants: with the floor forms of `keyswitch_noise_bound_div` (`S = ΣD` of the Galois keys) and of
    `extprod_noise_bound_div` (`S' = ΣD0 + ΣD1` of the blind-rotation keys), `k = |st|` operations starting from a
    noiseless accumulator leave a noise `≤ k·(⌊N·B·S/P⌋ + ⌊N·B·S'/P⌋ + 2·⌊(1+h)/2⌋ + 2)`. -/
theorem blindrot_noise_bound_explicit {m : Nat} {R γ : Type} [CommRing R]
    (mono : ZMod m → R) (φ : ZMod m → R → R) (ph : γ → R) (autOp : Nat → γ → γ) (mulOp : Nat → γ → γ)
    (s : Nat → ZMod m) (nrm : R → Nat) (N P B h S S' : Nat)
    (hadd : ∀ x y, nrm (x + y) ≤ nrm x + nrm y) (hφ : ∀ g n, nrm (φ g n) ≤ nrm n)
    (hmono : ∀ u n, nrm (n * mono u) ≤ nrm n) (hz : nrm 0 = 0)
    (hA : ∀ g x, nrm (errAut φ ph autOp g x) ≤ N * B * S / P + (1 + h) / 2 + 1)
    (hM : ∀ j x, nrm (errMul mono ph mulOp s j x) ≤ N * B * S' / P + (1 + h) / 2 + 1)
    (st : List Step) (x : γ) :
    nrm (noiseRun mono φ ph autOp mulOp s st x 0)
      ≤ st.length * (N * B * S / P + N * B * S' / P + 2 * ((1 + h) / 2) + 2) := by
  have hb := noiseRun_norm_le_length mono φ ph autOp mulOp s nrm _ _ hadd hφ hmono (fun _ => True)
    (fun _ _ _ => trivial) (fun _ _ _ => trivial) (fun g x _ => hA g x) (fun j x _ => hM j x) st x 0 trivial
  have e : N * B * S / P + (1 + h) / 2 + 1 + (N * B * S' / P + (1 + h) / 2 + 1)
      = N * B * S / P + N * B * S' / P + 2 * ((1 + h) / 2) + 2 := by ring
  rw [hz, e] at hb
  omega

/-! ## Non-vacuity -/

/-- external product, `N = 2`, `P = 5`, `B = 1`, one digit per component bounded by `D = 2`, `s = 1`:
    `Σ d0 e0 + Σ d1 e1 = [2,-2]·[1,-1] + [1,2]·[-1,1] = [0,-4] + [-3,-1] = [-3,-5] = 5·[-1,-1] + [1,2] + 1·[1,-2]`;
    the theorem gives `2·5·1 = 10 ≤ 2·(2·1·(2+2)) + 5·2 = 26`. -/
example :
    RowBounded 2 [[2, -2]] [2] ∧ RowBounded 2 [[1, 2]] [2]
    ∧ (∀ e ∈ [[(1 : Int), -1]], normInf e ≤ 1) ∧ (∀ e ∈ [[(-1 : Int), 1]], normInf e ≤ 1)
    ∧ smul (5 : Nat) [-1, -1]
        = sub (sub (add (dotZ 2 [[2, -2]] [[1, -1]]) (dotZ 2 [[1, 2]] [[-1, 1]])) [1, 2]) (mul [1, 0] [1, -2])
    ∧ 2 * normInf [1, 2] ≤ 5 ∧ 2 * normInf [1, -2] ≤ 5 ∧ norm1 [1, 0] ≤ 1 := by
  refine ⟨List.Forall₂.cons (by decide) List.Forall₂.nil, List.Forall₂.cons (by decide) List.Forall₂.nil,
    by decide, by decide, by decide, by decide, by decide, by decide⟩

/-- blind rotation, the negacyclic ring with `N = 1` (`Z[X]/(X+1) = ℤ`, `X = −1`): monomials `X^u = (−1)^u`,
    `u ∈ ZMod 2`, trivial automorphisms, `nrm = |·|`; an "automorphism" that adds the error `1` and an "external
    product" that multiplies by `X^{s_j}` and adds the error `2`: after `[aut, mul, aut]` the noise is
    `≤ 0 + 2·1 + 1·2`. -/
example :
    let mono : ZMod 2 → ℤ := fun u => if u = 0 then 1 else -1
    let φ : ZMod 2 → ℤ → ℤ := fun _ x => x
    let s : Nat → ZMod 2 := fun _ => 1
    let autOp : Nat → ℤ → ℤ := fun _ x => x + 1
    let mulOp : Nat → ℤ → ℤ := fun j x => x * mono (s j) + 2
    Int.natAbs (noiseRun mono φ (fun x : ℤ => x) autOp mulOp s [Step.aut 5, Step.mul 0, Step.aut 5] 7 0)
      ≤ Int.natAbs 0 + countAut [Step.aut 5, Step.mul 0, Step.aut 5] * 1
        + countMul [Step.aut 5, Step.mul 0, Step.aut 5] * 2 := by
  intro mono φ s autOp mulOp
  apply noiseRun_norm_le mono φ (fun x : ℤ => x) autOp mulOp s Int.natAbs 1 2
    (fun x y => Int.natAbs_add_le x y) (fun _ _ => Nat.le_refl _)
    (fun u n => by
      simp only [mono]
      split <;> simp)
    (fun _ => True) (fun _ _ _ => trivial) (fun _ _ _ => trivial)
    (fun g x _ => by simp [errAut, autOp, φ])
    (fun j x _ => by simp [errMul, mulOp])
  trivial

end Lattigo.Props.C20

#print axioms Lattigo.Props.C20.extprod_noise_bound
#print axioms Lattigo.Props.C20.extprod_noise_bound_div
#print axioms Lattigo.Props.C20.extprod_noise_bound_noP
#print axioms Lattigo.Props.C20.extprod_noise_bound_uniform
#print axioms Lattigo.Props.C20.noiseRun_norm_le
#print axioms Lattigo.Props.C20.noiseRun_norm_le_length
#print axioms Lattigo.Props.C20.blindrot_noise_bound
#print axioms Lattigo.Props.C20.blindrot_noise_bound_explicit
#print axioms Lattigo.Props.C20.zpoly_norm_hypotheses
