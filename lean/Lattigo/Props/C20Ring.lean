/-
  C20 on the carrier the driver executes.

  `rgsw_rows_phase`, `extprod_phase`, `extprod_phase_noP`, `extprod_phase_div`, `rgsw_add`, `rgsw_mulXminus1`,
  `rgsw_mulXminus1_add`, `rgsw_addPlain`, `blindrot_invariant` of `Props/C20.lean` are about the generic functions of
  `Model/RGSW.lean` / `Model/BlindRot.lean` over EVERY commutative ring (section 2 below proves the `RGSW` ones as
  `*_gen`, `extprod_phase` being `Proofs/RGSW.extProdLazy_phase`); the driver (`Driver/C20.lean`) runs these functions on plain `RPoly` values.  Here the identities (all but
  `rgsw_mulXminus1_add`, of which only the naturality `ctMulByThenAdd_push` is stated) are
  instantiated at the commutative ring `WFPoly qs n` (`Proofs/RPolyRing.lean`) and transported to `RPoly`:

    hypotheses = well-formedness of the INPUTS (`WFq qs n a` : `a.qs = qs ∧ a.WF n`) + the gadget
                 recombination hypotheses of the generic theorems, stated on the `RPoly` values;
    conclusion = the same identity between `RPoly` values (`Σ_k d_k x_k` is `wsumZ (RPoly.zero qs n)`).

  NOT transported / left as hypotheses (reason):
  * `extprod_phase_div`: `md` (rounded division by `P`) and `r` (projection of the centred remainder) are not
    ring operations; they are ABSTRACT functions on `RPoly` subject to closure and `P·md x = π x − r x` on
    well-formed `x` (`extprod_phase_div_rpoly`).  That the driver's `RGSW.modDown` satisfies it, and the recombination
    `Σ d_k·P w_k = P·c` for the digits `digitsOf` produces (a hypothesis here, as in the generic theorem), are
    discharged in `Props/C20Stack.lean`.
  * `blindrot_invariant` asks for its hypotheses on the automorphisms only on a multiplicatively closed set `U` of
    indices containing the schedule's Galois elements and the initial `t` (the odd residues).  Quantified over ALL
    `g : ZMod m` (`hφmul`, `hφmono`) they hold in no ring `Z_q[X]/(X^n+1)`, `q > 2`: for even `g` no multiplicative
    additive map with `φ_g(X^u) = X^{g u}` exists (`φ_g(X)^n = φ_g(−1) = −1` but `(X^g)^n = 1`), see
    `blindrot_hyps_unsatisfiable`.  The instance at `WFPoly qs n` is `blindrot_invariant_rpoly`.
  * `path_eq*`, `blindrot_exponent*`, `eff_spec`, `blindrot_lookup*`, `brk_keys_requested_subset` are
    statements about `Nat`/`Int`/`ZMod` (nothing to transport).
-/
import Lattigo.Proofs.RPolyTransport
import Lattigo.Proofs.KeySwitchPush
import Lattigo.Proofs.StackKS
import Lattigo.Proofs.RGSW
import Lattigo.Proofs.BlindRotPhase
import Driver.C20
import Mathlib.Data.ZMod.Basic

set_option linter.unusedSectionVars false

namespace Lattigo.Props.C20Ring
open Lattigo Lattigo.RGSW Lattigo.RPolyRing Lattigo.Transport

/-! ## 1. Naturality of the model functions -/

/-- `Σ_k d_k·x_k` with an explicit zero (`Proofs/RGSW.wsum` for a carrier that is not a ring) -/
def wsumZ {α : Type} [Add α] [Mul α] (z : α) : List α → List α → α
  | d :: ds, x :: xs => d * x + wsumZ z ds xs
  | _, _ => z

/-- `wsumZ` and `Proofs/RGSW.wsum` are the weighted sum `KS.wsumRow` of `Model/KeySwitch` -/
theorem wsumZ_eq_wsumRow {α : Type} [Add α] [Mul α] (z : α) : ∀ ds xs : List α, wsumZ z ds xs = KS.wsumRow z ds xs
  | [], xs => by cases xs <;> rfl
  | _ :: _, [] => rfl
  | d :: ds, x :: xs => congrArg (d * x + ·) (wsumZ_eq_wsumRow z ds xs)

def ctMap {α β : Type} (φ : α → β) (c : Ct α) : Ct β :=
  { v0 := c.v0.map (Prod.map φ φ), v1 := c.v1.map (Prod.map φ φ) }

section naturality
variable {α β : Type} [Add α] [Mul α] [Neg α] [Sub α] [Add β] [Mul β] [Neg β] [Sub β]
variable {φ : α → β} (hφ : OpsHom φ)
include hφ

theorem rows0_push (s g : α) : ∀ (pgs : List α) (smp : List (α × α)),
    (rows0 encZero s g pgs smp).map (Prod.map φ φ)
      = rows0 encZero (φ s) (φ g) (pgs.map φ) (smp.map (Prod.map φ φ))
  | [], _ => by simp [rows0]
  | _ :: _, [] => by simp [rows0]
  | pg :: pgs, (a, e) :: rest => by
      simp only [rows0, addMsg0, encZero, List.map_cons, Prod.map_apply, hφ.add, hφ.sub, hφ.mul,
        rows0_push s g pgs rest]

theorem rows1_push (s g : α) : ∀ (pgs : List α) (smp : List (α × α)),
    (rows1 encZero s g pgs smp).map (Prod.map φ φ)
      = rows1 encZero (φ s) (φ g) (pgs.map φ) (smp.map (Prod.map φ φ))
  | [], _ => by simp [rows1]
  | _ :: _, [] => by simp [rows1]
  | pg :: pgs, (a, e) :: rest => by
      simp only [rows1, addMsg1, encZero, List.map_cons, Prod.map_apply, hφ.add, hφ.sub, hφ.mul,
        rows1_push s g pgs rest]

theorem encrypt_push (s g : α) (pgs : List α) (smp0 smp1 : List (α × α)) :
    ctMap φ (encrypt encZero s g pgs smp0 smp1)
      = encrypt encZero (φ s) (φ g) (pgs.map φ) (smp0.map (Prod.map φ φ)) (smp1.map (Prod.map φ φ)) := by
  simp only [ctMap, encrypt, rows0_push hφ, rows1_push hφ]

theorem dot_push : ∀ (ds : List α) (rows : List (α × α)) (z : α × α),
    Prod.map φ φ (dot z ds rows) = dot (Prod.map φ φ z) (ds.map φ) (rows.map (Prod.map φ φ))
  | [], rows, z => by cases rows <;> simp [dot]
  | _ :: _, [], z => by simp [dot]
  | d :: ds, r :: rs, z => by
      simp only [dot, List.map_cons]
      rw [dot_push ds rs]
      simp only [Prod.map, hφ.add, hφ.mul]

theorem extProdLazy_push (zero : α) (d0 d1 : List α) (rg : Ct α) :
    Prod.map φ φ (extProdLazy zero d0 d1 rg) = extProdLazy (φ zero) (d0.map φ) (d1.map φ) (ctMap φ rg) := by
  simp only [extProdLazy, dot_push hφ, ctMap, Prod.map_apply]

theorem padd_push (x y : α × α) : Prod.map φ φ (padd x y) = padd (Prod.map φ φ x) (Prod.map φ φ y) := by
  simp only [padd, Prod.map, hφ.add]

theorem ctAdd_push (A B : Ct α) : ctMap φ (Ct.add A B) = Ct.add (ctMap φ A) (ctMap φ B) := by
  simp only [ctMap, Ct.add, MP.zipWith_push padd padd _ _ _ (padd_push hφ)]

theorem ctMulBy_push (x : α) (A : Ct α) : ctMap φ (Ct.mulBy x A) = Ct.mulBy (φ x) (ctMap φ A) := by
  simp only [ctMap, Ct.mulBy, List.map_map, Function.comp_def, pscale, Prod.map, hφ.mul]

theorem ctMulByThenAdd_push (x : α) (A out : Ct α) :
    ctMap φ (Ct.mulByThenAdd x A out) = Ct.mulByThenAdd (φ x) (ctMap φ A) (ctMap φ out) := by
  simp only [Ct.mulByThenAdd, ctAdd_push hφ, ctMulBy_push hφ]

theorem ctAddPlain_push (A : Ct α) (pgm : List α) :
    ctMap φ (Ct.addPlain A pgm) = Ct.addPlain (ctMap φ A) (pgm.map φ) := by
  have h0 : ∀ (z : α × α) (m : α), Prod.map φ φ (addMsg0 z m) = addMsg0 (Prod.map φ φ z) (φ m) := fun z m => by
    simp only [addMsg0, Prod.map, hφ.add]
  have h1 : ∀ (z : α × α) (m : α), Prod.map φ φ (addMsg1 z m) = addMsg1 (Prod.map φ φ z) (φ m) := fun z m => by
    simp only [addMsg1, Prod.map, hφ.add]
  simp only [ctMap, Ct.addPlain, MP.zipWith_push addMsg0 addMsg0 _ _ _ h0, MP.zipWith_push addMsg1 addMsg1 _ _ _ h1]

end naturality

theorem wsum_push {α β : Type} [CommRing α] [Add β] [Mul β] [Neg β] [Sub β] {φ : α → β} (hφ : OpsHom φ) :
    ∀ (ds xs : List α), φ (wsum ds xs) = wsumZ (φ 0) (ds.map φ) (xs.map φ) := fun ds xs => by
  rw [wsum_eq_wsumRow, wsumZ_eq_wsumRow, KS.wsumRow_push hφ]

/-! ## 2. The identities over an arbitrary commutative ring (`Props/C20.lean` restates them under the property's names) -/

section gen
variable {α : Type} [CommRing α]

theorem rgsw_rows_phase_gen (s g : α) (pgs : List α) (smp0 smp1 : List (α × α)) :
    ((encrypt encZero s g pgs smp0 smp1).v0.map fun r => phase r s) =
        List.zipWith (fun pg e => e + pg * g) pgs (smp0.map Prod.snd) ∧
    ((encrypt encZero s g pgs smp0 smp1).v1.map fun r => phase r s) =
        List.zipWith (fun pg e => e + pg * g * s) pgs (smp1.map Prod.snd) := by
  simp only [encrypt, rows0_eq_zipWith, rows1_eq_zipWith]
  exact ⟨zipRows_phase addMsg0 s (fun m => m) (fun z m => phase_addMsg0 z m s) g pgs smp0,
    zipRows_phase addMsg1 s (fun m => m * s) (fun z m => phase_addMsg1 z m s) g pgs smp1⟩

/-- the division by `P` as ring algebra: from `P·a = A − R₁`, `P·b = B − R₂`, `A + B·σ = G·(P·c₀ + P·c₁·σ) + e` and
`I·P = 1`, the quotients satisfy `a + b·σ = G·(c₀ + c₁·σ) + I·(e − (R₁ + R₂·σ))` -/
theorem phase_div_algebra {β : Type} [CommRing β] {P I a b σ A B R₁ R₂ G e c₀ c₁ : β}
    (h₁ : P * a = A - R₁) (h₂ : P * b = B - R₂) (h₃ : A + B * σ = G * (P * c₀ + P * c₁ * σ) + e) (hI : I * P = 1) :
    a + b * σ = G * (c₀ + c₁ * σ) + I * (e - (R₁ + R₂ * σ)) := by
  linear_combination I * h₁ + I * σ * h₂ + I * h₃ - (a + b * σ - G * (c₀ + c₁ * σ)) * hI

theorem extprod_phase_div_gen {β : Type} [CommRing β] (π : α →+* β) (md r : α → β) (P Pinv : β)
    (hmd : ∀ x, P * md x = π x - r x) (hPinv : Pinv * P = 1)
    (s g : α) (pgs : List α) (smp0 smp1 : List (α × α)) (d0 d1 : List α) (c0 c1 : β)
    (h0 : pgs.length = smp0.length) (h1 : pgs.length = smp1.length)
    (hc0 : π (wsum d0 pgs) = P * c0) (hc1 : π (wsum d1 pgs) = P * c1) :
    let rg := encrypt encZero s g pgs smp0 smp1
    let u := extProdLazy 0 d0 d1 rg
    let E := wsum d0 (smp0.map Prod.snd) + wsum d1 (smp1.map Prod.snd)
    phase (extProd md 0 d0 d1 rg) (π s) =
      π g * phase (c0, c1) (π s) + Pinv * (π E - (r u.1 + r u.2 * π s)) := by
  intro rg u E
  have h : u.1 + u.2 * s = g * (wsum d0 pgs + wsum d1 pgs * s) + E :=
    extProdLazy_phase s g pgs smp0 smp1 d0 d1 h0 h1
  have hph := congrArg π h
  simp only [map_add, map_mul, hc0, hc1] at hph
  show md u.1 + md u.2 * π s = π g * (c0 + c1 * π s) + Pinv * (π E - (r u.1 + r u.2 * π s))
  exact phase_div_algebra (hmd u.1) (hmd u.2) hph hPinv

theorem rgsw_add_gen (s g1 g2 : α) (pgs : List α) (A0 A1 B0 B1 : List (α × α)) :
    Ct.add (encrypt encZero s g1 pgs A0 A1) (encrypt encZero s g2 pgs B0 B1) =
      encrypt encZero s (g1 + g2) pgs (List.zipWith padd A0 B0) (List.zipWith padd A1 B1) := by
  simp only [Ct.add, encrypt, rows0_eq_zipWith, rows1_eq_zipWith]
  rw [zipRows_add addMsg0 s padd_addMsg0, zipRows_add addMsg1 s padd_addMsg1]

theorem rgsw_mulXminus1_gen (s g x : α) (pgs : List α) (A0 A1 : List (α × α)) :
    Ct.mulBy x (encrypt encZero s g pgs A0 A1) =
      encrypt encZero s (g * x) pgs (A0.map fun ae => (ae.1 * x, ae.2 * x))
        (A1.map fun ae => (ae.1 * x, ae.2 * x)) := by
  simp only [Ct.mulBy, encrypt, rows0_eq_zipWith, rows1_eq_zipWith]
  rw [zipRows_mul addMsg0 s pscale_addMsg0, zipRows_mul addMsg1 s pscale_addMsg1]

theorem rgsw_addPlain_gen (s g m : α) (pgs : List α) (A0 A1 : List (α × α)) :
    Ct.addPlain (encrypt encZero s g pgs A0 A1) (pgs.map (· * m)) =
      encrypt encZero s (g + m) pgs A0 A1 := by
  simp only [Ct.addPlain, encrypt, rows0_eq_zipWith, rows1_eq_zipWith]
  rw [zipRows_addPlain addMsg0 s addMsg0_addMsg0, zipRows_addPlain addMsg1 s addMsg1_addMsg1]

end gen

/-! ## 3. The theorems on `RPoly` values -/

def WFlist (qs : List ℕ) (n : ℕ) (l : List RPoly) : Prop := ∀ p ∈ l, WFq qs n p
def WFplist (qs : List ℕ) (n : ℕ) (l : List (RPoly × RPoly)) : Prop := ∀ p ∈ l, WFq qs n p.1 ∧ WFq qs n p.2

instance (qs : List ℕ) (n : ℕ) (l : List RPoly) : Decidable (WFlist qs n l) := by
  unfold WFlist; infer_instance
instance (qs : List ℕ) (n : ℕ) (l : List (RPoly × RPoly)) : Decidable (WFplist qs n l) := by
  unfold WFplist; infer_instance

section rpoly
variable {qs : List ℕ} {n : ℕ} [Good qs n]

/-! Every transport below has one shape: lift the inputs to `WFPoly qs n`, apply `val` to the generic theorem, and let
`simpa only` push `val` inward.  The simp set names the model functions crossed (`X_push val_hom`, or the definition
itself where it is unfolded), `val_add`/`val_mul`/… for the arithmetic, and ONE of two opposite directions for pairs:
`val_fst`/`val_snd` fold `val u.1` into `(Prod.map val val u).1` where a `_push` lemma is stated on pairs,
`Prod.map_fst`/`Prod.map_snd` compute it where the pair is a sample; the two cannot be in one set. -/

theorem map_snd_push {α β : Type} (φ : α → β) (l : List (α × α)) :
    (l.map Prod.snd).map φ = (l.map (Prod.map φ φ)).map Prod.snd := by
  simp only [List.map_map, Function.comp_def, Prod.map_snd]

theorem val_wsum (ds xs : List (WFPoly qs n)) :
    val (wsum ds xs) = wsumZ (RPoly.zero qs n) (ds.map val) (xs.map val) :=
  wsum_push val_hom ds xs

/-- Row `k` of `Value[0]` decrypts to `P·w_k·g + e_k`, row `k` of `Value[1]` to
`P·w_k·g·s + e'_k` — for the RGSW ciphertext the model builds on `RPoly` values. -/
theorem rgsw_rows_phase_rpoly (s g : RPoly) (pgs : List RPoly) (smp0 smp1 : List (RPoly × RPoly))
    (hs : WFq qs n s) (hg : WFq qs n g) (hpgs : WFlist qs n pgs) (h0 : WFplist qs n smp0)
    (h1 : WFplist qs n smp1) :
    ((encrypt encZero s g pgs smp0 smp1).v0.map fun r => phase r s) =
        List.zipWith (fun pg e => e + pg * g) pgs (smp0.map Prod.snd) ∧
    ((encrypt encZero s g pgs smp0 smp1).v1.map fun r => phase r s) =
        List.zipWith (fun pg e => e + pg * g * s) pgs (smp1.map Prod.snd) := by
  lift s to WFPoly qs n using hs
  lift g to WFPoly qs n using hg
  lift pgs to List (WFPoly qs n) using hpgs
  lift smp0 to List (WFPoly qs n × WFPoly qs n) using h0
  lift smp1 to List (WFPoly qs n × WFPoly qs n) using h1
  obtain ⟨ha, hb⟩ := rgsw_rows_phase_gen s g pgs smp0 smp1
  rw [← encrypt_push val_hom]
  constructor
  · simpa only [ctMap, phase, Prod.map, val_add, val_mul, List.map_map, Function.comp_def, List.map_zipWith,
      List.zipWith_map_left, List.zipWith_map_right] using congrArg (List.map val) ha
  · simpa only [ctMap, phase, Prod.map, val_add, val_mul, List.map_map, Function.comp_def, List.map_zipWith,
      List.zipWith_map_left, List.zipWith_map_right] using congrArg (List.map val) hb

/-- (Level `QP`, before the division by `P`; also the statement without auxiliary
modulus, `extprod_phase_noP`): under the gadget recombination `Σ_k d_k·P w_k = P c`,
`phase(ct ⊡ RGSW(g)) = g·phase(Pc0, Pc1) + Σ d0_k e0_k + Σ d1_k e1_k`. -/
theorem extprod_phase_rpoly (s g : RPoly) (pgs : List RPoly) (smp0 smp1 : List (RPoly × RPoly))
    (d0 d1 : List RPoly) (Pc0 Pc1 : RPoly)
    (hs : WFq qs n s) (hg : WFq qs n g) (hpgs : WFlist qs n pgs) (hw0 : WFplist qs n smp0)
    (hw1 : WFplist qs n smp1) (hd0 : WFlist qs n d0) (hd1 : WFlist qs n d1)
    (h0 : pgs.length = smp0.length) (h1 : pgs.length = smp1.length)
    (hrec0 : wsumZ (RPoly.zero qs n) d0 pgs = Pc0) (hrec1 : wsumZ (RPoly.zero qs n) d1 pgs = Pc1) :
    phase (extProdLazy (RPoly.zero qs n) d0 d1 (encrypt encZero s g pgs smp0 smp1)) s =
      g * phase (Pc0, Pc1) s
        + (wsumZ (RPoly.zero qs n) d0 (smp0.map Prod.snd) + wsumZ (RPoly.zero qs n) d1 (smp1.map Prod.snd)) := by
  subst hrec0 hrec1
  lift s to WFPoly qs n using hs
  lift g to WFPoly qs n using hg
  lift pgs to List (WFPoly qs n) using hpgs
  lift smp0 to List (WFPoly qs n × WFPoly qs n) using hw0
  lift smp1 to List (WFPoly qs n × WFPoly qs n) using hw1
  lift d0 to List (WFPoly qs n) using hd0
  lift d1 to List (WFPoly qs n) using hd1
  simpa only [phase, val_add, val_mul, val_zero, val_fst, val_snd, extProdLazy_push val_hom, encrypt_push val_hom,
    val_wsum, map_snd_push] using
    congrArg val (extProdLazy_phase s g pgs smp0 smp1 d0 d1 (by simpa using h0) (by simpa using h1))

theorem rgsw_add_rpoly (s g1 g2 : RPoly) (pgs : List RPoly) (A0 A1 B0 B1 : List (RPoly × RPoly))
    (hs : WFq qs n s) (hg1 : WFq qs n g1) (hg2 : WFq qs n g2) (hpgs : WFlist qs n pgs)
    (hA0 : WFplist qs n A0) (hA1 : WFplist qs n A1) (hB0 : WFplist qs n B0) (hB1 : WFplist qs n B1)
    (h0 : A0.length = B0.length) (h1 : A1.length = B1.length) :
    Ct.add (encrypt encZero s g1 pgs A0 A1) (encrypt encZero s g2 pgs B0 B1) =
      encrypt encZero s (g1 + g2) pgs (List.zipWith padd A0 B0) (List.zipWith padd A1 B1) := by
  lift s to WFPoly qs n using hs
  lift g1 to WFPoly qs n using hg1
  lift g2 to WFPoly qs n using hg2
  lift pgs to List (WFPoly qs n) using hpgs
  lift A0 to List (WFPoly qs n × WFPoly qs n) using hA0
  lift A1 to List (WFPoly qs n × WFPoly qs n) using hA1
  lift B0 to List (WFPoly qs n × WFPoly qs n) using hB0
  lift B1 to List (WFPoly qs n × WFPoly qs n) using hB1
  simpa only [ctAdd_push val_hom, encrypt_push val_hom, val_add,
    MP.zipWith_push padd padd _ _ _ (padd_push val_hom)] using
    congrArg (ctMap val) (rgsw_add_gen s g1 g2 pgs A0 A1 B0 B1)

/-- Multiplying every stored polynomial by `x` (`= X^a − 1`) gives THE RGSW
ciphertext of `g·x` built from the samples multiplied by `x`. -/
theorem rgsw_mulXminus1_rpoly (s g x : RPoly) (pgs : List RPoly) (A0 A1 : List (RPoly × RPoly))
    (hs : WFq qs n s) (hg : WFq qs n g) (hx : WFq qs n x) (hpgs : WFlist qs n pgs)
    (hA0 : WFplist qs n A0) (hA1 : WFplist qs n A1) :
    Ct.mulBy x (encrypt encZero s g pgs A0 A1) =
      encrypt encZero s (g * x) pgs (A0.map fun ae => (ae.1 * x, ae.2 * x))
        (A1.map fun ae => (ae.1 * x, ae.2 * x)) := by
  lift s to WFPoly qs n using hs
  lift g to WFPoly qs n using hg
  lift x to WFPoly qs n using hx
  lift pgs to List (WFPoly qs n) using hpgs
  lift A0 to List (WFPoly qs n × WFPoly qs n) using hA0
  lift A1 to List (WFPoly qs n × WFPoly qs n) using hA1
  simpa only [ctMulBy_push val_hom, encrypt_push val_hom, val_mul, List.map_map, Function.comp_def,
    Prod.map_apply, Prod.map_fst, Prod.map_snd] using congrArg (ctMap val) (rgsw_mulXminus1_gen s g x pgs A0 A1)

theorem rgsw_addPlain_rpoly (s g m : RPoly) (pgs : List RPoly) (A0 A1 : List (RPoly × RPoly))
    (hs : WFq qs n s) (hg : WFq qs n g) (hm : WFq qs n m) (hpgs : WFlist qs n pgs)
    (hA0 : WFplist qs n A0) (hA1 : WFplist qs n A1)
    (h0 : pgs.length = A0.length) (h1 : pgs.length = A1.length) :
    Ct.addPlain (encrypt encZero s g pgs A0 A1) (pgs.map (· * m)) =
      encrypt encZero s (g + m) pgs A0 A1 := by
  lift s to WFPoly qs n using hs
  lift g to WFPoly qs n using hg
  lift m to WFPoly qs n using hm
  lift pgs to List (WFPoly qs n) using hpgs
  lift A0 to List (WFPoly qs n × WFPoly qs n) using hA0
  lift A1 to List (WFPoly qs n × WFPoly qs n) using hA1
  simpa only [ctAddPlain_push val_hom, encrypt_push val_hom, val_add, val_mul, List.map_map, Function.comp_def]
    using congrArg (ctMap val) (rgsw_addPlain_gen s g m pgs A0 A1)

end rpoly

/-! ### after the division by `P` (two carriers) -/

section withP
variable {qs ps : List ℕ} {n : ℕ} [Good qs n] [Good (qs ++ ps) n]

/-- `R_{QP}` = well-formed polynomials over `qs ++ ps`, `R_Q` over `qs`, `π` keeps
the `Q` rows.  `md`, `r` are ANY functions on `RPoly` respecting well-formedness with `P·md x = π x − r x` on
well-formed `x` (for the driver: `RGSW.modDown qs ps`; that it is of this form is proved in
`Props/C20Stack`: `StackKS.rgsw_modDown_closed`).  Then `phase(out) = g·phase(ct) + Pinv·(π(Σ d e) − r u0 − r u1·s)`. -/
theorem extprod_phase_div_rpoly (md r : RPoly → RPoly) (P Pinv : RPoly)
    (hmdwf : ∀ x, WFq (qs ++ ps) n x → WFq qs n (md x)) (hrwf : ∀ x, WFq (qs ++ ps) n x → WFq qs n (r x))
    (hPw : WFq qs n P) (hPiw : WFq qs n Pinv)
    (hmd : ∀ x, WFq (qs ++ ps) n x → P * md x = takeRows qs.length x - r x)
    (hPinv : Pinv * P = rpOne qs n)
    (s g : RPoly) (pgs : List RPoly) (smp0 smp1 : List (RPoly × RPoly)) (d0 d1 : List RPoly)
    (c0 c1 : RPoly)
    (hs : WFq (qs ++ ps) n s) (hg : WFq (qs ++ ps) n g) (hpgs : WFlist (qs ++ ps) n pgs)
    (hw0 : WFplist (qs ++ ps) n smp0) (hw1 : WFplist (qs ++ ps) n smp1)
    (hd0 : WFlist (qs ++ ps) n d0) (hd1 : WFlist (qs ++ ps) n d1)
    (hc0w : WFq qs n c0) (hc1w : WFq qs n c1)
    (h0 : pgs.length = smp0.length) (h1 : pgs.length = smp1.length)
    (hc0 : takeRows qs.length (wsumZ (RPoly.zero (qs ++ ps) n) d0 pgs) = P * c0)
    (hc1 : takeRows qs.length (wsumZ (RPoly.zero (qs ++ ps) n) d1 pgs) = P * c1) :
    let π := takeRows qs.length
    let z := RPoly.zero (qs ++ ps) n
    let rg := encrypt encZero s g pgs smp0 smp1
    let u := extProdLazy z d0 d1 rg
    let E := wsumZ z d0 (smp0.map Prod.snd) + wsumZ z d1 (smp1.map Prod.snd)
    phase (extProd md z d0 d1 rg) (π s) =
      π g * phase (c0, c1) (π s) + Pinv * (π E - (r u.1 + r u.2 * π s)) := by
  lift s to WFPoly (qs ++ ps) n using hs
  lift g to WFPoly (qs ++ ps) n using hg
  lift pgs to List (WFPoly (qs ++ ps) n) using hpgs
  lift smp0 to List (WFPoly (qs ++ ps) n × WFPoly (qs ++ ps) n) using hw0
  lift smp1 to List (WFPoly (qs ++ ps) n × WFPoly (qs ++ ps) n) using hw1
  lift d0 to List (WFPoly (qs ++ ps) n) using hd0
  lift d1 to List (WFPoly (qs ++ ps) n) using hd1
  lift c0 to WFPoly qs n using hc0w
  lift c1 to WFPoly qs n using hc1w
  lift P to WFPoly qs n using hPw
  lift Pinv to WFPoly qs n using hPiw
  let md' : WFPoly (qs ++ ps) n → WFPoly qs n := fun x => lift (md (val x)) (hmdwf _ (val_wf x))
  let r' : WFPoly (qs ++ ps) n → WFPoly qs n := fun x => lift (r (val x)) (hrwf _ (val_wf x))
  have hmd' : ∀ x, P * md' x = projQ (qs := qs) x - r' x := fun x => val_injective (hmd (val x) (val_wf x))
  have hPinv' : Pinv * P = 1 := val_injective hPinv
  have hc0' : projQ (qs := qs) (wsum d0 pgs) = P * c0 := val_injective (by
    show takeRows qs.length (val (wsum d0 pgs)) = _
    rw [val_wsum]; exact hc0)
  have hc1' : projQ (qs := qs) (wsum d1 pgs) = P * c1 := val_injective (by
    show takeRows qs.length (val (wsum d1 pgs)) = _
    rw [val_wsum]; exact hc1)
  have hmdv : ∀ x, val (md' x) = md (val x) := fun _ => rfl
  have hrv : ∀ x, val (r' x) = r (val x) := fun _ => rfl
  simpa only [extProd, phase, hmdv, hrv, val_projQ, val_add, val_mul, val_sub, val_zero, val_fst, val_snd,
    extProdLazy_push val_hom, encrypt_push val_hom, val_wsum, map_snd_push] using
    congrArg val (extprod_phase_div_gen (projQ (qs := qs)) md' r' P Pinv hmd' hPinv' s g pgs smp0 smp1
      d0 d1 c0 c1 (by simpa using h0) (by simpa using h1) hc0' hc1')

end withP

/-! ## 4. Blind rotation: the loop invariant -/

section blindrot
open Lattigo.RGSW.BlindRot

/-- **The hypotheses of the generic `blindrot_invariant` are unsatisfiable in the ring the code works in.**
If `mono k = −1` for some `k` with `2k = 0` in `ZMod m` (in `Z_q[X]/(X^n+1)`, `m = 2n`: `mono n = X^n = −1`) and
`φ` satisfies `hφadd`, `hφmono` for ALL `g` (in particular `g = 2`), then `2 = 0` in the ring:
`φ_2(X^n) = φ_2(−1) = −1` but `φ_2(X^n) = X^{2n} = 1`. -/
theorem blindrot_hyps_unsatisfiable {m : Nat} {R : Type} [CommRing R] (mono : ZMod m → R) (φ : ZMod m → R → R)
    (hmono : ∀ u v, mono (u + v) = mono u * mono v)
    (hφadd : ∀ g x y, φ g (x + y) = φ g x + φ g y)
    (hφmono : ∀ g u, φ g (mono u) = mono (g * u))
    (k : ZMod m) (hk : (2 : ZMod m) * k = 0) (hX : mono k = -1) : (2 : R) = 0 := by
  have h0 : mono 0 = 1 := by
    have : mono (k + k) = 1 := by rw [hmono, hX]; ring
    rwa [← two_mul, hk] at this
  have hφ0 : φ 2 0 = 0 := by
    have := hφadd 2 0 0
    rw [add_zero] at this
    exact left_eq_add.mp this
  have hφ1 : φ 2 1 = 1 := by rw [← h0, hφmono, mul_zero]
  have hφn1 : φ 2 (-1) = -1 := by
    have := hφadd 2 1 (-1)
    rw [add_neg_cancel, hφ0, hφ1] at this
    exact (neg_eq_of_add_eq_zero_right this.symm).symm
  have h1 : φ 2 (mono k) = 1 := by rw [hφmono, hk, h0]
  rw [hX, hφn1] at h1
  have : (1 : R) + 1 = 0 := by
    calc (1 : R) + 1 = -1 + 1 := by rw [h1]
      _ = 0 := by ring
  rw [← one_add_one_eq_two]; exact this

/-- the hypothesis `hk` at `m = 2`, `k = 1` -/
example : (2 : ZMod 2) * 1 = 0 := by decide

end blindrot

/-! ### instantiation in `Z_Q[X]/(X^n+1)`: `X^u`, `RPoly.aut g` -/

section brinst
open Lattigo.RGSW.BlindRot Polynomial
variable {qs : List ℕ} {n : ℕ} [hgd : Good qs n]

/-- admissible Galois indices: odd and coprime to `n` (for `n` a power of two: odd) -/
def GalOK (n g : ℕ) : Prop := Odd g ∧ Nat.Coprime g n

instance (n g : ℕ) : Decidable (GalOK n g) := by unfold GalOK; infer_instance

theorem galOK_mod (g : ℕ) : GalOK n (g % (2 * n)) ↔ GalOK n g := odd_coprime_mod_iff n g

theorem galOK_mul {a b : ℕ} (ha : GalOK n a) (hb : GalOK n b) : GalOK n (a * b) :=
  ⟨ha.1.mul hb.1, Nat.Coprime.mul_left ha.2 hb.2⟩

variable [NeZero (2 * n)]

/-- the monomial `X^u`, `u ∈ Z/2n`, as a ring element -/
noncomputable def monoW (u : ZMod (2 * n)) : WFPoly qs n := (1 : WFPoly qs n).mulMonomial (u.val : ℤ)

theorem toProd_monoW (u : ZMod (2 * n)) (i : Fin qs.length) :
    WFPoly.toProd (monoW (qs := qs) u) i = (AdjoinRoot.root (X ^ n + 1 : (ZMod (qs.get i))[X])) ^ u.val := by
  unfold monoW
  rw [WFPoly.toProd_mulMonomial, WFPoly.toProd_one, Pi.one_apply, mul_one, zpow_natCast,
    Units.val_pow_eq_pow_val]
  rfl

theorem monoW_add (u v : ZMod (2 * n)) : monoW (qs := qs) (u + v) = monoW u * monoW v :=
  WFPoly.toProd_injective (by
    funext i
    rw [WFPoly.toProd_mul, Pi.mul_apply, toProd_monoW, toProd_monoW, toProd_monoW, ← pow_add,
      ZMod.val_add, ← root_pow_mod])

theorem monoW_half : monoW (qs := qs) ((n : ℕ) : ZMod (2 * n)) = -1 :=
  WFPoly.toProd_injective (by
    funext i
    have hn := hgd.n_pos
    rw [toProd_monoW, ZMod.val_natCast, Nat.mod_eq_of_lt (by omega), root_pow_n]
    have : WFPoly.toProd (-1 : WFPoly qs n) = -1 := by
      rw [WFPoly.toProd_neg, WFPoly.toProd_one]
    rw [this]; rfl)

/-- the Galois map `φ_g`, `g ∈ Z/2n` (the identity on inadmissible indices, which never occur) -/
noncomputable def phiW (g : ZMod (2 * n)) (x : WFPoly qs n) : WFPoly qs n :=
  if h : GalOK n g.val then WFPoly.aut g.val h.2 x else x

theorem phiW_ok (g : ZMod (2 * n)) (h : GalOK n g.val) (x : WFPoly qs n) :
    phiW g x = WFPoly.autRingHom g.val h.1 h.2 x := by
  unfold phiW; rw [dif_pos h]; rfl

theorem galOK_zmul {g t : ZMod (2 * n)} (hg : GalOK n g.val) (ht : GalOK n t.val) : GalOK n (g * t).val := by
  rw [ZMod.val_mul, galOK_mod]; exact galOK_mul hg ht

theorem phiW_phiW (g t : ZMod (2 * n)) (hg : GalOK n g.val) (ht : GalOK n t.val) (x : WFPoly qs n) :
    phiW g (phiW t x) = phiW (g * t) x := by
  rw [phiW_ok g hg, phiW_ok t ht, phiW_ok (g * t) (galOK_zmul hg ht)]
  exact (WFPoly.aut_aut hg.1 ht.1 hg.2 ht.2 x).trans
    (WFPoly.aut_congr (hg.1.mul ht.1) (galOK_zmul hg ht).1 (galOK_mul hg ht).2 (galOK_zmul hg ht).2
      (by rw [ZMod.val_mul, Nat.mod_mod]) x)

theorem phiW_mono (g : ZMod (2 * n)) (hg : GalOK n g.val) (u : ZMod (2 * n)) :
    phiW (qs := qs) g (monoW u) = monoW (g * u) := by
  rw [phiW_ok g hg]
  apply WFPoly.toProd_injective
  funext i
  show WFPoly.toProd (WFPoly.aut g.val hg.2 (monoW u)) i = _
  rw [WFPoly.toProd_aut _ hg.1, toProd_monoW, toProd_monoW, map_pow, autHom_root, ← pow_mul, ZMod.val_mul,
    ← root_pow_mod]

/-! ### the same on `RPoly` values -/

/-- the monomial `X^u` and the Galois map `φ_g` as the model computes them on `RPoly` -/
def monoR (qs : List ℕ) (n : ℕ) (u : ZMod (2 * n)) : RPoly := (rpOne qs n).mulMonomial (u.val : ℤ)
def phiR (n : ℕ) (g : ZMod (2 * n)) (x : RPoly) : RPoly := if GalOK n g.val then x.aut g.val else x

theorem val_monoW (u : ZMod (2 * n)) : val (monoW (qs := qs) u) = monoR qs n u := rfl

theorem val_phiW (g : ZMod (2 * n)) (x : WFPoly qs n) : val (phiW g x) = phiR n g (val x) := by
  unfold phiW phiR
  by_cases h : GalOK n g.val
  · rw [dif_pos h, if_pos h]; rfl
  · rw [dif_neg h, if_neg h]

section noiseG
variable {m : ℕ} {R γ : Type} [Add R] [Mul R] [Sub R]

/-- `BlindRot.errAut`, `errMul`, `noiseRun` for a carrier that only has `+ * −` -/
def errAutG (φ : ZMod m → R → R) (ph : γ → R) (autOp : Nat → γ → γ) (g : Nat) (x : γ) : R :=
  ph (autOp g x) - φ (g : ZMod m) (ph x)
def errMulG (mono : ZMod m → R) (ph : γ → R) (mulOp : Nat → γ → γ) (s : Nat → ZMod m) (j : Nat) (x : γ) : R :=
  ph (mulOp j x) - ph x * mono (s j)
def noiseRunG (mono : ZMod m → R) (φ : ZMod m → R → R) (ph : γ → R) (autOp mulOp : Nat → γ → γ)
    (s : Nat → ZMod m) : List Step → γ → R → R
  | [], _, n => n
  | Step.aut g :: rest, x, n =>
      noiseRunG mono φ ph autOp mulOp s rest (autOp g x) (φ (g : ZMod m) n + errAutG φ ph autOp g x)
  | Step.mul j :: rest, x, n =>
      noiseRunG mono φ ph autOp mulOp s rest (mulOp j x) (n * mono (s j) + errMulG mono ph mulOp s j x)
end noiseG

theorem val_noiseRun {γ : Type} (ph : γ → WFPoly qs n) (autOp mulOp : Nat → γ → γ) (s : Nat → ZMod (2 * n)) :
    ∀ (st : List Step) (x : γ) (n0 : WFPoly qs n),
      val (noiseRun monoW phiW ph autOp mulOp s st x n0)
        = noiseRunG (monoR qs n) (phiR n) (fun y => val (ph y)) autOp mulOp s st x (val n0)
  | [], _, _ => rfl
  | Step.aut g :: rest, x, n0 => by
      simp only [noiseRun, noiseRunG]
      rw [val_noiseRun ph autOp mulOp s rest]
      congr 1
      simp only [errAut, errAutG, val_hom.add, val_hom.sub, val_phiW]
  | Step.mul j :: rest, x, n0 => by
      simp only [noiseRun, noiseRunG]
      rw [val_noiseRun ph autOp mulOp s rest]
      rfl

omit [NeZero (2 * n)] in
/-- The loop invariant of `BlindRotateCore` on `RPoly` values, in
`Z_Q[X]/(X^n+1)`: `ph` reads the phase of the accumulator (well formed), the schedule only uses admissible
Galois elements (`GalOK n g`: odd, coprime to `n` — every `5^v`, `2N − 5`), `X^u = monoR`, `φ_g = RPoly.aut g`.
If the accumulator decrypts to `φ_t(F)·X^u + n₀`, after the operations `st` it decrypts to
`φ_{t'}(F)·X^{u'} + n'`, `(t', u') = runZ s st (t, u)`, `n'` the accumulated noise. -/
theorem blindrot_invariant_rpoly {γ : Type} (ph : γ → RPoly) (hph : ∀ x, WFq qs n (ph x))
    (autOp mulOp : Nat → γ → γ) (s : Nat → ZMod (2 * n)) (F : RPoly) (hF : WFq qs n F)
    (st : List Step) (hst : ∀ g, Step.aut g ∈ st → GalOK n g) (x : γ) (t u : ZMod (2 * n))
    (ht : GalOK n t.val) (n0 : RPoly) (hn0 : WFq qs n n0)
    (h : ph x = phiR n t F * monoR qs n u + n0) :
    ph (runSteps autOp mulOp st x) =
      phiR n (runZ s st (t, u)).1 F * monoR qs n (runZ s st (t, u)).2
        + noiseRunG (monoR qs n) (phiR n) ph autOp mulOp s st x n0 := by
  have : NeZero (2 * n) := ⟨by have := hgd.n_pos; omega⟩
  lift F to WFPoly qs n using hF
  lift n0 to WFPoly qs n using hn0
  lift ph to γ → WFPoly qs n using hph
  have hst' : ∀ g, Step.aut g ∈ st → GalOK n ((g : ZMod (2 * n))).val := fun g hg => by
    rw [ZMod.val_natCast, galOK_mod]; exact hst g hg
  have h' : ph x = phiW t F * monoW u + n0 := val_injective (by
    rw [val_hom.add, val_hom.mul, val_phiW, val_monoW]; exact h)
  have := congrArg val (blindrot_phase monoW phiW ph autOp mulOp s (fun g => GalOK n g.val)
    (fun g t hg ht => galOK_zmul hg ht) monoW_add
    (fun g hg x y => by rw [phiW_ok g hg, phiW_ok g hg, phiW_ok g hg, map_add])
    (fun g hg x y => by rw [phiW_ok g hg, phiW_ok g hg, phiW_ok g hg, map_mul])
    (fun g t hg ht x => phiW_phiW g t hg ht x) (fun g hg u => phiW_mono g hg u)
    F st hst' x t u ht n0 h')
  rw [val_hom.add, val_hom.mul, val_phiW, val_monoW, val_noiseRun] at this
  exact this

end brinst

/-! a concrete schedule on `qs = [97, 193]`, `n = 8` (`2n = 16`): the accumulator is its own phase, the
"automorphism" is `RPoly.aut g`, the "external product" by key `j` the rotation by `X^{s_j}` -/
section brconcrete
open Lattigo.RGSW.BlindRot

instance good8 : Good [97, 193] 8 := ⟨by decide, by decide⟩
def F8 : RPoly := ⟨[97, 193], [[1, 2, 3, 4, 5, 6, 7, 8], [10, 20, 30, 40, 50, 60, 70, 80]]⟩
def phR (x : RPoly) : RPoly := if WFq [97, 193] 8 x then x else RPoly.zero [97, 193] 8
def sBr : Nat → ZMod (2 * 8) := fun j => if j = 0 then 3 else 1
def stBr : List Step := [Step.aut 5, Step.mul 0, Step.aut 11, Step.mul 1]

theorem phR_wf (x : RPoly) : WFq [97, 193] 8 (phR x) := by
  unfold phR; split
  · assumption
  · exact WFq.zero

/-- an instance of `blindrot_invariant_rpoly` obtained FROM THE THEOREM (`t = 1`, `u = 0`, no initial noise) -/
example : phR (runSteps (fun g x => x.aut g) (fun j x => x.mulMonomial ((sBr j).val : ℤ)) stBr F8) =
    phiR 8 (runZ sBr stBr (1, 0)).1 F8 * monoR [97, 193] 8 (runZ sBr stBr (1, 0)).2
      + noiseRunG (monoR [97, 193] 8) (phiR 8) phR (fun g x => x.aut g)
          (fun j x => x.mulMonomial ((sBr j).val : ℤ)) sBr stBr F8 (RPoly.zero [97, 193] 8) :=
  blindrot_invariant_rpoly (qs := [97, 193]) (n := 8) phR phR_wf _ _ sBr F8 (by decide) stBr
    (fun g hg => by
      simp only [stBr, List.mem_cons, Step.aut.injEq, List.mem_nil_iff, or_false, reduceCtorEq, false_or] at hg
      rcases hg with rfl | rfl <;> decide)
    F8 1 0 (by decide) _ WFq.zero (by decide +kernel)

/-- TEST (evaluation): the exponents of the schedule and the value of the accumulator -/
example : runZ sBr stBr (1, 0) = (7, 2) ∧
    phR (runSteps (fun g x => x.aut g) (fun j x => x.mulMonomial ((sBr j).val : ℤ)) stBr F8)
      = phiR 8 7 F8 * monoR [97, 193] 8 2 := by decide +kernel

end brconcrete

/-! ## 5. The driver -/

section driver
open Driver.C20

/-- `ExternalProduct` as the driver computes it IS the generic `extProd` with the driver's digits and rounded
division; `Encrypt` IS the generic `encrypt encZero` with the driver's gadget vector -/
theorem extProdR_eq (p : Par) (ct : RPoly × RPoly) (rg : Ct RPoly) :
    extProdR p ct rg
      = extProd (if p.nP = 0 then takeQ p.qsQ else RGSW.modDown p.qsQ p.qsP) (RPoly.zero p.qsQP p.n)
          (digitsOf p ct.1) (digitsOf p ct.2) rg := rfl

theorem encryptR_eq (p : Par) (s g : RPoly) (smp0 smp1 : List (RPoly × RPoly)) :
    encryptR p s g smp0 smp1 = encrypt encZero s g (pgList p) smp0 smp1 := rfl

/-- **the `extprod` handler calls `extProdR`** on the parsed `RPoly` values -/
theorem hExtProd_calls (toks : List String) (p : Par) (inpl : ℕ) (ct : RPoly × RPoly) (rg : Ct RPoly)
    (h1 : getPar toks = some p) (h2 : (Driver.kv? toks "inplace" >>= Driver.parseNat?) = some inpl)
    (h3 : getCt toks "c" p.qsQ = some ct) (h4 : getRGSW toks "r" p.qsQP = some rg) :
    hExtProd toks = some (showCt (extProdR p ct rg)) := by
  simp only [hExtProd, h1, h2, h3, h4, Option.bind_eq_bind, Option.bind_some, Option.pure_def]

/-- **the driver's gadget vector `pgList p` is well formed** over `Q ++ P` -/
theorem pgList_wf (p : Par) [hg : Good p.qsQP p.n] : WFlist p.qsQP p.n (pgList p) := by
  intro x hx
  simp only [pgList, List.mem_map] at hx
  obtain ⟨⟨i, j⟩, _, rfl⟩ := hx
  exact StackKS.constPoly_wf' _ (by simp [Par.qsQP])

end driver

/-! ## 6. A concrete instance: `Q = [97]`, `P = [193]`, `n = 8`, the driver's own gadget vector and digits -/

section concrete

def p8 : Par := { qsQ := [97], qsP := [193], n := 8, w := 0 }
instance good8p : Good p8.qsQP p8.n := good8

def s8 : RPoly := RPoly.ofInts [97, 193] [1, -1, 0, 1, 0, 0, -1, 1]
def g8 : RPoly := RPoly.ofInts [97, 193] [0, 1, 0, 0, 0, 0, 0, 0]
def smp08 : List (RPoly × RPoly) :=
  [(⟨[97, 193], [[1, 2, 3, 4, 5, 6, 7, 8], [10, 20, 30, 40, 50, 60, 70, 80]]⟩,
    RPoly.ofInts [97, 193] [1, 0, -1, 0, 2, 0, -2, 1])]
def smp18 : List (RPoly × RPoly) :=
  [(⟨[97, 193], [[8, 7, 6, 5, 4, 3, 2, 1], [80, 70, 60, 50, 40, 30, 20, 10]]⟩,
    RPoly.ofInts [97, 193] [0, 1, 0, -1, 0, 1, 0, -1])]
def ct8 : RPoly × RPoly := (⟨[97], [[90, 3, 50, 7, 0, 96, 48, 49]]⟩, ⟨[97], [[5, 6, 7, 8, 9, 10, 11, 12]]⟩)
def d08 : List RPoly := digitsOf p8 ct8.1
def d18 : List RPoly := digitsOf p8 ct8.2

theorem hyps8 : WFq [97, 193] 8 s8 ∧ WFq [97, 193] 8 g8 ∧ WFplist [97, 193] 8 smp08 ∧ WFplist [97, 193] 8 smp18
    ∧ WFlist [97, 193] 8 d08 ∧ WFlist [97, 193] 8 d18
    ∧ (pgList p8).length = smp08.length ∧ (pgList p8).length = smp18.length := by decide +kernel

/-- an instance of `extprod_phase_rpoly` obtained FROM THE THEOREM, with the driver's gadget vector `pgList p8`
and digits `digitsOf p8 ·`, all hypotheses discharged -/
example : phase (extProdLazy (RPoly.zero [97, 193] 8) d08 d18 (encryptR p8 s8 g8 smp08 smp18)) s8 =
    g8 * phase (wsumZ (RPoly.zero [97, 193] 8) d08 (pgList p8), wsumZ (RPoly.zero [97, 193] 8) d18 (pgList p8)) s8
      + (wsumZ (RPoly.zero [97, 193] 8) d08 (smp08.map Prod.snd)
          + wsumZ (RPoly.zero [97, 193] 8) d18 (smp18.map Prod.snd)) := by
  obtain ⟨hs, hg, hw0, hw1, hd0, hd1, hl0, hl1⟩ := hyps8
  exact extprod_phase_rpoly (qs := [97, 193]) (n := 8) s8 g8 (pgList p8) smp08 smp18 d08 d18 _ _ hs hg (pgList_wf p8)
    hw0 hw1 hd0 hd1 hl0 hl1 rfl rfl

/-- the statement of the previous example again, and the rows of `Value[0]` on these values (`rgsw_rows_phase_rpoly`) -/
example : phase (extProdLazy (RPoly.zero [97, 193] 8) d08 d18 (encryptR p8 s8 g8 smp08 smp18)) s8 =
    g8 * phase (wsumZ (RPoly.zero [97, 193] 8) d08 (pgList p8), wsumZ (RPoly.zero [97, 193] 8) d18 (pgList p8)) s8
      + (wsumZ (RPoly.zero [97, 193] 8) d08 (smp08.map Prod.snd)
          + wsumZ (RPoly.zero [97, 193] 8) d18 (smp18.map Prod.snd)) := by
  obtain ⟨hs, hg, hw0, hw1, hd0, hd1, hl0, hl1⟩ := hyps8
  exact extprod_phase_rpoly (qs := [97, 193]) (n := 8) s8 g8 (pgList p8) smp08 smp18 d08 d18 _ _ hs hg (pgList_wf p8)
    hw0 hw1 hd0 hd1 hl0 hl1 rfl rfl

example : ((encryptR p8 s8 g8 smp08 smp18).v0.map fun r => phase r s8)
    = List.zipWith (fun pg e => e + pg * g8) (pgList p8) (smp08.map Prod.snd) := by
  obtain ⟨hs, hg, hw0, hw1, _⟩ := hyps8
  exact (rgsw_rows_phase_rpoly (qs := [97, 193]) (n := 8) s8 g8 (pgList p8) smp08 smp18 hs hg (pgList_wf p8) hw0 hw1).1

end concrete

end Lattigo.Props.C20Ring

#print axioms Lattigo.Props.C20Ring.rgsw_rows_phase_rpoly
#print axioms Lattigo.Props.C20Ring.extprod_phase_rpoly
#print axioms Lattigo.Props.C20Ring.extprod_phase_div_rpoly
#print axioms Lattigo.Props.C20Ring.rgsw_add_rpoly
#print axioms Lattigo.Props.C20Ring.rgsw_mulXminus1_rpoly
#print axioms Lattigo.Props.C20Ring.rgsw_addPlain_rpoly
#print axioms Lattigo.Props.C20Ring.blindrot_hyps_unsatisfiable
#print axioms Lattigo.Props.C20Ring.blindrot_invariant_rpoly
#print axioms Lattigo.Props.C20Ring.hExtProd_calls
#print axioms Lattigo.Props.C20Ring.pgList_wf
