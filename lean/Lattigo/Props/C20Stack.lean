/-
  C20 ⟵ C02: the external product with division by `P`, the rounding hypotheses DISCHARGED.

  `Props/C20Ring.extprod_phase_div_rpoly` takes ABSTRACT `md`, `r`, `P`, `Pinv` with `P·md x = π x − r x` and
  `Pinv·P = 1` as hypotheses.  Here they are what the model (`RGSW.extProdR`) uses: `md = RGSW.modDown qs ps`
  (`ModDownQPtoQNTT`), `r x = π(remC x)` (`remC` = C02's `centeredRep P` of the CRT value of every coefficient of the
  `P` rows), `P = Π ps` as a constant of `R_Q`, `Pinv = KS.pinvElt` (`P⁻¹ mod q_i` by extended Euclid), and both
  identities are PROVED (`StackKS.rgsw_modDown_closed`, `StackKS.hP_closed`) for every chain `qs ++ ps` of pairwise
  coprime moduli `≥ 2`, every `n ≥ 1`, all well-formed inputs.  `RGSW.modDown` reconstructs with `RPoly.crt` (no
  floating point): there is NO hypothesis on any index.

  * `extprod_phase_closed` : `phase(out) = g·phase(ct) + P⁻¹·(π(Σ d e) − π(remC u₀) − π(remC u₁)·s)`,
    `remC u_i ≡ u_i (mod P)`, `2‖remC u_i‖∞ ≤ P`.
    (with the recombination `π(Σ_k d_k·(P·w_k)) = P·c` of ARBITRARY digit lists as a hypothesis);
  * `extprod_phase_full` : the same for the model's own `RGSW.extProdR` / `encryptR` (what the driver's `extprod` handler
    prints, `hExtProd_calls`): digits `RGSW.digitsOf`, gadget vector `RGSW.pgList`, with the recombination PROVED
    (`StackKS.rgsw_recombine`: uncentred base-`2^w` digits through `digits_recombine`, centred RNS digits of
    `#P ≥ 2` primes through C02's `hps_sum_eq`).  Hypotheses left: well-formedness of the inputs and the number of
    samples (`= #gadget rows`).
-/
import Lattigo.Props.C20Ring
import Lattigo.Proofs.StackKSExact
import Lattigo.Proofs.StackKSRGSW
import Lattigo.Proofs.StackKSNoise

set_option linter.unusedSectionVars false

namespace Lattigo.Props.C20Stack
open Lattigo Lattigo.RGSW Lattigo.RPolyRing Lattigo.Transport Lattigo.Props.C20Ring Lattigo.StackKS
open Lattigo.Scaling (prodN)

section closed
variable {qs ps : List ℕ} {n : ℕ} [hgq : Good qs n] [hg : Good (qs ++ ps) n]

theorem extProdLazy_wf (s g : RPoly) (pgs : List RPoly) (smp0 smp1 : List (RPoly × RPoly)) (d0 d1 : List RPoly)
    (hs : WFq (qs ++ ps) n s) (hgw : WFq (qs ++ ps) n g) (hpgs : WFlist (qs ++ ps) n pgs)
    (hw0 : WFplist (qs ++ ps) n smp0) (hw1 : WFplist (qs ++ ps) n smp1)
    (hd0 : WFlist (qs ++ ps) n d0) (hd1 : WFlist (qs ++ ps) n d1) :
    WFq (qs ++ ps) n (extProdLazy (RPoly.zero (qs ++ ps) n) d0 d1 (encrypt encZero s g pgs smp0 smp1)).1
      ∧ WFq (qs ++ ps) n (extProdLazy (RPoly.zero (qs ++ ps) n) d0 d1 (encrypt encZero s g pgs smp0 smp1)).2 := by
  lift s to WFPoly (qs ++ ps) n using hs
  lift g to WFPoly (qs ++ ps) n using hgw
  lift pgs to List (WFPoly (qs ++ ps) n) using hpgs
  lift smp0 to List (WFPoly (qs ++ ps) n × WFPoly (qs ++ ps) n) using hw0
  lift smp1 to List (WFPoly (qs ++ ps) n × WFPoly (qs ++ ps) n) using hw1
  lift d0 to List (WFPoly (qs ++ ps) n) using hd0
  lift d1 to List (WFPoly (qs ++ ps) n) using hd1
  rw [← val_zero, ← encrypt_push val_hom, ← extProdLazy_push val_hom]
  exact ⟨val_wf _, val_wf _⟩

/-- The external product followed by the model's rounded division by `P`
(`RGSW.modDown`), on well-formed inputs over pairwise coprime moduli: the phase of the result is `g` times the phase of
the input plus `P⁻¹·(π(Σ d_k e_k) − π(remC u₀) − π(remC u₁)·s)`, where `u` is the accumulator modulo `QP`, `remC u_i` its
exact centred remainder modulo `P`: `remC u_i ≡ u_i (mod P)`, `2‖remC u_i‖∞ ≤ P`. -/
theorem extprod_phase_closed (hps : ps ≠ []) (hco : (qs ++ ps).Pairwise Nat.Coprime)
    (s g : RPoly) (pgs : List RPoly) (smp0 smp1 : List (RPoly × RPoly)) (d0 d1 : List RPoly)
    (c0 c1 : RPoly)
    (hs : WFq (qs ++ ps) n s) (hgw : WFq (qs ++ ps) n g) (hpgs : WFlist (qs ++ ps) n pgs)
    (hw0 : WFplist (qs ++ ps) n smp0) (hw1 : WFplist (qs ++ ps) n smp1)
    (hd0 : WFlist (qs ++ ps) n d0) (hd1 : WFlist (qs ++ ps) n d1)
    (hc0w : WFq qs n c0) (hc1w : WFq qs n c1)
    (h0 : pgs.length = smp0.length) (h1 : pgs.length = smp1.length)
    (hc0 : takeRows qs.length (wsumZ (RPoly.zero (qs ++ ps) n) d0 pgs) = constQ qs n (RPoly.prod ps) * c0)
    (hc1 : takeRows qs.length (wsumZ (RPoly.zero (qs ++ ps) n) d1 pgs) = constQ qs n (RPoly.prod ps) * c1) :
    let π := takeRows qs.length
    let z := RPoly.zero (qs ++ ps) n
    let rg := encrypt encZero s g pgs smp0 smp1
    let u := extProdLazy z d0 d1 rg
    let E := wsumZ z d0 (smp0.map Prod.snd) + wsumZ z d1 (smp1.map Prod.snd)
    phase (extProd (RGSW.modDown qs ps) z d0 d1 rg) (π s)
        = π g * phase (c0, c1) (π s)
          + KS.pinvElt qs ps n * (π E - (π (remC qs ps u.1) + π (remC qs ps u.2) * π s))
      ∧ KS.partP qs.length (remC qs ps u.1) = KS.partP qs.length u.1
      ∧ KS.partP qs.length (remC qs ps u.2) = KS.partP qs.length u.2
      ∧ (∀ c ∈ cenZ (KS.partP qs.length u.1), 2 * c.natAbs ≤ prodN ps)
      ∧ (∀ c ∈ cenZ (KS.partP qs.length u.2), 2 * c.natAbs ≤ prodN ps) := by
  intro π z rg u E
  have hcop := coprime_prod_of_pairwise hco
  have hpsc := (List.pairwise_append.1 hco).2.1
  have hpge : ∀ p ∈ ps, 2 ≤ p := (good_right hg).q_ge
  have hclosed : ∀ x, WFq (qs ++ ps) n x →
      constQ qs n (RPoly.prod ps) * RGSW.modDown qs ps x
          = takeRows qs.length x - takeRows qs.length (remC qs ps x)
        ∧ WFq qs n (RGSW.modDown qs ps x) := fun x hx => rgsw_modDown_closed hps hcop hx
  have h := extprod_phase_div_rpoly (qs := qs) (ps := ps) (n := n) (RGSW.modDown qs ps)
    (fun x => takeRows qs.length (remC qs ps x)) (constQ qs n (RPoly.prod ps)) (KS.pinvElt qs ps n)
    (fun x hx => (hclosed x hx).2) (fun x hx => takeRows_wf (remC_wf hx hps)) (constQ_wf _) (pinvElt_wf ps)
    (fun x hx => (hclosed x hx).1) (pinvElt_mul_constQ hcop) s g pgs smp0 smp1 d0 d1 c0 c1 hs hgw hpgs hw0 hw1
    hd0 hd1 hc0w hc1w h0 h1 hc0 hc1
  have hPpos : 0 < prodN ps := Scaling.prodN_pos ps (pos_of_ge2 hpge)
  obtain ⟨hu1, hu2⟩ := extProdLazy_wf s g pgs smp0 smp1 d0 d1 hs hgw hpgs hw0 hw1 hd0 hd1
  have hb : ∀ x, WFq (qs ++ ps) n x → ∀ c ∈ cenZ (KS.partP qs.length x), 2 * c.natAbs ≤ prodN ps := by
    intro x hx
    have hq : (KS.partP qs.length x).qs = ps := (partP_wf hx).1
    have := cenZ_bound (KS.partP qs.length x) (by rw [hq]; exact hPpos)
    rw [hq] at this
    exact this
  exact ⟨h, partP_remC hu1 hps hpsc hpge, partP_remC hu2 hps hpsc hpge, hb _ hu1, hb _ hu2⟩

theorem extProdR_modDown (hps : ps ≠ []) (w : ℕ) (ct : RPoly × RPoly) (rg : Ct RPoly) :
    extProdR ⟨qs, ps, n, w⟩ ct rg
      = extProd (RGSW.modDown qs ps) (RPoly.zero (qs ++ ps) n) (digitsOf ⟨qs, ps, n, w⟩ ct.1)
          (digitsOf ⟨qs, ps, n, w⟩ ct.2) rg := by
  have hnP : (⟨qs, ps, n, w⟩ : Par).nP ≠ 0 := fun h => hps (List.length_eq_zero_iff.mp h)
  rw [extProdR_eq, if_neg hnP]
  rfl

/-- `StackKS.rgsw_recombine` on `RPoly` values: the digits of `RGSW.digitsOf` are well formed and
`π(Σ_k d_k·(P·w_k)) = P·c` against `RGSW.pgList` -/
theorem digitsOf_recombine (hqs : qs ≠ []) (hcoq : qs.Pairwise Nat.Coprime) (w : ℕ) {c : RPoly} (hc : WFq qs n c) :
    WFlist (qs ++ ps) n (digitsOf ⟨qs, ps, n, w⟩ c)
      ∧ takeRows qs.length
            (wsumZ (RPoly.zero (qs ++ ps) n) (digitsOf ⟨qs, ps, n, w⟩ c) (pgList ⟨qs, ps, n, w⟩))
          = constQ qs n (RPoly.prod ps) * c := by
  obtain ⟨D, G, hD, hG, hr⟩ := rgsw_recombine (qs := qs) (ps := ps) (n := n) hqs hcoq w hc
  refine ⟨digitsOf_wf hqs w hc, ?_⟩
  rw [← hD, ← hG, ← val_wsum]
  exact congrArg val hr

set_option linter.unusedVariables false in  -- `hPodd` is not needed: 2|centeredRep M x| ≤ M for every M > 0
/-- `RGSW.extProdR p ct (encryptR p s g smp0 smp1)` — the expression the driver's `extprod`
handler evaluates (`hExtProd_calls`, `extProdR_eq`, `encryptR_eq`) — for `p = ⟨qs, ps, n, w⟩` with `ps ≠ ∅`, pairwise
coprime moduli, well-formed inputs and the right number of samples.  No recombination, rounding or inverse hypothesis. -/
theorem extprod_phase_full (hqs : qs ≠ []) (hps : ps ≠ []) (hco : (qs ++ ps).Pairwise Nat.Coprime)
    (hPodd : prodN ps % 2 = 1) (w : ℕ)
    (s g : RPoly) (smp0 smp1 : List (RPoly × RPoly)) (c0 c1 : RPoly)
    (hs : WFq (qs ++ ps) n s) (hgw : WFq (qs ++ ps) n g)
    (hw0 : WFplist (qs ++ ps) n smp0) (hw1 : WFplist (qs ++ ps) n smp1)
    (hc0w : WFq qs n c0) (hc1w : WFq qs n c1)
    (h0 : (pgList ⟨qs, ps, n, w⟩).length = smp0.length) (h1 : (pgList ⟨qs, ps, n, w⟩).length = smp1.length) :
    let p : Par := ⟨qs, ps, n, w⟩
    let π := takeRows qs.length
    let z := RPoly.zero (qs ++ ps) n
    let rg := encryptR p s g smp0 smp1
    let u := extProdLazy z (digitsOf p c0) (digitsOf p c1) rg
    let E := wsumZ z (digitsOf p c0) (smp0.map Prod.snd) + wsumZ z (digitsOf p c1) (smp1.map Prod.snd)
    phase (extProdR p (c0, c1) rg) (π s)
        = π g * phase (c0, c1) (π s)
          + KS.pinvElt qs ps n * (π E - (π (remC qs ps u.1) + π (remC qs ps u.2) * π s))
      ∧ KS.partP qs.length (remC qs ps u.1) = KS.partP qs.length u.1
      ∧ KS.partP qs.length (remC qs ps u.2) = KS.partP qs.length u.2
      ∧ (∀ c ∈ cenZ (KS.partP qs.length u.1), 2 * c.natAbs ≤ prodN ps)
      ∧ (∀ c ∈ cenZ (KS.partP qs.length u.2), 2 * c.natAbs ≤ prodN ps) := by
  intro p π z rg u E
  obtain ⟨hd0, hc0⟩ := digitsOf_recombine (ps := ps) hqs (List.pairwise_append.1 hco).1 w hc0w
  obtain ⟨hd1, hc1⟩ := digitsOf_recombine (ps := ps) hqs (List.pairwise_append.1 hco).1 w hc1w
  rw [extProdR_modDown hps]
  exact extprod_phase_closed hps hco s g (pgList p) smp0 smp1 (digitsOf p c0) (digitsOf p c1) c0 c1
    hs hgw (pgList_wf p (hg := hg)) hw0 hw1 hd0 hd1 hc0w hc1w h0 h1 hc0 hc1

end closed

/-! ## A concrete instance: `Q = [97]`, `P = [193]`, `n = 8`, the driver's own gadget vector and digits -/

section concrete

instance : Good [97] 8 := ⟨by decide, by decide⟩
instance : Good ([97] ++ [193]) 8 := good8

def Pc08 : RPoly := wsumZ (RPoly.zero [97, 193] 8) d08 (pgList p8)
def Pc18 : RPoly := wsumZ (RPoly.zero [97, 193] 8) d18 (pgList p8)

theorem hyps8s : ([193] : List ℕ) ≠ [] ∧ ([97] ++ [193] : List ℕ).Pairwise Nat.Coprime ∧ prodN [193] % 2 = 1
    ∧ WFq ([97] ++ [193]) 8 s8 ∧ WFq ([97] ++ [193]) 8 g8 ∧ WFlist ([97] ++ [193]) 8 (pgList p8)
    ∧ WFplist ([97] ++ [193]) 8 smp08 ∧ WFplist ([97] ++ [193]) 8 smp18
    ∧ WFlist ([97] ++ [193]) 8 d08 ∧ WFlist ([97] ++ [193]) 8 d18 ∧ WFq [97] 8 ct8.1 ∧ WFq [97] 8 ct8.2
    ∧ (pgList p8).length = smp08.length ∧ (pgList p8).length = smp18.length
    ∧ takeRows 1 Pc08 = constQ [97] 8 (RPoly.prod [193]) * ct8.1
    ∧ takeRows 1 Pc18 = constQ [97] 8 (RPoly.prod [193]) * ct8.2 := by
  obtain ⟨hs, hg, hw0, hw1, hd0, hd1, hl0, hl1⟩ := hyps8
  have hc0 : WFq [97] 8 ct8.1 := by decide +kernel
  have hc1 : WFq [97] 8 ct8.2 := by decide +kernel
  exact ⟨by decide, by decide, by decide, hs, hg, pgList_wf p8, hw0, hw1, hd0, hd1, hc0, hc1, hl0, hl1,
    (digitsOf_recombine (ps := [193]) (by decide) (by decide) 0 hc0).2,
    (digitsOf_recombine (ps := [193]) (by decide) (by decide) 0 hc1).2⟩

/-- the instance of `extprod_phase_closed` obtained FROM THE THEOREM (its hypotheses are collected in `hyps8s`) -/
theorem instance8 :
    let π := takeRows 1
    let z := RPoly.zero ([97] ++ [193]) 8
    let rg := encrypt encZero s8 g8 (pgList p8) smp08 smp18
    let u := extProdLazy z d08 d18 rg
    let E := wsumZ z d08 (smp08.map Prod.snd) + wsumZ z d18 (smp18.map Prod.snd)
    phase (extProd (RGSW.modDown [97] [193]) z d08 d18 rg) (π s8)
        = π g8 * phase ct8 (π s8)
          + KS.pinvElt [97] [193] 8 * (π E - (π (remC [97] [193] u.1) + π (remC [97] [193] u.2) * π s8)) := by
  obtain ⟨hps, hco, -, hs, hg, hpg, hw0, hw1, hd0, hd1, hc0, hc1, hl0, hl1, hr0, hr1⟩ := hyps8s
  exact (extprod_phase_closed (qs := [97]) (ps := [193]) (n := 8) hps hco s8 g8 (pgList p8) smp08 smp18 d08 d18
    ct8.1 ct8.2 hs hg hpg hw0 hw1 hd0 hd1 hc0 hc1 hl0 hl1 hr0 hr1).1

/-- the instance of `extprod_phase_full` obtained FROM THE THEOREM: the driver's `extProdR p8` / `encryptR p8`, every
hypothesis discharged -/
theorem instance8_full :
    let π := takeRows 1
    let z := RPoly.zero ([97] ++ [193]) 8
    let rg := encryptR p8 s8 g8 smp08 smp18
    let u := extProdLazy z d08 d18 rg
    let E := wsumZ z d08 (smp08.map Prod.snd) + wsumZ z d18 (smp18.map Prod.snd)
    phase (extProdR p8 ct8 rg) (π s8)
        = π g8 * phase ct8 (π s8)
          + KS.pinvElt [97] [193] 8 * (π E - (π (remC [97] [193] u.1) + π (remC [97] [193] u.2) * π s8)) := by
  obtain ⟨hps, hco, hodd, hs, hg, _, hw0, hw1, _, _, hc0, hc1, hl0, hl1, _, _⟩ := hyps8s
  exact (extprod_phase_full (qs := [97]) (ps := [193]) (n := 8) (by decide) hps hco hodd 0 s8 g8 smp08 smp18 ct8.1 ct8.2
    hs hg hw0 hw1 hc0 hc1 hl0 hl1).1

/-- the same identity with the size of the rounding term, which `extprod_phase_full` also gives (`extProdR` is what the
driver's `extprod` handler prints, `hExtProd_calls`) -/
example :
    let π := takeRows 1
    let z := RPoly.zero ([97] ++ [193]) 8
    let rg := encryptR p8 s8 g8 smp08 smp18
    let u := extProdLazy z d08 d18 rg
    let E := wsumZ z d08 (smp08.map Prod.snd) + wsumZ z d18 (smp18.map Prod.snd)
    phase (extProdR p8 ct8 rg) (π s8)
        = π g8 * phase ct8 (π s8)
          + KS.pinvElt [97] [193] 8 * (π E - (π (remC [97] [193] u.1) + π (remC [97] [193] u.2) * π s8))
      ∧ (∀ c ∈ cenZ (KS.partP 1 u.1), 2 * c.natAbs ≤ 193) := by
  intro π z rg u E
  obtain ⟨hps, hco, hodd, hs, hg, _, hw0, hw1, _, _, hc0, hc1, hl0, hl1, _, _⟩ := hyps8s
  have h := extprod_phase_full (qs := [97]) (ps := [193]) (n := 8) (by decide) hps hco hodd 0 s8 g8 smp08 smp18 ct8.1
    ct8.2 hs hg hw0 hw1 hc0 hc1 hl0 hl1
  exact ⟨h.1, h.2.2.2.1⟩

/-- TWO special primes (`externalProductInPlaceMultipleP`: centred RNS digit of `{97, 193}`), base-`2^3` digits with one
special prime: instances of `extprod_phase_full`, hypotheses by evaluation -/
instance : Good ([97, 193] ++ [257, 769]) 8 := ⟨by decide, by decide⟩

def L4 : List ℕ := [97, 193] ++ [257, 769]
def s4 : RPoly := RPoly.ofInts L4 [1, -1, 0, 1, 0, 0, -1, 1]
def g4 : RPoly := RPoly.ofInts L4 [0, 1, 0, 0, 0, 0, 0, 0]
def smp04 : List (RPoly × RPoly) :=
  [(RPoly.ofInts L4 [123456, 7891011, 121314, 15161718, 192021, 22232425, 262728, 29303132],
    RPoly.ofInts L4 [1, 0, -1, 0, 2, 0, -2, 1])]
def smp14 : List (RPoly × RPoly) :=
  [(RPoly.ofInts L4 [998877, 665544, 332211, 9080706, 5040302, 1020304, 5060708, 9101112],
    RPoly.ofInts L4 [0, 1, 0, -1, 0, 1, 0, -1])]
def ct4 : RPoly × RPoly :=
  (RPoly.ofInts [97, 193] [9000, -8000, 7000, -6000, 5000, -4000, 3000, -2000],
   RPoly.ofInts [97, 193] [1, 2, 3, 4, 5, 6, 7, 8])

theorem instance4_full :
    let p : Par := ⟨[97, 193], [257, 769], 8, 0⟩
    let π := takeRows 2
    let z := RPoly.zero ([97, 193] ++ [257, 769]) 8
    let rg := encryptR p s4 g4 smp04 smp14
    let u := extProdLazy z (digitsOf p ct4.1) (digitsOf p ct4.2) rg
    let E := wsumZ z (digitsOf p ct4.1) (smp04.map Prod.snd) + wsumZ z (digitsOf p ct4.2) (smp14.map Prod.snd)
    phase (extProdR p ct4 rg) (π s4)
        = π g4 * phase ct4 (π s4)
          + KS.pinvElt [97, 193] [257, 769] 8
              * (π E - (π (remC [97, 193] [257, 769] u.1) + π (remC [97, 193] [257, 769] u.2) * π s4)) := by
  exact (extprod_phase_full (qs := [97, 193]) (ps := [257, 769]) (n := 8) (by decide) (by decide) (by decide) (by decide)
    0 s4 g4 smp04 smp14 ct4.1 ct4.2 (by decide +kernel) (by decide +kernel) (by decide +kernel) (by decide +kernel)
    (by decide +kernel) (by decide +kernel) (by decide +kernel) (by decide +kernel)).1

/-- the added noise of `instance4_full` is small (kernel evaluation of `ν`) -/
example :
    let p : Par := ⟨[97, 193], [257, 769], 8, 0⟩
    let π := takeRows 2
    let z := RPoly.zero ([97, 193] ++ [257, 769]) 8
    let rg := encryptR p s4 g4 smp04 smp14
    let u := extProdLazy z (digitsOf p ct4.1) (digitsOf p ct4.2) rg
    let E := wsumZ z (digitsOf p ct4.1) (smp04.map Prod.snd) + wsumZ z (digitsOf p ct4.2) (smp14.map Prod.snd)
    let ν := KS.pinvElt [97, 193] [257, 769] 8
      * (π E - (π (remC [97, 193] [257, 769] u.1) + π (remC [97, 193] [257, 769] u.2) * π s4))
    phase (extProdR p ct4 rg) (π s4) = π g4 * phase ct4 (π s4) + ν
      ∧ RPoly.infNorm (RPoly.toInts ν) ≤ 1 := by
  intro p π z rg u E ν
  exact ⟨instance4_full, by decide +kernel⟩

end concrete

end Lattigo.Props.C20Stack

#print axioms Lattigo.Props.C20Stack.extprod_phase_closed
#print axioms Lattigo.Props.C20Stack.extprod_phase_full
#print axioms Lattigo.Props.C20Stack.instance8
#print axioms Lattigo.Props.C20Stack.instance8_full
#print axioms Lattigo.Props.C20Stack.instance4_full
